/- C16 — Topology diffs: build/apply/reverse are inverse, failures roll back.
   Property theorems over the model of hwloc/diff.c (Hw.Attr.Diff).

   Reading of the English property over the model:
   * `TopoSame A B`  = nothing that diff_build compares differs;
   * `TopoRepr A B`  = A and B differ at most in names, NUMA local memory and info *values*;
   * `KeysInj`, `InfoNamesDistinct` = the hypotheses under which addressing by (depth, index) and by
     info name is meaningful (C01 well-formedness; no duplicate info names).
   * `KeysNodup`, `DepthsBelowNbl` = the rest of C01 the whole-tree statements need: no two objects of the tree share a
     key, and no object has depth `nb_levels` (the key of the topology infos);
   * `DistinctSlots nbl d` = the entries of `d` address pairwise distinct attributes (kind, info name, object);
   * `SameSkeleton A B`, `MemConsistent T` = what the `total_memory` part of the observation needs: A and B agree object
     by object on key / ancestor chain / NUMA-ness (functions of shape and type in hwloc, data in the model), and
     total_memory is the uint64 sum of the local memories at or below an object.
   The model follows diff.c after the fixes 986f5b5 (name on one side only => TOO_COMPLEX), ad7dbbc (cancel path
   undoes last applied first) and 50d1249 (distances with per-object types compared field by field).
   The XML round trip ("the diff survives diff export/load as XML with the same refname") is proved over the model of the diff
   part of topology-xml.c (Hw.Io.XmlDiff: hwloc__xml_export_diff, hwloc__xml_import_diff_one, hwloc__xml_import_diff and
   their nolibxml / libxml callers at the token level, the nolibxml text layout and attribute scanner at the byte level):
   section "diff XML export / load" at the end of this file. -/
import Hw.Attr.DiffLemmas
import Hw.Attr.DiffCommute
import Hw.Attr.DiffBuildApply
import Hw.Io.XmlDiffLemmas
import Hw.Attr.DiffXmlLink
import Hw.Io.XmlDiffPerm
namespace Hw.Props.C16
open Hw.Diff
variable {σ : Type} [DecidableEq σ]

/-! ## diff_build -/

/-- diff_build (flags 0, loaded topologies) returns 0 or 1 -/
theorem C16_build_ret (A B : Topo σ) : (build A B).1 = 0 ∨ (build A B).1 = 1 := build_ret A B

/-- P0 build_too_complex_iff: 1 is returned exactly when the pair differs in something a diff cannot express
    (`TopoRepr`: same structure, depth, type/sets, attribute bytes, info *names*, names set on both sides or on
    neither, equal allowed sets / distances / memattrs / cpukinds). -/
theorem C16_build_too_complex_iff (A B : Topo σ) : (build A B).1 = 1 ↔ ¬ TopoRepr A B := by
  rw [← build_ret0_iff]
  rcases build_ret A B with h | h <;> simp [h]

/-- ... and 1 is returned exactly when the list holds a TOO_COMPLEX entry -/
theorem C16_build_tc_entry_iff (A B : Topo σ) : (build A B).2.any Entry.isTC = true ↔ (build A B).1 = 1 := by
  rw [build_tc]; simp

/-- P0 build_empty_iff_equal: 0 with a NULL diff iff nothing a diff compares differs -/
theorem C16_build_empty_iff_equal (A B : Topo σ) : build A B = (0, []) ↔ TopoSame A B := build_empty_iff A B

/-- (F13a fixed) build never queues a NAME entry with a NULL string: everything it returns can be handed to
    apply and to the XML export -/
theorem C16_build_no_null_string (A B : Topo σ) : ∀ e ∈ (build A B).2, e.NoNull := build_noNull A B

/-! ## diff_apply -/

/-- every entry applies: the return value is 0 and the topology is the result of the sequential application -/
theorem C16_apply_ok {rev : Bool} {T T' : Topo σ} {d : List (Entry σ)} (h : applyAll rev T d = some T') :
    apply rev T d = (0, T') := apply_ok h

/-- the N-th entry is the first that cannot be applied: the return value is -N (N = |p| + 1) and the
    topology is what the cancel loop makes of the state reached after the prefix `p` -/
theorem C16_apply_fail_index {rev : Bool} {T T1 : Topo σ} {p r : List (Entry σ)} {e : Entry σ}
    (hp : applyAll rev T p = some T1) (he : applyOne rev T1 e = none) :
    apply rev T (p ++ e :: r) = (- ((p.length : Int) + 1), cancel rev T1 p) := apply_fail hp he

/-- there is no third case: the call either applies every entry or stops at a first failing one -/
theorem C16_apply_cases (rev : Bool) (d : List (Entry σ)) (T : Topo σ) :
    (∃ T', applyAll rev T d = some T') ∨
    (∃ p e r T1, d = p ++ e :: r ∧ applyAll rev T p = some T1 ∧ applyOne rev T1 e = none) :=
  applyAll_cases rev d T

/-- one applied entry is undone by the same entry with the REVERSE flag flipped -/
theorem C16_entry_inverse {T T' : Topo σ} {rev : Bool} {e : Entry σ} (hk : KeysInj T) (hn : InfoNamesDistinct T)
    (h : applyOne rev T e = some T') : applyOne (!rev) T' e = some T := applyOne_inv hk hn h

/-- undoing an applied list **in reverse order** restores the topology, whatever the list
    (the order in which the cancel loop undoes, F13b fixed) -/
theorem C16_reverse_order_undo {rev : Bool} {p : List (Entry σ)} {T T1 : Topo σ} (hk : KeysInj T)
    (hn : InfoNamesDistinct T) (h : applyAll rev T p = some T1) : applyAll (!rev) T1 p.reverse = some T :=
  applyAll_reverse_inv hk hn h

/-- P0 apply_rollback (F13b fixed), full strength: for EVERY list, if entry N = |p|+1 is the first that cannot be
    applied, the result is -N and the topology is exactly the input.  Hypotheses: `KeysInj` (C01: a key names one
    object — needed because the model addresses by key) and `InfoNamesDistinct`.  The latter cannot be dropped:
    an INFO entry that just applied is NOT always undone by its swap when names repeat
    (C16_rollback_needs_distinct_names_witness, the F13c class). -/
theorem C16_apply_rollback {rev : Bool} {T T1 : Topo σ} {p r : List (Entry σ)} {e : Entry σ}
    (hk : KeysInj T) (hn : InfoNamesDistinct T)
    (hp : applyAll rev T p = some T1) (he : applyOne rev T1 e = none) :
    apply rev T (p ++ e :: r) = (- ((p.length : Int) + 1), T) := by
  rw [apply_fail hp he, cancel_applyAll hk hn hp]

/-- the same without naming the failing entry: a non-zero result is -N with 1 ≤ N ≤ |d| and nothing changed -/
theorem C16_apply_rollback_state {rev : Bool} {T : Topo σ} {d : List (Entry σ)} (hk : KeysInj T)
    (hn : InfoNamesDistinct T) (hr : (apply rev T d).1 ≠ 0) :
    (apply rev T d).2 = T ∧ ∃ N : Nat, 1 ≤ N ∧ N ≤ d.length ∧ (apply rev T d).1 = - (N : Int) := by
  rcases applyAll_cases rev d T with ⟨T', h⟩ | ⟨p, e, r, T1, hd, hp, he⟩
  · rw [apply_ok h] at hr; exact absurd rfl hr
  · subst hd
    rw [C16_apply_rollback hk hn hp he]
    refine ⟨rfl, p.length + 1, by omega, by simp, by simp⟩

/-- P0 reverse_apply, full strength for the reversed list: a successfully applied list is undone by applying
    the reversed list with the REVERSE flag flipped -/
theorem C16_reverse_apply_reversed_list {rev : Bool} {T T' : Topo σ} {d : List (Entry σ)} (hk : KeysInj T)
    (hn : InfoNamesDistinct T) (h : applyAll rev T d = some T') : apply (!rev) T' d.reverse = (0, T) :=
  apply_ok (applyAll_reverse_inv hk hn h)

/-- two independent entries commute as Option-valued steps, whatever the two flags: both orders fail together or
    reach the same topology -/
theorem C16_entries_commute {r1 r2 : Bool} {T : Topo σ} {e1 e2 : Entry σ} (hi : Indep T.nbl e1 e2) :
    (applyOne r1 T e1).bind (fun T1 => applyOne r2 T1 e2) = (applyOne r2 T e2).bind (fun T1 => applyOne r1 T1 e1) :=
  applyOne_comm hi

/-- P0 reverse_apply in list order (what hwloc_topology_diff_apply does with the flag), full strength: a
    successfully applied list whose entries address pairwise distinct attributes is undone by THE SAME list with the
    REVERSE flag flipped.  False without `DistinctSlots`: C16_reverse_apply_chain_witness. -/
theorem C16_reverse_apply {rev : Bool} {T T' : Topo σ} {d : List (Entry σ)} (hk : KeysInj T) (hn : InfoNamesDistinct T)
    (hd : DistinctSlots T.nbl d) (h : applyAll rev T d = some T') : apply (!rev) T' d = (0, T) :=
  apply_ok (applyAll_same_order_inv hk hn hd h)

/-- the special case of lists of at most one entry (no hypothesis on the list) -/
theorem C16_reverse_apply_partial {rev : Bool} {T T' : Topo σ} {d : List (Entry σ)}
    (hk : KeysInj T) (hn : InfoNamesDistinct T) (hlen : d.length ≤ 1)
    (h : applyAll rev T d = some T') : apply (!rev) T' d = (0, T) := by
  refine C16_reverse_apply hk hn ?_ h
  cases d with
  | nil => exact List.Pairwise.nil
  | cons x r =>
    have : r = [] := List.eq_nil_of_length_eq_zero (Nat.le_zero.1 (Nat.le_of_succ_le_succ hlen))
    rw [this]; exact List.pairwise_singleton _ _

/-! ## diff_apply ∘ diff_build -/

/-- every diff that build returns with 0 addresses pairwise distinct attributes -/
theorem C16_build_distinct_slots {A B : Topo σ} {d : List (Entry σ)} (hk : KeysNodup A) (hn : InfoNamesDistinct A)
    (hd : DepthsBelowNbl A) (h : build A B = (0, d)) : DistinctSlots A.nbl d := build_distinctSlots hk hn hd h

/-- P0 apply_build over whole trees, the part that needs nothing about total_memory: a diff built with 0 applies
    with 0; the patched topology has the names, the infos and the topology infos of B, the local memory of B on every
    NUMA node (DFS order), and diffing it against B gives 0 and the empty list.
    `KeysNodup` cannot be weakened to `KeysInj` (C16_apply_build_needs_keys_nodup_witness), `InfoNamesDistinct` cannot
    be dropped (C16_F13c_witness). -/
theorem C16_apply_build_core {A B : Topo σ} {d : List (Entry σ)} (hk : KeysNodup A) (hn : InfoNamesDistinct A)
    (hd : DepthsBelowNbl A) (h : build A B = (0, d)) :
    ∃ A', apply false A d = (0, A') ∧ obsCore A' = obsCore B ∧
      (∀ p ∈ A'.flat.zip B.flat, p.1.numa = true → p.1.lmem = p.2.lmem) ∧ build A' B = (0, []) := by
  have hr := (build_ok_form h).1
  exact ⟨applied A B, apply_ok (applyAll_build hk hn hd h), obsCore_applied hk hn hr.1, lmem_applied hk hn hr.1,
    build_applied hk hn hr⟩

/-- P0 apply_build over whole trees, full observation: if moreover total_memory is consistent in A and in B (and the
    two trees agree on keys, ancestor chains and NUMA-ness) the patched topology is observationally equal to B:
    per object key, name, NUMA local_memory, total_memory (the SIZE deltas propagated to the ancestors, uint64
    arithmetic), infos; and the topology infos. -/
theorem C16_apply_build {A B : Topo σ} {d : List (Entry σ)} (hk : KeysNodup A) (hn : InfoNamesDistinct A)
    (hd : DepthsBelowNbl A) (hs : SameSkeleton A B) (hA : MemConsistent A) (hB : MemConsistent B)
    (h : build A B = (0, d)) :
    ∃ A', apply false A d = (0, A') ∧ obs A' = obs B ∧ build A' B = (0, []) := by
  have hr := (build_ok_form h).1
  exact ⟨applied A B, apply_ok (applyAll_build hk hn hd h), obs_applied hk hn hr.1 hs hA hB, build_applied hk hn hr⟩

/-- P0 reverse_apply for built diffs, no hypothesis about the list: applying `build A B` and then the same list with
    the REVERSE flag returns exactly to A -/
theorem C16_reverse_apply_build {A B : Topo σ} {d : List (Entry σ)} (hk : KeysNodup A) (hn : InfoNamesDistinct A)
    (hd : DepthsBelowNbl A) (h : build A B = (0, d)) :
    ∃ A', apply false A d = (0, A') ∧ apply true A' d = (0, A) :=
  ⟨applied A B, apply_ok (applyAll_build hk hn hd h),
    C16_reverse_apply (rev := false) hk.keysInj hn (build_distinctSlots hk hn hd h) (applyAll_build hk hn hd h)⟩

/-- the same diff read backwards (what `hwloc-patch -R` does): REVERSE application of `build A B` to B succeeds with 0
    and yields a topology observationally equal to A, whose diff against A is empty.  (`A.nbl = B.nbl`: build does
    not compare nb_levels, which in hwloc is a function of the depths it does compare.) -/
theorem C16_reverse_apply_to_B {A B : Topo σ} {d : List (Entry σ)} (hk : KeysNodup A) (hn : InfoNamesDistinct A)
    (hd : DepthsBelowNbl A) (hs : SameSkeleton A B) (hnbl : A.nbl = B.nbl) (hA : MemConsistent A) (hB : MemConsistent B)
    (h : build A B = (0, d)) :
    ∃ B', apply true B d = (0, B') ∧ obs B' = obs A ∧ build B' A = (0, []) := by
  have hr := (build_ok_form h).1
  obtain ⟨hkB, hnB, hdB⟩ := hyps_of_repr hk hn hd hr hs hnbl
  have hs' : SameSkeleton B A := Eq.symm hs
  refine ⟨applied B A, apply_ok ?_, obs_applied hkB hnB hr.symm.1 hs' hB hA, build_applied hkB hnB hr.symm⟩
  rw [applyAll_rev_eq_swap]
  exact applyAll_build hkB hnB hdB (build_swap h hs hnbl)

/-- P0 apply_build, the INFO core on one infos array (a step of C16_apply_build): with distinct names the
    INFO entries queued by build turn the old array into the new one when applied in order. -/
theorem C16_apply_build_infos_partial (k : Key) (i1 i2 : List (σ × σ)) (hnd : (i1.map Prod.fst).Nodup)
    (hok : (infosGo k i1 i2).2 = true) : applyInfos i1 (infosGo k i1 i2).1 = some i2 :=
  applyInfos_infosGo k i1 i2 hnd hok

/-! ## negative facts about the code as it is (concrete witnesses, `σ := Nat`) -/

def leaf (name : Option Nat) (infos : List (Nat × Nat)) : Obj Nat :=
  .mk { depth := 0, lidx := 0, ancs := [], numa := false, shape1 := 0, shape2 := 0, name := name, infos := infos,
        lmem := 0, tmem := 0 } [] [] [] []
def topo (r : Obj Nat) (dists : List (Nat × Bool) := []) : Topo Nat :=
  { root := r, nbl := 1, tinfos := [], allowed := 0, dists := dists, mattrs := 0, kinds := 0 }

/-- F13c: without InfoNamesDistinct apply ∘ build is not the identity: `A=[(X,1),(X,2)]`, `B=[(X,2),(X,3)]`
    gives 0 from build, 0 from apply, and the patched array `[(X,3),(X,2)] ≠ B` -/
theorem C16_F13c_witness :
    let A := topo (leaf none [(7, 1), (7, 2)])
    let B := topo (leaf none [(7, 2), (7, 3)])
    (build A B).1 = 0 ∧ (apply false A (build A B).2).1 = 0 ∧
    (apply false A (build A B).2).2.flat.map (·.infos) = [[(7, 3), (7, 2)]] := by decide +kernel

/-- rollback does need InfoNamesDistinct (F13c class): infos `[(X,2),(X,1)]`, list `X:1→2, <failing>`:
    the entry applies on the second pair, its undo `X:2→1` hits the first one; -2 is returned and the array is
    `[(X,1),(X,2)]`, not the input -/
theorem C16_rollback_needs_distinct_names_witness :
    let r := apply false (topo (leaf none [(7, 2), (7, 1)])) [.objAttr (0, 0) (.info 7 1 2), .unknown]
    r.1 = -2 ∧ r.2.flat.map (·.infos) = [[(7, 1), (7, 2)]] := by decide +kernel

/-- REVERSE application in list order is not an inverse for lists that touch one attribute twice:
    `X:1→2, X:2→3` applies (X=3); with the flag flipped the first entry (`2→1`) does not match and -1 is returned -/
theorem C16_reverse_apply_chain_witness :
    let d : List (Entry Nat) := [.objAttr (0, 0) (.info 7 1 2), .objAttr (0, 0) (.info 7 2 3)]
    let r := apply false (topo (leaf none [(7, 1)])) d
    r.1 = 0 ∧ (apply true r.2 d).1 = -1 := by decide +kernel

/-- `KeysNodup` cannot be weakened to `KeysInj` in C16_apply_build: a tree holding the same object (same key, same
    data) twice satisfies `KeysInj`; build returns 0 with two NAME entries for the one key and apply fails on the
    second one (-2) -/
theorem C16_apply_build_needs_keys_nodup_witness :
    let c (nm : Nat) : Obj Nat := .mk { (leaf (some nm) []).data with depth := -2, ancs := [(0, 0)] } [] [] [] []
    let A := topo (.mk (leaf (some 0) []).data [] [] [] [c 1, c 1])
    let B := topo (.mk (leaf (some 0) []).data [] [] [] [c 2, c 2])
    KeysInj A ∧ InfoNamesDistinct A ∧ DepthsBelowNbl A ∧ ¬ KeysNodup A ∧
    (build A B).1 = 0 ∧ (apply false A (build A B).2).1 = -2 := by decide +kernel

/-! ## non-vacuity -/

def numa (lidx : Nat) (m : Nat) : Obj Nat :=
  .mk { depth := -3, lidx := lidx, ancs := [(0, 0)], numa := true, shape1 := 1, shape2 := 0, name := some 5,
        infos := [(1, 1)], lmem := BitVec.ofNat 64 m, tmem := BitVec.ofNat 64 m } [] [] [] []
def machine (n0 n1 : Nat) (nm : Nat) : Topo Nat :=
  { root := .mk { depth := 0, lidx := 0, ancs := [], numa := false, shape1 := 0, shape2 := 0, name := some nm,
                  infos := [(7, 1), (8, 2)], lmem := 0, tmem := BitVec.ofNat 64 (n0 + n1) } [] [numa 0 n0, numa 1 n1] [] [],
    nbl := 1, tinfos := [(9, 9)], allowed := 0, dists := [(3, false)], mattrs := 0, kinds := 0 }

/-- a two-NUMA machine: build is representable, non-empty, applies with 0 to the observation of B
    (incl. total_memory with uint64 wrap), and the REVERSE flag restores A -/
example :
    let A := machine 10 (2 ^ 64 - 1) 1
    let B := machine 4 (2 ^ 64 - 1) 2
    (build A B).1 = 0 ∧ (build A B).2.length = 2 ∧ (apply false A (build A B).2).1 = 0 ∧
    (apply false A (build A B).2).2.flat = B.flat ∧
    (apply true (apply false A (build A B).2).2 (build A B).2).2.flat = A.flat := by decide +kernel

/-- the hypotheses of C16_apply_build / C16_reverse_apply_build / C16_build_distinct_slots hold of that pair, whose
    diff is not empty (a NAME entry and a SIZE entry whose delta wraps) -/
example :
    let A := machine 10 (2 ^ 64 - 1) 1
    let B := machine 4 (2 ^ 64 - 1) 2
    KeysNodup A ∧ InfoNamesDistinct A ∧ DepthsBelowNbl A ∧ SameSkeleton A B ∧ MemConsistent A ∧ MemConsistent B ∧
    build A B = (0, [.objAttr (0, 0) (.name (some 1) (some 2)), .objAttr (-3, 0) (.size 10#64 4#64)]) ∧
    DistinctSlots A.nbl (build A B).2 ∧ A.nbl = B.nbl ∧
    (apply true B (build A B).2).1 = 0 ∧ (apply true B (build A B).2).2.flat = A.flat := by decide +kernel
/-- a hand-built list on pairwise distinct attributes (two INFO names of one object, the topology infos through two
    aliasing keys would not be accepted): C16_reverse_apply applies to it -/
example :
    let d : List (Entry Nat) := [.objAttr (0, 0) (.info 7 1 5), .objAttr (0, 0) (.info 8 2 6), .objAttr (1, 0) (.info 9 9 0),
      .objAttr (-3, 1) (.size 2#64 7#64)]
    DistinctSlots (machine 1 2 3).nbl d ∧ (applyAll false (machine 1 2 3) d).isSome = true ∧
    ¬ DistinctSlots (1 : Int) [Entry.objAttr (1, 0) (.info 9 9 0), Entry.objAttr (1, 5) (.info (9 : Nat) 0 1)] := by decide +kernel

example : TopoSame (machine 1 2 3) (machine 1 2 3) := (build_empty_iff _ _).1 (by decide +kernel)
example : ¬ TopoRepr (machine 1 2 3) (topo (leaf none [])) := (C16_build_too_complex_iff _ _).1 (by decide +kernel)
example : KeysInj (machine 1 2 3) := by
  intro x hx y hy
  simp [machine, numa, Topo.flat, Obj.flat, flatL] at hx hy
  rcases hx with rfl | rfl | rfl <;> rcases hy with rfl | rfl | rfl <;> simp [Data.key]
/-- a failing entry at position 2 after one applied entry: -2 and nothing changed -/
example : (apply false (machine 1 2 3) [.objAttr (0, 0) (.name (some 3) (some 4)), .unknown]).1 = -2 ∧
    (apply false (machine 1 2 3) [.objAttr (0, 0) (.name (some 3) (some 4)), .unknown]).2.flat = (machine 1 2 3).flat := by
  decide +kernel

/-- former F13a input: a name on one side only is TOO_COMPLEX at that object -/
example : build (topo (leaf none [])) (topo (leaf (some 1) [])) = (1, [.tooComplex (0, 0)]) := by decide +kernel
/-- former F13b input: `X:1→2, X:2→3, <failing>` returns -3 and restores `X=1` -/
example :
    let r := apply false (topo (leaf none [(7, 1)])) [.objAttr (0, 0) (.info 7 1 2), .objAttr (0, 0) (.info 7 2 3), .unknown]
    r.1 = -3 ∧ r.2.flat.map (·.infos) = [[(7, 1)]] := by decide +kernel
/-- former F13d input: identical topologies holding a distances structure with per-object types: empty diff -/
example : build (topo (leaf none []) [(0, true)]) (topo (leaf none []) [(0, true)]) = (0, []) := by decide +kernel

/-! ## diff XML export / load (model: Hw.Io.XmlDiff, lemmas: Hw.Io.XmlDiffLemmas)

   `E` = `Entry Bytes` (strings are byte lists); `Exportable e` = an OBJ_ATTR entry of sub-type SIZE / NAME / INFO without NULL
   string whose key fits the C types (`int obj_depth`, `unsigned obj_index`); `Backend` = which parser reads the text. -/
section DiffXml
open Hw.XmlDiff Hw.Xml

/-- P0 diff_xml_roundtrip: for EVERY list of exportable entries (any byte strings, also empty ones and ones full of characters
    that need escaping; any 64-bit values; any int depth incl. the negative special depths; any unsigned index) and every
    refname (or none), exporting succeeds and loading the exported document through either back end returns 0 with exactly
    the same entries in the same order and the same refname, and frees nothing. -/
theorem C16_diffxml_roundtrip (be : Backend) (ref : Option Bytes) (l : List E) (h : ∀ e ∈ l, Exportable e) :
    ∃ d, exportDoc ref l = .ok d ∧ importDoc be d = { ret := 0, diff := l, ref := ref, freed := [] } :=
  roundtrip be ref l h

/-- ... also through the BYTES of the start tags for the nolibxml pair: the attribute scanner of the nolibxml importer
    (Hw.Xml.scanAttrs = the next_attr loop with its un-escaping copy) applied to the text new_prop wrote (Hw.Xml.renderAttrs =
    escaping) gives every token back, for NUL-free strings (C strings); hence loading what was rescanned from the text is the
    identity as well. -/
theorem C16_diffxml_roundtrip_bytes (ref : Option Bytes) (l : List E) (h : ∀ e ∈ l, Exportable e)
    (hr : ∀ r, ref = some r → NulFree r) (hn : ∀ e ∈ l, EntryNulFree e) :
    ∃ d, exportDoc ref l = .ok d ∧ rescan d = d ∧
      importDoc .nolibxml (rescan d) = { ret := 0, diff := l, ref := ref, freed := [] } := by
  obtain ⟨d, hd, hi⟩ := roundtrip .nolibxml ref l h
  have hs := rescan_exportDoc ref l d hr hn hd
  exact ⟨d, hd, hs, by rw [hs]; exact hi⟩

/-- the public export entry points refuse (EINVAL, nothing written) exactly the lists that hold a TOO_COMPLEX entry -/
theorem C16_diffxml_export_too_complex (ref : Option Bytes) (l : List E) :
    exportDoc ref l = .einval ↔ l.any Entry.isTC = true := by
  unfold exportDoc
  by_cases h : l.any Entry.isTC = true
  · simp [h]
  · simp only [h, Bool.false_eq_true, if_false, iff_false]
    cases exportEls l <;> simp

/-- the exporter writes one `<diff>` element per entry, in list order (the i-th element carries the attributes of the i-th entry) -/
theorem C16_diffxml_export_order (ref : Option Bytes) (l : List E) (d : Doc) (h : exportDoc ref l = .ok d) :
    d.root = rootAttrs ref ∧ l.map exportEntry = d.els.map (fun el => some el.2) ∧ ∀ el ∈ d.els, el.1 = nmDiff := by
  unfold exportDoc at h
  split at h
  · cases h
  · cases hels : exportEls l with
    | none => simp [hels] at h
    | some els =>
      simp [hels] at h
      subst h
      exact ⟨rfl, exportEls_positional l els hels⟩

/-- P0 import_total: the importer accepts or rejects EVERY token-level document (any attribute names, values, repetitions,
    element names) without partial state: either it returns 0, frees nothing and hands out every entry it linked; or it
    returns -1, leaves `*firstdiffp` NULL and `*refnamep` untouched, and every entry it had linked is handed to
    hwloc_topology_diff_destroy. -/
theorem C16_diffxml_import_total (be : Backend) (d : Doc) :
    ((importDoc be d).ret = 0 ∧ (importDoc be d).freed = [] ∧ (importDoc be d).diff = linked be d) ∨
    ((importDoc be d).ret = -1 ∧ (importDoc be d).diff = [] ∧ (importDoc be d).ref = none ∧
      (importDoc be d).freed = linked be d) :=
  importDoc_cases be d

/-- P0 order: an accepted document yields exactly the contributions of its elements in DOCUMENT ORDER (the C appends at
    lastdiff); elements that are silently ignored (no `type`, a type other than OBJ_ATTR, a missing mandatory attribute)
    contribute nothing and do not disturb the order of the others. -/
theorem C16_diffxml_import_order (be : Backend) (d : Doc) (h : (importDoc be d).ret = 0) :
    (importDoc be d).diff = d.els.filterMap elEntry :=
  importDoc_ok_order be d h

/-- ... and on the error path what was linked (and is freed) are the contributions of the elements BEFORE the offending one -/
theorem C16_diffxml_import_prefix (els : List (Bytes × AttrL)) (acc : List E) :
    ∃ pre suf, els = pre ++ suf ∧ (importEls acc els).2 = acc ++ pre.filterMap elEntry ∧
      ((importEls acc els).1 = true → suf = []) :=
  importEls_order els acc

/-- the clause of the property as worded: "if hwloc_topology_diff_build(A, B) returns 0 ... the diff survives diff export/load as
    XML with the same refname" — for every pair of topologies over byte strings whose built entries address keys inside the C
    types (every real topology: `int depth`, `unsigned logical_index`), through either back end. -/
theorem C16_diffxml_build_roundtrip (be : Backend) (ref : Option Bytes) (A B : Topo Bytes) (h0 : (build A B).1 = 0)
    (hk : ∀ e ∈ (build A B).2, KeyInRange e.key) :
    ∃ d, exportDoc ref (build A B).2 = .ok d ∧
      importDoc be d = { ret := 0, diff := (build A B).2, ref := ref, freed := [] } :=
  roundtrip be ref _ (build_exportable A B h0 hk)

/-- ... and when it returns 1 the export entry points refuse the list (a TOO_COMPLEX entry is in it) -/
theorem C16_diffxml_build_ret1_einval (ref : Option Bytes) (A B : Topo Bytes) (h1 : (build A B).1 = 1) :
    exportDoc ref (build A B).2 = .einval := by
  rw [C16_diffxml_export_too_complex, build_tc, h1]; decide

/-- the importer does not depend on the ORDER of the attributes of an element as long as no attribute name is repeated
    (the exporter's order is one of many accepted ones) -/
theorem C16_diffxml_import_attr_order {a b : AttrL} (hp : a.Perm b) (hn : (a.map (·.1)).Nodup) :
    importOne a = importOne b :=
  importOne_perm hp hn

/-! non-vacuity and concrete behaviour of the importer model -/
def goodEl : Bytes × AttrL := (nmDiff, [(nmType, str "0"), (nmDepth, str "1"), (nmIndex, str "2"), (nmAType, str "1"),
  (nmOld, str "a"), (nmNew, str "b")])
def goodE : E := .objAttr (1, 2) (.name (some (str "a")) (some (str "b")))

/-- a list inside the hypotheses of the round trip: escaping-heavy strings, an empty string, UINT64_MAX, a special depth -/
example :
    let l : List E := [.objAttr (-3, 4294967295) (.size 0#64 18446744073709551615#64),
      .objAttr (2, 0) (.name (some (str "a<b>&\"c'")) (some [])), .objAttr (-2147483648, 7) (.info (str "K\n") (str "&amp;") (str "\t"))]
    (∀ e ∈ l, Exportable e) ∧ (∀ e ∈ l, EntryNulFree e) := by
  refine ⟨?_, ?_⟩ <;> intro e he <;> simp at he <;> rcases he with rfl | rfl | rfl
  all_goals first
    | (simp [Exportable, KeyInRange])
    | (simp [EntryNulFree, NulFree]; try decide)
/-- the same computed: both back ends read the exported tokens back -/
example :
    let l : List E := [.objAttr (-3, 4294967295) (.size 0#64 77#64), .objAttr (2, 0) (.name (some (str "a<b>")) (some []))]
    (match exportDoc (some (str "r&f")) l with
     | .ok d => decide (importDoc .libxml d = ⟨0, l, some (str "r&f"), []⟩) &&
                decide (importDoc .nolibxml (rescan d) = ⟨0, l, some (str "r&f"), []⟩)
     | _ => false) = true := by decide +kernel
/-- a pair of topologies over byte strings inside the hypotheses of C16_diffxml_build_roundtrip (a rename with characters
    that need escaping and a local-memory change to UINT64_MAX) -/
example :
    let nd (nm : Bytes) (m : Mem) : Obj Bytes := .mk ⟨-3, 0, [(0, 0)], true, [], [], some nm, [], m, m⟩ [] [] [] []
    let mk (nm : Bytes) (m : Mem) : Topo Bytes :=
      ⟨.mk ⟨0, 0, [], false, [], [], some (str "Machine"), [], 0, m⟩ [] [nd nm m] [] [], 2, [], [], [], [], []⟩
    (build (mk (str "a<b") 5) (mk (str "\"&") 18446744073709551615)).1 = 0 ∧
    (build (mk (str "a<b") 5) (mk (str "\"&") 18446744073709551615)).2.length = 2 ∧
    ∀ e ∈ (build (mk (str "a<b") 5) (mk (str "\"&") 18446744073709551615)).2, KeyInRange e.key := by
  intro nd mk
  have hb : build (mk (str "a<b") 5) (mk (str "\"&") 18446744073709551615) =
      (0, [.objAttr (-3, 0) (.name (some (str "a<b")) (some (str "\"&"))), .objAttr (-3, 0) (.size 5 18446744073709551615)]) := by
    decide +kernel
  rw [hb]
  refine ⟨rfl, rfl, fun e he => ?_⟩
  simp at he
  rcases he with rfl | rfl <;> simp [Entry.key, KeyInRange]
/-- C16_diffxml_import_attr_order applies to the exporter's own attribute lists (no repeated name) ... -/
example : ([(nmType, str "0"), (nmDepth, str "1"), (nmIndex, str "2")] : AttrL).Perm [(nmDepth, str "1"), (nmType, str "0"), (nmIndex, str "2")] ∧
    (([(nmType, str "0"), (nmDepth, str "1"), (nmIndex, str "2")] : AttrL).map (·.1)).Nodup :=
  ⟨List.Perm.swap _ _ _, by decide⟩
/-- ... and the hypothesis is needed: with a repeated name the last occurrence wins -/
example : importOne (goodEl.2 ++ [(nmDepth, str "-5")]) ≠ importOne ((nmDepth, str "-5") :: goodEl.2) := by decide +kernel
/-- TOO_COMPLEX anywhere: EINVAL -/
example : exportDoc none [.objAttr (0, 0) (.size 1#64 2#64), .tooComplex (0, 0)] = .einval := by decide +kernel
/-- what the importer makes of damaged elements: unknown attribute => -1 and the already linked entry is freed;
    missing mandatory attribute / other type number => ignored; a repeated attribute: the last one wins (nolibxml) or the
    document is rejected (libxml2); `atoi("4294967296") = 0` is OBJ_ATTR; hex / octal SIZE values -/
example : importDoc .nolibxml ⟨[], [goodEl, (nmDiff, [(str "foo", str "1")])]⟩ = ⟨-1, [], none, [goodE]⟩ := by decide +kernel
example : importDoc .nolibxml ⟨[], [(nmDiff, [(nmType, str "0"), (nmDepth, str "1")]), goodEl, (nmDiff, [(nmType, str "1")]),
    (nmDiff, [])]⟩ = ⟨0, [goodE], none, []⟩ := by decide +kernel
example : importDoc .nolibxml ⟨[(nmRefname, str "x"), (nmRefname, str "y")], [(nmDiff, goodEl.2 ++ [(nmDepth, str "-5")])]⟩
    = ⟨0, [.objAttr (-5, 2) (.name (some (str "a")) (some (str "b")))], some (str "y"), []⟩ := by decide +kernel
example : importDoc .libxml ⟨[], [(nmDiff, goodEl.2 ++ [(nmDepth, str "-5")])]⟩ = ⟨-1, [], none, []⟩ := by decide +kernel
example : importDoc .libxml ⟨[], [(str "object", goodEl.2)]⟩ = ⟨-1, [], none, []⟩ := by decide +kernel
example : importDoc .libxml ⟨[], [(nmDiff, [(nmType, str "4294967296"), (nmDepth, str "x"), (nmIndex, str "-1"), (nmAType, str "0"),
    (nmOld, str "0x1f"), (nmNew, str "017")])]⟩ = ⟨0, [.objAttr (0, 4294967295) (.size 31#64 15#64)], none, []⟩ := by decide +kernel

end DiffXml

end Hw.Props.C16
