/-
  Hw.Props.C20 — command-line tools compute what the library API defines (model: Hw/Io/Calc.lean).

  The theorems are about the model of hwloc-calc / hwloc-distrib; the differential engine `tools` ties the model to the real
  tools (stdout and exit-status class of every generated run).  Sets are the representation-exact bitmaps of C03, so "the
  set" is always `Bitmap.mem`.
-/
import Hw.Io.CalcLemmas
import Hw.Io.CalcStdin
import Hw.Io.CalcAttrLemmas
import Hw.Io.CalcAttrRefine
import Hw.Io.CalcAttrBest
import Hw.Attr.MemAttrsApi
import Hw.Bitmap.Order
import Hw.Bitmap.CompareFirst
import Hw.Base.Snprintf
namespace Hw.Props.C20
open Hw Hw.Topo Hw.Calc

/-- the documented meaning of the four operator prefixes (none = union, `~` removal, `x` intersection, `^` xor) -/
def opBool : Mode → Bool → Bool → Bool
  | .add, a, b => a || b
  | .clr, a, b => a && !b
  | .and, a, b => a && b
  | .xor, a, b => a != b

theorem mem_applyMode (m : Mode) (acc new : Bitmap) (i : Nat) :
    (applyMode m acc new).mem i = opBool m (acc.mem i) (new.mem i) := by
  cases m <;> simp [applyMode, opBool, Bitmap.mem_or, Bitmap.mem_andnot, Bitmap.mem_and, Bitmap.mem_xor]

structure InOpts where
  logical : Bool
  nodesetIn : Bool
  cif : Option Fmt

def inOptsOf (s : St) : InOpts := ⟨s.logicalI, s.nodesetI, s.cif⟩

/-- specification: left fold of the documented operators over the cpusets (`pick = true`) or nodesets of the named objects /
    raw sets; arguments the grammar does not accept are skipped ("ignored unrecognized argument") -/
def specFold (c : Ctx) (o : InOpts) (pick : Bool) (i : Nat) : Bool → List Bytes → Bool
  | acc, [] => acc
  | acc, a :: r =>
    match locSets c o.logical o.nodesetIn o.cif (splitMode a).2 with
    | .sets cs ns => specFold c o pick i (opBool (splitMode a).1 acc ((if pick then cs else ns).mem i)) r
    | _ => specFold c o pick i acc r

theorem stepLoc_inOpts {c : Ctx} {s s' : St} {a : Bytes} (h : stepLoc c s a = .ok s') : inOptsOf s' = inOptsOf s := by
  rcases stepLoc_ok h with ⟨_, rfl⟩ | ⟨cs, ns, _, rfl⟩ <;> rfl

theorem stepLoc_sets {c : Ctx} {s s' : St} {a : Bytes} (h : stepLoc c s a = .ok s') (pick : Bool) (i : Nat) :
    (if pick then s'.cpuset else s'.nodeset).mem i =
      (match locSets c s.logicalI s.nodesetI s.cif (splitMode a).2 with
       | .sets cs ns => opBool (splitMode a).1 ((if pick then s.cpuset else s.nodeset).mem i) ((if pick then cs else ns).mem i)
       | _ => (if pick then s.cpuset else s.nodeset).mem i) := by
  rcases stepLoc_ok h with ⟨hl, rfl⟩ | ⟨cs, ns, hl, rfl⟩ <;> rw [hl]
  cases pick <;> exact mem_applyMode _ _ _ i

theorem locFold_spec (c : Ctx) (pick : Bool) (i : Nat) (args : List Bytes) (s s' : St) : locFold c s args = .ok s' →
    (if pick then s'.cpuset else s'.nodeset).mem i =
      specFold c (inOptsOf s) pick i ((if pick then s.cpuset else s.nodeset).mem i) args := by
  fun_induction locFold c s args with
  | case1 s => intro h; cases h; rfl
  | case2 s a r e he => intro h; cases h
  | case3 s a r s1 hs ih =>
    intro h
    rw [ih h, stepLoc_inOpts hs, stepLoc_sets hs pick i]
    simp only [specFold, inOptsOf]
    cases locSets c s.logicalI s.nodesetI s.cif (splitMode a).2 <;> rfl

/-- P0 calc_fold: the cpuset hwloc-calc holds after a list of locations is the left fold of the documented operators over the
    cpusets of the named objects, for every argument list (arguments outside the grammar are skipped, as the tool reports) -/
theorem C20_calc_fold (c : Ctx) (args : List Bytes) (s s' : St) (i : Nat) (h : locFold c s args = .ok s') :
    s'.cpuset.mem i = specFold c (inOptsOf s) true i (s.cpuset.mem i) args :=
  locFold_spec c true i args s s' h

/-- … and the nodeset is the same fold over the nodesets -/
theorem C20_calc_fold_nodeset (c : Ctx) (args : List Bytes) (s s' : St) (i : Nat) (h : locFold c s args = .ok s') :
    s'.nodeset.mem i = specFold c (inOptsOf s) false i (s.nodeset.mem i) args :=
  locFold_spec c false i args s s' h

/-- an argument the grammar rejects changes nothing (not even the count of accepted locations) -/
theorem C20_calc_ignored_is_identity (c : Ctx) (s : St) (a : Bytes)
    (h : locSets c s.logicalI s.nodesetI s.cif (splitMode a).2 = .ignored) : stepLoc c s a = .ok s := by
  unfold stepLoc; simp only [h]

/-- P0 calc_N_eq_len_I: the number `-N` prints is the number of objects `-I` lists (same set, same level) -/
theorem C20_calc_N_eq_len_I (c : Ctx) (cm nm : Nat) (l : Calc.Level) :
    numberOfCount c cm nm l = (intersectObjs c cm nm l).length := by
  unfold numberOfCount intersectObjs
  exact List.countP_eq_length_filter

/-- P0 calc_single: `--single` keeps a subset of the set with at most one element, and that element is the first one -/
theorem C20_calc_single (b : Bitmap) :
    (∀ i, b.singlify.mem i = true → b.mem i = true) ∧
    (∀ i j, b.singlify.mem i = true → b.singlify.mem j = true → i = j) ∧
    (∀ i, b.mem i = true → (∀ m, m < i → b.mem m = false) → b.singlify.mem i = true) := by
  refine ⟨?_, ?_, ?_⟩
  · intro i h
    rw [Bitmap.mem_singlify] at h
    exact Bitmap.first_mem b i (of_decide_eq_true h)
  · intro i j hi hj
    rw [Bitmap.mem_singlify] at hi hj
    have h1 := of_decide_eq_true hi
    have h2 := of_decide_eq_true hj
    rw [h1] at h2
    exact Int.ofNat.inj h2
  · intro i hi hl
    rw [Bitmap.mem_singlify]
    exact decide_eq_true (Bitmap.first_eq_of b i hi hl)

/-- P0 calc_largest_roundtrip: on a well-formed topology (`Tree`: `WF` and the DFS numbering of the dump, Hw/Topo/WFTree.lean), for
    every finite set inside the root's cpuset the `--largest` loop ends normally, lists normal objects of the topology, and the
    union of their cpusets is exactly the set — so feeding the listed objects back yields the same set.  (That the printed
    `Type:index` names denote these objects again is the C11 name round trip, exercised by every `LRT` run of the engine.) -/
theorem C20_calc_largest_roundtrip (c : Ctx) (ht : Tree c.d) {r : Obj} (hr : c.d.rootObj? = some r) (S : Bitmap)
    (hfin : S.inf = false) (hsub : ∀ i, S.mem i = true → (cs r).testBit i = true) :
    (largestLoop c (weight (c.mask S) + 2) S []).2 = true ∧
    (∀ o ∈ (largestLoop c (weight (c.mask S) + 2) S []).1, o ∈ c.d.objs ∧ isNormal o.type = true) ∧
    (∀ i, S.mem i = true ↔ ∃ o ∈ (largestLoop c (weight (c.mask S) + 2) S []).1, (cs o).testBit i = true) := by
  have hterm := largestLoop_terminates c ht hr (weight (c.mask S) + 2) S [] hfin hsub (by omega)
  obtain ⟨new, heq, hin, hcov⟩ := largestLoop_spec c ht _ S [] _ (Prod.ext rfl hterm)
  rw [show (largestLoop c (weight (c.mask S) + 2) S []).1 = new from heq]
  exact ⟨hterm, fun o ho => ⟨(hin o ho).1, (hin o ho).2.1⟩, fun i => ⟨hcov i, fun ⟨o, ho, hoi⟩ => (hin o ho).2.2 i hoi⟩⟩

/-- the first argument is not one of the topology options (`-i`, `--restrict`, … are consumed before the model starts) -/
def NoTopoHead (argv : List Bytes) : Prop := ∀ a, argv.head? = some a → isOpt topoOpts a = false

/-- P0 calc_rejects, at the level of the whole command line.  WHICH arguments make hwloc-calc fail is a function of the
    argument list alone (`optScan`, Hw/Io/CalcLemmas.lean): an argument starting with '-' that is not an option of the tool, an
    option whose value is missing, an unknown `--cof` / `--cif` / `--nof` format name, `--cif systemd-dbus-api`.  Then, for every
    topology and every stdin, the run ends with a non-zero status; stdout is empty unless `-v` was given (`quietArgs`).
    Arguments that do not start with '-' never make the tool fail: an invalid location (unknown type, rejected range, bad
    set) is skipped with the warning "ignored unrecognized argument" (`C20_calc_ignored_is_identity`,
    `C20_calc_rejected_range_ignored`).  The `skip` alternative is the model declining a run whose earlier location uses a
    feature it does not follow. -/
theorem C20_calc_rejects (d : Dump) (argv : List Bytes) (stdin : Bytes) (hhead : NoTopoHead argv)
    (hscan : optScan argv = .fails) :
    (∃ w, calcMain d argv stdin = .skip w) ∨
    (∃ out, calcMain d argv stdin = .exit 1 out ∧ (out = some [] ∨ out = none) ∧ (quietArgs argv → out = some [])) := by
  rw [calcMain_eq_go d stdin hhead]
  unfold calcMain.go
  rcases argLoop_fails (mkCtx d) {} argv hscan with hw | ⟨s', hs', hk⟩
  · rw [hw]; exact Or.inl ⟨_, rfl⟩
  · rw [hs']
    refine Or.inr ⟨_, rfl, ?_, ?_⟩
    · cases s'.outKnown <;> simp
    · intro q
      rw [hk q ⟨Int.le_refl _, rfl⟩]
      rfl

/-- … and so does a `-N` / `-I` / `-H` argument that is not a usable level (after fix F42): whenever the option loop itself
    succeeds and the level parsing fails, the run ends with a non-zero status and (without `-v`) nothing on stdout -/
theorem C20_calc_rejects_bad_level (d : Dump) (argv : List Bytes) (stdin : Bytes) (s : St) (hhead : NoTopoHead argv)
    (hloop : argLoop (mkCtx d) {} argv = .ok s) (hbad : (match outCfg d s with | .out => true | _ => false) = true) :
    calcMain d argv stdin = .exit 1 (if s.outKnown then some [] else none) := by
  rw [calcMain_eq_go d stdin hhead]
  unfold calcMain.go
  rw [hloop]
  cases hc : outCfg d s with
  | ok cfg => rw [hc] at hbad; cases hbad
  | unmodelled => rw [hc] at hbad; cases hbad
  | out =>
    -- dropping `--no` (`convState`) changes no field the level parsing reads
    have hcfg : outCfg (mkCtx d).d (convState s) = .out := hc
    simp only [convState_if, hcfg]
    rfl

/-- the level parsing fails as soon as the `-N` argument is not a level of the topology -/
theorem C20_calc_bad_number_of (d : Dump) (s : St) (t : Bytes) (hs : s.numberOf = some t)
    (hp : parseOutLevel d t = some none) : (match outCfg d s with | .out => true | _ => false) = true := by
  unfold outCfg
  simp [hs, hp]

/-- a range the parser rejects (reversed `N-M`, non-positive width `N:M`, junk; fixes F40/F41) makes
    hwloc_calc_append_object_range return -1 before any loop runs: the argument is ignored, nothing is added -/
theorem C20_calc_rejected_range_ignored (d : Dump) (hbm : Int) (logical : Bool) (fuel rc rn : Nat) (level : Calc.Level)
    (s : Bytes) (hp : parseRange (splitDot s).1 = .err) :
    appendObjectRange d hbm logical (fuel + 1) rc rn level s = .ok true [] := by
  unfold appendObjectRange
  simp [hp]

/-- TERMINATION BOUND (after fixes F40/F41): for every accepted range the loop of
    hwloc_calc_append_object_range over a level of `width` objects runs `rangeIters r width` times (by definition of the model),
    and that is at most `width` for an open-ended range (0 when `first ≥ width`), exactly the requested positive count
    (≤ 2^31) otherwise; an open-ended range never has wrap-around, so the C assertion `amount != -1 || !wrap` holds -/
theorem C20_calc_range_loop_bound {s : Bytes} {r : Range} (h : parseRange s = .ok r) (width : Nat) :
    (r.amount = -1 → r.wrap = false ∧ rangeIters r width ≤ width ∧ (width ≤ r.first → rangeIters r width = 0)) ∧
    (r.amount ≠ -1 → 1 ≤ r.amount ∧ rangeIters r width = r.amount.toNat ∧ rangeIters r width ≤ 2 ^ 31) := by
  obtain ⟨_, hs1, _, ha⟩ := parseRange_amount h
  have hw : r.amount = -1 → r.wrap = false := fun hm => ha.elim (·.2) (fun h1 => absurd (hm ▸ h1.1) (by decide))
  fun_cases rangeIters r width
  · rename_i hm _
    exact ⟨fun hm => ⟨hw hm, Nat.zero_le _, fun _ => rfl⟩, fun hne => absurd (eq_of_beq hm) hne⟩
  · -- the quotient of `width - first` by a positive step, rounded up
    rename_i hm hf
    exact ⟨fun hm => ⟨hw hm, Nat.le_trans (ceilDiv_le_self hs1 _) (Nat.sub_le _ _), fun hwd => absurd hwd hf⟩,
      fun hne => absurd (eq_of_beq hm) hne⟩
  · rename_i hm
    have hne : r.amount ≠ -1 := fun e => hm (beq_iff_eq.2 e)
    obtain ⟨h1, h2⟩ := ha.resolve_left (fun h => hne h.1)
    rw [Int.emod_eq_of_lt (Int.le_trans (by decide) h1) (Int.lt_of_le_of_lt h2 (by decide))]
    exact ⟨fun hm => absurd hm hne, fun _ => ⟨h1, rfl, Int.toNat_le.2 h2⟩⟩

/-- hwloc-distrib: on a well-formed topology, with normal roots of positive total weight and 0 < n, hwloc_distrib fills exactly
    the `n` sets the tool prints, none of them empty (C09 `distrib_count`, which also puts them inside the roots) -/
theorem C20_distrib_prints_n {d : Dump} (ht : Tree d) (s : DSt) (n : Nat) (fromD toD : Int)
    (hgood : ∀ r ∈ levelObjs d fromD, r ∈ d.objs ∧ isNormal r.type = true)
    (hn : 0 < n) (htot : 0 < totWeight (levelObjs d fromD)) (hsmall : n * totWeight (levelObjs d fromD) + totWeight (levelObjs d fromD) < 2 ^ 32) :
    ∃ sets, distribSets d s n fromD toD = some sets ∧ sets.length = n ∧ ∀ x ∈ sets, x ≠ 0 := by
  obtain ⟨sets, h1, h2, h3, _⟩ := distrib_count ht (levelObjs d fromD) n toD (if s.reverse then 1 else 0) hgood hn
    (by split <;> omega) htot
  exact ⟨sets, (distribSets_eq d s n fromD toD htot hsmall).trans h1, h2, fun x hx => (h3 x hx).1⟩

/-- hwloc-distrib rejects an unknown option with a non-zero status and no output -/
theorem C20_distrib_rejects (s : DSt) (a : Bytes) (rest : List Bytes) (hne : a ≠ str "--")
    (hdash : a.head? = some 45) (h1 : isOpt dSkipOpts a = false) (h2 : isOpt dFlagOpts a = false) (h3 : isOpt dArgOpts a = false) :
    dArgLoop s (a :: rest) = .error (.exit 1 (some [])) := by
  unfold dArgLoop
  simp only [hne, beq_iff_eq, hdash, h1, h3, ne_str_of_isOpt_false h2 (t := "--single") (by simp [dFlagOpts]),
    ne_str_of_isOpt_false h2 (t := "--taskset") (by simp [dFlagOpts]), ne_str_of_isOpt_false h2 (t := "-v") (by simp [dFlagOpts]),
    ne_str_of_isOpt_false h2 (t := "--verbose") (by simp [dFlagOpts]), ne_str_of_isOpt_false h2 (t := "--reverse") (by simp [dFlagOpts]),
    Bool.or_self, Bool.false_eq_true, if_false, if_true]

/-- … and (after fix F44) a number argument that is not a non-negative decimal number, or a second number -/
theorem C20_distrib_invalid_number (s : DSt) (a : Bytes) (rest : List Bytes) (hne : a ≠ str "--")
    (hdash : a.head? ≠ some 45) (hbad : s.n.isSome = true ∨ numberArg a = some none) :
    dArgLoop s (a :: rest) = .error (.exit 1 (some [])) := by
  unfold dArgLoop
  have hd : (a.head? == some 45) = false := by simp [hdash]
  simp only [hne, beq_iff_eq, hd, Bool.false_eq_true, if_false]
  cases hn : s.n with
  | some k => rfl
  | none =>
    rcases hbad with h | h
    · rw [hn] at h; cases h
    · simp only [h]

/-! ### stdin mode (no location on the command line): line by line, every line from a fresh state -/

/-- a stdin line is computed from a fresh state: the cpuset and the nodeset the state holds when the line starts (what the command
    line or an earlier line left there) are not read — under every option, in particular without `-n`, `--ni`, `--no`, `--nof` -/
theorem C20_calc_stdin_line_fresh (c : Ctx) (s : St) (cfg : OutCfg) (line : Bytes) (a b : Bitmap) :
    lineOut c { s with cpuset := a, nodeset := b } cfg line = lineOut c s cfg line := rfl

/-- the output of line k depends only on line k and the options: a successful stdin run prints exactly the concatenation of what
    the lines before, the line itself and the lines after print when each is the whole input -/
theorem C20_calc_stdin_lines_independent (c : Ctx) (s : St) (cfg : OutCfg) (l1 : List Bytes) (l : Bytes) (l2 : List Bytes)
    (acc out : Bytes) (h : stdinLoop c s cfg (l1 ++ l :: l2) acc = .exit 0 (some out)) :
    ∃ o1 o o2, out = acc ++ o1 ++ o ++ o2 ∧ stdinLoop c s cfg l1 [] = .exit 0 (some o1) ∧
      stdinLoop c s cfg [l] [] = .exit 0 (some o) ∧ stdinLoop c s cfg l2 [] = .exit 0 (some o2) := by
  obtain ⟨outs, hlo, hout⟩ := (stdinLoop_ok_iff c s cfg _ acc out).mp h
  obtain ⟨o1s, rest, rfl, h1, h2⟩ := LinesOut.split l1 (l :: l2) outs hlo
  cases h2 with
  | cons hl h3 =>
    rename_i o o2s
    refine ⟨o1s.flatten, o, o2s.flatten, ?_, ?_, ?_, ?_⟩
    · rw [hout]; simp [List.append_assoc]
    · exact (stdinLoop_ok_iff c s cfg l1 [] _).mpr ⟨o1s, h1, by simp⟩
    · exact (stdinLoop_ok_iff c s cfg [l] [] _).mpr ⟨[o], LinesOut.cons hl LinesOut.nil, by simp⟩
    · exact (stdinLoop_ok_iff c s cfg l2 [] _).mpr ⟨o2s, h3, by simp⟩

/-- … and it is what the command line computes: for an option list `opts` without accepted location (`nlocs = 0`) and with `-q`
    (no banner), a successful stdin run prints one block per input line, and block k equals the stdout of
    `hwloc-calc opts <locations of line k>` whenever that run succeeds and prints something (a command line whose locations are all
    ignored reads its own stdin instead).  This is the relation the `SL` runs of the engine check on the real tool. -/
theorem C20_calc_stdin_line_eq_cmdline (d : Dump) (opts : List Bytes) (s : St) (stdin out : Bytes)
    (hloop : argLoop (mkCtx d) {} opts = .ok s) (hn : s.nlocs = 0) (hq : s.verbose < 0)
    (h1 : calcMain d opts stdin = .exit 0 (some out)) :
    ∃ outs : List Bytes, outs.length = (linesOf stdin).length ∧ out = outs.flatten ∧
      ∀ (k : Nat) (hk : k < (linesOf stdin).length) (hk' : k < outs.length) (o : Bytes),
        (∀ t ∈ tokensOf (linesOf stdin)[k], t.head? ≠ some 45) →
        calcMain d (opts ++ tokensOf (linesOf stdin)[k]) [] = .exit 0 (some o) → o ≠ [] → outs[k] = o := by
  have g1 := go_of_calcMain_exit h1
  obtain ⟨cfg, hcfg, ⟨_, g3⟩ | ⟨hz, _⟩⟩ := calcMain.go_ok hloop g1
  · rw [banner_neg (show (convState s).verbose < 0 from hq)] at g3
    obtain ⟨outs, hlo, hout⟩ := (stdinLoop_ok_iff (mkCtx d) (convState s) cfg (linesOf stdin) [] out).mp g3
    refine ⟨outs, hlo.length_eq, by simpa using hout, ?_⟩
    intro k hk hk' o hdash h2 ho
    have hL := hlo.get k hk hk'
    have hC := lineOut_of_cmdline d opts s cfg (linesOf stdin)[k] o hloop hn hq hcfg hdash h2 ho
    rw [hL] at hC
    cases hC
    rfl
  · exact absurd hn hz

/-! ### non-vacuity -/

/-- the dump of the synthetic topology `core:2 pu:1` (Machine, 2 Cores, 2 PUs, 1 NUMANode), as printed by harness/dump.h -/
def exDump : Dump :=
  { flags := 0, depth := 3, root := 0, nobjs := 6, allowedCpuset := some 0x3, allowedNodeset := some 0x1,
    filters := [0, 0, 0, 0, 0, 0, 0, 0, 0, 0, 1, 1, 1, 2, 0, 1, 1, 1, 1, 1],
    objs := [
    { id := 0, type := 0, depth := 0, lidx := 0, osidx := 0, gp := 1, parent := (-1), rank := 0, arity := 2, marity := 1, ioarity := 0, miscarity := 0,
      nextSib := (-1), prevSib := (-1), nextCousin := (-1), prevCousin := (-1), firstChild := 1, lastChild := 3, memFirst := 5, ioFirst := (-1), miscFirst := (-1), symm := 1,
      cpuset := some 0x3, ccpuset := some 0x3, nodeset := some 0x1, cnodeset := some 0x1, totalMem := 1073741824, attrs := [0, 0, 0, 0, 0, 0], children := [1, 3], subtype := none, name := none, infos := [] },
    { id := 1, type := 3, depth := 1, lidx := 0, osidx := 0, gp := 3, parent := 0, rank := 0, arity := 1, marity := 0, ioarity := 0, miscarity := 0,
      nextSib := 3, prevSib := (-1), nextCousin := 3, prevCousin := (-1), firstChild := 2, lastChild := 2, memFirst := (-1), ioFirst := (-1), miscFirst := (-1), symm := 1,
      cpuset := some 0x1, ccpuset := some 0x1, nodeset := some 0x1, cnodeset := some 0x1, totalMem := 0, attrs := [0, 0, 0, 0, 0, 0], children := [2], subtype := none, name := none, infos := [] },
    { id := 2, type := 4, depth := 2, lidx := 0, osidx := 0, gp := 2, parent := 1, rank := 0, arity := 0, marity := 0, ioarity := 0, miscarity := 0,
      nextSib := (-1), prevSib := (-1), nextCousin := 4, prevCousin := (-1), firstChild := (-1), lastChild := (-1), memFirst := (-1), ioFirst := (-1), miscFirst := (-1), symm := 1,
      cpuset := some 0x1, ccpuset := some 0x1, nodeset := some 0x1, cnodeset := some 0x1, totalMem := 0, attrs := [0, 0, 0, 0, 0, 0], children := [], subtype := none, name := none, infos := [] },
    { id := 3, type := 3, depth := 1, lidx := 1, osidx := 1, gp := 5, parent := 0, rank := 1, arity := 1, marity := 0, ioarity := 0, miscarity := 0,
      nextSib := (-1), prevSib := 1, nextCousin := (-1), prevCousin := 1, firstChild := 4, lastChild := 4, memFirst := (-1), ioFirst := (-1), miscFirst := (-1), symm := 1,
      cpuset := some 0x2, ccpuset := some 0x2, nodeset := some 0x1, cnodeset := some 0x1, totalMem := 0, attrs := [0, 0, 0, 0, 0, 0], children := [4], subtype := none, name := none, infos := [] },
    { id := 4, type := 4, depth := 2, lidx := 1, osidx := 1, gp := 4, parent := 3, rank := 0, arity := 0, marity := 0, ioarity := 0, miscarity := 0,
      nextSib := (-1), prevSib := (-1), nextCousin := (-1), prevCousin := 2, firstChild := (-1), lastChild := (-1), memFirst := (-1), ioFirst := (-1), miscFirst := (-1), symm := 1,
      cpuset := some 0x2, ccpuset := some 0x2, nodeset := some 0x1, cnodeset := some 0x1, totalMem := 0, attrs := [0, 0, 0, 0, 0, 0], children := [], subtype := none, name := none, infos := [] },
    { id := 5, type := 14, depth := (-3), lidx := 0, osidx := 0, gp := 6, parent := 0, rank := 0, arity := 0, marity := 0, ioarity := 0, miscarity := 0,
      nextSib := (-1), prevSib := (-1), nextCousin := (-1), prevCousin := (-1), firstChild := (-1), lastChild := (-1), memFirst := (-1), ioFirst := (-1), miscFirst := (-1), symm := 0,
      cpuset := some 0x3, ccpuset := some 0x3, nodeset := some 0x1, cnodeset := some 0x1, totalMem := 1073741824, attrs := [1073741824, 1, 0, 0, 0, 0], children := [], subtype := none, name := none, infos := [] }],
    levels := [⟨0, 0, [0]⟩, ⟨1, 3, [1, 3]⟩, ⟨2, 4, [2, 4]⟩, ⟨(-3), 14, [5]⟩, ⟨(-4), 16, []⟩, ⟨(-5), 17, []⟩, ⟨(-6), 18, []⟩, ⟨(-7), 19, []⟩, ⟨(-8), 15, []⟩],
    typeDepths := [0, (-1), (-1), 1, 2, (-1), (-1), (-1), (-1), (-1), (-1), (-1), (-1), (-1), (-3), (-8), (-4), (-5), (-6), (-7)] }

/-- non-vacuity / tests on `core:2 pu:1` with two registered kinds {PU0} (CoreType=big) and {PU1}, and a `Bandwidth` value of the
    node from the initiator {PU0, PU1} -/
def exExtra : Extra :=
  { kinds := [⟨1, 0, [(str "CoreType", str "big")]⟩, ⟨2, 1, []⟩],
    attrs := [⟨str "Capacity", 1, [(6, 0)], []⟩, ⟨str "Locality", 2, [(6, 2)], []⟩, ⟨str "Bandwidth", 5, [], [(6, some [(.cpuset 3, 10)])]⟩] }

/-- What the examples quote of the tools on `core:2 pu:1`, evaluated together: most of what a run costs the kernel is decoding
    the string literals of the model's option tables, and inside one declaration that is done once. -/
theorem ex_runs :
    (calcMain exDump [str "-q", str "-N", str "numa"] (str "pu:0\n0x0\n\nzzz:0 pu:1\n") = .exit 0 (some (str "1\n0\n0\n1\n")) ∧
      calcMain exDump [str "-q", str "-N", str "numa", str "pu:0"] [] = .exit 0 (some (str "1\n")) ∧
      calcMain exDump [str "-q", str "-N", str "numa", str "0x0"] [] = .exit 0 (some (str "0\n")) ∧
      calcMain exDump [str "-q", str "-N", str "numa", str "zzz:0", str "pu:1"] [] = .exit 0 (some (str "1\n")) ∧
      isOpt topoOpts (str "-q") = false ∧
      (match argLoop (mkCtx exDump) {} [str "-q", str "-N", str "numa"] with
        | .ok s => s.nlocs == 0 && decide (s.verbose < 0)
        | .error _ => false) = true ∧
      (match argLoop (mkCtx exDump) {} [str "-q", str "-N", str "numa"] with
        | .ok s => pseudoOf s.numberOf == none && pseudoOf s.intersect == none
        | .error _ => false) = true ∧
      (optScan [str "all", str "--foo"] = .fails ∧ optScan [str "--cof"] = .fails ∧ optScan [str "--cof", str "bogus", str "all"] = .fails ∧
        optScan [str "--cif", str "systemd-dbus-api"] = .fails ∧ optScan [str "--sep", str "--foo", str "zzz:0"] = .accepts)) ∧
    (calcMainX exDump exExtra [str "--cpukind", str "1", str "all"] [] = .exit 0 (some (str "0x00000002\n")) ∧
      calcMainX exDump exExtra [str "--cpukind", str "CoreType=big", str "all"] [] = .exit 0 (some (str "0x00000001\n")) ∧
      calcMainX exDump exExtra [str "--cpukind", str "7", str "all"] [] = .exit 0 (some (str "0x0\n")) ∧
      calcMainX exDump exExtra [str "--cpukind", str "x", str "all"] [] = .exit 1 (some []) ∧
      calcMainX exDump exExtra [str "-I", str "cpukind", str "--oo", str "pu:1"] [] = .exit 0 (some (str "cpukind:1\n")) ∧
      calcMainX exDump exExtra [str "--local-memory", str "pu:0"] [] = .exit 0 (some (str "0\n")) ∧
      calcMainX exDump exExtra [str "--local-memory-flags", str "smaller", str "pu:0"] [] = .exit 0 (some (str "\n")) ∧
      calcMainX exDump exExtra [str "--best-memattr", str "bandwidth,strict", str "--oo", str "pu:0"] [] = .exit 0 (some (str "NUMANode:0\n")) ∧
      calcMainX exDump exExtra [str "--best-memattr", str "nosuch", str "pu:0"] [] = .exit 1 (some []) ∧
      calcMainX exDump exExtra [str "-n", str "--default-nodes", str "all"] [] = .exit 0 (some (str "0x00000001\n")) ∧
      ((parseFlags localFlagTable (str "larger|flag_all")).toOption = some (some 5) ∧ (parseFlags localFlagTable (str "all")).toOption = some none ∧ (parseFlags localFlagTable (str "locality")).toOption = some none ∧
        (parseFlags localFlagTable (str "ALL$")).toOption = some (some 4) ∧ (parseFlags localFlagTable (str "none")).toOption = some (some 0))) := by decide +kernel

/-- stdin mode on `core:2 pu:1` (one NUMA node): `-q -N numa` fed "pu:0", "0x0", "" and "zzz:0 pu:1" prints 1, 0, 0, 1 — the node
    selected by the first line is not counted for the second and third — and each block is the command-line output -/
example : calcMain exDump [str "-q", str "-N", str "numa"] (str "pu:0\n0x0\n\nzzz:0 pu:1\n") = .exit 0 (some (str "1\n0\n0\n1\n")) := ex_runs.1.1
example : calcMain exDump [str "-q", str "-N", str "numa", str "pu:0"] [] = .exit 0 (some (str "1\n")) := ex_runs.1.2.1
example : calcMain exDump [str "-q", str "-N", str "numa", str "0x0"] [] = .exit 0 (some (str "0\n")) := ex_runs.1.2.2.1
example : calcMain exDump [str "-q", str "-N", str "numa", str "zzz:0", str "pu:1"] [] = .exit 0 (some (str "1\n")) := ex_runs.1.2.2.2.1
/-- the hypotheses of `C20_calc_stdin_line_eq_cmdline` on that option list: no accepted location, no banner -/
example : (match argLoop (mkCtx exDump) {} [str "-q", str "-N", str "numa"] with
    | .ok s => s.nlocs == 0 && decide (s.verbose < 0)
    | .error _ => false) = true := ex_runs.1.2.2.2.2.2.1
example : linesOf (str "pu:0\n0x0\n\nzzz:0 pu:1\n") = [str "pu:0", str "0x0", [], str "zzz:0 pu:1"] ∧ linesOf (str "a\nb") = [str "a", str "b"] ∧
    tokensOf (str " zzz:0  pu:1 ") = [str "zzz:0", str "pu:1"] := by
  simp -index only [str_ofList]
  decide +kernel
/-- the operators on concrete sets: `0x0f ~0x03 x0x0e ^0x18` -/
example : (applyMode .xor (applyMode .and (applyMode .clr (applyMode .add Bitmap.alloc (ofMask 0x0f)) (ofMask 0x03)) (ofMask 0x0e)) (ofMask 0x18)).mem 4 = true := by decide +kernel
example : parseRange (str "3-0") = .err := by decide +kernel
example : parseRange (str "2:-1") = .err := by decide +kernel
example : parseRange (str "2:0") = .err := by decide +kernel
example : parseRange (str "3-3") = .ok ⟨3, 1, 1, false⟩ := by decide +kernel
example : parseRange (str "1-") = .ok ⟨1, -1, 1, false⟩ := by decide +kernel
example : parseRange (str "odd") = .ok ⟨1, -1, 2, false⟩ := by decide +kernel
example : rangeIters ⟨9, -1, 1, false⟩ 8 = 0 ∧ rangeIters ⟨1, -1, 2, false⟩ 8 = 4 ∧ rangeIters ⟨2, 3, 1, true⟩ 8 = 3 := by decide +kernel
example : optScan [str "all", str "--foo"] = .fails ∧ optScan [str "--cof"] = .fails ∧ optScan [str "--cof", str "bogus", str "all"] = .fails ∧
    optScan [str "--cif", str "systemd-dbus-api"] = .fails ∧ optScan [str "--sep", str "--foo", str "zzz:0"] = .accepts := ex_runs.1.2.2.2.2.2.2.2
example : numberArg (str "abc") = some none ∧ numberArg (str "3x") = some none ∧ numberArg (str "+3") = some (some 3) := by decide +kernel
example : splitMode (str "~core:0") = (.clr, str "core:0") := by decide +kernel
example : (Bitmap.singlify (ofMask 0x18)).mem 3 = true := by decide +kernel

/-! ### the options that read CPU kinds and memory attributes (model: Hw/Io/CalcAttr.lean) -/

/-- the `--cpukind` filter is the intersection with the kind's cpuset (no `--cpukind`: nothing changes) -/
theorem C20_calc_cpukind_filter (k : Option Nat) (S : Bitmap) (i : Nat) :
    (cpusetAfterKind k S).mem i = (S.mem i && (match k with | none => true | some m => m.testBit i)) := by
  cases k with
  | none => simp [cpusetAfterKind]
  | some m => simp [cpusetAfterKind, Bitmap.mem_and, mem_ofMask]

/-- the cpuset of `--cpukind <n>` is the cpuset `hwloc_cpukinds_get_info` reports for kind `n` (empty beyond the last kind), the one
    of `--cpukind <name>=<value>` is the union of the kinds carrying that info pair; an index wins over a pair -/
theorem C20_calc_cpukind_set (x : Extra) (ks : KSel) :
    kindSet x ks = (match ks.index, ks.info with
      | some n, _ => some (((x.kinds[n]?).map (·.cpuset)).getD 0)
      | none, some (nm, vl) => some ((x.kinds.filter (kindMatches nm vl)).foldl (fun acc kd => acc ||| kd.cpuset) 0)
      | none, none => none) := by
  cases ks with
  | mk idx info =>
    cases idx with
    | some n => cases h : x.kinds[n]? <;> simp [kindSet, h]
    | none => cases info with
      | none => rfl
      | some p => rfl

theorem opBool_and (m : Mode) (x y k : Bool) : (opBool m x y && k) = opBool m (x && k) (y && k) := by
  cases m <;> cases x <;> cases y <;> cases k <;> rfl

theorem mem_foldModes (i : Nat) (l : List (Mode × Bitmap)) (a : Bitmap) :
    (foldModes a l).mem i = l.foldl (fun x p => opBool p.1 x (p.2.mem i)) (a.mem i) :=
  (List.foldl_hom (·.mem i) fun a p => (mem_applyMode p.1 a p.2 i).symm).symm

/-- the filter commutes with the operator fold: hwloc-calc folds the location sets first (C20_calc_fold) and intersects ONCE in
    hwloc_calc_output; the result has the members of the fold of the filtered location sets from the filtered start set, for all
    four operators and every location list -/
theorem C20_calc_cpukind_commutes_fold (K acc : Bitmap) (l : List (Mode × Bitmap)) (i : Nat) :
    ((foldModes acc l).and K).mem i = (foldModes (acc.and K) (l.map (fun p => (p.1, p.2.and K)))).mem i := by
  rw [Bitmap.mem_and, mem_foldModes, mem_foldModes, Bitmap.mem_and]
  rw [List.foldl_map]
  exact (List.foldl_hom (· && K.mem i) fun x p => by rw [opBool_and, Bitmap.mem_and]).symm

/-- the exact order inside hwloc_calc_output: cpuset ∩ kind and nodeset ∩ default nodes FIRST, then --no-smt, --single and the output
    mode (`output` of Hw.Io.Calc), whenever no cpukind / memorytier pseudo level and no --local-memory* / --best-memattr is given -/
theorem C20_calc_attr_filters_first (c : Ctx) (x : Extra) (k : Option Nat) (s : St) (xs : XSt) (cfg : OutCfg) (cpuset nodeset : Bitmap)
    (hl : xs.localMem = false) :
    outputX c x k s xs cfg {} cpuset nodeset = output c s cfg (cpusetAfterKind k cpuset) (nodesetAfterDefault c.d xs nodeset) :=
  outputX_eq_output c x k s xs cfg cpuset nodeset hl

/-- `--default-nodes` intersects the nodeset with the C14 default nodeset of the topology (`Hw.MemAttrs.defaultNodeset`, flags 0) -/
theorem C20_calc_default_nodes (d : Dump) (xs : XSt) (N : Bitmap) (i : Nat) :
    MemAttrs.defaultNodeset (envOf d) 0 = .ok (defaultNodes d) ∧
    (nodesetAfterDefault d xs N).mem i = (N.mem i && (!xs.defaultNodes || (defaultNodes d).testBit i)) := by
  constructor
  · simp [defaultNodes, MemAttrs.defaultNodeset]
  · unfold nodesetAfterDefault
    cases xs.defaultNodes <;> simp [Bitmap.mem_and, mem_ofMask]

/-- `--local-memory[-flags f]` starts from exactly the NUMA nodes the flags select for the CPUSET location — the C14 model of
    `hwloc_get_local_numanode_objs` (`localNodes_cpuset_spec`, `matchLocal_iff`) on the NUMA level of the dump, in logical order —
    and from nothing (only the newline is printed) when the flags have a bit above 4 -/
theorem C20_calc_local_memory (d : Dump) (cs flags : Nat) :
    (flags < 8 →
      localNumaObjs d cs flags = some ((numaObjs d).filter (fun o => MemAttrs.matchLocal flags cs (maObj o))) ∧
      MemAttrs.localNodes (envOf d) (.cpuset cs) flags (numaObjs d).length false =
        .ok (((numaObjs d).filter (fun o => MemAttrs.matchLocal flags cs (maObj o))).length,
             ((numaObjs d).filter (fun o => MemAttrs.matchLocal flags cs (maObj o))).map maObj)) ∧
    (8 ≤ flags → localNumaObjs d cs flags = none) := by
  refine ⟨fun h8 => ?_, fun h8 => ?_⟩
  · have hs := MemAttrs.localNodes_cpuset_spec (envOf d) cs flags (numaObjs d).length h8
    have hf : (envOf d).nodes.filter (MemAttrs.matchLocal flags cs) =
        ((numaObjs d).filter (fun o => MemAttrs.matchLocal flags cs (maObj o))).map maObj := by
      simp only [envOf, List.filter_map]
      rfl
    have hlen : ((envOf d).nodes.filter (MemAttrs.matchLocal flags cs)).length ≤ (numaObjs d).length := by
      have := List.length_filter_le (MemAttrs.matchLocal flags cs) (envOf d).nodes
      simpa [envOf] using this
    constructor
    · unfold localNumaObjs; rw [hs]
    · rw [hs, List.take_of_length_le hlen, hf, List.length_map]
  · unfold localNumaObjs
    rw [MemAttrs.localNodes_badflags _ _ _ _ _ h8]

/-- the widened option loop agrees with `argLoop` wherever that one goes through (on the four memory options it answers `skip`) -/
theorem C20_calc_attr_loop_extends (c : Ctx) (argv : List Bytes) (s s' : St) (xs : XSt) (h : argLoop c s argv = .ok s') :
    argLoopX c s xs argv = .ok (s', xs) := by
  rcases argLoopX_eq_argLoop c s argv xs with e | e
  · rw [h] at e; cases e
  · rw [e, h]; rfl

/-- conservative extension: without `--cpukind`, without the four memory options (`argLoop` goes through) and without the
    cpukind / memorytier pseudo levels, the widened model `calcMainX` is `calcMain` whatever CPU kinds and memory attribute
    values the topology has — C20_calc_fold … C20_calc_stdin_line_eq_cmdline keep describing what the driver answers -/
theorem C20_calc_attr_conservative (d : Dump) (x : Extra) (argv : List Bytes) (stdin : Bytes) (s : St)
    (h0 : ∀ a, argv.head? = some a → isOpt topoOpts a = false)
    (hs : argLoop (mkCtx d) {} argv = .ok s)
    (hn : pseudoOf s.numberOf = none) (hi : pseudoOf s.intersect = none) :
    calcMainX d x argv stdin = calcMain d argv stdin :=
  calcMainX_eq_calcMain d x stdin h0 (by rw [hs]; exact nofun) fun s' h => by cases hs.symm.trans h; exact ⟨hn, hi⟩

/-- non-vacuity: `-q -N numa` (stdin mode) meets the hypotheses -/
example : (∀ a, [str "-q", str "-N", str "numa"].head? = some a → isOpt topoOpts a = false) ∧
    (match argLoop (mkCtx exDump) {} [str "-q", str "-N", str "numa"] with
     | .ok s => pseudoOf s.numberOf == none && pseudoOf s.intersect == none
     | .error _ => false) = true := by
  refine ⟨?_, ex_runs.1.2.2.2.2.2.2.1⟩
  intro a h
  cases h
  exact ex_runs.1.2.2.2.2.1

/-- `--best-memattr <attr>` for an attribute without initiator, when at least one local node has a value: the filter is exactly
    the set of os_indexes of the local nodes whose value is the best one (highest for HIGHER_FIRST, lowest otherwise; ties are all
    kept), whatever the DEFAULT / STRICT flags -/
theorem C20_calc_best_memattr_values (a : XAttr) (nodes : List Obj) (dflt strict : Bool) (cs : Nat) (inf : Bool) (dns : Nat)
    (hni : a.flags.testBit 2 = false) (p : Nat × Nat) (r : List (Nat × Nat)) (hv : valuePairs a nodes = p :: r) :
    bestNodeFilter a dflt strict cs inf dns nodes = (bestValueLoop a nodes).2 ∧
    (∃ q ∈ valuePairs a nodes, q.2 = (bestValueLoop a nodes).1) ∧
    (∀ q ∈ valuePairs a nodes, asGood (a.flags.testBit 0) (bestValueLoop a nodes).1 q.2) ∧
    (∀ j, (bestValueLoop a nodes).2.testBit j = true ↔ ∃ q ∈ valuePairs a nodes, q.1 = j ∧ q.2 = (bestValueLoop a nodes).1) := by
  have inv := bestFold_spec (a.flags.testBit 0) p r
  rw [← hv, ← bestValueLoop_eq] at inv
  refine ⟨?_, inv.attained, inv.best, inv.set⟩
  unfold bestNodeFilter
  have hnz : ((bestValueLoop a nodes).2 != 0) = true := by simpa using inv.nz
  simp only [hni, Bool.false_eq_true, if_false, hnz, if_true]

/-- non-vacuity: three nodes with values 5, 7, 7 under a HIGHER_FIRST attribute: both nodes with 7 are kept (mask 6) -/
example : bestFold true (0, 0) [(0, 5), (1, 7), (2, 7)] = (7, 6) := by decide +kernel

example : calcMainX exDump exExtra [str "--cpukind", str "1", str "all"] [] = .exit 0 (some (str "0x00000002\n")) := ex_runs.2.1
example : calcMainX exDump exExtra [str "--cpukind", str "CoreType=big", str "all"] [] = .exit 0 (some (str "0x00000001\n")) := ex_runs.2.2.1
example : calcMainX exDump exExtra [str "--cpukind", str "7", str "all"] [] = .exit 0 (some (str "0x0\n")) := ex_runs.2.2.2.1
example : calcMainX exDump exExtra [str "--cpukind", str "x", str "all"] [] = .exit 1 (some []) := ex_runs.2.2.2.2.1
example : calcMainX exDump exExtra [str "-I", str "cpukind", str "--oo", str "pu:1"] [] = .exit 0 (some (str "cpukind:1\n")) := ex_runs.2.2.2.2.2.1
example : calcMainX exDump exExtra [str "--local-memory", str "pu:0"] [] = .exit 0 (some (str "0\n")) := ex_runs.2.2.2.2.2.2.1
example : calcMainX exDump exExtra [str "--local-memory-flags", str "smaller", str "pu:0"] [] = .exit 0 (some (str "\n")) := ex_runs.2.2.2.2.2.2.2.1
example : calcMainX exDump exExtra [str "--best-memattr", str "bandwidth,strict", str "--oo", str "pu:0"] [] = .exit 0 (some (str "NUMANode:0\n")) := ex_runs.2.2.2.2.2.2.2.2.1
example : calcMainX exDump exExtra [str "--best-memattr", str "nosuch", str "pu:0"] [] = .exit 1 (some []) := ex_runs.2.2.2.2.2.2.2.2.2.1
example : calcMainX exDump exExtra [str "-n", str "--default-nodes", str "all"] [] = .exit 0 (some (str "0x00000001\n")) := ex_runs.2.2.2.2.2.2.2.2.2.2.1
example : (parseFlags localFlagTable (str "larger|flag_all")).toOption = some (some 5) ∧ (parseFlags localFlagTable (str "all")).toOption = some none ∧ (parseFlags localFlagTable (str "locality")).toOption = some none ∧
    (parseFlags localFlagTable (str "ALL$")).toOption = some (some 4) ∧ (parseFlags localFlagTable (str "none")).toOption = some (some 0) := ex_runs.2.2.2.2.2.2.2.2.2.2.2
example : (foldModes Bitmap.alloc [(.add, ofMask 0x0f), (.clr, ofMask 0x03), (.xor, ofMask 0x18)]).mem 4 = true := by decide +kernel

end Hw.Props.C20
