/-
  C09 — Traversal and locality helpers agree with their set-theoretic definitions.

  Model: Hw/Topo/Helpers.lean, Hw/Topo/Distrib.lean (helper.h, inlines.h, traversal.c 172-264, 846-961).
  All theorems are stated for a dump `d` under `WFT d` = `WF d` (C01 well-formedness, Hw/Topo/WF.lean) together
  with `T_order d` (DFS numbering of the dump: a parent's id is smaller than its children's — a property of how
  harness/dump.h numbers objects, not of the topology).  The proofs go through `Tree d` (Hw/Topo/WFLemmas.lean: the
  structural consequences of WF in quantified form), which Hw/Topo/WFTree.lean derives from `WF d ∧ T_order d`
  (`Tree_of_wf_partial`).  Both oracles (`wfCheck`, `treeCheck`) are evaluated by the `helpers` driver on every
  topology of every differential run.
-/
import Hw.Topo.HelpersIter
import Hw.Topo.HelpersLocal
import Hw.Topo.HelpersAnc
import Hw.Topo.DistribLemmas
import Hw.Topo.HelpersCover
import Hw.Topo.WFTree
namespace Hw.Props.C09
open Hw.Topo

/-- hypothesis of every theorem: well-formed (C01) and numbered in DFS order -/
structure WFT (d : Dump) : Prop where
  wf : WF d
  order : T_order d

theorem WFT.tree {d : Dump} (h : WFT d) : Tree d := Tree_of_wf_partial h.wf h.order

instance (d : Dump) : Decidable (WFT d) :=
  decidable_of_iff (WF d ∧ T_order d) ⟨fun h => ⟨h.1, h.2⟩, fun h => ⟨h.wf, h.order⟩⟩

/-- the two executable oracles run by the driver on every dump decide the hypothesis -/
theorem C09_oracle (d : Dump) : (wfCheck d = [] ∧ treeCheck d = []) ↔ WFT d :=
  ⟨fun h => ⟨(wfCheck_iff d).1 h.1, ((treeCheck_iff d).1 h.2).order⟩,
   fun h => ⟨(wfCheck_iff d).2 h.wf, (treeCheck_iff d).2 h.tree⟩⟩

/-- `Tree` is derived: under well-formedness it is equivalent to the DFS numbering alone -/
theorem C09_tree_of_wf {d : Dump} (hw : WF d) : Tree d ↔ T_order d :=
  ⟨fun t => t.order, fun o => Tree_of_wf_partial hw o⟩

/-! ### covering -/

/-- hwloc_get_obj_covering_cpuset: for a non-empty `S` included in the root the result includes `S`, and every
    normal object whose cpuset includes `S` is the result or one of its ancestors (so the result is the deepest) -/
theorem C09_covering_deepest {d : Dump} (h : WFT d) {S : Nat} {r : Obj} (hS : S ≠ 0) (hr : d.rootObj? = some r)
    (hsub : subset S (cs r) = true) :
    ∃ c, objCovering d S = some c ∧ c ∈ d.objs ∧ isNormal c.type = true ∧ subset S (cs c) = true ∧
      (∀ o ∈ d.objs, isNormal o.type = true → subset S (cs o) = true → AncSelf d o c) ∧
      (∀ o ∈ d.objs, isNormal o.type = true → subset S (cs o) = true → o.depth ≤ c.depth) := by
  obtain ⟨c, h1, h2, h3, h4, h5⟩ := covering_deepest h.tree hS hr hsub
  exact ⟨c, h1, h2, h3, h4, h5, fun o ho hn hs => (h.tree.ancSelf_normal (h5 o ho hn hs) h2 h3).2.2.1⟩

/-- `S = ∅` or `S ⊄ root` → NULL -/
theorem C09_covering_none {d : Dump} {S : Nat} {r : Obj} (hr : d.rootObj? = some r)
    (h : S = 0 ∨ subset S (cs r) = false) : objCovering d S = none := covering_none hr h

/-- the model agrees with the brute-force definition (deepest normal object including `S`) for every `S` -/
theorem C09_covering_eq_brute {d : Dump} (h : WFT d) (S : Nat) : objCovering d S = bruteObjCovering d S :=
  covering_eq_brute h.tree S

/-! ### largest objects inside -/

/-- hwloc_get_largest_objs_inside_cpuset with a large enough array: pairwise disjoint, each inside `S` and maximal
    (its parent is not inside `S`), union exactly `S` -/
theorem C09_largest_partition {d : Dump} (h : WFT d) {S : Nat} {r : Obj} (hr : d.rootObj? = some r)
    (hsub : subset S (cs r) = true) (max : Int) (hmax : max ≥ d.objs.length) (hpos : 0 < max) :
    (largestObjs d S max).1 = ((largestObjs d S max).2.length : Int) ∧
    (largestObjs d S max).2.Pairwise (fun a b => disjoint (cs a) (cs b) = true) ∧
    (∀ o ∈ (largestObjs d S max).2, o ∈ d.objs ∧ isNormal o.type = true ∧ subset (cs o) S = true ∧
      (∀ p, d.obj? o.parent = some p → subset (cs p) S = false)) ∧
    orAll ((largestObjs d S max).2.map cs) = S :=
  largest_partition h.tree hr hsub max hmax hpos

/-- `S ⊄ root` → -1 -/
theorem C09_largest_not_included {d : Dump} {S : Nat} {r : Obj} (max : Int) (hr : d.rootObj? = some r)
    (h : subset S (cs r) = false) : (largestObjs d S max).1 = -1 := largest_not_included max hr h

/-- with a small `max` exactly the first `max` objects of the full answer are returned -/
theorem C09_largest_max (d : Dump) (S : Nat) {m M : Int} (hm : 0 < m) (hmM : m ≤ M) :
    (largestObjs d S m).2 = ((largestObjs d S M).2).take m.toNat ∧
    (largestObjs d S m).1 = min m (largestObjs d S M).1 := largestObjs_max d S hm hmM

/-- the full answer is (a permutation of) the brute-force filter over all objects -/
theorem C09_largest_eq_brute {d : Dump} (h : WFT d) {S : Nat} {r : Obj} (hr : d.rootObj? = some r)
    (hsub : subset S (cs r) = true) (max : Int) (hmax : max ≥ d.objs.length) (hpos : 0 < max) (hr0 : cs r ≠ 0) :
    (largestObjs d S max).2.Perm (bruteLargest d S) := (largest_eq_brute h.tree hr hsub max hmax hpos hr0).2

/-! ### iterators -/

/-- a level lists exactly the objects of its depth, in logical order; it is the brute-force level -/
theorem C09_level_spec {d : Dump} (h : WFT d) (depth : Int) :
    (∀ o, o ∈ levelObjs d depth ↔ (o ∈ d.objs ∧ o.depth = depth)) ∧
    (levelObjs d depth).map (·.lidx) = List.range (levelObjs d depth).length ∧
    levelObjs d depth = bruteLevel d depth :=
  ⟨fun _ => h.tree.mem_levelObjs, level_spec_order h.tree depth, level_spec_brute h.tree depth⟩

/-- iterating hwloc_get_next_obj_inside_cpuset_by_depth from NULL yields exactly the level's objects with non-empty
    cpuset ⊆ S, in logical order; count / index / by-index variants are consistent with it -/
theorem C09_iter_inside {d : Dump} (h : WFT d) (S : Nat) (depth : Int) :
    iterNext (nextInsideByDepth d S depth) d.fuel none = (levelObjs d depth).filter (insideOk S) ∧
    iterNext (nextInsideByDepth d S depth) d.fuel none = bruteInside d S depth ∧
    nbobjsInsideByDepth d S depth = ((levelObjs d depth).filter (insideOk S)).length ∧
    (∀ idx, objInsideByDepth d S depth idx = ((levelObjs d depth).filter (insideOk S))[idx]?) :=
  ⟨iter_inside h.tree S depth, iter_inside_brute h.tree S depth, nbobjs_inside h.tree S depth,
   fun idx => obj_inside h.tree S depth idx⟩

theorem C09_index_inside {d : Dump} (h : WFT d) {o : Obj} (ho : o ∈ d.objs) (S : Nat) :
    (insideOk S o = true → 0 ≤ indexInside d S o ∧
      ((levelObjs d o.depth).filter (insideOk S))[(indexInside d S o).toNat]? = some o) ∧
    (subset (cs o) S = false → indexInside d S o = -1) :=
  ⟨fun hin => index_inside h.tree ho S hin, fun hn => index_inside_notsub d S o hn⟩

/-- hwloc_get_next_obj_covering_cpuset_by_depth: exactly the level's objects intersecting `S`, in logical order -/
theorem C09_iter_covering {d : Dump} (h : WFT d) (S : Nat) (depth : Int) :
    iterNext (nextCoveringByDepth d S depth) d.fuel none = (levelObjs d depth).filter (coverOk S) ∧
    iterNext (nextCoveringByDepth d S depth) d.fuel none = bruteCovering d S depth :=
  ⟨iter_covering h.tree S depth, iter_covering_brute h.tree S depth⟩

/-- the by-type iterators are the by-depth ones on the type's single level, and empty otherwise -/
theorem C09_iter_by_type {d : Dump} (h : WFT d) (S : Nat) (t : Int) :
    iterNext (nextInsideByType d S t) d.fuel none
      = (if isSingleDepth (typeDepth d t) = true then (levelObjs d (typeDepth d t)).filter (insideOk S) else []) ∧
    iterNext (nextCoveringByType d S t) d.fuel none
      = (if isSingleDepth (typeDepth d t) = true then (levelObjs d (typeDepth d t)).filter (coverOk S) else []) :=
  ⟨iter_inside_by_type h.tree S t, iter_covering_by_type h.tree S t⟩

/-! ### ancestors -/

/-- hwloc_get_common_ancestor_obj (the depth-free double loop of helper.h after fix 82dfc45), for ALL objects of the
    dump — normal, memory, I/O or Misc in any mix: the loops terminate, the result is never NULL, it is a common
    ancestor-or-self of both arguments and every common ancestor is an ancestor-or-self of it (the deepest common
    ancestor); the call is symmetric and equals the brute-force filter over all objects -/
theorem C09_common_ancestor {d : Dump} (h : WFT d) {o1 o2 : Obj} (h1 : o1 ∈ d.objs) (h2 : o2 ∈ d.objs) :
    ∃ a, commonAncestor d o1 o2 = some a ∧ commonAncestor d o2 o1 = some a ∧ a ∈ d.objs ∧
      AncSelf d a o1 ∧ AncSelf d a o2 ∧ (∀ b, AncSelf d b o1 → AncSelf d b o2 → AncSelf d b a) ∧
      commonAncestor d o1 o2 = bruteCommonAncestor d o1 o2 := by
  obtain ⟨a, e1, ha, a1, a2, hmax⟩ := common_ancestor_all h.tree h1 h2
  exact ⟨a, e1, (common_ancestor_comm h.tree h1 h2) ▸ e1, ha, a1, a2, hmax, common_ancestor_all_eq_brute h.tree h1 h2⟩

/-- for normal arguments the result is normal and no common ancestor is deeper -/
theorem C09_common_ancestor_normal_depth {d : Dump} (h : WFT d) {o1 o2 : Obj} (h1 : o1 ∈ d.objs) (h2 : o2 ∈ d.objs)
    (n1 : isNormal o1.type = true) (n2 : isNormal o2.type = true) :
    ∃ a, commonAncestor d o1 o2 = some a ∧ isNormal a.type = true ∧ a.depth ≤ o1.depth ∧ a.depth ≤ o2.depth ∧
      ∀ b, AncSelf d b o1 → AncSelf d b o2 → b.depth ≤ a.depth := by
  obtain ⟨a, e1, _, hn, d1, d2, hd⟩ := common_ancestor_normal_depth h.tree h1 h2 n1 n2
  exact ⟨a, e1, hn, d1, d2, hd⟩

/-- hwloc_get_ancestor_obj_by_depth on a normal object, for a depth in `[0, obj.depth]`: the deepest ancestor-or-self
    not deeper than `k`; deeper `k` → NULL -/
theorem C09_ancestor_by_depth {d : Dump} (h : WFT d) {o : Obj} (ho : o ∈ d.objs) (hn : isNormal o.type = true) {k : Int} :
    (0 ≤ k → k ≤ o.depth → ∃ a, ancestorByDepth d k o = some a ∧ a ∈ d.objs ∧ AncSelf d a o ∧ a.depth ≤ k ∧
      (o.depth = k → a = o) ∧ ∀ b, AncSelf d b o → b.depth ≤ k → AncSelf d b a) ∧
    (o.depth < k → ancestorByDepth d k o = none) := by
  refine ⟨fun hk0 hk => ?_, fun hk => ancestor_by_depth_deeper d o hk⟩
  obtain ⟨a, e, ha, _, h1, h2, h3, h4⟩ := ancestor_by_depth_spec h.tree ho hk0 hk
  exact ⟨a, e, ha, h1, h2, h3, h4⟩

/-! ### closest objects -/

/-- hwloc_get_closest_objs (`src` normal or memory: every object with a cpuset): at most `max` objects of src's level,
    never `src`, no duplicates, ordered by ancestor distance (an ancestor of `src` that excludes an earlier result
    excludes every later one) -/
theorem C09_closest_order {d : Dump} (h : WFT d) {src : Obj} (hsrc : src ∈ d.objs)
    (hn : isNormal src.type = true ∨ isMemory src.type = true) (max : Nat) :
    (closestObjs d src max).length ≤ max ∧ src ∉ closestObjs d src max ∧ (closestObjs d src max).Nodup ∧
    (∀ o ∈ closestObjs d src max, o ∈ levelObjs d src.depth ∧ subset (cs o) (cs src) = false) ∧
    (closestObjs d src max).Pairwise (fun x y =>
      ∀ a, AncSelf d a src → subset (cs x) (cs a) = false → subset (cs y) (cs a) = false) :=
  ⟨closest_length d src max, closest_not_src h.tree hsrc hn max, closest_nodup h.tree hsrc hn max,
   closest_members h.tree hsrc hn max, closest_order h.tree hsrc hn max⟩

/-! ### cpuset <-> nodeset -/

/-- hwloc_cpuset_to_nodeset = os indexes of the NUMA nodes whose cpuset intersects `S`; hwloc_cpuset_from_nodeset = union
    of the cpusets of the NUMA nodes whose os index is in `N`; both equal their brute-force definitions; round trip
    covers every bit of `S` that lies in some node's cpuset -/
theorem C09_nodeset_conv {d : Dump} (h : WFT d) :
    (∀ S i, (cpusetToNodeset d S).testBit i = true ↔
      ∃ o ∈ d.objs, o.type = tNUMA ∧ o.osidx = (i : Int) ∧ intersects S (cs o) = true) ∧
    (∀ N i, (cpusetFromNodeset d N).testBit i = true ↔
      ∃ o ∈ d.objs, o.type = tNUMA ∧ N.testBit o.osidx.toNat = true ∧ (cs o).testBit i = true) ∧
    (∀ S, cpusetToNodeset d S = bruteCpusetToNodeset d S) ∧ (∀ N, cpusetFromNodeset d N = bruteCpusetFromNodeset d N) ∧
    (∀ S i, S.testBit i = true → (∃ o ∈ d.objs, o.type = tNUMA ∧ (cs o).testBit i = true) →
      (cpusetFromNodeset d (cpusetToNodeset d S)).testBit i = true) :=
  ⟨nodeset_conv_to h.tree, nodeset_conv_from h.tree, nodeset_conv_to_brute h.tree, nodeset_conv_from_brute h.tree,
   nodeset_galois h.tree⟩

/-! ### same locality -/

/-- hwloc_get_obj_with_same_locality, normal/memory branch: the result has the requested type, equal cpuset and nodeset,
    matching subtype / name prefix, and is the first such object in level order; ENOENT means there is none;
    non-zero flags are EINVAL -/
theorem C09_same_locality {d : Dump} (h : WFT d) {src : Obj} {t : Int} {subtype pre : Option String}
    (hsrc : (isNormal src.type || isMemory src.type) = true) :
    (∀ o, sameLocality d src t subtype pre 0 = .ok o →
      o ∈ d.objs ∧ (o.type : Int) = t ∧ o.cpuset = src.cpuset ∧ o.nodeset = src.nodeset ∧
      subtypeOk subtype o.subtype = true ∧ prefixOk pre o.name = true ∧
      ∀ o' ∈ d.objs, (o'.type : Int) = t → o'.cpuset = src.cpuset → o'.nodeset = src.nodeset →
        subtypeOk subtype o'.subtype = true → prefixOk pre o'.name = true → o.lidx ≤ o'.lidx) ∧
    (sameLocality d src t subtype pre 0 = .error .ENOENT → isSingleDepth (typeDepth d t) = true →
      ¬ ∃ o' ∈ d.objs, (o'.type : Int) = t ∧ o'.cpuset = src.cpuset ∧ o'.nodeset = src.nodeset ∧
        subtypeOk subtype o'.subtype = true ∧ prefixOk pre o'.name = true) ∧
    (∀ flags, flags ≠ 0 → sameLocality d src t subtype pre flags = .error .EINVAL) :=
  ⟨fun _ ho => same_locality_ok h.tree hsrc ho, fun he hs => same_locality_enoent h.tree hsrc he hs,
   fun _ hf => same_locality_flags d src t subtype pre hf⟩

/-! ### hwloc_distrib -/

/-- if some root is non-empty the call fills exactly `n` sets, none empty, each inside the union of the roots, and
    their union is the union of the roots (normal roots; Nat arithmetic = the C's unsigned arithmetic as long as
    `n * totalWeight + totalWeight < 2^32`) -/
theorem C09_distrib_count {d : Dump} (h : WFT d) (roots : List Obj) (n : Nat) (untl : Int) (flags : Nat)
    (hgood : ∀ r ∈ roots, r ∈ d.objs ∧ isNormal r.type = true)
    (hn : 0 < n) (hf : flags ≤ 1) (htot : 0 < totWeight roots) :
    ∃ sets, distrib d roots n untl flags = some sets ∧ sets.length = n ∧
      (∀ s ∈ sets, s ≠ 0 ∧ subset s (orAll (roots.map cs)) = true) ∧
      orAll sets = orAll (roots.map cs) := distrib_count h.tree roots n untl flags hgood hn hf htot

/-- pairwise disjoint when the roots are disjoint, `n` does not exceed the number of PUs below the roots and `until`
    is below every splitting point (`until ≥ topology depth`) -/
theorem C09_distrib_disjoint {d : Dump} (h : WFT d) (roots : List Obj) (n : Nat) (untl : Int) (flags : Nat)
    (hgood : ∀ r ∈ roots, r ∈ d.objs ∧ isNormal r.type = true)
    (hn : 0 < n) (hf : flags ≤ 1)
    (hpw : roots.Pairwise (fun a b => disjoint (cs a) (cs b) = true))
    (hu : (d.depth : Int) ≤ untl) (hntot : n ≤ totWeight roots) :
    ∃ sets, distrib d roots n untl flags = some sets ∧ sets.Pairwise (fun a b => disjoint a b = true) :=
  distrib_disjoint h.tree roots n untl flags hgood hn hf hpw hu hntot

/-- `n = 0` or flags other than REVERSE → -1; all roots empty → 0 and nothing is written -/
theorem C09_distrib_degenerate (d : Dump) (roots : List Obj) (n : Nat) (untl : Int) (flags : Nat) :
    ((n = 0 ∨ (flags ≠ 0 ∧ flags ≠ 1)) → distrib d roots n untl flags = none) ∧
    (totWeight roots = 0 → 0 < n → flags ≤ 1 → distrib d roots n untl flags = some []) :=
  ⟨distrib_einval d roots n untl flags, distrib_all_empty d roots n untl flags⟩

/-- the chunk sizes telescope to exactly `n` -/
theorem C09_distrib_chunks {n tot : Nat} {ws : List Nat} (htot : 0 < tot) (hs : ws.sum = tot) :
    (chunkFold n tot ws (0, 0)).1 = n := chunk_telescope htot hs

/-! ### singlify per core -/

/-- hwloc_bitmap_singlify_per_core: result ⊆ input; bits outside every core untouched; inside each core exactly the
    `which`-th PU of the input (if any) survives, hence at most one PU per core -/
theorem C09_singlify_per_core {d : Dump} (h : WFT d) (S which : Nat)
    (hs : isSingleDepth (typeDepth d (tCORE : Nat)) = true) (hk : 0 ≤ typeDepth d (tCORE : Nat)) :
    subset (singlifyPerCore d S which) S = true ∧
    (∀ i, (∀ c ∈ levelObjs d (typeDepth d (tCORE : Nat)), (cs c).testBit i = false) →
       (singlifyPerCore d S which).testBit i = S.testBit i) ∧
    (∀ c ∈ levelObjs d (typeDepth d (tCORE : Nat)),
      (match ((bits (cs c)).filter (fun i => S.testBit i))[which]? with
       | some pu => singlifyPerCore d S which &&& cs c = single pu
       | none    => singlifyPerCore d S which &&& cs c = 0)) ∧
    (∀ c ∈ levelObjs d (typeDepth d (tCORE : Nat)), weight (singlifyPerCore d S which &&& cs c) ≤ 1) := by
  obtain ⟨a, b, c⟩ := singlify_per_core h.tree S which hs (h.tree.core_level_disjoint hs)
  exact ⟨a, b, c, singlify_at_most_one h.tree S which hs⟩

/-- no single Core level → the set is left unchanged -/
theorem C09_singlify_no_core_level (d : Dump) (S which : Nat)
    (h : isSingleDepth (typeDepth d (tCORE : Nat)) = false) : singlifyPerCore d S which = S :=
  singlify_no_core_level d S which h

/-! ### type <-> depth -/

/-- hwloc_get_type_depth and hwloc_get_depth_type are mutually inverse; a normal type has type depth
    HWLOC_TYPE_DEPTH_MULTIPLE exactly when it sits at two or more depths (any normal type, not only Groups), and a type
    with a non-negative type depth has exactly that one level -/
theorem C09_type_depth_inverse {d : Dump} (h : WFT d) :
    (∀ t : Int, 0 ≤ typeDepth d t → depthType d (typeDepth d t) = t) ∧
    (∀ (t : Nat) (sd : Int), specialDepth t = some sd → typeDepth d (t : Int) = sd ∧ depthType d sd = (t : Int)) ∧
    (∀ k : Int, 0 ≤ k → k < (d.depth : Int) →
      typeDepth d (depthType d k) = k ∨ typeDepth d (depthType d k) = depthMultiple) ∧
    (∀ t : Nat, t < tMAX → specialDepth t = none →
      (typeDepth d (t : Int) = depthMultiple ↔
        2 ≤ (d.levels.filter (fun l => decide (0 ≤ l.depth) && l.type == (t : Int))).length)) ∧
    (∀ t : Int, 0 ≤ typeDepth d t → ∀ l ∈ d.levels, 0 ≤ l.depth → l.type = t → l.depth = typeDepth d t) :=
  ⟨fun t ht => type_depth_inverse_a h.tree t ht, fun _ _ hs => type_depth_inverse_b h.tree hs,
   fun _ h0 hk => type_depth_inverse_c h.tree h0 hk, fun _ ht hs => type_depth_multiple_iff h.tree ht hs,
   fun t ht => type_depth_single h.tree t ht⟩

/-! ### non-vacuity: a concrete well-formed dump and concrete instances of the hypotheses -/

/-- the dump of the synthetic topology `core:2 pu:1` (Machine, 2 Cores, 2 PUs, 1 NUMANode), as printed by harness/dump.h -/
def exDump : Dump :=
  { flags := 0, depth := 3, root := 0, nobjs := 6, allowedCpuset := some 0x3, allowedNodeset := some 0x1,
    filters := [0, 0, 0, 0, 0, 0, 0, 0, 0, 0, 1, 1, 1, 2, 0, 1, 1, 1, 1, 1],
    objs := [
    { id := 0, type := 0, depth := 0, lidx := 0, osidx := 0, gp := 1, parent := (-1), rank := 0, arity := 2, marity := 1, ioarity := 0, miscarity := 0,
      nextSib := (-1), prevSib := (-1), nextCousin := (-1), prevCousin := (-1), firstChild := 1, lastChild := 3, memFirst := 5, ioFirst := (-1), miscFirst := (-1), symm := 1,
      cpuset := some 0x3, ccpuset := some 0x3, nodeset := some 0x1, cnodeset := some 0x1, totalMem := 1073741824, attrs := [0, 0, 0, 0, 0, 0], children := [1, 3], subtype := none, name := none, infos := [] },
    { id := 1, type := 3, depth := 1, lidx := 0, osidx := 0, gp := 3, parent := 0, rank := 0, arity := 1, marity := 0, ioarity := 0, miscarity := 0,
      nextSib := 3, prevSib := (-1), nextCousin := 3, prevCousin := (-1), firstChild := 2, lastChild := 2, memFirst := (-1), ioFirst := (-1), miscFirst := (-1), symm := 1,
      cpuset := some 0x1, ccpuset := some 0x1, nodeset := some 0x1, cnodeset := some 0x1, totalMem := 0, attrs := [0, 0, 0, 0, 0, 0], children := [2], subtype := none, name := none, infos := [] },
    { id := 2, type := 4, depth := 2, lidx := 0, osidx := 0, gp := 2, parent := 1, rank := 0, arity := 0, marity := 0, ioarity := 0, miscarity := 0,
      nextSib := (-1), prevSib := (-1), nextCousin := 4, prevCousin := (-1), firstChild := (-1), lastChild := (-1), memFirst := (-1), ioFirst := (-1), miscFirst := (-1), symm := 1,
      cpuset := some 0x1, ccpuset := some 0x1, nodeset := some 0x1, cnodeset := some 0x1, totalMem := 0, attrs := [0, 0, 0, 0, 0, 0], children := [], subtype := none, name := none, infos := [] },
    { id := 3, type := 3, depth := 1, lidx := 1, osidx := 1, gp := 5, parent := 0, rank := 1, arity := 1, marity := 0, ioarity := 0, miscarity := 0,
      nextSib := (-1), prevSib := 1, nextCousin := (-1), prevCousin := 1, firstChild := 4, lastChild := 4, memFirst := (-1), ioFirst := (-1), miscFirst := (-1), symm := 1,
      cpuset := some 0x2, ccpuset := some 0x2, nodeset := some 0x1, cnodeset := some 0x1, totalMem := 0, attrs := [0, 0, 0, 0, 0, 0], children := [4], subtype := none, name := none, infos := [] },
    { id := 4, type := 4, depth := 2, lidx := 1, osidx := 1, gp := 4, parent := 3, rank := 0, arity := 0, marity := 0, ioarity := 0, miscarity := 0,
      nextSib := (-1), prevSib := (-1), nextCousin := (-1), prevCousin := 2, firstChild := (-1), lastChild := (-1), memFirst := (-1), ioFirst := (-1), miscFirst := (-1), symm := 1,
      cpuset := some 0x2, ccpuset := some 0x2, nodeset := some 0x1, cnodeset := some 0x1, totalMem := 0, attrs := [0, 0, 0, 0, 0, 0], children := [], subtype := none, name := none, infos := [] },
    { id := 5, type := 14, depth := (-3), lidx := 0, osidx := 0, gp := 6, parent := 0, rank := 0, arity := 0, marity := 0, ioarity := 0, miscarity := 0,
      nextSib := (-1), prevSib := (-1), nextCousin := (-1), prevCousin := (-1), firstChild := (-1), lastChild := (-1), memFirst := (-1), ioFirst := (-1), miscFirst := (-1), symm := 0,
      cpuset := some 0x3, ccpuset := some 0x3, nodeset := some 0x1, cnodeset := some 0x1, totalMem := 1073741824, attrs := [1073741824, 1, 0, 0, 0, 0], children := [], subtype := none, name := none, infos := [] }],
    levels := [⟨0, 0, [0]⟩, ⟨1, 3, [1, 3]⟩, ⟨2, 4, [2, 4]⟩, ⟨(-3), 14, [5]⟩, ⟨(-4), 16, []⟩, ⟨(-5), 17, []⟩, ⟨(-6), 18, []⟩, ⟨(-7), 19, []⟩, ⟨(-8), 15, []⟩],
    typeDepths := [0, (-1), (-1), 1, 2, (-1), (-1), (-1), (-1), (-1), (-1), (-1), (-1), (-1), (-3), (-8), (-4), (-5), (-6), (-7)] }


example : WFT exDump := by decide +kernel
example : objCovering exDump 0x2 = exDump.objs[4]? := by decide +kernel
example : (largestObjs exDump 0x3 10).1 = 1 ∧ (largestObjs exDump 0x2 10).1 = 1 ∧ (largestObjs exDump 0x4 10).1 = -1 := by decide +kernel
example : (iterNext (nextInsideByDepth exDump 0x3 1) exDump.fuel none).map (·.id) = [1, 3] := by decide +kernel
example : cpusetToNodeset exDump 0x2 = 0x1 ∧ cpusetFromNodeset exDump 0x1 = 0x3 := by decide +kernel
example : distrib exDump (exDump.objs.take 1) 2 1000 0 = some [0x1, 0x2] ∧ 0 < totWeight (exDump.objs.take 1) := by decide +kernel
example : (closestObjs exDump (exDump.objs[2]?.getD default) 4).map (·.id) = [4] := by decide +kernel
example : singlifyPerCore exDump 0x3 0 = 0x3 ∧ singlifyPerCore exDump 0x3 1 = 0 := by decide +kernel
example : (commonAncestor exDump (exDump.objs[2]?.getD default) (exDump.objs[4]?.getD default)).map (·.id) = some 0 ∧
    (commonAncestor exDump (exDump.objs[2]?.getD default) (exDump.objs[5]?.getD default)).map (·.id) = some 0 := by decide +kernel   -- (PU, PU), (PU, NUMANode)
example : (closestObjs exDump (exDump.objs[5]?.getD default) 4).map (·.id) = [] := by decide +kernel   -- memory source

end Hw.Props.C09
