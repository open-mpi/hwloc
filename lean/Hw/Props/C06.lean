/-
  C06 — Loading arbitrary XML never corrupts memory, hangs or yields a broken topology.

  Property theorems over the model `Hw.XmlScan` (lean/Hw/Io/XmlScan.lean): the nolibxml scanner of
  hwloc/topology-xml-nolibxml.c as it is — one mutable byte buffer whose last byte is NUL, cursors as
  indexes, EVERY read and write bounds-checked (`rd`/`wr`: an access at an index ≥ n makes the callback
  return `.error (.oob i)`, a NULL dereference `.error .null`, a loop that does not stop within its
  fuel `.error .fuel`).  "Memory safe and terminating" is therefore "returns `.ok`"; the invariant `Inv`
  says that the final NUL is still there and every cursor of every import state is < n (i.e. ≤ n-1).

  Reading of the English property.  The positive theorems are about `fixed` = the CURRENT source, with no
  exclusion: look_init, backend_init and every callback are safe for every buffer and every state.
  `legal fixed s op` is what the consumer state machine of hwloc/topology-xml.c can issue: any callback on
  any live import state in any order, except close_content without a directly preceding get_content that
  returned ≥ 0 on that state, close_child on the root state, close_tag on a state without tag name.  That the
  one consumer that used to violate the first rule (hwloc__xml_import_userdata, F05f) now obeys it for every
  length is `C06_userdata_close_content_safe`.
  The four defects of the formerly pinned source are stated as NEGATIVE lemmas (`..._pinned_...`), each with its
  witness: F05a look_init NULL+1, F05b backend_init buffer[-1], F05e next_attr buffer[n], F05f bare close_content.
  The whole-loader part of the property (topology-xml.c beyond the scanner, libxml2, the core) is not
  proved: engine `xmlload` fuzzes it under ASan/UBSan/LSan and judges loaded topologies with wfCheck.
-/
import Hw.Io.XmlScanLemmas
import Hw.Attr.DistRefreshLemmas
namespace Hw.Props.C06
open Hw Hw.XmlScan

/-- decidable views of an `Except` result (for the concrete witnesses) -/
def errIs {α} (m : M α) (e : Err) : Bool := match m with | .error e' => e' == e | .ok _ => false
def okP {α} (m : M α) (p : α → Bool) : Bool := match m with | .ok a => p a | .error _ => false
theorem errIs_eq {α} {m : M α} {e : Err} (h : errIs m e = true) : m = .error e := by
  cases m with
  | error e' => simp [errIs] at h; rw [h]
  | ok a => simp [errIs] at h
theorem okP_ex {α} {m : M α} {p : α → Bool} (h : okP m p = true) : ∃ a, m = .ok a ∧ p a = true := by
  cases m with
  | error e' => simp [okP] at h
  | ok a => exact ⟨a, rfl, by simpa [okP] using h⟩

/-- P0 scan_mem_safe (one callback), current source: in every state satisfying the invariant, every legal
    callback invocation returns (no out-of-bounds access, no NULL dereference, terminates), keeps the invariant
    (final NUL intact, every cursor < n) and the buffer length. -/
theorem C06_callback_safe (s : St) (h : Inv s) (op : Op) (hl : legal fixed s op = true) :
    ∃ o s', step fixed s op = .ok (o, s') ∧ Inv s' ∧ s'.buf.size = s.buf.size :=
  let ⟨(o, s'), e, hs⟩ := step_ok fixed h op hl
  ⟨o, s', e, hs⟩

/-- next_attr, find_child and get_content are legal in EVERY state of the current source (no excluded class) -/
theorem C06_attr_child_content_always_legal (s : St) (i len : Nat) :
    legal fixed s (.attr i) = true ∧ legal fixed s (.child i) = true ∧ legal fixed s (.content i len) = true := by
  refine ⟨?_, rfl, rfl⟩
  simp only [legal]
  cases s.frames[i]? <;> simp [fixed]

/-- P0 scan_mem_safe (all histories), current source, from the state set up by backend_init + look_init, for
    EVERY caller buffer, EVERY length ≥ 1 and EVERY legal callback sequence: all reads and writes have index
    < n and every callback terminates (`run … = .ok`), afterwards the final NUL is intact and all cursors of
    all import states are ≤ n-1. -/
theorem C06_scan_mem_safe (src : Buf) (len : Int) (hlen : 1 ≤ len) :
    ∃ b, backendInit true src len = .ok (some b) ∧ b.size = len.toNat ∧
    ∃ r fo, lookInit fixed b = .ok (r, fo) ∧
      ∀ f, fo = some f → ∀ ops, legalRun fixed ⟨b, #[f]⟩ ops = true →
        ∃ s', run fixed ⟨b, #[f]⟩ ops = .ok s' ∧ HasNul s'.buf ∧ s'.buf.size = b.size ∧
          ∀ (i : Nat) (g : Frame), s'.frames[i]? = some g →
            g.tagbuf ≤ b.size - 1 ∧ ∀ a, g.attrbuf = some a → a ≤ b.size - 1 := by
  obtain ⟨b, hb, hn, hs⟩ := backendInit_ok true src len hlen
  refine ⟨b, hb, hs, ?_⟩
  obtain ⟨⟨r, fo⟩, e, hf⟩ := lookInit_ok fixed hn (Or.inl rfl)
  refine ⟨r, fo, e, ?_⟩
  intro f hfo ops hl
  obtain ⟨hf1, hf2, _⟩ := hf f hfo
  have hinv : Inv ⟨b, #[f]⟩ := by
    refine ⟨hn, ?_⟩
    intro i g hg
    cases i with
    | zero => simp at hg; subst hg; exact ⟨hf1, hf2⟩
    | succ k => simp at hg
  obtain ⟨s', e', h', hsz⟩ := run_ok fixed ops _ hinv hl
  refine ⟨s', e', h'.nul, hsz, ?_⟩
  intro i g hg
  obtain ⟨hg1, _⟩ := h'.fr i g hg
  have hsz' : s'.buf.size = b.size := hsz
  rw [hsz'] at hg1
  refine ⟨by have := hg1.tb; omega, ?_⟩
  intro a ha; have := hg1.ab a ha; omega

/-- P0 look_init_safe, current source, unconditional: for every buffer ending in NUL the header skipper
    returns (never dereferences a failed strchr, never reads past the NUL) and the cursor it sets is ≤ n-1. -/
theorem C06_look_init_safe (b : Buf) (hn : HasNul b) :
    ∃ r fo, lookInit fixed b = .ok (r, fo) ∧ ∀ f, fo = some f → f.tagbuf ≤ b.size - 1 := by
  obtain ⟨⟨r, fo⟩, e, h⟩ := lookInit_ok fixed hn (Or.inl rfl)
  exact ⟨r, fo, e, fun f hf => by have := (h f hf).1.tb; omega⟩

/-- F05a, negative: on the formerly pinned source look_init dereferences NULL+1 for `<topology version="2.0"` -/
theorem C06_f05a_pinned_null_deref :
    ∃ b : Buf, HasNul b ∧ f05a b = true ∧ lookInit pinned b = .error .null ∧
      (∃ r, lookInit fixed b = .ok r ∧ r.1.ret = -1) :=
  ⟨#[60, 116, 111, 112, 111, 108, 111, 103, 121, 32, 118, 101, 114, 115, 105, 111, 110, 61, 34, 50, 46, 48, 34, 0], ⟨by decide +kernel, by decide +kernel⟩,
   -- the class test and the run of the current source scan the same bytes: decided together, the kernel scans them once
   (fun (hc : f05a _ = true ∧ okP (lookInit fixed _) (fun r => r.1.ret == -1) = true) => ⟨hc.1, lookInit_pinned_f05a hc.1,
      (okP_ex hc.2).imp (fun r h => ⟨h.1, by simpa using h.2⟩)⟩) (by decide +kernel)⟩

/-- F05a and F05e were EXACT on the formerly pinned source: inside the class the overrun happens for every buffer
    / state satisfying the invariant, outside it never. -/
theorem C06_pinned_defects_exact (b : Buf) (hn : HasNul b) :
    (f05a b = true → lookInit pinned b = .error .null) ∧
    (f05a b = false → ∃ r, lookInit pinned b = .ok r) ∧
    ∀ f, FrameOk b.size f →
      (f05e b f = true → nextAttr pinned b f = .error (.oob b.size)) ∧
      (f05e b f = false → ∃ r, nextAttr pinned b f = .ok r) := by
  refine ⟨lookInit_pinned_f05a, ?_, ?_⟩
  · intro h
    obtain ⟨r, e, _⟩ := lookInit_ok pinned hn (Or.inr h)
    exact ⟨_, e⟩
  · intro f hf
    refine ⟨nextAttr_pinned_f05e hn, ?_⟩
    intro h
    obtain ⟨r, e, _⟩ := nextAttr_ok pinned ⟨hn, rfl⟩ hf (Or.inr h)
    exact ⟨r, e⟩

/-- P0 backend_init_safe, current source, for EVERY xmlbuflen: ≥ 1 → the copy has exactly that length and
    ends in NUL (`buffer[xmlbuflen-1] = 0` in bounds); ≤ 0 → refused (-1) without touching memory. -/
theorem C06_backend_init_safe (src : Buf) (len : Int) :
    (1 ≤ len → ∃ b, backendInit true src len = .ok (some b) ∧ HasNul b ∧ b.size = len.toNat) ∧
    (len ≤ 0 → backendInit true src len = .ok none) := by
  refine ⟨backendInit_ok true src len, ?_⟩
  intro h
  unfold backendInit
  by_cases h1 : len < 0
  · simp [h1]; rfl
  · have : len = 0 := by omega
    subst this; rfl

/-- F05b, negative: for xmlbuflen = 0 the formerly pinned source wrote before the block -/
theorem C06_f05b_pinned_underflow (src : Buf) : backendInit false src 0 = .error .under := backendInit_zero_pinned src

/-- F05f, positive, current source: hwloc__xml_import_userdata — get_content (for EVERY length, also 0), give up
    on -1, else close_content then close_tag — is safe in every state: no access outside the buffer, final NUL kept. -/
theorem C06_userdata_close_content_safe (b : Buf) (f : Frame) (len : Nat) (hn : HasNul b) (hf : FrameOk b.size f)
    (hname : NameOk f) :
    ∃ r b' f', userdataTail b f len = .ok (r, b', f') ∧ HasNul b' ∧ b'.size = b.size ∧ FrameOk b.size f' :=
  userdataTail_ok len hn hf hname

/-- F05e, negative: the formerly pinned next_attr reads buffer[n] when the value starts at the final NUL
    (state satisfying the invariant: buffer `b="` NUL, attribute cursor at 0); the fixed one returns -1. -/
theorem C06_f05e_pinned_overread :
    ∃ (b : Buf) (f : Frame), HasNul b ∧ FrameOk b.size f ∧ f05e b f = true ∧
      nextAttr pinned b f = .error (.oob b.size) ∧ (∃ r, nextAttr fixed b f = .ok r ∧ r.1.ret = -1) :=
  ⟨#[98, 61, 34, 0], { tagbuf := 0, attrbuf := some 0 },
   (fun hn hf hc => ⟨hn, hf, hc, nextAttr_pinned_f05e hn hc,
      (okP_ex (p := fun r => r.1.ret == -1) (by decide +kernel)).imp (fun r h => ⟨h.1, by simpa using h.2⟩)⟩)
     ⟨by decide +kernel, by decide +kernel⟩
     ⟨by decide +kernel, (fun a h => by cases h; decide +kernel), (fun t h => by cases h), (fun h => by cases h)⟩
     (by decide +kernel)⟩

/-- F05f, negative: the formerly pinned userdata importer (length 0: close_content without get_content)
    destroys the final NUL of `<u>` NUL and its close_tag reads buffer[n]. -/
theorem C06_f05f_pinned_bare_close_content_overrun :
    ∃ (b : Buf) (f : Frame), HasNul b ∧ FrameOk b.size f ∧ NameOk f ∧
      userdataTailPinned0 b f = .error (.oob b.size) ∧ (∃ r, userdataTail b f 0 = .ok r ∧ r.1 = -1) :=
  ⟨#[60, 117, 62, 0], { tagbuf := 3, tagname := .lit [117] }, ⟨by decide +kernel, by decide +kernel⟩,
   ⟨by decide +kernel, (fun a h => by cases h), (fun t h => by cases h), (fun h => by cases h)⟩,
   ⟨(fun l h => by cases h; decide +kernel), (fun h => by cases h)⟩, errIs_eq (by decide +kernel),
   (okP_ex (p := fun r => r.1 == -1) (by decide +kernel)).imp (fun r h => ⟨h.1, by simpa using h.2⟩)⟩

/-- P0 distances_import_bounds: whatever the `<indexes>` / `<u64values>` children contain and however
    many there are, every `indexes[nr_indexes++]` write is below `nbobjs` and every
    `u64values[nr_u64values++]` write below the allocated `nbobjs*nbobjs` (as C computes it: 32-bit
    wrapping), and the counters never exceed the capacities. -/
theorem C06_distances_import_bounds (nbobjs : Nat) (idxChildren valChildren : List Toks) :
    (∀ ws n, fillAll (idxCap nbobjs) 0 idxChildren = some (ws, n) →
      (∀ w ∈ ws, w < idxCap nbobjs) ∧ n ≤ idxCap nbobjs) ∧
    (∀ ws n, fillAll (valCap nbobjs) 0 valChildren = some (ws, n) →
      (∀ w ∈ ws, w < valCap nbobjs) ∧ n ≤ valCap nbobjs) :=
  ⟨fun ws n e => fillAll_bounds _ idxChildren 0 ws n (Nat.zero_le _) e,
   fun ws n e => fillAll_bounds _ valChildren 0 ws n (Nat.zero_le _) e⟩

/-- userdata (base64 path): whatever `length` attribute and content, every byte the decoder writes is
    inside the `malloc(length+1)` block (size_t arithmetic; a wrapped size 0 admits no write at all) -/
theorem C06_userdata_decode_bounds (length nsyms : Nat) :
    ∀ w ∈ (decWrites (udAlloc length) nsyms 0 0).1, w < udAlloc length :=
  decWrites_bounds _ nsyms 0 0

/-- F05j, positive: for every nbobjs that passes the attribute gate of the current source (`nbobjs ≤ 0xffff`)
    the 32-bit product does not wrap: the values array really has nbobjs² elements ... -/
theorem C06_distances_valcap_exact (nbobjs : Nat) (h : nbobjsAccepted nbobjs = true) :
    valCap nbobjs = idxCap nbobjs * idxCap nbobjs ∧ 0 < idxCap nbobjs := by
  simp only [nbobjsAccepted, Bool.and_eq_true, bne_iff_ne, ne_eq, decide_eq_true_eq] at h
  obtain ⟨h0, h1⟩ := h
  refine ⟨?_, by omega⟩
  unfold valCap
  have : idxCap nbobjs * idxCap nbobjs ≤ 65535 * 65535 := Nat.mul_le_mul h1 h1
  omega

/-- ... whereas without that gate it wrapped (the formerly pinned source: 65536 objects, 0 values) -/
theorem C06_distances_valcap_pinned_wraps : valCap 65536 = 0 ∧ valCap 65537 = 131073 ∧
    nbobjsAccepted 65536 = false ∧ nbobjsAccepted 65535 = true := by decide +kernel

/-! non-vacuity: a concrete document scanned by a consumer-like legal history, with unescaping,
    an auto-closed child, content and closing tags -/
example : legalRun fixed ⟨#[60, 114, 111, 111, 116, 62, 60, 97, 32, 98, 61, 34, 120, 38, 97, 109, 112, 59, 121, 34, 32, 99, 61, 34, 49, 34, 62, 60, 100, 47, 62, 116, 120, 116, 60, 47, 97, 62, 60, 47, 114, 111, 111, 116, 62, 0], #[{ tagbuf := 6, tagname := .lit (lit "root") }]⟩ [.child 0, .attr 1, .attr 1, .attr 1, .child 1, .closeTag 2, .closeChild 2, .content 1 3, .closeContent 1, .closeTag 1, .closeChild 1, .child 0, .closeTag 0] = true := by decide +kernel
example : okP (run fixed ⟨#[60, 114, 111, 111, 116, 62, 60, 97, 32, 98, 61, 34, 120, 38, 97, 109, 112, 59, 121, 34, 32, 99, 61, 34, 49, 34, 62, 60, 100, 47, 62, 116, 120, 116, 60, 47, 97, 62, 60, 47, 114, 111, 111, 116, 62, 0], #[{ tagbuf := 6, tagname := .lit (lit "root") }]⟩ [.child 0, .attr 1, .attr 1, .attr 1, .child 1, .closeTag 2, .closeChild 2, .content 1 3, .closeContent 1, .closeTag 1, .closeChild 1, .child 0, .closeTag 0]) (fun s' => s'.frames.size == 3) = true := by decide +kernel
example : (lookInit fixed #[60, 114, 111, 111, 116, 62, 60, 97, 32, 98, 61, 34, 120, 38, 97, 109, 112, 59, 121, 34, 32, 99, 61, 34, 49, 34, 62, 60, 100, 47, 62, 116, 120, 116, 60, 47, 97, 62, 60, 47, 114, 111, 111, 116, 62, 0]).toOption.map (·.1.ret) = some 0 := by decide +kernel
example : fillAll 2 0 [[(0, true), (1, true), (7, false)]] = some ([0, 1], 2) := by decide +kernel
example : fillAll 2 0 [[(0, true), (1, true)], [(5, false)]] = none := by decide +kernel

/-! ### the end of every load: `hwloc_internal_distances_refresh()` unlinks + frees list nodes while iterating

    Model `Hw.DistRefresh` (lean/Hw/Attr/DistRefresh.lean): a heap of `next`/`prev`/`freed` fields plus
    `first`/`last`; EVERY field access checks the `freed` mark, so "memory safe" is "returns `.ok`".
    `refresh false` is the loop of the source, `refresh true` the variant with a loop-local predecessor. -/

/-- distances2 elements that "became useless" are dropped at the end of the load: whatever the list and
    whatever the set of dropped elements, the loop never touches freed memory, stops within `l.length`
    iterations, leaves exactly the kept elements, in order, linked in both directions with first/last right,
    and frees exactly the dropped ones (every other `freed` mark unchanged) -/
theorem C06_distances_refresh_links (h : Hw.DistRefresh.Heap) (l : List Nat) (hl : Hw.DistRefresh.Linked h l)
    (drop : Nat → Bool) :
    ∃ h', Hw.DistRefresh.refresh false drop h l.length = .ok h' ∧
          Hw.DistRefresh.Linked h' (l.filter (fun d => !drop d)) ∧
          (∀ p, h'.freed p = (h.freed p || (decide (p ∈ l) && drop p))) :=
  Hw.DistRefresh.refresh_spec h l hl drop

/-- ... hence every later consumer (distances_get, export, dup, destroy: first → next → ...) sees exactly the
    kept elements and never reads a freed one -/
theorem C06_distances_refresh_then_walk (h : Hw.DistRefresh.Heap) (l : List Nat)
    (hl : Hw.DistRefresh.Linked h l) (drop : Nat → Bool) :
    ∃ h', Hw.DistRefresh.refresh false drop h l.length = .ok h' ∧
          Hw.DistRefresh.walk h' l.length h'.first = .ok (l.filter (fun d => !drop d)) :=
  Hw.DistRefresh.refresh_then_walk h l hl drop

/-- negative lemma (the model tells the variants apart): with the predecessor kept in a loop-local variable
    advanced by the for-increment, the first two ADJACENT dropped elements `a`, `b` make the unlink of `b`
    write `a->next` after `a` was freed -/
theorem C06_distances_refresh_running_prev_uaf (h : Hw.DistRefresh.Heap) (a b : Nat) (pre post : List Nat)
    (hl : Hw.DistRefresh.Linked h (pre ++ a :: b :: post)) (drop : Nat → Bool)
    (hk : ∀ x ∈ pre, drop x = false) (ha : drop a = true) (hb : drop b = true) :
    Hw.DistRefresh.refresh true drop h (pre ++ a :: b :: post).length = .error (.uaf a) :=
  Hw.DistRefresh.running_uaf h a b pre post hl drop hk ha hb

/-- exhaustive: every list `0..n-1` of at most 5 elements and every drop mask `m < 2^n` (`drop d = m.testBit d`):
    the real loop is safe and a walk of its result gives the kept elements; the `running` variant fails IFF
    the mask drops two adjacent elements (with `.uaf` of the first such element), and otherwise also leaves
    the kept elements (`Hw.DistRefresh.checkOne`; unpacked below) -/
theorem C06_distances_refresh_all_patterns_le5 : Hw.DistRefresh.checkAll = true :=
  Hw.DistRefresh.all_patterns_le5

theorem C06_distances_refresh_all_patterns_le5_spec (n m : Nat) (hn : n ≤ 5) (hm : m < 2 ^ n) :
    (∃ h', Hw.DistRefresh.refresh false (fun d => m.testBit d) (Hw.DistRefresh.mk (List.range n)) n = .ok h' ∧
           Hw.DistRefresh.walk h' n h'.first = .ok ((List.range n).filter (fun d => !m.testBit d))) ∧
    ((∃ e, Hw.DistRefresh.refresh true (fun d => m.testBit d) (Hw.DistRefresh.mk (List.range n)) n = .error e) ↔
      ∃ i, i + 1 < n ∧ m.testBit i = true ∧ m.testBit (i + 1) = true) ∧
    (∀ h', Hw.DistRefresh.refresh true (fun d => m.testBit d) (Hw.DistRefresh.mk (List.range n)) n = .ok h' →
           Hw.DistRefresh.walk h' n h'.first = .ok ((List.range n).filter (fun d => !m.testBit d))) :=
  Hw.DistRefresh.all_patterns_le5_spec n m hn hm

/-! non-vacuity: a linked heap of 4 elements; dropping the two middle ones is safe in the source and a
    use after free in the `running` variant -/
example : Hw.DistRefresh.Linked (Hw.DistRefresh.mk [0, 1, 2, 3]) [0, 1, 2, 3] := Hw.DistRefresh.linked_mk_0123
example : ∃ h', Hw.DistRefresh.refresh false (fun d => d == 1 || d == 2) (Hw.DistRefresh.mk [0, 1, 2, 3]) 4 = .ok h' ∧
    Hw.DistRefresh.Linked h' [0, 3] := by
  obtain ⟨h', e, l, -⟩ := C06_distances_refresh_links _ _ Hw.DistRefresh.linked_mk_0123 (fun d => d == 1 || d == 2)
  exact ⟨h', e, l⟩
example : Hw.DistRefresh.refresh true (fun d => d == 1 || d == 2) (Hw.DistRefresh.mk [0, 1, 2, 3]) 4
    = .error (.uaf 1) :=
  C06_distances_refresh_running_prev_uaf _ 1 2 [0] [3] Hw.DistRefresh.linked_mk_0123 _ (by simp) rfl rfl

end Hw.Props.C06
