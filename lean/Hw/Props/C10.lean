/-
  Hw.Props.C10 — binding calls validate their arguments, hand only legal sets to the OS hooks, return ENOSYS
  exactly when no hook exists, and are harmless on topologies that are not this system.

  Sections 1–4 are about `Hw.Bind.callEntry`, the model of hwloc/bind.c over an ARBITRARY hook table
  (`env.present`), ARBITRARY hook behaviours (`env.run`) over an arbitrary world, and an arbitrary prior state.
  "Touching the OS" = invoking a hook = appending to the effect log.
-/
import Hw.Io.BindLemmas
import Hw.Io.BindLinux
import Hw.Base.Cases
namespace Hw.Props.C10
open Hw.Bind Hw.Gen.BindConsts

/-! ## 1. reject before the OS -/

/-- the caller's arguments are illegal for entry point `e`: an unknown flag bit, an invalid policy, an empty set,
or a set that is not included in the complete cpuset / nodeset (nodeset when BYNODESET) -/
def BadArgs (t : Topo) (e : Entry) (req : Req) : Prop :=
  (e.isCpuSet = true ∧ (unknownBits req.flags cpubindAllFlags = true ∨ req.set.isZero = true ∨
      req.set.inclIn t.completeCpuset = false)) ∨
  (e.isCpuGet = true ∧ unknownBits req.flags cpubindAllFlags = true) ∨
  (e.isMemSet = true ∧ (unknownBits req.flags membindAllFlags = true ∨ policyOk req.policy = false ∨
      req.set.isZero = true ∨
      req.set.inclIn (if req.byNodeset then t.completeNodeset else t.completeCpuset) = false)) ∨
  (e.isMemGet = true ∧ unknownBits req.flags membindAllFlags = true)

/-- the prologue refused the arguments: -1/EINVAL, or (hwloc_alloc_membind only) the `fallback:` label with EINVAL -/
def Rejected (e : Entry) (p : Pro) : Prop :=
  p = .ret (failRet .einval) ∨ (e = .allocMembind ∧ p = .fallback .einval)

theorem prologue_bad {t : Topo} {e : Entry} {req : Req} (hbad : BadArgs t e req)
    (hlen : e = .setAreaMembind → req.len ≠ 0) : Rejected e (prologue t e req) := by
  unfold prologue
  rcases hbad with ⟨he, h⟩ | ⟨he, h⟩ | ⟨he, h⟩ | ⟨he, h⟩
  · rw [if_pos he]
    split
    · exact Or.inl rfl
    · rw [fixCpubind, (fixSet_none_iff ..).mpr (h.resolve_left ‹_›)]
      exact Or.inl rfl
  · simp only [class_cpuGet he, he, h, Bool.false_eq_true, if_false, if_true]
    exact Or.inl rfl
  · have ⟨h1, h2⟩ := class_memSet he
    simp only [h1, h2, he, Bool.false_eq_true, if_false, if_true]
    -- the exit taken when a set conversion fails
    have hexit : Rejected e (if e = .allocMembind then .fallback .einval else .ret (failRet .einval)) :=
      ite_pred (Rejected e) (fun h => Or.inr ⟨h, rfl⟩) fun _ => Or.inl rfl
    cases hm : memPrologueSet t req with
    | none => exact hexit
    | some ns =>
      refine ite_pred (Rejected e) (fun _ => Or.inl rfl) fun hok => ?_
      refine ite_pred (Rejected e) (fun ha => ?_) fun _ => ?_
      · simp only [Bool.and_eq_true, decide_eq_true_eq, beq_iff_eq] at ha
        exact absurd ha.2 (hlen ha.1)
      rcases h with h | h | h
      · exact absurd (by rw [h]; rfl) hok
      · exact absurd (by rw [h]; exact Bool.or_true _) hok
      have hn := memFix_none h
      rw [hm] at hn
      rw [show fixMembind t ns = none from hn]
      exact hexit
  · have ⟨h1, h2, h3⟩ := class_memGet he
    simp only [h1, h2, h3, he, h, Bool.false_eq_true, if_false, if_true]
    exact Or.inl rfl

theorem epilogue_einval (t : Topo) (e : Entry) (req : Req) :
    epilogue t e req (failRet .einval) = failRet .einval := epilogue_fail t e req .einval

theorem callEntry_bad {σ} (env : Env σ) {t : Topo} {e : Entry} {req : Req} (s : St σ) (hbad : BadArgs t e req)
    (hlen : e = .setAreaMembind → req.len ≠ 0) (hstrict : e = .allocMembind → req.strict = true) :
    callEntry env t e req s = (failRet .einval, s) := by
  unfold callEntry
  rcases prologue_bad hbad hlen with hp | ⟨he, hp⟩
  · simp only [hp, epilogue_fail]
  · simp only [hp, allocFallback, hstrict he, if_true]

/-- **P0 reject_before_os.**  Unknown flag bit, bad policy, empty set or set not included in the complete set
⇒ the call returns -1/EINVAL and NO hook is invoked: world and effect log are exactly what they were.
(`hwloc_alloc_membind` is the next theorem; a zero-length `hwloc_set_area_membind` is `C10_area_len0_quirk`.) -/
theorem C10_reject_before_os {σ} (env : Env σ) (t : Topo) (e : Entry) (req : Req) (s : St σ)
    (hbad : BadArgs t e req) (halloc : e ≠ .allocMembind) (hlen : e = .setAreaMembind → req.len ≠ 0) :
    callEntry env t e req s = (failRet .einval, s) :=
  callEntry_bad env s hbad hlen fun h => absurd h halloc

/-- **P0 reject_before_os (alloc, STRICT).**  `hwloc_alloc_membind` with illegal arguments and
HWLOC_MEMBIND_STRICT returns NULL with EINVAL and invokes no hook. -/
theorem C10_reject_before_os_alloc_strict {σ} (env : Env σ) (t : Topo) (req : Req) (s : St σ)
    (hbad : BadArgs t .allocMembind req) (hstrict : req.strict = true) :
    callEntry env t .allocMembind req s = (failRet .einval, s) :=
  callEntry_bad env s hbad nofun fun _ => hstrict

/-- **reject_before_os (alloc, not STRICT).**  Without STRICT an illegal request still never reaches a binding
hook: whatever is logged is a plain `alloc` (hwloc_alloc) invocation carrying no set. -/
theorem C10_reject_alloc_no_binding_hook {σ} (env : Env σ) (t : Topo) (req : Req) (s : St σ)
    (hbad : BadArgs t .allocMembind req) :
    ∃ l, (callEntry env t .allocMembind req s).2.log = s.log ++ l ∧ ∀ c ∈ l, c.hook = .alloc := by
  refine callEntry_logged env t .allocMembind req s (fun a hp => ?_) (fun _ _ => rfl)
  -- the prologue did not go on to the dispatch
  rcases prologue_bad hbad (fun h => nomatch h) with h | ⟨_, h⟩
  · rw [h] at hp; cases hp
  · rw [h] at hp; cases hp

/-- The one place where an illegal set is NOT rejected: `hwloc_set_area_membind(..., len = 0, ..., BYNODESET)`
with known flags and a valid policy returns 0 for ANY set (also empty or out of range) — no hook is invoked.
(Without BYNODESET the cpuset conversion runs first and does reject.) -/
theorem C10_area_len0_quirk {σ} (env : Env σ) (t : Topo) (req : Req) (s : St σ)
    (hlen : req.len = 0) (hby : req.byNodeset = true)
    (hf : unknownBits req.flags membindAllFlags = false) (hp : policyOk req.policy = true) :
    callEntry env t .setAreaMembind req s = (okRet, s) := by
  unfold callEntry prologue
  simp [Entry.isCpuSet, Entry.isCpuGet, Entry.isMemSet, memPrologueSet, hby, hf, hp, hlen, epilogue, Entry.isMemGet]

/-! ## 2. the OS only gets legal sets -/

/-- the request covers the whole topology (cpuset, or nodeset when BYNODESET) -/
def ReqCoversMem (t : Topo) (req : Req) : Bool :=
  if req.byNodeset then req.set.covers t.topologyNodeset else req.set.covers t.topologyCpuset

/-- a logged invocation is legal: a cpuset (nodeset) handed to a binding hook is non-empty, included in the
complete cpuset (nodeset), and IS the complete set whenever the request covers the topology set -/
def Legal (t : Topo) (req : Req) (c : Call) : Prop :=
  (c.hook.takesCpuset = true → c.args.set ≠ 0 ∧ c.args.set &&& t.completeCpuset = c.args.set ∧
      (req.set.covers t.topologyCpuset = true → c.args.set = t.completeCpuset)) ∧
  (c.hook.takesNodeset = true → c.args.set ≠ 0 ∧ c.args.set &&& t.completeNodeset = c.args.set ∧
      (ReqCoversMem t req = true → c.args.set = t.completeNodeset))

theorem prologue_go_other {t : Topo} {e : Entry} {req : Req} {a : Args}
    (h1 : e.isCpuSet = false) (h2 : e.isMemSet = false) (h : prologue t e req = .go a) : a.set = 0 := by
  have h' := (prologue_go h).2
  rwa [h1, h2, if_neg Bool.false_ne_true, if_neg Bool.false_ne_true] at h'

theorem memFix_some {t : Topo} {req : Req} {s : Nat} (h : (memPrologueSet t req).bind (fixMembind t) = some s) :
    s ≠ 0 ∧ s &&& t.completeNodeset = s ∧ (ReqCoversMem t req = true → s = t.completeNodeset) := by
  obtain ⟨ns, hm, hf⟩ := Option.bind_eq_some_iff.mp h
  have ⟨_, h3, h4, h5⟩ := fixSet_some hf
  refine ⟨h3, h4, fun hc => ?_⟩
  unfold ReqCoversMem at hc
  unfold memPrologueSet at hm
  cases hb : req.byNodeset
  · rw [hb, if_neg Bool.false_ne_true] at hm hc
    rw [fixMembindCpuset_eq, hc, if_pos rfl, Option.map_map] at hm
    obtain ⟨_, _, rfl⟩ := Option.map_eq_some_iff.mp hm
    exact fixSet_fin_complete hf
  · rw [hb, if_pos rfl] at hm hc
    cases hm
    exact h5.trans (if_pos hc)

/-- **P0 os_gets_legal_set.**  For every entry point, every request, every hook table and behaviour: each
invocation the call appends to the effect log is legal — the set handed to a binding hook is non-empty, included
in the complete set, and is the complete set whenever the request covers the topology set. -/
theorem C10_os_gets_legal_set {σ} (env : Env σ) (t : Topo) (e : Entry) (req : Req) (s : St σ) :
    ∃ l, (callEntry env t e req s).2.log = s.log ++ l ∧ ∀ c ∈ l, Legal t req c := by
  refine callEntry_logged env t e req s (fun a hp h hm => ?_) (fun _ _ => ⟨Bool.noConfusion, Bool.noConfusion⟩)
  have hset := (prologue_go hp).2
  constructor
  · intro ht
    rw [if_pos ((hooks_takes e h hm).1 ht)] at hset
    have ⟨_, h3, h4, h5⟩ := fixSet_some hset
    exact ⟨h3, h4, fun hc => h5.trans (if_pos hc)⟩
  · intro ht
    have he := (hooks_takes e h hm).2 ht
    rw [(class_memSet he).1, if_neg Bool.false_ne_true, if_pos he] at hset
    exact memFix_some hset

/-- set-level reading of the fixed set: its members are those of the complete set when the request covers the
topology set, and those of the request otherwise; and it exists iff the request is non-empty and included -/
theorem C10_fix_semantics (c tp : Nat) (a : ASet) :
    (fixSet c tp a = none ↔ ((∀ i, a.mem i = false) ∨ ∃ i, a.mem i = true ∧ c.testBit i = false)) ∧
    (∀ s, fixSet c tp a = some s → ∀ i, s.testBit i = if a.covers tp then c.testBit i else a.mem i) ∧
    (a.covers tp = true ↔ ∀ i, tp.testBit i = true → a.mem i = true) := by
  refine ⟨?_, fun s h i => fixSet_mem h i, ASet.covers_iff a tp⟩
  rw [fixSet_none_iff, ASet.isZero_iff, ← Bool.not_eq_true, ASet.inclIn_iff]
  simp only [Classical.not_forall, exists_prop, Bool.not_eq_true]

/-! ## 3. ENOSYS iff no hook -/

/-- no applicable hook exists, for the entry points that end in a single hook or in the PROCESS/THREAD/fall-back chain -/
def NoHook {σ} (env : Env σ) (e : Entry) (flags : Nat) : Prop :=
  match e with
  | .setCpubind => noHook3 env cpubindProcess cpubindThread .setThisprocCpubind .setThisthreadCpubind flags
  | .getCpubind => noHook3 env cpubindProcess cpubindThread .getThisprocCpubind .getThisthreadCpubind flags
  | .getLastCpuLocation => noHook3 env cpubindProcess cpubindThread .getThisprocLastCpu .getThisthreadLastCpu flags
  | .setMembind => noHook3 env membindProcess membindThread .setThisprocMembind .setThisthreadMembind flags
  | .getMembind => noHook3 env membindProcess membindThread .getThisprocMembind .getThisthreadMembind flags
  | .setProcCpubind => env.present .setProcCpubind = false
  | .getProcCpubind => env.present .getProcCpubind = false
  | .setThreadCpubind => env.present .setThreadCpubind = false
  | .getThreadCpubind => env.present .getThreadCpubind = false
  | .getProcLastCpuLocation => env.present .getProcLastCpu = false
  | .setProcMembind => env.present .setProcMembind = false
  | .getProcMembind => env.present .getProcMembind = false
  | .setAreaMembind => env.present .setAreaMembind = false
  | .getAreaMembind => env.present .getAreaMembind = false
  | .getAreaMemlocation => env.present .getAreaMemlocation = false
  | .alloc | .free | .allocMembind => False          -- these fall back to the heap instead

/-- **P0 enosys_iff_no_hook.**  For arguments that pass validation: the call leaves the effect log untouched iff no
applicable hook exists (PROCESS → the process hook, THREAD → the thread hook, neither → both), and in that case
it returns -1/ENOSYS. -/
theorem C10_enosys_iff_no_hook {σ} (env : Env σ) (t : Topo) (e : Entry) (req : Req) (a : Args) (s : St σ)
    (hp : prologue t e req = .go a) (he : e ≠ .alloc ∧ e ≠ .free ∧ e ≠ .allocMembind) :
    ((callEntry env t e req s).2.log = s.log ↔ NoHook env e req.flags) ∧
    (NoHook env e req.flags → callEntry env t e req s = (failRet .enosys, s)) := by
  suffices h : ((dispatch env e a s).2.log = s.log ↔ NoHook env e a.flags) ∧
      (NoHook env e a.flags → dispatch env e a s = (failRet .enosys, s)) by
    unfold callEntry
    rw [hp, ← (prologue_go hp).1]
    exact ⟨h.1, fun hn => by simp only [h.2 hn, epilogue_fail]⟩
  cases e
  case alloc => exact absurd rfl he.1
  case free => exact absurd rfl he.2.1
  case allocMembind => exact absurd rfl he.2.2
  case setCpubind | getCpubind | getLastCpuLocation | setMembind | getMembind => exact dispatch3_noHook ..
  all_goals exact dispatch1_noHook ..     -- the ten single-hook entry points

/-- `hwloc_alloc_membind` without alloc_membind and set_area_membind hooks: ENOSYS under STRICT (no hook invoked),
a plain allocation otherwise. -/
theorem C10_enosys_alloc_membind {σ} (env : Env σ) (t : Topo) (req : Req) (a : Args) (s : St σ)
    (hp : prologue t .allocMembind req = .go a)
    (h1 : env.present .allocMembind = false) (h2 : env.present .setAreaMembind = false) :
    callEntry env t .allocMembind req s =
      if req.strict then (failRet .enosys, s) else allocPlain env a s := by
  unfold callEntry
  rw [hp]
  dsimp only
  rw [epilogue_not_memget _ _ _ _ rfl, dispatch, h1, h2, if_neg Bool.false_ne_true, if_neg Bool.false_ne_true,
    (prologue_go hp).1]
  rfl

/-- the fall-through rule of the chain: with neither PROCESS nor THREAD, a present process hook that fails with
ENOSYS hands over to the thread hook (or to -1/ENOSYS when that is missing), on the state the process hook left -/
theorem C10_enosys_fallthrough {σ} (env : Env σ) (pb tb : Nat) (hpk htk : Hook) (a : Args) (s : St σ)
    (h1 : a.flags &&& pb = 0) (h2 : a.flags &&& tb = 0) (hpres : env.present hpk = true)
    (hr : (env.run hpk a s.world).1.rc < 0 ∧ (env.run hpk a s.world).1.err = .enosys) :
    dispatch3 env pb tb hpk htk a s = dispatch1 env htk a (invoke env hpk a s).2 :=
  (dispatch3_present h1 h2 hpres).trans (if_neg fun h => h.elim (Int.not_le.mpr hr.1) (· hr.2))

/-- … and any other answer of the process hook (success, or a failure other than ENOSYS) is final: the thread hook
is not consulted -/
theorem C10_no_fallthrough_otherwise {σ} (env : Env σ) (pb tb : Nat) (hpk htk : Hook) (a : Args) (s : St σ)
    (h1 : a.flags &&& pb = 0) (h2 : a.flags &&& tb = 0) (hpres : env.present hpk = true)
    (hr : (env.run hpk a s.world).1.rc ≥ 0 ∨ (env.run hpk a s.world).1.err ≠ .enosys) :
    dispatch3 env pb tb hpk htk a s = invoke env hpk a s :=
  (dispatch3_present h1 h2 hpres).trans (if_pos hr)

/-! ## 4. dummy hooks (topology is not this system) -/

def Inert {σ} (env : Env σ) : Prop := ∀ h a w, (env.run h a w).2 = w

theorem callEntry_world {σ} {env : Env σ} (hi : Inert env) (t : Topo) (e : Entry) (req : Req) (s : St σ) :
    (callEntry env t e req s).2.world = s.world := by
  have hP : ∀ a hs, Preserved env a hs (·.world = s.world) := fun a _ h _ s' hs' => (hi h a s'.world).trans hs'
  exact callEntry_inv (fun a _ => hP a _) (fun _ _ => hP _ _) rfl

/-- **P0 dummy_semantics (no effect).**  With the dummy table no call — whatever its arguments — changes the world. -/
theorem C10_dummy_no_effect {σ} (t : Topo) (e : Entry) (req : Req) (s : St σ) :
    (callEntry (dummyEnv σ t) t e req s).2.world = s.world :=
  callEntry_world (fun _ _ _ => rfl) t e req s

theorem dummy_dispatch3 {σ} (t : Topo) (pb tb : Nat) (hp ht : Hook) (a : Args) (s : St σ)
    (h1 : dummyPresent hp = true) (h2 : dummyPresent ht = true) (heq : dummyRet t ht = dummyRet t hp) :
    (dispatch3 (dummyEnv σ t) pb tb hp ht a s).1 = dummyRet t hp := by
  by_cases c1 : a.flags &&& pb = 0
  case neg => rw [dispatch3_process c1]; exact dummy_dispatch1 t hp a s h1
  by_cases c2 : a.flags &&& tb = 0
  case neg => rw [dispatch3_thread c1 c2, dummy_dispatch1 t ht a s h2, heq]
  -- the dummy process hook succeeds, so its answer is final
  rw [C10_no_fallthrough_otherwise (dummyEnv σ t) pb tb hp ht a s c1 c2 h1 (Or.inl (Int.le_of_eq (dummyRet_rc t hp).symm))]
  rfl

/-- what every entry point returns under the dummy table once its arguments pass validation -/
def dummyAnswer (t : Topo) : Entry → Ret
  | .getCpubind | .getProcCpubind | .getThreadCpubind | .getLastCpuLocation | .getProcLastCpuLocation =>
      { rc := 0, set := t.completeCpuset }
  | .getMembind | .getProcMembind | .getAreaMembind => { rc := 0, set := t.completeNodeset, policy := membindMixed }
  | .getAreaMemlocation => { rc := 0, set := t.completeNodeset }
  | _ => okRet

/-- **P0 dummy_semantics (results).**  With the dummy table every call whose arguments pass validation succeeds:
set-calls, alloc and free return 0 / a pointer; cpubind and last-location get-calls return the complete cpuset;
membind get-calls return the complete nodeset (converted to the cpuset of its NUMA nodes when not BYNODESET) with
policy HWLOC_MEMBIND_MIXED. -/
theorem C10_dummy_semantics {σ} (t : Topo) (e : Entry) (req : Req) (a : Args) (s : St σ)
    (hp : prologue t e req = .go a) :
    (callEntry (dummyEnv σ t) t e req s).1 = epilogue t e req (dummyAnswer t e) := by
  unfold callEntry
  rw [hp]
  dsimp only
  congr 1
  cases e
  case setCpubind | getCpubind | getLastCpuLocation | setMembind | getMembind =>
    exact dummy_dispatch3 t _ _ _ _ a s rfl rfl rfl
  all_goals rfl       -- a single present hook, or the heap: the dummy table is concrete

/-- **P0 dummy_semantics (support bits, table selection).**  hwloc_set_binding_hooks on a topology that is not this
system installs the dummy table and sets no support bit; on this system it installs the native table and sets
exactly the bits of the hooks that exist (alloc / free_membind have no bit). -/
theorem C10_binding_hooks_support (native : Hook → Bool) :
    (setBindingHooks false native).1 = dummyPresent ∧ (∀ h, (setBindingHooks false native).2 h = false) ∧
    (setBindingHooks true native).1 = native ∧
    (∀ h, (setBindingHooks true native).2 h = true ↔ (h.hasSupportBit = true ∧ native h = true)) := by
  refine ⟨rfl, fun _ => rfl, rfl, fun h => ?_⟩
  simp [setBindingHooks]

/-- which topologies get the dummy table: XML / synthetic (a backend that is not this system) without
HWLOC_TOPOLOGY_FLAG_IS_THISSYSTEM and without environment override is NOT this system; the flag makes it this
system; a native load is this system; HWLOC_THISSYSTEM overrides everything. -/
theorem C10_is_thissystem :
    isThisSystem true false false none = false ∧ (∀ nf, isThisSystem nf true false none = true) ∧
    isThisSystem false false false none = true ∧ (∀ fl, isThisSystem false fl true none = false) ∧
    (∀ nf fl ef x, isThisSystem nf fl ef (some x) = (x != 0)) := by
  refine ⟨rfl, fun nf => by cases nf <;> rfl, rfl, fun fl => by cases fl <;> rfl, fun _ _ _ _ => rfl⟩

/-! ## 5. the Linux hook hands the kernel the set it was given (P1) -/

/-- hwloc_linux_set_tid_cpubind issues exactly one sched_setaffinity whose mask is the set it was handed -/
theorem C10_linux_setaffinity_mask (tid set : Nat) (w : Linux.World) (h : set ≠ 0) :
    (Linux.setTid tid set w).2.slog = w.slog ++ [Linux.Sys.sa tid set] := by
  rw [Linux.setTid, if_neg h, Linux.sys]
  split <;> rfl

/-! ## non-vacuity -/

/-- a 2-node machine, CPUs 0-7 of which 6-7 are disallowed; node 1 is disallowed -/
def exTopo : Topo :=
  { completeCpuset := 0xff, topologyCpuset := 0x3f, completeNodeset := 3, topologyNodeset := 1,
    nodes := [(0, 0x0f), (1, 0x30)] }

/-- a table with only the thread hooks, whose set hook fails with EPERM -/
def exEnv : Env Nat :=
  { present := fun h => h == .setThisthreadCpubind || h == .setThisthreadMembind,
    run := fun _ _ w => (failRet .eperm, w + 1) }

-- BadArgs is satisfiable and the rejection is observable
example : BadArgs exTopo .setCpubind { set := ⟨0x100, false⟩ } := by
  left; exact ⟨rfl, Or.inr (Or.inr (by decide))⟩
example : callEntry exEnv exTopo .setCpubind { set := ⟨0x100, false⟩ } ⟨0, []⟩ = (failRet .einval, ⟨0, []⟩) := by decide +kernel
example : (callEntry exEnv exTopo .setMembind { set := ⟨0, true⟩, policy := 2 } ⟨0, []⟩).1 = failRet .einval := by decide +kernel
-- a legal request reaches the hook with the legal set; a covering request is replaced by the complete set
example : (callEntry exEnv exTopo .setCpubind { set := ⟨0x5, false⟩ } ⟨0, []⟩).2.log =
    [⟨.setThisthreadCpubind, { set := 0x5 }⟩] := by decide +kernel
example : (callEntry exEnv exTopo .setCpubind { set := ⟨0x7f, false⟩ } ⟨0, []⟩).2.log =
    [⟨.setThisthreadCpubind, { set := 0xff }⟩] := by decide +kernel
-- cpuset → nodeset conversion: CPUs 4-5 are local to node 1
example : (callEntry exEnv exTopo .setMembind { set := ⟨0x30, false⟩, policy := 2 } ⟨0, []⟩).2.log =
    [⟨.setThisthreadMembind, { set := 2, policy := 2, len := 1 }⟩] := by decide +kernel
-- ENOSYS without a hook, and the hook's own failure otherwise
example : callEntry exEnv exTopo .setCpubind { set := ⟨1, false⟩, flags := 1 } ⟨0, []⟩ = (failRet .enosys, ⟨0, []⟩) := by decide +kernel
example : (callEntry exEnv exTopo .setCpubind { set := ⟨1, false⟩, flags := 2 } ⟨0, []⟩).1 = failRet .eperm := by decide +kernel
-- dummy table: get_membind by cpuset reports the CPUs of all nodes of the complete nodeset, policy MIXED
example : (callEntry (dummyEnv Nat exTopo) exTopo .getMembind {} ⟨0, []⟩).1 = { rc := 0, set := 0x3f, policy := -1 } := by decide +kernel
example : (callEntry (dummyEnv Nat exTopo) exTopo .getCpubind {} ⟨0, []⟩).1 = { rc := 0, set := 0xff } := by decide +kernel

end Hw.Props.C10
