/-
  C19 — Shared-memory topologies: the length suffices, the adopted copy is equal and read-only.

  Property theorems over the model `Hw.Shmem` (lean/Hw/Io/Shmem.lean).  Reading of the English property:

  * "the length returned by get_length is sufficient for write": both functions run hwloc__topology_dup with a
    custom allocator.  For EVERY trace of requested sizes, the bump allocator of `write` started at
    base + header_length hands out ALIGN-aligned, pairwise disjoint blocks that all lie inside
    [base + header_length, base + get_length(trace)).  That the two dup passes issue the same trace is what the
    differential engine checks on the real code (C19 tie D, observation `trace`).
  * "adopt with the same file, offset, address and length returns an observably identical topology": over the
    world model (file segments, occupied address ranges) write-then-adopt yields a handle whose content IS the
    content written (canonical dump + XML/distances/memattrs/cpukinds/infos texts) — the relation the harness compares.
  * errors: the decision functions follow the source order; the theorems characterise each errno exactly.
  * "every structure-modifying call fails with EPERM": for every entry of the guard table extracted from the
    source (Hw.Gen.Shmem.guards) the call returns EPERM (EINVAL only where hwloc tests something first: the Misc filter
    KEEP_NONE in insert_misc_object, a foreign structure in distances_release_remove) and leaves the adopted state untouched; over arbitrary call histories
    the mapped content never changes in the model.
  * `hwloc_topology_allow` (the documented exception): adopt gives the adopted topology private copies of the two
    allowed sets, so a validated call succeeds, installs the new sets there and leaves the mapping alone
    (`C19_allow_exception`); write refreshes the memattr caches of the copy, so queries never store
    (`C19_memattr_query_never_stores`); both facts (`Adopted.Sound`) hold for every adopted topology and are kept by
    every call (`C19_adopt_equiv`, `C19_adopted_never_faults`).
  * Calls that cannot be guarded because they take no topology argument (hwloc_obj_add_info, hwloc_modify_infos on
    object infos, direct stores to obj->userdata) are outside the call set: objects of an adopted topology are
    documented as read-only and the PROT_READ mapping is the only protection.
-/
import Hw.Io.ShmemLemmas
namespace Hw.Props.C19
open Hw Hw.Shmem Hw.Gen.Shmem

/-- P0 length_suffices.  For every allocation trace `ss`, page size and 8-aligned base: the blocks handed out by the
    bump pass are 8-aligned, start behind the header, end before `base + get_length`, are pairwise disjoint
    (even ordered), are exactly as many and as large as requested, and the touched prefix `usedBytes` fits. -/
theorem C19_length_suffices (ps base : Nat) (ss : List Nat) (hps : 0 < ps) (hb : base % 8 = 0) :
    (∀ b ∈ bump (base + headerLength) ss,
        b.addr % 8 = 0 ∧ base + headerLength ≤ b.addr ∧ b.addr + b.size ≤ base + getLength ps ss) ∧
    (bump (base + headerLength) ss).Pairwise (fun x y => x.addr + x.size ≤ y.addr) ∧
    (bump (base + headerLength) ss).map (·.size) = ss ∧
    usedBytes ss ≤ getLength ps ss ∧ getLength ps ss % ps = 0 := by
  have hu := usedBytes_le_getLength ps hps ss
  have he : bumpEnd (base + headerLength) ss = base + usedBytes ss := by
    unfold usedBytes; rw [bumpEnd_eq, bumpEnd_eq, Nat.add_assoc]
  have ⟨hm, hp⟩ := bump_spec (base + headerLength) ss
  refine ⟨fun b hb' => ?_, hp, bump_sizes _ _, hu, roundUp_mod _ _⟩
  have ⟨h1, h2, h3⟩ := hm b hb'
  exact ⟨h1 (by rw [Nat.add_mod, hb, headerLength_eq]), h2, Nat.le_trans (he ▸ h3) (Nat.add_le_add_left hu base)⟩

/-- the counting pass and the bump pass agree: the cursor ends exactly `countFrom 0 ss` bytes after its start,
    and the length is the page round-up of header + that count -/
theorem C19_passes_agree (cur : Nat) (ss : List Nat) (ps : Nat) :
    bumpEnd cur ss = cur + countFrom 0 ss ∧ getLength ps ss = roundUp ps (usedBytes ss) := by
  refine ⟨bumpEnd_eq cur ss, ?_⟩
  rw [usedBytes_eq]; rfl

/-- the C expressions `(n + A - 1) & ~(A - 1)` on 64-bit unsigned values compute the arithmetic round-up used by
    the theorems, for the allocation alignment and for every power-of-two page size, as long as nothing wraps -/
theorem C19_rounding_matches_C :
    (∀ n, n + 7 < 2 ^ 64 → roundUpC ALIGN n = align8 n) ∧
    (∀ k n, k ≤ 64 → n + 2 ^ k - 1 < 2 ^ 64 → roundUpC (2 ^ k) n = roundUp (2 ^ k) n) :=
  ⟨align8_matches_C, roundUpC_eq⟩

/-- header layout: 24 bytes, padded header length 24 (so the topology struct is pointer-aligned and starts where
    `assert((char*)new == (char*)mmap_address + sizeof(header))` says), version 1 -/
theorem C19_header_layout :
    HEADER_SIZE = 24 ∧ headerLength = 24 ∧ headerLength % PTR = 0 ∧ HEADER_SIZE ≤ headerLength ∧ HEADER_VERSION = 1 ∧
    headerFields = [("header_version", 0, 4), ("header_length", 4, 4), ("mmap_address", 8, 8), ("mmap_length", 16, 8)] ∧
    sameRounding = true := by decide +kernel

/-- P0 adopt_decision (system calls succeed: the header could be read, mmap returned address `a`). -/
theorem C19_adopt_decision (flags : Nat) (h : Header) (addr len a : Nat) (abiOk : Bool) :
    (adoptDecision flags (some h) addr len (.at a) abiOk = .einval ↔
        flags ≠ 0 ∨ h ≠ mkHeader addr len ∨ (a = addr ∧ abiOk = false)) ∧
    (adoptDecision flags (some h) addr len (.at a) abiOk = .ebusy ↔ flags = 0 ∧ h = mkHeader addr len ∧ a ≠ addr) ∧
    (adoptDecision flags (some h) addr len (.at a) abiOk = .ok ↔
        flags = 0 ∧ h = mkHeader addr len ∧ a = addr ∧ abiOk = true) ∧
    (adoptDecision flags (some h) addr len (.at a) abiOk = .einval ∨
     adoptDecision flags (some h) addr len (.at a) abiOk = .ebusy ∨
     adoptDecision flags (some h) addr len (.at a) abiOk = .ok) := by
  by_cases hf : flags = 0
  · subst hf
    by_cases hh : h = mkHeader addr len
    · subst hh
      rw [adoptDecision_hdr]
      by_cases ha : a = addr
      · cases abiOk <;> simp [ha]
      · simp [ha]
    · rw [adoptDecision_bad hh]
      simp [hh]
  · rw [adoptDecision_flags hf]
    simp [hf]

/-- the remaining exits of adopt: a failing lseek/short read or a failing mmap return -1 with the kernel's errno;
    the flags are tested before anything else -/
theorem C19_adopt_syscall_exits (flags addr len : Nat) (h : Header) (mm : Mmap) (abiOk : Bool) :
    (flags ≠ 0 → adoptDecision flags none addr len mm abiOk = .einval) ∧
    (flags = 0 → adoptDecision flags none addr len mm abiOk = .sys) ∧
    (flags = 0 → h = mkHeader addr len → adoptDecision flags (some h) addr len .failed abiOk = .sys) := by
  refine ⟨adoptDecision_flags, fun hf => ?_, fun hf hh => ?_⟩
  · subst hf; rfl
  · subst hf hh; exact adoptDecision_hdr

/-- write: EINVAL iff flags, EBUSY iff mmap returned another address, success otherwise (I/O succeeding) -/
theorem C19_write_decision (flags addr a : Nat) :
    (writeDecision flags true addr (.at a) = .einval ↔ flags ≠ 0) ∧
    (writeDecision flags true addr (.at a) = .ebusy ↔ flags = 0 ∧ a ≠ addr) ∧
    (writeDecision flags true addr (.at a) = .ok ↔ flags = 0 ∧ a = addr) := by
  unfold writeDecision
  by_cases hf : flags = 0 <;> by_cases ha : a = addr <;> simp [hf, ha]

/-- P0 adopt_equiv.  In any world where the address range is free: write succeeds, and adopting with the same
    offset, address and length succeeds and yields a handle whose mapped content is exactly the written content
    (the dump / XML / distances / memattrs / cpukinds / infos texts the harness compares), whose private infos copy
    equals the written infos, which is marked adopted at (addr, len), and which is `Sound`: its allowed sets are
    private copies and the memattr caches of the mapped copy are valid. -/
theorem C19_adopt_equiv (w : World) (t : Content) (ss : List Nat) (off addr len : Nat)
    (hfree : w.space.isFree addr len = true) :
    (w.write t ss off addr len 0).1 = .ok ∧
    ((w.write t ss off addr len 0).2.adopt off addr len 0).1 = .ok ∧
    ∃ h a, ((w.write t ss off addr len 0).2.adopt off addr len 0).2.1 = some h ∧
      ((w.write t ss off addr len 0).2.adopt off addr len 0).2.2.get h = some a ∧
      a.content = t ∧ a.infos = t.infos ∧ a.addr = addr ∧ a.len = len ∧ a.Sound := by
  obtain ⟨w', hw, hsp, hseg⟩ := write_of_isFree w t ss off addr len hfree
  have hd : adoptDecision 0 (w'.readHeader off) addr len (w'.space.mmap addr len) (w'.abiOk off) = .ok := by
    rw [readHeader_of_segment hseg, abiOk_of_segment hseg, hsp, mmap_free _ _ _ hfree, adoptDecision_hdr]
    simp
  rw [hw]
  rw [adopt_eq_ok.2 ⟨_, hseg, rfl, rfl, hd⟩]
  exact ⟨rfl, rfl, w'.next, _, rfl, addLive_get _ _, rfl, rfl, rfl, rfl, rfl, rfl⟩

/-- mismatching address or length, non-zero flags, another ABI → EINVAL; occupied range → EBUSY; an offset where
    nothing was written → EINVAL (zero header) — for every world in which `off` holds a segment written for (addr, len) -/
theorem C19_adopt_errors (w : World) (img : Image) (off addr len : Nat)
    (hseg : w.segment off = some img) (hhdr : img.hdr = mkHeader addr len) :
    (∀ addr' len' flags, (addr', len') ≠ (addr, len) → (w.adopt off addr' len' flags).1 = .einval) ∧
    (∀ flags, flags ≠ 0 → (w.adopt off addr len flags).1 = .einval) ∧
    (w.space.isFree addr len = false → (w.adopt off addr len 0).1 = .ebusy) ∧
    (w.space.isFree addr len = true → img.abi ≠ thisAbi → (w.adopt off addr len 0).1 = .einval) ∧
    (∀ off' addr' len', w.segment off' = none → off' + HEADER_SIZE ≤ w.fileSize → (w.adopt off' addr' len' 0).1 = .einval) := by
  have hr := readHeader_of_segment hseg
  rw [hhdr] at hr
  refine ⟨fun addr' len' flags hne => ?_, fun flags hf => ?_, fun hbusy => ?_, fun hfree habi => ?_,
    fun off' addr' len' hnone hsz => ?_⟩
  · rw [adopt_fst, hr]
    refine adoptDecision_bad fun e => hne ?_
    cases e; rfl
  · rw [adopt_fst]
    exact adoptDecision_flags hf
  · obtain ⟨a, hm, hne⟩ := mmap_busy _ _ _ hbusy
    rw [adopt_fst, hr, hm, adoptDecision_hdr]
    exact if_pos hne
  · rw [adopt_fst, hr, mmap_free _ _ _ hfree, abiOk_of_segment hseg, adoptDecision_hdr]
    simp [habi]
  · rw [adopt_fst]
    simp only [World.readHeader, hnone, hsz, if_true]
    exact adoptDecision_bad (zeroHeader_ne _ _)

/-- What is read off the generated guard table, in one evaluation: the kernel decodes the string literals of the
    table character by character as the comparisons reach them, and keeps that work only within one declaration. -/
theorem guard_table_eval :
    (∀ fn ∈ modifyingEntryPoints, fn ≠ "hwloc_topology_allow" → (findGuard fn).isSome = true) ∧
    (∀ fn ∈ refusedBusy, findGuard fn = none) ∧
    ((findGuard "hwloc_topology_restrict").isSome = true ∧ guards.length ≥ 9) := by decide +kernel

/-- every modifying entry point that receives the topology — except the documented exception `allow` — is in the
    extracted guard table (more guards may be added without breaking this; dropping one breaks it) -/
theorem C19_guard_table_covers :
    ∀ fn ∈ modifyingEntryPoints, fn ≠ "hwloc_topology_allow" → (findGuard fn).isSome = true := guard_table_eval.1

/-- P0 adopted_readonly.  Every guarded entry point, called on ANY adopted state, returns EPERM and leaves the state
    (mapped content and private part) unchanged; the only other answers are the EINVAL of a test that precedes the guard
    in the source: the Misc filter KEEP_NONE in hwloc_topology_insert_misc_object, a distances structure that does not
    belong to the topology in hwloc_distances_release_remove. -/
theorem C19_adopted_readonly (a : Adopted) (fn : String) (fd : Bool) (g : Guard) (hg : findGuard fn = some g) :
    (stepAdopted a (.call fn fd)).2 = a ∧
    ((stepAdopted a (.call fn fd)).1 = .ret .eperm ∨
     ((stepAdopted a (.call fn fd)).1 = .ret .einval ∧ a.content.miscFilter = 1 ∧ (Pre.miscFilterNone, "EINVAL") ∈ g.pre) ∨
     ((stepAdopted a (.call fn fd)).1 = .ret .einval ∧ fd = true ∧ (Pre.distNotFound, "EINVAL") ∈ g.pre)) := by
  simp only [stepAdopted, hg, true_and]
  rcases guardResult_cases a fd g (findGuard_mem hg).1 with h | ⟨p, h1, h2, h3⟩
  · left; rw [h]
  · cases p with
    | isLoaded => cases h2
    | miscFilterNone => right; left; exact ⟨by rw [h1], by simpa [preFires] using h2, h3⟩
    | distNotFound => right; right; exact ⟨by rw [h1], h2, h3⟩

/-- with the Misc filter different from KEEP_NONE and arguments that belong to the topology every guarded call is EPERM -/
theorem C19_adopted_eperm (a : Adopted) (fn : String) (g : Guard) (hg : findGuard fn = some g)
    (hm : a.content.miscFilter ≠ 1) : stepAdopted a (.call fn false) = (.ret .eperm, a) := by
  have ⟨h1, h2⟩ := C19_adopted_readonly a fn false g hg
  rcases h2 with h | ⟨_, h, _⟩ | ⟨_, h, _⟩
  · exact Prod.ext h h1
  · exact absurd h hm
  · exact absurd h (by decide)

/-- histories: whatever sequence of public calls is applied to an adopted topology (guarded, refused, permitted on
    private copies, `allow`, memattr queries), the mapped content and the mapping itself never change in the model;
    configuration calls are refused with EBUSY -/
theorem C19_adopted_history_readonly (a : Adopted) (ops : List Op) :
    (runAdopted a ops).2.content = a.content ∧ (runAdopted a ops).2.addr = a.addr ∧ (runAdopted a ops).2.len = a.len :=
  (runAdopted_inv (P := fun x => x.content = a.content ∧ x.addr = a.addr ∧ x.len = a.len) (Q := fun _ => True) ops
    ⟨rfl, rfl, rfl⟩ fun x ⟨h1, h2, h3⟩ op _ =>
      have h := stepAdopted_keeps x op
      ⟨trivial, (congrArg Adopted.content h :).trans h1, (congrArg Adopted.addr h :).trans h2,
        (congrArg Adopted.len h :).trans h3⟩).2

theorem C19_refused_busy (a : Adopted) :
    ∀ fn ∈ refusedBusy, ∀ fd, stepAdopted a (.call fn fd) = (.ret .ebusy, a) := by
  intro fn hfn fd
  simp [stepAdopted, guard_table_eval.2.1 fn hfn, hfn]

/-- P0 allow, the documented exception.  On every `Sound` adopted topology (every state `adopt` produces, after any
    history) whose original was loaded with INCLUDE_DISALLOWED: allow(ALL) succeeds and installs the root's sets,
    allow(CUSTOM) with intersecting sets succeeds and installs the intersections (cpuset alone, or cpuset and nodeset
    together); the new sets go to the private copies; no allow call, successful or not, touches the mapped content or
    faults. -/
theorem C19_allow_exception (a : Adopted) (hs : a.Sound)
    (hfl : a.content.flags &&& FLAG_INCLUDE_DISALLOWED ≠ 0) :
    stepAdopted a (.allow ALLOW_ALL none none) =
      (.ret .ok, { a with allowedCpuset := a.content.rootCpuset, allowedNodeset := a.content.rootNodeset }) ∧
    (∀ c, a.content.rootCpuset &&& c ≠ 0 →
      stepAdopted a (.allow ALLOW_CUSTOM (some c) none) = (.ret .ok, { a with allowedCpuset := a.content.rootCpuset &&& c })) ∧
    (∀ c n, a.content.rootCpuset &&& c ≠ 0 → a.content.rootNodeset &&& n ≠ 0 →
      stepAdopted a (.allow ALLOW_CUSTOM (some c) (some n)) =
        (.ret .ok, { a with allowedCpuset := a.content.rootCpuset &&& c, allowedNodeset := a.content.rootNodeset &&& n })) ∧
    (∀ fl c n, (stepAdopted a (.allow fl c n)).2.content = a.content ∧ (stepAdopted a (.allow fl c n)).1 ≠ .fault ∧
               (stepAdopted a (.allow fl c n)).2.Sound) := by
  have hall : allowDecision a ALLOW_ALL none none false false = .ok := by
    rw [allowDecision.eq_def, if_neg hfl, if_pos rfl]; rfl
  have hcust : ∀ c n, allowDecision a ALLOW_CUSTOM (some c) n false false =
      if a.content.rootCpuset &&& c = 0 then .einval
      else match n with
        | some n => if a.content.rootNodeset &&& n = 0 then .einval else .ok
        | none => .ok := by
    intro c n
    rw [allowDecision.eq_def, if_neg hfl, if_neg (by decide), if_neg (by decide), if_pos rfl]
    rfl
  refine ⟨?_, fun c hc => ?_, fun c n hc hn => ?_,
    fun fl c n => ⟨(congrArg Adopted.content (stepAdopted_keeps a _) :), ?_, stepAdopted_sound a _ hs⟩⟩
  · rw [stepAdopted_allow_ok hall hs.1]; rfl
  · rw [stepAdopted_allow_ok (by rw [hcust, if_neg hc]) hs.1]; rfl
  · rw [stepAdopted_allow_ok (by rw [hcust, if_neg hc]; exact if_neg hn) hs.1]; rfl
  · exact stepAdopted_no_fault a _ hs (fun fn fd h => by cases h)

/-- without INCLUDE_DISALLOWED (and for malformed arguments) allow is refused with EINVAL before any store -/
theorem C19_allow_einval (a : Adopted) (fl : Nat) (c n : Option Nat)
    (h : a.content.flags &&& FLAG_INCLUDE_DISALLOWED = 0 ∨ (fl ≠ ALLOW_ALL ∧ fl ≠ ALLOW_LOCAL ∧ fl ≠ ALLOW_CUSTOM)
         ∨ (fl = ALLOW_ALL ∧ c.isSome = true)) :
    stepAdopted a (.allow fl c n) = (.ret .einval, a) := by
  have hd : allowDecision a fl c n false false = .einval := by
    by_cases hf : a.content.flags &&& FLAG_INCLUDE_DISALLOWED = 0
    · exact if_pos hf
    · rcases h with h | ⟨h1, h2, h3⟩ | ⟨h1, h2⟩
      · exact absurd h hf
      · rw [allowDecision.eq_def, if_neg hf, if_neg h1, if_neg h2, if_neg h3]
      · rw [allowDecision.eq_def, if_neg hf, if_pos h1, h2]; rfl
  simp only [stepAdopted, hd]

/-- memattr queries on an adopted topology never store: write refreshes the memattr caches of the copy it stores
    (every written image has them valid, see `C19_adopt_equiv`), so a query returns without refreshing and the state —
    mapped content included — is unchanged -/
theorem C19_memattr_query_never_stores (a : Adopted) (hs : a.Sound) :
    stepAdopted a .memattrQuery = (.ret .ok, a) := by simp [stepAdopted, hs.2]

/-- on a `Sound` adopted topology no history of public calls (guarded or refused entry points with any arguments, `allow`,
    userdata, additions to the private infos copy, memattr queries) ever stores into the mapping, and `Sound` is kept -/
theorem C19_adopted_never_faults (a : Adopted) (hs : a.Sound) (ops : List Op)
    (hops : ∀ fn fd, Op.call fn fd ∈ ops → (findGuard fn).isSome = true ∨ fn ∈ refusedBusy) :
    (∀ o ∈ (runAdopted a ops).1, o ≠ .fault) ∧ (runAdopted a ops).2.Sound :=
  runAdopted_inv ops hs fun x hx op hop =>
    ⟨stepAdopted_no_fault x op hx fun fn fd h => hops fn fd (h ▸ hop), stepAdopted_sound x op hx⟩

/-- whenever a call does not fault, the code-faithful step answers exactly what the property demands; the differential
    engine compares the real code against `demanded`, so agreement on the default stream is agreement with `stepAdopted` -/
theorem C19_demanded_eq_step (a : Adopted) (op : Op) (h : (stepAdopted a op).1 ≠ .fault) :
    (stepAdopted a op).1 = demanded a op := by
  have ho := stepAdopted_outcome a op
  cases hs : (stepAdopted a op).1 with
  | ret e => rw [hs] at ho; exact ho.symm
  | fault => exact absurd hs h

/-- destroy unmaps: after adopting into a free range and destroying the handle, the range is free again, the handle
    is gone, and while the topology was alive a second adoption at the same (non-empty) range was EBUSY -/
theorem C19_destroy_unmaps (w : World) (off addr len h : Nat) (w' : World)
    (hfree : w.space.isFree addr len = true) (had : w.adopt off addr len 0 = (.ok, some h, w')) :
    (w'.destroy h).space.isFree addr len = true ∧ (w'.destroy h).get h = none ∧
    (0 < len → (w'.adopt off addr len 0).1 = .ebusy) := by
  obtain ⟨img, hseg, rfl, rfl, hd⟩ := adopt_eq_ok.1 had
  have hh : img.hdr = mkHeader addr len :=
    Option.some.inj ((readHeader_of_segment hseg).symm.trans (adoptDecision_eq_ok hd))
  refine ⟨?_, destroy_addLive_get _ _, fun hl => ?_⟩
  · rw [destroy_addLive_space]
    exact isFree_unmap_cons _ _ _ hfree
  · -- the segment is still there and the range is now occupied
    exact (C19_adopt_errors (w.addLive _) img off addr len hseg hh).2.2.1 (not_free_after_map w.space addr len hl)

/-! ### non-vacuity -/

/-- a concrete trace: sizes 1, 8, 13, 0, 4000 at base 0x10000 with 4 KiB pages -/
example : getLength 4096 [1, 8, 13, 0, 4000] = 4096 ∧ getLength 4096 [4000, 100] = 8192 ∧ usedBytes [1, 8, 13, 0, 4000] = 24 + 8 + 8 + 16 + 0 + 4000 ∧
    (bump (0x10000 + headerLength) [1, 8, 13, 0, 4000]).map (·.addr) = [65560, 65568, 65576, 65592, 65592] := by decide +kernel

example : adoptDecision 0 (some (mkHeader 0x7000 8192)) 0x7000 8192 (.at 0x7000) true = .ok ∧
    adoptDecision 0 (some (mkHeader 0x7000 8192)) 0x7000 4096 (.at 0x7000) true = .einval ∧
    adoptDecision 0 (some (mkHeader 0x7000 8192)) 0x7000 8192 (.at 0x9000) true = .ebusy ∧
    adoptDecision 0 (some (mkHeader 0x7000 8192)) 0x7000 8192 (.at 0x7000) false = .einval ∧
    adoptDecision 1 (some (mkHeader 0x7000 8192)) 0x7000 8192 (.at 0x7000) true = .einval := by decide +kernel

/-- the guard table is not empty and contains restrict -/
example : (findGuard "hwloc_topology_restrict").isSome = true ∧ guards.length ≥ 9 := guard_table_eval.2.2

/-- a world in which the hypotheses of adopt_equiv / destroy_unmaps hold, and one where the range is occupied -/
example : (({} : World).space.isFree 0x7000 8192 = true) ∧
    (({ space := [(0x8000, 4096)] } : World).space.isFree 0x7000 8192 = false) := by decide +kernel

end Hw.Props.C19
