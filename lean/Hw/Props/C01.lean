/-
  Property C01 — every successfully loaded topology is a well-formed object tree.

  `WF : Dump → Prop` (Hw.Topo.WF) is the declarative conjunction of every clause of the property over
  the observable content of a topology (the dump the harness reads through the public API).  The
  theorems here: the executable oracle run on every loaded topology is exactly `WF`; the
  consequences of `WF` that the other properties build on; and, for the models of the stages of `hwloc_discover`
  (insertion by cpuset, the set pipeline, `remove_empty`, level merging and `render`, total memory, Group depths,
  symmetric_subtree) and EVERY tree, which clauses of `WF` each stage establishes or preserves, and their composition.
  What is NOT proved here (partial claim): that the C loader establishes `WF` (the back ends are not modelled) — that is
  established by running the oracle on every topology the `topo-load` engine loads (sources x filters x flags), see DESIGN.md.
-/
import Hw.Topo.WFLemmas0
import Hw.Topo.InsertLemmas
import Hw.Topo.SetStagePre
import Hw.Topo.SetStageShape
import Hw.Topo.SetStageNested
import Hw.Topo.RenderLemmas
import Hw.Topo.RenderOf
import Hw.Topo.StageCompose
import Hw.Topo.StageDecomp
import Hw.Topo.StageTyping
import Hw.Topo.StageSetsOK
import Hw.Topo.StageRemoveEmptyKept
import Hw.Topo.StageSymmetricLemmas
import Hw.Topo.StageMemoryDump
import Hw.Topo.StageUnique
import Hw.Topo.RenderCover
import Hw.Topo.StageSetsMerge
import Hw.Topo.RestrictMerge
import Hw.Topo.StageNuma
import Hw.Topo.RenderTop
import Hw.Topo.RenderSets
namespace Hw.Props.C01
open Hw.Topo

/-- the oracle neither misses a violated clause nor flags a satisfied one -/
theorem C01_oracle_exact (d : Dump) : wfCheck d = [] ↔ WF d := wfCheck_iff d

theorem C01_gp_index_unique (d : Dump) (h : WF d) : (d.objs.map (·.gp)).Nodup := h.gp_nodup
theorem C01_pu_os_index_unique (d : Dump) (h : WF d) :
    ((d.objs.filter (fun o => o.type == tPU)).map (·.osidx)).Nodup := h.pu_osidx_unique
theorem C01_numa_os_index_unique (d : Dump) (h : WF d) :
    ((d.objs.filter (fun o => o.type == tNUMA)).map (·.osidx)).Nodup := h.numa_osidx_unique
theorem C01_single_machine_root (d : Dump) (h : WF d) (o : Obj) (ho : o ∈ d.objs) (ht : o.type = tMACHINE) :
    o.id = 0 := h.machine_is_root o ho ht
theorem C01_no_filtered_type (d : Dump) (h : WF d) (o : Obj) (ho : o ∈ d.objs) :
    (d.filters[o.type]?).getD 0 ≠ 1 := h.not_filtered o ho
theorem C01_set_in_complete (d : Dump) (h : WF d) (o : Obj) (ho : o ∈ d.objs) :
    subset (o.cpuset.getD 0) (o.ccpuset.getD 0) = true ∧ subset (o.nodeset.getD 0) (o.cnodeset.getD 0) = true :=
  h.set_in_complete o ho
theorem C01_pu_cpuset (d : Dump) (h : WF d) (o : Obj) (ho : o ∈ d.objs) (ht : o.type = tPU) :
    0 ≤ o.osidx ∧ o.cpuset = some (single o.osidx.toNat) ∧ o.ccpuset = some (single o.osidx.toNat) :=
  h.pu_cpuset o ho ht
theorem C01_numa_nodeset (d : Dump) (h : WF d) (o : Obj) (ho : o ∈ d.objs) (ht : o.type = tNUMA) :
    0 ≤ o.osidx ∧ o.nodeset = some (single o.osidx.toNat) ∧ o.cnodeset = some (single o.osidx.toNat) :=
  h.numa_nodeset o ho ht
theorem C01_allowed_sets (d : Dump) (h : WF d) : ∃ r, d.objs[0]? = some r ∧
    subset (d.allowedCpuset.getD 0) (r.cpuset.getD 0) = true ∧ subset (d.allowedNodeset.getD 0) (r.nodeset.getD 0) = true ∧
    (flagIncludeDisallowed d = false → d.allowedCpuset = r.cpuset ∧ d.allowedNodeset = r.nodeset) := h.allowed


/-! ### the insertion core of every discovery back end (`hwloc__insert_object_by_cpuset`, model `Hw.Topo.Ins`) -/

open Hw.Topo.Ins in
/-- every loader builds the normal-object tree by calling the insertion routine once per discovered object.  For ANY sequence of
objects (any number, any order, any sets inside the root's — equal, nested, disjoint or intersecting ones included) inserted
into a laminar tree, the routine never loses an object, and the final tree is laminar again: at every level the children's sets
are pairwise disjoint and included in their parent's (the inclusion / disjointness clauses of the property, by construction),
every object present before is still there, and a gp_index appears at most as often as it was inserted -/
theorem C01_discovery_by_insertion (t : T) (objs : List IObj) (hL : Lam t) (hs : ∀ o ∈ objs, sub o.key t.o.key) :
    ∃ t', insAll t objs = some t' ∧ Lam t' ∧ t'.o.key = t.o.key ∧
      ∀ g, cntT g t ≤ cntT g t' ∧ cntT g t' ≤ cntT g t + (objs.map (·.gp)).count g :=
  insAll_good objs t hL hs

/-! non-vacuity: three objects (a package, a PU inside it, an object that intersects the package and is refused) -/
section
open Hw.Topo.Ins
example : (match insAll (.node { gp := 0, type := tMACHINE, key := 0xff } [])
      [{ gp := 1, type := tPACKAGE, key := 0x0f }, { gp := 2, type := tPU, key := 0x1 }, { gp := 3, type := tCORE, key := 0x18 }] with
    | some t' => rows 0 t' | none => []) = [(0, 0, [], []), (1, 0, [], []), (2, 1, [], [])] := by decide +kernel
end

/-! ### the set pipeline of `hwloc_discover` ("Fixup root sets", `propagate_nodeset`, `fixup_sets`, `remove_unused_sets`; model
`Hw.Topo.SetStage.stage`, tied to the code by the `set-stage` engine, which runs it on the tree that the library dumps before the
stage and compares with the tree dumped after it)

For ANY tree satisfying the decidable precondition `PreSets` (evaluated by the engine on every real input), at EVERY node of the
output (`AllN P t` = `P o kids mem` holds at every node `o` with normal children `kids` and memory children `mem`): -/
section SetStage
open Hw.Topo.SetStage

/-- the precondition is decidable: the executable check the driver runs is exactly `PreSets` -/
theorem C01_setstage_pre_decidable (i : In) : preSets i = true ↔ PreSets i := preSets_iff i

/-- WF clauses "sets-presence" and "set-in-complete": after the stage every object has its four sets, cpuset ⊆ complete_cpuset and
nodeset ⊆ complete_nodeset -/
theorem C01_setstage_set_in_complete (i : In) (h : PreSets i) :
    AllN (fun o _ _ => ∃ cc cn, o.ccpuset = some cc ∧ o.cnodeset = some cn ∧ Sub o.cpuset cc ∧ Sub o.nodeset cn) (stage i).root :=
  AllN.imp (fun _ _ _ hp => hp.good) _ (stage_post i h)

/-- WF clause "set-in-parent": each of the four sets of every normal or memory child lies inside the parent's -/
theorem C01_setstage_set_in_parent (i : In) (h : PreSets i) :
    AllN (fun o kids mem => ∀ c ∈ kids ++ mem, Sub c.o.cpuset o.cpuset ∧ Sub (c.o.ccpuset.getD 0) (o.ccpuset.getD 0) ∧
                                               Sub c.o.nodeset o.nodeset ∧ Sub (c.o.cnodeset.getD 0) (o.cnodeset.getD 0)) (stage i).root :=
  AllN.imp (fun _ _ _ hp c hc => by
    rcases List.mem_append.1 hc with hc | hc
    · exact hp.inKids c hc
    · exact (hp.inMem c hc).1) _ (stage_post i h)

/-- WF clause "memory-child-shares-cpuset": memory children carry their parent's cpuset and complete_cpuset -/
theorem C01_setstage_memory_child_shares_cpuset (i : In) (h : PreSets i) :
    AllN (fun o _ mem => ∀ m ∈ mem, m.o.cpuset = o.cpuset ∧ m.o.ccpuset = o.ccpuset) (stage i).root :=
  AllN.imp (fun _ _ _ hp m hm => (hp.inMem m hm).2) _ (stage_post i h)

/-- the laminar structure built by the insertion routine survives: the cpusets of the normal children of every object stay pairwise
disjoint (and, by `C01_setstage_set_in_parent`, inside the parent's) -/
theorem C01_setstage_siblings_disjoint (i : In) (h : PreSets i) :
    AllN (fun _ kids _ => (kids.map (·.o.cpuset)).Pairwise Dj) (stage i).root :=
  AllN.imp (fun _ _ _ hp => hp.dj) _ (stage_post i h)

/-- WF clause "nodeset-decomposition": the nodeset of every normal object is the union of what it inherits from the memory children of
its ancestors (`inh`, empty at the root), of its own memory children and of what is attached below its normal children, and these parts
are pairwise disjoint (`Decomp`, Hw/Topo/SetStageDecomp.lean, spells out the five conditions) -/
theorem C01_setstage_nodeset_decomposition (i : In) (h : PreSets i) : Decomp 0 (stage i).root := stage_decomp i h

/-- WF clause "allowed-sets": the allowed sets lie inside the root sets, and are equal to them when INCLUDE_DISALLOWED is not set -/
theorem C01_setstage_allowed_sets (i : In) (h : PreSets i) :
    Sub (stage i).allowedC (stage i).root.o.cpuset ∧ Sub (stage i).allowedN (stage i).root.o.nodeset ∧
    (i.includeDisallowed = false → (stage i).root.o.cpuset = (stage i).allowedC ∧ (stage i).root.o.nodeset = (stage i).allowedN) :=
  stage_allowed i h.covered

/-- WF clauses "pu-allowed" and "numa-allowed" (for every object, not only PUs and NUMA nodes, and without any precondition): when
INCLUDE_DISALLOWED is not set, every cpuset lies inside the allowed cpuset and every nodeset inside the allowed nodeset -/
theorem C01_setstage_within_allowed (i : In) (hf : i.includeDisallowed = false) :
    AllN (fun o _ _ => Sub o.cpuset (stage i).allowedC ∧ Sub o.nodeset (stage i).allowedN) (stage i).root :=
  stage_within_allowed i hf

/-- the stage loses no object and invents none (in this source tree `remove_unused_sets` only intersects sets; objects that become empty
are unlinked later by `remove_empty`): the objects of the output — (gp_index of the parent, in a memory list, gp_index, type, os_index),
depth-first — are a permutation of the input's; only the order of normal children may change.  No precondition. -/
theorem C01_setstage_no_object_lost (i : In) : (ids (-1) false (stage i).root).Perm (ids (-1) false i.root) := stage_ids_perm i

/-! non-vacuity: a machine with an offline processor (bit 6 only in the complete cpuset), two packages each with a NUMA node, the
second package wider than the root cpuset (processors 6 and 7), processor 3 not allowed.  The precondition holds; the stage clips the
second package to the root, gives every object its complete sets and nodesets, hands the parent's cpusets to the NUMA nodes, and
empties the disallowed PU.  Rows: [gp_index, parent (0 for the root), in the memory list, cpuset, complete_cpuset, nodeset, complete_nodeset]. -/
def exPU (gp os : Nat) : ST := .node ⟨gp, tPU, os, 1 <<< os, none, 0, none⟩ [] []
def exNUMA (gp os cpuset : Nat) : ST := .node ⟨gp, tNUMA, os, cpuset, none, 1 <<< os, some (1 <<< os)⟩ [] []
def exIn : In := ⟨false, ⟨false, 0x37⟩, ⟨true, 0⟩,
  .node ⟨1, tMACHINE, 0, 0x3f, some 0x7f, 3, some 7⟩
    [ .node ⟨2, tPACKAGE, 0, 0x07, none, 0, none⟩ [exPU 3 0, exPU 4 1, exPU 5 2] [exNUMA 10 0 0x07],
      .node ⟨6, tPACKAGE, 1, 0xf8, none, 0, none⟩ [exPU 7 3, exPU 8 4, exPU 9 5] [exNUMA 11 1 0xf8] ] []⟩

theorem exIn_pre : PreSets exIn := (preSets_iff exIn).1 (by decide +kernel)
example : PreSets exIn := exIn_pre
example : (stage exIn).allowedC = 0x37 ∧ (stage exIn).allowedN = 3 ∧
    (rows (-1) false (stage exIn).root).map
      (fun r => [r.2.2.gp, r.1.toNat, r.2.1.toNat, r.2.2.cpuset, r.2.2.ccpuset.getD 0, r.2.2.nodeset, r.2.2.cnodeset.getD 0]) =
    [[1, 0, 0, 0x37, 0x7f, 3, 7],
     [2, 1, 0, 7, 7, 1, 1], [3, 2, 0, 1, 1, 1, 1], [4, 2, 0, 2, 2, 1, 1], [5, 2, 0, 4, 4, 1, 1], [10, 2, 1, 7, 7, 1, 1],
     [6, 1, 0, 0x30, 0x38, 2, 2], [7, 6, 0, 0, 8, 2, 2], [8, 6, 0, 0x10, 0x10, 2, 2], [9, 6, 0, 0x20, 0x20, 2, 2],
     [11, 6, 1, 0x30, 0x38, 2, 2]] := by decide +kernel
/-! #### memory hierarchies of any depth (a NUMA node behind one or several memory-side caches)

`MemBelow t m`: `m` is a memory child of `t`, or a memory child of a memory child of `t`, and so on.  The clauses above speak about a
node and its direct children; these two state what every memory object inherits from the object its hierarchy is attached to, however
deep it is nested — `remove_unused_sets` has to recurse into memory children for that (engines `topo-load` / `set-stage`: derived
sources with disallowed PUs / NUMA nodes below kept memory-side caches, evidence counters `*nested_memory_and_disallowed_removed`). -/

/-- WF clauses "memory-child-shares-cpuset" and "set-in-parent" along memory chains of any length: every memory object below `o`
carries exactly the cpuset and complete_cpuset of `o`, and its nodeset / complete_nodeset lie inside those of `o` -/
theorem C01_setstage_nested_memory_shares_cpuset (i : In) (h : PreSets i) :
    AllN (fun o kids mem => ∀ m, MemBelow (.node o kids mem) m →
      m.o.cpuset = o.cpuset ∧ m.o.ccpuset = o.ccpuset ∧ Sub m.o.nodeset o.nodeset ∧ Sub (m.o.cnodeset.getD 0) (o.cnodeset.getD 0))
      (stage i).root :=
  AllN.imp (fun _ _ _ hp m hb => ⟨(hp m hb).1, (hp m hb).2.1, (hp m hb).2.2.1, (hp m hb).2.2.2.1⟩) _ (stage_nested_memory i h)

/-- WF clauses "pu-allowed" / "numa-allowed" / "memcache-nodeset" for nested memory objects: when INCLUDE_DISALLOWED is not set, a
memory object at ANY depth below `o` has the (already clipped) cpuset of `o`, inside the allowed cpuset, and a nodeset inside the
allowed nodeset: a disallowed NUMA node behind a memory-side cache ends with an empty nodeset (and is then unlinked by `remove_empty`),
and no disallowed PU survives in its locality -/
theorem C01_setstage_nested_memory_within_allowed (i : In) (h : PreSets i) (hf : i.includeDisallowed = false) :
    AllN (fun o kids mem => ∀ m, MemBelow (.node o kids mem) m →
      m.o.cpuset = o.cpuset ∧ Sub m.o.cpuset (stage i).allowedC ∧ Sub m.o.nodeset (stage i).allowedN) (stage i).root :=
  AllN.imp (fun _ _ _ hp m hb => ⟨(hp m hb).1, (hp m hb).2.2.2.2.1, (hp m hb).2.2.2.2.2⟩) _ (stage_nested_memory_allowed i h hf)

/-! non-vacuity: two packages of four processors; package 0 has a NUMA node behind TWO nested memory-side caches (gp 20 > 21 > 22),
package 1 a NUMA node behind one (gp 23 > 24); processors 3 and 7 and NUMA node 1 are not allowed.  The precondition holds; the stage
gives every nested memory object the clipped cpuset of its package and empties the nodeset of the disallowed node at every depth.
The shallow variant `removeUnusedShallow` (clip the memory children inline, do not recurse: the seeded change C01-r2) leaves the
disallowed processors in gp 21, 22, 24 and the disallowed node in gp 24. -/
def exMem (gp type os cpuset node : Nat) (mem : List ST) : ST := .node ⟨gp, type, os, cpuset, none, 1 <<< node, some (1 <<< node)⟩ [] mem
def exNested : In := ⟨false, ⟨false, 0x77⟩, ⟨false, 1⟩,
  .node ⟨1, tMACHINE, 0, 0xff, some 0xff, 3, some 3⟩
    [ .node ⟨2, tPACKAGE, 0, 0x0f, none, 0, none⟩ [exPU 3 0, exPU 4 1, exPU 5 2, exPU 6 3]
        [exMem 20 tMEMCACHE 0xffffffff 0x0f 0 [exMem 21 tMEMCACHE 0xffffffff 0x0f 0 [exMem 22 tNUMA 0 0x0f 0 []]]],
      .node ⟨7, tPACKAGE, 1, 0xf0, none, 0, none⟩ [exPU 8 4, exPU 9 5, exPU 10 6, exPU 11 7]
        [exMem 23 tMEMCACHE 0xffffffff 0xf0 1 [exMem 24 tNUMA 1 0xf0 1 []]] ] []⟩
def exFmt (t : ST) : List (List Nat) :=
  (rows (-1) false t).map (fun r => [r.2.2.gp, r.1.toNat, r.2.2.cpuset, r.2.2.ccpuset.getD 0, r.2.2.nodeset, r.2.2.cnodeset.getD 0])

example : PreSets exNested := (preSets_iff exNested).1 (by decide +kernel)
example : MemBelow (exMem 20 tMEMCACHE 0 0xf 0 [exMem 21 tMEMCACHE 0 0xf 0 [exMem 22 tNUMA 0 0xf 0 []]]) (exMem 22 tNUMA 0 0xf 0 []) :=
  .deeper (c := exMem 21 tMEMCACHE 0 0xf 0 [exMem 22 tNUMA 0 0xf 0 []]) (List.mem_singleton.2 rfl) (.child (List.mem_singleton.2 rfl))
example : (stage exNested).allowedC = 0x77 ∧ (stage exNested).allowedN = 1 ∧
    exFmt (stage exNested).root =
    [[1, 0, 0x77, 0xff, 1, 3],
     [2, 1, 7, 0xf, 1, 1], [3, 2, 1, 1, 1, 1], [4, 2, 2, 2, 1, 1], [5, 2, 4, 4, 1, 1], [6, 2, 0, 8, 1, 1],
     [20, 2, 7, 0xf, 1, 1], [21, 20, 7, 0xf, 1, 1], [22, 21, 7, 0xf, 1, 1],
     [7, 1, 0x70, 0xf0, 0, 2], [8, 7, 0x10, 0x10, 0, 2], [9, 7, 0x20, 0x20, 0, 2], [10, 7, 0x40, 0x40, 0, 2], [11, 7, 0, 0x80, 0, 2],
     [23, 7, 0x70, 0xf0, 0, 2], [24, 23, 0x70, 0xf0, 0, 2]] := by decide +kernel
example : (exFmt (removeUnusedShallow 0x77 1 (fixupSets (propagate 0 (fixupRoot exNested.root))))).filter (fun r => r[0]! ≥ 20) =
    [[20, 2, 7, 0xf, 1, 1], [21, 20, 0xf, 0xf, 1, 1], [22, 21, 0xf, 0xf, 1, 1], [23, 7, 0x70, 0xf0, 0, 2], [24, 23, 0xf0, 0xf0, 2, 2]] := by
  decide +kernel
end SetStage

/-! ### links and levels of a loaded topology follow from the renderer equality -/

open Hw.Topo.Restrict in
/-- let `d` be any dump that is a fixed point of the renderer for some typed tree with a normal root
    (`render t hdr ex = d`, PUs are leaves; the engine `topo-load` checks exactly this on every loaded topology with `t = treeOf d`,
    `hdr = hdrOf d`, `ex` = the fields carried by gp from `d` itself: `renderCheck d = []`).  Then the 18 link and level clauses
    of well-formedness hold for `d`: they are consequences of the equality, by the theorems about `render` (which hold for
    ALL trees), not bounded evaluations.  (level0-is-root additionally uses that the root is a Machine.) -/
theorem C01_links_of_render (d : Dump) (t : Tree) (hdr : Hdr) (ex : RObj → Extra) (heq : render t hdr ex = d)
    (ht : typedT t = true) (hpu : puLeafT t = true) (hr : isNormal t.obj.type = true) :
    (∀ o ∈ d.objs,
      objClause "id-is-position" d (mkAux d) o = true ∧ objClause "root-or-parent" d (mkAux d) o = true ∧
      objClause "parent-kind" d (mkAux d) o = true ∧ objClause "normal-child-slot" d (mkAux d) o = true ∧
      objClause "children-array" d (mkAux d) o = true ∧ objClause "special-list-heads" d (mkAux d) o = true ∧
      objClause "special-list-links" d (mkAux d) o = true ∧ objClause "no-children-where-forbidden" d (mkAux d) o = true ∧
      objClause "depth-by-type" d (mkAux d) o = true ∧ objClause "depth-increases" d (mkAux d) o = true ∧
      objClause "in-its-level" d (mkAux d) o = true) ∧
    topClause "nobjs" d (mkAux d) = true ∧ topClause "levels-listed" d (mkAux d) = true ∧
    topClause "level-entries-valid" d (mkAux d) = true ∧ topClause "levels-in-tree-order" d (mkAux d) = true ∧
    topClause "normal-levels-nonempty" d (mkAux d) = true ∧ topClause "depth-le-objects" d (mkAux d) = true ∧
    (t.obj.type = tMACHINE → topClause "level0-is-root" d (mkAux d) = true) := by
  subst heq
  refine ⟨fun o ho => ?_, render_nobjs t hdr ex, render_levels_listed t hdr ex, render_level_entries_valid t ht hr hdr ex,
    render_levels_in_tree_order t hdr ex, render_normal_levels_nonempty t hdr ex, render_depth_le_objects t hdr ex,
    fun hm => render_level0_is_root t hm hdr ex⟩
  exact ⟨render_id_is_position t hdr ex o ho, render_root_or_parent t ht hdr ex o ho, render_parent_kind t ht hdr ex o ho,
    render_normal_child_slot t ht hdr ex o ho, render_children_array t ht hdr ex o ho, render_special_list_heads t ht hdr ex o ho,
    render_special_list_links t ht hdr ex o ho, render_no_children_where_forbidden t ht hpu hdr ex o ho,
    render_depth_by_type t ht hdr ex o ho, render_depth_increases t ht hdr ex o ho, render_in_its_level t ht hdr ex o ho⟩

open Hw.Topo.Restrict in
/-- … in the form the engine uses: an empty `renderCheck d` gives the hypotheses of C01_links_of_render for `treeOf d` -/
theorem C01_renderCheck_sound (d : Dump) (h : renderCheck d = []) :
    ∃ t, treeOf d = .ok t ∧ typedT t = true ∧ puLeafT t = true ∧ isNormal t.obj.type = true ∧
      render t (hdrOf d) (extraOf (gpTable d) (gpTable d)) = d := by
  unfold renderCheck at h
  cases ht : treeOf d with
  | error e => rw [ht] at h; simp at h
  | ok t =>
    rw [ht] at h
    simp only [List.append_eq_nil_iff] at h
    have hc : typedT t = true ∧ puLeafT t = true ∧ isNormal t.obj.type = true := by simpa [and_assoc] using h.1
    refine ⟨t, rfl, hc.1, hc.2.1, hc.2.2, ?_⟩
    cases hd : dumpDiff (render t (hdrOf d) (extraOf (gpTable d) (gpTable d))) d with
    | none => exact dumpDiff_none _ _ hd
    | some s => have := h.2; rw [hd] at this; simp at this

/-! ### the later stages of `hwloc_discover`: `remove_empty`, `propagate_total_memory`, `hwloc_set_group_depth`, and the composition

Models `Hw.Topo.Restrict.Stage.removeEmpty / totalsT / setGroupDepth` over the four-list tree of `render`; tied to the code by the
`set-stage` engine through the second part of the HWLOC_VERIF hook (hooks/stage-dump-2.patch): the library dumps the tree after
hwloc_filter_bridges, after remove_empty, after hwloc__reconnect(KEEPSTRUCTURE), after propagate_total_memory and after
hwloc_set_group_depth, and each model run on the previous dump must reproduce the next one exactly. -/
section Stages
open Hw.Topo.Restrict Hw.Topo.Restrict.Stage Hw.Topo.SetStage

/-- **remove_empty, the C rule**: in the tree it leaves, every object it visits (the root and everything reachable through normal and
memory children lists) still has a normal child, a memory child or an I/O child, or its set is not empty — the cpuset for an object of a
normal type, the nodeset otherwise (`alive`; Misc children do not count).  For EVERY tree. -/
theorem C01_remove_empty_rule (t t' : Tree) (h : removeEmpty t = some t') : allAlive t' = true := removeEmpty_alive t t' h

/-- … it removes nothing else: a tree in which every visited object is alive comes back unchanged (same objects, same lists, same
order), and therefore a second run changes nothing -/
theorem C01_remove_empty_fixpoint (t : Tree) (h : allAlive t = true) : removeEmpty t = some t := removeEmpty_fix t h
theorem C01_remove_empty_idempotent (t t' : Tree) (h : removeEmpty t = some t') : removeEmpty t' = some t' := removeEmpty_idem t t' h

/-- … the root is removed ("Topology became empty", the load fails) only if its own set is empty -/
theorem C01_remove_empty_root_removed (t : Tree) (h : removeEmpty t = none) : emptySet t.obj = true := removeEmpty_none t h

/-- … it never removes an object whose own set is not empty (every PU with a non-empty cpuset, every NUMA node with a non-empty nodeset
survives, wherever it is), and every survivor is an object of the input, unmodified (`objsNM` = the objects reachable through normal and
memory children lists) -/
theorem C01_remove_empty_keeps_nonempty (t t' : Tree) (h : removeEmpty t = some t') :
    (∀ x ∈ objsNM t, emptySet x = false → x ∈ objsNM t') ∧ (∀ x ∈ objsNM t', x ∈ objsNM t) := removeEmpty_objs t t' h

/-- **remove_empty preserves every clause that tolerates dropping empty children**: `Q o ns ms` speaks about an object and the OBJECTS
of its normal and memory children; `Stable Q` = it survives when children whose set is empty are dropped from the two lists.  If `Q`
holds at every visited object before, it does after (objects are never modified, survivors keep their order). -/
theorem C01_remove_empty_preserves (Q : RObj → List RObj → List RObj → Prop) (hQ : Stable Q) (t t' : Tree)
    (h : removeEmpty t = some t') (ht : AllQ Q t) : AllQ Q t' := removeEmpty_preserves Q hQ t t' h ht

/-- … in particular the set clauses the set stage established (`SetQ`: set-in-complete, set-in-parent for all four sets,
memory-child-shares-cpuset, normal siblings pairwise disjoint) -/
theorem C01_remove_empty_preserves_set_clauses (t t' : Tree) (h : removeEmpty t = some t') (ht : AllQ SetQ t) : AllQ SetQ t' :=
  removeEmpty_preserves SetQ SetQ_stable t t' h ht

/-- … and the object-kind discipline of the four lists (hypothesis of the link theorems), the root object is unchanged -/
theorem C01_remove_empty_typed (t t' : Tree) (h : removeEmpty t = some t') (ht : typedT t = true) :
    typedT t' = true ∧ t'.obj = t.obj := removeEmpty_typed t t' h ht

/-- … and the nodeset decomposition (WF clause `nodeset-decomposition`; `DecompT` = `SetStage.Decomp` on the four-list tree) on typed
trees: an unlinked memory object has an empty nodeset and an unlinked normal object has no NUMA node attached at or below it, so the
unions and the disjointness conditions at every surviving object are unchanged -/
theorem C01_remove_empty_preserves_nodeset_decomposition (t t' : Tree) (inh : Nat) (h : removeEmpty t = some t')
    (ht : typedT t = true) (hd : DecompT inh t) : DecompT inh t' := removeEmpty_decomp t t' h ht inh hd

/-- **typing through the set stage**: if the INPUT of the set stage obeys the object-kind discipline (`typedST`, decidable: normal
children below normal objects only, memory children below normal objects or memory-side caches, each list holding its own kind) and the
decoration is well-kinded (`DecoTyped`), then the tree handed to `remove_empty` is typed and its root has the type of the input root: the
typing hypotheses of `C01_pipeline_compose` follow from the input -/
theorem C01_pipeline_typing (i : In) (dc : Deco) (h : typedST i.root = true) (hdc : DecoTyped dc) :
    typedT (toTree dc (stage i).root) = true ∧ (toTree dc (stage i).root).obj.type = i.root.o.type := pipeline_typed i dc h hdc

/-- **the set clauses that survive level merging**: SetsOK (`Restrict.okT`: set ⊆ complete set at every object, the complete sets of
normal and memory children inside the parent's, no sets on I/O and Misc objects) holds for the tree handed to `remove_empty` when the
decoration carries no sets (`DecoZero`), is preserved by `remove_empty` and by `hwloc_filter_levels_keep_structure` (C08,
`ok_keepStructure`); so the FINAL tree is SetsOK and EVERY object of its rendered dump satisfies the WF clause `set-in-complete`.
(The other set clauses — cpuset / nodeset inside the parent's, memory-child-shares-cpuset — cannot be carried through a merge from what the
modelled stages establish: a memory child handed from a merged child to its parent shares the parent's cpuset only if parent and single
child have equal cpusets, which is the clause cpuset-is-disjoint-union-of-children that the insertion, not these stages, provides.) -/
theorem C01_pipeline_sets_through_merging (i : In) (dc : Deco) (filters : List Nat) (hdr : Hdr) (ex : RObj → Extra)
    (hpre : PreSets i) (hz : DecoZero dc) (t1 : Tree) (h1 : removeEmpty (toTree dc (stage i).root) = some t1) :
    okT t1 = true ∧ okT (keepStructure filters t1) = true ∧
    ∀ o ∈ (render (keepStructure filters t1) hdr ex).objs,
      objClause "set-in-complete" (render (keepStructure filters t1) hdr ex) (mkAux (render (keepStructure filters t1) hdr ex)) o = true := by
  have h0 := okT_toTree dc hz _ (stage_post i hpre)
  have ht1 := removeEmpty_ok _ t1 h1 h0
  have ht2 := ok_keepStructure filters t1 ht1
  exact ⟨ht1, ht2, fun o ho => render_set_in_complete _ ht2 hdr ex o ho⟩

/-- **propagate_total_memory**: as long as the local memory of all NUMA nodes of the tree sums to less than 2^64, the value left in
`total_memory` of every object the function visits is exactly the sum of the local memory of the NUMA nodes at or below that object
(`subNM t` = the visited subtrees, depth-first).  Without the bound the C sums wrap (`addW`), and so does the model. -/
theorem C01_total_memory_stage (loc : RObj → Nat) (t : Tree) (h : sumLocalT loc t < W64) :
    totalsT loc t = (subNM t).map (fun s => (s.obj.gp, sumLocalT loc s)) := totalsT_exact loc t h

/-- … in the form of the WF clause `total-memory` (Hw/Topo/WF.lean): total = own local memory (NUMA nodes only) + the totals of the normal
and memory children, with no wrap -/
theorem C01_total_memory_clause (loc : RObj → Nat) (o : RObj) (ns ms ios mis : List Tree)
    (h : sumLocalT loc (.node o ns ms ios mis) < W64) :
    totalT loc (.node o ns ms ios mis) = (if o.type == tNUMA then loc o else 0) + (sumTotals loc ns + sumTotals loc ms) :=
  totalT_clause loc _ h

/-- **hwloc_set_group_depth**: the levels whose first object is a Group are numbered 0, 1, 2, … from the root level downwards, every
object of the k-th such level gets depth k, nothing else is written; every depth written is below the number of levels (so it is never
`(unsigned) -1`, WF clause `group-depth`) -/
theorem C01_group_depth_stage (t : Tree) :
    setGroupDepth t = (((connectLevels t).filter isGroupLevel).zipIdx 0).flatMap (fun p => p.1.map (fun o => (o.gp, p.2))) ∧
    ∀ p ∈ setGroupDepth t, p.2 < (connectLevels t).length :=
  ⟨groupDepthsFrom_spec _ 0, setGroupDepth_lt t⟩

/-- **composition**.  `i` = the input of the set stage, `dc` = ANY decoration (the I/O and Misc subtrees and Group attributes that the
unmodelled discovery phases between the set stage and `remove_empty` attach), `t0` = the four-list tree `remove_empty` receives.
Hypotheses: the decidable precondition `PreSets i`, the typing of `t0` (`typedT`, evaluated by the engine on every rm_before dump), a Machine root.
If `remove_empty` keeps the root (`t1`; otherwise the load fails), then
  (a) after `remove_empty`: the C rule holds everywhere, the set clauses of the set stage still hold (`SetQ`; every cpuset / nodeset
      lies inside the allowed sets when INCLUDE_DISALLOWED is unset; the nodeset decomposition `DecompT`; the allowed sets lie inside the
      root sets and are equal to them when INCLUDE_DISALLOWED is unset), the tree is typed and its root object is the one of `t0`;
  (b) after level merging (`t2 = keepStructure filters t1`) the dump `render t2 hdr ex` (for any header and any attribute carrier)
      satisfies the WF clauses id-is-position, root-or-parent, parent-kind, normal-child-slot, children-array, special-list-heads,
      special-list-links, depth-by-type, depth-increases, in-its-level, nobjs, levels-listed, level-entries-valid, levels-in-tree-order,
      normal-levels-nonempty, depth-le-objects; level0-is-root if the root is still the Machine; no-children-where-forbidden if PUs are
      leaves in `t2`;
  (c) `propagate_total_memory` on `t2` leaves the exact NUMA sums (when they fit in 64 bits) and `hwloc_set_group_depth` numbers the Group
      levels of `t2` consecutively.
NOT covered by this theorem: the set clauses THROUGH level merging (they are stated for `t1`; the part that survives any merge —
SetsOK and the dump clause set-in-complete — is C01_pipeline_sets_through_merging, the rest under the single-child hypothesis is
C01_pipeline_sets_through_level_merging); children-counts, total-memory in dump form, type-depth-inverse, levels-cover-objects
(C01_pipeline_dump_clauses); the uniqueness clauses (C01_pipeline_unique); numa-exists (C01_pipeline_numa_exists); root-is-machine
(C01_pipeline_pu_leaf_and_root); symmetric_subtree (C01_pipeline_symmetric).  For this pipeline stated by no theorem and judged only by the
oracle, on every loaded topology: cpuset-is-disjoint-union-of-children and nodeset-decomposition in their dump form (they go
through `mkAux`), pu-cpuset, numa-nodeset, pu-level-deepest, normal-level-types, not-filtered-out, cache-attrs, siblings-ordered. -/
theorem C01_pipeline_compose (i : In) (dc : Deco) (filters : List Nat) (hdr : Hdr) (ex : RObj → Extra) (loc : RObj → Nat)
    (hpre : PreSets i) (hty : typedT (toTree dc (stage i).root) = true) (hroot : (toTree dc (stage i).root).obj.type = tMACHINE)
    (t1 : Tree) (h1 : removeEmpty (toTree dc (stage i).root) = some t1) :
    (allAlive t1 = true ∧ AllQ SetQ t1 ∧
      (i.includeDisallowed = false → AllQ (AllowedQ (stage i).allowedC (stage i).allowedN) t1) ∧
      typedT t1 = true ∧ t1.obj = (toTree dc (stage i).root).obj ∧ DecompT 0 t1 ∧
      Sub (stage i).allowedC t1.obj.cpuset ∧ Sub (stage i).allowedN t1.obj.nodeset ∧
      (i.includeDisallowed = false → t1.obj.cpuset = (stage i).allowedC ∧ t1.obj.nodeset = (stage i).allowedN)) ∧
    pipeline i dc filters = some (keepStructure filters t1) ∧
    (∀ o ∈ (render (keepStructure filters t1) hdr ex).objs,
      objClause "id-is-position" (render (keepStructure filters t1) hdr ex) (mkAux (render (keepStructure filters t1) hdr ex)) o = true ∧
      objClause "root-or-parent" (render (keepStructure filters t1) hdr ex) (mkAux (render (keepStructure filters t1) hdr ex)) o = true ∧
      objClause "parent-kind" (render (keepStructure filters t1) hdr ex) (mkAux (render (keepStructure filters t1) hdr ex)) o = true ∧
      objClause "normal-child-slot" (render (keepStructure filters t1) hdr ex) (mkAux (render (keepStructure filters t1) hdr ex)) o = true ∧
      objClause "children-array" (render (keepStructure filters t1) hdr ex) (mkAux (render (keepStructure filters t1) hdr ex)) o = true ∧
      objClause "special-list-heads" (render (keepStructure filters t1) hdr ex) (mkAux (render (keepStructure filters t1) hdr ex)) o = true ∧
      objClause "special-list-links" (render (keepStructure filters t1) hdr ex) (mkAux (render (keepStructure filters t1) hdr ex)) o = true ∧
      objClause "depth-by-type" (render (keepStructure filters t1) hdr ex) (mkAux (render (keepStructure filters t1) hdr ex)) o = true ∧
      objClause "depth-increases" (render (keepStructure filters t1) hdr ex) (mkAux (render (keepStructure filters t1) hdr ex)) o = true ∧
      objClause "in-its-level" (render (keepStructure filters t1) hdr ex) (mkAux (render (keepStructure filters t1) hdr ex)) o = true ∧
      (puLeafT (keepStructure filters t1) = true →
        objClause "no-children-where-forbidden" (render (keepStructure filters t1) hdr ex) (mkAux (render (keepStructure filters t1) hdr ex)) o = true)) ∧
    (topClause "nobjs" (render (keepStructure filters t1) hdr ex) (mkAux (render (keepStructure filters t1) hdr ex)) = true ∧
      topClause "levels-listed" (render (keepStructure filters t1) hdr ex) (mkAux (render (keepStructure filters t1) hdr ex)) = true ∧
      topClause "level-entries-valid" (render (keepStructure filters t1) hdr ex) (mkAux (render (keepStructure filters t1) hdr ex)) = true ∧
      topClause "levels-in-tree-order" (render (keepStructure filters t1) hdr ex) (mkAux (render (keepStructure filters t1) hdr ex)) = true ∧
      topClause "normal-levels-nonempty" (render (keepStructure filters t1) hdr ex) (mkAux (render (keepStructure filters t1) hdr ex)) = true ∧
      topClause "depth-le-objects" (render (keepStructure filters t1) hdr ex) (mkAux (render (keepStructure filters t1) hdr ex)) = true ∧
      ((keepStructure filters t1).obj.type = tMACHINE →
        topClause "level0-is-root" (render (keepStructure filters t1) hdr ex) (mkAux (render (keepStructure filters t1) hdr ex)) = true)) ∧
    (sumLocalT loc (keepStructure filters t1) < W64 →
      totalsT loc (keepStructure filters t1) = (subNM (keepStructure filters t1)).map (fun s => (s.obj.gp, sumLocalT loc s))) ∧
    (setGroupDepth (keepStructure filters t1) =
        (((connectLevels (keepStructure filters t1)).filter isGroupLevel).zipIdx 0).flatMap (fun p => p.1.map (fun o => (o.gp, p.2))) ∧
      ∀ p ∈ setGroupDepth (keepStructure filters t1), p.2 < (connectLevels (keepStructure filters t1)).length) := by
  have hs0 : AllQ SetQ (toTree dc (stage i).root) := allQ_toTree dc (fun o k m h => setQ_of_post dc o k m h) _ (stage_post i hpre)
  have ht1 := removeEmpty_typed _ t1 h1 hty
  have hn1 : isNormal t1.obj.type = true := by rw [ht1.2, hroot]; decide
  have ht2 := And.imp_right (· hn1) (typed_keepStructure filters t1 ht1.1)
  have hal := stage_allowed i hpre.covered
  have hobj : t1.obj = robj dc (stage i).root.o := by rw [ht1.2, toTree_obj]
  refine ⟨⟨removeEmpty_alive _ t1 h1, removeEmpty_preserves SetQ SetQ_stable _ t1 h1 hs0, fun hf => ?_, ht1.1, ht1.2,
      removeEmpty_decomp _ t1 h1 hty 0 (decompT_toTree dc _ 0 (stage_decomp i hpre)),
      by rw [hobj]; exact hal.1, by rw [hobj]; exact hal.2.1, fun hf => by rw [hobj]; exact hal.2.2 hf⟩, ?_, fun o ho => ?_, ?_,
    fun hb => totalsT_exact loc _ hb, groupDepthsFrom_spec _ 0, setGroupDepth_lt _⟩
  · exact removeEmpty_preserves _ (AllowedQ_stable _ _) _ t1 h1 (allQ_toTree dc (fun _ _ _ h => h) _ (stage_within_allowed i hf))
  · unfold pipeline; rw [h1]; rfl
  · exact ⟨render_id_is_position _ hdr ex o ho, render_root_or_parent _ ht2.1 hdr ex o ho, render_parent_kind _ ht2.1 hdr ex o ho,
      render_normal_child_slot _ ht2.1 hdr ex o ho, render_children_array _ ht2.1 hdr ex o ho, render_special_list_heads _ ht2.1 hdr ex o ho,
      render_special_list_links _ ht2.1 hdr ex o ho, render_depth_by_type _ ht2.1 hdr ex o ho,
      render_depth_increases _ ht2.1 hdr ex o ho, render_in_its_level _ ht2.1 hdr ex o ho,
      fun hpu => render_no_children_where_forbidden _ ht2.1 hpu hdr ex o ho⟩
  · exact ⟨render_nobjs _ hdr ex, render_levels_listed _ hdr ex, render_level_entries_valid _ ht2.1 ht2.2 hdr ex,
      render_levels_in_tree_order _ hdr ex, render_normal_levels_nonempty _ hdr ex, render_depth_le_objects _ hdr ex,
      fun hm => render_level0_is_root _ hm hdr ex⟩

/-! non-vacuity.  `exIn` (above): two packages, PU 3 (gp 7) not allowed.  The set stage empties the cpuset of gp 7; the decoration `exDc`
hangs a Misc object (gp 40) below that PU.  All hypotheses of the composition hold; `remove_empty` unlinks gp 7 and hands its Misc child
to package gp 6. -/
def exLeaf (gp ty : Nat) : Tree := .node ⟨gp, ty, 0, 0, 0, 0, 0, false, 0, 0, 0⟩ [] [] [] []
def exDc : Deco := ⟨fun _ => [], fun o => if o.gp = 7 then [exLeaf 40 tMISC] else [], fun _ => 0, fun _ => 0, fun _ => 0⟩
def exRows (t : Tree) : List (Nat × List Nat) := (subNM t).map (fun s => (s.obj.gp, (s.mis.map (·.obj.gp))))

example : PreSets exIn ∧ typedT (toTree exDc (stage exIn).root) = true ∧ (toTree exDc (stage exIn).root).obj.type = tMACHINE ∧
    (removeEmpty (toTree exDc (stage exIn).root)).map exRows =
      some [(1, []), (2, []), (3, []), (4, []), (5, []), (10, []), (6, [40]), (8, []), (9, []), (11, [])] :=
  ⟨exIn_pre, by decide +kernel, by decide +kernel, by decide +kernel⟩
/-- the set clauses hold before `remove_empty` (hypothesis of C01_remove_empty_preserves_set_clauses) -/
example : AllQ SetQ (toTree exDc (stage exIn).root) :=
  allQ_toTree exDc (fun o k m h => setQ_of_post exDc o k m h) _ (stage_post exIn exIn_pre)
/-- the typing hypotheses follow from the input (C01_pipeline_typing), the nodeset decomposition holds before `remove_empty` -/
example : typedST exIn.root = true := by decide +kernel
example : DecoTyped exDc := fun o => ⟨rfl, by unfold exDc; simp only; split <;> decide, Or.inr rfl⟩
example : DecompT 0 (toTree exDc (stage exIn).root) :=
  decompT_toTree exDc _ 0 (stage_decomp exIn exIn_pre)
example : DecoZero exDc := fun o => ⟨fun x hx => by simp [exDc, objsL] at hx, fun x hx => by
  unfold exDc at hx; simp only at hx; split at hx
  · simp [exLeaf, objsL, objsT] at hx; subst hx; decide
  · simp [objsL] at hx⟩
/-- the whole pipeline on `exIn` with every filter KEEP_ALL (nothing is merged) and 100 / 200 bytes on the two NUMA nodes:
totals per object, no Group -/
def exLoc (o : RObj) : Nat := if o.gp = 10 then 100 else if o.gp = 11 then 200 else 0
example : ((pipeline exIn exDc (List.replicate 20 0)).map (fun t => (decide (sumLocalT exLoc t < W64), totalsT exLoc t, setGroupDepth t))) =
    some (true, [(1, 300), (2, 100), (3, 0), (4, 0), (5, 0), (10, 100), (6, 200), (8, 0), (9, 0), (11, 200)], []) := by decide +kernel

/-- `remove_empty` alone: a Machine with (gp 2) a Package without PU but with a NUMA node — kept; (gp 4) a CPU-less Group kept by its
I/O child; (gp 6) a Package whose only PU (gp 7, with Misc child gp 8) has an empty cpuset — both removed, the Misc object climbs to the
root; (gp 9) a Core with PU 0.  Rows: (gp_index, Misc children). -/
def exN (gp ty cpuset nodeset : Nat) (ns ms ios mis : List Tree) : Tree := .node ⟨gp, ty, 0, cpuset, cpuset, nodeset, nodeset, true, 0, 0, 0⟩ ns ms ios mis
def exRm : Tree := exN 1 tMACHINE 1 1 [exN 2 tPACKAGE 0 1 [] [exN 3 tNUMA 0 1 [] [] [] []] [] [], exN 4 tGROUP 0 0 [] [] [exLeaf 5 tPCI] [],
  exN 6 tPACKAGE 0 0 [exN 7 tPU 0 0 [] [] [] [exLeaf 8 tMISC]] [] [] [], exN 9 tCORE 1 0 [exN 10 tPU 1 0 [] [] [] []] [] [] []] [] [] []
example : allAlive exRm = false ∧ (removeEmpty exRm).map exRows = some [(1, [8]), (2, []), (3, []), (4, []), (9, []), (10, [])] ∧
    (removeEmpty exRm).map allAlive = some true ∧ typedT exRm = true := by decide +kernel
/-- an empty root is removed -/
example : removeEmpty (exN 1 tMACHINE 0 0 [exN 2 tPU 0 0 [] [] [] []] [] [] []) |>.isNone := by decide +kernel

/-- total memory: two NUMA nodes below a package and one behind a memory-side cache; the bound holds -/
def exMemT : Tree := exN 1 tMACHINE 3 7 [exN 2 tPACKAGE 3 3 [exN 3 tPU 1 3 [] [] [] [], exN 4 tPU 2 3 [] [] [] []]
    [exN 5 tNUMA 3 1 [] [] [] [], exN 6 tNUMA 3 2 [] [] [] []] [] []] [exN 7 tMEMCACHE 3 4 [] [exN 8 tNUMA 3 4 [] [] [] []] [] []] [] []
def exMemLoc (o : RObj) : Nat := 1000 * o.gp
example : sumLocalT exMemLoc exMemT < W64 ∧
    totalsT exMemLoc exMemT = [(1, 19000), (2, 11000), (3, 0), (4, 0), (5, 5000), (6, 6000), (7, 8000), (8, 8000)] := by decide +kernel
/-- … and the sums really wrap at 2^64 when the bound fails -/
example : totalT (fun _ => W64 - 1) exMemT = W64 - 3 := by decide +kernel

/-- group depths: Machine > Group > Package > Group > PU: the two Group levels get 0 and 1 -/
def exGrp : Tree := exN 1 tMACHINE 3 0 [exN 2 tGROUP 3 0 [exN 3 tPACKAGE 3 0 [exN 4 tGROUP 1 0 [exN 5 tPU 1 0 [] [] [] []] [] [] [],
  exN 6 tGROUP 2 0 [exN 7 tPU 2 0 [] [] [] []] [] [] []] [] [] []] [] [] []] [] [] []
example : setGroupDepth exGrp = [(2, 0), (4, 1), (6, 1)] ∧ (connectLevels exGrp).length = 5 := by decide +kernel


/-! ### hwloc_propagate_symmetric_subtree (Hw/Topo/StageSymmetric.lean; `dep` = the depth field, any function) -/

/-- **the loop**: the `while (1)` walk over the array of children (fuel = number of objects below, which always suffices) answers
"identical" iff every entry has the same first-children spine — (depth, arity) of the entry, of its first child, of the first child of
that, … down to an object without normal child — as entry 0 -/
theorem C01_symmetric_walk (dep : RObj → Int) (arr : List Tree) :
    walk dep (sizeL arr) arr = true ↔ ∀ a ∈ arr, spineT dep a = spineL dep arr :=
  walk_iff dep _ _ (spineL_length_le dep arr)

/-- **the rule** for every object of every tree: `symmetric_subtree` is set iff the object has no normal child, or all normal children
are symmetric and have the same first-children spine as the first child (trivially true for a single child: the `arity == 1` shortcut) -/
theorem C01_symmetric_rule (dep : RObj → Int) (o : RObj) (ns ms ios mis : List Tree) :
    symT dep (.node o ns ms ios mis) = true ↔
      ns = [] ∨ ((∀ c ∈ ns, symT dep c = true) ∧ ∀ c ∈ ns, spineT dep c = spineL dep ns) := symT_iff dep o ns ms ios mis

/-- leaves (PUs) are symmetric whatever memory / I/O / Misc children they carry -/
theorem C01_symmetric_leaf (dep : RObj → Int) (o : RObj) (ms ios mis : List Tree) : symT dep (.node o [] ms ios mis) = true :=
  symT_leaf dep o ms ios mis

/-- the flags of ALL visited objects depend only on the normal-children skeleton: two trees that differ in memory, I/O or Misc children
(anywhere) get the same flags -/
theorem C01_symmetric_ignores_other_children (dep : RObj → Int) (t t' : Tree) (h : skelT t = skelT t') :
    symsT dep t = symsT dep t' := symsT_congr_skel dep t t' h

/-- **meaning**: the flag is set iff the subtree is uniform row by row: every object at distance k (through normal children) has the
depth and arity at position k of the spine and every branch ends on the last row -/
theorem C01_symmetric_meaning (dep : RObj → Int) (t : Tree) : symT dep t = true ↔ uniformT dep t (spineT dep t) :=
  symT_iff_uniform dep t

/-- **in the composition**: on the tree `t2` that level merging leaves (any tree), the stage writes exactly one flag per normal object, in
depth-first order, and the flag of each visited subtree `s` is the rule / the uniformity of `s`, with the depths of `connectLevels t2` -/
theorem C01_pipeline_symmetric (i : In) (dc : Deco) (filters : List Nat) (t2 : Tree) (_h : pipeline i dc filters = some t2) :
    symmetricStage t2 = (subsN t2).map (fun s => (s.obj.gp, symT (depthIn (connectLevels t2)) s)) ∧
    (symmetricStage t2).length = sizeT (skelT t2) ∧
    ∀ s ∈ subsN t2, (symT (depthIn (connectLevels t2)) s = true ↔
      uniformT (depthIn (connectLevels t2)) s (spineT (depthIn (connectLevels t2)) s)) :=
  ⟨symsT_eq_map _ t2, symsT_length _ t2, fun s _ => symT_iff_uniform _ s⟩

/-- non-vacuity: Machine > 2 Packages; package gp 2 has two Cores with 1 PU each, package gp 3 has two Cores with 1 and 2 PUs: gp 3 and
the Machine are not symmetric, everything else is; the NUMA node and the Misc object below gp 3 get no flag -/
def exSymA : Tree := exN 1 tMACHINE 0 0 [exN 2 tPACKAGE 0 0 [exN 4 tCORE 0 0 [exN 5 tPU 0 0 [] [] [] []] [] [] [], exN 6 tCORE 0 0 [exN 7 tPU 0 0 [] [] [] []] [] [] []] [] [] [],
  exN 3 tPACKAGE 0 0 [exN 8 tCORE 0 0 [exN 10 tPU 0 0 [] [] [] []] [] [] [], exN 9 tCORE 0 0 [exN 11 tPU 0 0 [] [] [] [], exN 12 tPU 0 0 [] [] [] []] [] [] []]
    [exN 20 tNUMA 0 0 [] [] [] []] [] [exLeaf 21 tMISC]] [] [] []
example : symmetricStage exSymA = [(1, false), (2, true), (4, true), (5, true), (6, true), (7, true), (3, false), (8, true), (10, true),
    (9, true), (11, true), (12, true)] ∧ (connectLevels exSymA).length = 4 ∧
    spineT (depthIn (connectLevels exSymA)) exSymA = [(0, 2), (1, 2), (2, 1), (3, 0)] := by decide +kernel
example : ∃ t2, pipeline exIn exDc (List.replicate 20 0) = some t2 ∧ (symmetricStage t2).length = 8 := ⟨_, rfl, by decide +kernel⟩
/-- the depth matters: two children of equal arity but different depth (a Core next to an L1 cache holding a Core) are not "same shape" -/
def exSymB : Tree := exN 1 tMACHINE 0 0 [exN 2 tCORE 0 0 [exN 3 tPU 0 0 [] [] [] []] [] [] [],
  exN 4 5 0 0 [exN 5 tCORE 0 0 [exN 6 tPU 0 0 [] [] [] []] [] [] []] [] [] []] [] [] []
example : symmetricStage exSymB = [(1, false), (2, true), (3, true), (4, true), (5, true), (6, true)] := by decide +kernel


/-! ### dump-form clauses (through `mkAux`) and uniqueness clauses for the composed pipeline -/

/-- **total-memory in dump form**, any typed tree: if the NUMA local memory fits in 64 bits and the carried fields hold the output of
`propagate_total_memory` (`MemEx`: total_memory = `totalT` of the subtree, attrs[0] of a NUMA node = its local memory), every object of
`render t` satisfies the WF clause `total-memory` exactly as the oracle evaluates it (through the `totSum` fold of `mkAux`) -/
theorem C01_total_memory_dump_clause (loc : RObj → Nat) (t : Tree) (ht : typedT t = true) (hb : sumLocalT loc t < W64)
    (hdr : Hdr) (ex : RObj → Extra) (hex : MemEx loc t ex) (o : Obj) (ho : o ∈ (render t hdr ex).objs) :
    objClause "total-memory" (render t hdr ex) (mkAux (render t hdr ex)) o = true :=
  render_total_memory loc t ht hb hdr ex hex o ho

/-- … and `MemEx` holds for the fields written from the stage's own output (`exOfMem`: total by gp_index) whenever gp_index values are
pairwise distinct -/
theorem C01_total_memory_fields (loc : RObj → Nat) (t : Tree) (base : RObj → Extra) (hu : ((objsT t).map (·.gp)).Nodup) :
    MemEx loc t (exOfMem loc t base) := by
  apply memEx_exOfMem
  rw [← occs_map_obj, List.map_map] at hu
  exact hu

/-- **the composed pipeline, dump-form clauses**: with the hypotheses of `C01_pipeline_compose`, the dump rendered from the final tree
`t2 = keepStructure filters t1` satisfies, for any header and carried fields: children-counts (every object; the four counters of
`mkAux`), type-depth-inverse, levels-cover-objects; and total-memory (every object) when the local memory fits in 64 bits and the
fields carry the output of propagate_total_memory. -/
theorem C01_pipeline_dump_clauses (i : In) (dc : Deco) (filters : List Nat) (hdr : Hdr) (ex : RObj → Extra) (loc : RObj → Nat)
    (hty : typedT (toTree dc (stage i).root) = true) (hroot : (toTree dc (stage i).root).obj.type = tMACHINE)
    (t1 : Tree) (h1 : removeEmpty (toTree dc (stage i).root) = some t1) :
    (∀ o ∈ (render (keepStructure filters t1) hdr ex).objs,
      objClause "children-counts" (render (keepStructure filters t1) hdr ex) (mkAux (render (keepStructure filters t1) hdr ex)) o = true ∧
      (sumLocalT loc (keepStructure filters t1) < W64 → MemEx loc (keepStructure filters t1) ex →
        objClause "total-memory" (render (keepStructure filters t1) hdr ex) (mkAux (render (keepStructure filters t1) hdr ex)) o = true)) ∧
    topClause "type-depth-inverse" (render (keepStructure filters t1) hdr ex) (mkAux (render (keepStructure filters t1) hdr ex)) = true ∧
    topClause "levels-cover-objects" (render (keepStructure filters t1) hdr ex) (mkAux (render (keepStructure filters t1) hdr ex)) = true := by
  have ht1 := removeEmpty_typed _ t1 h1 hty
  have hn1 : isNormal t1.obj.type = true := by rw [ht1.2, hroot]; decide
  have ht2 := typed_keepStructure filters t1 ht1.1
  exact ⟨fun o ho => ⟨render_children_counts _ ht2.1 hdr ex o ho, fun hb hex => render_total_memory loc _ ht2.1 hb hdr ex hex o ho⟩,
    render_type_depth_inverse _ hdr ex, render_levels_cover _ ht2.1 (ht2.2 hn1) hdr ex⟩

/-- **no stage creates an object**: for ANY key of an object that the complete-set update of a merge leaves alone (gp_index, type,
os_index, cpuset, …), no key value occurs more often among the objects of the final tree than in the tree handed to `remove_empty` -/
theorem C01_pipeline_no_new_object {α : Type} [DecidableEq α] (f : RObj → α) (hm : ∀ o co, f (absorb o co) = f co) (filters : List Nat)
    (t0 t1 : Tree) (h1 : removeEmpty t0 = some t1) (a : α) :
    cnt f a (objsT (keepStructure filters t1)) ≤ cnt f a (objsT t0) := cnt_pipeline f hm filters t0 t1 h1 a

/-- **uniqueness clauses of the composed render**: if gp_index values (resp. PU os_index, NUMA os_index values) are pairwise distinct in
the tree `t0` handed to `remove_empty`, the dump rendered from the final tree satisfies gp-index-unique (resp. pu-osindex-unique,
numa-osindex-unique) -/
theorem C01_pipeline_unique (filters : List Nat) (hdr : Hdr) (ex : RObj → Extra) (t0 t1 : Tree) (h1 : removeEmpty t0 = some t1) :
    (((objsT t0).map (·.gp)).Nodup →
      topClause "gp-index-unique" (render (keepStructure filters t1) hdr ex) (mkAux (render (keepStructure filters t1) hdr ex)) = true) ∧
    ((((objsT t0).filter (fun o => o.type == tPU)).map (·.osidx)).Nodup →
      topClause "pu-osindex-unique" (render (keepStructure filters t1) hdr ex) (mkAux (render (keepStructure filters t1) hdr ex)) = true) ∧
    ((((objsT t0).filter (fun o => o.type == tNUMA)).map (·.osidx)).Nodup →
      topClause "numa-osindex-unique" (render (keepStructure filters t1) hdr ex) (mkAux (render (keepStructure filters t1) hdr ex)) = true) := by
  refine ⟨fun h => (render_unique _ hdr ex).2.2 (nodup_gp_of_cnt_le (fun k => cnt_pipeline (·.gp) (fun _ _ => rfl) filters t0 t1 h1 k) h),
    fun h => ?_, fun h => ?_⟩
  · exact (render_unique _ hdr ex).1 ((osUniqueT_iff tPU _).2 fun k =>
      Nat.le_trans (cnt_pipeline tyOs (fun _ _ => rfl) filters t0 t1 h1 (tPU, k)) ((osUniqueT_iff tPU t0).1 h k))
  · exact (render_unique _ hdr ex).2.1 ((osUniqueT_iff tNUMA _).2 fun k =>
      Nat.le_trans (cnt_pipeline tyOs (fun _ _ => rfl) filters t0 t1 h1 (tNUMA, k)) ((osUniqueT_iff tNUMA t0).1 h k))

/-- non-vacuity: `exMemT` (two NUMA nodes below a package, one behind a memory-side cache) rendered with the fields of the stage:
all hypotheses hold and (evaluated) every object passes total-memory and children-counts -/
example : typedT exMemT = true ∧ sumLocalT exMemLoc exMemT < W64 ∧ ((objsT exMemT).map (·.gp)).Nodup ∧
    (let d := render exMemT ⟨0, [], none, none⟩ (exOfMem exMemLoc exMemT (fun _ => {}))
     d.objs.all (fun o => objClause "total-memory" d (mkAux d) o && objClause "children-counts" d (mkAux d) o) = true ∧
     (d.objs.map (·.totalMem)) = [19000, 11000, 0, 0, 5000, 6000, 8000, 8000]) := by decide +kernel
example : ((objsT (toTree exDc (stage exIn).root)).map (·.gp)).Nodup ∧
    (((objsT (toTree exDc (stage exIn).root)).filter (fun o => o.type == tPU)).map (·.osidx)).Nodup := by decide +kernel


/-! ### the set clauses through level merging -/

/-- **what hwloc_compare_levels_structure requires, and what makes merging harmless for the sets.**  The C condition for merging two
adjacent levels is purely structural (`sameStructure`: both levels have the same number of objects, every object of the upper level
has exactly ONE normal child, which is the object of the lower level at the same position, and no memory children if the lower level
is the PU level); the sets are not looked at.  If every object with exactly one normal child has the cpuset and the nodeset of that
child (`tightT`: decidable, a consequence of the WF clauses cpuset-is-disjoint-union-of-children and nodeset-decomposition,
evaluated by the engine on every rm_after tree) and the clauses `SetQ` of the set stage hold everywhere (they do after `remove_empty`:
C01_pipeline_compose (a)), then after level merging — any filters, both merge branches, the re-sorting of memory children and the final
re-sorting of children included — every normal / memory object still satisfies
  set-in-complete, set-in-parent (cpuset, complete_cpuset, nodeset, complete_nodeset; normal and memory children),
  memory-child-shares-cpuset, normal siblings pairwise disjoint   (`SetW`),
the single-child property holds again, and the root keeps its cpuset and nodeset. -/
theorem C01_sets_through_level_merging (filters : List Nat) (t : Tree) (hs : AllQ SetQ t) (ht : tightT t = true) :
    AllQ SetW (keepStructure filters t) ∧ AllQ (fun o ns _ => TightQ o ns) (keepStructure filters t) ∧
    (keepStructure filters t).obj.cpuset = t.obj.cpuset ∧ (keepStructure filters t).obj.nodeset = t.obj.nodeset :=
  setW_keepStructure filters t hs ht

/-- one merge step in isolation (`mergeNode`, the body of both branches of hwloc_filter_levels_keep_structure): the merged subtree keeps the
clauses, and the object now at its root has the old cpuset and nodeset and complete sets that are not larger -/
theorem C01_merge_step_sets (rc : Bool) (o : RObj) (ns ms ios mis : List Tree) (h : AllQ WQ (.node o ns ms ios mis)) :
    AllQ WQ (mergeNode rc o ns ms ios mis) ∧ Rel o (mergeNode rc o ns ms ios mis).obj := by
  -- the merge of the one-object level `[o.gp]`
  have := WQ_merge [o.gp] rc _ h
  rwa [mergeT, if_pos (List.contains_iff_mem.2 List.mem_cons_self)] at this

/-- **in the composition**: with `PreSets i` and the single-child hypothesis on the tree `t1` that `remove_empty` leaves, the final tree of
the pipeline satisfies the set clauses `SetW` at every normal / memory object -/
theorem C01_pipeline_sets_through_level_merging (i : In) (dc : Deco) (filters : List Nat) (hpre : PreSets i)
    (t1 : Tree) (h1 : removeEmpty (toTree dc (stage i).root) = some t1) (ht : tightT t1 = true) :
    pipeline i dc filters = some (keepStructure filters t1) ∧ AllQ SetW (keepStructure filters t1) ∧
    setWT (keepStructure filters t1) = true ∧
    (keepStructure filters t1).obj.cpuset = t1.obj.cpuset ∧ (keepStructure filters t1).obj.nodeset = t1.obj.nodeset := by
  have hs0 : AllQ SetQ (toTree dc (stage i).root) := allQ_toTree dc (fun o k m h => setQ_of_post dc o k m h) _ (stage_post i hpre)
  have hs1 := removeEmpty_preserves SetQ SetQ_stable _ t1 h1 hs0
  have h := setW_keepStructure filters t1 hs1 ht
  exact ⟨by unfold pipeline; rw [h1]; rfl, h.1, (setWT_iff _).2 h.1, h.2.2.1, h.2.2.2⟩

/-- non-vacuity: Machine > Package > 2 Cores > 1 PU each, a NUMA node on the Package; Package and Core filtered KEEP_STRUCTURE: the Package
is merged into the Machine (the NUMA node moves up) and each Core into its PU; hypotheses and conclusion evaluated -/
def exKs : Tree := exN 1 tMACHINE 3 1 [exN 2 tPACKAGE 3 1 [exN 3 tCORE 1 1 [exN 4 tPU 1 1 [] [] [] []] [] [] [],
  exN 5 tCORE 2 1 [exN 6 tPU 2 1 [] [] [] []] [] [] []] [exN 7 tNUMA 3 1 [] [] [] []] [] []] [] [] []
def exKsFilters : List Nat := [0, 2, 0, 2] ++ List.replicate 16 0
example : setQT exKs = true ∧ tightT exKs = true ∧ (objsT (keepStructure exKsFilters exKs)).map (·.gp) = [1, 4, 6, 7] ∧
    setWT (keepStructure exKsFilters exKs) = true := by decide +kernel
/-- the single-child hypothesis is needed: a Package whose only Core has a smaller cpuset and a NUMA node of its own — the NUMA node
(cpuset of the Core) lands below the Machine after the merge and no longer shares its parent's cpuset -/
def exKsBad : Tree := exN 1 tMACHINE 3 1 [exN 2 tPACKAGE 3 1 [exN 3 tCORE 1 1 [exN 4 tPU 1 1 [] [] [] []] [exN 7 tNUMA 1 1 [] [] [] []] [] []] [] [] []] [] [] []
example : setQT exKsBad = true ∧ tightT exKsBad = false ∧ setWT (keepStructure exKsFilters exKsBad) = false := by decide +kernel


/-- **`puLeafT` and the Machine root through level merging** (the two conditional parts of C01_pipeline_compose (b), discharged): if PU and
Machine are not filtered KEEP_STRUCTURE (hwloc_topology_set_type_filter refuses it), gp_index values are pairwise distinct in the tree
`t0` handed to `remove_empty`, `t0` is typed with a Machine root and PUs are leaves in the tree `t1` that `remove_empty` leaves, then in the
final tree PUs are still leaves and the root object is still the one of `t0`; so EVERY object of the rendered dump satisfies
no-children-where-forbidden, and root-is-machine and level0-is-root hold. -/
theorem C01_pipeline_pu_leaf_and_root (filters : List Nat) (hdr : Hdr) (ex : RObj → Extra) (t0 t1 : Tree)
    (hPU : filterOf filters tPU ≠ Hw.Gen.Restrict.filterKeepStructure) (hM : filterOf filters tMACHINE ≠ Hw.Gen.Restrict.filterKeepStructure)
    (hu : ((objsT t0).map (·.gp)).Nodup) (hty : typedT t0 = true) (hroot : t0.obj.type = tMACHINE)
    (h1 : removeEmpty t0 = some t1) (hl : puLeafT t1 = true) :
    puLeafT (keepStructure filters t1) = true ∧ (keepStructure filters t1).obj = t0.obj ∧
    (∀ o ∈ (render (keepStructure filters t1) hdr ex).objs,
      objClause "no-children-where-forbidden" (render (keepStructure filters t1) hdr ex) (mkAux (render (keepStructure filters t1) hdr ex)) o = true) ∧
    topClause "root-is-machine" (render (keepStructure filters t1) hdr ex) (mkAux (render (keepStructure filters t1) hdr ex)) = true ∧
    topClause "level0-is-root" (render (keepStructure filters t1) hdr ex) (mkAux (render (keepStructure filters t1) hdr ex)) = true := by
  have ht1 := removeEmpty_typed _ t1 h1 hty
  have hr1 : t1.obj.type = tMACHINE := by rw [ht1.2, hroot]
  have hu1 : ((objsT t1).map (·.gp)).Nodup := nodup_gp_of_cnt_le (fun k => cnt_removeEmpty (·.gp) k t0 t1 h1) hu
  have hk := keepStructure_pu filters hPU t1 (by rw [hr1]; exact hM) hu1 ht1.1 hl
  have ht2 := typed_keepStructure filters t1 ht1.1
  have hm2 : (keepStructure filters t1).obj.type = tMACHINE := by rw [hk.2.1, hr1]
  exact ⟨hk.1, hk.2.1.trans ht1.2, fun o ho => render_no_children_where_forbidden _ ht2.1 hk.1 hdr ex o ho,
    render_root_is_machine _ hm2 hdr ex, render_level0_is_root _ hm2 hdr ex⟩

/-- non-vacuity of C01_pipeline_pu_leaf_and_root on `exKs` (nothing is removed by remove_empty; two levels are merged) -/
example : filterOf exKsFilters tPU ≠ Hw.Gen.Restrict.filterKeepStructure ∧ filterOf exKsFilters tMACHINE ≠ Hw.Gen.Restrict.filterKeepStructure ∧
    ((objsT exKs).map (·.gp)).Nodup ∧ typedT exKs = true ∧ exKs.obj.type = tMACHINE ∧ (removeEmpty exKs).map (fun t => puLeafT t) = some true ∧
    puLeafT (keepStructure exKsFilters exKs) = true := by decide +kernel
/-- the key hypothesis of C01_pipeline_no_new_object for the keys used here -/
example : (∀ o co : RObj, (absorb o co).gp = co.gp) ∧ (∀ o co : RObj, tyOs (absorb o co) = tyOs co) := ⟨fun _ _ => rfl, fun _ _ => rfl⟩

/-- **numa-exists for the composed pipeline**: a NUMA node with a non-empty nodeset in the (typed, normal-rooted) tree handed to `remove_empty`
is neither removed by `remove_empty` nor by level merging, so the NUMA level of the final render is not empty -/
theorem C01_pipeline_numa_exists (filters : List Nat) (hdr : Hdr) (ex : RObj → Extra) (t0 t1 : Tree) (hty : typedT t0 = true)
    (hr : isNormal t0.obj.type = true) (h1 : removeEmpty t0 = some t1) (hn : ∃ x ∈ objsNM t0, x.type = tNUMA ∧ x.nodeset ≠ 0) :
    topClause "numa-exists" (render (keepStructure filters t1) hdr ex) (mkAux (render (keepStructure filters t1) hdr ex)) = true :=
  pipeline_numa_exists filters hdr ex t0 t1 hty h1 hn
example : typedT exKs = true ∧ isNormal exKs.obj.type = true ∧ (removeEmpty exKs).isSome ∧
    (∃ x ∈ objsNM exKs, x.type = tNUMA ∧ x.nodeset ≠ 0) := by decide +kernel

end Stages

end Hw.Props.C01
