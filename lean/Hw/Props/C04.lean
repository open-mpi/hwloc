/-
  Property C04 — bitmap <-> string conversions round-trip and honour the snprintf contract.

  Models: `Hw.Base.Snprintf` (the cursor machine shared by every hwloc printer), `Hw.Bitmap.Print`
  (chunk lists of the hwloc / list / taskset printers), `Hw.Bitmap.Scan` (the three parsers over
  NUL-terminated byte lists with `Option` word cells), `Hw.Base.Num` (`strtoul`, number printing).
-/
import Hw.Bitmap.ScanLemmas
import Hw.Bitmap.RoundTripList
import Hw.Bitmap.RoundTripTaskset
import Hw.Bitmap.RoundTripHwloc
import Hw.Bitmap.ScanCursorSafe
import Hw.Bitmap.ScanCursorRefine
import Hw.Bitmap.ScanCursorTransfer
import Hw.Base.Snprintf
namespace Hw.Props.C04
open Hw Hw.Bitmap

/-! ## 1. the snprintf contract, for every chunk list and every buffer length -/

/-- the return value is the length of the untruncated text, whatever the buffer length -/
theorem C04_ret_is_full_length (cap : Nat) (chunks : List (List Byte)) :
    (emitAll cap chunks).ret = (text chunks).length := by
  cases cap with
  | zero => exact (emitAll_zero chunks).2
  | succ n => exact (emitAll_inv (n+1) (by omega) chunks).ret_eq

/-- no write ever lands outside `[buf, buf+buflen)`; with `buflen = 0` (buf may be NULL) nothing is written -/
theorem C04_writes_in_bounds (cap : Nat) (chunks : List (List Byte)) :
    ∀ w, w ∈ (emitAll cap chunks).buf.writes → w < cap := by
  cases cap with
  | zero => intro w hw; rw [(emitAll_zero chunks).1] at hw; cases hw
  | succ n => exact (emitAll_inv (n+1) (by omega) chunks).inb

/-- for `buflen > 0` the buffer holds the longest prefix of the full text that fits, NUL-terminated,
and nothing behind the NUL was touched -/
theorem C04_truncated_prefix (cap : Nat) (hcap : 0 < cap) (chunks : List (List Byte)) :
    let c := emitAll cap chunks
    let p := min (text chunks).length (cap - 1)
    (∀ j, j < p → c.buf.get j = (text chunks)[j]?) ∧ c.buf.get p = some 0 ∧ ∀ j, p < j → c.buf.get j = none := by
  have h := emitAll_inv cap hcap chunks
  simp only
  rw [← h.pos_eq]
  exact ⟨h.prefix_ok, h.nul, h.rest⟩

/-- instances: the three bitmap printers (their chunk lists do not depend on the buffer) -/
theorem C04_snprintf_hwloc (cap : Nat) (b : Bitmap) :
    (snprintfHwloc cap b).ret = (text b.chunksHwloc).length ∧
    ∀ w, w ∈ (snprintfHwloc cap b).buf.writes → w < cap :=
  ⟨C04_ret_is_full_length _ _, C04_writes_in_bounds _ _⟩
theorem C04_snprintf_list (cap : Nat) (b : Bitmap) :
    (snprintfList cap b).ret = (text b.chunksList).length ∧
    ∀ w, w ∈ (snprintfList cap b).buf.writes → w < cap :=
  ⟨C04_ret_is_full_length _ _, C04_writes_in_bounds _ _⟩
theorem C04_snprintf_taskset (cap : Nat) (b : Bitmap) :
    (snprintfTaskset cap b).ret = (text b.chunksTaskset).length ∧
    ∀ w, w ∈ (snprintfTaskset cap b).buf.writes → w < cap :=
  ⟨C04_ret_is_full_length _ _, C04_writes_in_bounds _ _⟩

/-- `asprintf` = `snprintf(NULL,0)` then `snprintf(buf, len+1)`: the second call returns the same
length and stores exactly the full text followed by NUL -/
theorem C04_asprintf (chunks : List (List Byte)) :
    let len := (emitAll 0 chunks).ret
    let c := emitAll (len + 1) chunks
    c.ret = len ∧ (∀ j, j < len → c.buf.get j = (text chunks)[j]?) ∧ c.buf.get len = some 0 := by
  have h := C04_truncated_prefix ((text chunks).length + 1) (by omega) chunks
  simp only [Nat.add_sub_cancel, Nat.min_self] at h
  simp only
  rw [C04_ret_is_full_length 0]
  exact ⟨C04_ret_is_full_length _ _, h.1, h.2.1⟩

/-! ## 2. parsers: total, and a returned 0 means every word of the destination was written -/

theorem C04_sscanf_hwloc_defined (s : List Byte) : (hwlocScan s).defined = true := hwlocScan_defined s
theorem C04_sscanf_list_defined (s : List Byte) : (listScan s).defined = true := listScan_defined s
theorem C04_sscanf_taskset_defined (s : List Byte) : (tasksetScan s).defined = true := tasksetScan_defined s

/-! non-vacuity: the strings on which the pinned tree (before the `fix:` commit) misbehaved -/
example : hwlocScan (str "") = .ok [some 0#64] false := by
  rw [str_ofList]; decide +kernel
example : hwlocScan (str "0x1,") = .ok [some 0x100000000#64] false := by
  rw [str_ofList]; decide +kernel
example : hwlocScan (str ",0x1") = .ok [some 1#64] false := by
  rw [str_ofList]; decide +kernel
example : (emitAll 5 (Bitmap.chunksList ⟨[0xf0f#64], false⟩)).ret = 8 := by decide +kernel

/-! ## 3. round trip: parsing the printed text succeeds and yields a bitmap denoting the same set,
for every bitmap (finite or infinite, any word count) -/

theorem C04_roundtrip_hwloc (b : Bitmap) (hinv : b.Inv) :
    ∃ ws inf, hwlocScan (text b.chunksHwloc) = .ok (ws.map some) inf ∧
      ∀ n, (Bitmap.mk ws inf).mem n = b.mem n := hwloc_roundtrip b hinv

theorem C04_roundtrip_taskset (b : Bitmap) (hinv : b.Inv) :
    ∃ ws inf, tasksetScan (text b.chunksTaskset) = .ok (ws.map some) inf ∧
      ∀ n, (Bitmap.mk ws inf).mem n = b.mem n := taskset_roundtrip b hinv

/-- list format: inside the modelled domain of the list parser (indexes below `listMaxIndex = 2^21`) -/
theorem C04_roundtrip_list (b : Bitmap) (hinv : b.Inv) (hb : b.count * 64 + 64 ≤ listMaxIndex) :
    ∃ ws inf, listScan (text b.chunksList) = .ok (ws.map some) inf ∧
      ∀ n, (Bitmap.mk ws inf).mem n = b.mem n := list_roundtrip b hinv hb

/-- the same statements through `ScanRes.bitmap?`: the parser result is a bitmap equal (as a set) to `b` -/
theorem C04_roundtrip_bitmap (b : Bitmap) (hinv : b.Inv) :
    (∃ r, (hwlocScan (text b.chunksHwloc)).bitmap? = some r ∧ ∀ n, r.mem n = b.mem n) ∧
    (∃ r, (tasksetScan (text b.chunksTaskset)).bitmap? = some r ∧ ∀ n, r.mem n = b.mem n) ∧
    (b.count * 64 + 64 ≤ listMaxIndex →
      ∃ r, (listScan (text b.chunksList)).bitmap? = some r ∧ ∀ n, r.mem n = b.mem n) :=
  ⟨bitmap_of_scan (hwloc_roundtrip b hinv), bitmap_of_scan (taskset_roundtrip b hinv),
   fun hb => bitmap_of_scan (list_roundtrip b hinv hb)⟩

/-! non-vacuity: concrete finite / infinite bitmaps with zero groups, a merged all-ones group and
several words; the hypotheses hold and the parsers return the expected words -/
example : (⟨[0x1#64, 0xffffffff00000000#64], true⟩ : Bitmap).Inv ∧
    text (Bitmap.chunksHwloc ⟨[0x1#64, 0xffffffff00000000#64], true⟩) = str "0xf...f,,,0x00000001" := by
  rw [str_ofList]; decide +kernel
example : hwlocScan (text (Bitmap.chunksHwloc ⟨[0x1#64, 0xffffffff00000000#64], true⟩))
    = .ok [some 0x1#64, some 0xffffffff00000000#64] true := by decide +kernel
example : hwlocScan (text (Bitmap.chunksHwloc ⟨[0x0#64, 0x500000000#64, 0#64], false⟩))
    = .ok [some 0x0#64, some 0x500000000#64] false := by decide +kernel
example : tasksetScan (text (Bitmap.chunksTaskset ⟨[0xf0#64, 0xffffffff00000001#64], true⟩))
    = .ok [some 0xf0#64, some 0xffffffff00000001#64] true := by decide +kernel
example : (⟨[0xf0f#64, 0x1#64], true⟩ : Bitmap).count * 64 + 64 ≤ listMaxIndex ∧
    text (Bitmap.chunksList ⟨[0xf0f#64, 0x1#64], true⟩) = str "0-3,8-11,64,128-" := by
  rw [str_ofList]; decide +kernel

/-! ## 4. memory safety of the parsers as the C walks the string (cursor-level models `Hw.Bitmap.Cursor`):
for EVERY byte string `s` (stored as `s ++ [NUL]`, sign characters, huge numbers and embedded NULs included)
every byte the parser or libc reads has index ≤ `s.length`, i.e. never past the terminating NUL -/

open Hw.Bitmap.Cursor in
theorem C04_sscanf_reads_in_bounds (s : List Byte) :
    ∀ r, r ∈ (hwlocSscanfC s).log.reads → r ≤ s.length := (hwlocSscanfC_good s).1.reads

open Hw.Bitmap.Cursor in
theorem C04_list_sscanf_reads_in_bounds (s : List Byte) :
    ∀ r, r ∈ (listSscanfC s).log.reads → r ≤ s.length := (listSscanfC_good s).1.reads

open Hw.Bitmap.Cursor in
theorem C04_taskset_sscanf_reads_in_bounds (s : List Byte) :
    ∀ r, r ∈ (tasksetSscanfC s).log.reads → r ≤ s.length := (tasksetSscanfC_good s).1.reads

/-- every store into `set->ulongs[]` made by the parsers themselves has `0 ≤ index < ulongs_count`, and
`ulongs_count ≤ ulongs_allocated` whatever was allocated before (`prev`); every store into the taskset
parser's `char ustr[17]` has index < 17.  (The list parser stores only through `hwloc_bitmap_zero/set/set_range`.) -/
theorem C04_sscanf_writes_in_bounds (s : List Byte) (prev : Nat) :
    ∀ w, w ∈ (Cursor.hwlocSscanfC s).log.writes →
      0 ≤ w.1 ∧ w.1 < (w.2 : Int) ∧ w.2 ≤ Cursor.allocFor prev w.2 :=
  (Cursor.hwlocSscanfC_good s).1.writes_alloc prev

theorem C04_list_sscanf_writes_in_bounds (s : List Byte) (prev : Nat) :
    ∀ w, w ∈ (Cursor.listSscanfC s).log.writes →
      0 ≤ w.1 ∧ w.1 < (w.2 : Int) ∧ w.2 ≤ Cursor.allocFor prev w.2 :=
  (Cursor.listSscanfC_good s).1.writes_alloc prev

theorem C04_taskset_sscanf_writes_in_bounds (s : List Byte) (prev : Nat) :
    (∀ w, w ∈ (Cursor.tasksetSscanfC s).log.writes →
      0 ≤ w.1 ∧ w.1 < (w.2 : Int) ∧ w.2 ≤ Cursor.allocFor prev w.2) ∧
    (∀ u, u ∈ (Cursor.tasksetSscanfC s).log.ustr → u < 17) :=
  ⟨(Cursor.tasksetSscanfC_good s).1.writes_alloc prev, (Cursor.tasksetSscanfC_good s).1.ustr⟩

/-! non-vacuity: the logs are not empty — the strings of finding F02 and a signed number -/
example : (Cursor.hwlocSscanfC (str "")).log.reads.contains 0 = true ∧ (Cursor.hwlocSscanfC (str "")).log.maxRead = 0 := by
  rw [str_ofList]; decide +kernel
example : (Cursor.hwlocSscanfC (str "0x1,")).log.maxRead = 4 ∧ (Cursor.hwlocSscanfC (str "0x1,")).log.writes = [((0 : Int), 1)] := by
  rw [str_ofList]; decide +kernel
example : (Cursor.listSscanfC (str "1,x,2")).res = .fail ∧ (Cursor.listSscanfC (str "1,x,2")).log.maxRead = 2 := by
  rw [str_ofList]; decide +kernel
example : (Cursor.tasksetSscanfC (str "0xf...f12")).log.writes = [((0 : Int), 1)] ∧
    (Cursor.tasksetSscanfC (str "0xf...f12")).log.ustr.length = 3 ∧ (Cursor.tasksetSscanfC (str "0xf...f12")).log.maxRead = 9 := by
  rw [str_ofList]; decide +kernel
example : (Cursor.hwlocSscanfC (str "-1")).res = .ok [some 0xffffffffffffffff#64] false := by
  rw [str_ofList]; decide +kernel

/-! ## 5. refinement: on a C string (`NoNul`: the bytes before the terminator) on which the structural model
of `Hw.Bitmap.Scan` is defined (no sign character; list indexes < 2^21), the cursor-level model returns exactly
the structural model's verdict and words.  Outside that domain the cursor-level model is still total and the
theorems of section 4 still hold. -/

theorem C04_sscanf_refines (s : List Byte) (hs : Cursor.NoNul s) (hsup : hwlocScan s ≠ .unsupported) :
    (Cursor.hwlocSscanfC s).res.toScan = hwlocScan s := (Cursor.hwlocSscanfC_refine s hs).eq hsup

theorem C04_list_sscanf_refines (s : List Byte) (hs : Cursor.NoNul s) (hsup : listScan s ≠ .unsupported) :
    (Cursor.listSscanfC s).res.toScan = listScan s := (Cursor.listSscanfC_refine s hs).eq hsup

theorem C04_taskset_sscanf_refines (s : List Byte) (hs : Cursor.NoNul s) (hsup : tasksetScan s ≠ .unsupported) :
    (Cursor.tasksetSscanfC s).res.toScan = tasksetScan s := (Cursor.tasksetSscanfC_refine s hs).eq hsup

/-- `hwloc_bitmap_sscanf` returns (0 or -1) on every C string: its `assert(count > 0)` never fires
(the other two parsers contain no assert: their models have no such outcome by construction) -/
theorem C04_sscanf_returns (s : List Byte) (hs : Cursor.NoNul s) :
    (Cursor.hwlocSscanfC s).res = .fail ∨ ∃ ws inf, (Cursor.hwlocSscanfC s).res = .ok ws inf :=
  Cursor.hwlocSscanfC_returns s hs

/-- a returned 0 means every word of the destination was written — for EVERY byte string, sign characters and
huge numbers included (proved on the cursor-level models directly, not by transfer) -/
theorem C04_cursor_defined (s : List Byte) :
    (Cursor.hwlocSscanfC s).res.defined = true ∧ (Cursor.listSscanfC s).res.defined = true ∧
    (Cursor.tasksetSscanfC s).res.defined = true :=
  ⟨(Cursor.hwlocSscanfC_good s).2, (Cursor.listSscanfC_good s).2, (Cursor.tasksetSscanfC_good s).2⟩

/-- round trip through the cursor-level (memory-safe) parsers: the printed text holds no NUL, is accepted, and
denotes the same set -/
theorem C04_cursor_roundtrip (b : Bitmap) (hinv : b.Inv) :
    (∃ ws inf, (Cursor.hwlocSscanfC (text b.chunksHwloc)).res = .ok (ws.map some) inf ∧ ∀ n, (Bitmap.mk ws inf).mem n = b.mem n) ∧
    (∃ ws inf, (Cursor.tasksetSscanfC (text b.chunksTaskset)).res = .ok (ws.map some) inf ∧ ∀ n, (Bitmap.mk ws inf).mem n = b.mem n) ∧
    (b.count * 64 + 64 ≤ listMaxIndex →
      ∃ ws inf, (Cursor.listSscanfC (text b.chunksList)).res = .ok (ws.map some) inf ∧ ∀ n, (Bitmap.mk ws inf).mem n = b.mem n) :=
  ⟨Cursor.cursor_of_scan (Cursor.hwlocSscanfC_refine _) (Cursor.chunksHwloc_noNul b) (hwloc_roundtrip b hinv),
   Cursor.cursor_of_scan (Cursor.tasksetSscanfC_refine _) (Cursor.chunksTaskset_noNul b) (taskset_roundtrip b hinv),
   fun hb => Cursor.cursor_of_scan (Cursor.listSscanfC_refine _) (Cursor.chunksList_noNul b) (list_roundtrip b hinv hb)⟩

/-! non-vacuity: strings meeting the hypotheses, one per format, incl. the F02 strings; and one outside the
structural domain (sign) where only the cursor-level model answers -/
example : Cursor.NoNul (str "0xf...f,,0x1") ∧ hwlocScan (str "0xf...f,,0x1") ≠ .unsupported ∧
    (Cursor.hwlocSscanfC (str "0xf...f,,0x1")).res = .ok [some 0x1#64] true := by
  rw [str_ofList]; decide +kernel
example : Cursor.NoNul (str "1,3-5, 64-") ∧ listScan (str "1,3-5, 64-") ≠ .unsupported ∧
    (Cursor.listSscanfC (str "1,3-5, 64-")).res = .ok [some 0x3a#64, some 0xffffffffffffffff#64] true := by
  rw [str_ofList]; decide +kernel
example : Cursor.NoNul (str "0xf...f12") ∧ tasksetScan (str "0xf...f12") ≠ .unsupported ∧
    (Cursor.tasksetSscanfC (str "0xf...f12")).res = .ok [some 0xffffffffffffff12#64] true := by
  rw [str_ofList]; decide +kernel
example : hwlocScan (str "+f,-2") = .unsupported ∧
    (Cursor.hwlocSscanfC (str "+f,-2")).res = .ok [some 0xfffffffffffffffe#64] false := by
  rw [str_ofList]; decide +kernel
example : (Cursor.listSscanfC (str "4194304")).big = true ∧ (Cursor.listSscanfC (str "4194304")).res = .okBig := by
  rw [str_ofList]; decide +kernel

end Hw.Props.C04
