/-
  C05 — XML export followed by import reproduces the topology (and is a fixpoint).

  Proved here, for all inputs, over the models of Hw.Io.Xml / Hw.Io.Base64 / Hw.Base.Num (tied to the C code byte for byte
  by engine `xmlrt`): the byte-level building blocks of the round trip, the equivalence relation the round trip is
  judged with, the object level (one start tag, section (e)) and the tree level (nesting, child elements, the four child
  lists, section (f)) and the side-structure elements (cpukind, memattr, distances2 / distances2hetero, topology info, section (g))
  of the v3 format.  Support elements, the v2-format flags and libxml2 are
  exercised, not modelled: the round trip of whole topologies is established on the generated topologies of every run
  (tools/eng_xmlrt.py).
-/
import Hw.Io.XmlLemmas
import Hw.Io.Base64Lemmas
import Hw.Io.XmlObjLemmas
import Hw.Io.XmlTreeLemmas
import Hw.Io.XmlSideLemmas
import Hw.Props.C04
namespace Hw.Props.C05
open Hw Hw.Xml Hw.Topo

/-! ### (a) attribute values: escape / un-escape -/

/-- P0.  Un-escaping (the `len`/`escaped` cursor loop of hwloc__nolibxml_import_next_attr) what the exporter's escaper wrote
    between the quotes returns the original bytes, for every NUL-free byte string, and stops exactly on the closing quote. -/
theorem C05_unescape_escape (s rest : List Nat) (hs : ∀ c ∈ s, c ≠ 0) :
    unescape (escape s ++ 34 :: rest) = some (s, (escape s).length) := unescape_escape s rest hs

/-- the strcspn-run implementation of the escaper is the character-wise entity replacement -/
theorem C05_escape_charwise (s : List Nat) : escape s = escapeSpec s := escape_eq_spec s

/-- P0.  The escaped text contains no raw `"`, `<`, `>` (nor `\n`, `\r`, `\t`) -/
theorem C05_escape_no_raw_markup (s : List Nat) (x : Nat) (hx : x ∈ escape s) :
    x ≠ 34 ∧ x ≠ 60 ∧ x ≠ 62 ∧ x ≠ 10 ∧ x ≠ 13 ∧ x ≠ 9 := escape_no_raw_markup s x hx

/-- P0.  Every byte of the escaped text is an ordinary byte or a `&`; a `&` only ever comes from an emitted entity, whose
    other bytes are letters, digits, `#` and `;` (so the un-escaper's entity chain always matches: `C05_unescape_escape`) -/
theorem C05_escape_amp_only_from_entities (c : Nat) :
    (isEsc c = true → ∃ t, entity c = 38 :: t ∧ t ≠ [] ∧ ∀ x ∈ t, entityTailChar x = true) ∧
    (isEsc c = false → esc1 c = [c] ∧ c ≠ 38) := by
  constructor
  · exact entity_shape
  · intro h
    refine ⟨by unfold esc1; simp [h], ?_⟩
    simp [isEsc] at h; omega

/-- the escaper returns NULL (the value is printed as is) exactly when there is nothing to escape -/
theorem C05_escape_null_iff (s : List Nat) : escapeC s = none ↔ s.dropWhile notEsc = [] := escapeC_none_iff s

/-- P1 `scan_render` at the attribute level ("the built-in parser reads what the built-in exporter writes"): the importer's
    `while (next_attr(...) >= 0)` loop over the attribute buffer of a tag returns exactly the (name, value) list that the
    exporter's `new_prop` calls wrote (` name="escaped value"` each), for names over `[a-z_]` (the scanner's strspn set) and
    NUL-free values; `fuel` only bounds the number of loop iterations -/
theorem C05_scan_render_attrs (l : List (List Nat × List Nat)) (fuel : Nat) (hf : l.length < fuel)
    (h : ∀ a ∈ l, (∀ c ∈ a.1, isAttrNameChar c = true) ∧ (∀ c ∈ a.2, c ≠ 0)) :
    scanAttrs fuel (renderAttrs l) = l := scanAttrs_renderAttrs l fuel hf h

/-- one attribute: `next_attr` returns its name and value and moves the attribute buffer to the next attribute -/
theorem C05_next_attr_render (name val rest : List Nat) (hn : ∀ c ∈ name, isAttrNameChar c = true) (hv : ∀ c ∈ val, c ≠ 0) :
    nextAttr (name ++ 61 :: 34 :: (escape val ++ 34 :: rest)) =
      some (name, val, name.length + 2 + (escape val).length + 1 + (rest.takeWhile isBlank).length) :=
  nextAttr_core name val rest hn hv

/-! ### (b) base64 (userdata) -/

/-- P0.  The encoder produces exactly BASE64_ENCODED_LENGTH(n) = 4*((n+2)/3) characters (plus the NUL: 4*((n+2)/3)+1 bytes) -/
theorem C05_base64_enc_length (bs : List Nat) : (B64.encText bs).length = 4 * ((bs.length + 2) / 3) := B64.encText_length bs

/-- P0.  Whatever the input text and the target size, the decoder never stores at or beyond `targsize` (and the target keeps
    its size) — in particular for the `length + 1` bytes the XML importer passes -/
theorem C05_base64_dec_writes_in_bounds (src : List Nat) (tg : B64.Tgt) (h0 : tg.writes = []) :
    ∀ tg', (B64.decode src (some tg)).2 = some tg' → tg'.size = tg.size ∧ ∀ w ∈ tg'.writes, w < tg.size :=
  B64.decode_writes_in_bounds src tg h0

/-- the decoder's `strchr` inverts the encoder's table, and encoded characters are neither whitespace, `=` nor NUL -/
theorem C05_base64_alphabet : ∀ i, i < 64 →
    B64.b64index (B64.b64char i) = some i ∧ B64.isspaceC (B64.b64char i) = false ∧ B64.b64char i ≠ B64.pad64 ∧ B64.b64char i ≠ 0 :=
  fun i h => ⟨B64.b64index_b64char i h, B64.b64char_not_space_pad i h⟩

/-- P0 `base64_roundtrip`.  Decoding the encoder's text (`hwloc_decode_from_base64` state machine, every length 0,1,2 mod 3, with
    padding) into any target of at least `n + 1` bytes — the `length + 1` the XML importer allocates — returns `n`, leaves exactly
    the original bytes in the first `n` cells and keeps the target's size -/
theorem C05_base64_roundtrip (bs : List Nat) (tg : B64.Tgt) (hb : ∀ b ∈ bs, b < 256) (hs : bs.length + 1 ≤ tg.size) :
    ∃ tg', B64.decode (B64.encText bs) (some tg) = ((bs.length : Int), some tg') ∧ tg'.size = tg.size ∧
      tg'.cells.take bs.length = bs := B64.decode_encText bs tg hb hs

/-- P0.  On a target of `4*((n+2)/3) + 1` bytes or more `hwloc_encode_to_base64` succeeds, returns `4*((n+2)/3)`, leaves the text
    `encText bs` followed by a NUL at the start of the target and performs exactly `4*((n+2)/3) + 1` stores -/
theorem C05_base64_encode (bs : List Nat) (t : B64.Tgt) (h0 : t.writes = []) (h : B64.encodedLength bs.length + 1 ≤ t.size) :
    ∃ t', B64.encode bs t = ((B64.encodedLength bs.length : Int), t') ∧ t'.size = t.size ∧
      t'.cells.take (B64.encodedLength bs.length + 1) = B64.encText bs ++ [0] ∧
      t'.writes.length = B64.encodedLength bs.length + 1 := by
  simpa only [h0, List.length_nil, Nat.zero_add] using B64.encode_spec bs t h

/-- P0.  Encoder and decoder composed through their buffers, with the sizes topology-xml.c uses (`encoded_length + 1` for the
    encoder, `length + 1` for the decoder): the callback receives the exported bytes -/
theorem C05_base64_encode_decode (bs : List Nat) (hb : ∀ b ∈ bs, b < 256) (t tg : B64.Tgt) (h0 : t.writes = [])
    (ht : B64.encodedLength bs.length + 1 ≤ t.size) (hs : bs.length + 1 ≤ tg.size) :
    ∃ t' tg', B64.encode bs t = ((B64.encodedLength bs.length : Int), t') ∧
      B64.decode (t'.cells.take (B64.encodedLength bs.length)) (some tg) = ((bs.length : Int), some tg') ∧
      tg'.cells.take bs.length = bs := B64.decode_encode bs hb t tg ht hs

/-- the bit arithmetic of one group (used by `C05_base64_roundtrip`) -/
theorem C05_base64_group (a b c : Nat) (ha : a < 256) (hb : b < 256) (hc : c < 256) :
    let x0 := a / 4; let x1 := (a % 4) * 16 + b / 16; let x2 := (b % 16) * 4 + c / 64; let x3 := c % 64
    x0 < 64 ∧ x1 < 64 ∧ x2 < 64 ∧ x3 < 64 ∧
    ((x0 * 4) ||| (x1 / 16)) = a ∧ (((x1 % 16) * 16) ||| (x2 / 4)) = b ∧ (((x2 % 4) * 64) ||| x3) = c :=
  B64.group_inverts a b c ha hb hc

/-! ### (c) numbers -/

/-- P0.  `%u` / `%lu` / `%llu` read back by `strtoul(.., 10)` / `strtoull(.., 10)` (os_index, gp_index, sizes, kinds, values) -/
theorem C05_num_roundtrip_unsigned (n : Nat) (rest : List Nat) (hn : n < 2 ^ 64) (h : NoDigitHead rest) :
    strtoul 10 (decDigits n ++ rest) = .ok n rest := strtoul10_decDigits n rest hn h

/-- P0.  `%d` read back by `atoi` (cache associativity, forced efficiency, support values) -/
theorem C05_num_roundtrip_signed (i : Int) : atoi (printInt i) = i := atoi_printInt i

/-- P0.  hexadecimal words (`0x%08lx` of the set format) read back by `strtoul(.., 16)` -/
theorem C05_num_roundtrip_hex (n : Nat) (rest : List Nat) (hn : n < 2 ^ 64) (h : NoDigitHead rest) :
    strtoul 16 (hexDigits n ++ rest) = .ok n rest := strtoul16_hexDigits n rest hn h

/-- P0.  Sets are exported in the hwloc format and parsed back to the same set (C04) -/
theorem C05_set_attr_roundtrip (b : Bitmap) (hinv : b.Inv) :
    ∃ ws inf, Bitmap.hwlocScan (text b.chunksHwloc) = Bitmap.ScanRes.ok (ws.map some) inf ∧ ∀ n, (Bitmap.mk ws inf).mem n = b.mem n :=
  Hw.Props.C04.C04_roundtrip_hwloc b hinv

/-! ### (d) the equivalence the round trip is judged with -/

theorem C05_TopoEquiv_refl (a : Dump) : TopoEquiv a a := rfl
theorem C05_TopoEquiv_symm {a b : Dump} (h : TopoEquiv a b) : TopoEquiv b a := Eq.symm h
theorem C05_TopoEquiv_trans {a b c : Dump} (h1 : TopoEquiv a b) (h2 : TopoEquiv b c) : TopoEquiv a c := Eq.trans h1 h2

/-- P0.  `TopoEquiv` refines equality of every listed field, object by object in DFS order: tree and child order (parent,
    sibling rank, children, arities), types, subtypes, names, os_index, gp_index, the four
    sets, type attributes, infos in order, and the allowed sets -/
theorem C05_TopoEquiv_fields {a b : Dump} (h : TopoEquiv a b) :
    a.objs.length = b.objs.length ∧ a.allowedCpuset = b.allowedCpuset ∧ a.allowedNodeset = b.allowedNodeset ∧
    a.levels = b.levels ∧ a.root = b.root ∧
    ∀ (i : Nat) (oa ob : Obj), a.objs[i]? = some oa → b.objs[i]? = some ob →
      oa.type = ob.type ∧ oa.subtype = ob.subtype ∧ oa.name = ob.name ∧ oa.osidx = ob.osidx ∧ oa.gp = ob.gp ∧
      oa.cpuset = ob.cpuset ∧ oa.ccpuset = ob.ccpuset ∧ oa.nodeset = ob.nodeset ∧ oa.cnodeset = ob.cnodeset ∧
      exportedAttrs oa = exportedAttrs ob ∧ oa.infos = ob.infos ∧ oa.parent = ob.parent ∧ oa.rank = ob.rank ∧ oa.children = ob.children ∧
      oa.arity = ob.arity ∧ oa.marity = ob.marity ∧ oa.ioarity = ob.ioarity ∧ oa.miscarity = ob.miscarity ∧
      oa.depth = ob.depth ∧ oa.lidx = ob.lidx ∧ oa.totalMem = ob.totalMem := by
  unfold TopoEquiv at h
  have hobjs : a.objs.map obsObj = b.objs.map obsObj := congrArg DumpObs.objs h
  refine ⟨?_, congrArg DumpObs.allowedCpuset h, congrArg DumpObs.allowedNodeset h, congrArg DumpObs.levels h,
    congrArg DumpObs.root h, ?_⟩
  · have := congrArg List.length hobjs
    simpa using this
  · intro i oa ob ha hb
    have hi : (a.objs.map obsObj)[i]? = (b.objs.map obsObj)[i]? := by rw [hobjs]
    simp only [List.getElem?_map, ha, hb, Option.map_some, Option.some.injEq] at hi
    have hs : [oa.cpuset, oa.ccpuset, oa.nodeset, oa.cnodeset] = [ob.cpuset, ob.ccpuset, ob.nodeset, ob.cnodeset] :=
      congrArg ObjObs.sets hi
    have har : [oa.arity, oa.marity, oa.ioarity, oa.miscarity] = [ob.arity, ob.marity, ob.ioarity, ob.miscarity] :=
      congrArg ObjObs.arities hi
    simp only [List.cons.injEq, and_true] at hs har
    exact ⟨congrArg ObjObs.type hi, congrArg ObjObs.subtype hi, congrArg ObjObs.name hi, congrArg ObjObs.osidx hi,
      congrArg ObjObs.gp hi, hs.1, hs.2.1, hs.2.2.1, hs.2.2.2, congrArg ObjObs.attrs hi, congrArg ObjObs.infos hi,
      congrArg ObjObs.parent hi, congrArg ObjObs.rank hi, congrArg ObjObs.children hi, har.1, har.2.1, har.2.2.1, har.2.2.2,
      congrArg ObjObs.depth hi, congrArg ObjObs.lidx hi, congrArg ObjObs.totalMem hi⟩

/-- v2 format: `TopoEquiv` implies the weaker "same tree and sets" relation used for v2 exports -/
theorem C05_TopoEquiv_implies_tree_sets {a b : Dump} (h : TopoEquiv a b) : TreeSetsEquiv a b := by
  -- the v2 observation of a dump is a function of its v3 observation
  have key : ∀ d : Dump, treeObs d =
      ((obs d).objs.map fun x => (⟨x.type, x.parent, x.rank, x.arities, x.children, x.sets⟩ : TreeObs),
        (obs d).allowedCpuset, (obs d).allowedNodeset, (obs d).root) := fun d => by
    simp only [treeObs, obs, List.map_map]; rfl
  unfold TreeSetsEquiv
  rw [key, key, show obs a = obs b from h]

/-- what the exporter's safestrdup does is idempotent: a reloaded topology is its own sanitised form -/
theorem C05_sanitize_idem (s : List Nat) : sanitize (sanitize s) = sanitize s := sanitize_idem s

/-! ### (e) the object level: the start tag of `<object>` (v3 format)

  `ObjFields` = what the start tag carries: type, os_index, gp_index, the four sets (+ the topology's allowed sets on the root),
  name, subtype, the attribute union a0..a5 as harness/dump.h prints it, and the pcidev part of PCI devices / PCI-upstream bridges.
  OUTSIDE (child elements or derived): infos (`<info>`, covered separately below), page types, userdata, children, the Group /
  Bridge depth (exported but deliberately ignored by the importer: recomputed by the core), floating point (`pci_link_speed` is
  carried as the text `%f` printed), the type filter applied after the checks, and v2-format rules.
  Tie: engine `xmlrt` OBJ lines — for sampled objects of every nolibxml v3 export, the scanned start tag must equal
  `exportAttrs` of the original object, the object must be `Valid`, and `importAttrs` of the list must equal the reloaded object. -/

open Hw.XmlObj in
/-- P0 (object level).  Importing (hwloc__xml_import_object_attr + the checks of hwloc__xml_import_object) the attribute list
    that hwloc__xml_export_object_contents writes for a valid object gives the object back; `normalise` = the documented
    safestrdup filtering of name / subtype and the two depths the importer leaves to the core -/
theorem C05_obj_attrs_roundtrip (c : XmlObj.Ctx) (o : XmlObj.ObjFields) (hv : XmlObj.Valid c o = true) :
    XmlObj.importAttrs c (XmlObj.exportAttrs c.root o) = .ok (XmlObj.normalise o) := XmlObj.importAttrs_exportAttrs c o hv

/-- every exported attribute has a name over `[a-z_]` and a NUL-free value (the hypotheses of `C05_scan_render_attrs`) -/
theorem C05_obj_export_wellformed (c : XmlObj.Ctx) (o : XmlObj.ObjFields) (hv : XmlObj.Valid c o = true) :
    ∀ a ∈ XmlObj.exportAttrs c.root o, (∀ x ∈ a.1, isAttrNameChar x = true) ∧ (∀ x ∈ a.2, x ≠ 0) :=
  XmlObj.exportAttrs_ok c o hv

/-- P0 (object level, composed with the scanner).  Rendering the start tag of any valid object with the nolibxml exporter
    (`new_prop` for each attribute), scanning it with the nolibxml `next_attr` loop and importing the result yields the object -/
theorem C05_obj_scan_render_roundtrip (c : XmlObj.Ctx) (o : XmlObj.ObjFields) (hv : XmlObj.Valid c o = true) (fuel : Nat)
    (hf : (XmlObj.exportAttrs c.root o).length < fuel) :
    XmlObj.importAttrs c (scanAttrs fuel (renderAttrs (XmlObj.exportAttrs c.root o))) = .ok (XmlObj.normalise o) :=
  XmlObj.import_scan_render_export c o hv fuel hf

/-- the value formats one by one: sets (hwloc format), type strings, and the three sscanf formats of PCI / bridge attributes -/
theorem C05_obj_set_value_roundtrip (m : Nat) : XmlObj.setScan (XmlObj.setText m) = .ok m := XmlObj.setScan_setText m
theorem C05_obj_type_value_roundtrip (t : Nat) (h : t < 20) : XmlObj.typeScan (TypeStr.typeString t) = some t :=
  XmlObj.typeScan_typeString t h
theorem C05_obj_pci_busid_roundtrip (d bu dv f : Nat) (hb : bu < 256) (hd : dv < 256) (hf : f < 16) :
    XmlObj.scanBusid (hexPad 4 d ++ [58] ++ hexPad 2 bu ++ [58] ++ hexPad 2 dv ++ [46] ++ hexPad 1 f) = some (d, bu, dv, f) :=
  XmlObj.scanBusid_ok d bu dv f hb hd hf
theorem C05_obj_bridge_pci_roundtrip (d s1 s2 : Nat) (h1 : s1 < 256) (h2 : s2 < 256) :
    XmlObj.scanBridgePci (hexPad 4 d ++ XmlObj.b ":[" ++ hexPad 2 s1 ++ [45] ++ hexPad 2 s2 ++ [93]) = some (d, s1, s2) :=
  XmlObj.scanBridgePci_ok d s1 s2 h1 h2

/-- `<info name value/>` child elements (object, topology and cpukind infos): the pair comes back, both strings filtered -/
theorem C05_info_roundtrip (n v : List Nat) :
    XmlObj.importInfo (XmlObj.exportInfo (n, v)) = .pair (sanitize n, sanitize v) := XmlObj.importInfo_exportInfo n v
theorem C05_info_scan_render_roundtrip (n v : List Nat) (fuel : Nat) (hf : 2 < fuel) :
    XmlObj.importInfo (scanAttrs fuel (renderAttrs (XmlObj.exportInfo (n, v)))) = .pair (sanitize n, sanitize v) :=
  XmlObj.info_scan_render n v fuel hf

/-! ### (f) the tree level: nesting of `<object>`, `<info>`, `<page_type>`, `<userdata>` and the four child lists (v3 format)

  `XmlTree.Tree` = an object (`ObjFields` + infos + page types + userdata entries) with its memory / normal / I/O / Misc child
  lists; `exportTree` = hwloc__xml_v2export_object + hwloc__xml_export_object_contents as an element tree (tag, attributes, text,
  children); `importTree` = hwloc__xml_import_object on such an element tree: the two child loops, page_type accepted only below
  NUMA nodes and the root, the type-vs-parent-kind checks, hwloc_insert_object_by_parent's placement of every child at the end of
  the list of its kind, the order test on normal children.  `TreeValid` (decidable): every object `Valid` in the context of its
  parent, side data within the C field widths, every child in the list of its kind, normal children in complete_cpuset order.
  Tie: engine `xmlrt` TREE lines — for every nolibxml v3 export of a topology of at most 160 objects, the element tree cut out
  of the real export must equal `exportTree` of the original object tree, which must be `TreeValid`; `importTree` of the real
  element tree must equal `normTree` of the original and agree with the reloaded topology object by object, list by list.
  OUTSIDE (importer returns `outside`; never reached from the export of a valid tree): ignored objects, re-sorting of
  out-of-order children, v1/v2 compatibility, the v2-format exporter flags. -/

open Hw.XmlTree in
/-- P0 (tree level).  For EVERY tree of valid objects — any depth, any arities, memory, normal, I/O and Misc children —
    importing the element tree the exporter produces gives the tree back, every object normalised as at the object level
    (`normTree`: strings filtered, info strings filtered, size-0 page types and refused userdata dropped) -/
theorem C05_tree_roundtrip (t : XmlTree.Tree) (hv : XmlTree.TreeValid { root := true } t = true) :
    XmlTree.importTree (XmlTree.exportTree true t) = .ok (XmlTree.normTree t) := XmlTree.importTree_exportTree t hv

/-- P0 (tree level, start tags as bytes).  The same round trip with the attribute list of EVERY element of the export (objects,
    infos, page types, userdata) rendered to bytes by the nolibxml exporter (`new_prop`: ` name="escaped value"`) and read back
    by the nolibxml `next_attr` loop (`rescan`); nesting and text content stay tokens -/
theorem C05_tree_roundtrip_start_tags_as_bytes (t : XmlTree.Tree) (hv : XmlTree.TreeValid { root := true } t = true) :
    XmlTree.importTree (XmlTree.rescan (XmlTree.exportTree true t)) = .ok (XmlTree.normTree t) :=
  XmlTree.importTree_rescan_exportTree t hv

/-- every attribute of every element the tree exporter produces has a name over `[a-z_]` and a NUL-free value -/
theorem C05_tree_export_wellformed (c : XmlObj.Ctx) (t : XmlTree.Tree) (hv : XmlTree.TreeValid c t = true) :
    XmlTree.ElemOk (XmlTree.exportTree c.root t) := XmlTree.exportTree_ok c t hv

/-- the same for a subtree in any context (parent type, parent with or without sets) -/
theorem C05_subtree_roundtrip (c : XmlObj.Ctx) (t : XmlTree.Tree) (hv : XmlTree.TreeValid c t = true) :
    XmlTree.importObj c (XmlTree.exportTree c.root t) = .ok (XmlTree.normTree t) := XmlTree.importObj_exportTree c t hv

/-- the normalisation keeps the shape: the four child lists of every object come back with the same length and order -/
theorem C05_tree_children_preserved (d : XmlTree.Node) (mem nor io misc : List XmlTree.Tree) :
    XmlTree.normTree (.mk d mem nor io misc) =
      .mk (XmlTree.normNode d) (mem.map XmlTree.normTree) (nor.map XmlTree.normTree) (io.map XmlTree.normTree) (misc.map XmlTree.normTree) := by
  rw [XmlTree.normTree_mk, XmlTree.normList_eq_map, XmlTree.normList_eq_map, XmlTree.normList_eq_map, XmlTree.normList_eq_map]

/-- P0 (fixpoint).  The reimported tree `t'` of a valid tree is valid again and is a fixpoint of export ∘ import: exporting it and
    importing that gives `t'` itself, so the third export equals the second one -/
theorem C05_tree_fixpoint (t : XmlTree.Tree) (hv : XmlTree.TreeValid { root := true } t = true) :
    ∃ t', XmlTree.importTree (XmlTree.exportTree true t) = .ok t' ∧ XmlTree.TreeValid { root := true } t' = true ∧
      XmlTree.importTree (XmlTree.exportTree true t') = .ok t' ∧
      (∀ t'', XmlTree.importTree (XmlTree.exportTree true t') = .ok t'' → XmlTree.exportTree true t'' = XmlTree.exportTree true t') := by
  have hv' := XmlTree.TreeValid_normTree _ t hv
  have h2 : XmlTree.importTree (XmlTree.exportTree true (XmlTree.normTree t)) = .ok (XmlTree.normTree t) := by
    have := XmlTree.importTree_exportTree _ hv'
    rwa [XmlTree.normTree_idem] at this
  refine ⟨XmlTree.normTree t, XmlTree.importTree_exportTree t hv, hv', h2, ?_⟩
  intro t'' h
  rw [h2] at h
  cases h; rfl

/-- P0 (second export).  The export of the reimported tree equals the first export except for what `clearTree` removes: the
    `depth` of Bridges (and the unexported depth of Groups), which the core recomputes on every load, and page types of size 0,
    which the importer drops (no loader produces them).  String filtering, info filtering and refused userdata do not show:
    the exporter applies them itself. -/
theorem C05_tree_second_export (t : XmlTree.Tree) (hv : XmlTree.TreeValid { root := true } t = true) :
    ∃ t', XmlTree.importTree (XmlTree.exportTree true t) = .ok t' ∧
      XmlTree.exportTree true t' = XmlTree.exportTree true (XmlTree.clearTree t) :=
  ⟨XmlTree.normTree t, XmlTree.importTree_exportTree t hv, XmlTree.exportTree_normTree true t⟩

/-- for an object that is neither a Group nor a Bridge there is nothing to clear -/
theorem C05_tree_second_export_same_attrs (f : XmlObj.ObjFields) (hG : f.type ≠ Hw.Topo.tGROUP) (hB : f.type ≠ Hw.Topo.tBRIDGE) :
    XmlTree.clearDerived f = f := XmlTree.clearDerived_id f hG hB

/-- one round trip normalises completely: `normTree` is idempotent and keeps validity -/
theorem C05_tree_norm_idem (t : XmlTree.Tree) : XmlTree.normTree (XmlTree.normTree t) = XmlTree.normTree t := XmlTree.normTree_idem t
theorem C05_tree_norm_valid (c : XmlObj.Ctx) (t : XmlTree.Tree) (hv : XmlTree.TreeValid c t = true) :
    XmlTree.TreeValid c (XmlTree.normTree t) = true := XmlTree.TreeValid_normTree c t hv

/-- child elements one by one: a page type, and a userdata entry (plain or base64, any length) come back as exported -/
theorem C05_userdata_roundtrip (acc : XmlTree.Acc) (ptOk : Bool) (u : XmlTree.UData) (hv : XmlTree.udValid u = true) :
    XmlTree.importSub ptOk acc (XmlTree.udElem u) = .ok { acc with uds := acc.uds ++ [u] } := XmlTree.importSub_ud ptOk acc u hv
theorem C05_pagetype_roundtrip (acc : XmlTree.Acc) (p : Nat × Nat) (h1 : p.1 < 2 ^ 64) (h2 : p.2 < 2 ^ 64) :
    XmlTree.importSub true acc (XmlTree.ptElem p) = .ok (if p.1 ≠ 0 then { acc with pts := acc.pts ++ [p] } else acc) :=
  XmlTree.importSub_pt acc p h1 h2

/-! ### non-vacuity -/

-- valid objects: a PU, the root Machine, a cache, a PCI device, a bridge (the engine also checks `Valid` on every sampled real object)
example : XmlObj.Valid { root := false, parentType := 3 }
    { type := 4, osidx := some 5, gp := 17, cpuset := some 32, ccpuset := some 32, nodeset := some 1, cnodeset := some 1, allowed := none,
      name := none, subtype := none, attrs := [0, 0, 0, 0, 0, 0], pci := none } = true := by decide +kernel
example : XmlObj.Valid { root := true }
    { type := 0, osidx := some 0, gp := 1, cpuset := some 255, ccpuset := some 255, nodeset := some 3, cnodeset := some 3, allowed := some (255, 3),
      name := some (str "caf\u00e9<&>"), subtype := none, attrs := [0, 0, 0, 0, 0, 0], pci := none } = true := by decide +kernel
example : XmlObj.Valid { root := false, parentType := 1 }
    { type := 6, osidx := none, gp := 62, cpuset := some 64, ccpuset := some 64, nodeset := some 1, cnodeset := some 1, allowed := none,
      name := none, subtype := none, attrs := [524288, 2, 64, -1, 0, 0], pci := none } = true := by decide +kernel
example : XmlObj.Valid { root := false, parentType := 16, parentHasSets := false }
    { type := 17, osidx := none, gp := 90, cpuset := none, ccpuset := none, nodeset := none, cnodeset := none, allowed := none,
      name := none, subtype := none, attrs := [0, 3, 0, 1, 0x0200, 0x808610d3],
      pci := some { domain := 0, bus := 3, dev := 0, func := 1, classId := 0x0200, vendor := 0x8086, device := 0x10d3, subvendor := 0x8086,
                    subdevice := 0xa01f, revision := 0, progIf := 0, linkspeed := str "0.250000" } } = true := by decide +kernel
example : XmlObj.Valid { root := false, parentType := 0 }
    { type := 16, osidx := none, gp := 80, cpuset := none, ccpuset := none, nodeset := none, cnodeset := none, allowed := none,
      name := none, subtype := none, attrs := [0, 1, 0, 0, 0, 255], pci := none } = true := by decide +kernel


-- a valid tree with memory (NUMA node with page types, one of size 0), normal (two PUs), I/O (bridge with an OS device below)
-- and Misc children, markup in strings, base64 / plain / refused userdata: the hypotheses of the tree theorems hold, and the
-- round trip really normalises (the info value loses \x01, the size-0 page type and the refused userdata entry disappear)
def exPU (os gp : Nat) : XmlTree.Tree :=
  .mk { f := { type := 4, osidx := some os, gp := gp, cpuset := some (2 ^ os), ccpuset := some (2 ^ os), nodeset := some 1, cnodeset := some 1,
               allowed := none, name := none, subtype := none, attrs := [0, 0, 0, 0, 0, 0], pci := none } } [] [] [] []
def exTree : XmlTree.Tree :=
  .mk { f := { type := 0, osidx := some 0, gp := 1, cpuset := some 3, ccpuset := some 3, nodeset := some 1, cnodeset := some 1, allowed := some (3, 1),
               name := some (str "café<&>"), subtype := none, attrs := [0, 0, 0, 0, 0, 0], pci := none },
        infos := [(str "Backend", str "x<y\x01")],
        uds := [{ name := some (str "B"), b64 := true, data := [0, 255, 7, 60] }, { name := none, b64 := false, data := str "plain" },
                { name := none, b64 := false, data := [1] }] }
    [.mk { f := { type := 14, osidx := some 0, gp := 5, cpuset := some 3, ccpuset := some 3, nodeset := some 1, cnodeset := some 1, allowed := none,
                  name := none, subtype := none, attrs := [4096, 0, 0, 0, 0, 0], pci := none }, pts := [(4096, 1), (0, 7), (2097152, 0)] } [] [] [] []]
    [exPU 0 2, exPU 1 3]
    [.mk { f := { type := 16, osidx := none, gp := 80, cpuset := none, ccpuset := none, nodeset := none, cnodeset := none, allowed := none,
                  name := none, subtype := none, attrs := [0, 1, 0, 0, 0, 255], pci := none } } [] []
        [.mk { f := { type := 18, osidx := none, gp := 81, cpuset := none, ccpuset := none, nodeset := none, cnodeset := none, allowed := none,
                      name := some (str "eth0"), subtype := none, attrs := [4, 0, 0, 0, 0, 0], pci := none } } [] [] [] []] []]
    [.mk { f := { type := 19, osidx := none, gp := 90, cpuset := none, ccpuset := none, nodeset := none, cnodeset := none, allowed := none,
                  name := some (str "misc"), subtype := none, attrs := [0, 0, 0, 0, 0, 0], pci := none } } [] [] [] []]
example : XmlTree.TreeValid { root := true } exTree = true := by decide +kernel
example : XmlTree.TreeValid { root := false, parentType := 0 } (exPU 1 3) = true := by decide +kernel
example : (XmlTree.normTree exTree).d.infos = [(str "Backend", str "x<y")] ∧ (XmlTree.normTree exTree).d.uds.length = 2 ∧
    ((XmlTree.normTree exTree).mem.map (·.d.pts)) = [[(4096, 1), (2097152, 0)]] := by decide +kernel
-- the importer's checks at work: a PU below a NUMA node, a Misc element in the normal list, swapped PUs are not TreeValid;
-- a `<page_type>` below a PU and an `<info>` after the first `<object>` child are rejected
example : XmlTree.TreeValid { root := false, parentType := 14 } (exPU 1 3) = false := by decide +kernel
example : XmlTree.TreeValid { root := true } (.mk exTree.d [] (exTree.misc ++ exTree.nor) [] []) = false := by decide +kernel
example : XmlTree.TreeValid { root := true } (.mk exTree.d exTree.mem [exPU 1 3, exPU 0 2] [] []) = false := by decide +kernel
example : (match XmlTree.importObj { root := false, parentType := 0 }
    (.mk XmlTree.tagObject (XmlObj.exportAttrs false (exPU 1 3).d.f) none [XmlTree.ptElem (4096, 1)]) with | .reject => true | _ => false) = true := by decide +kernel
example : (match XmlTree.importTree
    (.mk XmlTree.tagObject (XmlObj.exportAttrs true exTree.d.f) none [XmlTree.exportTree false (exPU 0 2), XmlTree.infoElem (str "a", str "b")])
    with | .reject => true | _ => false) = true := by decide +kernel
example : XmlTree.udValid { name := none, b64 := true, data := [0, 255] } = true := by decide +kernel
example : (2 : Nat) ≠ Hw.Topo.tGROUP ∧ (2 : Nat) ≠ Hw.Topo.tBRIDGE := by decide +kernel


/-! ### (g) the side-structure elements after the root object (Hw.Io.XmlSide; tied by the SIDE lines of engine `xmlrt`) -/

/-- P0.  CPU kinds: for EVERY list of kinds, importing the `<cpukind>` elements hwloc__xml_export_cpukinds writes hands
    hwloc_internal_cpukinds_register the same kinds in the same order: cpuset, forced efficiency (absent = unknown) and info pairs
    (strings through safestrdup) -/
theorem C05_cpukinds_xml_roundtrip (l : List XmlSide.Kind) (h : ∀ k ∈ l, XmlSide.kindValid k = true) :
    XmlSide.mapRes XmlSide.importKind (XmlSide.exportKinds l) = .ok (l.map XmlSide.normKind) :=
  XmlSide.mapRes_ok _ _ _ l (fun k hk => XmlSide.importKind_exportKind k (h k hk))

/-- P0.  Memory attributes: for EVERY array topology->memattrs[], importing the `<memattr>` elements hwloc__xml_export_memattrs writes
    (it skips the two virtual attributes and standard attributes without target) yields, per written attribute and in order, its
    name, its flags and one hwloc_internal_memattr_set_value call per exported value: target (type, gp_index), initiator
    (cpuset | object type + gp_index) when the flags need one, and the u64 value exactly -/
theorem C05_memattrs_xml_roundtrip (l : List XmlSide.MemAttr) (h : ∀ a ∈ l, XmlSide.memAttrValid a = true) :
    XmlSide.mapRes XmlSide.importMemAttr (XmlSide.exportMemAttrs l) =
      .ok ((((List.range l.length).zip l).filter XmlSide.exported).map (fun ia => XmlSide.toIn ia.2)) := by
  unfold XmlSide.exportMemAttrs
  exact XmlSide.mapRes_ok XmlSide.importMemAttr (fun ia : Nat × XmlSide.MemAttr => XmlSide.exportMemAttr ia.2) (fun ia => XmlSide.toIn ia.2) _
    (fun ia hia => XmlSide.importMemAttr_exportMemAttr ia.2 (h ia.2 (List.of_mem_zip (List.mem_filter.mp hia).1).2))

/-- P0.  ... and the find-or-append of hwloc__internal_memattr_set_value, run over those calls, rebuilds the target array of the
    attribute: the same targets in the same order, each with the same initiators and values in the same order (or its single value) —
    provided (`memAttrWF`) the targets are pairwise different objects and no initiator MATCHES (match_internal_location: equal object,
    or a cpuset INCLUDED in) one that precedes it; otherwise the importer merges the two (known finding F59) -/
theorem C05_memattr_rebuild (a : XmlSide.MemAttr) (h : XmlSide.memAttrWF a = true) :
    XmlSide.rebuild (XmlSide.callsOf a) = a.targets.map (XmlSide.normTarget a.flags) := XmlSide.rebuild_callsOf a h

/-- P0.  Distances: for EVERY matrix (any nbobjs in 2..65535, homogeneous or heterogeneous), importing the `<distances2>` /
    `<distances2hetero>` element the exporter writes — the indexes and the nbobjs² values split into `<indexes>` / `<u64values>`
    children of at most 10 numbers with their `length` attributes — hands hwloc_internal_distances_add_by_index the same unique type /
    per-object types, kind, name (through safestrdup), object indexes and values -/
theorem C05_distances_xml_roundtrip (d : XmlSide.Dist) (h : XmlSide.distValid d = true) :
    XmlSide.importDist d.types.isSome (XmlSide.exportDist d) = .ok (some (XmlSide.normDist d)) ∧
    (XmlSide.normDist d).idx = d.idx ∧ (XmlSide.normDist d).values = d.values ∧ (XmlSide.normDist d).types = d.types :=
  ⟨XmlSide.importDist_exportDist d h, rfl, rfl, rfl⟩

/-- hwloc_type_sscanf, handed the rest of an `<indexes>` text of a heterogeneous matrix, stops at the colon for every type name -/
theorem C05_type_prefix_scan (t : Nat) (h : t < 20) (rest : List Nat) :
    XmlObj.typeScan (TypeStr.typeString t ++ 58 :: rest) = some t := XmlObj.typeScan_typeString_colon t h rest

/-- P0.  The whole list of elements after the root object: the loop of hwloc_look_xml over what hwloc__xml_export_topology writes
    there (homogeneous distances, heterogeneous distances, memattrs, cpukinds, topology infos) collects exactly these structures -/
theorem C05_side_roundtrip (dists : List XmlSide.Dist) (memattrs : List XmlSide.MemAttr) (kinds : List XmlSide.Kind)
    (infos : List (List Nat × List Nat))
    (hd : ∀ d ∈ dists, XmlSide.distValid d = true) (hm : ∀ a ∈ memattrs, XmlSide.memAttrValid a = true)
    (hk : ∀ k ∈ kinds, XmlSide.kindValid k = true) :
    XmlSide.importSide (XmlSide.exportSide dists memattrs kinds infos) {} = .ok (XmlSide.sideOf dists memattrs kinds infos) :=
  XmlSide.importSide_exportSide dists memattrs kinds infos hd hm hk

-- non-vacuity: two kinds (one with a forced efficiency and infos with markup), five attributes of which two are written, one with
-- initiators of both sorts and one without, a 3-object PU matrix (one child of each kind) and a 12-object heterogeneous one (2 index chunks,
-- 15 value chunks)
def exKinds : List XmlSide.Kind :=
  [{ cpuset := 0xf, eff := 3, infos := [(str "CoreType", str "a<b")] }, { cpuset := 0xf0 }]
def exAttrs : List XmlSide.MemAttr :=
  [{ name := str "Capacity", flags := 1 }, { name := str "Locality", flags := 2 },
   { name := str "Bandwidth", flags := 5, targets := [{ type := 14, gp := 7, inits := [(.cpuset 3, 100), (.obj 4 9, 18446744073709551615)] }] },
   { name := str "Latency", flags := 6 },
   { name := str "mine", flags := 1, targets := [{ type := 14, gp := 7, value := 5 }, { type := 14, gp := 8, value := 0 }] }]
def exDistHom : XmlSide.Dist := { utype := some 4, kind := 5, name := some (str "NUMA\x01Latency"), idx := [0, 1, 2], values := [10, 20, 30, 20, 10, 0, 30, 18446744073709551615, 10] }
def exDistHet : XmlSide.Dist :=
  { types := some ((List.range 12).map (fun i => if i % 2 = 0 then 2 else 14)), kind := 18, idx := (List.range 12).map (· + 100),
    values := (List.range 144).map (· * 7) }
example : ∀ k ∈ exKinds, XmlSide.kindValid k = true := by decide +kernel
example : ∀ a ∈ exAttrs, XmlSide.memAttrValid a = true ∧ XmlSide.memAttrWF a = true := by decide +kernel
example : XmlSide.distValid exDistHom = true ∧ XmlSide.distValid exDistHet = true := by decide +kernel
example : (XmlSide.exportMemAttrs exAttrs).length = 2 := by decide +kernel
example : ((XmlSide.exportDist exDistHom).kids.map (·.tag)) = [XmlSide.tagIndexes, XmlSide.tagU64] := by decide +kernel
example : ((XmlSide.exportDist exDistHet).kids.filter (fun e => e.tag = XmlSide.tagIndexes)).length = 2 ∧
    ((XmlSide.exportDist exDistHet).kids.filter (fun e => e.tag = XmlSide.tagU64)).length = 15 := by decide +kernel
example : (XmlSide.exportDist exDistHom).kids.head?.bind (·.content) = some (str "0 1 2 ") := by decide +kernel
-- the importer's rejections: a cpukind without cpuset, a memattr_value without its target type / without the initiator its flags need,
-- a distances element without kind, with a child whose text is shorter than its `length`, with more indexes than nbobjs
example : (match XmlSide.importKind (.mk XmlSide.tagCpukind [(str "forced_efficiency", str "2")] none []) with | .reject => true | _ => false) = true := by decide +kernel
example : (match XmlSide.importValue 1 (.mk XmlSide.tagMemattrValue [(str "target_obj_gp_index", str "3"), (str "value", str "4")] none [])
    with | .reject => true | _ => false) = true := by decide +kernel
example : (match XmlSide.importValue 5 (.mk XmlSide.tagMemattrValue
    [(str "target_obj_type", str "NUMANode"), (str "target_obj_gp_index", str "3"), (str "value", str "4")] none [])
    with | .reject => true | _ => false) = true := by decide +kernel
example : (match XmlSide.importDist false (.mk XmlSide.tagDist [(str "type", str "PU"), (str "nbobjs", str "2"), (str "indexing", str "os")] none [])
    with | .reject => true | _ => false) = true := by decide +kernel
example : (match XmlSide.importDist false (.mk XmlSide.tagDist
    [(str "type", str "PU"), (str "nbobjs", str "2"), (str "kind", str "5"), (str "indexing", str "os")] none
    [.mk XmlSide.tagIndexes [(str "length", str "5")] (some (str "0 1 ")) []]) with | .reject => true | _ => false) = true := by decide +kernel
example : (match XmlSide.importDist false (.mk XmlSide.tagDist
    [(str "type", str "PU"), (str "nbobjs", str "2"), (str "kind", str "5"), (str "indexing", str "os")] none
    [.mk XmlSide.tagIndexes [(str "length", str "4")] (some (str "0 1 ")) [], .mk XmlSide.tagIndexes [(str "length", str "2")] (some (str "2 ")) []])
    with | .reject => true | _ => false) = true := by decide +kernel
-- a PU matrix indexed by gp_index is valid but ignored
example : (match XmlSide.importDist false (.mk XmlSide.tagDist
    [(str "type", str "PU"), (str "nbobjs", str "2"), (str "kind", str "5"), (str "indexing", str "gp")] none
    [.mk XmlSide.tagIndexes [(str "length", str "4")] (some (str "0 1 ")) [], .mk XmlSide.tagU64 [(str "length", str "8")] (some (str "1 2 3 4 ")) []])
    with | .ok none => true | _ => false) = true := by decide +kernel

-- "a<b&c" -> a&lt;b&amp;c  and back, scanning stops on the quote
example : escape [97, 60, 98, 38, 99] = [97, 38, 108, 116, 59, 98, 38, 97, 109, 112, 59, 99] := by decide +kernel
example : unescape (escape [97, 60, 98, 38, 99] ++ 34 :: [32, 120]) = some ([97, 60, 98, 38, 99], 12) := by decide +kernel
example : nextAttr (str " name=\"x&quot;y\" v=\"1\"") = some (str "name", str "x\"y", 17) := by decide +kernel
example : escapeC (str "plain") = none := by decide +kernel
example : scanAttrs 5 (renderAttrs [(str "name", str "a<\"b\">&c"), (str "os_index", str "12"), (str "x", [])]) =
    [(str "name", str "a<\"b\">&c"), (str "os_index", str "12"), (str "x", [])] := by decide +kernel
-- base64: "Ma" -> "TWE=" -> "Ma" in a 3-byte target (length + 1), scratch byte cleared
example : B64.encText [77, 97] = str "TWE=" := by decide +kernel
example : (B64.decode (str "TWE=") (some { cells := [170, 170, 170] })).1 = 2 := by decide +kernel
example : ((B64.decode (str "TWE=") (some { cells := [170, 170, 170] })).2.map (·.cells)) = some [77, 97, 0] := by decide +kernel
example : (B64.encode [77, 97] { cells := List.replicate 5 170 }).1 = 4 := by decide +kernel
example : (B64.encode [77, 97] { cells := List.replicate 4 170 }).1 = -1 := by decide +kernel
example : strtoul 10 (decDigits 4096 ++ [34]) = .ok 4096 [34] := by decide +kernel
example : atoi (printInt (-1)) = -1 := by decide +kernel

end Hw.Props.C05
