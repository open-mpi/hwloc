/-
  Property C03 — bitmap operations implement exact (finite or cofinite) set semantics.

  The model is `Hw.Bitmap.Ops` (representation-exact: `ulongs_count` words + `infinite` flag).
  Sets are membership functions `Nat → Bool` (`Bitmap.mem`).  Every statement holds for all
  bitmaps whatsoever (any word count, any flag) — `Inv` (count ≥ 1) is needed nowhere except
  to show it is itself preserved.
-/
import Hw.Bitmap.History
import Hw.Bitmap.Inclusion
import Hw.Bitmap.Alias
namespace Hw.Props.C03
open Hw Hw.Bitmap

/-! ## 1. every modifying call refines the set operation, for every history -/

/-- one step: destination handle and the denoted set are those of the mathematical operation -/
theorem C03_step_refines (p : Pool) (op : Op) :
    (op.eval p).1 = (specEval p.abs (fun h => (p h).first) op).1 ∧
    ∀ n, (op.eval p).2.mem n = (specEval p.abs (fun h => (p h).first) op).2 n :=
  eval_refines p op

/-- every pool reachable by any sequence of API calls satisfies the C invariant `ulongs_count ≥ 1` -/
theorem C03_reachable_inv (ops : List Op) : ∀ h, ((run Pool.init ops) h).Inv :=
  run_inv _ init_inv ops

/-! ## 2. queries are functions of the denoted sets only -/

theorem C03_isset (b : Bitmap) (n : Nat) : b.isset n = b.mem n := rfl
theorem C03_iszero (b : Bitmap) : b.iszero = true ↔ ∀ n, b.mem n = false := iszero_iff b
theorem C03_isfull (b : Bitmap) : b.isfull = true ↔ ∀ n, b.mem n = true := isfull_iff b
theorem C03_isequal (a b : Bitmap) : a.isequal b = true ↔ ∀ n, a.mem n = b.mem n := isequal_iff a b
theorem C03_intersects (a b : Bitmap) :
    a.intersects b = true ↔ ∃ n, a.mem n = true ∧ b.mem n = true := intersects_iff a b
theorem C03_isincluded (a b : Bitmap) :
    a.isincluded b = true ↔ ∀ n, a.mem n = true → b.mem n = true := isincluded_iff a b

/-- `first`: the least member, −1 for the empty set -/
theorem C03_first (b : Bitmap) : IsFirst b.mem b.first := first_spec b
/-- `next(prev)` for `prev ≥ −1`: the least member above `prev`, −1 if none -/
theorem C03_next (b : Bitmap) (prev : Int) (h : -1 ≤ prev) : IsNext b.mem prev (b.next prev) := next_spec b prev h
/-- `last`: the greatest member; −1 for the empty set and for infinite sets -/
theorem C03_last (b : Bitmap) : IsLast b.mem b.last := last_spec b
theorem C03_first_unset (b : Bitmap) : IsFirst (fun n => !b.mem n) b.firstUnset := firstUnset_spec b
theorem C03_next_unset (b : Bitmap) (prev : Int) (h : -1 ≤ prev) :
    IsNext (fun n => !b.mem n) prev (b.nextUnset prev) := nextUnset_spec b prev h
theorem C03_last_unset (b : Bitmap) : IsLast (fun n => !b.mem n) b.lastUnset := lastUnset_spec b

/-- `weight`: −1 iff infinitely set, else the number of members (counted below any bound `N`
above all members) -/
theorem C03_weight_infinite (b : Bitmap) (h : b.inf = true) : b.weight = -1 := weight_infinite b h
theorem C03_weight_finite (b : Bitmap) (h : b.inf = false) (N : Nat) (hN : ∀ m, N ≤ m → b.mem m = false) :
    b.weight = (((List.range N).countP b.mem : Nat) : Int) := weight_spec b h N hN
/-- the flag is itself a function of the set: set ⇔ the set is unbounded -/
theorem C03_inf_iff (b : Bitmap) : b.inf = true ↔ ∀ N, ∃ m, N ≤ m ∧ b.mem m = true := inf_iff_unbounded b

theorem C03_to_ith_ulong (b : Bitmap) (k j : Nat) (hj : j < 64) :
    (b.toIthUlong k).getLsbD j = b.mem (64 * k + j) := toIthUlong_getLsbD b k j hj
theorem C03_to_ulong (b : Bitmap) (j : Nat) (hj : j < 64) : b.toUlong.getLsbD j = b.mem j := toUlong_getLsbD b j hj
theorem C03_to_ulongs (b : Bitmap) (nr k : Nat) (h : k < nr) :
    (b.toUlongs nr)[k]'(by simp [toUlongs, h]) = b.toIthUlong k := toUlongs_getElem b nr k h

theorem C03_nr_ulongs_infinite (b : Bitmap) (h : b.inf = true) : b.nrUlongs = -1 := nrUlongs_infinite b h
theorem C03_nr_ulongs_empty (b : Bitmap) (h : b.inf = false) (hl : b.last = -1) : b.nrUlongs = 0 :=
  nrUlongs_empty b h hl
theorem C03_nr_ulongs_last (b : Bitmap) (h : b.inf = false) (l : Nat) (hl : b.last = (l : Int)) :
    b.nrUlongs = ((l / 64 + 1 : Nat) : Int) := nrUlongs_last b h l hl

/-- `compare`: decided at the highest index where the sets differ (an eventually-full set is
above an eventually-empty one) -/
theorem C03_compare (a b : Bitmap) : IsCompare a.mem b.mem (a.compare b) := compare_spec a b

/-- `compare_first`: the sign is that of comparing the two `first` indexes, the empty set being the
greatest (the C returns a difference of bit positions; only its sign is a comparator contract) -/
theorem C03_compare_first (a b : Bitmap) : sgn (a.compareFirst b) = cmpFirstSpec a.first b.first :=
  compareFirst_spec a b

/-- `compare_inclusion` is the set-theoretic classification (EQUAL / INCLUDED / CONTAINS / INTERSECTS /
DIFFERENT, the empty set being included in everything) -/
theorem C03_compare_inclusion (a b : Bitmap) :
    a.compareInclusion b =
      if a.isequal b then .equal
      else if a.isincluded b then .included
      else if b.isincluded a then .contains
      else if a.intersects b then .intersects
      else .different := compareInclusion_eq a b

/-! ## 3. results do not depend on the representation (the history that built the arguments) -/

/-- a result that meets a set-level specification with at most one solution depends on the set only -/
theorem repr_of_spec {Spec : (Nat → Bool) → Int → Prop} (uniq : ∀ {S r r'}, Spec S r → Spec S r' → r = r')
    (q : Bitmap → Int) (hq : ∀ b, Spec b.mem (q b)) {a a' : Bitmap} (h : ∀ n, a.mem n = a'.mem n) :
    q a = q a' := by
  have e : a.mem = a'.mem := funext h
  exact uniq (e ▸ hq a) (hq a')

section ReprIndependence
variable {a a' b b' : Bitmap}

theorem C03_repr_first (h : ∀ n, a.mem n = a'.mem n) : a.first = a'.first :=
  repr_of_spec (Spec := IsFirst) IsFirst.unique Bitmap.first first_spec h
theorem C03_repr_next (h : ∀ n, a.mem n = a'.mem n) (prev : Int) (hp : -1 ≤ prev) : a.next prev = a'.next prev :=
  repr_of_spec (Spec := (IsNext · prev)) IsNext.unique (·.next prev) (next_spec · prev hp) h
theorem C03_repr_last (h : ∀ n, a.mem n = a'.mem n) : a.last = a'.last :=
  repr_of_spec (Spec := IsLast) IsLast.unique Bitmap.last last_spec h
theorem C03_repr_first_unset (h : ∀ n, a.mem n = a'.mem n) : a.firstUnset = a'.firstUnset :=
  repr_of_spec (Spec := fun S => IsFirst (fun n => !S n)) IsFirst.unique Bitmap.firstUnset firstUnset_spec h
theorem C03_repr_next_unset (h : ∀ n, a.mem n = a'.mem n) (prev : Int) (hp : -1 ≤ prev) :
    a.nextUnset prev = a'.nextUnset prev :=
  repr_of_spec (Spec := fun S => IsNext (fun n => !S n) prev) IsNext.unique (·.nextUnset prev)
    (nextUnset_spec · prev hp) h
theorem C03_repr_last_unset (h : ∀ n, a.mem n = a'.mem n) : a.lastUnset = a'.lastUnset :=
  repr_of_spec (Spec := fun S => IsLast (fun n => !S n)) IsLast.unique Bitmap.lastUnset lastUnset_spec h
theorem C03_repr_inf (h : ∀ n, a.mem n = a'.mem n) : a.inf = a'.inf := by
  apply Bool.eq_iff_iff.mpr; rw [inf_iff_unbounded, inf_iff_unbounded]; simp only [h]
theorem C03_repr_to_ith_ulong (h : ∀ n, a.mem n = a'.mem n) (k : Nat) : a.toIthUlong k = a'.toIthUlong k :=
  (mem_ext_iff a a').mp h k
theorem C03_repr_weight (h : ∀ n, a.mem n = a'.mem n) : a.weight = a'.weight := by
  have hi := C03_repr_inf h
  cases hinf : a.inf with
  | true => rw [weight_infinite a hinf, weight_infinite a' (hi ▸ hinf)]
  | false =>
    have hinf' : a'.inf = false := hi ▸ hinf
    have hN : ∀ m, max a.count a'.count * 64 ≤ m → a.mem m = false := fun m hm => by
      rw [mem_of_ge a m (Nat.le_trans (Nat.mul_le_mul_right _ (Nat.le_max_left _ _)) hm), hinf]
    rw [weight_spec a hinf _ hN, weight_spec a' hinf' _ (fun m hm => by rw [← h m]; exact hN m hm)]
    have e : a.mem = a'.mem := funext h
    rw [e]
theorem C03_repr_iszero (h : ∀ n, a.mem n = a'.mem n) : a.iszero = a'.iszero := by
  apply Bool.eq_iff_iff.mpr; rw [iszero_iff, iszero_iff]; simp only [h]
theorem C03_repr_isfull (h : ∀ n, a.mem n = a'.mem n) : a.isfull = a'.isfull := by
  apply Bool.eq_iff_iff.mpr; rw [isfull_iff, isfull_iff]; simp only [h]
theorem C03_repr_isequal (h : ∀ n, a.mem n = a'.mem n) (g : ∀ n, b.mem n = b'.mem n) :
    a.isequal b = a'.isequal b' := by
  apply Bool.eq_iff_iff.mpr; rw [isequal_iff, isequal_iff]; simp only [h, g]
theorem C03_repr_intersects (h : ∀ n, a.mem n = a'.mem n) (g : ∀ n, b.mem n = b'.mem n) :
    a.intersects b = a'.intersects b' := by
  apply Bool.eq_iff_iff.mpr; rw [intersects_iff, intersects_iff]; simp only [h, g]
theorem C03_repr_isincluded (h : ∀ n, a.mem n = a'.mem n) (g : ∀ n, b.mem n = b'.mem n) :
    a.isincluded b = a'.isincluded b' := by
  apply Bool.eq_iff_iff.mpr; rw [isincluded_iff, isincluded_iff]; simp only [h, g]

theorem C03_repr_compare (h : ∀ n, a.mem n = a'.mem n) (g : ∀ n, b.mem n = b'.mem n) :
    a.compare b = a'.compare b' := by
  have e1 : a.mem = a'.mem := funext h
  have e2 : b.mem = b'.mem := funext g
  have h1 := compare_spec a b; rw [e1, e2] at h1
  exact h1.unique (compare_spec a' b')
theorem C03_repr_compare_first (h : ∀ n, a.mem n = a'.mem n) (g : ∀ n, b.mem n = b'.mem n) :
    sgn (a.compareFirst b) = sgn (a'.compareFirst b') := by
  rw [compareFirst_spec, compareFirst_spec, C03_repr_first h, C03_repr_first g]
theorem C03_repr_compare_inclusion (h : ∀ n, a.mem n = a'.mem n) (g : ∀ n, b.mem n = b'.mem n) :
    a.compareInclusion b = a'.compareInclusion b' := by
  rw [compareInclusion_eq, compareInclusion_eq, C03_repr_isequal h g, C03_repr_isincluded h g,
    C03_repr_isincluded g h, C03_repr_intersects h g]

end ReprIndependence

/-! ## 4. results do not depend on whether the destination aliases an operand

`binopStore` / `notStore` are the literal C procedures over a store of structs addressed by handles (counts cached,
`reset_by_ulongs(res)` first, every later read from the current memory, stale words beyond `ulongs_count`
arbitrary).  For ALL handles — equal or not — the destination ends up as the pure operation applied to the
ORIGINAL operands and no other struct changes. -/

theorem C03_alias_or (r s1 s2 : Nat) (st : Store) :
    (binopStore opOr r s1 s2 st r).toBitmap = (st s1).toBitmap.or (st s2).toBitmap ∧
    ∀ h, h ≠ r → binopStore opOr r s1 s2 st h = st h := by
  rw [← binopPure_or]; exact binop_alias opOr opOr_ok r s1 s2 st
theorem C03_alias_and (r s1 s2 : Nat) (st : Store) :
    (binopStore opAnd r s1 s2 st r).toBitmap = (st s1).toBitmap.and (st s2).toBitmap ∧
    ∀ h, h ≠ r → binopStore opAnd r s1 s2 st h = st h := by
  rw [← binopPure_and]; exact binop_alias opAnd opAnd_ok r s1 s2 st
theorem C03_alias_andnot (r s1 s2 : Nat) (st : Store) :
    (binopStore opAndnot r s1 s2 st r).toBitmap = (st s1).toBitmap.andnot (st s2).toBitmap ∧
    ∀ h, h ≠ r → binopStore opAndnot r s1 s2 st h = st h := by
  rw [← binopPure_andnot]; exact binop_alias opAndnot opAndnot_ok r s1 s2 st
theorem C03_alias_xor (r s1 s2 : Nat) (st : Store) :
    (binopStore opXor r s1 s2 st r).toBitmap = (st s1).toBitmap.xor (st s2).toBitmap ∧
    ∀ h, h ≠ r → binopStore opXor r s1 s2 st h = st h := by
  rw [← binopPure_xor]; exact binop_alias opXor opXor_ok r s1 s2 st
theorem C03_alias_not (r s : Nat) (st : Store) :
    (notStore r s st r).toBitmap = (st s).toBitmap.not ∧ ∀ h, h ≠ r → notStore r s st h = st h :=
  not_alias r s st

/-! ## non-vacuity: two different representations of the set {64, 65, …} -/

def ex1 : Bitmap := (Bitmap.alloc.setRange 64 none)               -- words [0, ~0], infinite
def ex2 : Bitmap := ((Bitmap.alloc.fill).clrRange 0 (some 63))    -- words [0], infinite
example : ex1 ≠ ex2 := by decide +kernel
example : ex1.count = 2 ∧ ex2.count = 1 := by decide +kernel
example : ∀ n, ex1.mem n = ex2.mem n := by
  intro n
  show (Bitmap.alloc.setRange 64 none).mem n = ((Bitmap.alloc.fill).clrRange 0 (some 63)).mem n
  rw [mem_setRange_none, mem_clrRange_some, mem_fill, mem_alloc]
  by_cases h : 64 ≤ n <;> simp [h] <;> omega
example : ex1.first = 64 ∧ ex2.first = 64 := by decide +kernel
-- the pair on which the pinned tree (before the `fix:` commit) returned opposite signs
example : sgn (ex1.compareFirst Bitmap.alloc) = -1 ∧ sgn (ex2.compareFirst Bitmap.alloc) = -1 := by decide +kernel
example : ex1.compareInclusion ex2 = .equal ∧ Bitmap.alloc.compareInclusion ex1 = .included := by decide +kernel

end Hw.Props.C03
