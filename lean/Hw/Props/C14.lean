/-
  Property C14 — memory attributes: stored values are returned, best-of queries are optimal.

  Property theorems only.  Model: `Hw.Attr.MemAttrs` (hwloc/memattrs.c 17–1332: attribute table, targets and
  initiators in storage order with the C's first-match lookups, lazy refresh, convenience attributes,
  local NUMA nodes, default nodeset); lemmas in `Hw.Attr.MemAttrsLemmas`, `…Api`, `…State`.
  cpusets are finite bit masks (`Nat`); the topology is an environment `Env`; a restrict is an environment
  change followed by `needRefresh`.
-/
import Hw.Attr.MemAttrsApi
import Hw.Attr.MemAttrsState
namespace Hw.Props.C14
open Hw.MemAttrs

/-! ## 1. `hwloc_memattr_register` -/

/-- accepted iff no unknown flag, exactly one of HIGHER_FIRST/LOWER_FIRST, and the name is new;
the new id is the next consecutive one and the attribute is appended with an empty target list -/
theorem C14_register_rules (tbl : Table) (name : String) (flags : Nat) :
    register tbl name flags =
      if flagsOk flags = false then (tbl, .error .EINVAL)
      else if nameUsed tbl name then (tbl, .error .EBUSY)
      else (tbl ++ [{ name, flags, conv := false, valid := true, targets := [] }], .ok tbl.length) := by
  unfold register flagsOk nameUsed
  by_cases h8 : flags / 8 ≠ 0
  · have : ¬ flags < 8 := by omega
    simp [h8, this]
  · have h8' : flags < 8 := by omega
    simp only [h8, if_false, h8', decide_true, Bool.true_and]
    cases flags.testBit 0 <;> cases flags.testBit 1 <;> simp

/-- `flagsOk` spelled out: flag word below 8 and exactly one of bits 0 (HIGHER) and 1 (LOWER) -/
theorem C14_register_flags (flags : Nat) :
    flagsOk flags = true ↔ flags < 8 ∧ (flags.testBit 0 = true ↔ flags.testBit 1 = false) := by
  unfold flagsOk
  cases flags.testBit 0 <;> cases flags.testBit 1 <;> simp

theorem C14_register_name (tbl : Table) (name : String) :
    nameUsed tbl name = true ↔ ∃ a ∈ tbl, a.name = name := by
  simp [nameUsed, List.any_eq_true]

/-- earlier attributes (ids, names, flags, values) are untouched by a registration, successful or not -/
theorem C14_register_keeps (tbl : Table) (name : String) (flags i : Nat) (hi : i < tbl.length) :
    (register tbl name flags).1[i]? = tbl[i]? := by
  rw [C14_register_rules]
  split
  · rfl
  · split
    · rfl
    · simp only; rw [List.getElem?_append_left hi]

/-! ## 2. `get_value` after `set_value` -/

/-- attribute with initiators: a value just stored for (target, initiator) is what the same query returns
(any attribute table, any earlier history, overlapping entries or not) -/
theorem C14_get_after_set (e : Env) (tbl : Table) (id : Nat) (a : Attr) (o : Obj) (init : LocArg) (v : Nat)
    (ha : tbl[id]? = some a) (hconv : a.conv = false) (hni : a.needInit = true)
    (ho : e.hasObj o.type o.gp = true) (hinit : validArg e init) :
    (setValue e tbl id (some o) init 0 v).2 = .ok () ∧
    (getValue e (setValue e tbl id (some o) init 0 v).1 id (some o) init 0).2 = .ok v :=
  getValue_setValue_needInit e tbl id a o init v ha hconv hni ho hinit

/-- attribute without initiators -/
theorem C14_get_after_set_noinit (e : Env) (tbl : Table) (id : Nat) (a : Attr) (o : Obj) (v : Nat)
    (ha : tbl[id]? = some a) (hconv : a.conv = false) (hni : a.needInit = false)
    (ho : e.hasObj o.type o.gp = true) :
    (setValue e tbl id (some o) .null 0 v).2 = .ok () ∧
    (getValue e (setValue e tbl id (some o) .null 0 v).1 id (some o) .null 0).2 = .ok v :=
  getValue_setValue_noInit e tbl id a o v ha hconv hni ho

/-- the initiator list of one (attribute, target) after ANY history of `set_value` calls whose cpuset
initiators are pairwise equal-or-disjoint and non-empty: a query `q` (any non-empty cpuset, any object)
returns the value of the LAST call whose stored location covers `q` (cpuset ⊇ q / same object),
and fails (EINVAL at API level) iff there is none -/
theorem C14_get_after_set_history (h : List (Loc × Nat))
    (hpd : ∀ a ∈ h, ∀ b ∈ h, Compat a.1 b.1) (hne : ∀ a ∈ h, a.1.nonempty)
    (q : Loc) (hq : q.nonempty) :
    (findInit q (runSets [] h)).map (·.value) = specGet h q :=
  get_after_set_history h hpd hne q hq

/-- one more `set_value(p, v)` on top of stored entries that are equal-to-or-disjoint-from `p`:
queries covered by `p` now see `v`, all others are unchanged -/
theorem C14_set_frame (p q : Loc) (v : Nat) (is : List Init)
    (hp : p.nonempty) (hq : q.nonempty) (hc : ∀ i ∈ is, Compat p i.loc) :
    (findInit q (setInit p v is)).map (·.value) =
      if matchLoc q p then some v else (findInit q is).map (·.value) :=
  findInit_setInit_other p q v is hp hq hc

/-- setting a value in one attribute never changes what another attribute returns -/
theorem C14_set_other_attr (e : Env) (tbl : Table) (id id' : Nat) (tgt : Option Obj) (init : LocArg) (fl v : Nat)
    (o' : Option Obj) (init' : LocArg) (fl' : Nat) (h : id' ≠ id) :
    (getValue e (setValue e tbl id tgt init fl v).1 id' o' init' fl').2 = (getValue e tbl id' o' init' fl').2 :=
  getValue_setValue_other_attr e tbl id id' tgt init fl v o' init' fl' h

/-! ## 3. enumeration and the `*nr` convention -/

/-- `get_targets`: `*nr` becomes the number of ALL matching targets, the arrays receive the first
`min(*nr_in, total)` of them in storage order -/
theorem C14_enumerate_targets (e : Env) (tbl : Table) (id : Nat) (a : Attr) (init : LocArg) (max : Nat)
    (ha : tbl[id]? = some a) (hc : a.conv = false) :
    getTargets e tbl id init 0 max false =
      (tbl.set id (ensureValid e a),
       .ok ((matchingTargets (ensureValid e a) init).length, (matchingTargets (ensureValid e a) init).take max)) :=
  getTargets_spec e tbl id a init max ha hc

/-- exactly the stored entries: (gp, v) is enumerated iff some stored target with that gp_index has value `v`
for the given initiator (`0` for every target when no initiator is given to an attribute that needs one) -/
theorem C14_enumerate_targets_exact (a : Attr) (init : LocArg) (g v : Nat) :
    (g, v) ∈ matchingTargets a init ↔
      ∃ t ∈ a.targets, t.gp = g ∧
        (if a.needInit then (if init = .null then v = 0 else targetValue true init t = some v)
         else v = t.noinit) := by
  unfold matchingTargets
  rw [List.mem_filterMap]
  refine exists_congr fun t => and_congr_right fun _ => ?_
  by_cases hn : a.needInit = true
  · by_cases hi : init = .null
    · simp [hn, hi, eq_comm]
    · have hb : (init == LocArg.null) = false := by simpa using hi
      simp only [hn, hi, hb, if_true, if_false, Bool.false_eq_true, Option.map_eq_some_iff, Prod.mk.injEq]
      exact ⟨fun ⟨w, hw, h1, h2⟩ => ⟨h1, h2 ▸ hw⟩, fun ⟨h1, h2⟩ => ⟨v, h2, h1, rfl⟩⟩
  · simp [hn, eq_comm]

/-- convenience attributes enumerate every NUMA node -/
theorem C14_enumerate_targets_conv (e : Env) (tbl : Table) (id : Nat) (a : Attr) (init : LocArg) (max : Nat)
    (ha : tbl[id]? = some a) (hc : a.conv = true) :
    getTargets e tbl id init 0 max false = (tbl, .ok ((convTargets e id).length, (convTargets e id).take max)) :=
  getTargets_conv_spec e tbl id a init max ha hc

theorem C14_enumerate_targets_einval (e : Env) (tbl : Table) (id : Nat) (init : LocArg) (flags max : Nat)
    (arrNull : Bool) (h : flags ≠ 0 ∨ (max ≠ 0 ∧ arrNull = true) ∨ tbl[id]? = none) :
    getTargets e tbl id init flags max arrNull = (tbl, .error .EINVAL) :=
  getTargets_einval e tbl id init flags max arrNull h

/-- `get_initiators`: all stored initiators of the target in storage order, same `*nr` convention -/
theorem C14_enumerate_initiators (e : Env) (tbl : Table) (id : Nat) (a : Attr) (o : Obj) (t : Target) (max : Nat)
    (ha : tbl[id]? = some a) (hn : a.needInit = true)
    (ht : findTarget o.type o.gp o.os (ensureValid e a).targets = some t) :
    getInitiators e tbl id (some o) 0 max false =
      (tbl.set id (ensureValid e a), .ok (t.inits.length, t.inits.take max)) :=
  getInitiators_spec e tbl id a o t max ha hn ht

/-- the overflow convention in numbers: the caller array receives `min(max, total)` entries -/
theorem C14_nr_convention {α : Type} (l : List α) (max : Nat) : (l.take max).length = min max l.length :=
  List.length_take

/-! ## 4. best-of queries -/

/-- `get_best_target` folds `bestOf` over the matching (target, value) candidates; ENOENT iff none -/
theorem C14_best_target (e : Env) (tbl : Table) (id : Nat) (a : Attr) (init : LocArg)
    (ha : tbl[id]? = some a) (hc : a.conv = false) :
    bestTarget e tbl id init 0 =
      (tbl.set id (ensureValid e a),
       match bestOf (ensureValid e a).higher (candTargets (ensureValid e a) init) with
       | some r => .ok r
       | none => .error .ENOENT) := by
  unfold bestTarget candTargets
  simp only [ne_eq, not_true_eq_false, if_false, ha, hc, Bool.false_eq_true]
  split <;> simp_all

theorem C14_best_initiator (e : Env) (tbl : Table) (id : Nat) (a : Attr) (o : Obj) (t : Target)
    (ha : tbl[id]? = some a) (hn : a.needInit = true)
    (ht : findTarget o.type o.gp o.os (ensureValid e a).targets = some t) :
    bestInitiator e tbl id (some o) 0 =
      (tbl.set id (ensureValid e a),
       match bestOf (ensureValid e a).higher (t.inits.map (fun i => (i.loc, i.value))) with
       | some r => .ok r
       | none => .error .ENOENT) := by
  unfold bestInitiator
  simp only [ne_eq, not_true_eq_false, if_false, ha, hn, Bool.not_true, Bool.false_eq_true, ht]
  split <;> simp_all

/-- the result of a best-of query is one of the candidates, its value is maximal (HIGHER_FIRST) or minimal
(LOWER_FIRST) among ALL candidates, and it is the FIRST candidate with that value in storage order -/
theorem C14_best_optimal {α : Type} {higher : Bool} {l : List (α × Nat)} {r : α × Nat}
    (h : bestOf higher l = some r) :
    r ∈ l ∧ (∀ x ∈ l, if higher then x.2 ≤ r.2 else r.2 ≤ x.2) ∧
    ∃ pre post, l = pre ++ r :: post ∧ ∀ x ∈ pre, if higher then x.2 < r.2 else r.2 < x.2 :=
  have H : FirstBest higher l r := by have := bestOf_spec higher l; rwa [h] at this
  have ⟨pre, post, e, hp, _⟩ := H
  ⟨e ▸ List.mem_append_right _ List.mem_cons_self, fun x hx => (score_le ..).mp (H.le x hx), pre, post, e,
    fun x hx => (score_lt ..).mp (hp x hx)⟩

/-- ENOENT iff there is no candidate -/
theorem C14_best_enoent {α : Type} (higher : Bool) (l : List (α × Nat)) : bestOf higher l = none ↔ l = [] := by
  refine ⟨fun h => ?_, fun h => by rw [h]; rfl⟩
  have := bestOf_spec higher l
  rwa [h] at this

/-! ## 5. convenience attributes Capacity / Locality -/

/-- Capacity (id 0) and Locality (id 1) are the convenience attributes of every freshly loaded topology -/
theorem C14_convenience_defaults :
    (defaults[0]?).map (fun a => (a.name, a.flags, a.conv)) = some ("Capacity", 1, true) ∧
    (defaults[1]?).map (fun a => (a.name, a.flags, a.conv)) = some ("Locality", 2, true) ∧
    ∀ i, 2 ≤ i → ∀ a, defaults[i]? = some a → a.conv = false := by
  refine ⟨rfl, rfl, ?_⟩
  intro i hi a ha
  have hall : ∀ a ∈ defaults.drop 2, a.conv = false := by decide +kernel
  apply hall a
  apply List.mem_of_getElem? (i := i - 2)
  rw [List.getElem?_drop, Nat.add_sub_cancel' hi]
  exact ha

/-- read-only: every `set_value` on a convenience attribute fails with EINVAL and changes nothing -/
theorem C14_convenience_ro (e : Env) (tbl : Table) (id : Nat) (a : Attr) (tgt : Option Obj) (init : LocArg)
    (flags v : Nat) (ha : tbl[id]? = some a) (hc : a.conv = true) :
    setValue e tbl id tgt init flags v = (tbl, .error .EINVAL) := by
  rcases setValue_cases e tbl id tgt init flags v with h | ⟨a', _, ha', hc', _⟩
  · exact h
  · rw [ha] at ha'; cases ha'; rw [hc] at hc'; cases hc'

/-- … and no `set_value` ever changes name, flags or the convenience bit of an attribute -/
theorem C14_convenience_static (e : Env) (tbl : Table) (id : Nat) (tgt : Option Obj) (init : LocArg) (flags v i : Nat) :
    ((setValue e tbl id tgt init flags v).1[i]?).map (fun a => (a.name, a.flags, a.conv)) =
      (tbl[i]?).map (fun a => (a.name, a.flags, a.conv)) := by
  rcases setValue_cases e tbl id tgt init flags v with h | ⟨a, o, ha, _, h⟩ <;> rw [h]
  by_cases hi : i = id
  · subst hi
    obtain ⟨h1, h2, h3⟩ := setAttr_static e a o.type o.gp o.os (toInternal init) v
    rw [getElem?_set_self_of_some ha, ha, Option.map_some, Option.map_some, h1, h2, h3]
  · rw [List.getElem?_set_ne (Ne.symm hi)]

/-- the value of a convenience attribute depends on the object only, never on the attribute table -/
theorem C14_convenience_value (e : Env) (tbl : Table) (id : Nat) (a : Attr) (o : Obj) (init : LocArg)
    (ha : tbl[id]? = some a) (hc : a.conv = true) :
    getValue e tbl id (some o) init 0 = (tbl, convValue e id o) :=
  getValue_conv e tbl id a o init ha hc

/-- Capacity = local memory of a NUMA node (EINVAL for other objects) -/
theorem C14_capacity (e : Env) (o : Obj) :
    convValue e 0 o = if o.type = e.numaType then .ok o.mem else .error .EINVAL := by
  by_cases h : o.type = e.numaType <;> simp [convValue, h]

/-- Locality = weight of the object's cpuset (EINVAL for objects without a cpuset) -/
theorem C14_locality (e : Env) (o : Obj) :
    convValue e 1 o = match o.cpuset with | some c => .ok (weight c) | none => .error .EINVAL := by
  cases h : o.cpuset <;> simp [convValue, h]

/-! ## 6. `hwloc_get_local_numanode_objs` -/

/-- result = the NUMA nodes (logical order) that satisfy the flag-selected relation, `*nr` convention -/
theorem C14_local_nodes (e : Env) (cs flags max : Nat) (h8 : flags < 8) :
    localNodes e (.cpuset cs) flags max false =
      .ok ((e.nodes.filter (matchLocal flags cs)).length, (e.nodes.filter (matchLocal flags cs)).take max) :=
  localNodes_cpuset_spec e cs flags max h8

/-- exactly: a node is selected iff ALL, or LARGER_LOCALITY and its cpuset includes the location,
or SMALLER_LOCALITY and its cpuset is included in the location, or its cpuset equals the location -/
theorem C14_local_nodes_exact (e : Env) (cs flags : Nat) (n : Obj) :
    n ∈ e.nodes.filter (matchLocal flags cs) ↔
      n ∈ e.nodes ∧ (flags.testBit 2 = true ∨ (flags.testBit 0 = true ∧ subset cs (ocs n) = true) ∨
        (flags.testBit 1 = true ∧ subset (ocs n) cs = true) ∨ ocs n = cs) := by
  rw [List.mem_filter, matchLocal_iff]

/-- order is the logical order of the NUMA level -/
theorem C14_local_nodes_order (e : Env) (cs flags : Nat) :
    (e.nodes.filter (matchLocal flags cs)).Sublist e.nodes := List.filter_sublist

theorem C14_local_nodes_null (e : Env) (flags max : Nat) (h8 : flags < 8) :
    localNodes e .null flags max false =
      if flags.testBit 2 then .ok (e.nodes.length, e.nodes.take max) else .error .EINVAL := by
  have : flags / 8 = 0 := by omega
  cases hb : flags.testBit 2 <;> simp [localNodes, this, hb]

theorem C14_local_nodes_badflags (e : Env) (loc : LocalArg) (flags max : Nat) (an : Bool) (h8 : 8 ≤ flags) :
    localNodes e loc flags max an = .error .EINVAL := localNodes_badflags e loc flags max an h8

/-! ## 7. `hwloc_topology_get_default_nodeset` -/

/-- the bits returned are exactly the os_indexes of the chosen nodes, every chosen node is a NUMA node of the
topology, and the cpusets of the chosen nodes are pairwise disjoint; the first node of the sorted array is
always chosen (`C14_default_nodeset_first`) -/
theorem C14_default_nodeset_disjoint (e : Env) :
    (∀ b, (defaultNodesetState e).nodeset.testBit b = true ↔
        ∃ n ∈ (defaultNodesetState e).chosen, n.os.getD 0 = b) ∧
    (∀ n ∈ (defaultNodesetState e).chosen, n ∈ e.nodes) ∧
    (defaultNodesetState e).chosen.Pairwise (fun a b => ocs a &&& ocs b = 0) :=
  let I := defaultNodesetState_inv e
  ⟨I.bits, I.mem, I.pw⟩

theorem C14_default_nodeset_first (e : Env) (n0 : Obj) (rest : List Obj) (h : sortByOs e.nodes = n0 :: rest) :
    n0 ∈ (defaultNodesetState e).chosen := by
  unfold defaultNodesetState
  rw [h]
  dsimp only
  refine List.foldlRecOn _ _ (motive := fun (s : DnsState) => n0 ∈ s.chosen)
    (List.foldlRecOn _ _ (motive := fun (s : DnsState) => n0 ∈ s.chosen) List.mem_cons_self ?_) ?_
  · exact fun s hi x _ => (dnsPass1_step n0.subtype s x).chosen_mono hi
  · exact fun s hi p _ => (dnsPass2_step s p).chosen_mono hi

/-! ## 8. restrict + refresh, dup -/

/-- after a refresh the stored targets are exactly the images of the old ones that survive -/
theorem C14_refresh_targets (e : Env) (a : Attr) (t' : Target) :
    t' ∈ (refreshAttr e a).targets ↔ ∃ t ∈ a.targets, refreshTarget e a.needInit t = some t' := by
  simp [refreshAttr, List.mem_filterMap]

/-- a target disappears iff its object vanished, or (attribute with initiators) every initiator was emptied /
vanished -/
theorem C14_refresh_removed (e : Env) (ni : Bool) (t : Target) :
    refreshTarget e ni t = none ↔
      e.hasObj t.type t.gp = false ∨ (ni = true ∧ ∀ i ∈ t.inits, refreshInit e i = none) :=
  refreshTarget_none_iff e ni t

/-- an initiator disappears iff its cpuset no longer meets the root cpuset / its object vanished;
a surviving one keeps its value -/
theorem C14_refresh_initiator (e : Env) (i : Init) :
    (refreshInit e i = none ↔
      match i.loc with
      | .cpuset c => c &&& e.root = 0
      | .obj t g => e.hasObj t g = false) ∧
    (∀ i', refreshInit e i = some i' → i'.value = i.value) :=
  ⟨refreshInit_eq_none, fun _ h => refreshInit_value h⟩

/-- a surviving target keeps its identity, its no-initiator value, and answers every query that is still
meaningful in the new topology (non-empty cpuset inside the new root cpuset / existing object) with the same
value as before — with or without overlapping stored cpusets -/
theorem C14_refresh_preserves (e : Env) (ni : Bool) (t t' : Target) (init : LocArg)
    (h : refreshTarget e ni t = some t') (hq : ∀ q, toInternal init = some q → validQuery e q) :
    (t'.type = t.type ∧ t'.gp = t.gp ∧ t'.os = t.os ∧ t'.noinit = t.noinit) ∧
    targetValue ni init t' = targetValue ni init t :=
  ⟨refreshTarget_key h, targetValue_refresh e ni t t' init h hq⟩

/-- the first stored target answering to a key is still the one found after the refresh when it survives -/
theorem C14_refresh_lookup (e : Env) (ni : Bool) (ty gp : Nat) (os : Option Nat) (ts : List Target) (t t' : Target)
    (h1 : findTarget ty gp os ts = some t) (h2 : refreshTarget e ni t = some t') :
    findTarget ty gp os (ts.filterMap (refreshTarget e ni)) = some t' :=
  findTarget_refresh e ni ty gp os ts t t' h1 h2

/-- `hwloc_topology_dup` copies every attribute with all targets, initiators and values (only the cache flag
is cleared) -/
theorem C14_dup_preserves (tbl : Table) (i : Nat) :
    (dup tbl)[i]? = (tbl[i]?).map (fun a => { a with valid := false }) := by
  simp [dup]

/-! ## non-vacuity -/

deriving instance DecidableEq for Except

def exEnv : Env :=
  let n0 : Obj := { type := 14, gp := 4, os := some 0, cpuset := some 3, effCpuset := 3, mem := 1000, subtype := none }
  let n1 : Obj := { type := 14, gp := 8, os := some 1, cpuset := some 12, effCpuset := 12, mem := 2000, subtype := none }
  let m : Obj := { type := 0, gp := 1, os := some 0, cpuset := some 15, effCpuset := 15, mem := 0, subtype := none }
  { numaType := 14, root := 15, objs := [m, n0, n1], nodes := [n0, n1] }

/-- a concrete history: two nodes, Bandwidth set from two disjoint cpusets, queries by subset -/
example :
    let n0 := exEnv.nodes[0]!
    let n1 := exEnv.nodes[1]!
    let t1 := (setValue exEnv defaults 2 (some n0) (.cpuset (some 3)) 0 10).1
    let t2 := (setValue exEnv t1 2 (some n1) (.cpuset (some 3)) 0 10).1
    let t3 := (setValue exEnv t2 2 (some n1) (.cpuset (some 12)) 0 7).1
    (getValue exEnv t3 2 (some n1) (.cpuset (some 1)) 0).2 = .ok 10 ∧
    (getValue exEnv t3 2 (some n1) (.cpuset (some 8)) 0).2 = .ok 7 ∧
    (getValue exEnv t3 2 (some n1) (.cpuset (some 6)) 0).2 = .error .EINVAL ∧
    (bestTarget exEnv t3 2 (.cpuset (some 2)) 0).2 = .ok (4, 10) ∧      -- tie 10/10: first stored wins
    (bestInitiator exEnv t3 2 (some n1) 0).2 = .ok (.cpuset 3, 10) ∧
    (getTargets exEnv t3 2 (.cpuset (some 1)) 0 1 false).2 = .ok (2, [(4, 10)]) ∧   -- *nr = 2 > array size 1
    (getValue exEnv t3 0 (some n1) .null 0).2 = .ok 2000 ∧
    (getValue exEnv t3 1 (some n1) .null 0).2 = .ok 2 ∧
    (setValue exEnv t3 0 (some n1) .null 0 5).2 = .error .EINVAL := by decide +kernel

/-- restrict to PUs {2,3} (node 0 becomes CPU-less but stays): the entry of initiator {0,1} disappears,
the one of {2,3} keeps its value -/
example :
    let n1 := exEnv.nodes[1]!
    let t1 := (setValue exEnv defaults 2 (some n1) (.cpuset (some 3)) 0 10).1
    let t2 := (setValue exEnv t1 2 (some n1) (.cpuset (some 12)) 0 7).1
    let e' : Env := { exEnv with root := 12 }
    let t3 := needRefresh t2
    (getValue e' t3 2 (some n1) (.cpuset (some 8)) 0).2 = .ok 7 ∧
    (getInitiators e' t3 2 (some n1) 0 4 false).2 = .ok (1, [⟨.cpuset 12, 7⟩]) := by decide +kernel

example : defaultNodeset exEnv 0 = .ok 3 := by decide +kernel
example : (register defaults "Bandwidth" 1).2 = .error .EBUSY ∧ (register defaults "X" 3).2 = .error .EINVAL ∧
    (register defaults "X" 6).2 = .ok 8 := by decide +kernel
example : (localNodes exEnv (.cpuset 1) 1 4 false) = .ok (1, [exEnv.nodes[0]!]) := by decide +kernel

end Hw.Props.C14
