/-
  Property C13 — distances: what is added is what is returned, and it follows the objects.

  The model is `Hw.Attr.Distances` (hwloc/distances.c: add_create / add_values / add_commit,
  refresh_one + the in-place `hwloc_internal_distances_restrict`, `hwloc__distances_get`, the
  removal functions, dup / XML transfer, the four transforms).

  Reading of the English text.  "The list is unchanged on rejection": the failing calls return
  `Except.error`, which carries no state — the caller keeps the state it had.  Objects are
  (type, gp_index, os_index, is-NVSwitch) records, a topology is the list of its live objects;
  which objects survive a restrict is an input (that is C08), what the distances layer does with
  the survivors is proved here.  `rank live i` = number of survivors below `i` = the new position
  of survivor `i` (the order-preserving renumbering σ⁻¹ of DESIGN.md).
-/
import Hw.Attr.DistancesLemmas
import Hw.Attr.GroupingSets
import Hw.Attr.GroupingClosure
import Hw.Attr.GroupingWalk
import Hw.Attr.GroupingValue
namespace Hw.Props.C13
open Hw.Dist

/-! ## 1. add → get -/

/-- `kind` is accepted by `add_create` iff it has no bit outside `KIND_ALL`, at most one `FROM_*`
bit and at most one `VALUE_*` bit (complete table over the 64 in-mask words; every other word has
a bit outside the mask). -/
theorem C13_kind_validation (kind : Nat) :
    kindOk kind = true ↔
      (kind < 64 ∧ ¬(kind.testBit 0 = true ∧ kind.testBit 1 = true) ∧
       ¬(kind.testBit 2 = true ∧ kind.testBit 3 = true) ∧ ¬(kind.testBit 2 = true ∧ kind.testBit 5 = true) ∧
       ¬(kind.testBit 3 = true ∧ kind.testBit 5 = true)) := by
  by_cases h : kind < 64
  · rw [kindOk_table kind h]; simp [h]
  · have h1 : kind &&& KIND_ALL ≤ 63 := Nat.and_le_right
    have h2 : (kind &&& KIND_ALL == kind) = false := by
      simp only [beq_eq_false_iff_ne, ne_eq]; omega
    constructor
    · intro hk; simp [kindOk, h2] at hk
    · intro hk; exact absurd hk.1 h

/-- After the documented sequence create / values (≥ 2 non-NULL objects) / commit, the structure is
appended with the caller's name, kind (plus HETEROGENEOUS_TYPES when the unique type is NONE),
objects and values; every later get reports one more match iff the filter matches it, `*nr` counts
all matches whatever the capacity of the caller's array, and the array receives the first `cap`
matches in list order. -/
theorem C13_add_then_get (st : State) (name : Option String) (kind : Nat) (os : List Obj) (vals : List Nat)
    (hk : kindOk kind = true) (hn : 2 ≤ os.length) :
    ∃ st1 h1 h2 st2,
      addCreate st name kind 0 = .ok (st1, h1) ∧
      addValues h1 os.length (os.map some) vals 0 = .ok h2 ∧
      addCommit st1 h2 0 = .ok st2 ∧
      h2.name = name ∧ h2.id = st.nextId ∧ h2.n = os.length ∧ h2.objs = os.map some ∧ h2.vals = vals ∧
      h2.kind = (if uniqueType (os.map some) == TY_NONE then kind ||| KIND_HETEROGENEOUS else kind) ∧
      st2.dists = st.dists ++ [h2] ∧ st2.topo = st.topo ∧
      ∀ (fname : Option String) (fty : Int) (fkind cap : Nat),
        (getCore st2 fname fty fkind cap).2.1 =
          (getCore st fname fty fkind cap).2.1 + (if matchesFilter fname fty fkind h2 = true then 1 else 0) ∧
        (getCore st2 fname fty fkind cap).2.2 =
          ((((refreshList st.topo st.dists).filter (matchesFilter fname fty fkind)).map Dist.pub) ++
            (if matchesFilter fname fty fkind h2 = true then [h2.pub] else [])).take cap :=
  add_then_get st name kind os vals hk hn

/-- the filter of `hwloc__distances_get`: a structure matches iff (no name is asked or it has exactly that
name) and (no type is asked or it is its unique type) and (no FROM_ bit is asked or one is shared) and
(no VALUE_ bit is asked or one is shared); every other bit of the kind word is ignored -/
theorem C13_get_filter (name : Option String) (ty : Int) (kind : Nat) (d : Dist) :
    matchesFilter name ty kind d = true ↔
      ((name = none ∨ (d.name ≠ none ∧ name = d.name)) ∧ (ty = TY_NONE ∨ ty = d.uniq) ∧
       (kind &&& KIND_FROM_ALL = 0 ∨ (kind &&& KIND_FROM_ALL) &&& d.kind ≠ 0) ∧
       (kind &&& KIND_VALUE_ALL = 0 ∨ (kind &&& KIND_VALUE_ALL) &&& d.kind ≠ 0)) := by
  unfold matchesFilter
  simp only [Bool.and_eq_true, Bool.not_eq_true', Bool.and_eq_false_iff, Bool.or_eq_false_iff, ne_eq,
    Option.isSome_eq_false_iff, Option.isNone_iff_eq_none, bne_eq_false_iff_eq, beq_eq_false_iff_ne,
    Option.isNone_eq_false_iff, Option.isSome_iff_ne_none, and_assoc]

/-- the unique type is NONE (⇒ HETEROGENEOUS_TYPES is set) iff some object's type differs from the first's -/
theorem C13_hetero_iff (o : Obj) (rest : List Obj) (hty : ∀ x, x ∈ o :: rest → x.ty ≠ TY_NONE) :
    (uniqueType ((o :: rest).map some) == TY_NONE) = true ↔ ∃ x, x ∈ rest ∧ x.ty ≠ o.ty := by
  rw [uniqueType_map_some, beq_iff_eq]
  by_cases hall : ∀ x ∈ rest, x.ty = o.ty
  · rw [if_pos hall]
    exact ⟨fun h => absurd h (hty o List.mem_cons_self), fun ⟨x, hx, hne⟩ => absurd (hall x hx) hne⟩
  · rw [if_neg hall]
    exact ⟨fun _ => let ⟨x, hx⟩ := Classical.not_forall.1 hall; ⟨x, Classical.not_imp.1 hx⟩, fun _ => rfl⟩

/-- the `*nr` convention in general: number of matches, and the first `cap` of them -/
theorem C13_get_nr (st : State) (name : Option String) (ty : Int) (kind cap : Nat) :
    (getCore st name ty kind cap).2.1 = ((refreshList st.topo st.dists).filter (matchesFilter name ty kind)).length ∧
    (getCore st name ty kind cap).2.2 =
      (((refreshList st.topo st.dists).filter (matchesFilter name ty kind)).take cap).map Dist.pub :=
  getCore_nr st name ty kind cap

/-! ## 2. rejections -/

/-- invalid kind or non-zero flags: `add_create` fails (no state is produced, no id consumed) -/
theorem C13_add_rejects_unchanged_create (st : State) (name : Option String) (kind flags : Nat) :
    (∃ e, addCreate st name kind flags = .error e) ↔ (kindOk kind = false ∨ flags ≠ 0) := by
  unfold addCreate
  by_cases hk : kindOk kind = true
  · by_cases hf : flags = 0 <;> simp [hk, hf]
  · simp [hk]

/-- fewer than 2 objects or non-zero flags: `add_values` fails with EINVAL (the handle is destroyed, the list untouched) -/
theorem C13_add_rejects_unchanged_values (h : Dist) (n : Nat) (objs : List (Option Obj)) (vals : List Nat)
    (flags : Nat) (hn : n < 2 ∨ flags ≠ 0) : addValues h n objs vals flags = .error .EINVAL :=
  addValues_einval h n objs vals flags (Or.inr (Or.inr hn.symm))

/-- any NULL object (at any position, the first included): `add_values` fails with EINVAL; the handle is
destroyed and the list untouched (`Except.error` carries no state) -/
theorem C13_add_rejects_null_object (h : Dist) (n : Nat) (objs : List (Option Obj)) (vals : List Nat)
    (flags : Nat) (hn : none ∈ objs) : addValues h n objs vals flags = .error .EINVAL :=
  addValues_einval h n objs vals flags (Or.inl hn)

/-- unknown commit flags: `add_commit` fails with EINVAL -/
theorem C13_add_rejects_unchanged_commit (st : State) (h : Dist) (flags : Nat)
    (hf : flags &&& ADD_FLAG_ALL ≠ flags) : addCommit st h flags = .error .EINVAL := by
  simp [addCommit, hf]

/-! ## 3. the in-place compaction -/

/-- `hwloc_internal_distances_restrict`, value matrix: for every `n`, every survivor mask and every
matrix, after the in-place loop the `k×k` result (`k = rank live n` survivors) holds at
`(rank i, rank j)` the original cell `(i, j)` of every surviving pair — the overwrite never destroys
a cell that is still to be read. -/
theorem C13_compaction_correct (n : Nat) (live : Nat → Bool) (a : FArr Nat) (i j : Nat)
    (hi : i < n) (hj : j < n) (li : live i = true) (lj : live j = true) :
    (compactVals n (rank live n) live a).get (rank live i * rank live n + rank live j) = a.get (i*n + j) :=
  compactVals_spec n live a i j hi hj li lj

/-- the same with σ = any enumeration of the survivors in increasing order
(`σ a` survives and has exactly `a` survivors below it) -/
theorem C13_compaction_correct_sigma (n : Nat) (live : Nat → Bool) (arr : FArr Nat) (σ : Nat → Nat) (a b : Nat)
    (ha : σ a < n ∧ live (σ a) = true ∧ rank live (σ a) = a)
    (hb : σ b < n ∧ live (σ b) = true ∧ rank live (σ b) = b) :
    (compactVals n (rank live n) live arr).get (a * rank live n + b) = arr.get (σ a * n + σ b) := by
  have := compactVals_spec n live arr (σ a) (σ b) ha.1 hb.1 ha.2.1 hb.2.1
  rw [ha.2.2, hb.2.2] at this; exact this

/-- such a σ exists for every position below the number of survivors, and it is unique -/
theorem C13_compaction_sigma_exists (n : Nat) (live : Nat → Bool) (a : Nat) (ha : a < rank live n) :
    ∃ i, (i < n ∧ live i = true ∧ rank live i = a) ∧ ∀ i', (i' < n ∧ live i' = true ∧ rank live i' = a) → i' = i := by
  obtain ⟨i, h1, h2, h3⟩ := rank_surj live n a ha
  exact ⟨i, ⟨h1, h2, h3⟩, fun i' h' => rank_inj live h'.2.1 h2 (by rw [h'.2.2, h3])⟩

/-- the object / index / type arrays are compacted by the same renumbering -/
theorem C13_compaction_objs (n : Nat) (objs : List (Option Obj)) (idx : List Nat) (tys : List Int) (vals : List Nat)
    (i : Nat) (hi : i < n) (li : liveOf objs i = true) :
    (compactLists n (rank (liveOf objs) n) objs idx tys vals).1.getD (rank (liveOf objs) i) none = objs.getD i none ∧
    (compactLists n (rank (liveOf objs) n) objs idx tys vals).2.1.getD (rank (liveOf objs) i) 0 = idx.getD i 0 ∧
    (compactLists n (rank (liveOf objs) n) objs idx tys vals).2.2.1.getD (rank (liveOf objs) i) (-1) = tys.getD i (-1) :=
  compactLists_objs n objs idx tys vals i hi li

/-! ## 4. refresh after a topology change -/

/-- after restrict every structure has lost its cached objects -/
theorem C13_restrict_invalidates (st : State) (T' : Topo) (d : Dist) (h : d ∈ (st.restrict T').dists) :
    d.valid = false ∧ ∃ d0, d0 ∈ st.dists ∧ d = { d0 with valid := false } := by
  simp only [State.restrict, invalidate, List.mem_map] at h
  obtain ⟨d0, h0, rfl⟩ := h
  exact ⟨rfl, d0, h0, rfl⟩

/-- a structure is dropped by the refresh iff fewer than 2 of its objects can be re-resolved -/
theorem C13_refresh_dropped_iff (T : Topo) (d : Dist) (hv : d.valid = false) :
    refreshOne T d = none ↔ rank (liveOf (resolveAll T d)) d.n < 2 :=
  refreshOne_none_iff T d hv

/-- a structure that survives the refresh keeps id, name, kind and type, references only objects of
the current topology (no NULL entry), has exactly the surviving objects in their old order, their
persistent indexes, and exactly the sub-matrix of the surviving pairs -/
theorem C13_refresh_subset (T : Topo) (d d' : Dist) (hv : d.valid = false) (h : refreshOne T d = some d') :
    d'.id = d.id ∧ d'.name = d.name ∧ d'.kind = d.kind ∧ d'.uniq = d.uniq ∧ d'.hetero = d.hetero ∧ d'.valid = true ∧
    d'.n = rank (liveOf (resolveAll T d)) d.n ∧ 2 ≤ d'.n ∧ d'.objs.length = d'.n ∧
    (∀ i, i < d.n → liveOf (resolveAll T d) i = true →
       d'.objs.getD (rank (liveOf (resolveAll T d)) i) none = (resolveAll T d).getD i none ∧
       d'.idx.getD (rank (liveOf (resolveAll T d)) i) 0 = d.idx.getD i 0) ∧
    (∀ i j, i < d.n → j < d.n → liveOf (resolveAll T d) i = true → liveOf (resolveAll T d) j = true →
       d'.vals.getD (rank (liveOf (resolveAll T d)) i * d'.n + rank (liveOf (resolveAll T d)) j) 0
         = d.vals.getD (i*d.n + j) 0) ∧
    (∀ x, x ∈ d'.objs → ∃ o, x = some o ∧ o ∈ T) :=
  refreshOne_some_spec T d d' hv h

/-- a structure whose cached objects are valid is not touched by a refresh -/
theorem C13_refresh_valid_fixed (T : Topo) (d : Dist) (h : d.valid = true) : refreshOne T d = some d :=
  refreshOne_valid T d h

/-- the refreshed list is the old list, in order, with each structure refreshed or dropped -/
theorem C13_refresh_list (st : State) :
    st.refresh.dists = st.dists.filterMap (refreshOne st.topo) ∧ st.refresh.topo = st.topo ∧
    st.refresh.nextId = st.nextId := ⟨rfl, rfl, rfl⟩

/-- dup keeps every structure (id, name, kind, indexes, values), in order, and the id counter -/
theorem C13_dup_keeps (st : State) (T' : Topo) :
    (st.dup T').nextId = st.nextId ∧
    (st.dup T').dists = st.dists.map (fun d => { d with valid := false, objs := List.replicate d.n none }) :=
  ⟨rfl, rfl⟩

/-- XML export + import into a topology with live objects `T'`: the export refreshes; the new list is
the homogeneous structures followed by the heterogeneous ones (any kind word, 0 included), 1-object
structures skipped, renumbered from 0 and refreshed against `T'` (so `C13_refresh_subset` applies to
each of them) -/
theorem C13_xml_roundtrip (st : State) (T' : Topo) :
    (xmlRoundTrip st T').1 = st.refresh ∧ (xmlRoundTrip st T').2.topo = T' ∧
    (xmlRoundTrip st T').2.dists = refreshList T' (renumber ((st.refresh.dists.filter (fun d => !d.hetero) ++
        st.refresh.dists.filter (fun d => d.hetero)).filter (fun d => 2 ≤ d.n)) 0) ∧
    (xmlRoundTrip st T').2.nextId = ((st.refresh.dists.filter (fun d => !d.hetero) ++
        st.refresh.dists.filter (fun d => d.hetero)).filter (fun d => 2 ≤ d.n)).length :=
  ⟨rfl, rfl, rfl, by simp [xmlRoundTrip, renumber_length]⟩

/-- the renumbering keeps name, kind, types, indexes and values of every structure; ids are `i, i+1, …` -/
theorem C13_xml_renumber (l : List Dist) (i : Nat) :
    (∀ d', d' ∈ renumber l i → ∃ d k, d ∈ l ∧ k < l.length ∧
        d' = { d with id := i + k, valid := false, objs := List.replicate d.n none }) ∧
    (renumber l i).map Dist.id = List.range' i l.length :=
  ⟨fun d' h => renumber_mem l i d' h, renumber_ids l i⟩

/-! ## 5. removals -/

theorem C13_remove_exact_all (st : State) : (remove st).dists = [] ∧ (remove st).nextId = st.nextId := ⟨rfl, rfl⟩

/-- `remove_by_depth`: exactly the structures whose unique type is the type of that depth go, the
others stay in order -/
theorem C13_remove_exact_by_depth (st st' : State) (ty : Int) (h : removeByDepth st ty = .ok st') :
    (∀ d, d ∈ st'.dists ↔ (d ∈ st.dists ∧ d.uniq ≠ ty)) ∧ st'.dists.Sublist st.dists ∧ st'.nextId = st.nextId := by
  cases removeByDepth_ok h
  exact ⟨fun d => by simp [List.mem_filter], List.filter_sublist, rfl⟩

/-- `release_remove`: with pairwise distinct ids in the list, exactly the structure carrying the id
of the caller's copy goes; if no structure carries it the call fails -/
theorem C13_remove_exact_release_remove (st : State) (p : Pub) (hnd : (st.dists.map Dist.id).Nodup) :
    (∀ st', releaseRemove st p = .ok st' →
        (∀ d, d ∈ st'.dists ↔ (d ∈ st.dists ∧ d.id ≠ p.id)) ∧ st'.dists.Sublist st.dists) ∧
    ((∃ e, releaseRemove st p = .error e) ↔ ∀ d, d ∈ st.dists → d.id ≠ p.id) := by
  unfold releaseRemove
  cases hf : fromPublic st.dists p.id with
  | none =>
    refine ⟨fun st' h => (by cases h), ?_⟩
    simp only [Except.error.injEq, exists_eq', true_iff]
    exact fromPublic_none _ _ hf
  | some d0 =>
    obtain ⟨hd0, hid0⟩ := fromPublic_some _ _ _ hf
    refine ⟨?_, ?_⟩
    · intro st' h
      cases h
      exact ⟨fun d => eraseP_id_mem st.dists p.id hnd d, List.eraseP_sublist⟩
    · simp only [reduceCtorEq, exists_false, false_iff]
      intro h; exact h d0 hd0 hid0

/-- ids in the list stay pairwise distinct and below the counter under create+commit -/
theorem C13_ids_distinct_commit (st : State) (name : Option String) (kind : Nat) (h : Dist) (st1 st2 : State)
    (hinv : (st.dists.map Dist.id).Nodup ∧ ∀ d, d ∈ st.dists → d.id < st.nextId)
    (hc : addCreate st name kind 0 = .ok (st1, h)) (h' : Dist) (hid : h'.id = h.id)
    (hm : addCommit st1 h' 0 = .ok st2) :
    (st2.dists.map Dist.id).Nodup ∧ ∀ d, d ∈ st2.dists → d.id < st2.nextId := by
  -- both calls succeeded: they took the branches of `addCreate_ok` and `addCommit_ok`
  by_cases hk : kindOk kind = true
  case neg => simp [addCreate, hk] at hc
  rw [addCreate_ok st name kind hk] at hc; cases hc
  by_cases hn : h'.n = 0
  · simp [addCommit, hn] at hm
  rw [addCommit_ok _ _ 0 rfl hn] at hm; cases hm
  have hid : h'.id = st.nextId := hid
  show ((st.dists ++ [h']).map Dist.id).Nodup ∧ ∀ d, d ∈ st.dists ++ [h'] → d.id < st.nextId + 1
  rw [List.map_append, List.nodup_append]
  refine ⟨⟨hinv.1, List.pairwise_singleton _ _, fun a ha b hb => ?_⟩, fun d hd => ?_⟩
  · obtain ⟨d, hd, rfl⟩ := List.mem_map.1 ha
    cases List.mem_singleton.1 hb
    exact Nat.ne_of_lt (hid ▸ hinv.2 d hd)
  · rcases List.mem_append.1 hd with h1 | h1
    · exact Nat.lt_succ_of_lt (hinv.2 d h1)
    · cases List.mem_singleton.1 h1; exact hid ▸ Nat.lt_succ_self _

/-- ids stay pairwise distinct under refresh (structures are only dropped, ids kept) -/
theorem C13_ids_distinct_refresh (T : Topo) (ds : List Dist) (h : (ds.map Dist.id).Nodup) :
    ((refreshList T ds).map Dist.id).Nodup :=
  List.Nodup.sublist (refreshList_ids_sublist T ds) h

/-- … and under every removal (the results are sublists, see `C13_remove_exact_*`) -/
theorem C13_ids_distinct_sublist (l l' : List Dist) (hs : l'.Sublist l) (h : (l.map Dist.id).Nodup) :
    (l'.map Dist.id).Nodup :=
  List.Nodup.sublist (List.Sublist.map Dist.id hs) h

/-! ## 6. transforms -/

/-- REMOVE_NULL keeps every non-NULL object, in order, and the values between them -/
theorem C13_transform_remove_null_keeps (p p' : Pub) (hlen : p.objs.length = p.n)
    (h : trRemoveNull p = (none, p')) :
    p'.n = rank (liveOf p.objs) p.n ∧ 2 ≤ p'.n ∧
    (∀ i, i < p.n → liveOf p.objs i = true → p'.objs.getD (rank (liveOf p.objs) i) none = p.objs.getD i none) ∧
    (∀ i j, i < p.n → j < p.n → liveOf p.objs i = true → liveOf p.objs j = true →
      p'.vals.getD (rank (liveOf p.objs) i * p'.n + rank (liveOf p.objs) j) 0 = p.vals.getD (i*p.n + j) 0) := by
  have hr := rank_eq_sub_countNone p.objs p.n hlen
  unfold trRemoveNull at h
  simp only [hr] at h
  by_cases h2 : rank (liveOf p.objs) p.n < 2
  · rw [if_pos h2] at h; cases h
  · rw [if_neg h2] at h
    -- in both branches `p'` holds the compacted arrays `c`
    obtain ⟨c, hc, e1, e2, e3⟩ : ∃ c, (c = compactLists p.n (rank (liveOf p.objs) p.n) p.objs [] [] p.vals ∨
        (countNone p.objs = 0 ∧ c = (p.objs, [], [], p.vals))) ∧
        p'.n = rank (liveOf p.objs) p.n ∧ p'.objs = c.1 ∧ p'.vals = c.2.2.2 := by
      by_cases he : (rank (liveOf p.objs) p.n == p.n) = true
      · rw [if_pos he] at h; cases h
        have hk : rank (liveOf p.objs) p.n = p.n := beq_iff_eq.1 he
        have hc0 : countNone p.objs = 0 := by have := countNone_le p.objs; omega
        exact ⟨_, Or.inr ⟨hc0, rfl⟩, hk.symm, rfl, rfl⟩
      · rw [if_neg he] at h; cases h; exact ⟨_, Or.inl rfl, rfl, rfl, rfl⟩
    obtain ⟨_, k2, k3, _⟩ := compacted_spec p.n p.objs [] [] p.vals hlen c hc
    rw [e1, e2, e3]
    exact ⟨rfl, Nat.le_of_not_lt h2, fun i hi li => (k2 i hi li).1, k3⟩

/-- LINKS: on success every value is the (diagonal-zeroed) original divided by the smallest positive
value, which divides all of them -/
theorem C13_links_divides (p p' : Pub) (h : trLinks p = (none, p')) :
    (minPos (linksBase p) = 0 ∧ p'.vals = linksBase p) ∨
    (0 < minPos (linksBase p) ∧ p'.vals.length = (linksBase p).length ∧
      ∀ q, q < (linksBase p).length → p'.vals.getD q 0 * minPos (linksBase p) = (linksBase p).getD q 0) := by
  unfold trLinks at h
  dsimp only at h
  -- the case analysis holds of any list and any divider
  generalize linksBase p = l at h ⊢
  generalize minPos l = d at h ⊢
  by_cases hk : (p.kind &&& KIND_VALUE_BANDWIDTH == 0) = true
  · rw [if_pos hk] at h; cases h
  rw [if_neg hk] at h
  by_cases hd : (d == 0) = true
  · rw [if_pos hd] at h; cases h
    exact Or.inl ⟨beq_iff_eq.1 hd, rfl⟩
  rw [if_neg hd] at h
  by_cases hany : l.any (fun v => v % d ≠ 0) = true
  · rw [if_pos hany] at h; cases h
  rw [if_neg hany] at h; cases h
  have hall : ∀ v, v ∈ l → v % d = 0 := fun v hv =>
    Decidable.byContradiction fun c => hany (List.any_eq_true.2 ⟨v, hv, decide_eq_true c⟩)
  refine Or.inr ⟨Nat.pos_of_ne_zero fun c => hd (beq_iff_eq.2 c), List.length_map _, fun q hq => ?_⟩
  show (l.map (fun v => v / d)).getD q 0 * d = l.getD q 0
  rw [List.getD_eq_getElem?_getD, List.getD_eq_getElem?_getD, List.getElem?_map, List.getElem?_eq_getElem hq]
  exact Nat.div_mul_cancel (Nat.dvd_of_mod_eq_zero (hall _ (List.getElem_mem hq)))

/-- LINKS works on the matrix with the diagonal zeroed and every other cell as given … -/
theorem C13_links_base (p : Pub) (i j : Nat) (hi : i < p.n) (hj : j < p.n) :
    (linksBase p).getD (i*p.n+j) 0 = if i = j then 0 else p.vals.getD (i*p.n+j) 0 := by
  unfold linksBase
  rw [ofArr_getD _ _ _ _ (mul_add_lt_mul hi hj)]
  rw [zeroDiag_spec p.n _ hj]
  by_cases hij : i = j
  · rw [if_pos hij, if_pos ⟨hi, hij⟩]
  · rw [if_neg hij, if_neg (fun c => hij c.2)]
    rfl

/-- … and its divider is 0 iff all those cells are 0, else the smallest positive one -/
theorem C13_links_divider_min (vs : List Nat) :
    (minPos vs = 0 ↔ ∀ v, v ∈ vs → v = 0) ∧
    (minPos vs ≠ 0 → minPos vs ∈ vs ∧ ∀ v, v ∈ vs → v ≠ 0 → minPos vs ≤ v) := by
  have h := minPosFrom_spec vs 0
  have e : minPos vs = minPosFrom vs 0 := rfl
  rw [e]
  obtain ⟨h1, _, h3⟩ := h
  constructor
  · constructor
    · intro h0 v hv
      apply Classical.byContradiction
      intro hv0
      exact (h3 v hv hv0).1 h0
    · intro hall
      rcases h1 with h | h
      · exact h
      · exact hall _ h
  · intro hne
    rcases h1 with h | h
    · exact absurd h hne
    · exact ⟨h, fun v hv hv0 => (h3 v hv hv0).2⟩

/-- TRANSITIVE_CLOSURE (`closure_adds_min`): always succeeds; objects, kind, every cell with a port
endpoint and the diagonal are unchanged; the cell between two distinct non-port objects `i`, `j`
becomes `old + min(Σ_ports v[i][port], Σ_ports v[port][j])`, sums taken on the original matrix,
all additions modulo 2^64 as in C -/
theorem C13_closure_adds_min (p : Pub) :
    (trClosure p).1 = none ∧ (trClosure p).2.objs = p.objs ∧ (trClosure p).2.n = p.n ∧ (trClosure p).2.kind = p.kind ∧
    (∀ i j, i < p.n → j < p.n → (swOf p i = true ∨ swOf p j = true ∨ i = j) →
      (trClosure p).2.vals.getD (i*p.n+j) 0 = p.vals.getD (i*p.n+j) 0) ∧
    (∀ i j, i < p.n → j < p.n → swOf p i = false → swOf p j = false → i ≠ j →
      (trClosure p).2.vals.getD (i*p.n+j) 0 =
        add64 (p.vals.getD (i*p.n+j) 0)
          (if rowSum p.n (swOf p) (toArr p.vals 0) i > colSum p.n (swOf p) (toArr p.vals 0) j
           then colSum p.n (swOf p) (toArr p.vals 0) j else rowSum p.n (swOf p) (toArr p.vals 0) i)) := by
  obtain ⟨c1, c2⟩ := closureI_spec p.n (swOf p) (toArr p.vals 0)
  have hg : ∀ i j, i < p.n → j < p.n → (trClosure p).2.vals.getD (i*p.n+j) 0 =
      (closureI p.n (swOf p) p.n 0 (toArr p.vals 0)).get (i*p.n+j) := fun i j hi hj => ofArr_getD _ _ _ _ (mul_add_lt_mul hi hj)
  refine ⟨rfl, rfl, rfl, rfl, fun i j hi hj hc => ?_, fun i j hi hj hs1 hs2 hne => ?_⟩
  · rw [hg i j hi hj, c1 i j hj (fun ⟨_, h3, h4, h5⟩ => hc.elim (fun e => by rw [h3] at e; cases e)
      (fun e => e.elim (fun e => by rw [h5] at e; cases e) (fun e => h4 e.symm)))]
    rfl
  · rw [hg i j hi hj]
    exact c2 i j hi hs1 hj (fun e => hne e.symm) hs2

/-- MERGE_SWITCH_PORTS (`transform_keeps_nonswitch`, full): with `i` the first port, the result holds
exactly the objects `keepOf p i` (non-NULL and not a port listed after `i`), in order, renumbered by
`rank`; the values between kept objects other than the port `i` are unchanged; the column / row of
the merged port is the (64-bit wrap-around) sum over all ports of the original columns / rows. -/
theorem C13_transform_keeps_nonswitch (p p' : Pub) (i : Nat) (hlen : p.objs.length = p.n)
    (hf : firstSw p.objs = some i) (h : trMerge p = (none, p')) :
    p'.n = rank (keepOf p i) p.n ∧ 2 ≤ p'.n ∧ keepOf p i i = true ∧
    (∀ x, x < p.n → keepOf p i x = true → p'.objs.getD (rank (keepOf p i) x) none = p.objs.getD x none) ∧
    (∀ x y, x < p.n → y < p.n → keepOf p i x = true → keepOf p i y = true → x ≠ i → y ≠ i →
      p'.vals.getD (rank (keepOf p i) x * p'.n + rank (keepOf p i) y) 0 = p.vals.getD (x*p.n + y) 0) ∧
    (∀ k, k < p.n → keepOf p i k = true → k ≠ i →
      p'.vals.getD (rank (keepOf p i) k * p'.n + rank (keepOf p i) i) 0 =
        sumSw (swOf p) (fun q => k*p.n+q) (toArr p.vals 0) (p.n - (i+1)) (i+1) (p.vals.getD (k*p.n+i) 0) ∧
      p'.vals.getD (rank (keepOf p i) i * p'.n + rank (keepOf p i) k) 0 =
        sumSw (swOf p) (fun q => q*p.n+k) (toArr p.vals 0) (p.n - (i+1)) (i+1) (p.vals.getD (i*p.n+k) 0)) := by
  have hin : i < p.n := hlen ▸ (firstSw_spec p.objs i hf).1
  rw [trMerge_first hf] at h
  obtain ⟨hlive, mO, mF, mC⟩ := merged_spec p i hlen hin
  obtain ⟨k1, k2, k3, k4⟩ := C13_transform_remove_null_keeps (merged p i) p' (ofArr_length _ _) h
  -- REMOVE_NULL renumbers by the liveness of the merged object array, which is `keepOf`
  rw [hlive] at k1 k3 k4
  have hki := keepOf_first hf
  exact ⟨k1, k2, hki, fun x hx kx => (k3 x hx kx).trans (mO x hx kx),
    fun x y hx hy kx ky hxi hyi => (k4 x y hx hy kx ky).trans (mF x y hx hy kx ky hxi hyi),
    fun k hk kk hki' => ⟨(k4 k i hk hin kk hki).trans (mC k hk kk hki').1, (k4 i k hin hk hki kk).trans (mC k hk kk hki').2⟩⟩

/-- every non-NULL non-switch object is among the kept ones -/
theorem C13_transform_nonswitch_kept (p : Pub) (i x : Nat) (hl : liveOf p.objs x = true)
    (hs : isSw (p.objs.getD x none) = false) : keepOf p i x = true := by
  unfold keepOf; rw [hl, hs]; simp

/-- `i` is a port and no port precedes it -/
theorem C13_transform_first_port (p : Pub) (i : Nat) (hf : firstSw p.objs = some i) :
    i < p.objs.length ∧ isSw (p.objs.getD i none) = true ∧ ∀ q, q < i → isSw (p.objs.getD q none) = false :=
  firstSw_spec p.objs i hf

/-- MERGE_SWITCH_PORTS fails with ENOENT (structure untouched) when there is no port -/
theorem C13_transform_merge_no_port (p : Pub) (hf : firstSw p.objs = none) : trMerge p = (some .ENOENT, p) := by
  simp [trMerge, hf]

/-! ## 7. grouping by distances at the default accuracy (`hwloc__groups_by_distances`, model `Hw.Attr.Grouping`)

"Grouping triggered at commit only inserts Groups consistent with C01."  The model is the integer algorithm the code runs when
`HWLOC_GROUPING_ACCURACY` is unset (accuracy 0.0f only); the distances engine predicts the inserted Groups with it on every run. -/
section grouping
open Hw.Grouping

/-- `hwloc__check_grouping_matrix` (accuracy 0) accepts exactly the matrices whose cells above the diagonal equal their mirror cell and
exceed the diagonal cell of their row (the diagonal of the last row is never looked at) -/
theorem C13_group_check_matrix_iff (M : Mat) (n : Nat) :
    checkMatrix M n = true ↔ ∀ i j, i < j → j < n → M i j = M j i ∧ M i i < M i j := by
  unfold checkMatrix
  simp only [List.all_eq_true, List.mem_range, Bool.or_eq_true, Bool.and_eq_true, Bool.not_eq_true', decide_eq_false_iff_not,
    cmpVals_eq_zero]
  constructor
  · intro h i j hij hj
    rcases h i (by omega) j hj with h1 | ⟨h1, h2⟩
    · exact absurd hij h1
    · exact ⟨h1, (cmpVals_pos _ _).mp h2⟩
  · intro h i _ j hj
    by_cases hij : i < j
    · right; exact ⟨(h i j hij hj).1, (cmpVals_pos _ _).mpr (h i j hij hj).2⟩
    · left; exact hij

/-- nothing is grouped for at most two objects, for a kind without LATENCY / HOPS (bandwidth: the code has no max-distance variant),
or when the user's matrix fails the validity check -/
theorem C13_group_refused (kind f n : Nat) (M : Mat) (b : Bool)
    (h : n ≤ 2 ∨ kind &&& KIND_GROUPABLE = 0 ∨ (b = true ∧ checkMatrix M n = false)) : rounds kind f n M b = [] := by
  cases f with
  | zero => rfl
  | succ f =>
    rw [rounds_succ, if_pos]
    exact h.imp_right (·.imp_right fun ⟨hb, hc⟩ => by unfold tryGroups; rw [hb, hc]; rfl)

/-- the fuel of the `while (firstfound != -1)` rescan loop suffices: with `n + 1` passes the loop of the model always ends by itself
(every pass that sets `newfirstfound` groups at least one more of the `n` objects) -/
theorem C13_group_closure_fuel (M : Mat) (md gid n ff : Nat) (ids : Nat → Nat) (size : Nat) (hg : gid ≠ 0) :
    ∃ r, grow M md gid n (n + 1) ff ids size = some r :=
  grow_fuel M md gid n hg (n + 1) ff ids size (by omega)

/-- **group ids partition the objects**: whenever `hwloc__find_groups_by_min_distance` returns `nb ≠ 0` groups for an `n × n` matrix,
every object has one id in `0..nb` (0 = left alone), objects beyond `n` have none, and every id `1..nb` has at least two members -/
theorem C13_group_ids_partition (M : Mat) (n : Nat) (h : (findGroups M n).1 ≠ 0) :
    (∀ x, (findGroups M n).2 x ≤ (findGroups M n).1) ∧ (∀ x, n ≤ x → (findGroups M n).2 x = 0) ∧
    ∀ g, 1 ≤ g → g ≤ (findGroups M n).1 →
      ∃ a b, a ≠ b ∧ a < n ∧ b < n ∧ (findGroups M n).2 a = g ∧ (findGroups M n).2 b = g :=
  ⟨(findGroups_spec M n h).1, (findGroups_spec M n h).2.1, (findGroups_spec M n h).2.2.1⟩

/-- **same id ⇒ connected**: every class has a seed from which each member is reached through cells equal to the minimal distance -/
theorem C13_group_ids_connected (M : Mat) (n : Nat) (h : (findGroups M n).1 ≠ 0) (a b : Nat)
    (hab : (findGroups M n).2 a = (findGroups M n).2 b) (ha : (findGroups M n).2 a ≠ 0) :
    ∃ seed, Conn M (minDist M n) seed a ∧ Conn M (minDist M n) seed b := by
  obtain ⟨seed, _, hs⟩ := (findGroups_spec M n h).2.2.2.1 _ (Nat.pos_of_ne_zero ha) ((findGroups_spec M n h).1 a)
  exact ⟨seed, hs a rfl, hs b hab.symm⟩

/-- **closure characterisation**: when "the cell is minimal" is symmetric and transitive among the `n` objects (block-structured
matrices), two distinct objects get the same non-zero id IFF their cell is minimal, and an object gets no id IFF none of its cells is
minimal — the ids are exactly the classes of the minimal-distance relation, whatever the order in which the objects are listed.
(Without transitivity only `C13_group_ids_connected` holds: see `C13_group_closure_not_transitive_witness`.) -/
theorem C13_group_ids_closure (M : Mat) (n : Nat) (hnb : (findGroups M n).1 ≠ 0)
    (hsym : ∀ a b, a < n → b < n → M a b = minDist M n → M b a = minDist M n)
    (htr : ∀ a b c, a < n → b < n → c < n → a ≠ c → M a b = minDist M n → M b c = minDist M n → M a c = minDist M n) :
    (∀ a b, a < n → b < n → a ≠ b →
      (((findGroups M n).2 a = (findGroups M n).2 b ∧ (findGroups M n).2 a ≠ 0) ↔ M a b = minDist M n)) ∧
    (∀ a, a < n → ((findGroups M n).2 a = 0 ↔ ∀ b, b < n → b ≠ a → M a b ≠ minDist M n)) := by
  rw [findGroups_ids M n hnb]
  obtain ⟨hO, hJ⟩ := outer_J M (minDist M n) n hsym htr
  generalize outer M (minDist M n) n n 0 outInit = o at hO hJ ⊢
  refine ⟨fun a b ha hb hab => ⟨fun ⟨h1, h2⟩ => hJ.same_edge a b ha hb hab h2 h1, fun hm => ?_⟩,
    fun a ha => ⟨hJ.isolated a ha, fun hiso => Decidable.byContradiction fun hz => ?_⟩⟩
  · have hz : o.ids a ≠ 0 := fun hz => hJ.isolated a ha hz b hb (Ne.symm hab) hm
    exact ⟨(hJ.edge_same a b ha hb hab hm hz).symm, hz⟩
  · -- a member of the class of `a` other than `a` has a minimal cell with it
    have other : ∀ x, x ≠ a → o.ids x ≠ o.ids a := fun x hxa hx =>
      have hxn : x < n := hO.lt_of_grouped (hx ▸ hz)
      hiso x hxn hxa (hJ.same_edge a x ha hxn (Ne.symm hxa) hz hx.symm)
    obtain ⟨x, y, hxy, hx, hy, -⟩ := hO.cls _ (Nat.pos_of_ne_zero hz) (hO.bound a)
    by_cases hxa : x = a
    · exact other y (fun e => hxy (hxa.trans e.symm)) hy
    · exact other x hxa hx

/-- the matrix between the groups (`GROUP_VALUE`) is the 2^64-wrapped double sum of the cells between the two groups divided by the
product of their sizes, and it is symmetric whenever the matrix is: the recursion may skip the symmetry check (`needcheck = 0`) -/
theorem C13_group_matrix_symmetric (M : Mat) (n : Nat) (ids : Nat → Nat) (hs : ∀ i j, i < n → j < n → M i j = M j i) (a b : Nat) :
    groupValue M n ids a b = groupValue M n ids b a ∧
    groupValue M n ids a b = (sumL (fun i => sumL (fun j => M i j) (members ids n (b+1))) (members ids n (a+1))) % Hw.Grouping.W64
        / ((members ids n (a+1)).length * (members ids n (b+1)).length) :=
  ⟨groupValue_symm M n ids hs a b, groupValue_eq M n ids a b⟩

/-- a round has at most `n / 2` groups, so the recursion on the matrix between the groups terminates: any fuel `≥ n` gives the same
list of rounds -/
theorem C13_group_rounds_fuel (kind f n : Nat) (M : Mat) (b : Bool) (hf : n ≤ f) : rounds kind f n M b = rounds kind n n M b :=
  rounds_fuel kind f n n M b hf (Nat.le_refl n)

/-- every round of the recursion is well-shaped: at most `n / 2` groups, each with at least two members, an object in one group at most -/
theorem C13_group_round_shape (kind f n : Nat) (M : Mat) (b : Bool) (r : Round) (hr : r ∈ rounds kind f n M b) :
    2 * r.nb ≤ r.n ∧ (∀ g, g < r.nb → 2 ≤ (r.members g).length) ∧
    ∀ g1 g2 i, i ∈ r.members g1 → i ∈ r.members g2 → g1 = g2 :=
  ⟨(rounds_good kind f n M b r hr).halves, fun _ hg => members_two (rounds_good kind f n M b r hr) hg,
   fun _ _ _ h1 h2 => members_disjoint h1 h2⟩

/-- the cpusets of the Groups of one round (unions of their members' cpusets) are pairwise disjoint when the objects' are -/
theorem C13_group_round_disjoint (sets : Nat → Nat) (r : Round) (g1 g2 : Nat) (hg : g1 ≠ g2)
    (h : ∀ i j, i < r.n → j < r.n → i ≠ j → Hw.Topo.Ins.dj (sets i) (sets j)) :
    Hw.Topo.Ins.dj (groupSet sets r g1) (groupSet sets r g2) :=
  groupSet_disjoint sets r g1 g2 hg h

/-- **consistent with C01**: inserting the Groups of a round (for ANY matrix and ANY objects whose cpusets lie inside the root, disjoint
or not) through the model of `hwloc___insert_object_by_cpuset` never loses an object and leaves a laminar tree with the same root
(instance of the C01 theorem on sequences of insertions) -/
theorem C13_group_round_insert_laminar (t : Hw.Topo.Ins.T) (hL : Hw.Topo.Ins.Lam t) (sets : Nat → Nat) (r : Round)
    (subkind base : Nat) (hs : ∀ i, i < r.n → Hw.Topo.Ins.sub (sets i) t.o.key) :
    ∃ t', Hw.Topo.Ins.insAll t (roundObjs sets r subkind base) = some t' ∧ Hw.Topo.Ins.Lam t' ∧ t'.o.key = t.o.key ∧
      ∀ g, Hw.Topo.Ins.cntT g t ≤ Hw.Topo.Ins.cntT g t' ∧
           Hw.Topo.Ins.cntT g t' ≤ Hw.Topo.Ins.cntT g t + ((roundObjs sets r subkind base).map (·.gp)).count g := by
  apply Hw.Topo.Ins.insAll_good _ t hL
  intro o ho
  unfold roundObjs at ho
  obtain ⟨g, _, rfl⟩ := List.mem_map.mp ho
  exact groupSet_sub sets r g _ hs

/-- **the whole grouping of one commit is consistent with C01**: the model of everything `hwloc__groups_by_distances` does to the
tree (every Group of every round through `hwloc_topology_insert_group_object` incl. merges, refusals, the cut after a failed round and
the `add_children_sets` / reorder fix-up — `Hw.Grouping.walk`, the function the engine's prediction runs) maps a laminar tree to a
laminar tree with the same root set, for every list of rounds, every object sets and every environment -/
theorem C13_group_commit_laminar (e : GEnv) (rs : List Round) (sets : Nat → Nat) (sk base : Nat) (t : Hw.Topo.Ins.T)
    (h : Hw.Topo.Ins.Lam t) :
    Hw.Topo.Ins.Lam (walk e rs sets sk base t).1 ∧ (walk e rs sets sk base t).1.o.key = t.o.key ∧
    sk ≤ (walk e rs sets sk base t).2 ∧ (walk e rs sets sk base t).2 ≤ sk + rs.length :=
  ⟨(walk_lam e rs sets sk base t h).1, (walk_lam e rs sets sk base t h).2, walk_subkind_le e rs sets sk base t⟩

/-! non-vacuity: 4 objects in two pairs (cells 1 inside a pair, 2 across) -/
def pairs4 : Mat := fun i j => if i = j then 0 else if i / 2 = j / 2 then 1 else 2

example : (findGroups pairs4 4).1 = 2 ∧ (List.range 4).map (findGroups pairs4 4).2 = [1, 1, 2, 2] := by decide +kernel
example : checkMatrix pairs4 4 = true ∧ rounds 5 4 4 pairs4 true = [⟨4, 2, [1, 1, 2, 2]⟩] := by decide +kernel
/-- an asymmetric cell: refused -/
example : checkMatrix (fun i j => if i = j then 0 else if (i, j) = (0, 1) then 2 else 1) 3 = false ∧
    rounds 5 3 3 (fun i j => if i = j then 0 else if (i, j) = (0, 1) then 2 else 1) true = [] := by decide +kernel
/-- a bandwidth kind (8 | FROM_OS): refused whatever the matrix -/
example : rounds 9 4 4 pairs4 true = [] := by decide +kernel

/-- cells near 2^64 wrap in the sum between two groups: (2^64-1 + 2^64-1 + 3 + 3) mod 2^64 / 4 = 1 -/
example : groupValue (fun i j => if i = j then 0 else if i / 2 = j / 2 then 1 else if (i + j) % 2 = 1 then U64MAX else 3) 4
    (fun i => i / 2 + 1) 0 1 = 1 := by decide +kernel

/-- `pairs4` meets the hypotheses of `C13_group_ids_closure` -/
example : ((findGroups pairs4 4).2 0 = (findGroups pairs4 4).2 1 ∧ (findGroups pairs4 4).2 0 ≠ 0) ↔ pairs4 0 1 = minDist pairs4 4 := by
  have hs : ∀ a, a < 4 → ∀ b, b < 4 → pairs4 a b = minDist pairs4 4 → pairs4 b a = minDist pairs4 4 := by decide +kernel
  have ht : ∀ a b c : Fin 4, a.val ≠ c.val → pairs4 a b = minDist pairs4 4 → pairs4 b c = minDist pairs4 4 →
      pairs4 a c = minDist pairs4 4 := by decide +kernel
  exact (C13_group_ids_closure pairs4 4 (by decide +kernel) (fun a b ha hb => hs a ha b hb)
    (fun a b c ha hb hc => ht ⟨a, ha⟩ ⟨b, hb⟩ ⟨c, hc⟩)).1 0 1 (by omega) (by omega) (by omega)

/-- 8 objects, pairs inside quads: two nested rounds (4 Groups, then 2 Groups of Groups; the last level would be a single group) -/
example : (rounds 5 8 8 (fun i j => if i = j then 0 else if i / 2 = j / 2 then 1 else if i / 4 = j / 4 then 3 else 7) true).map (·.ids)
    = [[1, 1, 2, 2, 3, 3, 4, 4], [1, 1, 2, 2]] := by decide +kernel
/-- the Group sets of the first round over PUs `{i}` are the pairs, inside a root `0xff` -/
example : (List.range 2).map (groupSet (fun i => 1 <<< i) ⟨4, 2, [1, 1, 2, 2]⟩) = [0x3, 0xc] := by decide +kernel

/-- four PUs below a machine, the two Groups of the round above: both are inserted, each adopts its pair -/
example : (match Hw.Topo.Ins.insAll (.node { gp := 0, type := Hw.Topo.tMACHINE, key := 0xf }
        [.node { gp := 1, type := Hw.Topo.tPU, key := 1 } [], .node { gp := 2, type := Hw.Topo.tPU, key := 2 } [],
         .node { gp := 3, type := Hw.Topo.tPU, key := 4 } [], .node { gp := 4, type := Hw.Topo.tPU, key := 8 } []])
      (roundObjs (fun i => 1 <<< i) ⟨4, 2, [1, 1, 2, 2]⟩ 0 100) with | some t' => Hw.Topo.Ins.rows 0 t' | none => [])
    = [(0, 0, [], []), (100, 0, [900, 0, 0], []), (1, 100, [], []), (2, 100, [], []),
       (101, 0, [900, 0, 0], []), (3, 101, [], []), (4, 101, [], [])] := by decide +kernel

/-- the same through the walk of a whole commit: 8 PUs, pairs inside quads, two nested rounds (4 Groups of subkind 0, 2 of subkind 1) -/
example : (let M : Mat := fun i j => if i = j then 0 else if i / 2 = j / 2 then 1 else if i / 4 = j / 4 then 3 else 7
    let r := walk ⟨0, 0xff, 1, []⟩ (rounds 5 8 8 M true) (fun i => 1 <<< i) 0 100
      (.node { gp := 0, type := Hw.Topo.tMACHINE, key := 0xff }
        ((List.range 8).map (fun i => .node { gp := i + 1, type := Hw.Topo.tPU, key := 1 <<< i } [])))
    (((Hw.Topo.Ins.objsT r.1).filter (fun o => o.type == Hw.Topo.tGROUP)).map (fun o => (o.gp, o.key, o.subkind)), r.2))
    = ([(104, 0xf, 1), (100, 0x3, 0), (101, 0xc, 0), (105, 0xf0, 1), (102, 0x30, 0), (103, 0xc0, 0)], 2) := by decide +kernel

/-- The closure is NOT always transitive (candidate finding, outside the property): `newfirstfound` is the FIRST object found in a
pass, not the smallest one, so a member found later with a smaller index is never rescanned.  On the path 0–2–1–3 (all four cells
minimal) the code returns the single group {0,1,2} and leaves 3 alone although `M 1 3` is minimal — the true closure is one group of all
objects, which the give-up rule would drop.  The model follows the code (the harness confirms: a Group of three NUMA nodes is created). -/
def path4 : Mat := fun i j =>
  if i = j then 0 else if (i, j) ∈ [(0, 2), (2, 0), (2, 1), (1, 2), (1, 3), (3, 1)] then 1 else 2

theorem C13_group_closure_not_transitive_witness :
    checkMatrix path4 4 = true ∧ minDist path4 4 = 1 ∧ path4 1 3 = 1 ∧
    (findGroups path4 4).1 = 1 ∧ (List.range 4).map (findGroups path4 4).2 = [1, 1, 1, 0] := by decide +kernel

end grouping

/-! ## non-vacuity -/

example : kindOk 5 = true ∧ kindOk 3 = false ∧ kindOk 12 = false ∧ kindOk 64 = false := by decide +kernel

/-- a concrete restrict: 4 objects, the second disappears, the 3×3 sub-matrix is extracted in place -/
example : ofArr (compactVals 4 3 (fun i => i != 1) (toArr [0,1,2,3, 10,11,12,13, 20,21,22,23, 30,31,32,33] 0)) 9
    = [0,2,3, 20,22,23, 30,32,33] := by decide +kernel

example : rank (fun i => i != 1) 4 = 3 := by decide +kernel

/-- closure on `[gpu0, port, gpu1]`: gpu0→gpu1 gains min(5, 7) -/
example : (trClosure ⟨0, 10, 3, [some ⟨18, 1, 0, false⟩, some ⟨18, 2, 1, true⟩, some ⟨18, 3, 2, false⟩],
      [0, 5, 1,  9, 0, 7,  2, 4, 0]⟩).2.vals = [0, 5, 6,  9, 0, 7,  6, 4, 0] := by decide +kernel

/-- merge with a non-port listed between two ports (the former F12 input): `[a, port, b, port]` → `[a, port, b]` -/
example : (trMerge ⟨0, 10, 4, [some ⟨3, 4, 0, false⟩, some ⟨3, 7, 1, true⟩, some ⟨3, 12, 2, false⟩, some ⟨3, 15, 3, true⟩],
      [0, 1, 2, 3,  4, 0, 5, 6,  7, 8, 0, 9,  10, 11, 12, 0]⟩).2.vals = [0, 4, 2,  14, 0, 17,  7, 17, 0] := by decide +kernel

/-- the former F03 input `{NULL, x}` is rejected -/
example : addValues (freshHandle 0 (some "a") 5) 2 [none, some ⟨14, 16, 1, false⟩] [1, 2, 3, 4] 0 = .error .EINVAL := rfl

/-- merge with the ports listed last: `[gpu0, gpu1, port, port]` → `[gpu0, gpu1, port]` -/
example : (trMerge ⟨0, 10, 4,
      [some ⟨18, 1, 0, false⟩, some ⟨18, 2, 1, false⟩, some ⟨18, 3, 2, true⟩, some ⟨18, 4, 3, true⟩],
      [0, 1, 2, 3,  4, 0, 5, 6,  7, 8, 0, 9,  10, 11, 12, 0]⟩).2.vals = [0, 1, 5,  4, 0, 11,  17, 19, 0] := by decide +kernel

end Hw.Props.C13
