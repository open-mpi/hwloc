/-
  C15 — CPU kinds always partition the registered PUs and are ranked consistently.

  Property theorems over the model `Hw.CpuKinds` (lean/Hw/Attr/CpuKinds.lean), for ALL histories of
  public calls (register with arbitrary cpuset / NULL / flags / forced efficiency / info arrays,
  restrict, dup, XML round trip, refresh), all root cpusets and every HWLOC_CPUKINDS_RANKING strategy.

  Reading of the English property.  The right-hand sides are given by the reference semantics
  `runGhost` (CpuKindsLemmas.lean, `ghostStep`), which does not look at the kinds array at all:
    cov   union of the successfully registered cpusets, intersected with the root cpuset by every
          successful restrict;
    ow    `ow p x`: info pair `x` is owed to PU `p` = some successful register whose cpuset contains `p`
          carried `x` and `p` has not been removed by a restrict since (a removed PU that is registered
          again starts afresh, as its kind is gone).
  Cpusets are finite sets (Nat masks); `Sub`/`Meets` are inclusion / non-empty intersection.

  Beyond the property: the array is SORTED by the ranking value the code chose, and it REFINES the abstract fold
  PU ↦ (forced efficiency, infos)  plus a grouping relation, from which partition and infos follow again.

  Defect outside these theorems (F20, repaired; see `C15_defect_stale_slot_reachable`): the theorems are about the
  array *contents* the C code intends; `hwloc_internal_cpukinds_restrict` left stale struct copies in the
  vacated slots and a later register built its new kind on top of them.
-/
import Hw.Attr.CpuKindsLemmas
import Hw.Attr.CpuKindsRank
import Hw.Attr.CpuKindsRefine
import Hw.Attr.CpuKindsClasses
import Hw.Attr.CpuKindsAllowedLemmas
import Hw.Attr.CpuKindsStrategies
import Hw.Attr.CpuKindsStrategiesAllowed
namespace Hw.Props.C15
open Hw Hw.CpuKinds

/-- P0 kinds_partition: non-empty, pairwise disjoint, union = reference coverage. -/
theorem C15_kinds_partition (strat : Strategy) (root : Nat) (h : List Op) :
    (∀ k ∈ (run strat root h).kinds, k.cpuset ≠ 0) ∧
    (run strat root h).kinds.Pairwise (fun a b => a.cpuset &&& b.cpuset = 0) ∧
    (∀ p, (∃ k ∈ (run strat root h).kinds, k.cpuset.testBit p = true) ↔ (runGhost root h).cov.testBit p = true) ∧
    (runGhost root h).root = (run strat root h).root :=
  let H := run_inv strat root h
  ⟨H.k.ne, H.k.dj, H.k.cov, H.root⟩

/-- P0 kinds_capacity (one register): `newnr ≤ 2·oldnr+1 ≤ allocated`, whatever the state. -/
theorem C15_kinds_capacity (st : State) (cs : Nat) (f : Int) (infos : List Info) (fl : Nat)
    (hcs : cs ≠ 0) (hfl : fl / 2 = 0) :
    (internalRegister st cs f infos fl).1.kinds.length ≤ 2 * st.kinds.length + 1 ∧
    2 * st.kinds.length + 1 ≤ (internalRegister st cs f infos fl).1.alloc := by
  have h1 := (regLoop_len f infos (decide (fl % 2 = 1)) st.kinds cs).1
  have h2 := regAdded_len f infos (decide (fl % 2 = 1)) st.kinds cs
  have h3 := capFor_ge st.kinds.length
  simp only [internalRegister, hcs, hfl, if_false, ne_eq, not_true_eq_false, List.length_append]
  omega

/-- P0 kinds_capacity (histories): the live kinds plus the slots vacated by restrict fit the allocation. -/
theorem C15_kinds_capacity_history (strat : Strategy) (root : Nat) (h : List Op) :
    (run strat root h).kinds.length + (run strat root h).stale.length ≤ (run strat root h).alloc :=
  (run_inv strat root h).cap

/-- P0 kinds_infos: a kind carries exactly the pairs owed to each of its PUs, none twice. -/
theorem C15_kinds_infos (strat : Strategy) (root : Nat) (h : List Op) :
    ∀ k ∈ (run strat root h).kinds, k.infos.Nodup ∧
      ∀ p, k.cpuset.testBit p = true → ∀ x, x ∈ k.infos ↔ (runGhost root h).ow p x :=
  fun k hk => ⟨(run_inv strat root h).k.nd k hk, (run_inv strat root h).k.inf k hk⟩

/-- P0 by_cpuset_spec on every reachable state: an index means "inside that kind"; EXDEV means the set
    meets a kind but lies inside none (straddles kinds or is only partially covered); ENOENT means it meets
    none; nothing else is returned for a non-empty set and zero flags.  The three conditions exclude each
    other on a partition, so each implication is an equivalence. -/
theorem C15_by_cpuset_spec (strat : Strategy) (root : Nat) (h : List Op) (s : Nat) (hs : s ≠ 0) :
    let ks := (run strat root h).kinds
    let r := getByCpuset (run strat root h) (some s) 0
    (∀ j, r = .idx j → ∃ hj : j < ks.length, Sub s ks[j].cpuset) ∧
    (r = .err .exdev → (∃ k ∈ ks, Meets s k.cpuset) ∧ ∀ k ∈ ks, ¬ Sub s k.cpuset) ∧
    (r = .err .enoent → ∀ k ∈ ks, ¬ Meets s k.cpuset) ∧
    r ≠ .err .einval ∧ r ≠ .err .ok := by
  intro ks r
  have H := (run_inv strat root h).k
  have ⟨h1, h2, h3, h4, h5⟩ := byCpusetLoop_exact s hs ks H.ne H.dj
  rw [show r = byCpusetLoop ks s 0 from getByCpuset_some _ hs]
  exact ⟨fun j => (h1 j).mp, h2.mp, h3.mp, h4, h5⟩

/-- EINVAL clauses of get_by_cpuset: NULL, empty, non-zero flags. -/
theorem C15_by_cpuset_einval (st : State) (s : Option Nat) (fl : Nat)
    (h : fl ≠ 0 ∨ s = none ∨ s = some 0) : getByCpuset st s fl = .err .einval := by
  unfold getByCpuset
  by_cases hf : fl = 0
  · rcases h with h | h | h
    · exact absurd hf h
    · subst h; simp [hf]
    · subst h; simp [hf]
  · simp [hf]

/-- EINVAL clauses of register: NULL or empty cpuset, non-zero flags — and nothing is modified. -/
theorem C15_register_einval (strat : Strategy) (st : State) (cs : Option Nat) (f : Int) (infos : List Info)
    (fl : Nat) (h : fl ≠ 0 ∨ cs = none ∨ cs = some 0) : register strat st cs f infos fl = (st, .einval) :=
  register_einval strat st cs f infos fl h

/-- P0 efficiency_shape, first half: all efficiencies are -1, or efficiency = index of the kind
    (hence a permutation of 0..nr-1 increasing with the index). -/
theorem C15_efficiency_shape (strat : Strategy) (root : Nat) (h : List Op) :
    (∀ k ∈ (run strat root h).kinds, k.eff = -1) ∨
    (∀ (i : Nat) (hi : i < (run strat root h).kinds.length), (run strat root h).kinds[i].eff = (i : Int)) :=
  (run_ranked strat root h).effShape

/-- forced efficiencies stored by the public API are -1 or non-negative -/
theorem C15_forced_range (strat : Strategy) (root : Nat) (h : List Op) :
    ∀ k ∈ (run strat root h).kinds, -1 ≤ k.forced :=
  (run_inv strat root h).k.frc

/-- Negative fact (genuine defect, F20, repaired by a memset of the vacated slot): a history of four public calls
    reaches a register whose new kind is created in an array slot that `restrict`'s memmove vacated without clearing —
    the slot still held a bit-copy of another kind's `infos` (same `array` pointer).  In C the new kind then aliased
    that array: it reported info pairs it was never registered with and the array was freed twice
    (AddressSanitizer: heap-use-after-free / double-free in hwloc__free_infos). -/
theorem C15_defect_stale_slot_reachable :
    let st := run .dflt 0xff
      [.register (some 0x0f) (-1) [("A", "1")] 0, .register (some 0xf0) (-1) [("B", "2")] 0, .restrict 0xf0]
    st.stale = [true] ∧ staleHit st 0x30 (-1) [("C", "3")] true = true := by
  decide +kernel

/-! ## The ranking is SORTED by the key the code uses

`hwloc__cpukinds_finalize_ranking` sorts with libc `qsort` (not a hand-written sort) and is only reached after
`hwloc__cpukinds_check_duplicate_rankings` succeeded, i.e. with pairwise distinct ranking values; hence the sorted
array is unique and neither the algorithm nor its stability can be observed (`C15_sort_algorithm_irrelevant`).
`chooseKey strat ks` is the ranking value `hwloc_internal_cpukinds_rank` ends up with for HWLOC_CPUKINDS_RANKING =
`strat` (`C15_default_key` spells out the default), `none` = "failed to rank". -/

/-- After ANY history: one kind has efficiency 0; two or more kinds are STRICTLY sorted by the chosen ranking value
    and their efficiencies are their positions 0..nr-1, or — when no ranking value could be chosen — all -1. -/
theorem C15_ranking_sorted (strat : Strategy) (root : Nat) (h : List Op) :
    let ks := (run strat root h).kinds
    (ks.length = 1 → ∀ k ∈ ks, k.eff = 0) ∧
    (2 ≤ ks.length →
      match chooseKey strat ks with
      | some key => ks.Pairwise (fun a b => key a < key b) ∧
                    ∀ (i : Nat) (hi : i < ks.length), ks[i].eff = (i : Int)
      | none => ∀ k ∈ ks, k.eff = -1) :=
  run_ranked strat root h

/-- The ranking value of the default strategy: the forced efficiency when every kind has one and they are pairwise
    distinct; otherwise `(core type << 20) + frequency` (base frequency if every kind has one, else max frequency;
    `unsigned` arithmetic, `atoi` on the info values) when every kind has a core type, or every kind a max frequency,
    or every kind a base frequency, and these values are pairwise distinct; otherwise none. -/
theorem C15_default_key (ks : List Kind) :
    chooseKey .dflt ks =
      if (ks.all (fun k => decide (k.forced ≠ -1)) && dupFree (ks.map forcedKey)) = true then some forcedKey
      else
        let haveMax := ks.all (fun k => decide ((summarize k).maxFreq ≠ 0))
        let haveBase := ks.all (fun k => decide ((summarize k).baseFreq ≠ 0))
        let haveCT := ks.all (fun k => decide ((summarize k).coreType ≠ 0))
        if ((haveCT || haveMax || haveBase) && dupFree (ks.map (ctFreqKey haveBase))) = true
        then some (ctFreqKey haveBase) else none := by
  simp only [chooseKey, tryForced, tryInfo, List.all_map, Function.comp_def]
  by_cases hc : ((ks.all fun k => decide (k.forced ≠ -1)) && dupFree (List.map forcedKey ks)) = true
  · rw [if_pos hc, if_pos hc]
  · rw [if_neg hc, if_neg hc]

/-- The public efficiencies are EXACTLY `[0, 1, .., nr-1]` in array order, or exactly `[-1, .., -1]`; the latter iff
    there are at least two kinds and no ranking value could be chosen. -/
theorem C15_efficiency_values (strat : Strategy) (root : Nat) (h : List Op) :
    let ks := (run strat root h).kinds
    ((2 ≤ ks.length ∧ chooseKey strat ks = none) → ks.map (·.eff) = List.replicate ks.length (-1)) ∧
    (¬ (2 ≤ ks.length ∧ chooseKey strat ks = none) →
      ks.map (·.eff) = (List.range ks.length).map (fun (i : Nat) => (i : Int))) :=
  (run_ranked strat root h).effs

/-- every forced efficiency passed to a register call of the history fits a C `int` -/
def intForced : Op → Bool
  | .register _ f _ _ => decide (f < 2147483648)
  | _ => true

def intForcedE (p : EOp) : Bool := intForced p.2

/-- the forced efficiencies such a history stores are -1 or fit the ranking value's type -/
theorem runE_forced_range (root : Nat) (h : List EOp) (hI : h.all intForcedE = true) :
    ∀ k ∈ (runE root h).kinds, -1 ≤ k.forced ∧ k.forced < 18446744073709551616 := by
  apply runE_forced_P (fun x => -1 ≤ x ∧ x < 18446744073709551616) root h
  intro s cs f i fl hm
  have := List.all_eq_true.mp hI _ hm
  simp only [intForcedE, intForced, decide_eq_true_eq] at this
  split <;> omega

/-- P0 efficiency_shape, second half: under the default or the `forced_efficiency` strategy, when all
    forced efficiencies are known and pairwise distinct, efficiency = index and the forced efficiencies strictly
    increase with the index. -/
theorem C15_efficiency_forced_consistent (strat : Strategy) (hs : strat = .dflt ∨ strat = .forced)
    (root : Nat) (h : List Op) (hI : h.all intForced = true) :
    let ks := (run strat root h).kinds
    (∀ k ∈ ks, k.forced ≠ -1) → (ks.map (·.forced)).Pairwise (· ≠ ·) →
    (∀ (i : Nat) (hi : i < ks.length), ks[i].eff = (i : Int)) ∧ (ks.map (·.forced)).Pairwise (· < ·) := by
  intro ks hk hd
  have hb := runE_forced_range root (h.map fun o => (strat, o)) (by rw [List.all_map]; exact hI)
  rw [runE_const] at hb
  exact ranked_forced_consistent hs (run_ranked strat root h) hb hk hd

/-- `qsort` is modelled by insertion sort, but ANY permutation of the array that is sorted (even non-strictly) by the
    chosen ranking value gives the array the model computes: the ranking values are pairwise distinct whenever the
    sort is reached, so the sorting algorithm and its stability are not observable. -/
theorem C15_sort_algorithm_irrelevant (strat : Strategy) (ks ks' : List Kind) (key : Kind → Nat)
    (hk : chooseKey strat ks = some key) (h2 : 2 ≤ ks.length)
    (hp : ks'.Perm ks) (hs : ks'.Pairwise (fun a b => key a ≤ key b)) :
    rank strat ks = renumber 0 ks' ∧ dupFree (ks.map key) = true := by
  have hd := (chooseKey_some hk).2
  exact ⟨by rw [(rank_of_key hk).1, sorted_perm_unique key ks ks' hd hp hs], hd⟩

/-- When no ranking value can be chosen the array keeps its order (registration order: old kinds in place, split-off
    kinds appended in the order of the kinds they were split from, the uncovered rest last — `C15_register_algebra`);
    only the efficiencies are cleared. -/
theorem C15_unranked_keeps_order (strat : Strategy) (ks : List Kind) (h : chooseKey strat ks = none) :
    (rank strat ks).map (fun k => (k.cpuset, k.forced, k.infos)) = ks.map (fun k => (k.cpuset, k.forced, k.infos)) := by
  rcases Nat.lt_or_ge ks.length 2 with hl | hl
  · exact ((rank_spec strat ks).2.1 (Nat.le_of_lt_succ hl)).1
  · have H := (rank_spec strat ks).2.2 hl
    rw [h] at H
    rw [H]
    show (ks.map _).map _ = _
    rw [List.map_map]; rfl

/-- get_by_cpuset EXACTLY as documented, on every reachable state, for a non-empty set and zero flags: it returns
    index `j` iff the set lies inside kind `j` (and there is at most one such kind); -1/EXDEV iff the set meets some
    kind but lies inside none; -1/ENOENT iff it meets no kind. -/
theorem C15_by_cpuset_exact (strat : Strategy) (root : Nat) (h : List Op) (s : Nat) (hs : s ≠ 0) :
    let ks := (run strat root h).kinds
    let r := getByCpuset (run strat root h) (some s) 0
    (∀ j, r = .idx j ↔ ∃ hj : j < ks.length, Sub s ks[j].cpuset) ∧
    (r = .err .exdev ↔ (∃ k ∈ ks, Meets s k.cpuset) ∧ ∀ k ∈ ks, ¬ Sub s k.cpuset) ∧
    (r = .err .enoent ↔ ∀ k ∈ ks, ¬ Meets s k.cpuset) ∧
    (∀ (i j : Nat) (hi : i < ks.length) (hj : j < ks.length),
      Sub s ks[i].cpuset → Sub s ks[j].cpuset → i = j) := by
  intro ks r
  have H := (run_inv strat root h).k
  have ⟨h1, h2, h3, _⟩ := byCpusetLoop_exact s hs ks H.ne H.dj
  rw [show r = byCpusetLoop ks s 0 from getByCpuset_some _ hs]
  exact ⟨h1, h2, h3, fun i j hi hj => sub_unique H.dj hs i j hi hj⟩

/-! ## The algebra of registration and the refinement to  PU ↦ (forced efficiency, infos)

Abstract spec (`CpuKindsRefine.lean`): `AMap := PU → Option (forced efficiency × info list)`;
`AMap.reg m cs f infos` gives every PU of `cs` the cell `(f, addInfos (old infos or []) infos)` and leaves the others
alone; `AMap.restrict m r` drops the PUs outside `r`; `absRun root h` folds the successful calls of a history.
`Refines ks m`: every PU of every kind carries exactly that kind's (forced, infos), uncovered PUs have no cell. -/

/-- The register loop WITHOUT its loop: on a partition, `hwloc_internal_cpukinds_register` (any flags / forced
    efficiency / infos) classifies every old kind against the ORIGINAL cpuset — disjoint: untouched; wholly covered:
    infos merged, forced efficiency by the keep/overwrite rule; partly covered: shrunk, and its covered part appended
    as a new kind with the union of the infos and the NEW forced efficiency — then appends the uncovered rest. -/
theorem C15_register_algebra (st : State) (cs : Nat) (f : Int) (infos : List Info) (fl : Nat)
    (hcs : cs ≠ 0) (hfl : fl / 2 = 0) (hne : NonEmpty st.kinds) (hdj : Disjoint st.kinds) :
    (internalRegister st cs f infos fl).1.kinds =
      st.kinds.map (flatOld f infos (decide (fl % 2 = 1)) cs) ++
      (st.kinds.filterMap (flatNew f infos cs) ++
        (if flatRem cs st.kinds = 0 then [] else
          [{ cpuset := flatRem cs st.kinds, eff := -1, forced := f, infos := addInfos [] infos }])) :=
  internalRegister_kinds_flat st cs f infos fl hcs hfl hne hdj

/-- ONE internal registration with ANY flags refines the abstract update `AMap.regG`: infos as in `AMap.reg`; the
    forced efficiency of a covered PU becomes the new one unless (no OVERWRITE flag, a value is already known AND the
    PU's whole kind is covered). -/
theorem C15_internal_register_refines (st : State) (m : AMap) (hne : NonEmpty st.kinds) (hdj : Disjoint st.kinds)
    (hnd : InfosNodup st.kinds) (R : Refines st.kinds m)
    (cs : Nat) (f : Int) (infos : List Info) (fl : Nat) (hcs : cs ≠ 0) (hfl : fl / 2 = 0) :
    Refines (internalRegister st cs f infos fl).1.kinds
      (AMap.regG st.kinds (decide (fl % 2 = 1)) m cs f infos) :=
  internalRegister_refines hne hdj hnd R cs f infos fl hcs hfl

/-- with the OVERWRITE flag (the public call, XML import) the update is the plain per-PU `AMap.reg` -/
theorem C15_regG_overwrite (ks : List Kind) (m : AMap) (cs : Nat) (f : Int) (infos : List Info) :
    AMap.regG ks true m cs f infos = m.reg cs f infos := AMap.regG_true ks m cs f infos

/-- REFINEMENT over ALL histories (register with any cpuset / forced efficiency / infos / flags, restrict, dup, XML
    round trip, refresh; every strategy): the kinds array refines the abstract fold — read back PU by PU it IS the
    abstract map — and the root cpusets agree. -/
theorem C15_refinement (strat : Strategy) (root : Nat) (h : List Op) :
    Refines (run strat root h).kinds (absRun root h).map ∧
    (∀ p, cellAt (run strat root h).kinds p = (absRun root h).map p) ∧
    (absRun root h).root = (run strat root h).root :=
  ⟨(run_refines strat root h).1, cellAt_eq (run_refines strat root h).1, (run_refines strat root h).2⟩

/-- WHICH PUs share a kind, after ANY history: exactly those related by the abstract grouping `clRun` (register cs:
    two PUs of `cs` are together iff they were together or both uncovered, two PUs outside `cs` iff they were, one
    inside and one outside never; restrict: together iff they were and both survive).  Hence the cpuset of the kind
    containing `p` is `{q | same p q}`: with `C15_refinement` the kinds array is determined by the abstract state up
    to order, and with `C15_ranking_sorted` (when ranked) completely, efficiencies included. -/
theorem C15_kinds_are_classes (strat : Strategy) (root : Nat) (h : List Op) :
    (∀ p q, (∃ k ∈ (run strat root h).kinds, k.cpuset.testBit p = true ∧ k.cpuset.testBit q = true) ↔
      (clRun root h).same p q) ∧
    (∀ k ∈ (run strat root h).kinds, ∀ p, k.cpuset.testBit p = true →
      ∀ q, k.cpuset.testBit q = true ↔ (clRun root h).same p q) := by
  refine ⟨run_together strat root h, ?_⟩
  intro k hk p hp q
  rw [← run_together strat root h p q]
  exact ⟨fun hq => ⟨k, hk, hp, hq⟩, fun ⟨k', hk', hp', hq'⟩ => by
    rw [kind_unique (run_inv strat root h).k.dj hk hk' hp hp']; exact hq'⟩

/-- ONE internal registration with ANY flags regroups the PUs by `regSame` -/
theorem C15_internal_register_classes (st : State) (S : Same) (hne : NonEmpty st.kinds) (hdj : Disjoint st.kinds)
    (T : ∀ p q, Together st.kinds p q ↔ S p q)
    (cs : Nat) (f : Int) (infos : List Info) (fl : Nat) (hcs : cs ≠ 0) (hfl : fl / 2 = 0) :
    ∀ p q, Together (internalRegister st cs f infos fl).1.kinds p q ↔ regSame S cs p q :=
  internalRegister_together hne hdj T cs f infos fl hcs hfl

/-- restrict: whatever map the array refines, after `hwloc_topology_restrict` it refines the
    RESTRICTION of that map to the new root cpuset (unchanged when restrict fails with EINVAL). -/
theorem C15_restrict_refines (strat : Strategy) (st : State) (m : AMap) (R : Refines st.kinds m) (set : Nat) :
    Refines (restrict strat st set).1.kinds
      (if st.root &&& set = 0 then m else m.restrict (st.root &&& set)) := by
  unfold restrict
  split
  · exact R
  · exact (restrict_refines R _).transfer (restrictKinds_sameCore strat st _)

/-- Corollary (partition): the PUs covered by the kinds are exactly the domain of the abstract map, which is the
    reference coverage of `C15_kinds_partition` (union of registered cpusets, cut by every restrict). -/
theorem C15_partition_from_refinement (strat : Strategy) (root : Nat) (h : List Op) (p : Nat) :
    ((∃ k ∈ (run strat root h).kinds, k.cpuset.testBit p = true) ↔ (absRun root h).map p ≠ none) ∧
    ((absRun root h).map p ≠ none ↔ (runGhost root h).cov.testBit p = true) :=
  ⟨refines_covers (run_refines strat root h).1 p, ((absGhost_run root h).pu p).dom⟩

/-- Corollary (infos): `C15_kinds_infos` re-derived from the refinement — the info list of a kind is the info list of
    the abstract cell of each of its PUs, which is duplicate-free and contains exactly the owed pairs. -/
theorem C15_infos_from_refinement (strat : Strategy) (root : Nat) (h : List Op) :
    ∀ k ∈ (run strat root h).kinds, k.infos.Nodup ∧
      ∀ p, k.cpuset.testBit p = true → ∀ x, x ∈ k.infos ↔ (runGhost root h).ow p x := by
  intro k hk
  have R := (run_refines strat root h).1
  have G := absGhost_run root h
  obtain ⟨p0, hp0⟩ := Bits.ne_zero_iff.mp ((run_inv strat root h).k.ne k hk)
  exact ⟨(G.pu p0).nd k.fi (R.cell k hk p0 hp0), fun p hp x => (G.pu p).inf k.fi (R.cell k hk p hp) x⟩

/-- every forced efficiency stored in a kind is the (normalised: negative -> -1) forced efficiency of a register call
    of the history: any predicate true of all of those holds for every kind -/
theorem C15_forced_from_history (P : Int → Prop) (strat : Strategy) (root : Nat) (h : List Op)
    (hP : ∀ cs f i fl, Op.register cs f i fl ∈ h → P (if f < 0 then -1 else f)) :
    ∀ k ∈ (run strat root h).kinds, P k.forced :=
  run_forced_P P strat root h hP

/-- Ranking and refinement together, PU by PU: when a ranking value `key` was chosen, the efficiencies of the kinds
    of two PUs compare as the ranking values of their ABSTRACT cells. -/
theorem C15_efficiency_order_by_cells (strat : Strategy) (root : Nat) (h : List Op) (key : Kind → Nat)
    (h2 : 2 ≤ (run strat root h).kinds.length) (hk : chooseKey strat (run strat root h).kinds = some key)
    (i j : Nat) (hi : i < (run strat root h).kinds.length) (hj : j < (run strat root h).kinds.length)
    (p q : Nat) (cp cq : Cell)
    (hp : (run strat root h).kinds[i].cpuset.testBit p = true)
    (hq : (run strat root h).kinds[j].cpuset.testBit q = true)
    (hcp : (absRun root h).map p = some cp) (hcq : (absRun root h).map q = some cq) :
    (run strat root h).kinds[i].eff = (i : Int) ∧ (run strat root h).kinds[j].eff = (j : Int) ∧
    (i < j ↔ key (ofFI cp) < key (ofFI cq)) :=
  eff_order_by_cells (run_ranked strat root h) (run_refines strat root h).1 hk i j hi hj p q cp cq hp hq hcp hcq

/-- Finding (internal entry point, flags = 0 as used by the windows / x86 / linux / darwin backends): the rule "keep
    the first known forced efficiency" is applied only when the registered cpuset covers a whole kind.  When it covers
    a kind partly, the split-off kind takes the new value even if that is UNKNOWN: here PUs {0,1} have forced
    efficiency 5, a second backend registers PU {0} with UNKNOWN and no OVERWRITE flag, and PU 0 ends with -1;
    registering {0,1} instead keeps 5.  (Confirmed on the C code with a direct call.) -/
theorem C15_finding_split_drops_forced :
    let st0 : State := (internalRegister {} 0x3 5 [] 0).1
    ((internalRegister st0 0x1 (-1) [("CoreType", "IntelAtom")] 0).1.kinds.map (fun k => (k.cpuset, k.forced))
        = [(0x2, 5), (0x1, -1)]) ∧
    ((internalRegister st0 0x3 (-1) [("CoreType", "IntelAtom")] 0).1.kinds.map (fun k => (k.cpuset, k.forced))
        = [(0x3, 5)]) := by
  decide +kernel

/-! ## Disallowed PUs (HWLOC_TOPOLOGY_FLAG_INCLUDE_DISALLOWED + hwloc_topology_allow)

`Hw.Attr.CpuKindsAllowed`: `TState` adds the flag and `topology->allowed_cpuset` to the cpukinds state, `allow` is
`hwloc_topology_allow(topology, cpuset, NULL, flags)`, `restrictT` is `hwloc_topology_restrict` (refused iff the set
misses the ALLOWED cpuset; root and allowed are both cut by the set; kinds are cut by the NEW ROOT), `runT` runs
histories of register / restrict / dup / XML / refresh / allow.  "Intersected with the topology after a restrict" in
the property means the root cpuset: a PU that is disallowed but still in the topology stays in its kind. -/

/-- restrict: every kind's cpuset is cut by the NEW ROOT cpuset `root ∩ set` and emptied kinds are dropped — the result
    (cpuset, forced efficiency, infos of every kind; up to the re-ranking order) does not mention the allowed cpuset,
    which is merely cut by the set as well. -/
theorem C15_restrict_cuts_by_root (strat : Strategy) (t : TState) (set : Nat) (h : t.allowed &&& set ≠ 0) :
    SameCore ((t.st.kinds.map (fun k => { k with cpuset := k.cpuset &&& (t.st.root &&& set) })).filter
               (fun k => decide (k.cpuset ≠ 0)))
             (restrictT strat t set).1.st.kinds ∧
    (restrictT strat t set).1.st.root = t.st.root &&& set ∧
    (restrictT strat t set).1.allowed = t.allowed &&& set :=
  restrictT_kinds strat t set h

/-- PU by PU: after a successful restrict a PU belongs to some kind iff it did before and it is still in the topology
    (new root cpuset) — allowed or not. -/
theorem C15_restrict_covers (strat : Strategy) (t : TState) (set : Nat) (h : t.allowed &&& set ≠ 0) (p : Nat) :
    (∃ k ∈ (restrictT strat t set).1.st.kinds, k.cpuset.testBit p = true) ↔
      (∃ k ∈ t.st.kinds, k.cpuset.testBit p = true) ∧ (t.st.root &&& set).testBit p = true :=
  restrictT_covers strat t set h p

/-- two topologies with the same kinds and root cpuset but DIFFERENT allowed cpusets (both met by the set) have the same
    kinds and root cpuset after the restrict; a set that misses the allowed cpuset is refused and nothing moves. -/
theorem C15_restrict_independent_of_allowed (strat : Strategy) (t1 t2 : TState) (set : Nat) (hst : t1.st = t2.st)
    (h1 : t1.allowed &&& set ≠ 0) (h2 : t2.allowed &&& set ≠ 0) :
    (restrictT strat t1 set).1.st = (restrictT strat t2 set).1.st ∧
    (∀ t : TState, t.allowed &&& set = 0 → restrictT strat t set = (t, .einval)) := by
  refine ⟨?_, fun t h => by simp [restrictT, h]⟩
  simp only [restrictT, if_neg h1, if_neg h2, hst]

/-- hwloc_topology_allow — whatever its arguments and outcome — leaves the kinds array, the root cpuset and the flag
    alone; without INCLUDE_DISALLOWED it is refused. -/
theorem C15_allow_keeps_kinds (t : TState) (cs : Option Nat) (fl : Nat) :
    (allow t cs fl).1.st = t.st ∧ (allow t cs fl).1.inclDis = t.inclDis ∧
    (t.inclDis = false → allow t cs fl = (t, .einval)) :=
  have ⟨a, e, _⟩ := allow_fst t cs fl
  ⟨allow_st t cs fl, by rw [e], fun h => by simp [allow, h]⟩

/-- after ANY history with allow calls: allowed ⊆ root, equal without the flag, non-empty on a non-empty topology
    (hence a restrict accepted by the allowed-cpuset test never empties the topology). -/
theorem C15_allowed_within_root (strat : Strategy) (root : Nat) (d : Bool) (h : List TOp) :
    let t := runT strat root d h
    t.allowed &&& t.st.root = t.allowed ∧ (t.inclDis = false → t.allowed = t.st.root) ∧
    (t.st.root ≠ 0 → t.allowed ≠ 0) :=
  let W := runT_wf strat root d h
  ⟨W.sub, W.eq, W.ne⟩

/-- histories with INCLUDE_DISALLOWED and allow calls reduce to plain histories: the cpukinds state after `h` is the
    state after `traceT .. h` (allow calls erased, restricts refused for missing the allowed cpuset turned into refused
    restricts), so EVERY theorem of this file about `run` holds for `runT`. -/
theorem C15_allow_history_reduces (strat : Strategy) (root : Nat) (d : Bool) (h : List TOp) :
    (runT strat root d h).st = run strat root (traceT strat (tinit root d) h) :=
  runT_eq_run strat root d h

/-- e.g. the partition: non-empty, pairwise disjoint kinds whose union is the reference coverage of the reduced history
    (registered PUs cut by the ROOT cpuset of every successful restrict). -/
theorem C15_kinds_partition_disallowed (strat : Strategy) (root : Nat) (d : Bool) (h : List TOp) :
    let ks := (runT strat root d h).st.kinds
    let g := runGhost root (traceT strat (tinit root d) h)
    (∀ k ∈ ks, k.cpuset ≠ 0) ∧ ks.Pairwise (fun a b => a.cpuset &&& b.cpuset = 0) ∧
    (∀ p, (∃ k ∈ ks, k.cpuset.testBit p = true) ↔ g.cov.testBit p = true) ∧
    g.root = (runT strat root d h).st.root := by
  intro ks g
  have e := runT_eq_run strat root d h
  have P := C15_kinds_partition strat root (traceT strat (tinit root d) h)
  simp only [ks, g, e]
  exact P

/-! non-vacuity (the scenario of corpus/cpukinds/C15-r2-restrict-keeps-disallowed-pus.txt and a refused restrict) -/
example :
    let t := runT .dflt 0xff true [.allow (some 0x3f) 4, .op (.register (some 0x0f) 10 [] 0),
                                   .op (.register (some 0xf0) 20 [] 0), .op (.restrict 0xfc)]
    (t.st.kinds.map (fun k => (k.cpuset, k.eff)), t.st.root, t.allowed) = ([(0x0c, 0), (0xf0, 1)], 0xfc, 0x3c) := by
  decide +kernel
example :
    let t := runT .dflt 0xff true [.allow (some 0x3f) 4, .op (.register (some 0xf0) 20 [] 0)]
    t.allowed &&& 0xc0 = 0 ∧ (restrictT .dflt t 0xc0).2 = .einval ∧ (restrict .dflt t.st 0xc0).2 = .ok := by
  decide +kernel
example :
    (traceT .dflt (tinit 0xff true) [.allow (some 0x3f) 4, .op (.register (some 0xf0) 20 [] 0), .op (.restrict 0xc0),
                                     .allow none 1, .op (.restrict 0xc0)]).map
        (fun o => match o with | .restrict s => some s | _ => none) = [none, some 0, some 0xc0] := by
  decide +kernel

/-! non-vacuity: a concrete history with a split, a merge, a restrict that removes a kind, and a ranking -/
example :
    (run .dflt 0xfff [.register (some 0x0f) 2 [("CoreType", "IntelCore")] 0,
                      .register (some 0x3c) 1 [("Foo", "x")] 0,
                      .register (some 0x30) 0 [] 0,
                      .restrict 0xffc, .xml]).kinds.map (fun k => (k.cpuset, k.eff, k.forced)) =
      [(0x30, 0, 0), (0x0c, 1, 1)] := by decide +kernel
example :
    getByCpuset (run .dflt 0xfff [.register (some 0x0f) 2 [] 0, .register (some 0x3c) 1 [] 0]) (some 0x18) 0
      = .err .exdev := by decide +kernel
example :
    getByCpuset (run .dflt 0xfff [.register (some 0x0f) 2 [] 0, .register (some 0x3c) 1 [] 0]) (some 0x30) 0
      = .idx 2 := by decide +kernel

/-! non-vacuity of the ranking and refinement theorems -/
-- ranked by forced efficiency: hypotheses of `C15_efficiency_forced_consistent` hold on a 3-kind state
example :
    let h : List Op := [.register (some 0x0f) 2 [] 0, .register (some 0x3c) 1 [] 0, .register (some 0x30) 0 [] 0]
    let ks := (run .dflt 0xfff h).kinds
    h.all intForced = true ∧ (∀ k ∈ ks, k.forced ≠ -1) ∧ (ks.map (·.forced)).Pairwise (· ≠ ·) ∧
    ks.map (fun k => (k.cpuset, k.eff, k.forced)) = [(0x30, 0, 0), (0x0c, 1, 1), (0x03, 2, 2)] := by decide +kernel
-- ranked by core type + frequency (no forced efficiency): a key is chosen and the array is sorted by it
example :
    let ks := (run .dflt 0xff [.register (some 0x0f) (-1) [("CoreType", "IntelCore"), ("FrequencyBaseMHz", "3000")] 0,
                               .register (some 0xf0) (-1) [("CoreType", "IntelAtom"), ("FrequencyBaseMHz", "2000")] 0]).kinds
    (chooseKey .dflt ks).isSome = true ∧ ks.map (fun k => (k.cpuset, k.eff, ctFreqKey true k)) =
      [(0xf0, 0, 1050576), (0x0f, 1, 2100152)] := by decide +kernel
-- unranked: two kinds without any usable information
example :
    let ks := (run .dflt 0xff [.register (some 0x0f) (-1) [] 0, .register (some 0xf0) (-1) [] 0]).kinds
    (chooseKey .dflt ks).isNone = true ∧ ks.map (·.eff) = [-1, -1] := by decide +kernel
-- the abstract map of a history with a split, a merge and a restrict
example :
    let h : List Op := [.register (some 0x0f) 2 [("A", "1")] 0, .register (some 0x3c) 1 [("B", "2"), ("A", "1")] 0,
                        .restrict 0x3e]
    ((List.range 7).map (absRun 0xff h).map) =
      [none, some (2, [("A", "1")]), some (1, [("A", "1"), ("B", "2")]), some (1, [("A", "1"), ("B", "2")]),
       some (1, [("B", "2"), ("A", "1")]), some (1, [("B", "2"), ("A", "1")]), none] ∧
    ((List.range 7).map (cellAt (run .dflt 0xff h).kinds)) = ((List.range 7).map (absRun 0xff h).map) := by decide +kernel
-- the hypotheses of `C15_register_algebra` / `C15_internal_register_refines` hold on a non-trivial state
example :
    let st := run .dflt 0xff [.register (some 0x0f) 2 [("A", "1")] 0, .register (some 0x3c) 1 [("B", "2")] 0]
    st.kinds.length = 3 ∧ (∀ k ∈ st.kinds, k.cpuset ≠ 0) ∧
    st.kinds.Pairwise (fun a b => a.cpuset &&& b.cpuset = 0) ∧ (∀ k ∈ st.kinds, k.infos.Nodup) := by decide +kernel

/-! ## `hwloc_internal_cpukinds_rank` on EVERY array under EVERY strategy, and histories in which
       HWLOC_CPUKINDS_RANKING changes between the calls (DESIGN.md §11.39-A7)

`Hw.Attr.CpuKindsRank` (`rank_spec`, `Sel`, `runET`), `Hw.Attr.CpuKindsStrategies`.  The theorems above are about reachable
states and one fixed strategy; the C function is total on kinds arrays and reads the environment variable in every call, so here (a) `rank` is characterised on every
array (no reachability hypothesis), (b) the choice of the ranking value is stated as propositions (`Sel`), strategy by
strategy, (c) histories carry a strategy per call (`EOp = Strategy × Op`, `runE`). -/

/-- General shape, EVERY array and EVERY strategy: the output of `hwloc_internal_cpukinds_rank` is a permutation of
    its input as far as (cpuset, forced efficiency, infos) go, and its efficiencies are all -1 or efficiency i = i
    (a permutation of 0..nr-1 increasing with the kind index). -/
theorem C15_rank_shape (strat : Strategy) (ks : List Kind) :
    ((rank strat ks).map (fun k => (k.cpuset, k.forced, k.infos))).Perm (ks.map (fun k => (k.cpuset, k.forced, k.infos))) ∧
    ((∀ k ∈ rank strat ks, k.eff = -1) ∨
     (∀ (i : Nat) (hi : i < (rank strat ks).length), (rank strat ks)[i].eff = (i : Int))) :=
  ⟨rank_sameCore strat ks, (rank_ranked strat ks).effShape⟩

/-- EVERY array, EVERY strategy, exactly: at most one kind — efficiency 0; otherwise, with a ranking value chosen the
    result IS the array sorted by it and renumbered (strictly sorted: the values are pairwise distinct), with none
    chosen it is the input array in the input order with all efficiencies -1. -/
theorem C15_rank_spec (strat : Strategy) (ks : List Kind) :
    (ks.length ≤ 1 → (rank strat ks).map (fun k => (k.cpuset, k.forced, k.infos)) =
        ks.map (fun k => (k.cpuset, k.forced, k.infos)) ∧ ∀ k ∈ rank strat ks, k.eff = 0) ∧
    (2 ≤ ks.length →
      match chooseKey strat ks with
      | some key => rank strat ks = renumber 0 (sortBy key ks) ∧
                    (rank strat ks).Pairwise (fun a b => key a < key b) ∧ dupFree (ks.map key) = true ∧
                    (∀ (i : Nat) (hi : i < (rank strat ks).length), (rank strat ks)[i].eff = (i : Int))
      | none => rank strat ks = clearEff ks) :=
  (rank_spec strat ks).2

/-- EVERY kinds array in which all forced efficiencies are known (≠ -1; ≥ -1 and below 2^64 — the C field is an
    `int` and the public entry point stores -1 for every negative value) and pairwise distinct: after
    `hwloc_internal_cpukinds_rank` under the default or the `forced_efficiency` strategy the kinds are a permutation of
    the input, kind index order = strictly increasing forced efficiency, reported efficiency i = i, and for two or more
    kinds the array is the input sorted by forced efficiency. -/
theorem C15_rank_consistent_with_forced (strat : Strategy) (hs : strat = .dflt ∨ strat = .forced) (ks : List Kind)
    (hb : ∀ k ∈ ks, -1 ≤ k.forced ∧ k.forced < 18446744073709551616)
    (hk : ∀ k ∈ ks, k.forced ≠ -1) (hd : (ks.map (·.forced)).Pairwise (· ≠ ·)) :
    ((rank strat ks).map (fun k => (k.cpuset, k.forced, k.infos))).Perm (ks.map (fun k => (k.cpuset, k.forced, k.infos))) ∧
    ((rank strat ks).map (·.forced)).Pairwise (· < ·) ∧
    (∀ (i : Nat) (hi : i < (rank strat ks).length), (rank strat ks)[i].eff = (i : Int)) ∧
    (2 ≤ ks.length → rank strat ks = renumber 0 (sortBy forcedKey ks)) :=
  rank_consistent_with_forced hs ks hb hk hd

/-- the converse for the `forced_efficiency` strategy: one unknown or two equal forced efficiencies among two or more
    kinds — nothing is reordered and every efficiency is -1 -/
theorem C15_forced_strategy_fails (ks : List Kind) (h2 : 2 ≤ ks.length)
    (hb : ∀ k ∈ ks, -1 ≤ k.forced ∧ k.forced < 18446744073709551616)
    (h : (∃ k ∈ ks, k.forced = -1) ∨ ¬ (ks.map (·.forced)).Pairwise (· ≠ ·)) :
    rank .forced ks = clearEff ks :=
  rank_forced_fails ks h2 hb h

/-- WHICH ranking value each value of HWLOC_CPUKINDS_RANKING selects (`Sel s ks key`), spelled out.  `ForcedOK`: every
    forced efficiency known and the values pairwise distinct; `HaveCT / HaveMax / HaveBase`: EVERY kind has a recognised
    CoreType / a non-zero FrequencyMaxMHz / a non-zero FrequencyBaseMHz summary; the frequency part of a value is the base
    frequency iff every kind has one (`haveBaseB`). -/
theorem C15_strategy_table (ks : List Kind) (key : Kind → Nat) :
    (Sel .dflt ks key ↔ (ForcedOK ks ∧ key = forcedKey) ∨
        (¬ ForcedOK ks ∧ ((HaveCT ks ∨ HaveMax ks ∨ HaveBase ks) ∧ (ks.map (ctFreqKey (haveBaseB ks))).Nodup) ∧
          key = ctFreqKey (haveBaseB ks))) ∧
    (Sel .noForced ks key ↔ ((HaveCT ks ∨ HaveMax ks ∨ HaveBase ks) ∧ (ks.map (ctFreqKey (haveBaseB ks))).Nodup) ∧
          key = ctFreqKey (haveBaseB ks)) ∧
    (Sel .forced ks key ↔ ForcedOK ks ∧ key = forcedKey) ∧
    (Sel .coretypeFreq ks key ↔ ((HaveCT ks ∨ HaveMax ks ∨ HaveBase ks) ∧ (ks.map (ctFreqKey (haveBaseB ks))).Nodup) ∧
          key = ctFreqKey (haveBaseB ks)) ∧
    (Sel .coretypeFreqStrict ks key ↔ ((HaveCT ks ∧ (HaveMax ks ∨ HaveBase ks)) ∧
          (ks.map (ctFreqKey (haveBaseB ks))).Nodup) ∧ key = ctFreqKey (haveBaseB ks)) ∧
    (Sel .coretype ks key ↔ (HaveCT ks ∧ (ks.map ctKey).Nodup) ∧ key = ctKey) ∧
    (Sel .frequency ks key ↔ ((HaveMax ks ∨ HaveBase ks) ∧ (ks.map (freqKey (haveBaseB ks))).Nodup) ∧
          key = freqKey (haveBaseB ks)) ∧
    (Sel .freqMax ks key ↔ (HaveMax ks ∧ (ks.map (freqKey false)).Nodup) ∧ key = freqKey false) ∧
    (Sel .freqBase ks key ↔ (HaveBase ks ∧ (ks.map (freqKey true)).Nodup) ∧ key = freqKey true) ∧
    (Sel .none ks key ↔ False) :=
  ⟨Iff.rfl, Iff.rfl, Iff.rfl, Iff.rfl, Iff.rfl, Iff.rfl, Iff.rfl, Iff.rfl, Iff.rfl, Iff.rfl⟩

/-- the model's choice IS that table: `chooseKey s ks = some key ↔ Sel s ks key`, and no value is chosen iff the table
    selects none -/
theorem C15_strategy_selects (s : Strategy) (ks : List Kind) :
    (∀ key, chooseKey s ks = some key ↔ Sel s ks key) ∧ (chooseKey s ks = none ↔ ∀ key, ¬ Sel s ks key) :=
  ⟨chooseKey_iff_sel s ks, chooseKey_none_iff s ks⟩

/-- the resulting order for EVERY strategy on EVERY array of two or more kinds: when the strategy selects a ranking value
    the result is the input sorted by it (strictly: the values are pairwise distinct) and renumbered 0..nr-1; when it
    selects none (requirement not met, or two kinds with the same value) the array is untouched and every efficiency is -1. -/
theorem C15_rank_by_strategy (s : Strategy) (ks : List Kind) (h2 : 2 ≤ ks.length) :
    (∀ key, Sel s ks key →
      rank s ks = renumber 0 (sortBy key ks) ∧ (rank s ks).Pairwise (fun a b => key a < key b) ∧ (ks.map key).Nodup ∧
      (∀ (i : Nat) (hi : i < (rank s ks).length), (rank s ks)[i].eff = (i : Int))) ∧
    ((∀ key, ¬ Sel s ks key) → rank s ks = clearEff ks) :=
  rank_by_strategy s ks h2

/-- the summaries the info-based strategies look at: the LAST FrequencyMaxMHz / FrequencyBaseMHz pair of the kind through
    `(unsigned) atoi`, 0 without such a pair; the last CoreType pair that says IntelAtom (1) / IntelCore (2), 0 without -/
theorem C15_info_summary (k : Kind) :
    (summarize k).maxFreq = freqOf (lastVal "FrequencyMaxMHz" k.infos) ∧
    (summarize k).baseFreq = freqOf (lastVal "FrequencyBaseMHz" k.infos) ∧
    (summarize k).coreType = lastCoreType k.infos :=
  summarize_spec k

/-- the strcmp chain on the value of HWLOC_CPUKINDS_RANKING: unset, `default` and an unrecognised value all mean the
    default strategy -/
theorem C15_env_values :
    parseEnv none = .dflt ∧ parseEnv (some "default") = .dflt ∧ parseEnv (some "bogus_value") = .dflt ∧
    parseEnv (some "") = .dflt ∧ parseEnv (some "no_forced_efficiency") = .noForced ∧
    parseEnv (some "forced_efficiency") = .forced ∧ parseEnv (some "coretype+frequency") = .coretypeFreq ∧
    parseEnv (some "coretype+frequency_strict") = .coretypeFreqStrict ∧ parseEnv (some "coretype") = .coretype ∧
    parseEnv (some "frequency") = .frequency ∧ parseEnv (some "frequency_max") = .freqMax ∧
    parseEnv (some "frequency_base") = .freqBase ∧ parseEnv (some "none") = .none := by
  decide +kernel

/-- histories in which HWLOC_CPUKINDS_RANKING changes between the calls (`EOp` = strategy in force × call): the
    partition / coverage / infos / capacity / efficiency-shape invariant holds against the SAME reference semantics
    (which never mentions a strategy), and a constant strategy gives back `run`. -/
theorem C15_env_history_invariant (root : Nat) (h : List EOp) :
    let ks := (runE root h).kinds
    let g := runGhost root (h.map (·.2))
    (∀ k ∈ ks, k.cpuset ≠ 0) ∧ ks.Pairwise (fun a b => a.cpuset &&& b.cpuset = 0) ∧
    (∀ p, (∃ k ∈ ks, k.cpuset.testBit p = true) ↔ g.cov.testBit p = true) ∧
    (∀ k ∈ ks, k.infos.Nodup ∧ ∀ p, k.cpuset.testBit p = true → ∀ x, x ∈ k.infos ↔ g.ow p x) ∧
    ((∀ k ∈ ks, k.eff = -1) ∨ (∀ (i : Nat) (hi : i < ks.length), ks[i].eff = (i : Int))) ∧
    (∀ strat (h0 : List Op), runE root (h0.map (fun o => (strat, o))) = run strat root h0) :=
  let H := runE_inv root h
  ⟨H.k.ne, H.k.dj, H.k.cov, fun k hk => ⟨H.k.nd k hk, H.k.inf k hk⟩, H.eff, fun strat h0 => runE_const strat root h0⟩

/-- after ANY history with changing strategies the array is ranked with respect to the strategy `tag` that was in force
    at the last call that ran `hwloc_internal_cpukinds_rank` on it (successful register, XML reload, refresh, restrict that
    dropped a kind): one kind — efficiency 0; two or more — strictly sorted by the value `tag` selects with efficiency
    i = i, or all -1 when `tag` selects none. -/
theorem C15_env_history_ranked (root : Nat) (h : List EOp) :
    let ks := (runE root h).kinds
    let tag := (runET root h).2
    (ks.length = 1 → ∀ k ∈ ks, k.eff = 0) ∧
    (2 ≤ ks.length →
      match chooseKey tag ks with
      | some key => ks.Pairwise (fun a b => key a < key b) ∧ ∀ (i : Nat) (hi : i < ks.length), ks[i].eff = (i : Int)
      | none => ∀ k ∈ ks, k.eff = -1) :=
  runE_ranked root h

/-- consistency with the forced efficiencies over histories with changing strategies: whenever the last ranking call
    ran under the default or the `forced_efficiency` strategy and all forced efficiencies are known and pairwise
    distinct, efficiency = index and the forced efficiencies strictly increase with the index. -/
theorem C15_rank_consistent_with_forced_history (root : Nat) (h : List EOp) (hI : h.all intForcedE = true)
    (ht : (runET root h).2 = .dflt ∨ (runET root h).2 = .forced) :
    let ks := (runE root h).kinds
    (∀ k ∈ ks, k.forced ≠ -1) → (ks.map (·.forced)).Pairwise (· ≠ ·) →
    (∀ (i : Nat) (hi : i < ks.length), ks[i].eff = (i : Int)) ∧ (ks.map (·.forced)).Pairwise (· < ·) :=
  ranked_forced_consistent ht (runE_ranked root h) (runE_forced_range root h hI)

/-- ... in particular for every history that ENDS in a call that ranks under one of these two strategies, whatever the
    strategies of the earlier calls were -/
theorem C15_rank_consistent_with_forced_after_rank (root : Nat) (h : List EOp) (p : EOp)
    (hI : (h ++ [p]).all intForcedE = true) (hr : ranks (runE root h) p = true) (hs : p.1 = .dflt ∨ p.1 = .forced) :
    let ks := (stepE (runE root h) p).kinds
    (∀ k ∈ ks, k.forced ≠ -1) → (ks.map (·.forced)).Pairwise (· ≠ ·) →
    (∀ (i : Nat) (hi : i < ks.length), ks[i].eff = (i : Int)) ∧ (ks.map (·.forced)).Pairwise (· < ·) := by
  have L := runET_last root h p hr
  have H := C15_rank_consistent_with_forced_history root (h ++ [p]) hI (by rw [L.1]; exact hs)
  rw [← runET_fst, L.2] at H
  exact H

/-- the refinement to the abstract map PU ↦ (forced efficiency, infos) is strategy-blind too -/
theorem C15_env_history_refinement (root : Nat) (h : List EOp) :
    Refines (runE root h).kinds (absRun root (h.map (·.2))).map ∧
    (absRun root (h.map (·.2))).root = (runE root h).root :=
  runE_refines root h

/-- env-switching histories on INCLUDE_DISALLOWED topologies with `hwloc_topology_allow` calls mixed in reduce to plain
    env-switching histories (allow calls erased, restricts refused for missing the allowed cpuset turned into refused
    restricts, every call keeps its strategy): every `runE` / `runET` theorem above holds for `runTE`. -/
theorem C15_env_allow_history_reduces (root : Nat) (d : Bool) (h : List ETOp) :
    (runTE root d h).st = runE root (traceTE (tinit root d) h) :=
  runTE_eq_runE root d h

/-- e.g. the ranking: after ANY such history the array is ranked w.r.t. the strategy of the last ranking call -/
theorem C15_env_allow_history_ranked (root : Nat) (d : Bool) (h : List ETOp) :
    Ranked (runET root (traceTE (tinit root d) h)).2 (runTE root d h).st.kinds := by
  rw [runTE_eq_runE]
  exact runE_ranked root _

/-- the C comment "rank first by coretype (Core >> Atom) then by frequency" holds as long as the frequency summaries stay
    below 2^20 MHz: the value `(intel_core_type << 20) + freq` then compares kinds lexicographically by (core type,
    frequency); the core-type summary is at most 2. -/
theorem C15_coretype_frequency_lexicographic (hb : Bool) (a b : Kind)
    (ha : freqKey hb a < 1048576) (hb' : freqKey hb b < 1048576) :
    (ctFreqKey hb a < ctFreqKey hb b ↔
      (summarize a).coreType < (summarize b).coreType ∨
      ((summarize a).coreType = (summarize b).coreType ∧ freqKey hb a < freqKey hb b)) ∧
    (summarize a).coreType ≤ 2 :=
  ⟨ctFreqKey_lex hb a b ha hb', summarize_coreType_le a⟩

/-- the cross-check the driver performs after every line of the differential run never fails on the model -/
theorem C15_driver_crosscheck (root : Nat) (h : List EOp) :
    specOK (runET root h).2 (runET root h).1.kinds = true :=
  runET_specOK root h

/-- the direct call on ANY state (harness op `rawrank`, after the private writes of `rawset` / `rawswap` made an array no
    history reaches): a permutation of the array, ranked w.r.t. the strategy in force -/
theorem C15_direct_rank (strat : Strategy) (st : State) :
    ((rawRank strat st).kinds.map (fun k => (k.cpuset, k.forced, k.infos))).Perm
        (st.kinds.map (fun k => (k.cpuset, k.forced, k.infos))) ∧
    Ranked strat (rawRank strat st).kinds :=
  ⟨rank_sameCore strat st.kinds, rank_ranked strat st.kinds⟩

/-- forced efficiencies over the whole range of a C `int` (the internal entry point and private writes can store negative
    values other than -1; the public call cannot): known and pairwise distinct — the default and `forced_efficiency`
    strategies sort by the `uint64_t` cast `ukey` (non-negative values in increasing order, then the negative ones) -/
theorem C15_rank_forced_int_range (strat : Strategy) (hs : strat = .dflt ∨ strat = .forced) (ks : List Kind)
    (h2 : 2 ≤ ks.length) (hb : ∀ k ∈ ks, -9223372036854775808 ≤ k.forced ∧ k.forced < 9223372036854775808)
    (hk : ∀ k ∈ ks, k.forced ≠ -1) (hd : (ks.map (·.forced)).Pairwise (· ≠ ·)) :
    rank strat ks = renumber 0 (sortBy forcedKey ks) ∧
    (rank strat ks).Pairwise (fun a b => ukey a.forced < ukey b.forced) ∧
    (∀ (i : Nat) (hi : i < (rank strat ks).length), (rank strat ks)[i].eff = (i : Int)) := by
  have R := rank_of_key (chooseKey_forced hs ((forcedOK_iff_int ks hb).mpr ⟨hk, hd⟩))
  have hb' : ∀ k ∈ rank strat ks, -9223372036854775808 ≤ k.forced ∧ k.forced < 9223372036854775808 := fun k hk => by
    obtain ⟨k0, h0, e⟩ := rank_forced_mem strat ks k hk; rw [e]; exact hb k0 h0
  refine ⟨R.1, R.2.1.imp_of_mem fun {a b} ha hbm hlt => ?_, R.2.2⟩
  rwa [forcedKey_int a (hb' a ha), forcedKey_int b (hb' b hbm)] at hlt

/-- failure of the info-based strategies, EVERY array of two or more kinds: when the requirement of the strategy's row in
    `C15_strategy_table` is not met the array is untouched and every efficiency is -1 (`no_forced_efficiency` has the
    requirement of `coretype+frequency`) -/
theorem C15_info_strategy_fails (s : Strategy) (hs : s ≠ .dflt ∧ s ≠ .forced) (ks : List Kind) (h2 : 2 ≤ ks.length)
    (hn : ¬ Need (if s = .noForced then .coretypeFreq else s) ks) : rank s ks = clearEff ks :=
  rank_info_fails s hs ks h2 hn

/-- non-numeric info values: a kind whose LAST FrequencyMaxMHz (FrequencyBaseMHz) value, after white space, is empty or
    starts with neither a sign nor a digit — `atoi` answers 0 — or which has no such pair, makes `frequency_max`
    (`frequency_base`) fail for the whole array -/
theorem C15_nonnumeric_frequency_fails (ks : List Kind) (h2 : 2 ≤ ks.length) (k : Kind) (hk : k ∈ ks) :
    ((lastVal "FrequencyMaxMHz" k.infos = none ∨ ∃ v, lastVal "FrequencyMaxMHz" k.infos = some v ∧ NonNumeric v) →
      rank .freqMax ks = clearEff ks) ∧
    ((lastVal "FrequencyBaseMHz" k.infos = none ∨ ∃ v, lastVal "FrequencyBaseMHz" k.infos = some v ∧ NonNumeric v) →
      rank .freqBase ks = clearEff ks) := by
  constructor
  · intro h
    apply rank_info_fails .freqMax ⟨by decide, by decide⟩ ks h2
    intro hm
    apply hm k hk
    rw [(summarize_spec k).1]
    exact freqOf_lastVal_zero h
  · intro h
    apply rank_info_fails .freqBase ⟨by decide, by decide⟩ ks h2
    intro hm
    apply hm k hk
    rw [(summarize_spec k).2.1]
    exact freqOf_lastVal_zero h

/-! non-vacuity of the theorems of this section -/
-- `C15_rank_consistent_with_forced`: an array that is NOT reachable (overlapping cpusets, stale efficiencies) meets the
-- hypotheses and is reordered
example :
    let ks : List Kind := [{ cpuset := 0x3, eff := 7, forced := 20, infos := [] },
                           { cpuset := 0x6, eff := -1, forced := 0, infos := [("CoreType", "IntelCore")] },
                           { cpuset := 0x8, eff := 0, forced := 2147483647, infos := [] }]
    (∀ k ∈ ks, -1 ≤ k.forced ∧ k.forced < 18446744073709551616) ∧ (∀ k ∈ ks, k.forced ≠ -1) ∧
    (ks.map (·.forced)).Pairwise (· ≠ ·) ∧
    (rank .dflt ks).map (fun k => (k.cpuset, k.eff, k.forced)) = [(0x6, 0, 0), (0x3, 1, 20), (0x8, 2, 2147483647)] := by
  decide +kernel
-- `C15_forced_strategy_fails`: a tie
example :
    let ks : List Kind := [{ cpuset := 0x3, eff := 0, forced := 5, infos := [] },
                           { cpuset := 0xc, eff := 1, forced := 5, infos := [] }]
    2 ≤ ks.length ∧ (∀ k ∈ ks, -1 ≤ k.forced ∧ k.forced < 18446744073709551616) ∧
    ¬ (ks.map (·.forced)).Pairwise (· ≠ ·) ∧ (rank .forced ks).map (·.eff) = [-1, -1] := by decide +kernel
-- `C15_rank_by_strategy`: `frequency_max` selects a value on this array, `frequency_base` selects none (one kind has a
-- non-numeric base frequency), `coretype` selects none (both kinds are IntelCore)
example :
    let ks : List Kind := [{ cpuset := 0x3, eff := -1, forced := -1,
                             infos := [("CoreType", "IntelCore"), ("FrequencyMaxMHz", "3000"), ("FrequencyBaseMHz", "abc")] },
                           { cpuset := 0xc, eff := -1, forced := -1,
                             infos := [("FrequencyMaxMHz", "9"), ("CoreType", "IntelCore"), ("FrequencyMaxMHz", "1200")] }]
    (chooseKey .freqMax ks).isSome = true ∧ (rank .freqMax ks).map (fun k => (k.cpuset, k.eff)) = [(0xc, 0), (0x3, 1)] ∧
    (chooseKey .freqBase ks).isNone = true ∧ (rank .freqBase ks).map (fun k => (k.cpuset, k.eff)) = [(0x3, -1), (0xc, -1)] ∧
    (chooseKey .coretype ks).isNone = true ∧ (summarize ks[1]).maxFreq = 1200 := by decide +kernel
-- histories with a changing strategy: registered under `none` (unranked), a refresh under `forced_efficiency` ranks, a
-- restrict that drops nothing and a dup under `none` keep that ranking and its tag
example :
    let h : List EOp := [(.none, .register (some 0x0f) 2 [] 0), (.none, .register (some 0xf0) 1 [] 0)]
    (runE 0xff h).kinds.map (fun k => (k.cpuset, k.eff)) = [(0x0f, -1), (0xf0, -1)] ∧
    (runET 0xff h).2 = .none ∧
    (runE 0xff (h ++ [(.forced, .refresh)])).kinds.map (fun k => (k.cpuset, k.eff)) = [(0xf0, 0), (0x0f, 1)] ∧
    (runET 0xff (h ++ [(.forced, .refresh), (.none, .restrict 0xff), (.none, .dup)])).2 = .forced ∧
    ranks (runE 0xff h) ((Strategy.forced, Op.refresh) : EOp) = true ∧ (h ++ [((Strategy.forced, Op.refresh) : EOp)]).all intForcedE = true := by decide +kernel
-- `C15_coretype_frequency_lexicographic`: hypotheses met by a hybrid pair; beyond 2^20 the order is no longer lexicographic
example :
    let a : Kind := { cpuset := 1, eff := -1, forced := -1, infos := [("CoreType", "IntelAtom"), ("FrequencyBaseMHz", "3000")] }
    let b : Kind := { cpuset := 2, eff := -1, forced := -1, infos := [("CoreType", "IntelCore"), ("FrequencyBaseMHz", "2000")] }
    let c : Kind := { cpuset := 4, eff := -1, forced := -1, infos := [("CoreType", "IntelAtom"), ("FrequencyBaseMHz", "2097152")] }
    freqKey true a < 1048576 ∧ freqKey true b < 1048576 ∧ ctFreqKey true a < ctFreqKey true b ∧
    ¬ freqKey true c < 1048576 ∧ ctFreqKey true b < ctFreqKey true c := by decide +kernel
-- env-switching history with allow calls: the trace keeps the strategies and erases the allow call
example :
    let h : List ETOp := [(.none, .allow (some 0x3f) 4), (.none, .op (.register (some 0x0f) 10 [] 0)),
                          (.forced, .op (.register (some 0xf0) 5 [] 0)), (.coretype, .op (.restrict 0xc0))]
    (runTE 0xff true h).st.kinds.map (fun k => (k.cpuset, k.eff)) = [(0xf0, 0), (0x0f, 1)] ∧
    (traceTE (tinit 0xff true) h).map (·.1) = [.none, .forced, .coretype] ∧
    (runET 0xff (traceTE (tinit 0xff true) h)).2 = .forced := by decide +kernel
-- private writes: a swapped array with a negative forced efficiency (ranked by its uint64_t cast: after the others)
example :
    let st := run .forced 0xff [.register (some 0x0f) 1 [] 0, .register (some 0xf0) 2 [] 0]
    let st2 := (rawSet (rawSwap st 0 1).1 0 (-7) 99).1
    st2.kinds.map (fun k => (k.cpuset, k.eff, k.forced)) = [(0xf0, 99, -7), (0x0f, 0, 1)] ∧
    (rawRank .forced st2).kinds.map (fun k => (k.cpuset, k.eff, k.forced)) = [(0x0f, 0, 1), (0xf0, 1, -7)] := by decide +kernel
-- `C15_rank_forced_int_range`: 5, -7, INT_MIN are known and distinct; the negative ones come last, in increasing order
example :
    let ks : List Kind := [{ cpuset := 1, eff := 0, forced := -7, infos := [] }, { cpuset := 2, eff := 0, forced := 5, infos := [] },
                           { cpuset := 4, eff := 0, forced := -2147483648, infos := [] }]
    2 ≤ ks.length ∧ (∀ k ∈ ks, -9223372036854775808 ≤ k.forced ∧ k.forced < 9223372036854775808) ∧
    (∀ k ∈ ks, k.forced ≠ -1) ∧ (ks.map (·.forced)).Pairwise (· ≠ ·) ∧
    (rank .forced ks).map (fun k => (k.eff, k.forced)) = [(0, 5), (1, -2147483648), (2, -7)] := by decide +kernel
-- `C15_nonnumeric_frequency_fails`: "abc" is NonNumeric and defeats frequency_max; "12abc" is not (atoi = 12)
example :
    let k : Kind := { cpuset := 1, eff := -1, forced := -1, infos := [("FrequencyMaxMHz", "3000"), ("FrequencyMaxMHz", "abc")] }
    lastVal "FrequencyMaxMHz" k.infos = some "abc" ∧ "abc".toList.dropWhile isSpace = ['a', 'b', 'c'] ∧
    (summarize k).maxFreq = 0 ∧ atoiU32 "12abc" = 12 ∧ atoiU32 "-5" = 4294967291 ∧ atoiU32 "4294967297" = 1 := by decide +kernel
example : NonNumeric "abc" := Or.inr ⟨'a', ['b', 'c'], by decide, by decide, by decide, by decide⟩
-- `C15_info_strategy_fails`: `coretype` on an array with an unrecognised core type
example :
    let ks : List Kind := [{ cpuset := 1, eff := 0, forced := 1, infos := [("CoreType", "IntelAtom")] },
                           { cpuset := 2, eff := 1, forced := 2, infos := [("CoreType", "Other")] }]
    ¬ Need .coretype ks ∧ (rank .coretype ks).map (·.eff) = [-1, -1] := by
  refine ⟨fun h => ?_, by decide⟩
  exact h _ (List.mem_cons_of_mem _ List.mem_cons_self) (by decide)

end Hw.Props.C15
