/-
  C12 — hwloc_topology_dup yields an equivalent, fully independent topology.

  What is PROVED here (over the model of Hw.Topo.Dup, for all states / histories / traces):
    * the copy is observationally equivalent to the original (`C12_dup_equiv`), the equivalence is an equivalence
      relation that contains every component the property lists (`C12_equiv_*`, `C12_equiv_fields`), the internal caches
      of the copy are invalid (`C12_dup_caches_invalid`), the copy evolves like the original (`C12_dup_commutes_history`);
    * independence ON THE FUNCTIONAL MODEL (`C12_dup_then_history_independent`): true by construction, it gives the
      harness its predicted value and proves NOTHING about the C heap;
    * the allocation-level facts: bump allocator blocks are pairwise disjoint, inside the arena, aligned, fresh
      (`C12_bump_*`), and the provenance checker predicate implies disjointness from the original (`C12_provenance_*`).
  What is CHECKED, not proved (harness/h_dup.c): that the real heap objects of the copy satisfy the checker predicate
  (provenance walk with a recording allocator), ASan/LSan on destroy in both orders, XML/attribute text equality.
  Deliberately outside `TopoEquivD`: topology->userdata, which hwloc__topology_dup does not copy (`C12_topo_userdata_not_copied`).
-/
import Hw.Topo.DupLemmas
import Hw.Gen.DupAlloc
namespace Hw.Props.C12
open Hw.Topo Hw.Topo.Hist Hw.Topo.Dup

/-- P0: the copy is observationally equivalent to the original -/
theorem C12_dup_equiv (s : TopoState) : TopoEquivD s (dupState s) := dup_equiv s

theorem C12_equiv_refl (a : TopoState) : TopoEquivD a a := rfl
theorem C12_equiv_symm (a b : TopoState) (h : TopoEquivD a b) : TopoEquivD b a := Eq.symm h
theorem C12_equiv_trans (a b c : TopoState) (h1 : TopoEquivD a b) (h2 : TopoEquivD b c) : TopoEquivD a c := Eq.trans h1 h2

/-- the equivalence is not weak: it forces equality of the whole tree dump (all object fields incl. gp_index, infos, the
four sets, attributes; levels; allowed sets; flags; filters), userdata pointers, page types, state, pid, support,
grouping configuration, topology infos, cpukinds, and of distances / memattrs up to their caches -/
theorem C12_equiv_fields (a b : TopoState) (h : TopoEquivD a b) :
    a.dump = b.dump ∧ a.userdata = b.userdata ∧ a.pageTypes = b.pageTypes ∧ a.state = b.state ∧ a.pid = b.pid ∧
    a.support = b.support ∧ a.grouping = b.grouping ∧ a.infos = b.infos ∧ a.cpukinds = b.cpukinds ∧
    a.dists.map Dist.invalidate = b.dists.map Dist.invalidate ∧
    a.memattrs.map MemAttr.invalidate = b.memattrs.map MemAttr.invalidate := by
  unfold TopoEquivD pub at h
  injection h with h1 h2 h3 h4 h5 h6 h7 h8 h9 h10 h11 h12 h13
  exact ⟨h1, h2, h3, h4, h5, h8, h9, h10, h13, h11, h12⟩

/-- consequently the copy has the same dump, userdata, ... as the original -/
theorem C12_dup_fields (s : TopoState) :
    (dupState s).dump = s.dump ∧ (dupState s).userdata = s.userdata ∧ (dupState s).pageTypes = s.pageTypes ∧
    (dupState s).support = s.support ∧ (dupState s).infos = s.infos ∧ (dupState s).cpukinds = s.cpukinds :=
  ⟨rfl, rfl, rfl, rfl, rfl, rfl⟩

/-- distances.c:167-168, memattrs.c:181-231: every cache of the copy is invalid -/
theorem C12_dup_caches_invalid (s : TopoState) : cachesInvalid (dupState s) = true := by
  simp only [cachesInvalid, dupState, Bool.and_eq_true, List.all_eq_true, List.mem_map]
  constructor
  · rintro d ⟨d0, _, rfl⟩
    simp [Dist.invalidate, clr1_bit0]
  · rintro m ⟨m0, _, rfl⟩
    simp only [MemAttr.invalidate, clr2_bits, BEq.rfl, true_and, List.mem_map]
    rintro t ⟨t0, _, rfl⟩
    simp only [Target.invalidate, Bool.not_false, true_and, List.mem_map]
    rintro i ⟨i0, _, rfl⟩
    exact Init.invalidate_uncached i0

/-- negative fact kept visible: the topology-level userdata pointer is not copied -/
theorem C12_topo_userdata_not_copied (s : TopoState) : (dupState s).topoUserdata = 0 := dup_topoUserdata s

/-- P0 (functional model only — says nothing about the C heap): for any interleaving `l` of modelled modifying calls
on the two copies, copy A ends as if only its own calls had been made, and so does copy B -/
theorem C12_dup_then_history_independent (s : TopoState) (l : List (Side × HOp)) :
    (runPair (s, dupState s) l).1 = run s (opsOf .A l) ∧ (runPair (s, dupState s) l).2 = run (dupState s) (opsOf .B l) :=
  runPair_sides l _

/-- the copy under a history is equivalent to the original under the same history -/
theorem C12_dup_commutes_history (s : TopoState) (h : List HOp) : TopoEquivD (run (dupState s) h) (run s h) :=
  dup_commutes_history s h

/-- combined: what copy B reports after any interleaving equals what the ORIGINAL would report after B's calls alone -/
theorem C12_copy_behaves_as_original (s : TopoState) (l : List (Side × HOp)) :
    TopoEquivD (runPair (s, dupState s) l).2 (run s (opsOf .B l)) := by
  rw [(C12_dup_then_history_independent s l).2]; exact dup_commutes_history s _

/-- equivalent states answer a modelled call with the same return value and stay equivalent -/
theorem C12_equiv_step (a b : TopoState) (h : TopoEquivD a b) (op : HOp) :
    TopoEquivD (stepS a op).1 (stepS b op).1 ∧ (stepS a op).2 = (stepS b op).2 := by
  unfold TopoEquivD at *
  refine ⟨by rw [stepS_pub, stepS_pub, h], ?_⟩
  rw [← stepS_ret_pub a, ← stepS_ret_pub b, h]

/-- P0 arena lemma: bump-allocated blocks are pairwise disjoint (any alignment A > 0, any request trace) -/
theorem C12_bump_disjoint (A : Nat) (hA : 0 < A) (sizes : List Nat) (cur : Nat) :
    (bump A cur sizes).Pairwise Block.Disjoint := bump_disjoint A hA sizes cur

/-- ... and inside the arena `[cur, cur + bumpTotal)`, one block per request, of the requested size -/
theorem C12_bump_inside (A : Nat) (hA : 0 < A) (sizes : List Nat) (cur : Nat) :
    (∀ b ∈ bump A cur sizes, b.inside cur (cur + bumpTotal A sizes)) ∧ (bump A cur sizes).map (·.size) = sizes :=
  ⟨bump_inside A hA sizes cur, bump_sizes A sizes cur⟩

theorem C12_bump_aligned (A : Nat) (sizes : List Nat) (cur : Nat) (h : cur % A = 0) :
    ∀ b ∈ bump A cur sizes, b.start % A = 0 :=
  fun b hb => ((bump_isBump A).aligned (roundUp_mod · A) cur sizes b hb).trans h

/-- an arena above the original's blocks is fresh -/
theorem C12_bump_fresh (A : Nat) (hA : 0 < A) (sizes : List Nat) (base : Nat) (old : List Block)
    (hold : ∀ o ∈ old, o.start + o.size ≤ base) : Fresh (bump A base sizes) old :=
  fun a ha o ho => (disjoint_of_le (Nat.le_trans (hold o ho) (bump_inside A hA sizes base a ha).1)).symm

/-- provenance: the harness's checker predicate implies that no walked extent (except userdata / NULL) shares a byte with
any block of the original, provided the allocator handed out fresh blocks -/
theorem C12_provenance_disjoint (allocd old : List Block) (ptrs : List Ptr) (hok : provOK allocd ptrs = true)
    (hf : Fresh allocd old) (p : Ptr) (hp : p ∈ ptrs) (hnull : p.addr ≠ 0) (hud : p.field ≠ .objUserdata)
    (o : Block) (ho : o ∈ old) : ¬ Overlap p.addr p.size o.start o.size := by
  unfold provOK at hok
  rw [List.all_eq_true] at hok
  have h := hok p hp
  simp only [Bool.or_eq_true, beq_iff_eq, List.any_eq_true] at h
  rcases h with (h | h) | ⟨b, hb, hc⟩
  · exact absurd h hnull
  · exact absurd h hud
  · have ⟨c1, c2⟩ := contains_spec hc
    exact fun hov => hf b hb o ho (hov.mono c1 c2 (Nat.le_refl _) (Nat.le_refl _))

/-- ... and extents in different allocator blocks do not alias each other -/
theorem C12_provenance_distinct_blocks (a b : Block) (p q : Ptr) (hd : a.Disjoint b) (hp : a.contains p = true)
    (hq : b.contains q = true) : ¬ Overlap p.addr p.size q.addr q.size := by
  have ⟨c1, c2⟩ := contains_spec hp
  have ⟨d1, d2⟩ := contains_spec hq
  exact fun hov => hd (hov.mono c1 c2 d1 d2)


/-! ### the allocation discipline of the dup functions, over the table regenerated from the C source on every run
(tools/gen_dup.py -> Hw.Gen.DupAlloc; tie T).  These say nothing about values at run time: they state that, AS WRITTEN, the dup
functions never store a pointer obtained from the original into the copy (except `userdata`), never write into the original,
repair every pointer member that a structure-wide memcpy copied shallowly, and initialise every pointer member of a structure
they obtain from a plain malloc.  A new shallow pointer copy in a dup function makes one of them fail to type-check. -/
section Gen
open Hw.Gen.DupAlloc

def fromCopy (s : Src) : Bool := s == .tma || s == .null || s == .newRef
def ptrFieldsOf (st : String) : List String := ((ptrFields.find? (fun p => p.1 == st)).map (·.2)).getD []
/-- pointer members of `struct hwloc_obj` that hwloc__duplicate_object leaves to hwloc_alloc_setup_object (`attr`, zeroed rest)
and hwloc_insert_object_by_parent (the tree links) -/
def objSetElsewhere : List String := ["attr", "parent", "next_sibling", "first_child", "memory_first_child", "io_first_child", "misc_first_child"]

/-- every DATA POINTER stored by a dup function comes from the tma allocator, is NULL, or points into the copy;
the only exception is `obj->userdata`, copied verbatim by contract -/
theorem C12_gen_no_shallow_pointer_copy :
    assigns.all (fun a => !a.isPtr || fromCopy a.src || (a.struct == "hwloc_obj" && a.field == "userdata")) = true := by decide +kernel

/-- the dup functions only ever assign to members of the copy -/
theorem C12_gen_writes_only_into_copy : assigns.all (fun a => a.lhsNew) = true := by decide +kernel

/-- every pointer member copied shallowly by a structure-wide memcpy is re-assigned in the same function from the allocator /
NULL, or deep-copied by hwloc__tma_dup_infos -/
theorem C12_gen_memcpy_fixed_up :
    memcpys.all (fun m => m.2.2.2.all (fun p =>
      assigns.any (fun a => a.fn == m.1 && a.struct == m.2.2.1 && a.field == p && a.isPtr && (a.src == .tma || a.src == .null))
      || infosDupCalls.contains (m.1, m.2.2.1, p))) = true := by decide +kernel

/-- every pointer member of a structure obtained from a plain hwloc_tma_malloc is assigned in that function -/
theorem C12_gen_fresh_struct_initialised :
    freshStructs.all (fun f => (ptrFieldsOf f.2).all (fun p => assigns.any (fun a => a.fn == f.1 && a.struct == f.2 && a.field == p))) = true := by decide +kernel

/-- no pointer member of `struct hwloc_obj` is forgotten: each is assigned by hwloc__duplicate_object, deep-copied by
hwloc__tma_dup_infos, or belongs to the fixed list set by hwloc_alloc_setup_object / hwloc_insert_object_by_parent -/
theorem C12_gen_obj_pointer_members_covered :
    (ptrFieldsOf "hwloc_obj").all (fun p =>
      assigns.any (fun a => a.fn == "hwloc__duplicate_object" && a.struct == "hwloc_obj" && a.field == p)
      || infosDupCalls.contains ("hwloc__duplicate_object", "hwloc_obj", p) || objSetElsewhere.contains p) = true := by decide +kernel

/-- the three infos members (object, topology, cpukind) are deep-copied, and the deep copy itself takes its strings from the allocator -/
theorem C12_gen_infos_deep_copied :
    (infosDupCalls.contains ("hwloc__duplicate_object", "hwloc_obj", "infos.array") &&
     infosDupCalls.contains ("hwloc__topology_dup", "hwloc_topology", "infos.array") &&
     infosDupCalls.contains ("hwloc_internal_cpukinds_dup", "hwloc_internal_cpukind_s", "infos.array") &&
     (ptrFieldsOf "hwloc_info_s").all (fun p => assigns.any (fun a => a.fn == "hwloc__tma_dup_infos" && a.struct == "hwloc_info_s" && a.field == p && a.src == .tma))) = true := by decide +kernel

/-- non-vacuity: the tables are populated and the exception really is used exactly once -/
example : (assigns.filter (fun a => a.isPtr)).length ≥ 40 ∧ (memcpys.filter (fun m => !m.2.2.2.isEmpty)).length ≥ 5 ∧
    (assigns.filter (fun a => a.isPtr && a.src == .oldCopy)).length = 1 := by decide +kernel
end Gen

/-! ### non-vacuity -/

def exObj : Obj := { (default : Obj) with id := 0, type := tMACHINE, gp := 1, cpuset := some 3, infos := [("Backend", "Synthetic")] }
def exDump : Dump := { (default : Dump) with flags := 1, depth := 1, nobjs := 1, objs := [exObj], allowedCpuset := some 3 }
def exState : TopoState :=
  { dump := exDump, userdata := [65537], pageTypes := [(0, [(4096, 10)])], state := 2, pid := 0, udNotDecoded := 0,
    topoUserdata := 196609, support := [1, 1], grouping := [1, 0, 1], infos := [("a", "b")],
    dists := [{ id := 0, name := some "NUMALatency", kind := 5, iflags := 1, uniqueType := 14, nbobjs := 2, types := none,
                indexes := [0, 1], values := [10, 20, 20, 10], cached := 2 }],
    memattrs := [{ name := "Bandwidth", flags := 5, iflags := 3,
                   targets := [{ type := 14, gp := 7, value := 0, cached := true, inits := [.cpuset 3 100, .object 3 9 true 50] }] }],
    cpukinds := [{ cpuset := 3, inf := false, eff := 0, forced := -1, ranking := 0, infos := [("CoreType", "verif")] }] }

/-- the copy differs from the original as an internal state (caches), yet is equivalent -/
example : dupState exState ≠ exState ∧ TopoEquivD exState (dupState exState) := by decide +kernel
example : cachesInvalid exState = false ∧ cachesInvalid (dupState exState) = true := by decide +kernel
/-- a history that really changes something, on both sides -/
example : (runPair (exState, dupState exState) [(.A, .addInfo 0 (some "x") (some "y")), (.B, .setSubtype 0 (some "z"))]).1
            = run exState [.addInfo 0 (some "x") (some "y")] ∧
          ¬ TopoEquivD (runPair (exState, dupState exState) [(.A, .addInfo 0 (some "x") (some "y"))]).1 exState := by decide +kernel
/-- the equivalence distinguishes states -/
example : ¬ TopoEquivD exState { exState with userdata := [0] } := by decide +kernel
example : bump 8 1000 [5, 0, 16, 3] = [⟨1000, 5⟩, ⟨1008, 0⟩, ⟨1008, 16⟩, ⟨1024, 3⟩] := by decide +kernel
example : shmemLength 4096 24 [5, 0, 16, 3] = 4096 := by decide +kernel
example : provOK [⟨1000, 64⟩] [⟨.objName, 1008, 8⟩, ⟨.objUserdata, 5, 1⟩, ⟨.objParent, 0, 0⟩] = true ∧
          provOK [⟨1000, 64⟩] [⟨.objName, 1060, 8⟩] = false := by decide +kernel

end Hw.Props.C12
