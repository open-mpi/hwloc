/-
  C17 — Documented thread-safety: concurrent readers of one refreshed topology, threads working on
  distinct topologies.

  Model: `Hw.Conc` (lean/Hw/Io/Conc.lean).

  (a) READERS.  The shared state of one topology is reduced to what a consulting call can possibly write (the
  validity flags of the lazy caches, the static environment caches `warm`) and an opaque `content` that the
  results depend on.  `events s r` is the footprint of consulting entry point `r` started in state `s`, read
  off the C (table in Conc.lean, tied to the real code by engine `readonly`: every entry point is run on a
  PROT_READ copy of the topology and the faulting location is compared with the first write of the footprint).
  Any number of threads, any programs, any schedule (`List Nat` of thread choices, each an observe or a commit).

  Reading of the English property:
    "no data race"                       = `RaceFree`: no access of one thread conflicts with any access of
                                           another thread (same location, one is a write, not both under the
                                           components mutex) — in ANY order of the individual accesses;
    "same results as single-threaded"    = every call observed the state `s0` it would observe alone, and `s0`
                                           is still the state afterwards; hence `obs e.snap e.reader =
                                           obs s0 e.reader` for every result function `obs`;
    "loaded (and refreshed after any modification)" = `Valid s0`: caches valid (established by
                                           `C17_refresh_validates` / `C17_load_validates`, the latter for every flag word) and every static
                                           cache initialised once (`Warm`, the documented restriction: the
                                           cold-start same-value write race on those statics is finding F15).

  (b) INDEPENDENT TOPOLOGIES.  What distinct topologies share is the component registry; its init/fini critical
  sections are extracted from components.c on every run (Hw/Gen/ComponentsIR.lean) and must equal the model
  programs (`C17_gen_ir_matches_*`, by `decide`).  `C17_registry_inv` holds for every number of threads and
  every schedule.

  Not covered: memory-model effects below "no conflicting access"; the contents of the topology (`content`) are
  opaque, i.e. that traversal helpers etc. perform no write is established on the real code by engine
  `readonly` (PROT_READ mapping), not by a model of each helper.
-/
import Hw.Io.ConcLemmas
import Hw.Io.ConcRegLemmas
import Hw.Io.ConcEntry
import Hw.Gen.ComponentsIR
namespace Hw.Props.C17
open Hw Hw.Conc

/-- generated IR = model IR (tie T; re-checked on every run against /repo's components.c) -/
theorem C17_gen_ir_matches_init : Hw.Gen.ComponentsIR.initProg = Reg.Model.initProg := by decide +kernel
theorem C17_gen_ir_matches_fini : Hw.Gen.ComponentsIR.finiProg = Reg.Model.finiProg := by decide +kernel
theorem C17_gen_flags_match : Hw.Gen.ComponentsIR.flags = Model.flags := by decide +kernel
theorem C17_gen_load_seq_matches : Hw.Gen.ComponentsIR.loadSeq = Model.loadSeq := by decide +kernel
theorem C17_gen_refresh_seq_matches : Hw.Gen.ComponentsIR.refreshSeq = Model.refreshSeq := by decide +kernel
/-- the set of functions that may (re)build a lazy cache is the one the footprint table was written from
    (`rfl` compares the string literals as such; `decide` would go through them character by character) -/
theorem C17_gen_lazy_callers_match : Hw.Gen.ComponentsIR.lazyCallers = Model.lazyCallers := rfl

/-- P0 refresh_validates: whatever state the modifying calls left behind (`s` is arbitrary: any number of
    distances structures and attributes with any flags), after `hwloc_topology_refresh` every distances structure
    that is still there has OBJS_VALID and every attribute has CACHE_VALID; nothing else changes. -/
theorem C17_refresh_validates (s : TopoState) :
    CachesValid (refresh s) ∧ (refresh s).warm = s.warm ∧ (refresh s).content = s.content :=
  ⟨refresh_cachesValid s, rfl, rfl⟩

/-- ... in particular after ANY history of modifying calls (arbitrary state transformers that do not reset the
    process-wide static caches) followed by a refresh, from any state. -/
theorem C17_refresh_validates_history (hist : List (TopoState → TopoState)) (s : TopoState)
    (hk : ∀ f ∈ hist, ∀ x, Warm x → Warm (f x)) (hw : Warm s) :
    Valid (refresh (hist.foldl (fun x f => f x) s)) :=
  ⟨refresh_cachesValid _, List.foldlRecOn hist _ hw fun x hx f hf => hk f hf x hx⟩

/-- hwloc_topology_refresh as the GENERATED statement sequence, under any flag word (also NO_DISTANCES / NO_MEMATTRS / NO_CPUKINDS:
    the user may have added distances or attribute values afterwards): from ANY state every cache becomes valid. -/
theorem C17_refresh_validates_flags (flags : Nat) (o : LoadOracle) (s : TopoState) :
    CachesValid (runSeq Hw.Gen.ComponentsIR.refreshSeq flags o s) := by
  rw [C17_gen_refresh_seq_matches, runSeq_refreshSeq]
  exact refresh_cachesValid s

/-- P0 refresh_validates, load part, on the GENERATED statement sequence of the tail of hwloc_topology_load: for EVERY flag
    word (RESTRICT_TO_CPUBINDING / _MEMBINDING, NO_DISTANCES, NO_MEMATTRS, NO_CPUKINDS in any combination) and every
    outcome of the binding restricts (run or not, whichever distances structures survive), load returns with every cache
    valid. -/
theorem C17_load_validates (flags : Nat) (o : LoadOracle) (s : TopoState) (h : FlaggedOffValid flags s) :
    CachesValid (runSeq Hw.Gen.ComponentsIR.loadSeq flags o s) := by
  rw [C17_gen_load_seq_matches]
  exact loadTail_cachesValid flags o s h

/-- why the second refresh of load is needed (finding F51, fixed by 6c24a9e): the statement sequence without its last step
    leaves every distances structure invalid when RESTRICT_TO_CPUBINDING restricts. -/
theorem C17_load_second_refresh_needed (o : LoadOracle) (ho : o.ranCpu = true) (s : TopoState) :
    ∀ d ∈ (runSeq Model.loadSeqUnfixed flagRestrictToCpubinding o s).dists, d.valid = false := by
  intro d hd
  simp [runSeq, Model.loadSeqUnfixed, Model.loadSeq, guardOk, hasFlag, effect, ho, invalidate, invalidateDistsOnly,
    flagRestrictToCpubinding, flagRestrictToMembinding, flagNoDistances, flagNoMemattrs, flagNoCpukinds] at hd
  obtain ⟨x, _, hx⟩ := hd
  subst hx; rfl

/-- P0 valid_readers_write_free: in a valid state no consulting entry point writes shared state: every access is a
    read of topology data or an access to the component registry under the components mutex. -/
theorem C17_valid_readers_write_free (s : TopoState) (hv : Valid s) (r : Reader) :
    (∀ e ∈ events s r, (e.acc = .R ∧ e.loc ≠ .registry) ∨ (e.locked = true ∧ e.loc = .registry)) ∧
    unlockedWrites (events s r) = [] := by
  refine ⟨?_, unlockedWrites_valid s hv r⟩
  intro e he
  have h := events_benign s hv r e he
  simp only [benign, Bool.or_eq_true, Bool.and_eq_true, beq_iff_eq, bne_iff_ne, ne_eq] at h
  exact h

/-- P0 readers_schedule_independent: from a valid state, for EVERY number of threads, EVERY list of reader
    programs and EVERY schedule: the shared state never changes, no two accesses of different threads conflict,
    and every completed call observed exactly the state (hence returns exactly the results and performs exactly
    the accesses) of a single-threaded run. -/
theorem C17_readers_schedule_independent (s0 : TopoState) (hv : Valid s0)
    (progs : List (List Reader)) (sched : List Nat) :
    (run (start s0 progs) sched).st = s0 ∧
    RaceFree (run (start s0 progs) sched).trace ∧
    (∀ e ∈ (run (start s0 progs) sched).trace, e.snap = s0 ∧ e.events = events s0 e.reader) ∧
    (∀ {β : Type} (obs : TopoState → Reader → β), ∀ e ∈ (run (start s0 progs) sched).trace,
        obs e.snap e.reader = obs s0 e.reader) := by
  have H := run_sysInv s0 hv sched _ (start_sysInv s0 progs)
  refine ⟨H.st, raceFree_of_sysInv s0 hv _ H, H.tr, ?_⟩
  intro β obs e he
  rw [(H.tr e he).1]

/-- ... and the same at every intermediate point of the schedule (every prefix is a schedule). -/
theorem C17_readers_state_constant (s0 : TopoState) (hv : Valid s0)
    (progs : List (List Reader)) (sched : List Nat) (k : Nat) :
    (run (start s0 progs) (sched.take k)).st = s0 :=
  (run_sysInv s0 hv (sched.take k) _ (start_sysInv s0 progs)).st

/-- P0 unrefreshed_race_exists: the hypothesis is necessary.  In ANY state with a distances structure whose
    OBJS_VALID is clear (what restrict, insert/remove, dup leave behind), two threads calling
    hwloc_distances_get have a schedule (both observe, then both commit) with a W/W conflict on that structure. -/
theorem C17_unrefreshed_race_exists (s : TopoState) (d : DistSlot) (hd : d ∈ s.dists) (hinv : d.valid = false) :
    ¬ RaceFree (run (start s [[.distancesGet true], [.distancesGet true]]) [0, 1, 0, 1]).trace ∧
    ∃ a ∈ (run (start s [[.distancesGet true], [.distancesGet true]]) [0, 1, 0, 1]).trace,
    ∃ b ∈ (run (start s [[.distancesGet true], [.distancesGet true]]) [0, 1, 0, 1]).trace,
      a.tid ≠ b.tid ∧ wr (.dist d.id) ∈ a.events ∧ wr (.dist d.id) ∈ b.events :=
  race_of_write s _ _ (events_get_invalid s d hd hinv)

/-- the same for a memory attribute whose CACHE_VALID is clear: hwloc_memattr_get_value writes its cache, so by
    `race_of_write` two threads calling it race. -/
theorem C17_unrefreshed_memattr_write (s : TopoState) (i : Nat) (a : AttrSlot) (ha : s.attrs[i]? = some a)
    (hc : a.conv = false) (hinv : a.valid = false) :
    wr (.attr i) ∈ events s (.memattrQuery .value i true) := by
  simp [events, ha, refreshes, reachesTest, hc, hinv]

/-- P0 registry_inv, stated on the GENERATED programs: for every number of threads `n` and every schedule of
    threads each running hwloc_components_init / hwloc_components_fini pairs (any number of times): no access
    outside the mutex / failed assert / double initialisation ever happens; `users` is the number of threads
    between their `users++` and their `--users`; whenever the lock is free the registry is initialised iff
    `users > 0`; and a thread between its init and its fini always finds the registry initialised. -/
theorem C17_registry_inv (n : Nat) (sched : List Nat) :
    let c := Reg.run Hw.Gen.ComponentsIR.initProg Hw.Gen.ComponentsIR.finiProg (Reg.start n) sched
    c.bad = false ∧
    c.users = c.thr.countP Reg.holding ∧
    (c.lock = none → (c.reg = true ↔ 0 < c.users)) ∧
    (∀ (t : Nat) (th : Reg.Thr), c.thr[t]? = some th → th.phase = .between → c.reg = true) ∧
    (∀ (t : Nat) (th : Reg.Thr), c.thr[t]? = some th → Reg.inCS th = true → c.lock = some t) := by
  rw [C17_gen_ir_matches_init, C17_gen_ir_matches_fini]
  have H := Reg.run_inv n sched
  exact ⟨H.notBad, H.count, H.free, fun t th ht hb => Reg.between_sees_reg _ H t th ht hb, H.excl⟩

/-- when every thread is idle again the registry is torn down and the count is zero -/
theorem C17_registry_quiescent (n : Nat) (sched : List Nat)
    (hidle : ∀ th ∈ (Reg.run Reg.Model.initProg Reg.Model.finiProg (Reg.start n) sched).thr, th.phase = .idle) :
    (Reg.run Reg.Model.initProg Reg.Model.finiProg (Reg.start n) sched).users = 0 ∧
    (Reg.run Reg.Model.initProg Reg.Model.finiProg (Reg.start n) sched).reg = false :=
  Reg.quiescent _ (Reg.run_inv n sched) hidle

/-! ### the public entry points that reach the registry (engine `readonly`, ops `reg ...`) -/

/-- P0 entry_refcount, on the GENERATED critical sections: started with `n` references held (registry initialised iff
    `n > 0`), EVERY public entry point that reaches the component registry, on EVERY path through it (success, rejected
    arguments, TOO_COMPLEX diff entries, unreadable / malformed input, source not loaded, ...), returns with the lock
    free, no failed assert, the registry initialised iff references remain, and the count changed by exactly the
    topologies it handed out (`creates`) or consumed (`releases`). -/
theorem C17_entry_refcount (e : Reg.Entry) (n : Nat) (h : Reg.releases e ≤ n) :
    Reg.runEntry Hw.Gen.ComponentsIR.initProg Hw.Gen.ComponentsIR.finiProg (Reg.good n) e
      = Reg.good (n + Reg.creates e - Reg.releases e) := by
  rw [C17_gen_ir_matches_init, C17_gen_ir_matches_fini]
  exact Reg.runEntry_good e n h

/-- ... hence the count is unchanged by every entry point except the three that hand out a topology (init, a
    successful dup, a successful adopt: +1) and destroy (-1).  In particular the diff import / export entry points leave
    it unchanged whether they succeed, fail in the parser / writer, or reject a TOO_COMPLEX list up front. -/
theorem C17_only_init_destroy_change (e : Reg.Entry) (n : Nat)
    (h1 : e ≠ .topologyInit) (h2 : e ≠ .topologyDup true) (h3 : e ≠ .shmemAdopt .ok) (h4 : e ≠ .topologyDestroy) :
    Reg.runEntry Hw.Gen.ComponentsIR.initProg Hw.Gen.ComponentsIR.finiProg (Reg.good n) e = Reg.good n := by
  have hc : Reg.creates e = 0 := by
    cases e with
    | topologyInit => exact absurd rfl h1
    | topologyDup ok => cases ok with
      | true => exact absurd rfl h2
      | false => rfl
    | shmemAdopt p => cases p with
      | ok => exact absurd rfl h3
      | _ => rfl
    | _ => rfl
  have hr : Reg.releases e = 0 := by
    cases e with
    | topologyDestroy => exact absurd rfl h4
    | _ => rfl
  have := C17_entry_refcount e n (by omega)
  rw [hc, hr] at this
  simpa using this

theorem C17_init_dup_adopt_take_one (n : Nat) :
    Reg.runEntry Hw.Gen.ComponentsIR.initProg Hw.Gen.ComponentsIR.finiProg (Reg.good n) .topologyInit = Reg.good (n + 1) ∧
    Reg.runEntry Hw.Gen.ComponentsIR.initProg Hw.Gen.ComponentsIR.finiProg (Reg.good n) (.topologyDup true) = Reg.good (n + 1) ∧
    Reg.runEntry Hw.Gen.ComponentsIR.initProg Hw.Gen.ComponentsIR.finiProg (Reg.good n) (.shmemAdopt .ok) = Reg.good (n + 1) ∧
    Reg.runEntry Hw.Gen.ComponentsIR.initProg Hw.Gen.ComponentsIR.finiProg (Reg.good (n + 1)) .topologyDestroy = Reg.good n :=
  ⟨C17_entry_refcount .topologyInit n (Nat.zero_le _), C17_entry_refcount (.topologyDup true) n (Nat.zero_le _),
   C17_entry_refcount (.shmemAdopt .ok) n (Nat.zero_le _), C17_entry_refcount .topologyDestroy (n + 1) (Nat.succ_le_succ (Nat.zero_le _))⟩

/-- P0 history_refcount: for EVERY history of entry points in which the caller only destroys topologies it owns
    (`liveAfter k h = some k'`: it starts with `k` and ends with `k'` topologies), at EVERY point of the history the
    reference count equals the number of live topologies, the registry is initialised iff one is alive, and no assert
    fails; at the end the count is `k'`. -/
theorem C17_history_refcount (h : List Reg.Entry) (k k' : Nat) (hl : Reg.liveAfter k h = some k') :
    Reg.runHist Hw.Gen.ComponentsIR.initProg Hw.Gen.ComponentsIR.finiProg (Reg.good k) h = Reg.good k' ∧
    ∀ i, ∃ j, Reg.liveAfter k (h.take i) = some j ∧
      Reg.runHist Hw.Gen.ComponentsIR.initProg Hw.Gen.ComponentsIR.finiProg (Reg.good k) (h.take i) = Reg.good j := by
  rw [C17_gen_ir_matches_init, C17_gen_ir_matches_fini]
  refine ⟨Reg.runHist_good h k k' hl, fun i => ?_⟩
  obtain ⟨j, hj⟩ := Reg.liveAfter_take h k k' hl i
  exact ⟨j, hj, Reg.runHist_good _ k j hj⟩

/-- why no path may call hwloc_components_fini without its own hwloc_components_init (the class of defect the `reg`
    histories look for): with ONE topology alive a stray fini tears the registry down under it (count 0, registry
    gone: its set_synthetic / set_xml / load find no component, the last destroy fails its assert), and on an empty
    registry the assert of hwloc_components_fini fails at once. -/
theorem C17_stray_fini_breaks :
    Reg.runCall Hw.Gen.ComponentsIR.initProg Hw.Gen.ComponentsIR.finiProg (Reg.good 1) .fini = Reg.good 0 ∧
    (Reg.runEntry Hw.Gen.ComponentsIR.initProg Hw.Gen.ComponentsIR.finiProg
      (Reg.runCall Hw.Gen.ComponentsIR.initProg Hw.Gen.ComponentsIR.finiProg (Reg.good 1) .fini) .topologyDestroy).bad = true ∧
    (Reg.runCall Hw.Gen.ComponentsIR.initProg Hw.Gen.ComponentsIR.finiProg (Reg.good 0) .fini).bad = true := by
  rw [C17_gen_ir_matches_init, C17_gen_ir_matches_fini]
  have h : Reg.runCall Reg.Model.initProg Reg.Model.finiProg (Reg.good 1) .fini = Reg.good 0 := Reg.runProg_fini 0
  rw [h]
  exact ⟨rfl, Reg.runProg_fini_zero, Reg.runProg_fini_zero⟩

/-! ### non-vacuity -/

/-- a refreshed topology with two distances structures, a convenience attribute, a plain attribute and one that
    needs an initiator; all static caches warm -/
def exValid : TopoState :=
  { dists := [⟨0, true, true⟩, ⟨3, true, true⟩],
    attrs := [⟨true, false, true⟩, ⟨false, false, true⟩, ⟨false, true, true⟩],
    warm := allStatics, content := 42 }

example : Valid exValid := by
  refine ⟨⟨by decide, by decide⟩, ?_⟩
  intro c; cases c <;> decide

/-- three threads, mixed programs, an interleaved schedule: all 5 calls complete, state unchanged, race free -/
example :
    let y := run (start exValid [[.distancesGet true, .exportXml true], [.memattrQuery .value 1 true, .pure .traversal],
                                 [.memattrQuery .bestInitiator 2 true]]) [0, 1, 2, 1, 0, 0, 2, 1, 1, 0]
    y.trace.length = 5 ∧ y.st = exValid ∧ raceFreeB y.trace = true := by decide +kernel

/-- the same programs on the unrefreshed state (after a restrict): the schedule above has a race -/
def exStale : TopoState := invalidate (fun id => id != 3) exValid

example :
    let y := run (start exStale [[.distancesGet true, .exportXml true], [.memattrQuery .value 1 true, .pure .traversal],
                                 [.distancesGet true]]) [0, 1, 2, 1, 0, 0, 2, 1, 1, 0]
    raceFreeB y.trace = false ∧ y.st ≠ exStale := by decide +kernel

/-- and `refresh` repairs it (structure 3 lost its objects and is dropped) -/
example : refresh exStale = { exValid with dists := [⟨0, true, true⟩],
                                           attrs := [⟨true, false, true⟩, ⟨false, false, true⟩, ⟨false, true, true⟩] } := by decide +kernel

/-- registry: 3 threads, a schedule in which thread 0 initialises, thread 1 piggybacks while thread 0 is in use,
    thread 0 leaves, thread 1 tears down -/
example :
    let c := Reg.run Reg.Model.initProg Reg.Model.finiProg (Reg.start 3)
      ([0,0,0,0,0,0,0,0] ++ [1,1,1,1,1,1,1] ++ [0,0,0,0,0,0,0] ++ [1,1,1,1,1,1,1,1])
    c.users = 0 ∧ c.reg = false ∧ c.bad = false ∧ c.thr.all (·.phase == .idle) = true := by decide +kernel

/-- a program with `users++` before the lock is rejected by the executable check (what the engine's search finds) -/
example :
    let ip : Reg.Prog := [.test, .inc, .lock, .brIfNot 6, .unlock, .ret, .initReg, .unlock, .ret]
    (Reg.run ip Reg.Model.finiProg (Reg.start 2) [0, 0]).bad = true := by decide +kernel

/-- a history over three independent topologies: A inited, B and C loaded, a TOO_COMPLEX diff of B and C rejected by both
    export entry points, an ordinary diff exported and re-imported, B written to shared memory and adopted as D, everything
    destroyed: admissible (ends with 0 topologies), and the count after the rejected exports is still 3 -/
def exHist : List Reg.Entry :=
  [.topologyInit, .topologyInit, .setSource, .load, .topologyInit, .setSource, .load, .diffBuild,
   .diffExportXmlbuffer true, .diffExportXml true, .diffExportXmlbuffer false, .diffLoadXmlbuffer, .diffDestroy,
   .shmemGetLength true, .shmemWrite true, .shmemAdopt .ok, .topologyDup false, .setSource, .load, .exportXml,
   .topologyDestroy, .topologyDestroy, .topologyDestroy, .topologyDestroy]

example : Reg.liveAfter 0 exHist = some 0 ∧ Reg.liveAfter 0 (exHist.take 10) = some 3 ∧
    Reg.liveAfter 0 (exHist.take 16) = some 4 := by decide +kernel

example : Reg.runHist Hw.Gen.ComponentsIR.initProg Hw.Gen.ComponentsIR.finiProg (Reg.good 0) (exHist.take 10) = Reg.good 3 :=
  (C17_history_refcount (exHist.take 10) 0 3 (by decide)).1

/-- the hypothesis of C17_history_refcount excludes only caller errors: destroying with nothing alive -/
example : Reg.liveAfter 0 [.topologyInit, .topologyDestroy, .topologyDestroy] = none := by decide +kernel

end Hw.Props.C17
