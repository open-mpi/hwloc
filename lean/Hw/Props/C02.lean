/-
  Property C02 — well-formedness is preserved by every history of modifying calls.

  Proved here, over the model `Hw.Topo.Hist` (hwloc_topology_allow, hwloc_obj_add_info / hwloc_modify_infos,
  hwloc_obj_set_subtype acting on the observable dump): WF is preserved by every call and hence along
  every history; EINVAL from allow leaves the topology untouched; the in-place array code of
  hwloc_modify_infos REPLACE / REMOVE computes the documented list edits.
  hwloc_topology_insert_misc_object (model `Hw.Topo.MiscIns.insertMisc`, a function on the whole dump: ids, every link,
  ranks, logical indexes, cousins, levels) is predicted exactly and proved to preserve WF for EVERY well-formed dump and
  every parent (section "Misc insertion" below); histories mixing it with allow / infos / subtype are covered by
  `C02_history_misc_wf`.
  PARTIAL: restrict (C08), distances grouping, memattr / cpukind registration are not predicted by this model — after
  each such call the real topology is dumped and judged by the proved oracle (C01) and by the stability relations of
  `Driver.History`; Group insertion is predicted and proved on the tree level (section "Group insertion"), it is not a
  constructor of the dump-level history type.
-/
import Hw.Topo.HistoryLemmas
import Hw.Topo.InsertWF
import Hw.Topo.InsertOrder
import Hw.Topo.InsertOrderKept
import Hw.Topo.InsertSort
import Hw.Topo.MiscInsertExample
namespace Hw.Props.C02
open Hw.Topo Hw.Topo.Hist

/-- one call of the modelled API keeps the topology well formed (success or failure) -/
theorem C02_step_wf (d : Dump) (op : HOp) (h : WF d) : WF (step d op).1 := step_wf d op h

/-- … hence every finite history of such calls does -/
theorem C02_history_wf (d : Dump) (ops : List HOp) (h : WF d) :
    WF (ops.foldl (fun d op => (step d op).1) d) := history_wf d ops h

/-- EINVAL from hwloc_topology_allow leaves every observable attribute unchanged
(false on the pinned tree: F24, fixed) -/
theorem C02_allow_einval_unchanged (d : Dump) (f : Nat) (c n : Option Nat) (h : (allow d f c n).2 = .einval) :
    (allow d f c n).1 = d := allow_einval_unchanged d f c n h

/-- a successful allow only changes the two allowed sets -/
theorem C02_allow_only_allowed_sets (d : Dump) (f : Nat) (c n : Option Nat) :
    ∃ x y, (allow d f c n).1 = { d with allowedCpuset := x, allowedNodeset := y } := by
  rcases allow_cases d f c n with e | ⟨_, x, y, _, _, e⟩ <;> rw [e]
  · exact ⟨d.allowedCpuset, d.allowedNodeset, rfl⟩
  · exact ⟨x, y, rfl⟩

/-- objects are never created, removed or renumbered by the modelled calls: gp_index, type, sets … of every
object stay (only infos / subtype of the addressed object may change) -/
theorem C02_objects_stable (d : Dump) (op : HOp) :
    ((step d op).1.objs.map (fun o => (o.gp, o.type, o.osidx, o.cpuset, o.nodeset, o.parent))) =
    (d.objs.map (fun o => (o.gp, o.type, o.osidx, o.cpuset, o.nodeset, o.parent))) := by
  rcases step_cases d op with ⟨f, c, n, e⟩ | ⟨i, f, e, hf⟩ <;> rw [e]
  · obtain ⟨x, y, e⟩ := C02_allow_only_allowed_sets d f c n
    rw [e]
  · exact map_modify_of_inv _ _ _ _ fun o =>
      (congrArg (fun o : Obj => (o.gp, o.type, o.osidx, o.cpuset, o.nodeset, o.parent)) (hf o) :)

/-! hwloc_modify_infos: the in-place array loops compute the documented list edits -/

/-- REMOVE deletes exactly the matching pairs (NULL name / value are wildcards), keeps the order of the others
and returns the number of removed pairs -/
theorem C02_infos_remove (l : List Hw.Infos.Info) (n v : Option String) :
    Hw.Infos.removeArr l n v = (l.filter (fun p => !Hw.Infos.isMatch n v p), ((l.countP (Hw.Infos.isMatch n v) : Nat) : Int)) := by
  unfold Hw.Infos.removeArr
  obtain ⟨hb, hcnt⟩ := Hw.Infos.removeLoop_buf l n v l.length (Nat.le_refl _)
  generalize Hw.Infos.removeLoop n v (Hw.Infos.Arr.ofList l) l.length = s at hb hcnt
  obtain ⟨a, found⟩ := s
  simp only [List.take_length] at hb hcnt
  simp only [Hw.Infos.Arr.toList]
  rw [← hb.len, Nat.add_sub_cancel, hb.pre, hcnt]

/-- REPLACE: first pair with that name gets the value, later ones are deleted, others keep their order;
appended when there is none; returns 1 + number of matches (1 when appended) -/
theorem C02_infos_replace (l : List Hw.Infos.Info) (n v : String) :
    Hw.Infos.replaceArr l n v = Hw.Infos.replaceSpec l n v := by
  unfold Hw.Infos.replaceArr Hw.Infos.replaceSpec
  obtain ⟨hb, hcnt⟩ := Hw.Infos.replaceLoop_buf l n v l.length (Nat.le_refl _)
  generalize Hw.Infos.replaceLoop n v (Hw.Infos.Arr.ofList l) l.length = s at hb hcnt
  obtain ⟨a, found⟩ := s
  simp only [List.take_length] at hb hcnt
  simp only [← hcnt]
  split
  · rfl
  · simp only [Hw.Infos.Arr.toList]
    rw [← hb.len, Nat.add_sub_cancel, hb.pre]

/-- ADD appends, ADD_UNIQUE appends iff the exact pair is absent, NULL arguments and unknown operations are EINVAL
and leave the list unchanged -/
theorem C02_infos_add (l : List Hw.Infos.Info) (n v : String) :
    Hw.Infos.modify l .add (some n) (some v) = (l ++ [(n, v)], 1) := rfl
theorem C02_infos_add_unique (l : List Hw.Infos.Info) (n v : String) :
    Hw.Infos.modify l .addUnique (some n) (some v) = if l.contains (n, v) then (l, 0) else (l ++ [(n, v)], 1) := rfl
theorem C02_infos_einval (l : List Hw.Infos.Info) (op : Hw.Infos.Op) (n v : Option String)
    (h : op = .unknown ∨ (op ≠ .remove ∧ (n = none ∨ v = none))) : Hw.Infos.modify l op n v = (l, -1) := by
  rcases h with rfl | ⟨hop, hnv⟩
  · cases n <;> cases v <;> rfl
  · cases op <;> first | exact absurd rfl hop | (rcases hnv with rfl | rfl <;> (try cases n) <;> (try cases v) <;> rfl)

/-! non-vacuity -/
example : Hw.Infos.replaceArr [("X", "a"), ("Y", "b"), ("X", "c"), ("Z", "d"), ("X", "e")] "X" "new"
    = ([("X", "new"), ("Y", "b"), ("Z", "d")], 4) := by decide +kernel
example : Hw.Infos.removeArr [("X", "a"), ("Y", "b"), ("X", "c")] (some "X") none = ([("Y", "b")], 2) := by decide +kernel


/-! ### Group insertion: `hwloc___insert_object_by_cpuset` on laminar trees (model `Hw.Topo.Ins`, predicted exactly by the driver) -/

open Hw.Topo.Ins in
/-- the core insertion routine, run on ANY laminar tree (children pairwise disjoint and included in their parent, at every level)
with ANY object whose set is included in the root's, never reaches the situation in which the C code returns while children
hang below the unlinked new object (objects would be lost), and conserves the objects: an insertion adds exactly the new object,
a merge or a refused insertion (intersection without inclusion) keeps exactly the same objects -/
theorem C02_insert_conserves_objects (t : T) (obj : IObj) (hL : Lam t) (hs : sub obj.key t.o.key) :
    ins obj t ≠ .stuck ∧
    (∀ t', ins obj t = .inserted t' → ∀ g, cntT g t' = cntT g t + (if obj.gp = g then 1 else 0)) ∧
    (∀ t' m, ins obj t = .merged t' m → ∀ g, cntT g t' = cntT g t) ∧
    (∀ t', ins obj t = .failed t' → ∀ g, cntT g t' = cntT g t) := by
  have h := ins_good t obj hL hs
  refine ⟨fun e => by rw [e] at h; exact h, fun t' e => ?_, fun t' m e => ?_, fun t' e => ?_⟩ <;> rw [e] at h
  · exact h.2.2
  · exact h.2.2
  · exact h.2.2

open Hw.Topo.Ins in
/-- after an insertion, a merge or a refused insertion (put-back) the tree is laminar again (the cpuset clauses of C01 that concern inclusion and disjointness
are preserved by the routine), and the root keeps its set -/
theorem C02_insert_preserves_laminar (t : T) (obj : IObj) (hL : Lam t) (hs : sub obj.key t.o.key) :
    (∀ t', ins obj t = .inserted t' → Lam t' ∧ t'.o.key = t.o.key) ∧
    (∀ t' m, ins obj t = .merged t' m → Lam t' ∧ t'.o.key = t.o.key) ∧
    (∀ t', ins obj t = .failed t' → Lam t' ∧ t'.o.key = t.o.key) := by
  have h := ins_good t obj hL hs
  refine ⟨fun t' e => ?_, fun t' m e => ?_, fun t' e => ?_⟩ <;> rw [e] at h <;> exact ⟨h.1, h.2.1⟩

open Hw.Topo.Ins in
/-- "a Group that conflicts with the hierarchy leaves the topology unchanged": on a laminar tree whose children lists are
ordered by the first bit of their complete cpuset (what hwloc maintains) and whose objects carry no offline / disallowed bits
(cpuset = complete cpuset), an insertion refused because of an intersection returns EXACTLY the original tree — the put-back
loop restores every child taken by the new object to its original position, at every depth of the recursion.  (With offline
bits the position remembered from cpusets and the put-back by complete cpusets need not agree; that case is left to the
differential comparison `modified-on-failure`.) -/
theorem C02_refused_insert_unchanged (t : T) (obj : IObj) (hL : Lam t) (hO : Ord t) (hs : sub obj.key t.o.key) (t' : T)
    (h : ins obj t = .failed t') : t' = t :=
  ins_failed t obj hL hO t' h

open Hw.Topo.Ins in
/-- the routine keeps the children lists ordered: on a laminar, ordered tree without offline / disallowed bits, after an insertion
or a merge of a non-empty object with cpuset = complete cpuset every children list is still strictly ordered by the first bit of
the complete cpuset (the `siblings-ordered` clause of C01), at every level -/
theorem C02_insert_keeps_order (t : T) (obj : IObj) (hL : Lam t) (hO : Ord t) (hs : sub obj.key t.o.key)
    (hkc : obj.key = obj.ckey) (hne : obj.key ≠ 0) :
    (∀ t', ins obj t = .inserted t' → Ord t') ∧ (∀ t' m, ins obj t = .merged t' m → Ord t') := by
  have h := ins_ord t obj hO hkc hne
  refine ⟨fun t' e => ?_, fun t' m e => ?_⟩ <;> rw [e] at h <;> exact h.1

open Hw.Topo.Ins in
/-- the re-sorting step that `hwloc_topology_insert_group_object`, `fixup_sets` and the level merging run after changing
complete cpusets (`hwloc__reorder_children_if_needed`, literal insertion-sort model) returns, for EVERY children list, a
permutation of it in which no child starts below an earlier one (CPU-less children last) — whichever of its two branches runs -/
theorem C02_reorder_sorts (kids : List T) :
    (reorderIfNeeded kids).Pairwise le ∧ (reorderIfNeeded kids).Perm kids ∧ (reorder kids).Pairwise le ∧ (reorder kids).Perm kids :=
  ⟨(reorderIfNeeded_sorted kids).1, (reorderIfNeeded_sorted kids).2, (reorder_sorted kids).1, (reorder_sorted kids).2⟩

open Hw.Topo.Ins in
/-- conservation and laminarity (`Good`) through the public entry point `hwloc_topology_insert_group_object` (set clipping,
cpuset from the nodeset, comparison with the root), for every argument combination -/
theorem C02_group_insert (filterGroup rootCpuset rootNodeset : Nat) (numas : List (Nat × Nat)) (root : T) (newGp : Nat)
    (a : GArgs) (hL : Lam root) (key : Nat) (r : Res)
    (h : insertGroup filterGroup rootCpuset rootNodeset numas root newGp a = .core key r) : Good newGp root r :=
  insertGroup_good filterGroup rootCpuset rootNodeset numas root newGp a hL key r h

open Hw.Topo.Ins in
/-- … and for EVERY well-formed topology (the C01 predicate `WF`): the tree of its normal objects keyed by cpuset is laminar, so
the core of `hwloc_topology_insert_group_object` never loses an object on it and yields a laminar tree with exactly the
objects `Good` states -/
theorem C02_group_insert_wf (d : Dump) (h : WF d) (root : Obj) (hr : root ∈ d.objs) (fuel : Nat)
    (filterGroup rootCpuset rootNodeset : Nat) (numas : List (Nat × Nat)) (newGp : Nat) (a : GArgs) (key : Nat) (r : Res)
    (hi : insertGroup filterGroup rootCpuset rootNodeset numas (treeH d fuel root) newGp a = .core key r) :
    Good newGp (treeH d fuel root) r :=
  insertGroup_good filterGroup rootCpuset rootNodeset numas _ newGp a (lam_treeH h fuel root hr) key r hi

open Hw.Topo.Ins in
/-- the executable laminarity check the driver evaluates on the tree of every real topology before a Group insertion is sound -/
theorem C02_laminar_check_sound (t : T) (h : lamB t = true) : Lam t :=
  lamB_sound t h

/-! non-vacuity: a laminar tree, an insertion that adopts two children, a refused one -/
section
open Hw.Topo.Ins
private def leaf (gp key : Nat) : T := .node { gp := gp, type := tPU, key := key, ckey := key } []
private def demo : T := .node { gp := 0, type := tMACHINE, key := 0xf, ckey := 0xf } [leaf 1 1, leaf 2 2, leaf 3 4, leaf 4 8]
example : lamB demo = true := by decide +kernel
example : Ord demo := ordB_sound demo (by decide +kernel)
example : (match ins { gp := 9, type := tGROUP, key := 0x3 } demo with | .inserted t' => rows 0 t' | _ => [])
    = [(0, 0, [], []), (9, 0, [0, 0, 0], []), (1, 9, [], []), (2, 9, [], []), (3, 0, [], []), (4, 0, [], [])] := by decide +kernel
example : (match ins { gp := 9, type := tGROUP, key := 0x3 }
      (.node { gp := 0, type := tMACHINE, key := 0xf, ckey := 0xf } [leaf 1 1, leaf 2 6, leaf 4 8]) with
    | .failed t' => rows 0 t' | _ => [])
    = [(0, 0, [], []), (1, 0, [], []), (2, 0, [], []), (4, 0, [], [])] := by decide +kernel
end

/-! ### Misc insertion: `hwloc_topology_insert_misc_object` on the dump level (model `Hw.Topo.MiscIns`, predicted exactly by the driver) -/

section MiscInsertion
open Hw.Topo.MiscIns

/-- **WF is preserved by hwloc_topology_insert_misc_object**: for EVERY well-formed dump, every parent object `p` (normal, memory,
I/O or Misc), every name and every amount `skip` of gp indexes consumed by unlinked objects — whether the call succeeds or
is refused.  All 18 topology clauses and all 29 object clauses of C01 are re-established (links, ranks, arities, levels, logical
indexes, cousins, the per-object aggregates over the children lists). -/
theorem C02_insert_misc_wf (d : Dump) (p : Nat) (name : Option String) (skip : Nat) (h : WF d) :
    WF (insertMisc d p name skip).1 := by
  unfold insertMisc
  by_cases hf : ((d.filters[tMISC]?).getD 0 == 1) = true
  · rw [if_pos hf]; exact h
  · rw [if_neg hf]
    by_cases hlen : d.objs.length ≤ p
    · rw [if_pos hlen]; exact h
    · rw [if_neg hlen]
      have hp : p < d.objs.length := by omega
      exact after_wf h p (subEnd d p) (newLidx d (subEnd d p)) name skip (subEnd_gt d p hp) (subEnd_le d p)
        (by simpa using hf) fun l hl h7 => newLidx_spec h _ l hl h7

/-- … and this does not depend on the depth-first numbering of the dump: inserting the new Misc child at ANY position behind its
parent (with the logical index its position in the Misc level demands) yields a well-formed dump -/
theorem C02_insert_misc_wf_any_position (d : Dump) (h : WF d) (p pos k : Nat) (name : Option String) (skip : Nat)
    (hp : p < pos) (hpos : pos ≤ d.objs.length) (hf : (d.filters[tMISC]?).getD 0 ≠ 1)
    (hk : ∀ l ∈ d.levels, l.depth = -7 → k = (l.objs.filter (fun i => decide (i < (pos : Int)))).length) :
    WF (after d p pos k name skip) :=
  after_wf h p pos k name skip hp hpos hf hk

/-- EINVAL when Misc objects are filtered out (type filter KEEP_NONE): nothing changes -/
theorem C02_insert_misc_filtered_unchanged (d : Dump) (p : Nat) (name : Option String) (skip : Nat)
    (hf : (d.filters[tMISC]?).getD 0 = 1) : insertMisc d p name skip = (d, .einval) := by
  unfold insertMisc
  rw [if_pos (by rw [hf]; rfl)]

/-- any refused call leaves every observable attribute unchanged -/
theorem C02_insert_misc_einval_unchanged (d : Dump) (p : Nat) (name : Option String) (skip : Nat)
    (he : (insertMisc d p name skip).2 = .einval) : (insertMisc d p name skip).1 = d := by
  unfold insertMisc at he ⊢
  by_cases hf : ((d.filters[tMISC]?).getD 0 == 1) = true
  · rw [if_pos hf]
  · rw [if_neg hf] at he ⊢
    by_cases hlen : d.objs.length ≤ p
    · rw [if_pos hlen]
    · rw [if_neg hlen] at he; cases he

/-- **frame**: after a successful call the topology header is unchanged (one more object), the new object sits at number
`pos` = end of the parent's subtree, and the old object number `i` is found at number `shN pos i` (numbers ≥ pos move up by one)
as `upd … o` — nothing else exists -/
theorem C02_insert_misc_frame (d : Dump) (p : Nat) (name : Option String) (skip : Nat)
    (hf : (d.filters[tMISC]?).getD 0 ≠ 1) (hp : p < d.objs.length) :
    let pos := subEnd d p
    let k := newLidx d pos
    let d' := (insertMisc d p name skip).1
    p < pos ∧ pos ≤ d.objs.length ∧ d'.objs.length = d.objs.length + 1 ∧
    d'.objs[pos]? = some (newObj d p pos k name skip) ∧
    (∀ i, d'.objs[shN pos i]? = (d.objs[i]?).map (upd p pos k (lastId d p))) ∧
    d'.flags = d.flags ∧ d'.depth = d.depth ∧ d'.root = d.root ∧ d'.allowedCpuset = d.allowedCpuset ∧
    d'.allowedNodeset = d.allowedNodeset ∧ d'.filters = d.filters ∧ d'.typeDepths = d.typeDepths ∧ d'.nobjs = d.nobjs + 1 := by
  intro pos k d'
  have e : d' = after d p pos k name skip := by
    show (insertMisc d p name skip).1 = _
    rw [insertMisc_ok d p name skip hf hp]
  rw [e]
  exact ⟨subEnd_gt d p hp, subEnd_le d p, after_length d p pos k name skip, after_get_pos d p pos k name skip (subEnd_le d p),
    fun i => after_get_sh d p pos k name skip (subEnd_le d p) i, rfl, rfl, rfl, rfl, rfl, rfl, rfl, rfl⟩

/-- … where `upd` leaves type, depth, os_index, gp_index, sibling_rank, arity, memory_arity, io_arity, symmetric_subtree, the four
sets, total_memory, attributes, subtype, name and infos of EVERY old object untouched, renames the link fields, and changes
exactly: misc_arity / misc_first_child of the parent, next_sibling of the previous last Misc child, logical_index of the Misc
objects behind the insertion point (+1), prev_cousin of the first Misc object behind it and next_cousin of the last one before it -/
theorem C02_insert_misc_frame_fields (p pos k : Nat) (last : Int) (o : Obj) :
    let o' := upd p pos k last o
    o'.type = o.type ∧ o'.depth = o.depth ∧ o'.osidx = o.osidx ∧ o'.gp = o.gp ∧ o'.rank = o.rank ∧ o'.arity = o.arity ∧
    o'.marity = o.marity ∧ o'.ioarity = o.ioarity ∧ o'.symm = o.symm ∧ o'.cpuset = o.cpuset ∧ o'.ccpuset = o.ccpuset ∧
    o'.nodeset = o.nodeset ∧ o'.cnodeset = o.cnodeset ∧ o'.totalMem = o.totalMem ∧ o'.attrs = o.attrs ∧ o'.subtype = o.subtype ∧
    o'.name = o.name ∧ o'.infos = o.infos ∧
    o'.id = shN pos o.id ∧ o'.parent = shI pos o.parent ∧ o'.prevSib = shI pos o.prevSib ∧ o'.firstChild = shI pos o.firstChild ∧
    o'.lastChild = shI pos o.lastChild ∧ o'.memFirst = shI pos o.memFirst ∧ o'.ioFirst = shI pos o.ioFirst ∧
    o'.children = o.children.map (shI pos) ∧
    o'.miscarity = (if o.id = p then o.miscarity + 1 else o.miscarity) ∧
    o'.miscFirst = (if o.id = p ∧ o.miscarity = 0 then (pos : Int) else shI pos o.miscFirst) ∧
    o'.nextSib = (if (o.id : Int) = last then (pos : Int) else shI pos o.nextSib) ∧
    o'.lidx = (if o.type = tMISC ∧ k ≤ o.lidx then o.lidx + 1 else o.lidx) ∧
    o'.prevCousin = (if o.type = tMISC ∧ o.lidx = k then (pos : Int) else shI pos o.prevCousin) ∧
    o'.nextCousin = (if o.type = tMISC ∧ o.lidx + 1 = k then (pos : Int) else shI pos o.nextCousin) := by
  exact ⟨rfl, rfl, rfl, rfl, rfl, rfl, rfl, rfl, rfl, rfl, rfl, rfl, rfl, rfl, rfl, rfl, rfl, rfl, rfl, rfl, rfl, rfl, rfl, rfl, rfl, rfl,
    updMiscarity_eq p o, updMiscFirst_eq p pos o, updNextSib_eq last pos o, updLidx_eq k o, updPrevCousin_eq pos k o,
    updNextCousin_eq pos k o⟩

/-- gp_index: the old values stay (same objects, same order, the new value inserted at `pos`), and the new one is fresh: above
every old one -/
theorem C02_insert_misc_gp (d : Dump) (p : Nat) (name : Option String) (skip : Nat)
    (hf : (d.filters[tMISC]?).getD 0 ≠ 1) (hp : p < d.objs.length) :
    (insertMisc d p name skip).1.objs.map (·.gp) = insAt (d.objs.map (·.gp)) (subEnd d p) (maxGp d + 1 + skip) ∧
    ∀ o ∈ d.objs, o.gp < maxGp d + 1 + skip := by
  rw [insertMisc_ok d p name skip hf hp]
  refine ⟨after_gps p _ _ name skip, ?_⟩
  intro o ho
  have := gp_le_maxGp d o ho
  omega

/-- one call of the extended modelled API (allow, add_info, modify_infos, set_subtype, insert_misc_object) keeps the topology well formed -/
theorem C02_step_misc_wf (d : Dump) (op : MOp) (h : WF d) : WF (stepM d op).1 := by
  cases op with
  | base op => exact step_wf d op h
  | misc p name skip => exact C02_insert_misc_wf d p name skip h

/-- **… hence every finite history mixing these calls does** (the induction over op lists of `C02_history_wf`, extended with
Misc insertion) -/
theorem C02_history_misc_wf (d : Dump) (ops : List MOp) (h : WF d) : WF (runM d ops) :=
  List.foldlRecOn ops _ h fun d h op _ => C02_step_misc_wf d op h

/-! non-vacuity: `core:2 pu:1` with Misc kept is well formed; a Misc below Core 0, a second one below the first (Misc below Misc), a
third below the Machine, interleaved with an info edit; the refused call -/
example : WF exD := exD_wf
example : (insertMisc exD 1 (some "a") 0).2 = .ok 0 := by decide +kernel
example : (((insertMisc exD 1 (some "a") 0).1.levels.find? (fun l => l.depth == -7)).map (·.objs)) = some [3] := by decide +kernel
example : wfCheck (runM exD [.misc 1 (some "a") 0, .misc 3 none 2, .base (.addInfo 3 (some "k") (some "v")), .misc 0 (some "c") 0]) = [] := by
  decide +kernel
example : (((runM exD [.misc 1 (some "a") 0, .misc 3 none 2, .misc 0 (some "c") 0]).levels.find? (fun l => l.depth == -7)).map (·.objs))
    = some [3, 4, 8] := by decide +kernel
example : ((runM exD [.misc 1 (some "a") 0, .misc 3 none 2, .misc 0 (some "c") 0]).objs.map (·.gp)) = [1, 3, 2, 7, 10, 5, 4, 6, 11] := by
  decide +kernel
example : (exDnone.filters[tMISC]?).getD 0 = 1 := by decide +kernel
example : insertMisc exDnone 1 (some "a") 0 = (exDnone, .einval) := C02_insert_misc_filtered_unchanged _ _ _ _ (by decide)
example : (1 : Nat) < subEnd exD 1 ∧ subEnd exD 1 = 3 ∧ newLidx exD 3 = 0 := by decide +kernel
end MiscInsertion

end Hw.Props.C02
