/- C11 — Object type strings parse back; obj/attr snprintf obey the length contract.

   The model is Hw/Io/TypeStr.lean, interpreting the tables GENERATED from the hwloc sources into
   Hw/Gen/TypeTables.lean (so every `decide` below is re-run against the current source on every check). -/
import Hw.Io.TypeStrPrefix
namespace Hw.Props.C11
open Hw.TypeStr Hw.Gen.TypeTables

/-! ## round trip -/

/-- the keys (type, cache/group depth, cache type, bridge upstream type, OS-device word) of the finite part:
    every type except Group; caches of depth 1..5 x {unified,data} and 1..3 instruction whose type is
    consistent with depth and cache type (asserted for every loaded object by hwloc_topology_check);
    both bridge upstream types; all 128 subsets of the 7 OS-device bits.  Fields that do not belong to
    the object's type are 0 (the convention of the model's `Obj`). -/
def scopeKeys : List (Nat × Nat × Nat × Nat × Nat) :=
  ([T_MACHINE, T_PACKAGE, T_DIE, T_CORE, T_PU, T_NUMANODE, T_MEMCACHE, T_PCI_DEVICE, T_MISC].map fun t => (t, 0, 0, 0, 0))
  ++ ((List.range 5).flatMap fun i => [(T_L1CACHE + i, i + 1, CACHE_UNIFIED, 0, 0), (T_L1CACHE + i, i + 1, CACHE_DATA, 0, 0)])
  ++ ((List.range 3).map fun i => (T_L1ICACHE + i, i + 1, CACHE_INSTRUCTION, 0, 0))
  ++ [(T_BRIDGE, 0, 0, BRIDGE_HOST, 0), (T_BRIDGE, 0, 0, BRIDGE_PCI, 0)]
  ++ ((List.range 128).map fun w => (T_OS_DEVICE, 0, 0, 0, w))

def keyOf (o : Obj) : Nat × Nat × Nat × Nat × Nat := (o.type, o.depth, o.ctype, o.upstream, o.ostypes)

/-- the round-trip statement for one object and one flag word: the text of hwloc_obj_type_snprintf is
    accepted by hwloc_type_sscanf, which returns the same type and, through a full-size attribute union,
    the same cache depth/type, group depth, bridge upstream type, OS-device set -/
def RoundTrips (o : Obj) (flags : Nat) : Prop :=
  ∃ txt p, typeText o flags = some txt ∧ typeSscanf txt = .ok (some p) ∧ p.type = o.type ∧
    writeBack p (some sizeofAttr) = expectedWritten o.type o.depth o.ctype o.upstream o.ostypes

/-- only the OS-device printer reads SHORT_NAMES: for every other type the check, made without it, speaks for every flag word -/
theorem roundTrips_of_check (o : Obj) (flags : Nat) (ht : o.type ≠ T_OS_DEVICE)
    (h : rtCheckK o.type o.depth o.ctype o.upstream o.ostypes (isLong flags) = true) : RoundTrips o flags := by
  unfold rtCheckK at h
  unfold RoundTrips typeText typeChunks
  rw [typeChunksK_short _ _ _ _ _ _ _ ht]
  split at h
  · cases h
  · rename_i cs hcs
    split at h
    · rename_i p hp
      simp only [Bool.and_eq_true, beq_iff_eq] at h
      exact ⟨cs.flatten, p, by simp [hcs], hp, h.1, h.2⟩
    · cases h

/-- the keys in scope that are not OS devices: 24 texts × 2 name lengths, evaluated -/
theorem scope_checks : (scopeKeys.filter (·.1 != T_OS_DEVICE)).all (fun k => rtCheckK k.1 k.2.1 k.2.2.1 k.2.2.2.1 k.2.2.2.2 true &&
    rtCheckK k.1 k.2.1 k.2.2.1 k.2.2.2.1 k.2.2.2.2 false) = true := by
  decide +kernel

theorem scope_osdev_words : ∀ k ∈ scopeKeys, k.1 = T_OS_DEVICE → k.2.2.2.2 &&& 127 = k.2.2.2.2 := by decide +kernel

/-- **type_roundtrip, OS devices with ANY 64-bit (indeed any) type word**: since fix 56af888 bits outside names[] are
    simply not printed, so the text parses back to exactly the known bits `types & 0x7f` (equal to `types`
    when no unknown bit is set; that case is also part of `C11_type_roundtrip`).  By the structure of the printed
    text (`typeSscanf_osdev`): each names[] spelling in front of ',' or ']' is recognised as its bit, whatever follows. -/
theorem C11_osdev_roundtrip_known_bits (o : Obj) (flags : Nat) (ht : o.type = T_OS_DEVICE) (hs : isShort flags = false) :
    ∃ txt p, typeText o flags = some txt ∧ typeSscanf txt = .ok (some p) ∧ p.type = T_OS_DEVICE ∧
      writeBack p (some sizeofAttr) = .osdev (o.ostypes &&& 127) := by
  obtain ⟨cs, h1, h2⟩ := typeSscanf_osdev o.ostypes (isLong flags)
  refine ⟨cs.flatten, _, ?_, h2, rfl, writeBack_osdev _⟩
  unfold typeText typeChunks
  rw [ht, hs, typeChunksK_osdev, h1]; rfl

/-- **P0 type_roundtrip (finite part)**: every object whose key is in scope, every flag word without
    SHORT_NAMES.  OS devices by `C11_osdev_roundtrip_known_bits`, the other keys by kernel evaluation over the
    generated chain and tables. -/
theorem C11_type_roundtrip (o : Obj) (flags : Nat) (hk : keyOf o ∈ scopeKeys) (hs : isShort flags = false) :
    RoundTrips o flags := by
  by_cases ht : o.type = T_OS_DEVICE
  · obtain ⟨txt, p, h1, h2, h3, h4⟩ := C11_osdev_roundtrip_known_bits o flags ht hs
    refine ⟨txt, p, h1, h2, h3.trans ht.symm, ?_⟩
    rw [h4, ht, expectedWritten_osdev]
    exact congrArg Written.osdev (scope_osdev_words (keyOf o) hk ht)
  · apply roundTrips_of_check o flags ht
    have h := List.all_eq_true.mp scope_checks (keyOf o) (List.mem_filter.mpr ⟨hk, bne_iff_ne.mpr ht⟩)
    simp only [keyOf, Bool.and_eq_true] at h
    cases isLong flags
    · exact h.2
    · exact h.1

/-- **P0 type_roundtrip (Group, every depth)**: for every 32-bit group depth `d` (4294967295 = "no depth" prints
    plain "Group"), every flag word without SHORT_NAMES: "Group<d>" parses back to Group with depth `d`.
    By the decimal print/parse lemma `scanDigits_dec` and a prefix evaluation of the generated chain
    (`groupReady`, re-decided on every run). -/
theorem C11_group_roundtrip (o : Obj) (flags : Nat) (ht : o.type = T_GROUP) (hd : o.depth < 4294967296)
    (_hs : isShort flags = false) : RoundTrips o flags := by
  unfold RoundTrips typeText typeChunks
  rw [ht, typeChunksK_group, expectedWritten_group]
  by_cases hm : o.depth = u32m1
  · rw [if_neg (fun h => h hm), hm]
    exact ⟨sGroup, { type := T_GROUP }, by simp, typeSscanf_group_nodepth, rfl, writeBack_group _⟩
  · rw [if_pos hm]
    exact ⟨sGroup ++ dec o.depth, { type := T_GROUP, depth := o.depth }, by simp, typeSscanf_group o.depth hd, rfl,
      writeBack_group _⟩

/-- hwloc_obj_type_string(t) is accepted and gives back `t`, for every type -/
theorem C11_type_string_roundtrip : ∀ t, t < typeMax →
    ∃ p, typeSscanf (typeString t) = .ok (some p) ∧ p.type = t := by
  have h : ∀ t, t < typeMax → (match typeSscanf (typeString t) with | .ok (some p) => p.type == t | _ => false) = true := by
    decide +kernel
  intro t ht
  have := h t ht
  split at this
  · rename_i p hp; exact ⟨p, hp, by simpa using this⟩
  · cases this

/-! ## printing: length contract and termination -/

/-- **P0 type_print_contract**: whenever hwloc_obj_type_snprintf returns, for every object, flag word and
    size (0 included; NULL is only dereferenced when size > 0, i.e. never): no write at or past `size`,
    NUL-terminated longest prefix when size > 0, return value = untruncated length -/
theorem C11_type_print_contract (o : Obj) (flags size : Nat) (c : Cur) (h : typeSnprintf o flags size = some c) :
    ∃ txt, typeText o flags = some txt ∧ Contract size txt c := by
  obtain ⟨cs, hcs, hne⟩ := typeChunksK_some o.type o.depth o.ctype o.upstream o.ostypes (isLong flags) (isShort flags)
  unfold typeSnprintf typeChunks at h
  rw [hcs] at h
  cases h
  refine ⟨cs.flatten, by unfold typeText typeChunks; rw [hcs]; rfl, ?_⟩
  simpa [flat_map_cur] using emit_contract size (cs.map Chunk.cur) (by simpa using hne) (map_cur_isCur cs)

/-- **P0 type_print_terminates**: hwloc_obj_type_snprintf returns for EVERY object, flag word and size, in
    particular for all 2^64 OS-device type words.  (On the pinned tree this failed: `while (ostype)` in
    hwloc__osdev_type_snprintf_normal never ended for a word with a bit >= 7 that is in no names[] entry -- F06,
    fixed by 56af888 (single pass); the old failing input is the first op of corpus/typestr/boundary.ops.) -/
theorem C11_type_print_terminates (o : Obj) (flags size : Nat) : (typeSnprintf o flags size).isSome = true := by
  obtain ⟨cs, hcs, _⟩ := typeChunksK_some o.type o.depth o.ctype o.upstream o.ostypes (isLong flags) (isShort flags)
  unfold typeSnprintf typeChunks
  rw [hcs]; rfl

/-- **P0 attr_print_contract**: hwloc_obj_attr_snprintf, every object with `IoNoMemory`, every separator,
    flag word and size -/
theorem C11_attr_print_contract (o : Obj) (sep : Bytes) (flags size : Nat) (h : IoNoMemory o) :
    Contract size (flat (attrChunks o sep flags)) (attrSnprintf o sep flags size) :=
  emit_contract_start size _ (attrChunks_ne o sep flags) (attrChunks_startOk o sep flags h)

/-- NULL with size 0 is accepted: nothing at all is written -/
theorem C11_size0_writes_nothing (size : Nat) (txt : Bytes) (c : Cur) (h : Contract size txt c) (h0 : size = 0) :
    ∀ i, c.buf i = none := fun i => h.outside i (by omega)

/-! ## memory safety of hwloc_type_sscanf -/

/-- **P0 sscanf_safe**: for EVERY byte string hwloc_type_sscanf never moves a pointer beyond the terminating NUL of its
    input (all loops of the model stop at the NUL exactly where the C loops test it; every unguarded `p + k` goes
    through `ptrAdd`), never reads beyond the NUL of a pattern literal, and returns 0 or -1.
    Generic in the generated chain (`runChain_ok`): needs only `chain_bracketFits` (skip ≤ n ≤ |pattern| for the `osdev[`/`os[`
    forms) and, for the type bound it proves alongside, `chain_types_ok`, both re-decided on every run.  (On the pinned tree the pattern half needed "no byte 0xE0": F23, fixed by 2710d74.) -/
theorem C11_sscanf_safe (s : Bytes) : ∃ r, typeSscanf s = .ok r :=
  let ⟨r, h, _⟩ := runChain_ok s sscanfChain chain_bracketFits chain_types_ok
  ⟨r, h⟩

/-- whenever hwloc_type_sscanf returns 0, `*typep` is an enumerator of hwloc_obj_type_t (so indexing
    obj_type_order[] with it, as hwloc_compare_types does, is in bounds) -/
theorem C11_sscanf_type_valid (s : Bytes) (p : Parsed) (h : typeSscanf s = .ok (some p)) : p.type < typeMax := by
  obtain ⟨r, hr, ht⟩ := runChain_ok s sscanfChain chain_bracketFits chain_types_ok
  rw [typeSscanf, hr] at h
  exact ht p (R.ok.inj h)

/-- the old F23 input `"pu\\xe0z"` (0xE0 = '\\0' + 'A' - 'a' as a signed char used to "match" the NUL of the
    pattern, after which hwloc__type_match read past the literal): now the match stops at the end of "pu" -/
theorem C11_F23_e0_input_parses : typeSscanf [112, 117, 224, 122] = .ok (some { type := T_PU }) := by
  decide +kernel

/-! ## hwloc_compare_types and the kind predicates -/

/-- **P0 compare_types_laws**: the symmetry clauses and transitivity hold of the function for any two numbers
    (`compareTypes_swap`, `compareTypes_none`, `compareTypes_some`); only equal types compare equal because the
    generated obj_type_order[] has no value twice (`compareTypes_zero`); the Machine and PU clauses are evaluated
    over the full table -/
theorem C11_compare_types_laws :
    -- antisymmetric where ordered; UNORDERED is symmetric
    (∀ a, a < typeMax → ∀ b, b < typeMax → compareTypes b a = (compareTypes a b).map (fun v => -v)) ∧
    -- reflexive, and only equal types compare equal
    (∀ a, a < typeMax → ∀ b, b < typeMax → (compareTypes a b = some 0 ↔ a = b)) ∧
    -- UNORDERED exactly between a non-normal type and a normal type other than Machine
    (∀ a, a < typeMax → ∀ b, b < typeMax →
      (compareTypes a b = none ↔ ((isNormal a != isNormal b) && (if isNormal a then a != T_MACHINE else b != T_MACHINE)) = true)) ∧
    -- Machine is highest
    (∀ b, b < typeMax → ∃ v, compareTypes T_MACHINE b = some v ∧ v ≤ 0) ∧
    -- PU is the deepest normal type
    (∀ a, a < typeMax → isNormal a = true → ∃ v, compareTypes a T_PU = some v ∧ v ≤ 0) ∧
    -- transitive where ordered
    (∀ a, a < typeMax → ∀ b, b < typeMax → ∀ c, c < typeMax → ∀ x y, compareTypes a b = some x → compareTypes b c = some y →
      x ≤ 0 → y ≤ 0 → ∀ z, compareTypes a c = some z → z ≤ 0) := by
  refine ⟨fun a _ b _ => compareTypes_swap a b, fun a ha b hb => compareTypes_zero ha hb, fun a _ b _ => compareTypes_none a b,
    by decide +kernel, by decide +kernel, ?_⟩
  intro a _ b _ c _ x y hx hy hx0 hy0 z hz
  have := compareTypes_some hx
  have := compareTypes_some hy
  have := compareTypes_some hz
  omega

/-- exactly one of normal / memory / io / misc holds for every type; caches are normal, data and
    instruction caches partition the caches -/
theorem C11_kinds_partition : ∀ t, t < typeMax →
    ((if isNormal t then 1 else 0) + (if isMemory t then 1 else 0) + (if isIO t then 1 else 0) + (if isMisc t then 1 else 0) = 1) ∧
    (isCache t = true → isNormal t = true) ∧ (isCache t = (isDCache t != isICache t)) ∧ (isDCache t && isICache t) = false := by
  decide +kernel

/-! ## one text per level -/

/-- **P0 level_same_text**: objects that agree on what the printer reads (type, cache depth and type, group
    depth, bridge upstream type, OS-device word) print the same text into every buffer.  hwloc_topology_check
    guarantees equal type and group depth per level, not equal cache type: see F11 below. -/
theorem C11_level_same_text (o1 o2 : Obj) (flags size : Nat) (h : keyOf o1 = keyOf o2) :
    typeText o1 flags = typeText o2 flags ∧
    (typeSnprintf o1 flags size).map (fun c => (c.ret, (List.range size).map c.buf)) =
    (typeSnprintf o2 flags size).map (fun c => (c.ret, (List.range size).map c.buf)) := by
  simp only [keyOf, Prod.mk.injEq] at h
  obtain ⟨h1, h2, h3, h4, h5⟩ := h
  simp [typeText, typeSnprintf, typeChunks, h1, h2, h3, h4, h5]

/-- **F11 (negative)**: a unified and a data L1 cache (same type HWLOC_OBJ_L1CACHE, same depth, hence the
    same level for hwloc_type_cmp) print different texts -/
theorem C11_F11_same_level_different_text :
    typeText { type := T_L1CACHE, depth := 1, ctype := CACHE_UNIFIED } 0 ≠
    typeText { type := T_L1CACHE, depth := 1, ctype := CACHE_DATA } 0 := by
  decide +kernel

/-! ## non-vacuity -/

/-- a group of depth 4294967294 (the largest real depth) round-trips -/
example : RoundTrips { type := T_GROUP, depth := 4294967294 } 0 :=
  C11_group_roundtrip _ _ rfl (by decide) (by decide)

/-- a multi-bit OS device with long names -/
example : RoundTrips { type := T_OS_DEVICE, ostypes := 44 } FLAG_LONG_NAMES :=
  C11_type_roundtrip _ _ (by decide +kernel) (by decide)

/-- its text is "OSDev[OpenFabrics,Co-Processor,GPU]" -/
example : typeText { type := T_OS_DEVICE, ostypes := 44 } FLAG_LONG_NAMES =
    some [79, 83, 68, 101, 118, 91, 79, 112, 101, 110, 70, 97, 98, 114, 105, 99, 115, 44, 67, 111, 45, 80, 114, 111, 99, 101, 115,
          115, 111, 114, 44, 71, 80, 85, 93] := by decide +kernel

/-- the contract bites on a truncating size: 5 cells for a 35-byte text hold 4 bytes and a NUL -/
example : ((typeSnprintf { type := T_OS_DEVICE, ostypes := 44 } FLAG_LONG_NAMES 5).map
    (fun c => (c.ret, (List.range 7).map c.buf))) = some (35, [some 79, some 83, some 68, some 101, some 0, none, none]) := by
  decide +kernel

/-- an I/O object without memory exists and has a non-trivial verbose attribute text -/
example : IoNoMemory { type := T_PCI_DEVICE, vendor := 32902 } ∧
    (attrSnprintf { type := T_PCI_DEVICE, vendor := 32902 } [32] FLAG_MORE_ATTRS 8).ret = 44 := by
  constructor
  · intro _; rfl
  · decide +kernel

end Hw.Props.C11
