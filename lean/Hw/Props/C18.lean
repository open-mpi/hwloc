/-
  Property C18 — discovery from Linux/x86 snapshots is robust, deterministic and self-consistent.

  PARTIAL by design (DESIGN.md section 4, C18): the 8000-line Linux and 2000-line x86 back ends are not
  modelled.  What is proved here, for ALL inputs:
    * the pure parsers every Linux sysfs read goes through (`hwloc__read_fd`, `…_as_cpulist`,
      `…_as_cpumask`, model in Hw/Io/LinuxParse.lean, tied to the C code by the `linuxparse` engine):
      specification on well-formed kernel files, safety on arbitrary bytes / arbitrary read() patterns;
    * (A9) the next layer of string / number logic of topology-linux.c, for EVERY file content: the numeric
      readers `hwloc_read_path_by_length / _as_int / _as_uint / _as_uint64`, `hwloc_parse_meminfo_info`,
      `hwloc_parse_hugepages_info` (Hw/Io/LinuxNum.lean) and the cgroup / cpuset handling
      `hwloc_linux__get_allowed_resources` = `hwloc_find_linux_cgroup_mntpnt` (glibc getmntent_r modelled) +
      `hwloc_read_linux_cgroup_name` + `hwloc_admin_disable_set_from_cgroup` (Hw/Io/LinuxCgroup.lean): every
      store stays inside the fixed C buffers, every pointer stays inside its string, the loops end, and the
      results are characterised (first matching line / first key / value of the leading digits);
    * the relations the `snapshots` engine judges loads with (`SameTopo`, `DisallowedView`, `XmlEquiv`,
      Hw/Topo/Relations.lean): their executable checkers are exact, they are equivalences where claimed,
      and `DisallowedView` + `WF` give the inclusion clauses of the property statement;
    * (B7) the CPUID-dump reading layer of topology-x86.c (HWLOC_CPUID_PATH; Hw/Io/X86Dump.lean, engine `x86dump`), for
      EVERY file content / table / query / directory listing: `cpuiddump_read` never stores outside the array it
      sized in its first pass and returns exactly the fully converted non-comment fgets lines; `cpuiddump_find_by_input`
      returns the first matching entry or zeros, and is order independent exactly when matching entries agree;
      `cpuiddump_free` leaks the array iff the table is empty; `hwloc_x86_check_cpuiddump_input` accepts iff the
      first 17 bytes of the summary are `Architecture: x86` and the `pu` indexes are exactly 0 … n-1.
  That the back ends establish `WF` and the relations on every snapshot / configuration / fault sequence
  is NOT proved: it is checked by these proved oracles on every load of every run.
-/
import Hw.Io.LinuxParseLemmas
import Hw.Io.LinuxNumLemmas
import Hw.Io.LinuxCgroupLemmas
import Hw.Io.X86DumpLemmas
import Hw.Topo.Relations
namespace Hw.Props.C18
open Hw Hw.LinuxParse Hw.Topo Hw.LinuxNum Hw.LinuxCgroup

/-! ### cpulist -/

/-- for every well-formed kernel list (ascending disjoint `a` / `a-b` items below 2^31-1, decimal,
comma separated, newline terminated) the result is exactly the union of the items, and finite -/
theorem C18_cpulist_spec (dst : Bitmap) (items : List (Nat × Nat)) (hne : items ≠ []) (h : AscFrom 0 items) :
    ∃ b, cpulist dst (renderList items) = some b ∧ b.inf = false ∧
      ∀ n, b.mem n = items.any (fun it => decide (it.1 ≤ n) && decide (n ≤ it.2)) :=
  cpulist_spec dst items hne h

/-- arbitrary bytes: the result is undefined (signed overflow in `prevlast+1` / `nextfirst-1`, finding
C18-F1) exactly when some comma-separated piece starts at INT_MIN or ends at INT_MAX after the
`unsigned long → int` reduction; otherwise it is a well-formed finite bitmap.  The previous content of
the destination never matters. -/
theorem C18_cpulist_safe (dst : Bitmap) (bytes : List Byte) :
    (cpulist dst bytes = none ↔ ∃ seg ∈ clSegs bytes, seg.1 = intMin ∨ seg.2 = intMax) ∧
    (∀ b, cpulist dst bytes = some b → b.Inv ∧ b.inf = false) ∧
    (∀ dst', cpulist dst' bytes = cpulist dst bytes) := by
  refine ⟨?_, fun b h => CLState.cut_some _ b h (clFold_inv _ _ (Bitmap.fill_inv dst)), fun _ => rfl⟩
  rw [cpulist_eq_cut, CLState.cut_eq_none]
  exact (clFold_bad (clSegs bytes) (clInit dst)).trans (or_iff_right (clInit_not_bad dst))

/-- what the code does on an empty file (or a lone newline, which is what the kernel prints for an empty
list): the set {0}, not the empty set -/
theorem C18_cpulist_empty (dst : Bitmap) (bytes : List Byte) (h : bytes = [] ∨ bytes = [10]) :
    ∃ b, cpulist dst bytes = some b ∧ ∀ n, b.mem n = decide (n = 0) := by
  -- the one (empty) piece of such a file is read by `strtoul` as 0: the parser sees the single item `0`
  have hs : clSegs bytes = [(0, 0)].map toSeg := by rcases h with h | h <;> subst h <;> decide +kernel
  obtain ⟨b, hb, _, hm⟩ := cpulist_of_segs dst bytes [(0, 0)] hs (by simp [AscFrom])
  exact ⟨b, hb, fun n => by rw [hm n]; simp⟩

/-- negative fact: the overflow of `C18_cpulist_safe` is reachable -/
theorem C18_cpulist_overflow_reachable (dst : Bitmap) : cpulist dst (str "0-2147483647") = none := by
  rw [cpulist_dst dst Bitmap.alloc, str_ofList]; decide +kernel

/-- the sign-aware scanner used here agrees with the C04 `strtoul` model wherever that one is defined -/
theorem C18_strtoul_agrees (base : Nat) (s : List Byte) (v : Nat) (r : List Byte)
    (h : strtoul base s = .ok v r) : strtoulS base s = (v, r) := strtoulS_of_ok base s v r h

/-! ### cpumask -/

/-- for every well-formed kernel mask (32-bit groups printed `%08x`, most significant first, comma
separated, newline terminated): bit 32k+j of the result is set iff group k from the right has bit j -/
theorem C18_cpumask_spec (dst : Bitmap) (alloc0 : Nat) (h0 : 1 ≤ alloc0) (gs : List Nat) (hne : gs ≠ [])
    (hg : ∀ g ∈ gs, g < 2^32) (n : Nat) :
    (cpumask dst alloc0 (renderMask gs)).mem n =
      (match gs.reverse[n / 32]? with | some g => g.testBit (n % 32) | none => false) :=
  cpumask_spec dst alloc0 h0 gs hne hg n

/-- arbitrary bytes, any initial `_nr_maps_allocated ≥ 1`: every `maps[i] = …` has `i < nr_maps_allocated` -/
theorem C18_cpumask_safe (alloc0 : Nat) (h0 : 1 ≤ alloc0) (bytes : List Byte) :
    ∀ w ∈ (maskState alloc0 bytes).writes, w.1 < w.2 := cpumask_safe alloc0 h0 bytes

/-- arbitrary bytes: the result is a well-formed finite bitmap -/
theorem C18_cpumask_finite (dst : Bitmap) (alloc0 : Nat) (bytes : List Byte) :
    (cpumask dst alloc0 bytes).Inv ∧ (cpumask dst alloc0 bytes).inf = false := by
  unfold cpumask maskSet
  apply maskSet_fold_inv
  exact ⟨Bitmap.zero_inv dst, rfl⟩

/-! ### hwloc__read_fd -/

/-- for every initial size > 0 and every sequence of read() results (full, short, over-long — clipped as
the kernel does —, failing): every read stores inside the allocation of that moment, `buffer[totalread]`
is inside the final allocation, which is `*sizep + 1`; and the loop ends -/
theorem C18_readfd_bounds (size0 : Nat) (h0 : 0 < size0) (rets : List Int) : (readFd size0 rets).Safe := by
  unfold readFd
  rcases nextRead_cases rets (size0 + 1) with ⟨rs, h⟩ | ⟨ret, rs, h, hle, _⟩ <;> simp only [h]
  · trivial
  · have hws : ∀ w ∈ [(0, ret, size0 + 1)], w.1 + w.2.1 ≤ w.2.2 :=
      List.forall_mem_cons.mpr ⟨by simp only; omega, fun _ h => nomatch h⟩
    by_cases hlt : ret < size0 + 1
    · rw [if_pos hlt]; exact ⟨rfl, hlt, hws⟩
    · rw [if_neg hlt]; exact rfLoop_safe _ rs _ _ _ (by omega) h0 (by omega) hws

/-- the precondition is needed: `*sizep = 0` makes the real loop spin (no caller passes 0) -/
theorem C18_readfd_zero_hangs : readFd 0 [1] = .hang := by decide +kernel

/-! ### the relations between loads -/

theorem C18_wf_oracle_exact (d : Dump) : wfCheck d = [] ↔ WF d := wfCheck_iff d
theorem C18_same_oracle_exact (a b : Dump) : sameCheck a b = [] ↔ SameTopo a b := sameCheck_iff a b
theorem C18_disallowed_oracle_exact (a b : Dump) : disallowedCheck a b = [] ↔ DisallowedView a b := disallowedCheck_iff a b
theorem C18_xml_oracle_exact (a b : Dump) : xmlCheck a b = [] ↔ XmlEquiv a b := xmlCheck_iff a b

/-- "two loads produce identical topologies" is an equivalence relation -/
theorem C18_same_equivalence :
    (∀ a, SameTopo a a) ∧ (∀ a b, SameTopo a b → SameTopo b a) ∧ (∀ a b c, SameTopo a b → SameTopo b c → SameTopo a c) :=
  ⟨SameTopo.refl, fun _ _ h => h.symm, fun _ _ _ h1 h2 => h1.trans h2⟩

theorem C18_xml_equivalence :
    (∀ a, XmlEquiv a a) ∧ (∀ a b, XmlEquiv a b → XmlEquiv b a) ∧ (∀ a b c, XmlEquiv a b → XmlEquiv b c → XmlEquiv a c) ∧
    (∀ a b, SameTopo a b → XmlEquiv a b) :=
  ⟨XmlEquiv.refl, fun _ _ h => h.symm, fun _ _ _ h1 h2 => h1.trans h2, fun _ _ h => XmlEquiv.of_same h⟩

/-- a well-formed default load is its own disallowed view (nothing is disallowed ⇒ both loads may coincide) -/
theorem C18_disallowed_refl (d : Dump) (h : WF d) (hf : flagIncludeDisallowed d = false) : DisallowedView d d :=
  DisallowedView.refl_of_wf d h hf

/-- identical loads are interchangeable on both sides -/
theorem C18_disallowed_congr {a a' b b' : Dump} (h : DisallowedView a b) (ha : SameTopo a a') (hb : SameTopo b b') :
    DisallowedView a' b' := h.congr ha hb

/-- the inclusion clauses of the statement: every PU and NUMA node of the default load is in the
INCLUDE_DISALLOWED load, its allowed sets are the default load's root sets, and (with `WF`) the default
load's root sets are subsets of the INCLUDE_DISALLOWED load's root sets -/
theorem C18_disallowed_inclusion {dD dI : Dump} (h : DisallowedView dD dI) (hw : WF dI) :
    (∀ i, i ∈ dD.osIndexes tPU → i ∈ dI.osIndexes tPU) ∧ (∀ i, i ∈ dD.osIndexes tNUMA → i ∈ dI.osIndexes tNUMA) ∧
    dI.allowedCpuset = dD.rootCpuset ∧ dI.allowedNodeset = dD.rootNodeset ∧
    subset (dD.rootCpuset.getD 0) (dI.rootCpuset.getD 0) = true ∧
    subset (dD.rootNodeset.getD 0) (dI.rootNodeset.getD 0) = true :=
  ⟨h.pus, h.numas, h.allowedCpu, h.allowedNode, (h.root_subset hw).1, (h.root_subset hw).2⟩

/-- object inclusion composes along a chain of views -/
theorem C18_disallowed_objects_trans {a b c : Dump} (h1 : DisallowedView a b) (h2 : DisallowedView b c) :
    (∀ i, i ∈ a.osIndexes tPU → i ∈ c.osIndexes tPU) ∧ (∀ i, i ∈ a.osIndexes tNUMA → i ∈ c.osIndexes tNUMA) :=
  h1.objects_trans h2


/-! ### (A9) hwloc_read_path_by_length and the numeric readers -/

/-- every file content, every buffer size: a successful read stores exactly the first `length-1` bytes of the
file, at least one, and the terminating NUL `string[ret] = 0` is written inside the `length`-byte buffer -/
theorem C18_readlen_bounds (length : Nat) (content buf : List Byte) (h : readByLength length content = some buf) :
    buf = content.take (length - 1) ∧ 0 < buf.length ∧ buf.length < length := readByLength_some length content buf h

/-- -1 exactly for an empty file (or a buffer with no room for a byte) -/
theorem C18_readlen_fails_iff (length : Nat) (content : List Byte) :
    readByLength length content = none ↔ (content = [] ∨ length ≤ 1) := by
  have e : (content = [] ∨ length ≤ 1) ↔ List.take (length - 1) content = [] := by
    rw [List.take_eq_nil_iff]
    constructor
    · exact fun h => h.elim .inr (fun h => .inl (by omega))
    · exact fun h => h.elim (fun h => .inr (by omega)) .inl
  unfold readByLength readBytes
  rw [e]
  by_cases h : List.take (length - 1) content = []
  · rw [if_pos h]; exact iff_of_true rfl h
  · rw [if_neg h]; exact iff_of_false (fun h' => nomatch h') h

/-- the readers depend only on the first K bytes of the file: K = 10 (int, unsigned), 21 (uint64), 4095 (meminfo) -/
theorem C18_readers_prefix (c : List Byte) :
    readInt (some c) = readInt (some (c.take 10)) ∧ readUint (some c) = readUint (some (c.take 10)) ∧
    readUint64 (some c) = readUint64 (some (c.take 21)) ∧ meminfo (some c) = meminfo (some (c.take 4095)) := by
  refine ⟨?_, ?_, ?_, ?_⟩
  · unfold readInt; rw [readPath_prefix intBuf c (c.take 10) (by simp [intBuf, List.take_take])]
  · unfold readUint; rw [readPath_prefix uintBuf c (c.take 10) (by simp [uintBuf, List.take_take])]
  · unfold readUint64; rw [readPath_prefix u64Buf c (c.take 21) (by simp [u64Buf, List.take_take])]
  · exact meminfo_prefix c (c.take 4095) (by simp [List.take_take])

/-- C strings in the buffer end at or before the NUL that was stored: every libc scan stays inside -/
theorem C18_cstr_inside (buf : List Byte) : (cstr buf).length ≤ buf.length := cstr_length_le buf

/-- `hwloc_read_path_as_uint` on a file that starts with decimal digits (followed by anything that is no digit,
e.g. the kernel's newline, or nothing): the value of the digits that fit `char string[11]` (the first 10),
saturated by strtoul at 2^64-1, reduced modulo 2^32 by the `(unsigned)` cast -/
theorem C18_uint_value (ds rest : List Byte) (hne : ds ≠ []) (hds : ∀ c ∈ ds, IsDecChar c) (hr : NoDecHead rest) :
    readUint (some (ds ++ rest)) = some (min (decVal (ds.take 10)) ulongMax % 2^32) := by
  obtain ⟨b, rest', hb, hc, hr', hne', hds'⟩ := readPath_digits uintBuf (by decide) ds rest hne hds hr
  unfold readUint
  rw [hb, Option.map_some, hc, strtoulS10_decs _ hne' hds' rest' hr']
  rfl

/-- `hwloc_read_path_as_uint64`: the first 21 digits, saturated at 2^64-1 (strtoull) -/
theorem C18_uint64_value (ds rest : List Byte) (hne : ds ≠ []) (hds : ∀ c ∈ ds, IsDecChar c) (hr : NoDecHead rest) :
    readUint64 (some (ds ++ rest)) = some (min (decVal (ds.take 21)) ulongMax) := by
  obtain ⟨b, rest', hb, hc, hr', hne', hds'⟩ := readPath_digits u64Buf (by decide) ds rest hne hds hr
  unfold readUint64
  rw [hb, Option.map_some, hc, strtoulS10_decs _ hne' hds' rest' hr']
  rfl

/-- `hwloc_read_path_as_int` (atoi): the first 10 digits, saturated by strtol, reduced into the `int` range -/
theorem C18_int_value (ds rest : List Byte) (hne : ds ≠ []) (hds : ∀ c ∈ ds, IsDecChar c) (hr : NoDecHead rest) :
    readInt (some (ds ++ rest)) = some (wrapInt32 ((min (decVal (ds.take 10)) (2^63 - 1) : Nat) : Int)) := by
  obtain ⟨b, rest', hb, hc, hr', hne', hds'⟩ := readPath_digits intBuf (by decide) ds rest hne hds hr
  unfold readInt atoi
  rw [hb, Option.map_some, hc, strtolVal10_decs _ hne' hds' rest' hr']
  rfl

/-- every file: the values delivered fit their C types (total functions: no other outcome exists) -/
theorem C18_num_ranges (f : Option (List Byte)) :
    (∀ v, readInt f = some v → -(2^31 : Int) ≤ v ∧ v < 2^31) ∧ (∀ v, readUint f = some v → v < 2^32) :=
  ⟨fun v h => by obtain ⟨b, _, rfl⟩ := Option.map_eq_some_iff.mp h; exact wrapInt32_range _,
   fun v h => by obtain ⟨b, _, rfl⟩ := Option.map_eq_some_iff.mp h; exact Nat.mod_lt _ (by decide)⟩

/-! ### (A9) hwloc_parse_meminfo_info -/

/-- every file: a value is stored iff `MemTotal: ` occurs in the C string of the 4096-byte buffer; it is then
the number behind the FIRST occurrence (strtoull base 10) times 1024 modulo 2^64, and `tmp+10` points inside
the string (at most at its NUL) -/
theorem C18_meminfo_first_key (f : Option (List Byte)) (v : Nat) :
    meminfo f = some v ↔
      ∃ b i, readPath memBuf f = some b ∧ FirstOcc memKey (cstr b) i ∧ i + 10 ≤ (cstr b).length ∧
        v = ((strtoulS 10 ((cstr b).drop (i + 10))).1 <<< 10) % 2^64 := by
  rw [meminfo_eq]
  constructor
  · intro h
    obtain ⟨b, hb, h⟩ := Option.bind_eq_some_iff.mp h
    obtain ⟨i, hi, hv⟩ := Option.map_eq_some_iff.mp h
    have ho := findSub_some _ _ _ hi
    exact ⟨b, i, hb, ho, by have := ho.2.1; rwa [memKey_length] at this, hv.symm⟩
  · rintro ⟨b, i, hb, ho, _, hv⟩
    rw [hb, Option.bind_some, (findSub_iff _ _ _).mpr ho, hv]; rfl

/-- `*local_memory` keeps its old value exactly when the file is unreadable / empty or has no key in reach -/
theorem C18_meminfo_keeps_iff (f : Option (List Byte)) :
    meminfo f = none ↔ (readPath memBuf f = none ∨
      ∃ b, readPath memBuf f = some b ∧ ∀ j, j ≤ (cstr b).length → ¬ memKey <+: (cstr b).drop j) := by
  rw [meminfo_eq]
  cases readPath memBuf f with
  | none => simp
  | some b => simp [findSub_eq_none_iff]

/-- the kernel's format (global and per-node meminfo alike): anything, then `MemTotal:` + blanks + decimal digits +
anything that is no digit, the key not occurring earlier, the file NUL-free and within the 4095 bytes read: the value
stored is the number of kB (saturated at 2^64-1 by strtoull) times 1024, modulo 2^64 -/
theorem C18_meminfo_kernel (pre ds rest : List Byte) (k : Nat) (hne : ds ≠ []) (hds : ∀ c ∈ ds, IsDecChar c) (hr : NoDecHead rest)
    (hfit : (pre ++ (memKey ++ (List.replicate k 32 ++ (ds ++ rest)))).length ≤ 4095)
    (hnz : ∀ c ∈ pre ++ (memKey ++ (List.replicate k 32 ++ (ds ++ rest))), c ≠ 0)
    (hfirst : ∀ j, j < pre.length → ¬ memKey <+: (pre ++ (memKey ++ (List.replicate k 32 ++ (ds ++ rest)))).drop j) :
    meminfo (some (pre ++ (memKey ++ (List.replicate k 32 ++ (ds ++ rest))))) = some ((min (decVal ds) ulongMax * 1024) % 2^64) := by
  rw [meminfo_at _ pre.length hfit hnz
      ⟨by rw [List.drop_left]; exact List.prefix_append _ _, by simp only [List.length_append]; omega, hfirst⟩,
    ← List.drop_drop, List.drop_left, ← memKey_length, List.drop_left, memKey_length,
    strtoulS10_spaces_decs k ds hne hds rest hr, Nat.shiftLeft_eq]

/-- strstr: the index found is the first occurrence, and only that -/
theorem C18_strstr_first (pat s : List Byte) (i : Nat) : findSub pat s = some i ↔ FirstOcc pat s i := findSub_iff pat s i

/-! ### (A9) hwloc_parse_hugepages_info -/

/-- every directory listing, every file content, any initial `allocated_page_types ≥ 1`: every store into
`page_types[index_]` is below the allocation of that moment, and `page_types_len ≤ allocated_page_types` -/
theorem C18_hugepages_safe (dirlen alloc0 remaining : Nat) (h0 : 1 ≤ alloc0) (entries : List HPEntry) :
    (∀ w ∈ (hugepages dirlen alloc0 remaining entries).writes, w.1 < w.2) ∧
    (hugepages dirlen alloc0 remaining entries).index ≤ (hugepages dirlen alloc0 remaining entries).alloc :=
  ⟨(hugepages_ok dirlen alloc0 remaining h0 entries).writes_ok, (hugepages_ok dirlen alloc0 remaining h0 entries).index_le⟩

/-! ### (A9) hwloc_read_linux_cgroup_name -/

/-- fgets: at most `n-1` bytes stored (the NUL fits), nothing lost, and progress on a non-empty stream -/
theorem C18_fgets_bounds (n : Nat) (s : List Byte) :
    (fgets n s).1.length ≤ n - 1 ∧ (fgets n s).1 ++ (fgets n s).2 = s ∧
    (2 ≤ n → s ≠ [] → (fgets n s).2.length < s.length) :=
  ⟨fgets_length n s, fgetsAux_append _ s, fun hn hs => fgets_progress n hn s hs⟩

/-- /proc/self/cpuset wins: with at least one byte in it the name is its first line (first 127 bytes, up to a
NUL), whatever /proc/self/cgroup holds -/
theorem C18_cgname_cpuset_wins (c : List Byte) (hc : c ≠ []) (cg : Option (List Byte)) :
    cgroupName (some c) cg = some (chopNl (cstr (c.take 127))) := by
  have : readPath cpusetNameLen (some c) = some (c.take 127) := readByLength_of_ne_nil _ (by decide) c hc
  unfold cgroupName
  rw [this]

/-- every /proc/self/cgroup content: the loop returns the path of the FIRST fgets line (256-byte buffer: longer
lines are seen in pieces) whose first colon starts `:cpuset:` or `::` -/
theorem C18_cgname_first_match (fuel : Nat) (s : List Byte) :
    cgLoop fuel s = (chunks cgroupLineLen fuel s).findSome? (fun ch => cgLineMatch (cstr ch)) := cgLoop_eq_findSome fuel s

/-- the loop ends: the fuel `length+1` that `cgroupName` passes is enough, more fuel changes nothing -/
theorem C18_cgname_terminates (fuel : Nat) (s : List Byte) (h : s.length < fuel) : cgLoop fuel s = cgLoop (s.length + 1) s :=
  cgLoop_fuel fuel (s.length + 1) s h (by omega)

/-- well-formed kernel content (newline-terminated lines shorter than the buffer, no NUL): the name is the path of
the first line of the form `<no colon>:cpuset:<path>` or `<no colon>::<path>` -/
theorem C18_cgname_kernel (ls : List (List Byte))
    (hwf : ∀ l ∈ ls, (∀ c ∈ l, c ≠ 10 ∧ c ≠ 0) ∧ l.length + 1 ≤ cgroupLineLen - 1) :
    cgroupName none (some (joinLines ls)) = ls.findSome? (fun l => cgLineMatch (l ++ [10])) := by
  unfold cgroupName readPath
  simp only [Option.bind_none]
  exact cgLoop_joinLines ls _ (by have := joinLines_length_ge ls; omega) hwf

theorem C18_cgname_line_forms (pre path r : List Byte) (hpre : ∀ c ∈ pre, c ≠ 58) (hpath : ∀ c ∈ path, c ≠ 10) :
    cgLineMatch (pre ++ str ":cpuset:" ++ path ++ 10 :: r) = some path ∧
    cgLineMatch (pre ++ str "::" ++ path ++ 10 :: r) = some path ∧
    cgLineMatch pre = none := by
  refine ⟨?_, ?_, ?_⟩
  · rw [str_cpuset_colons, List.append_assoc, List.append_assoc, List.cons_append, cgLineMatch_colon _ _ hpre,
      str_cpuset_colons]
    simp only [List.isPrefixOf, List.cons_append, beq_self_eq_true, Bool.true_and, if_true, List.drop_succ_cons, List.drop_zero,
      List.nil_append, chopNl_line path r hpath]
  · rw [str_colons, List.append_assoc, List.append_assoc, List.cons_append, cgLineMatch_colon _ _ hpre,
      str_cpuset_colons, str_colons]
    simp [List.isPrefixOf, chopNl_line path r hpath]
  · unfold cgLineMatch
    have : pre.dropWhile (fun c => c != 58) = [] := by
      rw [← List.append_nil pre, List.dropWhile_append_of_pos (fun x hx => by simpa using hpre x hx)]; rfl
    simp [this]

/-- pointer safety: the path handed to strdup starts at `line + k`, `k ≤ strlen(line)` (`colon+8` / `colon+2`
never pass the NUL), and the name returned is at most 255 bytes long -/
theorem C18_cgname_safe :
    (∀ line p, cgLineMatch line = some p → ∃ k, k ≤ line.length ∧ p = chopNl (line.drop k)) ∧
    (∀ a b p, cgroupName a b = some p → p.length ≤ 255) := by
  refine ⟨cgLineMatch_inside, fun a b p h => ?_⟩
  unfold cgroupName at h
  split at h
  · rename_i buf hb
    injection h with h; subst h
    obtain ⟨c, _, _, _, hl⟩ := readPath_some _ _ _ hb
    have h1 := chopNl_length_le (cstr buf)
    have h2 := cstr_length_le buf
    unfold cpusetNameLen at hl; omega
  · split at h
    · cases h
    · have := cgLoop_length _ _ _ h
      unfold cgroupLineLen at this; omega

/-! ### (A9) hwloc_find_linux_cgroup_mntpnt -/

/-- the three standard mount points are tried first, in this order, and win over /proc/mounts -/
theorem C18_mntpnt_standard (acc : List Byte → Bool) (fs : FS) (bufsiz : Nat) (mounts : Option (List Byte)) :
    (acc (str "/sys/fs/cgroup/cpuset.cpus.effective") = true →
      findMntpnt acc fs bufsiz mounts = some (.cgroup2, str "/sys/fs/cgroup")) ∧
    (acc (str "/sys/fs/cgroup/cpuset.cpus.effective") = false → acc (str "/sys/fs/cgroup/cpuset/cpuset.cpus") = true →
      findMntpnt acc fs bufsiz mounts = some (.cgroup1, str "/sys/fs/cgroup/cpuset")) ∧
    (acc (str "/sys/fs/cgroup/cpuset.cpus.effective") = false → acc (str "/sys/fs/cgroup/cpuset/cpuset.cpus") = false →
      acc (str "/dev/cpuset/cpus") = true → findMntpnt acc fs bufsiz mounts = some (.cpuset, str "/dev/cpuset")) := by
  unfold findMntpnt
  refine ⟨fun h => by simp [h], fun h1 h2 => by simp [h1, h2], fun h1 h2 h3 => by simp [h1, h2, h3]⟩

/-- otherwise, for every /proc/mounts content: the answer is what the rule says about the FIRST entry (as
delivered by getmntent_r) that the rule accepts; entries behind it are never looked at -/
theorem C18_mntpnt_first_match (acc : List Byte → Bool) (fs : FS) (bufsiz : Nat) (m : List Byte)
    (h1 : acc (str "/sys/fs/cgroup/cpuset.cpus.effective") = false) (h2 : acc (str "/sys/fs/cgroup/cpuset/cpuset.cpus") = false)
    (h3 : acc (str "/dev/cpuset/cpus") = false) :
    findMntpnt acc fs bufsiz (some m) = (entries bufsiz (m.length + 1) m).findSome? (entMatch fs) ∧
    (∀ pre e post r, entries bufsiz (m.length + 1) m = pre ++ e :: post → (∀ y ∈ pre, entMatch fs y = none) →
      entMatch fs e = some r → findMntpnt acc fs bufsiz (some m) = some r) := by
  have h := findMntpnt_scan acc fs bufsiz m h1 h2 h3
  refine ⟨h, fun pre e post r he hpre hx => ?_⟩
  rw [h, he]; exact findSome_first _ pre e post r hpre hx

/-- well-formed kernel content (`fsname dir type opts 0 0` lines with plain fields — nothing to escape, no
comment —, each shorter than the 4-page buffer): getmntent_r delivers exactly these entries, so the answer is the
rule's verdict on the first line the rule accepts -/
theorem C18_mntpnt_kernel (acc : List Byte → Bool) (fs : FS) (bufsiz : Nat) (rs : List MntRaw) (hwf : ∀ r ∈ rs, r.Ok bufsiz)
    (h1 : acc (str "/sys/fs/cgroup/cpuset.cpus.effective") = false) (h2 : acc (str "/sys/fs/cgroup/cpuset/cpuset.cpus") = false)
    (h3 : acc (str "/dev/cpuset/cpus") = false) :
    findMntpnt acc fs bufsiz (some (renderMounts rs)) = (rs.map MntRaw.ent).findSome? (entMatch fs) := by
  rw [findMntpnt_scan acc fs bufsiz _ h1 h2 h3,
    entries_renderMounts bufsiz rs _ (by have := renderMounts_length_ge rs; omega) hwf]

/-- the scan ends for every content: the fuel `length+1` that `findMntpnt` passes is enough (each getmntent_r call
consumes at least one byte), more fuel changes nothing -/
theorem C18_mntpnt_terminates (fs : FS) (bufsiz : Nat) (hb : 2 ≤ bufsiz) (fuel : Nat) (s : List Byte) (h : s.length < fuel) :
    mntLoop fs bufsiz fuel s = mntLoop fs bufsiz (s.length + 1) s ∧
    nextEnt bufsiz fuel s = nextEnt bufsiz (s.length + 1) s ∧
    (∀ e r, nextEnt bufsiz fuel s = some (e, r) → r.length < s.length) :=
  ⟨mntLoop_fuel fs bufsiz hb fuel _ s h (by omega), nextEnt_fuel bufsiz hb fuel _ s h (by omega),
   fun e r => nextEnt_rest bufsiz hb fuel s e r⟩

/-- the rule, by file-system type: `cpuset` always; `cgroup` iff `cpuset` is one of the comma-separated options
(a cpuset mount when `noprefix` is one too); `cgroup2` iff `<dir>/cgroup.controllers` (name cut at 255 bytes)
can be read and `cpuset` is one of the space-separated words of its first line within the first 1023 bytes;
nothing else; and the mount point returned is always the directory field of the accepted entry -/
theorem C18_mntpnt_rule (fs : FS) (e : MntEnt) :
    (e.type = str "cpuset" → entMatch fs e = some (.cpuset, e.dir)) ∧
    (e.type = str "cgroup" → entMatch fs e =
      (if (splitBy 44 e.opts).contains (str "cpuset") then
        (if (splitBy 44 e.opts).contains (str "noprefix") then some (.cpuset, e.dir) else some (.cgroup1, e.dir))
       else none)) ∧
    (e.type = str "cgroup2" → entMatch fs e =
      (match readPath ctrlsLen (fs (ctrlPath e.dir)) with
       | some b => if ctrlHasCpuset b then some (.cgroup2, e.dir) else none
       | none => none)) ∧
    (e.type ≠ str "cgroup2" → e.type ≠ str "cpuset" → e.type ≠ str "cgroup" → entMatch fs e = none) ∧
    (∀ t d, entMatch fs e = some (t, d) → d = e.dir) :=
  ⟨entMatch_cpuset fs e, entMatch_cgroup1 fs e, entMatch_cgroup2 fs e, entMatch_other fs e, entMatch_dir fs e⟩

/-- buffers: `snprintf(ctrlpath, 256, "%s/cgroup.controllers")` stays inside `char ctrlpath[256]` for every mount
directory, and glibc's in-place `decode_name` never lengthens a field -/
theorem C18_mntpnt_buffers (dir field : List Byte) :
    (ctrlPath dir).length < ctrlPathLen ∧ (decodeName field).length ≤ field.length :=
  ⟨by have := snprintfS_length ctrlPathLen (dir ++ str "/cgroup.controllers")
      unfold ctrlPath ctrlPathLen at *; omega,
   decodeName_length field⟩

/-! ### (A9) hwloc_admin_disable_set_from_cgroup, hwloc_linux__get_allowed_resources -/

/-- the cpuset file name always fits `char cpuset_filename[256]`; when nothing is cut it is
`<mntpnt><cgroup name>/cpuset.<attr>.effective` (cgroup2), `…/cpuset.<attr>` (cgroup1), `…/<attr>` (cpuset) -/
theorem C18_admin_path (t : CgType) (mnt name attr : List Byte) :
    (cpusetPath t mnt name attr).length < cpusetFilenameLen ∧
    ((mnt ++ name ++ cpusetSuffix t attr).length ≤ 255 → cpusetPath t mnt name attr = mnt ++ name ++ cpusetSuffix t attr) :=
  ⟨by have := snprintfS_length cpusetFilenameLen (mnt ++ name ++ cpusetSuffix t attr)
      unfold cpusetPath cpusetFilenameLen at *; omega,
   fun h => by unfold cpusetPath snprintfS cpusetFilenameLen; exact List.take_of_length_le h⟩

/-- what is combined with what: nothing is intersected.  The set is REPLACED by the cpulist read from that file
(`hwloc__read_path_as_cpulist`, see `C18_cpulist_spec` / `C18_cpulist_safe`), or filled when the file cannot be
read; its previous content never matters -/
theorem C18_admin_replaces (fs : FS) (t : CgType) (mnt name attr : List Byte) (s s' : Bitmap) :
    adminDisable fs t mnt name attr s = adminDisable fs t mnt name attr s' ∧
    (fs (cpusetPath t mnt name attr) = none → adminDisable fs t mnt name attr s = some s.fill) ∧
    (∀ c, fs (cpusetPath t mnt name attr) = some c → adminDisable fs t mnt name attr s = cpulist s c) := by
  unfold adminDisable
  refine ⟨?_, fun h => by rw [h], fun c h => by rw [h]⟩
  cases fs (cpusetPath t mnt name attr) <;> rfl

/-- the composition: without a mount point or without a cgroup name nothing changes and `*cpuset_namep = NULL`;
otherwise both allowed sets are replaced through the same (type, mount point, name) triple -/
theorem C18_allowed_compose (acc : List Byte → Bool) (fs : FS) (bufsiz : Nat) (cpus mems : Bitmap) :
    ((findMntpnt acc fs bufsiz (fs (str "/proc/mounts")) = none ∨
      cgroupName (fs (str "/proc/self/cpuset")) (fs (str "/proc/self/cgroup")) = none) →
      getAllowed acc fs bufsiz cpus mems = { name := none, cpus := some cpus, mems := some mems }) ∧
    (∀ t mnt name, findMntpnt acc fs bufsiz (fs (str "/proc/mounts")) = some (t, mnt) →
      cgroupName (fs (str "/proc/self/cpuset")) (fs (str "/proc/self/cgroup")) = some name →
      getAllowed acc fs bufsiz cpus mems =
        { name := some name, cpus := adminDisable fs t mnt name (str "cpus") cpus,
          mems := adminDisable fs t mnt name (str "mems") mems }) :=
  ⟨getAllowed_untouched acc fs bufsiz cpus mems, fun t mnt name => getAllowed_found acc fs bufsiz cpus mems t mnt name⟩

/-! ### non-vacuity -/

example : AscFrom 0 [(0, 3), (8, 11), (13, 13)] := by simp [AscFrom]
example : renderList [(0, 3), (8, 11), (13, 13)] = str "0-3,8-11,13\n" := by rw [str_ofList]; decide +kernel
example : cpulist Bitmap.alloc (str "0-3,8-11,13\n") = some ⟨[0x2f0f#64], false⟩ := by rw [str_ofList]; decide +kernel
example : renderMask [0x1, 0x8000000f] = str "00000001,8000000f\n" := by rw [str_ofList]; decide +kernel
/-- an instance of the specification with a leading all-zero group (skipped by the loop): bit 32 = bit 0 of
the middle group, bit 63 = bit 31 of the last group -/
example : (cpumask Bitmap.alloc 8 (renderMask [0, 1, 0x8000000f])).mem 32 = true ∧
    (cpumask Bitmap.alloc 8 (renderMask [0, 1, 0x8000000f])).mem 31 = true ∧
    (cpumask Bitmap.alloc 8 (renderMask [0, 1, 0x8000000f])).mem 33 = false := by
  have hg : ∀ g ∈ [0, 1, 0x8000000f], g < 2^32 := by decide +kernel
  refine ⟨?_, ?_, ?_⟩ <;> rw [C18_cpumask_spec _ _ (by decide) _ (by decide) hg] <;> decide +kernel
example : maskWord [1#64, 0x8000000f#64] 0 = 0x18000000f#64 := by decide +kernel
/-- ten groups: `maps[]` grows from 8 to 16 -/
example : (maskState 8 (renderMask [1, 2, 3, 4, 5, 6, 7, 8, 9, 10])).alloc = 16 := by decide +kernel
example : readFd 4 [5, 4, 3] = .ok 16 12 17 [(9, 3, 17), (5, 4, 9), (0, 5, 5)] := by decide +kernel

def exPU (i : Nat) : Obj := { (default : Obj) with id := i + 1, type := tPU, osidx := i, cpuset := some (single i) }
def exRoot (cs : Nat) : Obj := { (default : Obj) with id := 0, type := tMACHINE, cpuset := some cs, nodeset := some 1 }
def exDefault : Dump := { (default : Dump) with objs := [exRoot 1, exPU 0], allowedCpuset := some 1, allowedNodeset := some 1 }
def exIncl : Dump := { (default : Dump) with flags := 1, objs := [exRoot 3, exPU 0, exPU 1], allowedCpuset := some 1, allowedNodeset := some 1 }
/-- a default view with PU 0 and an INCLUDE_DISALLOWED view with PUs 0 and 1 (PU 1 disallowed) -/
example : DisallowedView exDefault exIncl := (disallowedCheck_iff _ _).mp (by decide +kernel)
example : ¬ DisallowedView exIncl exDefault := fun h => by
  have := (disallowedCheck_iff _ _).mpr h
  revert this; decide +kernel
example : ¬ SameTopo exDefault exIncl := by unfold SameTopo; decide +kernel


/-! ### (A9) non-vacuity -/

example : readByLength 11 (str "4294967297\n") = some (str "4294967297") := by simp -index only [str_ofList]; decide +kernel
/-- ten digits fill `char string[11]`: the newline is cut, the value wraps modulo 2^32 -/
example : readUint (some (str "4294967297\n")) = some 1 := by rw [str_ofList]; decide +kernel
/-- the hypotheses of `C18_uint_value` / `C18_uint64_value` / `C18_int_value` are met by what the kernel writes -/
example : (∀ c ∈ str "4294967297", IsDecChar c) ∧ NoDecHead (str "\n") ∧ decVal (str "4294967297") = 4294967297 := by
  simp -index only [str_ofList]
  refine ⟨by unfold IsDecChar; decide +kernel, ?_, by decide +kernel⟩
  intro c cs h
  injection h with h1 _; subst h1
  unfold IsDecChar; decide
/-- an eleventh digit is never seen -/
example : readUint (some (str "12345678901\n")) = some 1234567890 := by rw [str_ofList]; decide +kernel
example : readInt (some (str "-42\n")) = some (-42) ∧ readInt (some (str "2147483648\n")) = some (-2147483648) := by
  simp -index only [str_ofList]; decide +kernel
example : readUint64 (some (str "99999999999999999999999\n")) = some (2^64 - 1) := by rw [str_ofList]; decide +kernel
example : readUint64 (some (str "-1\n")) = some (2^64 - 1) := by rw [str_ofList]; decide +kernel
example : meminfo (some (str "MemFree: 5 kB\nMemTotal:       16384 kB\nMemTotal: 7 kB\n")) = some (16384 * 1024) := by
  rw [str_ofList]; decide +kernel
example : FirstOcc memKey (str "XMemTotal: 3") 1 := (findSub_iff _ _ _).mp (by rw [str_ofList]; decide +kernel)
example : meminfo (some (str "MemTotal:\t7 kB\n")) = none := by rw [str_ofList]; decide +kernel
/-- three hugepage sizes into a 1-slot array: grown to 2, then 4; the entry without a readable count is overwritten -/
example : (hugepages 3 1 (10 * 2^30) [⟨str "hugepages-2048kB", some (str "512\n")⟩, ⟨str "other", none⟩,
      ⟨str "hugepages-64kB", none⟩, ⟨str "hugepages-1048576kB", some (str "2\n")⟩]) =
    { types := [(2048 * 1024, 512), (2^30, 2)], pending := none, alloc := 4, remaining := 7 * 2^30,
      writes := [(2, 4), (2, 4), (1, 2)] } := by
  simp -index only [str_ofList]
  decide +kernel
example : fgets 5 (str "abcdefg\nxy") = (str "abcd", str "efg\nxy") ∧ fgets 256 (str "ab\ncd") = (str "ab\n", str "cd") := by
  simp -index only [str_ofList]
  decide +kernel
example : cgroupName none (some (str "12:memory:/m\n3:cpu,cpuset:/no\n5:cpuset:/grp1\n0::/unified\n")) = some (str "/grp1") := by
  simp -index only [str_ofList]; decide +kernel
example : joinLines [str "11:memory:/m", str "0::/user.slice"] = str "11:memory:/m\n0::/user.slice\n" := by
  simp -index only [str_ofList]; decide +kernel
example : cgroupName (some (str "/a\nb\n")) (some (str "5:cpuset:/grp1\n")) = some (str "/a") := by
  simp -index only [str_ofList]; decide +kernel
example : decodeName (str "/my\\040cg\\134x\\\\y\\012") = str "/my cg\\x\\y\n" := by
  simp -index only [str_ofList]; decide +kernel
example : (nextEnt 16384 9 (str "# c\n \ncgroup /my\\040cg cgroup rw,cpuset 0 0\nrest")).map (·.1) =
    some { dir := str "/my cg", type := str "cgroup", opts := str "rw,cpuset" } := by
  simp -index only [str_ofList]
  decide +kernel
def exFs : FS := fun p => if p = str "/cg2/cgroup.controllers" then some (str "cpu cpuset io\n") else
  if p = str "/cg2/grp1/cpuset.cpus.effective" then some (str "0-3\n") else
  if p = str "/proc/mounts" then some (str "proc /proc proc rw 0 0\ncgroup2 /cg2 cgroup2 rw,nsdelegate 0 0\nnone /cs cpuset rw 0 0\n") else
  if p = str "/proc/self/cgroup" then some (str "0::/grp1\n") else none
/-- the cgroup2 line is accepted (its controllers file lists cpuset); the cpuset line behind it is not reached -/
example : findMntpnt (fun _ => false) exFs 16384 (exFs (str "/proc/mounts")) = some (.cgroup2, str "/cg2") := by
  unfold exFs
  simp -index only [str_ofList]
  decide +kernel
example : (entries 16384 80 (str "proc /proc proc rw 0 0\ncgroup2 /cg2 cgroup2 rw,nsdelegate 0 0\nnone /cs cpuset rw 0 0\n")).map (·.type) =
    [str "proc", str "cgroup2", str "cpuset"] := by
  simp -index only [str_ofList]
  decide +kernel
example : cpusetPath .cgroup2 (str "/cg2") (str "/grp1") (str "cpus") = str "/cg2/grp1/cpuset.cpus.effective" := by
  simp -index only [str_ofList]
  decide +kernel
/-- cpus replaced by {0..3} from the effective file, mems filled (no mems file) -/
example : getAllowed (fun _ => false) exFs 16384 Bitmap.allocFull Bitmap.alloc =
    { name := some (str "/grp1"), cpus := some ⟨[0xf#64], false⟩, mems := some ⟨[BitVec.allOnes 64], true⟩ } := by
  unfold exFs
  simp -index only [str_ofList]
  decide +kernel

/-- the hypotheses of `C18_mntpnt_kernel` are met by an ordinary container mount table -/
example : (⟨str "cgroup", str "/sys/fs/cgroup/cpuset", str "cgroup", str "rw,nosuid,cpuset"⟩ : MntRaw).Ok 16384 := by
  simp -index only [str_ofList]
  refine ⟨⟨by decide +kernel, by decide +kernel⟩, ⟨by decide +kernel, by decide +kernel⟩, ⟨by decide +kernel, by decide +kernel⟩,
    ⟨by decide +kernel, by decide +kernel⟩, ?_, by decide +kernel⟩
  intro t h
  injection h with h1 _
  exact absurd h1 (by decide)
example : renderMounts [⟨str "proc", str "/proc", str "proc", str "rw"⟩, ⟨str "none", str "/cs", str "cpuset", str "rw"⟩] =
    str "proc /proc proc rw 0 0\nnone /cs cpuset rw 0 0\n" := by
  simp -index only [str_ofList]
  decide +kernel

/-- the shape `C18_meminfo_kernel` speaks about: a per-node meminfo line -/
example : str "Node 0 " ++ (memKey ++ (List.replicate 7 32 ++ (str "16384" ++ str " kB\n"))) = str "Node 0 MemTotal:        16384 kB\n" ∧
    meminfo (some (str "Node 0 MemTotal:        16384 kB\n")) = some (16384 * 1024) := by
  unfold memKey
  simp -index only [str_ofList]
  decide +kernel

/-! ### (B7) the x86 CPUID-dump reading layer: cpuiddump_read / cpuiddump_find_by_input / cpuiddump_free /
hwloc_x86_check_cpuiddump_input (Hw/Io/X86Dump.lean) -/
section X86Dump
open Hw.X86Dump

/-- cpuiddump_read, memory safety for every file content and every initial content of the malloc'ed array: with one cell
per fgets line of the first pass (what the C allocates), no `entries[nr]` store of the second pass is at or above the
allocated count (`readFill` answers `none` for such a store), the array keeps its size and the final `nr` is within it -/
theorem C18_x86dump_read_safe (content : List Byte) (init : List Entry) (hinit : init.length = (lines content).length) :
    ∃ st, readFill content init = some st ∧ st.mem.length = init.length ∧ st.nr ≤ init.length := by
  obtain ⟨st, h1, h2, h3, _⟩ := readFill_safe content init (Nat.le_of_eq hinit.symm)
  exact ⟨st, h1, h2, hinit ▸ h3⟩

/-- … and its result: the first `nr` cells are exactly the entries of the non-comment fgets lines on which all 9
conversions succeeded, in file order, whatever the malloc'ed cells held and whatever partially converted lines stored -/
theorem C18_x86dump_read_table (content : List Byte) (init : List Entry) (hinit : init.length = (lines content).length) :
    ∃ st, readFill content init = some st ∧ st.mem.take st.nr = table content := by
  obtain ⟨st, h1, _, _, h4⟩ := readFill_safe content init (Nat.le_of_eq hinit.symm)
  exact ⟨st, h1, h4⟩

/-- the line buffer: every fgets result handed to the loop body is non-empty and has at most 127 bytes (the NUL fits in
`char line[128]`), the C string sscanf reads lies inside it, and the lines concatenated are the file (nothing is skipped
or read twice; an over-long line is seen in 127-byte pieces) -/
theorem C18_x86dump_line_buffer (content : List Byte) :
    (∀ ch ∈ lines content, ch ≠ [] ∧ ch.length + 1 ≤ lineLen ∧ (cstr ch).length ≤ ch.length) ∧
    (lines content).flatten = content := by
  refine ⟨fun ch h => ?_, linesAux_flatten lineLen (by decide) _ _ (Nat.le_refl _)⟩
  have hb := linesAux_bounds lineLen (by decide) _ _ ch h
  exact ⟨hb.1, by have := hb.2; simp only [lineLen] at this ⊢; omega, cstr_length_le ch⟩

/-- the number of entries never exceeds the number of lines counted (the allocation is sufficient for every content) -/
theorem C18_x86dump_nr_le_lines (content : List Byte) : (table content).length ≤ (lines content).length :=
  List.length_filterMap_le _ _

/-- cpuiddump_free: `if (cpuiddump->nr) free(entries)` — the array cpuiddump_read allocated is leaked iff no line was
converted (empty file, comments only, malformed lines only) -/
theorem C18_x86dump_free_leaks_iff (content : List Byte) :
    freeLeaks (table content) = true ↔ ∀ ch ∈ lines content, parseLine ch = none := by
  simp [freeLeaks, table, List.filterMap_eq_nil_iff]

/-- cpuiddump_find_by_input, every table and query: the answer is the output of the FIRST entry (table order, from index
0: the code has no rotating start) whose masked inputs equal the query; all zeros exactly when no entry matches -/
theorem C18_x86dump_find_first (t : List Entry) (q : Regs) :
    (∃ pre e post, t = pre ++ e :: post ∧ (∀ x ∈ pre, x.matches q = false) ∧ e.matches q = true ∧
        findByInput t q = e.out) ∨
    ((∀ x ∈ t, x.matches q = false) ∧ findByInput t q = zeroRegs) := find_first t q

/-- a query sequence depends on the table only (no state is kept between queries) -/
theorem C18_x86dump_find_stateless (t : List Entry) (qs1 qs2 : List Regs) :
    findAll t (qs1 ++ qs2) = findAll t qs1 ++ findAll t qs2 := by simp [findAll]

/-- order independence, the exact condition: if all entries matching `q` answer alike (`Unamb`; e.g. unique input keys
under one mask), every reordering of the table — in particular every rotation, i.e. every start index — answers `q`
alike … -/
theorem C18_x86dump_find_order_indep (t t' : List Entry) (q : Regs) (hp : t.Perm t') (hu : Unamb t q) :
    findByInput t q = findByInput t' q := find_perm t t' q hp hu

/-- … and the condition is necessary: two entries matching `q` with different outputs are told apart by their order -/
theorem C18_x86dump_find_order_matters (e1 e2 : Entry) (q : Regs) (h1 : e1.matches q = true) (h2 : e2.matches q = true)
    (hne : e1.out ≠ e2.out) : findByInput [e1, e2] q ≠ findByInput [e2, e1] q := by
  simp [findByInput_eq, h1, h2, hne]

theorem C18_x86dump_find_rotation (t : List Entry) (k : Nat) (q : Regs) (hu : Unamb t q) :
    findByInput (t.drop k ++ t.take k) q = findByInput t q :=
  (find_of_mem_iff t _ q (fun e => by rw [List.mem_append, or_comm, ← List.mem_append, List.take_append_drop]) hu).symm

/-- the summary-file test (fopen, fgets into `char line[32]`, strncmp 17) is a test of the first 17 bytes of the file -/
theorem C18_x86dump_summary_iff (file : Option (List Byte)) :
    summaryOk file = true ↔ ∃ c, file = some c ∧ c.take 17 = archPat := by
  cases file with
  | none => simp [summaryOk]
  | some c => rw [summaryOk_iff]; simp

/-- hwloc_x86_check_cpuiddump_input returns 0 iff its rule holds: the directory opens, the summary starts with
`Architecture: x86`, and the indexes of the `pu<number>` entries are exactly 0 … n-1 for some n ≥ 1; then
`nbprocs = n` -/
theorem C18_x86dump_check_iff (dirOk : Bool) (summary : Option (List Byte)) (names : List (List Byte)) :
    (checkDir dirOk summary names).ok = true ↔
      dirOk = true ∧ summaryOk summary = true ∧ ∃ n, 0 < n ∧ ∀ i, i ∈ names.filterMap puIndex ↔ i < n := by
  rw [← contiguous_iff, checkDir_eq]
  generalize names.filterMap puIndex = l
  cases dirOk
  · simp
  · cases hs : summaryOk summary
    · simp
    · by_cases h1 : l = []
      · simp [h1]
      · by_cases h2 : maxL l + 1 = weight l <;> simp [h1, h2]

theorem C18_x86dump_check_nbprocs (dirOk : Bool) (summary : Option (List Byte)) (names : List (List Byte)) (n : Nat)
    (hok : (checkDir dirOk summary names).ok = true) (hn : 0 < n) (hmem : ∀ i, i ∈ names.filterMap puIndex ↔ i < n) :
    nbprocs (checkDir dirOk summary names) = n := by
  rw [nbprocs, checkDir_idxs_ok dirOk summary names hok]
  exact contiguous_weight _ n hn hmem

/-- the verdict depends on the directory only through the SET of `pu` indexes (order and repetitions, as of `pu1` and
`pu01`, do not count) -/
theorem checkDir_ok_congr (dirOk : Bool) (summary : Option (List Byte)) (names names' : List (List Byte))
    (hm : ∀ i, i ∈ names.filterMap puIndex ↔ i ∈ names'.filterMap puIndex) :
    (checkDir dirOk summary names).ok = (checkDir dirOk summary names').ok := by
  rw [Bool.eq_iff_iff, C18_x86dump_check_iff, C18_x86dump_check_iff]
  constructor
  · rintro ⟨a, b, n, hn, h⟩; exact ⟨a, b, n, hn, fun i => (hm i).symm.trans (h i)⟩
  · rintro ⟨a, b, n, hn, h⟩; exact ⟨a, b, n, hn, fun i => (hm i).trans (h i)⟩

/-- the verdict does not depend on the readdir order -/
theorem C18_x86dump_check_readdir_order (dirOk : Bool) (summary : Option (List Byte)) (names names' : List (List Byte))
    (hp : names.Perm names') : (checkDir dirOk summary names).ok = (checkDir dirOk summary names').ok :=
  checkDir_ok_congr dirOk summary names names' fun _ => (hp.filterMap puIndex).mem_iff

/-! non-vacuity / concrete behaviour -/
def exDump : List Byte := str "# mask in => out\n1 0 0 0 0 => d 756e6547 6c65746e 49656e69\n5 4 0 1 0 => 0x121 1c0003f 3f 0\nbroken 1 2\n"
example : (lines exDump).length = 4 ∧ table exDump =
    [⟨1, 0, 0, 0, 0, 0xd, 0x756e6547, 0x6c65746e, 0x49656e69⟩, ⟨5, 4, 0, 1, 0, 0x121, 0x1c0003f, 0x3f, 0⟩] := by
  rw [exDump, str_ofList]; decide +kernel
example : (List.replicate 4 (default : Entry)).length = (lines exDump).length := by rw [exDump, str_ofList]; decide +kernel
example : findByInput (table exDump) (4, 9, 1, 9) = (0x121, 0x1c0003f, 0x3f, 0) ∧
    findByInput (table exDump) (4, 0, 2, 0) = zeroRegs := by rw [exDump, str_ofList]; decide +kernel
/-- comments only: one cell is allocated, none is used, cpuiddump_free leaks it -/
example : freeLeaks (table (str "# nothing\n")) = true ∧ (lines (str "# nothing\n")).length = 1 := by rw [str_ofList]; decide +kernel
/-- `Unamb` holds for a table with unique keys under one mask, and fails for the pair of `C18_x86dump_find_order_matters` -/
example : Unamb (table exDump) (4, 0, 1, 0) := by
  rw [exDump, str_ofList]; unfold Unamb; decide +kernel
example : (⟨1, 7, 0, 0, 0, 1, 1, 1, 1⟩ : Entry).matches (7, 0, 0, 0) = true ∧ (⟨0, 0, 0, 0, 0, 2, 2, 2, 2⟩ : Entry).matches (7, 0, 0, 0) = true ∧
    (⟨1, 7, 0, 0, 0, 1, 1, 1, 1⟩ : Entry).out ≠ (⟨0, 0, 0, 0, 0, 2, 2, 2, 2⟩ : Entry).out := by decide +kernel
example : (checkDir true (some (str "Architecture: x86\n")) [str ".", str "..", str "pu1", str "hwloc-cpuid-info", str "pu0"]).ok = true ∧
    (checkDir true (some (str "Architecture: x86\n")) [str "pu1", str "pu2"]).ok = false ∧
    (checkDir true (some (str "Architecture: x86\n")) [str "pu", str "pu+1", str "pu 2"]).ok = true ∧
    (checkDir true (some (str "Architecture: ia64\n")) [str "pu0"]).ok = false ∧
    nbprocs (checkDir true (some (str "Architecture: x86_64")) [str "pu1", str "pu0", str "pu2x"]) = 2 := by
  simp -index only [str_ofList]
  decide +kernel
example : [str "pu1", str "pu0"].Perm [str "pu0", str "pu1"] := List.Perm.swap _ _ _

end X86Dump

end Hw.Props.C18
