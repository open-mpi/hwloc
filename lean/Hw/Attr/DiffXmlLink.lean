/- Hw.Attr.DiffXmlLink — what hwloc_topology_diff_build returns can be handed to the XML exporter: a list built with return
   value 0 holds only OBJ_ATTR entries of the three known sub-types without NULL strings, i.e. `Exportable` entries
   (Hw.Io.XmlDiff) as soon as the keys fit the C types. -/
import Hw.Attr.DiffLemmas
import Hw.Io.XmlDiffLemmas
namespace Hw.Diff
variable {σ : Type} [DecidableEq σ]

/-- an entry whose types are inside the enums -/
def Entry.Known : Entry σ → Prop
  | .unknown => False
  | .objAttr _ .unknown => False
  | _ => True

def Entry.key : Entry σ → Key
  | .objAttr k _ => k
  | .tooComplex k => k
  | .unknown => (0, 0)

omit [DecidableEq σ] in
theorem Entry.Built.known {e : Entry σ} (h : e.Built) : e.Known := by cases h <;> trivial

theorem diffKids_known : ∀ (l1 l2 : List (Obj σ)), ∀ e ∈ (diffKids l1 l2).1, e.Known :=
  fun l1 l2 e he => (diffKids_built l1 l2 e he).known

open Hw.XmlDiff in
theorem exportable_of_built (e : E) (h : e.Built) (h3 : e.isTC = false) (hk : KeyInRange e.key) : Exportable e := by
  cases h with
  | tc k => cases h3
  | _ => exact hk

open Hw.XmlDiff in
theorem build_exportable (A B : Topo Bytes) (h0 : (build A B).1 = 0) (hk : ∀ e ∈ (build A B).2, KeyInRange e.key) :
    ∀ e ∈ (build A B).2, Exportable e := by
  intro e he
  have htc : (build A B).2.any Entry.isTC = false := by rw [build_tc, h0]; decide
  rw [List.any_eq_false] at htc
  exact exportable_of_built e (build_built A B e he) (by simpa using htc e he) (hk e he)

end Hw.Diff
