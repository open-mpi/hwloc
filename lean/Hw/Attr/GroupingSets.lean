/-
  Hw.Attr.GroupingSets — the Groups of one round of `hwloc__groups_by_distances` as sets: every round produced by the model is
  well-shaped (at least two members per Group, members of different Groups differ), a Group's cpuset is a union of its members'
  cpusets, hence inside the root (`groupSet_sub`: what `insAll_good` asks of the Groups handed to the insertion routine) and
  disjoint from the other Groups of the round when the objects are disjoint.
-/
import Hw.Attr.GroupingLemmas
import Hw.Topo.InsertLemmas
import Hw.Base.Bits
namespace Hw.Grouping
open Hw.Topo.Ins

structure GoodRound (r : Round) : Prop where
  halves : 2 * r.nb ≤ r.n
  two : ∀ g, g < r.nb → ∃ a b, a ≠ b ∧ a < r.n ∧ b < r.n ∧ r.ids.getD a 0 = g + 1 ∧ r.ids.getD b 0 = g + 1

theorem round_good (M : Mat) (n : Nat) (b : Bool) (h : (tryGroups M n b).1 ≠ 0) :
    GoodRound ⟨n, (tryGroups M n b).1, (List.range n).map (tryGroups M n b).2⟩ := by
  have he : tryGroups M n b = findGroups M n := by
    unfold tryGroups at h ⊢
    by_cases hc : (b && !checkMatrix M n) = true
    · rw [if_pos hc] at h; exact absurd rfl h
    · rw [if_neg hc]
  rw [he] at h ⊢
  obtain ⟨_, _, h3, _, h5⟩ := findGroups_spec M n h
  refine ⟨h5, fun g hg => ?_⟩
  have hg : g < (findGroups M n).1 := hg
  obtain ⟨a, c, hac, ha, hc, ha', hc'⟩ := h3 (g + 1) (by omega) (by omega)
  refine ⟨a, c, hac, ha, hc, ?_, ?_⟩
  · show ((List.range n).map (findGroups M n).2).getD a 0 = g + 1
    rw [getD_map_range, if_pos ha]; exact ha'
  · show ((List.range n).map (findGroups M n).2).getD c 0 = g + 1
    rw [getD_map_range, if_pos hc]; exact hc'

theorem rounds_good (kind : Nat) : ∀ (f n : Nat) (M : Mat) (b : Bool), ∀ r ∈ rounds kind f n M b, GoodRound r
  | 0, _, _, _, r, h => nomatch h
  | f+1, n, M, b, r, h => by
    rw [rounds_succ] at h
    split at h
    · exact nomatch h
    · rename_i hc
      rcases List.mem_cons.mp h with h | h
      · subst h; exact round_good M n b (fun e => hc (Or.inr (Or.inr e)))
      · exact rounds_good kind f _ _ _ r h

theorem mem_members {r : Round} {g i : Nat} : i ∈ r.members g ↔ i < r.n ∧ r.ids.getD i 0 = g + 1 := by
  unfold Round.members members
  rw [List.mem_filter, List.mem_range]
  simp

theorem members_disjoint {r : Round} {g1 g2 i : Nat} (h1 : i ∈ r.members g1) (h2 : i ∈ r.members g2) : g1 = g2 := by
  have a := (mem_members.mp h1).2
  have b := (mem_members.mp h2).2
  omega

theorem members_two {r : Round} (h : GoodRound r) {g : Nat} (hg : g < r.nb) : 2 ≤ (r.members g).length := by
  obtain ⟨a, b, hab, ha, hb, ha', hb'⟩ := h.two g hg
  exact length_ge_two (mem_members.mpr ⟨ha, ha'⟩) (mem_members.mpr ⟨hb, hb'⟩) hab

/-! ## Group sets -/

theorem testBit_groupSet (sets : Nat → Nat) (r : Round) (g b : Nat) :
    (groupSet sets r g).testBit b = true ↔ ∃ i ∈ r.members g, (sets i).testBit b = true := by
  unfold groupSet
  rw [Hw.Bits.testBit_foldl_or, Nat.zero_testBit, Bool.false_or, List.any_eq_true]

theorem groupSet_sub (sets : Nat → Nat) (r : Round) (g R : Nat) (h : ∀ i, i < r.n → sub (sets i) R) : sub (groupSet sets r g) R :=
  Hw.Bits.and_eq_left_iff.2 fun b hb => by
    obtain ⟨i, hi, hb⟩ := (testBit_groupSet sets r g b).1 hb
    exact Hw.Bits.and_eq_left_iff.1 (h i (mem_members.mp hi).1) b hb

theorem groupSet_disjoint (sets : Nat → Nat) (r : Round) (g1 g2 : Nat) (hg : g1 ≠ g2)
    (h : ∀ i j, i < r.n → j < r.n → i ≠ j → dj (sets i) (sets j)) : dj (groupSet sets r g1) (groupSet sets r g2) :=
  Hw.Bits.and_eq_zero_iff.2 fun b hb => Bool.eq_false_iff.2 fun hb' => by
    obtain ⟨i, hi, hb⟩ := (testBit_groupSet sets r g1 b).1 hb
    obtain ⟨j, hj, hb'⟩ := (testBit_groupSet sets r g2 b).1 hb'
    have hij : i ≠ j := fun e => hg (members_disjoint hi (e ▸ hj))
    rw [Hw.Bits.and_eq_zero_iff.1 (h i j (mem_members.mp hi).1 (mem_members.mp hj).1 hij) b hb] at hb'
    cases hb'

/-- the Group objects the grouping code hands to the insertion routine in one round -/
def roundObjs (sets : Nat → Nat) (r : Round) (subkind base : Nat) : List IObj :=
  (List.range r.nb).map (fun g => { gp := base + g, type := Hw.Topo.tGROUP, key := groupSet sets r g,
                                    kind := GROUP_KIND_DISTANCE, subkind := subkind })

end Hw.Grouping
