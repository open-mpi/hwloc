/-
  Hw.Attr.GroupingLemmas — invariants of the model of `hwloc__find_groups_by_min_distance` (Hw.Attr.Grouping):
  the rescan loop terminates within its fuel, group ids partition the objects into classes of at least two members,
  every class is connected through minimal-distance cells, a round at least halves the number of objects.
-/
import Hw.Attr.Grouping
import Hw.Attr.DistancesLemmas
namespace Hw.Grouping
open Hw.Loop

/-! ## the validity check -/

/-- `hwloc_compare_values` at accuracy 0 is the comparison of the integers -/
theorem cmpVals_cases (a b : Nat) :
    (a < b ∧ cmpVals a b = -1) ∨ (a = b ∧ cmpVals a b = 0) ∨ (b < a ∧ cmpVals a b = 1) := by
  unfold cmpVals
  by_cases h1 : a < b
  · exact Or.inl ⟨h1, if_pos h1⟩
  · rw [if_neg h1]
    by_cases h2 : a = b
    · exact Or.inr (Or.inl ⟨h2, if_pos h2⟩)
    · exact Or.inr (Or.inr ⟨by omega, if_neg h2⟩)

theorem cmpVals_eq_zero (a b : Nat) : (cmpVals a b == 0) = true ↔ a = b := by
  rcases cmpVals_cases a b with ⟨h, e⟩ | ⟨h, e⟩ | ⟨h, e⟩ <;> rw [e]
  · exact ⟨fun c => absurd c (by decide), fun c => by omega⟩
  · exact ⟨fun _ => h, fun _ => rfl⟩
  · exact ⟨fun c => absurd c (by decide), fun c => by omega⟩

theorem cmpVals_pos (a b : Nat) : ¬ (cmpVals a b ≤ 0) ↔ b < a := by
  rcases cmpVals_cases a b with ⟨h, e⟩ | ⟨h, e⟩ | ⟨h, e⟩ <;> rw [e]
  · exact ⟨fun c => absurd (by decide) c, fun c => by omega⟩
  · exact ⟨fun c => absurd (by decide) c, fun c => by omega⟩
  · exact ⟨fun _ => h, fun _ => by decide⟩
/-! ## counting the grouped objects -/

/-- number of `k < n` with `ids k ≠ 0`: the rank of `n` among the grouped objects -/
def nz (ids : Nat → Nat) (n : Nat) : Nat := Hw.Dist.rank (fun k => decide (ids k ≠ 0)) n

theorem nz_succ (ids : Nat → Nat) (n : Nat) : nz ids (n+1) = nz ids n + (if ids n ≠ 0 then 1 else 0) := by
  unfold nz; rw [Hw.Dist.rank_succ]; simp only [decide_eq_true_eq]

theorem nz_le (ids : Nat → Nat) (n : Nat) : nz ids n ≤ n := Hw.Dist.rank_le _ n

theorem upd_same (f : Nat → Nat) (k v : Nat) : upd f k v k = v := by simp [upd]
theorem upd_other (f : Nat → Nat) {k x : Nat} (v : Nat) (h : x ≠ k) : upd f k v x = f x := by simp [upd, h]

theorem nz_upd_ge (ids : Nat → Nat) (k v n : Nat) (h : n ≤ k) : nz (upd ids k v) n = nz ids n :=
  Hw.Dist.rank_congr _ _ n fun q hq => by rw [upd_other ids v (show q ≠ k by omega)]

theorem nz_upd_lt (ids : Nat → Nat) (k v : Nat) (h0 : ids k = 0) (hv : v ≠ 0) :
    ∀ n, k < n → nz (upd ids k v) n = nz ids n + 1
  | 0, h => by omega
  | n+1, h => by
    by_cases hk : k = n
    · subst hk
      simp only [nz_succ, nz_upd_ge ids k v k (Nat.le_refl k), upd_same, h0]
      simp [hv]
    · have ih := nz_upd_lt ids k v h0 hv n (by omega)
      have : n ≠ k := fun e => hk e.symm
      simp only [nz_succ, ih, upd_other ids v this]; omega

/-! ## the rescan loops -/

/-- the one thing the scans do to the state: object `k` joins the group -/
def mark (gid k : Nat) (s : Scan) : Scan := ⟨upd s.ids k gid, s.size + 1, if s.nff.isNone then some k else s.nff⟩

theorem scanK_eq (M : Mat) (md gid j : Nat) : ∀ (f k : Nat) (s : Scan),
    scanK M md gid j f k s = iter (fun k s => if s.ids k = 0 ∧ M j k = md then mark gid k s else s) f k s :=
  eq_iter (fun _ _ => rfl) (fun _ _ _ => rfl)

theorem scanJ_eq (M : Mat) (md gid n : Nat) : ∀ (f j : Nat) (s : Scan),
    scanJ M md gid n f j s = iter (fun j s => if s.ids j = gid then scanK M md gid j n 0 s else s) f j s :=
  eq_iter (fun _ _ => rfl) (fun _ _ _ => rfl)

section pres
variable (M : Mat) (md gid n : Nat) (P : Scan → Prop)

theorem scanK_pres (j f k0 : Nat) (s : Scan)
    (hmark : ∀ k s, k0 ≤ k → k < k0 + f → P s → s.ids k = 0 → M j k = md → P (mark gid k s)) (h : P s) :
    P (scanK M md gid j f k0 s) := by
  rw [scanK_eq]
  refine iter_inv _ (fun _ s => P s) f k0 s h (fun k s h1 h2 h => ?_)
  by_cases hc : s.ids k = 0 ∧ M j k = md
  · rw [if_pos hc]; exact hmark k s h1 h2 h hc.1 hc.2
  · rw [if_neg hc]; exact h

variable (hmark : ∀ j k s, j < n → k < n → P s → s.ids j = gid → s.ids k = 0 → M j k = md → P (mark gid k s))
include hmark

/-- `k` joins only while row `j` of a member `j` of the group is scanned and their cell is minimal: a property that survives
that step, under those facts, survives the scans -/
theorem scanJ_pres (f j : Nat) (s : Scan) (hj : j + f ≤ n) (h : P s) : P (scanJ M md gid n f j s) := by
  rw [scanJ_eq]
  refine iter_inv _ (fun _ s => P s) f j s h (fun j s _ hj' h => ?_)
  by_cases hc : s.ids j = gid
  · rw [if_pos hc]
    refine (scanK_pres M md gid (fun s => P s ∧ s.ids j = gid) j n 0 s (fun k s _ hk hs h0 hm => ⟨?_, ?_⟩) ⟨h, hc⟩).1
    · exact hmark j k s (by omega) (by omega) hs.1 hs.2 h0 hm
    · show upd s.ids k gid j = gid
      by_cases e : j = k
      · rw [e, upd_same]
      · rw [upd_other _ _ e, hs.2]
  · rw [if_neg hc]; exact h

theorem pass_pres (ff : Nat) (ids : Nat → Nat) (size : Nat) (h : P ⟨ids, size, none⟩) : P (pass M md gid n ff ids size) := by
  unfold pass
  by_cases hff : ff ≤ n
  · exact scanJ_pres M md gid n P hmark (n - ff) ff _ (by omega) h
  · rw [show n - ff = 0 by omega]; exact h

/-- … and the `while` loop, for a property that does not look at `newfirstfound` -/
theorem grow_pres (hnff : ∀ s : Scan, P s → P ⟨s.ids, s.size, none⟩) : ∀ (fuel ff : Nat) (ids : Nat → Nat) (size : Nat)
    (r : (Nat → Nat) × Nat), P ⟨ids, size, none⟩ → grow M md gid n fuel ff ids size = some r → P ⟨r.1, r.2, none⟩
  | 0, _, _, _, _, _, h => by simp [grow] at h
  | fuel+1, ff, ids, size, r, hi, h => by
    have hp := hnff _ (pass_pres M md gid n P hmark ff ids size hi)
    unfold grow at h
    split at h
    · injection h with h; subst h; exact hp
    · exact grow_pres hnff fuel _ _ _ r hp h

end pres

/-- what the scans preserve, relative to the state `(ids0, size0)`; `C` is any set of objects closed under minimal cells -/
structure Inv (C : Nat → Prop) (gid n : Nat) (ids0 : Nat → Nat) (size0 : Nat) (s : Scan) : Prop where
  old : ∀ x, s.ids x ≠ gid → s.ids x = ids0 x
  new : ∀ x, s.ids x = gid → (ids0 x = gid ∨ (ids0 x = 0 ∧ x < n)) ∧ C x
  cnt : s.size + nz ids0 n = size0 + nz s.ids n
  grew : (s.size = size0 ∧ s.ids = ids0) ∨ (size0 < s.size ∧ ∃ b, ids0 b = 0 ∧ s.ids b = gid)
  found : s.nff.isSome → size0 < s.size

theorem Inv.refl {C : Nat → Prop} {gid n : Nat} {ids0 : Nat → Nat} {size0 : Nat} (hc : ∀ x, ids0 x = gid → C x) :
    Inv C gid n ids0 size0 ⟨ids0, size0, none⟩ :=
  ⟨fun _ _ => rfl, fun x h => ⟨Or.inl h, hc x h⟩, rfl, Or.inl ⟨rfl, rfl⟩, nofun⟩

section scans
variable (M : Mat) (md gid n : Nat) (C : Nat → Prop)
variable (hC : ∀ j k, j < n → k < n → C j → M j k = md → C k) (hg : gid ≠ 0)
include hC hg

theorem Inv.of_mark (ids0 : Nat → Nat) (size0 : Nat) (j k : Nat) (s : Scan) (hj : j < n) (hk : k < n)
    (hi : Inv C gid n ids0 size0 s) (hsj : s.ids j = gid) (h0 : s.ids k = 0) (hm : M j k = md) :
    Inv C gid n ids0 size0 (mark gid k s) := by
  have hk0 : ids0 k = 0 := by rw [← hi.old k (by rw [h0]; exact hg.symm), h0]
  have hlt : size0 < s.size + 1 := hi.grew.elim (fun e => by omega) (fun l => by omega)
  refine ⟨fun x hx => ?_, fun x hx => ?_, ?_, Or.inr ⟨hlt, k, hk0, upd_same _ _ _⟩, fun _ => hlt⟩
  · have hx' : upd s.ids k gid x ≠ gid := hx
    have hxk : x ≠ k := fun e => hx' (by rw [e, upd_same])
    rw [upd_other _ _ hxk] at hx'
    exact (upd_other _ _ hxk).trans (hi.old x hx')
  · have hx' : upd s.ids k gid x = gid := hx
    by_cases hxk : x = k
    · rw [hxk]; exact ⟨Or.inr ⟨hk0, hk⟩, hC j k hj hk (hi.new j hsj).2 hm⟩
    · rw [upd_other _ _ hxk] at hx'; exact hi.new x hx'
  · show s.size + 1 + nz ids0 n = size0 + nz (upd s.ids k gid) n
    rw [nz_upd_lt s.ids k gid h0 hg n hk]
    have := hi.cnt; omega

theorem pass_inv (ids0 : Nat → Nat) (size0 ff : Nat) (ids : Nat → Nat) (size : Nat)
    (h : Inv C gid n ids0 size0 ⟨ids, size, none⟩) : Inv C gid n ids0 size0 (pass M md gid n ff ids size) :=
  pass_pres M md gid n _ (Inv.of_mark M md gid n C hC hg ids0 size0) ff ids size h

theorem grow_inv (ids0 : Nat → Nat) (size0 : Nat) (fuel ff : Nat) (ids : Nat → Nat) (size : Nat) (r : (Nat → Nat) × Nat)
    (h : Inv C gid n ids0 size0 ⟨ids, size, none⟩) (hr : grow M md gid n fuel ff ids size = some r) :
    Inv C gid n ids0 size0 ⟨r.1, r.2, none⟩ :=
  grow_pres M md gid n _ (Inv.of_mark M md gid n C hC hg ids0 size0) (fun _ h => ⟨h.old, h.new, h.cnt, h.grew, nofun⟩)
    fuel ff ids size r h hr

end scans

/-- **the fuel of the `while (firstfound != -1)` loop suffices**: every pass that finds something groups at least one more
object, so `n + 1 - (number of grouped objects)` passes are enough; the model's `n + 1` always is -/
theorem grow_fuel (M : Mat) (md gid n : Nat) (hg : gid ≠ 0) :
    ∀ (fuel ff : Nat) (ids : Nat → Nat) (size : Nat), n < fuel + nz ids n →
      ∃ r, grow M md gid n fuel ff ids size = some r
  | 0, _, ids, _, h => by have := nz_le ids n; omega
  | fuel+1, ff, ids, size, h => by
    unfold grow
    split
    · exact ⟨_, rfl⟩
    · rename_i k hk
      have hp := pass_inv M md gid n (fun _ => True) (fun _ _ _ _ _ _ => trivial) hg ids size ff ids size
        (Inv.refl (fun _ _ => trivial))
      have hgrew := hp.found (by rw [hk]; rfl)
      have hc := hp.cnt
      exact grow_fuel M md gid n hg fuel k _ _ (by omega)

/-! ## grouped objects stay grouped -/

theorem mark_keep {gid : Nat} (hg : gid ≠ 0) (x k : Nat) (s : Scan) (h : s.ids x ≠ 0) : (mark gid k s).ids x ≠ 0 := by
  show upd s.ids k gid x ≠ 0
  by_cases hx : x = k
  · rw [hx, upd_same]; exact hg
  · rw [upd_other _ _ hx]; exact h

theorem grow_keep (M : Mat) (md gid n : Nat) (hg : gid ≠ 0) (x : Nat) (fuel ff : Nat) (ids : Nat → Nat) (size : Nat)
    (r : (Nat → Nat) × Nat) (h : grow M md gid n fuel ff ids size = some r) (hx : ids x ≠ 0) : r.1 x ≠ 0 :=
  grow_pres M md gid n (fun s => s.ids x ≠ 0) (fun _ k s _ _ h _ _ _ => mark_keep hg x k s h) (fun _ h => h) fuel ff ids size r hx h

theorem scanK_complete (M : Mat) (md gid j n : Nat) (hg : gid ≠ 0) :
    ∀ (f k : Nat) (s : Scan), k + f = n → ∀ x, k ≤ x → x < n → M j x = md → (scanK M md gid j f k s).ids x ≠ 0
  | 0, k, s, hk, x, h1, h2, _ => by omega
  | f+1, k, s, hk, x, h1, h2, hm => by
    unfold scanK
    by_cases hx : x = k
    · subst hx
      refine scanK_pres M md gid (fun s => s.ids x ≠ 0) j f (x+1) _ (fun k s _ _ h _ _ => mark_keep hg x k s h) ?_
      split
      · show upd s.ids x gid x ≠ 0
        rw [upd_same]; exact hg
      · rename_i hc
        intro h0; exact hc ⟨h0, hm⟩
    · exact scanK_complete M md gid j n hg f (k+1) _ (by omega) x (by omega) h2 hm

/-- the first pass scans the row of the seed: all its minimal neighbours end up grouped -/
theorem grow_row (M : Mat) (md gid n i : Nat) (hg : gid ≠ 0) (hi : i < n) (fuel : Nat) (ids : Nat → Nat) (size : Nat)
    (hii : ids i = gid) (r : (Nat → Nat) × Nat) (h : grow M md gid n (fuel+1) i ids size = some r) :
    ∀ x, x < n → M i x = md → r.1 x ≠ 0 := by
  intro x hx hm
  have hp : (pass M md gid n i ids size).ids x ≠ 0 := by
    unfold pass
    obtain ⟨m, hm'⟩ : ∃ m, n - i = m + 1 := ⟨n - i - 1, by omega⟩
    rw [hm']
    unfold scanJ
    rw [if_pos (show (⟨ids, size, none⟩ : Scan).ids i = gid from hii)]
    exact scanJ_pres M md gid n (fun s => s.ids x ≠ 0) (fun _ k s _ _ h _ _ _ => mark_keep hg x k s h) m (i+1) _ (by omega)
      (scanK_complete M md gid i n hg n 0 _ (by omega) x (by omega) hx hm)
  unfold grow at h
  split at h
  · injection h with h; subst h; exact hp
  · exact grow_keep M md gid n hg x fuel _ _ _ r h hp

/-! ## the outer loop -/

/-- connected to `seed` through minimal-distance cells `M j k = md` -/
inductive Conn (M : Mat) (md seed : Nat) : Nat → Prop
  | base : Conn M md seed seed
  | step {j k : Nat} : Conn M md seed j → M j k = md → Conn M md seed k

structure OInv (M : Mat) (md n : Nat) (o : Out) : Prop where
  gpos : 1 ≤ o.gid
  bound : ∀ x, o.ids x < o.gid
  out : ∀ x, n ≤ x → o.ids x = 0
  cls : ∀ g, 1 ≤ g → g < o.gid → ∃ seed b, seed ≠ b ∧ o.ids seed = g ∧ o.ids b = g ∧ ∀ x, o.ids x = g → Conn M md seed x
  count : 2 * (o.gid - 1) ≤ nz o.ids n

theorem OInv.lt_of_grouped {M : Mat} {md n : Nat} {o : Out} (h : OInv M md n o) {x : Nat} (hx : o.ids x ≠ 0) : x < n :=
  Decidable.byContradiction fun c => hx (h.out x (Nat.le_of_not_lt c))

theorem OInv.init (M : Mat) (md n : Nat) : OInv M md n outInit :=
  ⟨Nat.le_refl 1, fun _ => Nat.zero_lt_one, fun _ _ => rfl, fun g h1 h2 => by simp [outInit] at h2; omega, by simp [outInit]⟩

theorem OInv.congr {M : Mat} {md n : Nat} {o o' : Out} (hi : o'.ids = o.ids) (hg : o'.gid = o.gid) (h : OInv M md n o) :
    OInv M md n o' :=
  ⟨by rw [hg]; exact h.gpos, by rw [hi, hg]; exact h.bound, by rw [hi]; exact h.out, by rw [hi, hg]; exact h.cls,
    by rw [hi, hg]; exact h.count⟩

/-- The first case covers both an `i` that is grouped already and a group started at `i` that stayed a group of one and was
cancelled; `C` is any set of objects that holds `i` and is closed under minimal cells. -/
theorem outerStep_cases (M : Mat) (md n i : Nat) (hi : i < n) (o : Out) (h : OInv M md n o)
    (C : Nat → Prop) (hC : ∀ j k, j < n → k < n → C j → M j k = md → C k) (hCi : C i) :
    ∃ o', outerStep M md n i o = o' ∧ (o.ids i = 0 → ∀ x, x < n → x ≠ i → M i x = md → o'.ids x ≠ 0) ∧
      ((o'.ids = o.ids ∧ o'.gid = o.gid) ∨
       (o'.gid = o.gid + 1 ∧ o'.ids i = o.gid ∧ (∃ b, b ≠ i ∧ o'.ids b = o.gid) ∧
        (∀ x, o'.ids x = o.gid → o.ids x = 0 ∧ x < n ∧ C x) ∧ (∀ x, o'.ids x ≠ o.gid → o'.ids x = o.ids x) ∧
        nz o.ids n + 2 ≤ nz o'.ids n)) := by
  unfold outerStep
  by_cases h0 : o.ids i ≠ 0
  · rw [if_pos h0]; exact ⟨o, rfl, fun e => absurd e h0, Or.inl ⟨rfl, rfl⟩⟩
  rw [if_neg h0]
  have h0 : o.ids i = 0 := Decidable.not_not.mp h0
  have hg : o.gid ≠ 0 := Nat.ne_of_gt h.gpos
  have hnz1 : nz (upd o.ids i o.gid) n = nz o.ids n + 1 := nz_upd_lt o.ids i o.gid h0 hg n hi
  have hseed : ∀ x, x ≠ i → upd o.ids i o.gid x ≠ o.gid := fun x hx => by
    rw [upd_other _ _ hx]; exact Nat.ne_of_lt (h.bound x)
  obtain ⟨r, hr⟩ := grow_fuel M md o.gid n hg (n + 1) i (upd o.ids i o.gid) 1 (by omega)
  have hbase : Inv C o.gid n (upd o.ids i o.gid) 1 ⟨upd o.ids i o.gid, 1, none⟩ := by
    refine Inv.refl fun x hx => ?_
    by_cases hxi : x = i
    · rw [hxi]; exact hCi
    · exact absurd hx (hseed x hxi)
  have hI := grow_inv M md o.gid n C hC hg (upd o.ids i o.gid) 1 (n + 1) i (upd o.ids i o.gid) 1 r hbase hr
  have hrow := grow_row M md o.gid n i hg hi n (upd o.ids i o.gid) 1 (upd_same _ _ _) r hr
  rw [hr]
  obtain ⟨ids', size'⟩ := r
  have hcnt : size' + nz (upd o.ids i o.gid) n = 1 + nz ids' n := hI.cnt
  show ∃ o', (if size' = 1 then ⟨upd ids' i 0, o.gid, o.skipped + 1⟩ else ⟨ids', o.gid + 1, o.skipped⟩ : Out) = o' ∧ _
  -- `size` has moved iff an object joined the seed
  rcases hI.grew with ⟨(hs : size' = 1), (hids : ids' = upd o.ids i o.gid)⟩ | ⟨(hs : 1 < size'), b, hb0, hbg⟩
  · rw [if_pos hs]
    refine ⟨_, rfl, fun _ x hx hxi hm => ?_, Or.inl ⟨funext fun x => ?_, rfl⟩⟩
    · show upd ids' i 0 x ≠ 0
      rw [upd_other _ _ hxi]; exact hrow x hx hm
    · show upd ids' i 0 x = o.ids x
      by_cases hx : x = i
      · rw [hx, upd_same, h0]
      · rw [upd_other _ _ hx, hids, upd_other _ _ hx]
  · have hii : ids' i = o.gid := Decidable.byContradiction fun c => c ((hI.old i c).trans (upd_same _ _ _))
    rw [if_neg (by omega)]
    refine ⟨_, rfl, fun _ x hx _ hm => hrow x hx hm, Or.inr ⟨rfl, hii,
      ⟨b, fun e => hg (by rw [e, upd_same] at hb0; exact hb0), hbg⟩, fun x hx => ?_,
      fun x hx => (hI.old x hx).trans (upd_other _ _ fun e => hx (e ▸ hii)), (by show nz o.ids n + 2 ≤ nz ids' n; omega)⟩⟩
    by_cases hxi : x = i
    · rw [hxi]; exact ⟨h0, hi, hCi⟩
    · obtain ⟨hz, hxn⟩ := ((hI.new x hx).1.resolve_left (hseed x hxi))
      rw [upd_other _ _ hxi] at hz
      exact ⟨hz, hxn, (hI.new x hx).2⟩

theorem outerStep_inv (M : Mat) (md n i : Nat) (hi : i < n) (o : Out) (h : OInv M md n o) : OInv M md n (outerStep M md n i o) := by
  obtain ⟨o', e, -, ⟨hids, hgid⟩ | ⟨hgid, hii, ⟨b, hbi, hbg⟩, hnew, hold, hcount⟩⟩ :=
    outerStep_cases M md n i hi o h (Conn M md i) (fun j k _ _ hj hm => Conn.step hj hm) Conn.base
  · rw [e]; exact h.congr hids hgid
  rw [e]
  have hgpos := h.gpos
  have keep : ∀ g, 1 ≤ g → g < o.gid → ∀ x, (o'.ids x = g ↔ o.ids x = g) := by
    intro g hg1 hg x
    by_cases hx : o'.ids x = o.gid
    · rw [hx, (hnew x hx).1]; omega
    · rw [hold x hx]
  refine ⟨by omega, fun x => ?_, fun x hx => ?_, fun g hg1 hg2 => ?_, by have := h.count; omega⟩
  · by_cases hx : o'.ids x = o.gid
    · omega
    · rw [hold x hx, hgid]; exact Nat.lt_succ_of_lt (h.bound x)
  · by_cases hxg : o'.ids x = o.gid
    · exact absurd (hnew x hxg).2.1 (Nat.not_lt.2 hx)
    · rw [hold x hxg]; exact h.out x hx
  · by_cases hgg : g = o.gid
    · rw [hgg]; exact ⟨i, b, fun e => hbi e.symm, hii, hbg, fun x hx => (hnew x hx).2.2⟩
    · have hlt : g < o.gid := by omega
      simp only [keep g hg1 hlt]; exact h.cls g hg1 hlt

theorem outer_eq (M : Mat) (md n : Nat) : ∀ (f i : Nat) (o : Out), outer M md n f i o = iter (outerStep M md n) f i o :=
  eq_iter (fun _ _ => rfl) (fun _ _ _ => rfl)

theorem outer_ind (M : Mat) (md n : Nat) (I : Nat → Out → Prop) (h0 : I 0 outInit)
    (hstep : ∀ i o, i < n → OInv M md n o → I i o → I (i + 1) (outerStep M md n i o)) :
    OInv M md n (outer M md n n 0 outInit) ∧ I n (outer M md n n 0 outInit) := by
  have h := iter_inv (outerStep M md n) (fun i o => OInv M md n o ∧ I i o) n 0 outInit ⟨OInv.init M md n, h0⟩
    fun i o _ hi h => ⟨outerStep_inv M md n i (by omega) o h.1, hstep i o (by omega) h.1 h.2⟩
  rwa [Nat.zero_add, ← outer_eq] at h

theorem outer_final (M : Mat) (n : Nat) : OInv M (minDist M n) n (outer M (minDist M n) n n 0 outInit) :=
  (outer_ind M _ n (fun _ _ => True) trivial fun _ _ _ _ _ => trivial).1

/-! ## `findGroups` -/

theorem findGroups_of_groups (M : Mat) (n : Nat) (hnb : (findGroups M n).1 ≠ 0) :
    findGroups M n = ((outer M (minDist M n) n n 0 outInit).gid - 1, (outer M (minDist M n) n n 0 outInit).ids) := by
  unfold findGroups at hnb ⊢
  by_cases h1 : minDist M n = U64MAX
  · rw [if_pos h1] at hnb; exact absurd rfl hnb
  · rw [if_neg h1] at hnb ⊢
    simp only at hnb ⊢
    by_cases h2 : (outer M (minDist M n) n n 0 outInit).gid = 2 ∧ (outer M (minDist M n) n n 0 outInit).skipped = 0
    · rw [if_pos h2] at hnb; exact absurd rfl hnb
    · exact if_neg h2

theorem findGroups_ids (M : Mat) (n : Nat) (hnb : (findGroups M n).1 ≠ 0) :
    (findGroups M n).2 = (outer M (minDist M n) n n 0 outInit).ids :=
  congrArg Prod.snd (findGroups_of_groups M n hnb)

theorem findGroups_spec (M : Mat) (n : Nat) (hnb : (findGroups M n).1 ≠ 0) :
    (∀ x, (findGroups M n).2 x ≤ (findGroups M n).1) ∧
    (∀ x, n ≤ x → (findGroups M n).2 x = 0) ∧
    (∀ g, 1 ≤ g → g ≤ (findGroups M n).1 → ∃ a b, a ≠ b ∧ a < n ∧ b < n ∧ (findGroups M n).2 a = g ∧ (findGroups M n).2 b = g) ∧
    (∀ g, 1 ≤ g → g ≤ (findGroups M n).1 →
       ∃ seed, (findGroups M n).2 seed = g ∧ ∀ x, (findGroups M n).2 x = g → Conn M (minDist M n) seed x) ∧
    2 * (findGroups M n).1 ≤ n := by
  have hO := outer_final M n
  simp only [findGroups_of_groups M n hnb]
  refine ⟨fun x => by have := hO.bound x; omega, hO.out, fun g hg1 hg2 => ?_, fun g hg1 hg2 => ?_, ?_⟩
  · obtain ⟨a, b, hab, ha, hb, -⟩ := hO.cls g hg1 (by omega)
    exact ⟨a, b, hab, hO.lt_of_grouped (by omega), hO.lt_of_grouped (by omega), ha, hb⟩
  · obtain ⟨seed, -, -, hs, -, hc⟩ := hO.cls g hg1 (by omega)
    exact ⟨seed, hs, hc⟩
  · have := hO.count; have := nz_le (outer M (minDist M n) n n 0 outInit).ids n; omega

/-- **a round at least halves the number of objects** (so the recursion of `hwloc__groups_by_distances` terminates) -/
theorem findGroups_halves (M : Mat) (n : Nat) : 2 * (findGroups M n).1 ≤ n := by
  by_cases h : (findGroups M n).1 = 0
  · omega
  · exact (findGroups_spec M n h).2.2.2.2

theorem tryGroups_halves (M : Mat) (n : Nat) (b : Bool) : 2 * (tryGroups M n b).1 ≤ n := by
  unfold tryGroups; split
  · simp
  · exact findGroups_halves M n

theorem rounds_succ (kind f n : Nat) (M : Mat) (b : Bool) : rounds kind (f+1) n M b =
    if n ≤ 2 ∨ kind &&& KIND_GROUPABLE = 0 ∨ (tryGroups M n b).1 = 0 then []
    else ⟨n, (tryGroups M n b).1, (List.range n).map (tryGroups M n b).2⟩ ::
      rounds kind f (tryGroups M n b).1 (groupValue M n (tryGroups M n b).2) false := by
  rw [rounds]
  by_cases h1 : n ≤ 2
  · rw [if_pos h1, if_pos (Or.inl h1)]
  rw [if_neg h1]
  by_cases h2 : kind &&& KIND_GROUPABLE = 0
  · rw [if_pos h2, if_pos (Or.inr (Or.inl h2))]
  rw [if_neg h2]
  show (if (tryGroups M n b).1 = 0 then [] else _) = _
  by_cases h3 : (tryGroups M n b).1 = 0
  · rw [if_pos h3, if_pos (Or.inr (Or.inr h3))]
  · rw [if_neg h3, if_neg (fun c => c.elim h1 (fun c => c.elim h2 h3))]

theorem rounds_fuel (kind : Nat) : ∀ (f1 f2 n : Nat) (M : Mat) (b : Bool), n ≤ f1 → n ≤ f2 →
    rounds kind f1 n M b = rounds kind f2 n M b
  | 0, 0, _, _, _, _, _ => rfl
  | 0, f2+1, n, M, b, h1, _ => by rw [rounds_succ, if_pos (Or.inl (by omega))]; rfl
  | f1+1, 0, n, M, b, _, h2 => by rw [rounds_succ, if_pos (Or.inl (by omega))]; rfl
  | f1+1, f2+1, n, M, b, h1, h2 => by
    have hh := tryGroups_halves M n b
    rw [rounds_succ, rounds_succ]
    split
    · rfl
    · rw [rounds_fuel kind f1 f2 (tryGroups M n b).1 _ false (by omega) (by omega)]

end Hw.Grouping
