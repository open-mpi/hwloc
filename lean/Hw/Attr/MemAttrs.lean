/-
  Hw.Attr.MemAttrs — model of hwloc/memattrs.c lines 17–1332 (memory attributes, local NUMA nodes,
  default nodeset).  Core Lean only.

  Representation:
  * cpusets are `Nat` bit masks over PU os_indexes (finite sets; the C03 refinement relates them to
    `hwloc_bitmap_t`), `subset a b` = `hwloc_bitmap_isincluded(a,b)`;
  * the topology is an *environment* `Env` (root cpuset, all objects with type / gp_index / os_index /
    cpuset, the NUMA level in logical order); `hwloc_topology_restrict` is an environment change followed
    by `needRefresh` (what objects survive a restrict is property C08's business, not C14's);
  * the attribute table is `List Attr` (index = `hwloc_memattr_id_t`), targets and initiators are lists
    in storage order (the C arrays), found by first match exactly as the C loops do.

  Not modelled: allocation failure, `target_gp_index == -1` (only used by OS backends during discovery),
  memory-tier guessing.
-/
namespace Hw.MemAttrs

/-! ## sets -/

/-- `hwloc_bitmap_isincluded(a, b)` on finite masks -/
def subset (a b : Nat) : Bool := a &&& b == a

/-- `hwloc_bitmap_weight` on a finite mask -/
def weight (m : Nat) : Nat := (List.range (m.log2 + 1)).countP (fun i => m.testBit i)

/-! ## environment (the topology as seen by memattrs.c) -/

structure Obj where
  type : Nat                 -- hwloc_obj_type_t
  gp : Nat                   -- gp_index
  os : Option Nat            -- os_index, none = (unsigned)-1
  cpuset : Option Nat        -- obj->cpuset, none = NULL (Misc, I/O)
  effCpuset : Nat            -- cpuset of the first ancestor-or-self that has one
  mem : Nat                  -- attr->numanode.local_memory (NUMA nodes)
  subtype : Option String    -- obj->subtype
  deriving DecidableEq, Repr, Inhabited

structure Env where
  numaType : Nat             -- HWLOC_OBJ_NUMANODE
  root : Nat                 -- levels[0][0]->cpuset
  objs : List Obj            -- every object of the topology
  nodes : List Obj           -- the NUMA level, logical order
  deriving DecidableEq, Repr, Inhabited

/-- `hwloc_get_obj_by_type_and_gp_index(topology, type, gp) != NULL` -/
def Env.hasObj (e : Env) (type gp : Nat) : Bool := e.objs.any (fun o => o.type == type && o.gp == gp)

/-! ## attribute table -/

inductive Err | EINVAL | ENOENT | EBUSY
  deriving DecidableEq, Repr, Inhabited

/-- internal location (`struct hwloc_internal_location_s`) -/
inductive Loc
  | cpuset (m : Nat)
  | obj (type gp : Nat)
  deriving DecidableEq, Repr, Inhabited

structure Init where
  loc : Loc
  value : Nat
  deriving DecidableEq, Repr, Inhabited

structure Target where
  type : Nat
  gp : Nat
  os : Option Nat            -- none = (unsigned)-1 (targets imported from XML)
  inits : List Init
  noinit : Nat
  deriving DecidableEq, Repr, Inhabited

structure Attr where
  name : String
  flags : Nat                -- HIGHER_FIRST = 1, LOWER_FIRST = 2, NEED_INITIATOR = 4
  conv : Bool                -- HWLOC_IMATTR_FLAG_CONVENIENCE
  valid : Bool               -- HWLOC_IMATTR_FLAG_CACHE_VALID
  targets : List Target
  deriving DecidableEq, Repr, Inhabited

abbrev Table := List Attr

def Attr.higher (a : Attr) : Bool := a.flags.testBit 0
def Attr.needInit (a : Attr) : Bool := a.flags.testBit 2

def mkDefault (name : String) (flags : Nat) (conv : Bool) : Attr :=
  { name, flags, conv, valid := true, targets := [] }

/-- `hwloc_internal_memattrs_prepare` followed by the refresh at the end of load -/
def defaults : Table :=
  [ mkDefault "Capacity" 1 true, mkDefault "Locality" 2 true,
    mkDefault "Bandwidth" 5 false, mkDefault "Latency" 6 false,
    mkDefault "ReadBandwidth" 5 false, mkDefault "WriteBandwidth" 5 false,
    mkDefault "ReadLatency" 6 false, mkDefault "WriteLatency" 6 false ]

/-- `hwloc_memattr_register` -/
def register (tbl : Table) (name : String) (flags : Nat) : Table × Except Err Nat :=
  if flags / 8 ≠ 0 then (tbl, .error .EINVAL)
  else if !(flags.testBit 0 || flags.testBit 1) then (tbl, .error .EINVAL)
  else if flags.testBit 0 && flags.testBit 1 then (tbl, .error .EINVAL)
  else if tbl.any (fun a => a.name == name) then (tbl, .error .EBUSY)
  else (tbl ++ [{ name, flags, conv := false, valid := true, targets := [] }], .ok tbl.length)

/-- `hwloc_memattr_get_by_name` -/
def getByName (tbl : Table) (name : String) : Option Nat := tbl.findIdx? (fun a => a.name == name)

/-! ## locations -/

/-- the `struct hwloc_location *` argument of the public calls, as the library sees it -/
inductive LocArg
  | null                               -- NULL pointer
  | cpuset (m : Option Nat)            -- type CPUSET, none = NULL bitmap
  | obj (o : Option (Nat × Nat))       -- type OBJECT (type, gp), none = NULL object
  | badType                            -- any other `type` value
  deriving DecidableEq, Repr, Inhabited

/-- `to_internal_location`; `none` = EINVAL -/
def toInternal : LocArg → Option Loc
  | .cpuset (some m) => if m == 0 then none else some (.cpuset m)
  | .obj (some (t, g)) => some (.obj t g)
  | _ => none

/-- `match_internal_location(query, stored)` -/
def matchLoc (q s : Loc) : Bool :=
  match q, s with
  | .cpuset a, .cpuset b => subset a b
  | .obj t g, .obj t' g' => t == t' && g == g'
  | _, _ => false

/-- `hwloc__memattr_target_get_initiator(imtg, iloc, 0)` -/
def findInit (q : Loc) (is : List Init) : Option Init := is.find? (fun i => matchLoc q i.loc)

/-- `hwloc__memattr_target_get_initiator(imtg, iloc, 1)` followed by `imi->value = v` -/
def setInit (q : Loc) (v : Nat) : List Init → List Init
  | [] => [⟨q, v⟩]
  | i :: is => if matchLoc q i.loc then ⟨i.loc, v⟩ :: is else i :: setInit q v is

/-- the test inside `hwloc__memattr_get_target` -/
def matchTarget (type gp : Nat) (os : Option Nat) (t : Target) : Bool :=
  type == t.type && (gp == t.gp || (match os, t.os with | some a, some b => a == b | _, _ => false))

def findTarget (type gp : Nat) (os : Option Nat) (ts : List Target) : Option Target :=
  ts.find? (matchTarget type gp os)

/-- `hwloc__memattr_get_target(..., create=1)` followed by an update `f` of the found/created slot -/
def updTarget (type gp : Nat) (os : Option Nat) (f : Target → Target) : List Target → List Target
  | [] => [f { type, gp, os, inits := [], noinit := 0 }]
  | t :: ts => if matchTarget type gp os t then f t :: ts else t :: updTarget type gp os f ts

/-! ## refresh -/

/-- `hwloc__imi_refresh` -/
def refreshInit (e : Env) (i : Init) : Option Init :=
  match i.loc with
  | .cpuset c => if c &&& e.root == 0 then none else some ⟨.cpuset (c &&& e.root), i.value⟩
  | .obj t g => if e.hasObj t g then some i else none

/-- `hwloc__imtg_refresh` -/
def refreshTarget (e : Env) (needInit : Bool) (t : Target) : Option Target :=
  if e.hasObj t.type t.gp then
    if needInit then
      let is := t.inits.filterMap (refreshInit e)
      if is.isEmpty then none else some { t with inits := is }
    else some t
  else none

/-- `hwloc__imattr_refresh` -/
def refreshAttr (e : Env) (a : Attr) : Attr :=
  { a with targets := a.targets.filterMap (refreshTarget e a.needInit), valid := true }

/-- `if (!(iflags & CACHE_VALID)) hwloc__imattr_refresh(...)` -/
def ensureValid (e : Env) (a : Attr) : Attr := if a.valid then a else refreshAttr e a

/-- `hwloc_internal_memattrs_need_refresh` (called by restrict) -/
def needRefresh (tbl : Table) : Table := tbl.map (fun a => if a.conv then a else { a with valid := false })

/-- `hwloc_internal_memattrs_refresh` (`hwloc_topology_refresh`, end of load) -/
def refreshAll (e : Env) (tbl : Table) : Table := tbl.map (ensureValid e)

/-- `hwloc_internal_memattrs_dup` -/
def dup (tbl : Table) : Table := tbl.map (fun a => { a with valid := false })

/-! ## values -/

/-- `hwloc__memattr_get_convenience_value` -/
def convValue (e : Env) (id : Nat) (o : Obj) : Except Err Nat :=
  if id == 0 then (if o.type == e.numaType then .ok o.mem else .error .EINVAL)
  else match o.cpuset with
    | some c => .ok (weight c)
    | none => .error .EINVAL

/-- value of `target` for a (possibly NULL) initiator argument, `none` = "no such entry"
(`hwloc__memattr_get_initiator_from_location` returning NULL) -/
def targetValue (needInit : Bool) (init : LocArg) (t : Target) : Option Nat :=
  if needInit then
    match toInternal init with
    | none => none
    | some q => (findInit q t.inits).map (·.value)
  else some t.noinit

/-- `hwloc_memattr_get_value` -/
def getValue (e : Env) (tbl : Table) (id : Nat) (tgt : Option Obj) (init : LocArg) (flags : Nat) :
    Table × Except Err Nat :=
  match tgt with
  | none => (tbl, .error .EINVAL)
  | some o =>
    if flags ≠ 0 then (tbl, .error .EINVAL) else
    match tbl[id]? with
    | none => (tbl, .error .EINVAL)
    | some a =>
      if a.conv then (tbl, convValue e id o) else
      let a' := ensureValid e a
      let tbl' := tbl.set id a'
      match findTarget o.type o.gp o.os a'.targets with
      | none => (tbl', .error .EINVAL)
      | some t =>
        match targetValue a'.needInit init t with
        | none => (tbl', .error .EINVAL)
        | some v => (tbl', .ok v)

/-- the slot update performed by `hwloc__internal_memattr_set_value` -/
def setSlot (needInit : Bool) (q : Option Loc) (v : Nat) (t : Target) : Target :=
  if needInit then
    match q with
    | some q => { t with inits := setInit q v t.inits }
    | none => t
  else { t with noinit := v }

/-- `hwloc__internal_memattr_set_value` on one attribute (after the argument checks);
`loaded` = `HWLOC_TOPOLOGY_STATE_IS_LOADED` -/
def setAttr (e : Env) (loaded : Bool) (a : Attr) (type gp : Nat) (os : Option Nat) (q : Option Loc) (v : Nat) : Attr :=
  let a' := if loaded then ensureValid e a else a
  let created := (findTarget type gp os a'.targets).isNone
  { a' with targets := updTarget type gp os (setSlot a'.needInit q v) a'.targets,
            valid := a'.valid && !created }

/-- `hwloc_memattr_set_value` (public entry point, topology loaded) -/
def setValue (e : Env) (tbl : Table) (id : Nat) (tgt : Option Obj) (init : LocArg) (flags : Nat) (v : Nat) :
    Table × Except Err Unit :=
  match tgt with
  | none => (tbl, .error .EINVAL)
  | some o =>
    if flags ≠ 0 then (tbl, .error .EINVAL) else
    if init ≠ .null && (toInternal init).isNone then (tbl, .error .EINVAL) else
    match tbl[id]? with
    | none => (tbl, .error .EINVAL)
    | some a =>
      if a.needInit && init == .null then (tbl, .error .EINVAL) else
      if a.conv then (tbl, .error .EINVAL) else
      (tbl.set id (setAttr e true a o.type o.gp o.os (toInternal init) v), .ok ())

/-! ## enumeration -/

/-- all (target gp_index, value) pairs `hwloc_memattr_get_targets` iterates over, in order -/
def matchingTargets (a : Attr) (init : LocArg) : List (Nat × Nat) :=
  a.targets.filterMap (fun t =>
    if a.needInit then
      (if init == .null then some (t.gp, 0)
       else (targetValue true init t).map (fun v => (t.gp, v)))
    else some (t.gp, t.noinit))

/-- convenience attributes: every NUMA node with its convenience value -/
def convTargets (e : Env) (id : Nat) : List (Nat × Nat) :=
  e.nodes.map (fun n => (n.gp, match convValue e id n with | .ok v => v | .error _ => 0))

/-- `hwloc_memattr_get_targets`: returns (`*nrp` on return, the entries written to the caller arrays).
`max` = `*nrp` on entry, `arrNull` = the `targets` array pointer is NULL -/
def getTargets (e : Env) (tbl : Table) (id : Nat) (init : LocArg) (flags max : Nat) (arrNull : Bool) :
    Table × Except Err (Nat × List (Nat × Nat)) :=
  if flags ≠ 0 then (tbl, .error .EINVAL) else
  if max ≠ 0 && arrNull then (tbl, .error .EINVAL) else
  match tbl[id]? with
  | none => (tbl, .error .EINVAL)
  | some a =>
    if a.conv then
      let all := convTargets e id
      (tbl, .ok (all.length, all.take max))
    else
      let a' := ensureValid e a
      let all := matchingTargets a' init
      (tbl.set id a', .ok (all.length, all.take max))

/-- `hwloc_memattr_get_initiators` -/
def getInitiators (e : Env) (tbl : Table) (id : Nat) (tgt : Option Obj) (flags max : Nat) (arrNull : Bool) :
    Table × Except Err (Nat × List Init) :=
  match tgt with
  | none => (tbl, .error .EINVAL)
  | some o =>
    if flags ≠ 0 then (tbl, .error .EINVAL) else
    if max ≠ 0 && arrNull then (tbl, .error .EINVAL) else
    match tbl[id]? with
    | none => (tbl, .error .EINVAL)
    | some a =>
      if !a.needInit then (tbl, .ok (0, [])) else
      let a' := ensureValid e a
      let tbl' := tbl.set id a'
      match findTarget o.type o.gp o.os a'.targets with
      | none => (tbl', .error .EINVAL)
      | some t => (tbl', .ok (t.inits.length, t.inits.take max))

/-! ## best-of queries -/

/-- `hwloc__update_best_target` / `hwloc__update_best_initiator`: strict improvement only -/
def bestStep {α : Type} (higher : Bool) (best : Option (α × Nat)) (x : α × Nat) : Option (α × Nat) :=
  match best with
  | none => some x
  | some b => if higher then (if x.2 ≤ b.2 then some b else some x)
              else (if x.2 ≥ b.2 then some b else some x)

def bestOf {α : Type} (higher : Bool) (l : List (α × Nat)) : Option (α × Nat) :=
  l.foldl (bestStep higher) none

/-- `hwloc_memattr_get_best_target` -/
def bestTarget (e : Env) (tbl : Table) (id : Nat) (init : LocArg) (flags : Nat) :
    Table × Except Err (Nat × Nat) :=
  if flags ≠ 0 then (tbl, .error .EINVAL) else
  match tbl[id]? with
  | none => (tbl, .error .EINVAL)
  | some a =>
    if a.conv then
      match bestOf a.higher (convTargets e id) with
      | some r => (tbl, .ok r)
      | none => (tbl, .error .ENOENT)
    else
      let a' := ensureValid e a
      let cands := a'.targets.filterMap (fun t => (targetValue a'.needInit init t).map (fun v => (t.gp, v)))
      match bestOf a'.higher cands with
      | some r => (tbl.set id a', .ok r)
      | none => (tbl.set id a', .error .ENOENT)

/-- `hwloc_memattr_get_best_initiator` -/
def bestInitiator (e : Env) (tbl : Table) (id : Nat) (tgt : Option Obj) (flags : Nat) :
    Table × Except Err (Loc × Nat) :=
  match tgt with
  | none => (tbl, .error .EINVAL)
  | some o =>
    if flags ≠ 0 then (tbl, .error .EINVAL) else
    match tbl[id]? with
    | none => (tbl, .error .EINVAL)
    | some a =>
      if !a.needInit then (tbl, .error .EINVAL) else
      let a' := ensureValid e a
      let tbl' := tbl.set id a'
      match findTarget o.type o.gp o.os a'.targets with
      | none => (tbl', .error .EINVAL)
      | some t =>
        match bestOf a'.higher (t.inits.map (fun i => (i.loc, i.value))) with
        | some r => (tbl', .ok r)
        | none => (tbl', .error .ENOENT)

/-! ## local NUMA nodes -/

/-- the location argument of `hwloc_get_local_numanode_objs` after resolving an object to the cpuset
of its first ancestor-or-self that has one -/
inductive LocalArg
  | null
  | cpuset (m : Nat)
  | badType
  deriving DecidableEq, Repr, Inhabited

/-- `match_local_obj_cpuset`; flags: LARGER = 1, SMALLER = 2, ALL = 4 -/
def matchLocal (flags : Nat) (cs : Nat) (node : Obj) : Bool :=
  let nc := node.cpuset.getD 0
  flags.testBit 2 || (flags.testBit 0 && subset cs nc) || (flags.testBit 1 && subset nc cs) || nc == cs

/-- `hwloc_get_local_numanode_objs`: (`*nrp` on return, nodes written) -/
def localNodes (e : Env) (loc : LocalArg) (flags max : Nat) (arrNull : Bool) : Except Err (Nat × List Obj) :=
  if flags / 8 ≠ 0 then .error .EINVAL else
  if max ≠ 0 && arrNull then .error .EINVAL else
  match loc with
  | .badType => .error .EINVAL
  | .null =>
    if !flags.testBit 2 then .error .EINVAL
    else .ok (e.nodes.length, e.nodes.take max)      -- ALL: every node matches
  | .cpuset cs =>
    let all := e.nodes.filter (matchLocal flags cs)
    .ok (all.length, all.take max)

/-! ## default nodeset -/

/-- insertion of one node into a list sorted by os_index (`qsort` with `compare_nodes_by_os_index`;
NUMA os_indexes are distinct so the order is determined) -/
def insertByOs (n : Obj) : List Obj → List Obj
  | [] => [n]
  | m :: ms => if n.os.getD 0 ≤ m.os.getD 0 then n :: m :: ms else m :: insertByOs n ms

def sortByOs (l : List Obj) : List Obj := l.foldr insertByOs []

structure DnsState where
  nodeset : Nat          -- bits = os_indexes taken
  chosen : List Obj      -- ghost: the nodes taken, most recent first
  remaining : Nat        -- remainingcpuset
  done : Bool            -- `goto done` taken
  deriving Repr, Inhabited

def DnsState.take (s : DnsState) (n : Obj) : DnsState :=
  { s with nodeset := s.nodeset ||| (1 <<< n.os.getD 0), chosen := n :: s.chosen,
           remaining := s.remaining ^^^ (s.remaining &&& n.cpuset.getD 0) }

/-- one iteration of the first loop (same subtype, non-overlapping, may be empty) -/
def dnsPass1 (first : Option String) (s : DnsState) (n : Obj) : DnsState :=
  if s.done then s else
  if n.subtype ≠ first then s else
  let s' := if subset (n.cpuset.getD 0) s.remaining then s.take n else s
  { s' with done := s'.remaining == 0 }

/-- one iteration of the second loop (`i` = index in the sorted array; note that the "already taken"
test looks at bit `i` of the nodeset, i.e. compares an array index with os_indexes, as the C does) -/
def dnsPass2 (s : DnsState) (in_ : Nat × Obj) : DnsState :=
  if s.done then s else
  if s.nodeset.testBit in_.1 then s else
  let n := in_.2
  let s' := if subset (n.cpuset.getD 0) s.remaining && n.cpuset.getD 0 != 0 then s.take n else s
  { s' with done := s'.remaining == 0 }

def enumFrom1 (l : List Obj) : List (Nat × Obj) := (List.range l.length).zip l |>.map (fun p => (p.1 + 1, p.2))

/-- `hwloc_topology_get_default_nodeset` (flags = 0) on a topology with at least one NUMA node -/
def defaultNodesetState (e : Env) : DnsState :=
  match sortByOs e.nodes with
  | [] => { nodeset := 0, chosen := [], remaining := e.root, done := true }
  | n0 :: rest =>
    let s0 : DnsState := DnsState.take { nodeset := 0, chosen := [], remaining := e.root, done := false } n0
    let s1 := rest.foldl (dnsPass1 n0.subtype) s0
    (enumFrom1 rest).foldl dnsPass2 s1

def defaultNodeset (e : Env) (flags : Nat) : Except Err Nat :=
  if flags ≠ 0 then .error .EINVAL else .ok (defaultNodesetState e).nodeset

/-! ## XML export + import (`hwloc__xml_export_memattrs`, `hwloc__xml_import_memattr`) -/

/-- replay of the `<memattr_value>` children of one exported attribute into attribute `a`
(load mode: no refresh; targets are imported with os_index = -1) -/
def importValues (e : Env) (src : Attr) (a : Attr) : Attr :=
  src.targets.foldl (fun a t =>
    if src.needInit then
      t.inits.foldl (fun a i => setAttr e false a t.type t.gp none (some i.loc) i.value) a
    else setAttr e false a t.type t.gp none none t.noinit) a

/-- import one exported `<memattr>` element -/
def importAttr (e : Env) (tbl : Table) (src : Attr) : Table :=
  match getByName tbl src.name with
  | some id =>
    match tbl[id]? with
    | some a => if a.flags == src.flags then tbl.set id (importValues e src a) else tbl
    | none => tbl
  | none =>
    match register tbl src.name src.flags with
    | (tbl', .ok id) =>
      (match tbl'[id]? with
       | some a => tbl'.set id (importValues e src a)
       | none => tbl')
    | (tbl', .error _) => tbl'

/-- the attributes `hwloc__xml_export_memattrs` writes: not Capacity/Locality, and the six other
standard ones only when they have targets -/
def exported (tbl : Table) : List Attr :=
  ((List.range tbl.length).zip tbl).filterMap (fun p =>
    if p.1 < 2 then none else if p.1 < 8 && p.2.targets.isEmpty then none else some p.2)

/-- export `src` to XML, load the XML as a new topology with environment `e` -/
def xmlRoundTrip (e : Env) (src : Table) : Table :=
  refreshAll e (needRefresh ((exported src).foldl (importAttr e) (defaults.map (fun a => { a with valid := false }))))

end Hw.MemAttrs
