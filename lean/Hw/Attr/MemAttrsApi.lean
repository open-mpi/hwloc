/-
  Hw.Attr.MemAttrsApi — API-level lemmas about the memattrs model: registration rules, enumeration,
  best-of queries, convenience attributes, local NUMA nodes, refresh at target level.
-/
import Hw.Attr.MemAttrsLemmas
namespace Hw.MemAttrs

/-! ## register -/

/-- the flag word is acceptable: no unknown bit and exactly one of HIGHER_FIRST / LOWER_FIRST -/
def flagsOk (flags : Nat) : Bool := decide (flags < 8) && (flags.testBit 0 ^^ flags.testBit 1)

def nameUsed (tbl : Table) (name : String) : Bool := tbl.any (fun a => a.name == name)

/-! ## enumeration -/

theorem getTargets_spec (e : Env) (tbl : Table) (id : Nat) (a : Attr) (init : LocArg) (max : Nat)
    (ha : tbl[id]? = some a) (hc : a.conv = false) :
    getTargets e tbl id init 0 max false =
      (tbl.set id (ensureValid e a),
       .ok ((matchingTargets (ensureValid e a) init).length, (matchingTargets (ensureValid e a) init).take max)) := by
  simp [getTargets, ha, hc]

theorem getTargets_conv_spec (e : Env) (tbl : Table) (id : Nat) (a : Attr) (init : LocArg) (max : Nat)
    (ha : tbl[id]? = some a) (hc : a.conv = true) :
    getTargets e tbl id init 0 max false = (tbl, .ok ((convTargets e id).length, (convTargets e id).take max)) := by
  simp [getTargets, ha, hc]

/-- NULL array with a non-zero `*nr`, or non-zero flags: EINVAL, nothing changes -/
theorem getTargets_einval (e : Env) (tbl : Table) (id : Nat) (init : LocArg) (flags max : Nat) (arrNull : Bool)
    (h : flags ≠ 0 ∨ (max ≠ 0 ∧ arrNull = true) ∨ tbl[id]? = none) :
    getTargets e tbl id init flags max arrNull = (tbl, .error .EINVAL) := by
  unfold getTargets
  by_cases hf : flags ≠ 0
  · simp [hf]
  · by_cases hm : (max ≠ 0 ∧ arrNull = true)
    · simp [hf, hm.1, hm.2]
    · rcases h with h | h | h
      · exact absurd h hf
      · exact absurd h hm
      · have : (decide (max ≠ 0) && arrNull) = false := by
          cases arrNull <;> simp_all
        simp only [hf, if_false, this, h]; simp

theorem getInitiators_spec (e : Env) (tbl : Table) (id : Nat) (a : Attr) (o : Obj) (t : Target) (max : Nat)
    (ha : tbl[id]? = some a) (hn : a.needInit = true)
    (ht : findTarget o.type o.gp o.os (ensureValid e a).targets = some t) :
    getInitiators e tbl id (some o) 0 max false =
      (tbl.set id (ensureValid e a), .ok (t.inits.length, t.inits.take max)) := by
  simp [getInitiators, ha, hn, ht]

theorem getInitiators_noInit (e : Env) (tbl : Table) (id : Nat) (a : Attr) (o : Obj) (max : Nat)
    (ha : tbl[id]? = some a) (hn : a.needInit = false) :
    getInitiators e tbl id (some o) 0 max false = (tbl, .ok (0, [])) := by
  simp [getInitiators, ha, hn]

theorem getInitiators_unknown (e : Env) (tbl : Table) (id : Nat) (a : Attr) (o : Obj) (max : Nat)
    (ha : tbl[id]? = some a) (hn : a.needInit = true)
    (ht : findTarget o.type o.gp o.os (ensureValid e a).targets = none) :
    (getInitiators e tbl id (some o) 0 max false).2 = .error .EINVAL := by
  simp [getInitiators, ha, hn, ht]

/-! ## best-of -/

/-- the (target, value) candidates `hwloc_memattr_get_best_target` folds over -/
def candTargets (a : Attr) (init : LocArg) : List (Nat × Nat) :=
  a.targets.filterMap (fun t => (targetValue a.needInit init t).map (fun v => (t.gp, v)))

theorem bestTarget_conv_spec (e : Env) (tbl : Table) (id : Nat) (a : Attr) (init : LocArg)
    (ha : tbl[id]? = some a) (hc : a.conv = true) :
    bestTarget e tbl id init 0 =
      (tbl, match bestOf a.higher (convTargets e id) with
            | some r => .ok r
            | none => .error .ENOENT) := by
  unfold bestTarget
  simp only [ne_eq, not_true_eq_false, if_false, ha, hc, if_true]
  split <;> simp_all

/-! ## convenience attributes -/

theorem getValue_conv (e : Env) (tbl : Table) (id : Nat) (a : Attr) (o : Obj) (init : LocArg)
    (ha : tbl[id]? = some a) (hc : a.conv = true) :
    getValue e tbl id (some o) init 0 = (tbl, convValue e id o) := by
  simp [getValue, ha, hc]

/-! ## local NUMA nodes -/

theorem localNodes_cpuset_spec (e : Env) (cs flags max : Nat) (h8 : flags < 8) :
    localNodes e (.cpuset cs) flags max false =
      .ok ((e.nodes.filter (matchLocal flags cs)).length, (e.nodes.filter (matchLocal flags cs)).take max) := by
  have : flags / 8 = 0 := by omega
  simp [localNodes, this]

theorem localNodes_badflags (e : Env) (loc : LocalArg) (flags max : Nat) (an : Bool) (h8 : 8 ≤ flags) :
    localNodes e loc flags max an = .error .EINVAL := by
  have : flags / 8 ≠ 0 := by omega
  simp [localNodes, this]

theorem matchLocal_iff (flags cs : Nat) (n : Obj) :
    matchLocal flags cs n = true ↔
      flags.testBit 2 = true ∨ (flags.testBit 0 = true ∧ subset cs (ocs n) = true) ∨
      (flags.testBit 1 = true ∧ subset (ocs n) cs = true) ∨ ocs n = cs := by
  simp [matchLocal, ocs, or_assoc]

/-! ## refresh, target level -/

theorem refreshAttr_static (e : Env) (a : Attr) :
    (refreshAttr e a).name = a.name ∧ (refreshAttr e a).flags = a.flags ∧ (refreshAttr e a).conv = a.conv ∧
    (refreshAttr e a).valid = true := ⟨rfl, rfl, rfl, rfl⟩

theorem refreshTarget_none_iff (e : Env) (ni : Bool) (t : Target) :
    refreshTarget e ni t = none ↔
      e.hasObj t.type t.gp = false ∨ (ni = true ∧ ∀ i ∈ t.inits, refreshInit e i = none) := by
  unfold refreshTarget
  by_cases ho : e.hasObj t.type t.gp = true
  · simp only [ho, if_true, Bool.true_eq_false, false_or]
    cases ni with
    | false => simp
    | true =>
      simp only [if_true, true_and]
      by_cases hem : (List.filterMap (refreshInit e) t.inits).isEmpty = true
      · simp only [hem, if_true, true_iff]
        intro i hi
        cases hr : refreshInit e i with
        | none => rfl
        | some i' =>
          have : i' ∈ List.filterMap (refreshInit e) t.inits := List.mem_filterMap.mpr ⟨i, hi, hr⟩
          rw [List.isEmpty_iff] at hem
          rw [hem] at this; cases this
      · simp only [hem, if_false, Bool.false_eq_true, reduceCtorEq, false_iff]
        intro hall
        apply hem
        rw [List.isEmpty_iff, List.filterMap_eq_nil_iff]
        exact hall
  · have ho' : e.hasObj t.type t.gp = false := by simpa using ho
    simp [ho']

theorem refreshTarget_some (e : Env) (ni : Bool) (t t' : Target) (h : refreshTarget e ni t = some t') :
    t' = if ni then { t with inits := t.inits.filterMap (refreshInit e) } else t := by
  unfold refreshTarget at h
  by_cases ho : e.hasObj t.type t.gp = true
  · simp only [ho, if_true] at h
    cases ni with
    | false => simpa using h.symm
    | true =>
      simp only [if_true] at h ⊢
      split at h
      · cases h
      · exact (Option.some.inj h).symm
  · simp [ho] at h

theorem targetValue_refresh (e : Env) (ni : Bool) (t t' : Target) (init : LocArg)
    (h : refreshTarget e ni t = some t') (hq : ∀ q, toInternal init = some q → validQuery e q) :
    targetValue ni init t' = targetValue ni init t := by
  have ht := refreshTarget_some e ni t t' h
  cases ni with
  | false => simp only [Bool.false_eq_true, if_false] at ht; rw [ht]
  | true =>
    simp only [if_true] at ht
    subst ht
    unfold targetValue
    simp only [if_true]
    cases hi : toInternal init with
    | none => rfl
    | some q => exact findInit_refresh e t.inits q (hq q hi)

end Hw.MemAttrs
