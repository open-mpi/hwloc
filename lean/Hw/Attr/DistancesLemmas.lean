/-
  Hw.Attr.DistancesLemmas — lemmas about the model of hwloc/distances.c.
-/
import Hw.Attr.Distances
import Hw.Base.Loop
import Hw.Base.ListLemmas
namespace Hw.Dist
open Hw.Loop

/-! ## functional arrays, rank -/

@[simp] theorem FArr.get_upd {α : Type} (a : FArr α) (p : Nat) (v : α) (q : Nat) :
    (a.upd p v).get q = if q = p then v else a.get q := rfl

@[simp] theorem toArr_get {α : Type} (l : List α) (d : α) (i : Nat) : (toArr l d).get i = l.getD i d := rfl

@[simp] theorem ofArr_length {α : Type} (a : FArr α) (m : Nat) : (ofArr a m).length = m := by
  simp [ofArr]

theorem ofArr_getD {α : Type} (a : FArr α) (m : Nat) (d : α) (i : Nat) (h : i < m) :
    (ofArr a m).getD i d = a.get i := by
  simp [ofArr, List.getD, h]

theorem ofArr_getElem? {α : Type} (a : FArr α) (m : Nat) (i : Nat) (h : i < m) :
    (ofArr a m)[i]? = some (a.get i) := by
  simp [ofArr, h]

theorem mem_ofArr {α : Type} (a : FArr α) (m : Nat) (x : α) : x ∈ ofArr a m ↔ ∃ i, i < m ∧ a.get i = x := by
  simp [ofArr]

@[simp] theorem rank_zero (live : Nat → Bool) : rank live 0 = 0 := rfl
theorem rank_succ (live : Nat → Bool) (j : Nat) : rank live (j+1) = rank live j + (if live j then 1 else 0) := rfl

theorem rank_succ_live (live : Nat → Bool) (j : Nat) (h : live j = true) : rank live (j+1) = rank live j + 1 := by
  simp [rank_succ, h]
theorem rank_succ_dead (live : Nat → Bool) (j : Nat) (h : ¬ live j = true) : rank live (j+1) = rank live j := by
  simp [rank_succ, h]

theorem rank_le (live : Nat → Bool) : ∀ j, rank live j ≤ j
  | 0 => Nat.le_refl 0
  | j+1 => by
    have := rank_le live j
    rw [rank_succ]; split <;> omega

theorem rank_mono (live : Nat → Bool) {i j : Nat} (h : i ≤ j) : rank live i ≤ rank live j := by
  induction j with
  | zero => have : i = 0 := by omega
            subst this; exact Nat.le_refl _
  | succ j ih =>
    rcases Nat.lt_or_ge i (j+1) with h1 | h1
    · have := ih (by omega)
      rw [rank_succ]; omega
    · have : i = j+1 := by omega
      subst this; exact Nat.le_refl _

theorem rank_lt_of_live (live : Nat → Bool) {i n : Nat} (hi : i < n) (hl : live i = true) :
    rank live i < rank live n := by
  have h1 := rank_succ_live live i hl
  have h2 := rank_mono live (show i+1 ≤ n from hi)
  omega

theorem rank_inj (live : Nat → Bool) {i j : Nat} (hi : live i = true) (hj : live j = true)
    (h : rank live i = rank live j) : i = j := by
  rcases Nat.lt_trichotomy i j with h1 | h1 | h1
  · have := rank_lt_of_live live h1 hi; omega
  · exact h1
  · have := rank_lt_of_live live h1 hj; omega

theorem rank_all_live (live : Nat → Bool) : ∀ n, (∀ i, i < n → live i = true) → rank live n = n
  | 0, _ => rfl
  | n+1, h => by
    rw [rank_succ_live live n (h n (Nat.lt_succ_self n)), rank_all_live live n (fun i hi => h i (Nat.lt_succ_of_lt hi))]

theorem rank_surj (live : Nat → Bool) : ∀ n p, p < rank live n → ∃ i, i < n ∧ live i = true ∧ rank live i = p
  | 0, p, h => by simp at h
  | n+1, p, h => by
    by_cases hl : live n = true
    · rw [rank_succ_live live n hl] at h
      rcases Nat.lt_or_ge p (rank live n) with h1 | h1
      · obtain ⟨i, hi, h2, h3⟩ := rank_surj live n p h1
        exact ⟨i, Nat.lt_succ_of_lt hi, h2, h3⟩
      · exact ⟨n, Nat.lt_succ_self n, hl, by omega⟩
    · rw [rank_succ_dead live n hl] at h
      obtain ⟨i, hi, h2, h3⟩ := rank_surj live n p h
      exact ⟨i, Nat.lt_succ_of_lt hi, h2, h3⟩

theorem rank_shift (live : Nat → Bool) : ∀ n, rank live (n+1) = (if live 0 then 1 else 0) + rank (fun q => live (q+1)) n
  | 0 => by simp [rank_succ]
  | n+1 => by
    rw [rank_succ live (n+1), rank_shift live n, rank_succ (fun q => live (q+1)) n]
    omega

theorem rank_congr (l l' : Nat → Bool) : ∀ x, (∀ q, q < x → l q = l' q) → rank l x = rank l' x
  | 0, _ => rfl
  | x+1, h => by
    rw [rank_succ, rank_succ, rank_congr l l' x (fun q hq => h q (by omega)), h x (Nat.lt_succ_self x)]

/-- the survivor mask read by `hwloc_internal_distances_restrict` -/
def liveOf (objs : List (Option Obj)) : Nat → Bool := fun q => (objs.getD q none).isSome

theorem rank_add_countNone (objs : List (Option Obj)) :
    rank (fun q => (objs.getD q none).isSome) objs.length + countNone objs = objs.length := by
  induction objs with
  | nil => rfl
  | cons a l ih =>
    rw [List.length_cons, rank_shift]
    have e : (fun q => ((a :: l).getD (q+1) none).isSome) = (fun q => (l.getD q none).isSome) := by
      funext q; simp [List.getD]
    rw [e]
    unfold countNone at *
    rw [List.countP_cons]
    cases a <;> simp [List.getD] at ih ⊢ <;> omega

theorem rank_eq_sub_countNone (objs : List (Option Obj)) (n : Nat) (h : objs.length = n) :
    n - countNone objs = rank (liveOf objs) n := by
  have := rank_add_countNone objs
  unfold liveOf
  rw [h] at this; omega

theorem countNone_le (objs : List (Option Obj)) : countNone objs ≤ objs.length := List.countP_le_length

theorem all_live_of_countNone_zero (objs : List (Option Obj)) (h : countNone objs = 0) (i : Nat) (hi : i < objs.length) :
    (objs.getD i none).isSome = true := by
  unfold countNone at h
  rw [List.countP_eq_zero] at h
  have hm : objs[i] ∈ objs := List.getElem_mem hi
  have := h _ hm
  simp only [List.getD, List.getElem?_eq_getElem hi, Option.getD_some]
  cases hx : objs[i] with
  | none => rw [hx] at this; simp at this
  | some _ => rfl

/-! ## cells of an `n × n` matrix stored row by row -/

theorem cell_inj {n i j i' j' : Nat} (hj : j < n) (hj' : j' < n) (h : i*n+j = i'*n+j') : i = i' ∧ j = j' :=
  ⟨by rw [← mul_add_div_of_lt (k := i) hj, h, mul_add_div_of_lt hj'],
   by rw [← Nat.mul_add_mod_of_lt (a := i) hj, h, Nat.mul_add_mod_of_lt hj']⟩

def cellAt (n : Nat) (a : FArr Nat) (q : Nat × Nat) : Nat := a.get (q.1*n+q.2)

theorem get_upd_cell {n x y x' y' : Nat} (a : FArr Nat) (v : Nat) (hy : y < n) (hy' : y' < n) :
    (a.upd (x'*n+y') v).get (x*n+y) = if x = x' ∧ y = y' then v else a.get (x*n+y) := by
  rw [FArr.get_upd]
  by_cases h : x = x' ∧ y = y'
  · rw [if_pos h, if_pos (by rw [h.1, h.2])]
  · rw [if_neg h, if_neg (fun e => h (cell_inj hy hy' e))]

/-! ## the in-place compaction of the value matrix -/

/-- one pass of the loop that the value rows (`compactRow`) and the three object arrays (`compactObjs`) all run: survivor `k` is
copied from cell `r + k` to cell `w + rank k` -/
def compactStep {α : Type} (live : Nat → Bool) (w r k : Nat) (a : FArr α) : FArr α :=
  if live k then a.upd (w + rank live k) (a.get (r + k)) else a

/-- with `w ≤ r` a write lands below every later read, and `rank` sends later survivors to later cells -/
theorem compactStep_spec {α : Type} (live : Nat → Bool) (w r n : Nat) (hWR : w ≤ r) (a : FArr α) :
    (∀ j, j < n → live j = true → (iter (compactStep live w r) n 0 a).get (w + rank live j) = a.get (r + j)) ∧
    (∀ p, ¬ (w ≤ p ∧ p < w + rank live n) → (iter (compactStep live w r) n 0 a).get p = a.get p) := by
  obtain ⟨s1, s2⟩ := iter_spec FArr.get (fun _ => True) (compactStep live w r)
    (fun k p => live k = true ∧ p = w + rank live k) (fun k q => q = r + k) n
    (fun k a p _ _ hp => by
      unfold compactStep
      by_cases hl : live k = true
      · rw [if_pos hl, FArr.get_upd, if_neg (fun e => hp ⟨hl, e⟩)]
      · rw [if_neg hl])
    (fun k a b p _ _ hp hab => by
      unfold compactStep
      rw [if_pos hp.1, if_pos hp.1, hp.2, FArr.get_upd, FArr.get_upd, if_pos rfl, if_pos rfl, hab _ trivial rfl])
    (fun k k' p hk _ _ hp e => by have := rank_le live k; omega)
    (fun k k' p hk hk' _ hp hp' => by have := rank_lt_of_live live hk hp.1; omega)
    n 0 a (Nat.zero_add n)
  refine ⟨fun j h2 h3 => ?_, fun p hp => s2 p trivial (fun k _ h2 hw => ?_)⟩
  · rw [s1 j _ (Nat.zero_le j) h2 trivial ⟨h3, rfl⟩]
    unfold compactStep
    rw [if_pos h3, FArr.get_upd, if_pos rfl]
  · have := rank_lt_of_live live h2 hw.1
    omega

theorem compactRow_eq (n k : Nat) (live : Nat → Bool) (i newi : Nat) : ∀ (fuel j : Nat) (a : FArr Nat),
    compactRow n k live i newi fuel j (rank live j) a = iter (compactStep live (newi*k) (i*n)) fuel j a :=
  eq_iter (F := fun f j a => compactRow n k live i newi f j (rank live j) a) (fun _ _ => rfl) fun f j a => by
    show compactRow n k live i newi (f+1) j (rank live j) a = _
    rw [compactRow]; unfold compactStep
    by_cases hl : live j = true
    · rw [if_pos hl, if_pos hl, rank_succ_live live j hl]
    · rw [if_neg hl, if_neg hl, rank_succ_dead live j hl]

def compactRowStep (n k : Nat) (live : Nat → Bool) (i : Nat) (a : FArr Nat) : FArr Nat :=
  if live i then iter (compactStep live (rank live i * k) (i*n)) n 0 a else a

theorem compactRows_eq (n k : Nat) (live : Nat → Bool) : ∀ (fuel i : Nat) (a : FArr Nat),
    compactRows n k live fuel i (rank live i) a = iter (compactRowStep n k live) fuel i a :=
  eq_iter (F := fun f i a => compactRows n k live f i (rank live i) a) (fun _ _ => rfl) fun f i a => by
    show compactRows n k live (f+1) i (rank live i) a = _
    rw [compactRows]; unfold compactRowStep
    by_cases hl : live i = true
    · rw [if_pos hl, if_pos hl, rank_succ_live live i hl, ← compactRow_eq n k live i (rank live i) n 0 a]; rfl
    · rw [if_neg hl, if_neg hl, rank_succ_dead live i hl]

/-- the in-place overwrite of `hwloc_internal_distances_restrict` never destroys a cell that is still to be read: pass `i` writes
the `k` cells of row `rank i` of the small matrix from row `i` of the large one, and row `rank i` of the small matrix ends where
row `i + 1` of the large one begins, or before -/
theorem compactVals_spec (n : Nat) (live : Nat → Bool) (a : FArr Nat) (i j : Nat)
    (hi : i < n) (hj : j < n) (li : live i = true) (lj : live j = true) :
    (compactVals n (rank live n) live a).get (rank live i * rank live n + rank live j) = a.get (i*n + j) := by
  show (compactRows n _ live n 0 (rank live 0) a).get _ = _
  rw [compactRows_eq]
  have hj' := rank_lt_of_live live hj lj
  generalize hk : rank live n = k at hj' ⊢
  have hkn : k ≤ n := hk ▸ rank_le live n
  have hrow : ∀ (i : Nat) (a : FArr Nat), live i = true →
      (∀ j', j' < n → live j' = true → (compactRowStep n k live i a).get (rank live i * k + rank live j') = a.get (i*n + j')) ∧
      (∀ p, ¬ (rank live i * k ≤ p ∧ p < rank live i * k + k) → (compactRowStep n k live i a).get p = a.get p) := by
    intro i a hl
    unfold compactRowStep
    rw [if_pos hl]
    exact hk ▸ compactStep_spec live (rank live i * k) (i*n) n (Nat.mul_le_mul (rank_le live i) hkn) a
  obtain ⟨s1, -⟩ := iter_spec FArr.get (fun _ => True) (compactRowStep n k live)
    (fun i p => live i = true ∧ rank live i * k ≤ p ∧ p < rank live i * k + k) (fun i p => i*n ≤ p ∧ p < i*n + n) n
    (fun i a p _ _ hw => by
      by_cases hl : live i = true
      · exact (hrow i a hl).2 p (fun c => hw ⟨hl, c⟩)
      · unfold compactRowStep; rw [if_neg hl])
    (fun i a b p _ _ hw hab => by
      obtain ⟨q, rfl⟩ := Nat.exists_eq_add_of_le hw.2.1
      obtain ⟨j', h1, h2, rfl⟩ := rank_surj live n q (hk ▸ Nat.lt_of_add_lt_add_left hw.2.2)
      rw [(hrow i a hw.1).1 j' h1 h2, (hrow i b hw.1).1 j' h1 h2]
      exact hab _ trivial ⟨Nat.le_add_right _ _, Nat.add_lt_add_left h1 _⟩)
    (fun i i' p hi _ _ hw hd => by
      have h1 : (rank live i + 1) * k ≤ (i + 1) * n := Nat.mul_le_mul (Nat.succ_le_succ (rank_le live i)) hkn
      have h2 : (i + 1) * n ≤ i' * n := Nat.mul_le_mul_right n hi
      rw [Nat.succ_mul] at h1; omega)
    (fun i i' p hi hi' _ hw hw' => by
      have h1 : (rank live i + 1) * k ≤ rank live i' * k := Nat.mul_le_mul_right k (rank_lt_of_live live hi hw.1)
      rw [Nat.succ_mul] at h1; omega)
    n 0 a (Nat.zero_add n)
  rw [s1 i _ (Nat.zero_le i) hi trivial ⟨li, Nat.le_add_right _ _, Nat.add_lt_add_left hj' _⟩]
  exact (hrow i a li).1 j hj lj

/-! ## the in-place compaction of objs / indexes / different_types -/

/-- the objs loop reads liveness off the array it is overwriting: it sees the mask `live` as long as the cells not yet reached
show it, and the writes (at `rank i ≤ i`) leave those alone -/
theorem compactObjs_eq (live : Nat → Bool) : ∀ (fuel i : Nat) (o : FArr (Option Obj)) (x : FArr Nat) (t : FArr Int),
    (∀ q, i ≤ q → (o.get q).isSome = live q) →
    compactObjs fuel i (rank live i) o x t =
      (iter (compactStep live 0 0) fuel i o, iter (compactStep live 0 0) fuel i x, iter (compactStep live 0 0) fuel i t)
  | 0, _, _, _, _, _ => rfl
  | f+1, i, o, x, t, hinv => by
    unfold compactObjs iter compactStep
    rw [hinv i (Nat.le_refl i)]
    by_cases hl : live i = true
    · rw [if_pos hl, if_pos hl, if_pos hl, if_pos hl, Nat.zero_add, Nat.zero_add, ← rank_succ_live live i hl]
      refine compactObjs_eq live f (i+1) _ _ _ (fun q hq => ?_)
      rw [FArr.get_upd, if_neg (by have := rank_le live i; omega)]
      exact hinv q (by omega)
    · rw [if_neg hl, if_neg hl, if_neg hl, if_neg hl, ← rank_succ_dead live i hl]
      exact compactObjs_eq live f (i+1) o x t (fun q hq => hinv q (by omega))

/-! ## `compactLists` at list level -/

section CompactLists
variable (n : Nat) (objs : List (Option Obj)) (idx : List Nat) (tys : List Int) (vals : List Nat)

theorem compactLists_vals (i j : Nat) (hi : i < n) (hj : j < n)
    (li : liveOf objs i = true) (lj : liveOf objs j = true) :
    (compactLists n (rank (liveOf objs) n) objs idx tys vals).2.2.2.getD
        (rank (liveOf objs) i * rank (liveOf objs) n + rank (liveOf objs) j) 0 = vals.getD (i*n + j) 0 := by
  show (ofArr _ _).getD _ _ = _
  rw [ofArr_getD _ _ _ _ (mul_add_lt_mul (rank_lt_of_live (liveOf objs) hi li) (rank_lt_of_live (liveOf objs) hj lj))]
  exact compactVals_spec n (liveOf objs) (toArr vals 0) i j hi hj li lj

theorem compactLists_objs (i : Nat) (hi : i < n) (li : liveOf objs i = true) :
    (compactLists n (rank (liveOf objs) n) objs idx tys vals).1.getD (rank (liveOf objs) i) none = objs.getD i none ∧
    (compactLists n (rank (liveOf objs) n) objs idx tys vals).2.1.getD (rank (liveOf objs) i) 0 = idx.getD i 0 ∧
    (compactLists n (rank (liveOf objs) n) objs idx tys vals).2.2.1.getD (rank (liveOf objs) i) (-1) = tys.getD i (-1) := by
  have h1 := rank_lt_of_live (liveOf objs) hi li
  have e : compactObjs n 0 0 _ _ _ = _ :=
    compactObjs_eq (liveOf objs) n 0 (toArr objs none) (toArr idx 0) (toArr tys (-1)) (fun _ _ => rfl)
  have key : ∀ {α : Type} (a : FArr α), (iter (compactStep (liveOf objs) 0 0) n 0 a).get (rank (liveOf objs) i) = a.get i := by
    intro α a
    have := (compactStep_spec (liveOf objs) 0 0 n (Nat.le_refl 0) a).1 i hi li
    rwa [Nat.zero_add, Nat.zero_add] at this
  refine ⟨?_, ?_, ?_⟩
  · show (ofArr (compactObjs n 0 0 _ _ _).1 _).getD _ _ = _
    rw [e, ofArr_getD _ _ _ _ h1]; exact key _
  · show (ofArr (compactObjs n 0 0 _ _ _).2.1 _).getD _ _ = _
    rw [e, ofArr_getD _ _ _ _ h1]; exact key _
  · show (ofArr (compactObjs n 0 0 _ _ _).2.2 _).getD _ _ = _
    rw [e, ofArr_getD _ _ _ _ h1]; exact key _

theorem compactLists_lengths (k : Nat) :
    (compactLists n k objs idx tys vals).1.length = k ∧ (compactLists n k objs idx tys vals).2.1.length = k ∧
    (compactLists n k objs idx tys vals).2.2.1.length = k ∧ (compactLists n k objs idx tys vals).2.2.2.length = k*k := by
  simp [compactLists]

theorem compactLists_objs_mem (x : Option Obj)
    (hx : x ∈ (compactLists n (rank (liveOf objs) n) objs idx tys vals).1) :
    ∃ i, i < n ∧ liveOf objs i = true ∧ x = objs.getD i none := by
  have hlen := (compactLists_lengths n objs idx tys vals (rank (liveOf objs) n)).1
  obtain ⟨p, hp, rfl⟩ := List.getElem_of_mem hx
  rw [hlen] at hp
  obtain ⟨i, hi, li, hr⟩ := rank_surj (liveOf objs) n p hp
  refine ⟨i, hi, li, ?_⟩
  have := (compactLists_objs n objs idx tys vals i hi li).1
  rw [hr] at this
  rw [← this]
  simp [List.getD, List.getElem?_eq_getElem (by rw [hlen]; exact hp)]

end CompactLists

/-- what `hwloc_internal_distances_restrict` leaves behind, also when it is skipped because no object disappeared:
`c` is the compacted arrays, or the arrays themselves when none is NULL -/
theorem compacted_spec (n : Nat) (objs : List (Option Obj)) (idx : List Nat) (tys : List Int) (vals : List Nat)
    (hlen : objs.length = n) (c : List (Option Obj) × List Nat × List Int × List Nat)
    (hc : c = compactLists n (rank (liveOf objs) n) objs idx tys vals ∨ (countNone objs = 0 ∧ c = (objs, idx, tys, vals))) :
    c.1.length = rank (liveOf objs) n ∧
    (∀ i, i < n → liveOf objs i = true → c.1.getD (rank (liveOf objs) i) none = objs.getD i none ∧
      c.2.1.getD (rank (liveOf objs) i) 0 = idx.getD i 0 ∧ c.2.2.1.getD (rank (liveOf objs) i) (-1) = tys.getD i (-1)) ∧
    (∀ i j, i < n → j < n → liveOf objs i = true → liveOf objs j = true →
      c.2.2.2.getD (rank (liveOf objs) i * rank (liveOf objs) n + rank (liveOf objs) j) 0 = vals.getD (i*n + j) 0) ∧
    (∀ x, x ∈ c.1 → ∃ i, i < n ∧ liveOf objs i = true ∧ x = objs.getD i none) := by
  rcases hc with rfl | ⟨h0, rfl⟩
  · exact ⟨(compactLists_lengths n objs idx tys vals _).1, compactLists_objs n objs idx tys vals,
      compactLists_vals n objs idx tys vals, compactLists_objs_mem n objs idx tys vals⟩
  · have hall : ∀ i, i < n → liveOf objs i = true := fun i hi => all_live_of_countNone_zero _ h0 i (hlen ▸ hi)
    have hrk : ∀ i, i ≤ n → rank (liveOf objs) i = i := fun i hi =>
      rank_all_live _ i (fun q hq => hall q (Nat.lt_of_lt_of_le hq hi))
    rw [hrk n (Nat.le_refl n)]
    refine ⟨hlen, fun i hi _ => ?_, fun i j hi hj _ _ => ?_, fun x hx => ?_⟩
    · rw [hrk i (Nat.le_of_lt hi)]; exact ⟨rfl, rfl, rfl⟩
    · rw [hrk i (Nat.le_of_lt hi), hrk j (Nat.le_of_lt hj)]
    · obtain ⟨p, hp, rfl⟩ := List.getElem_of_mem hx
      exact ⟨p, hlen ▸ hp, hall p (hlen ▸ hp), by rw [List.getD, List.getElem?_eq_getElem hp]; rfl⟩

/-! ## refresh -/

theorem refreshOne_valid (T : Topo) (d : Dist) (h : d.valid = true) : refreshOne T d = some d := by
  simp [refreshOne, h]

@[simp] theorem resolveAll_length (T : Topo) (d : Dist) : (resolveAll T d).length = d.n := by
  simp [resolveAll]

theorem resolve_mem (T : Topo) (uniq ty : Int) (ix : Nat) (o : Obj) (h : resolve T uniq ty ix = some o) : o ∈ T := by
  unfold resolve at h
  split at h <;> exact List.mem_of_find?_eq_some h

theorem resolveAll_getD_mem (T : Topo) (d : Dist) (i : Nat) (o : Obj)
    (h : (resolveAll T d).getD i none = some o) : o ∈ T := by
  unfold resolveAll at h
  by_cases hi : i < d.n
  · simp [List.getD, hi] at h
    exact resolve_mem _ _ _ _ _ h
  · simp [List.getD, hi] at h

theorem refreshOne_none_iff (T : Topo) (d : Dist) (hv : d.valid = false) :
    refreshOne T d = none ↔ rank (liveOf (resolveAll T d)) d.n < 2 := by
  have hr := rank_eq_sub_countNone (resolveAll T d) d.n (resolveAll_length T d)
  unfold refreshOne
  simp only [hv, Bool.false_eq_true, if_false]
  by_cases h2 : d.n - countNone (resolveAll T d) < 2
  · simp only [h2, if_true, true_iff]
    rw [← hr] ; exact h2
  · simp only [h2, if_false]
    have : ¬ rank (liveOf (resolveAll T d)) d.n < 2 := by rw [← hr]; exact h2
    split <;> simp [this]

/-- a structure that survives a refresh holds `c`: the arrays of the re-resolved objects, compacted unless every object is still
there; the type array is part of it for a heterogeneous structure -/
theorem refreshOne_some_eq (T : Topo) (d d' : Dist) (hv : d.valid = false) (h : refreshOne T d = some d') :
    2 ≤ rank (liveOf (resolveAll T d)) d.n ∧
    ∃ c tys, (c = compactLists d.n (rank (liveOf (resolveAll T d)) d.n) (resolveAll T d) d.idx d.tys d.vals ∨
        (countNone (resolveAll T d) = 0 ∧ c = (resolveAll T d, d.idx, d.tys, d.vals))) ∧
      d' = { d with n := rank (liveOf (resolveAll T d)) d.n, objs := c.1, idx := c.2.1, tys := tys, vals := c.2.2.2,
                    valid := true } ∧
      (d.hetero = true → tys = c.2.2.1) := by
  have hr := rank_eq_sub_countNone (resolveAll T d) d.n (resolveAll_length T d)
  unfold refreshOne at h
  rw [if_neg (by rw [hv]; exact Bool.false_ne_true)] at h
  simp only [hr] at h
  by_cases h2 : rank (liveOf (resolveAll T d)) d.n < 2
  · rw [if_pos h2] at h; cases h
  · rw [if_neg h2] at h
    refine ⟨Nat.le_of_not_lt h2, ?_⟩
    by_cases h0 : countNone (resolveAll T d) ≠ 0
    · rw [if_pos h0] at h; cases h; exact ⟨_, _, Or.inl rfl, rfl, fun hh => if_pos hh⟩
    · rw [if_neg h0] at h; cases h
      have h0' := Decidable.of_not_not h0
      refine ⟨(resolveAll T d, d.idx, d.tys, d.vals), d.tys, Or.inr ⟨h0', rfl⟩, ?_, fun _ => rfl⟩
      rw [← hr, h0']; rfl

theorem refreshOne_some_spec (T : Topo) (d d' : Dist) (hv : d.valid = false) (h : refreshOne T d = some d') :
    d'.id = d.id ∧ d'.name = d.name ∧ d'.kind = d.kind ∧ d'.uniq = d.uniq ∧ d'.hetero = d.hetero ∧ d'.valid = true ∧
    d'.n = rank (liveOf (resolveAll T d)) d.n ∧ 2 ≤ d'.n ∧ d'.objs.length = d'.n ∧
    (∀ i, i < d.n → liveOf (resolveAll T d) i = true →
       d'.objs.getD (rank (liveOf (resolveAll T d)) i) none = (resolveAll T d).getD i none ∧
       d'.idx.getD (rank (liveOf (resolveAll T d)) i) 0 = d.idx.getD i 0) ∧
    (∀ i j, i < d.n → j < d.n → liveOf (resolveAll T d) i = true → liveOf (resolveAll T d) j = true →
       d'.vals.getD (rank (liveOf (resolveAll T d)) i * d'.n + rank (liveOf (resolveAll T d)) j) 0
         = d.vals.getD (i*d.n + j) 0) ∧
    (∀ x, x ∈ d'.objs → ∃ o, x = some o ∧ o ∈ T) := by
  obtain ⟨h2, c, _, hc, hd', -⟩ := refreshOne_some_eq T d d' hv h
  obtain ⟨k1, k2, k3, k4⟩ := compacted_spec d.n _ d.idx d.tys d.vals (resolveAll_length T d) c hc
  rw [hd']
  refine ⟨rfl, rfl, rfl, rfl, rfl, rfl, rfl, h2, k1, fun i hi li => ⟨(k2 i hi li).1, (k2 i hi li).2.1⟩, k3, fun x hx => ?_⟩
  obtain ⟨i, hi, li, rfl⟩ := k4 x hx
  unfold liveOf at li
  cases hx' : (resolveAll T d).getD i none with
  | none => rw [hx'] at li; cases li
  | some o => exact ⟨o, rfl, resolveAll_getD_mem T d i o hx'⟩

theorem refreshList_append_valid (T : Topo) (ds : List Dist) (d : Dist) (hv : d.valid = true) :
    refreshList T (ds ++ [d]) = refreshList T ds ++ [d] := by
  simp [refreshList, List.filterMap_append, refreshOne_valid T d hv]

theorem refreshOne_fields (T : Topo) (d d' : Dist) (h : refreshOne T d = some d') :
    d'.id = d.id ∧ d'.name = d.name ∧ d'.kind = d.kind ∧ d'.uniq = d.uniq := by
  by_cases hv : d.valid = true
  · rw [refreshOne_valid T d hv] at h
    cases h; exact ⟨rfl, rfl, rfl, rfl⟩
  · have := refreshOne_some_spec T d d' (Bool.eq_false_iff.mpr hv) h
    exact ⟨this.1, this.2.1, this.2.2.1, this.2.2.2.1⟩

theorem refreshList_ids (T : Topo) (ds : List Dist) (d' : Dist) (h : d' ∈ refreshList T ds) :
    ∃ d, d ∈ ds ∧ d'.id = d.id ∧ d'.name = d.name ∧ d'.kind = d.kind ∧ d'.uniq = d.uniq := by
  obtain ⟨d, hd, hr⟩ := List.mem_filterMap.mp h
  exact ⟨d, hd, refreshOne_fields T d d' hr⟩

theorem refreshList_ids_sublist (T : Topo) : ∀ (ds : List Dist),
    ((refreshList T ds).map Dist.id).Sublist (ds.map Dist.id)
  | [] => by simp [refreshList]
  | d :: ds => by
    have ih := refreshList_ids_sublist T ds
    unfold refreshList at *
    rw [List.filterMap_cons]
    cases hr : refreshOne T d with
    | none => simp only [List.map_cons]; exact List.Sublist.cons _ ih
    | some d' =>
      simp only [List.map_cons, (refreshOne_fields T d d' hr).1]
      exact List.Sublist.cons_cons _ ih

/-! ## adding, getting, removing -/

theorem kindOk_table : ∀ k, k < 64 → (kindOk k = true ↔
      (¬(k.testBit 0 = true ∧ k.testBit 1 = true) ∧
       ¬(k.testBit 2 = true ∧ k.testBit 3 = true) ∧ ¬(k.testBit 2 = true ∧ k.testBit 5 = true) ∧
       ¬(k.testBit 3 = true ∧ k.testBit 5 = true))) := by decide +kernel

theorem addValues_einval (h : Dist) (n : Nat) (objs : List (Option Obj)) (vals : List Nat) (flags : Nat)
    (hr : none ∈ objs ∨ h.n ≠ 0 ∨ flags ≠ 0 ∨ n < 2) : addValues h n objs vals flags = .error .EINVAL := by
  unfold addValues
  by_cases h1 : objs.any (fun o => o.isNone) = true
  · exact if_pos h1
  · rw [if_neg h1]
    by_cases h2 : h.n ≠ 0
    · exact if_pos h2
    · rw [if_neg h2]
      rcases hr with hr | hr | hr
      · exact absurd (List.any_eq_true.mpr ⟨none, hr, rfl⟩) h1
      · exact absurd hr h2
      · exact if_pos (by simpa using hr)

theorem uniqueType_map_some (o : Obj) (rest : List Obj) :
    uniqueType ((o :: rest).map some) = if ∀ x ∈ rest, x.ty = o.ty then o.ty else TY_NONE := by
  simp [uniqueType, List.all_eq_true]

theorem addCommit_ok (st : State) (h : Dist) (flags : Nat) (hf : flags &&& ADD_FLAG_ALL = flags) (hn : h.n ≠ 0) :
    addCommit st h flags = .ok { st with dists := st.dists ++ [h] } := by
  simp [addCommit, hf, hn]

theorem addValues_ok (h : Dist) (n : Nat) (os : List Obj) (vals : List Nat)
    (hn : 2 ≤ n) (hlen : os.length = n) (h0 : h.n = 0) :
    addValues h n (os.map some) vals 0 = .ok
      { h with n := n, objs := os.map some, valid := true,
               uniq := uniqueType (os.map some), hetero := uniqueType (os.map some) == TY_NONE,
               idx := (os.map some).map (fun o => match o with
                  | some x => (if useOs (uniqueType (os.map some)) then x.os else x.gp) | none => 0),
               tys := if uniqueType (os.map some) == TY_NONE then
                   (os.map some).map (fun o => match o with | some x => x.ty | none => TY_NONE) else [],
               vals := vals,
               kind := if uniqueType (os.map some) == TY_NONE then h.kind ||| KIND_HETEROGENEOUS else h.kind } := by
  have hc : countNone (os.map some) = 0 := by
    unfold countNone; rw [List.countP_eq_zero]; intro a ha
    obtain ⟨x, _, rfl⟩ := List.mem_map.mp ha; simp
  have hany : (os.map some).any (fun o => o.isNone) = false := by
    rw [List.any_eq_false]; intro a ha
    obtain ⟨x, _, rfl⟩ := List.mem_map.mp ha; simp
  unfold addValues
  simp only [hany, Bool.false_eq_true, if_false, h0, ne_eq, not_true_eq_false, hc]
  have hn' : ¬ n < 2 := by omega
  have hn0 : ¬ (0 == n) = true := by simp; omega
  simp [hn', hn0]
  split <;> rfl

theorem getCore_nr (st : State) (name : Option String) (ty : Int) (kind cap : Nat) :
    (getCore st name ty kind cap).2.1 = ((refreshList st.topo st.dists).filter (matchesFilter name ty kind)).length ∧
    (getCore st name ty kind cap).2.2 =
      (((refreshList st.topo st.dists).filter (matchesFilter name ty kind)).take cap).map Dist.pub := by
  simp [getCore, State.refresh]

theorem getCore_append_valid (st : State) (h2 : Dist) (hv : h2.valid = true)
    (fname : Option String) (fty : Int) (fkind cap : Nat) :
    (getCore { st with dists := st.dists ++ [h2] } fname fty fkind cap).2.1 =
      (getCore st fname fty fkind cap).2.1 + (if matchesFilter fname fty fkind h2 = true then 1 else 0) ∧
    (getCore { st with dists := st.dists ++ [h2] } fname fty fkind cap).2.2 =
      ((((refreshList st.topo st.dists).filter (matchesFilter fname fty fkind)).map Dist.pub) ++
        (if matchesFilter fname fty fkind h2 = true then [h2.pub] else [])).take cap := by
  simp only [getCore, State.refresh]
  rw [refreshList_append_valid _ _ _ hv, List.filter_append]
  by_cases hm : matchesFilter fname fty fkind h2 = true
  · simp [hm, List.map_take]
  · simp [hm, List.map_take]

def freshHandle (id : Nat) (name : Option String) (kind : Nat) : Dist :=
  { id := id, name := name, kind := kind, uniq := TY_NONE, hetero := false, n := 0,
    idx := [], tys := [], objs := [], valid := false, vals := [] }

theorem addCreate_ok (st : State) (name : Option String) (kind : Nat) (hk : kindOk kind = true) :
    addCreate st name kind 0 = .ok ({ st with nextId := st.nextId + 1 }, freshHandle st.nextId name kind) := by
  simp [addCreate, hk, freshHandle]

theorem add_then_get (st : State) (name : Option String) (kind : Nat) (os : List Obj) (vals : List Nat)
    (hk : kindOk kind = true) (hn : 2 ≤ os.length) :
    ∃ st1 h1 h2 st2,
      addCreate st name kind 0 = .ok (st1, h1) ∧
      addValues h1 os.length (os.map some) vals 0 = .ok h2 ∧
      addCommit st1 h2 0 = .ok st2 ∧
      h2.name = name ∧ h2.id = st.nextId ∧ h2.n = os.length ∧ h2.objs = os.map some ∧ h2.vals = vals ∧
      h2.kind = (if uniqueType (os.map some) == TY_NONE then kind ||| KIND_HETEROGENEOUS else kind) ∧
      st2.dists = st.dists ++ [h2] ∧ st2.topo = st.topo ∧
      ∀ (fname : Option String) (fty : Int) (fkind cap : Nat),
        (getCore st2 fname fty fkind cap).2.1 =
          (getCore st fname fty fkind cap).2.1 + (if matchesFilter fname fty fkind h2 = true then 1 else 0) ∧
        (getCore st2 fname fty fkind cap).2.2 =
          ((((refreshList st.topo st.dists).filter (matchesFilter fname fty fkind)).map Dist.pub) ++
            (if matchesFilter fname fty fkind h2 = true then [h2.pub] else [])).take cap := by
  have hc := addCreate_ok st name kind hk
  have hv := addValues_ok (freshHandle st.nextId name kind) os.length os vals hn rfl rfl
  refine ⟨_, _, _, _, hc, hv, addCommit_ok _ _ 0 (by decide) (by show os.length ≠ 0; omega),
    rfl, rfl, rfl, rfl, rfl, rfl, rfl, rfl, ?_⟩
  intro fname fty fkind cap
  exact getCore_append_valid st _ rfl fname fty fkind cap

theorem removeByDepth_ok {st st' : State} {ty : Int} (h : removeByDepth st ty = .ok st') :
    st' = { st with dists := st.dists.filter (fun d => d.uniq != ty) } := by
  unfold removeByDepth at h
  by_cases ht : (ty == -1) = true
  · rw [if_pos ht] at h; cases h
  · rw [if_neg ht] at h; cases h; rfl

theorem fromPublic_some (ds : List Dist) (id : Nat) (d : Dist) (h : fromPublic ds id = some d) : d ∈ ds ∧ d.id = id := by
  unfold fromPublic at h
  have h1 := List.mem_of_find?_eq_some h
  have h2 := List.find?_some h
  exact ⟨h1, by simpa using h2⟩

theorem fromPublic_none (ds : List Dist) (id : Nat) (h : fromPublic ds id = none) : ∀ d, d ∈ ds → d.id ≠ id := by
  unfold fromPublic at h
  intro d hd
  have := List.find?_eq_none.mp h d hd
  simpa using this

theorem eraseP_id_mem (ds : List Dist) (id : Nat) (hnd : (ds.map Dist.id).Nodup) (d : Dist) :
    d ∈ ds.eraseP (fun x => x.id == id) ↔ (d ∈ ds ∧ d.id ≠ id) := by
  by_cases hd : d.id = id
  · refine ⟨fun hm => ?_, fun h => absurd hd h.2⟩
    -- the structure erased is the only one with that id
    obtain ⟨a, l₁, l₂, h1, ha, e, e'⟩ :=
      List.exists_of_eraseP (p := fun x => x.id == id) (List.mem_of_mem_eraseP hm) (beq_iff_eq.2 hd)
    rw [e'] at hm
    rw [e, List.map_append, List.map_cons, List.nodup_append, List.nodup_cons] at hnd
    rcases List.mem_append.1 hm with hm | hm
    · exact absurd (beq_iff_eq.2 hd) (h1 d hm)
    · exact absurd (List.mem_map.2 ⟨d, hm, hd.trans (beq_iff_eq.1 ha).symm⟩) hnd.2.1.1
  · exact (List.mem_eraseP_of_neg (p := fun x : Dist => x.id == id) (fun c => hd (beq_iff_eq.1 c))).trans
      ⟨fun h => ⟨h, hd⟩, fun h => h.1⟩
/-! ## XML transfer -/

/-- the XML import numbers the structures in document order: `renumber` pairs each with its position -/
theorem renumber_eq : ∀ (l : List Dist) (i : Nat), renumber l i =
    (l.zipIdx i).map fun p => { p.1 with id := p.2, valid := false, objs := List.replicate p.1.n none }
  | [], _ => rfl
  | d :: ds, i => by rw [renumber, renumber_eq ds, List.zipIdx_cons]; rfl

theorem renumber_length (l : List Dist) (i : Nat) : (renumber l i).length = l.length := by
  rw [renumber_eq, List.length_map, List.length_zipIdx]

theorem renumber_getElem? (l : List Dist) (i k : Nat) (d : Dist) (h : l[k]? = some d) :
    (renumber l i)[k]? = some { d with id := i + k, valid := false, objs := List.replicate d.n none } := by
  rw [renumber_eq, List.getElem?_map, List.getElem?_zipIdx, h]; rfl

theorem renumber_mem (l : List Dist) (i : Nat) (d' : Dist) (h : d' ∈ renumber l i) :
    ∃ d k, d ∈ l ∧ k < l.length ∧ d' = { d with id := i + k, valid := false, objs := List.replicate d.n none } := by
  rw [renumber_eq, List.mem_map] at h
  obtain ⟨p, hp, rfl⟩ := h
  have h1 := List.le_snd_of_mem_zipIdx hp
  have h2 := List.snd_lt_add_of_mem_zipIdx hp
  exact ⟨p.1, p.2 - i, List.fst_mem_of_mem_zipIdx hp, by omega, by rw [Nat.add_sub_cancel' h1]⟩

theorem renumber_ids (l : List Dist) (i : Nat) : (renumber l i).map Dist.id = List.range' i l.length := by
  rw [renumber_eq, List.map_map]; exact List.zipIdx_map_snd i l

/-! ## LINKS -/

theorem zeroDiag_eq (n : Nat) : ∀ (fuel i : Nat) (a : FArr Nat),
    zeroDiag n fuel i a = iter (fun i a => a.upd (i*n+i) 0) fuel i a :=
  eq_iter (fun _ _ => rfl) (fun _ _ _ => rfl)

theorem zeroDiag_spec (n : Nat) (a : FArr Nat) {x y : Nat} (hy : y < n) :
    (zeroDiag n n 0 a).get (x*n+y) = if x < n ∧ x = y then 0 else a.get (x*n+y) := by
  rw [zeroDiag_eq]
  obtain ⟨s1, s2⟩ := iter_spec (cellAt n) (fun q => q.2 < n) (fun i a => a.upd (i*n+i) 0)
    (fun k q => q.1 = k ∧ q.2 = k) (fun _ _ => False) n
    (fun k a q hk hq hw => by unfold cellAt; rw [get_upd_cell _ _ hq hk, if_neg hw])
    (fun k a b q hk hq hw _ => by unfold cellAt; rw [get_upd_cell _ _ hq hk, get_upd_cell _ _ hq hk, if_pos hw, if_pos hw])
    (fun _ _ _ _ _ _ _ => id)
    (fun k k' q hk _ _ hw hw' => by have := hw.1; have := hw'.1; omega)
    n 0 a (Nat.zero_add n)
  by_cases c : x < n ∧ x = y
  · rw [if_pos c]
    exact (s1 x (x, y) (Nat.zero_le x) c.1 hy ⟨rfl, c.2.symm⟩).trans (by unfold cellAt; rw [get_upd_cell _ _ hy c.1, if_pos ⟨rfl, c.2.symm⟩])
  · rw [if_neg c]
    exact s2 (x, y) hy (fun k _ h2 ⟨e1, e2⟩ => by subst e1; exact c ⟨h2, e2.symm⟩)

def minPosStep (d v : Nat) : Nat := if v ≠ 0 && (d == 0 || v < d) then v else d

def minPosFrom (vs : List Nat) (d : Nat) : Nat := vs.foldl minPosStep d

theorem minPosFrom_cons (v : Nat) (vs : List Nat) (d : Nat) : minPosFrom (v :: vs) d = minPosFrom vs (minPosStep d v) := rfl

theorem minPosStep_spec (d v : Nat) :
    (minPosStep d v = d ∨ minPosStep d v = v) ∧ (d ≠ 0 → minPosStep d v ≠ 0 ∧ minPosStep d v ≤ d) ∧
    (v ≠ 0 → minPosStep d v ≠ 0 ∧ minPosStep d v ≤ v) := by
  unfold minPosStep
  by_cases hc : (v ≠ 0 && (d == 0 || v < d)) = true
  · have hc' : v ≠ 0 ∧ (d = 0 ∨ v < d) := by simpa using hc
    rw [if_pos hc]
    exact ⟨Or.inr rfl, fun hd => ⟨hc'.1, Nat.le_of_lt (hc'.2.resolve_left hd)⟩, fun hv => ⟨hv, Nat.le_refl v⟩⟩
  · have hc' : v ≠ 0 → d ≠ 0 ∧ d ≤ v := fun hv =>
      ⟨fun hd => hc (by simp [hv, hd]), Nat.le_of_not_lt fun hlt => hc (by simp [hv, hlt])⟩
    rw [if_neg hc]
    exact ⟨Or.inl rfl, fun hd => ⟨hd, Nat.le_refl d⟩, hc'⟩

theorem minPosFrom_spec : ∀ (vs : List Nat) (d : Nat),
    (minPosFrom vs d = d ∨ minPosFrom vs d ∈ vs) ∧ (d ≠ 0 → minPosFrom vs d ≠ 0 ∧ minPosFrom vs d ≤ d) ∧
    (∀ v, v ∈ vs → v ≠ 0 → minPosFrom vs d ≠ 0 ∧ minPosFrom vs d ≤ v)
  | [], d => ⟨Or.inl rfl, fun hd => ⟨hd, Nat.le_refl d⟩, fun _ hv => nomatch hv⟩
  | v :: vs, d => by
    rw [minPosFrom_cons]
    obtain ⟨s1, s2, s3⟩ := minPosStep_spec d v
    generalize minPosStep d v = d' at s1 s2 s3 ⊢
    obtain ⟨h1, h2, h3⟩ := minPosFrom_spec vs d'
    have hle : ∀ w, d' ≠ 0 ∧ d' ≤ w → minPosFrom vs d' ≠ 0 ∧ minPosFrom vs d' ≤ w := fun w hw =>
      ⟨(h2 hw.1).1, Nat.le_trans (h2 hw.1).2 hw.2⟩
    refine ⟨?_, fun hd => hle d (s2 hd), fun w hw hw0 => ?_⟩
    · rcases h1 with h | h
      · exact s1.elim (fun e => Or.inl (h.trans e)) (fun e => Or.inr (by rw [h, e]; exact List.mem_cons_self))
      · exact Or.inr (List.mem_cons_of_mem _ h)
    · rcases List.mem_cons.mp hw with e | e
      · exact hle w (e ▸ s3 (e ▸ hw0))
      · exact h3 w e hw0

/-! ## TRANSITIVE_CLOSURE -/

theorem sumSw_congr2 (sw sw' : Nat → Bool) (cell : Nat → Nat) (a b : FArr Nat) :
    ∀ (fuel k acc : Nat),
      (∀ k', k ≤ k' → k' < k + fuel → sw k' = sw' k' ∧ (sw k' = true → a.get (cell k') = b.get (cell k'))) →
      sumSw sw cell a fuel k acc = sumSw sw' cell b fuel k acc := by
  intro fuel
  induction fuel with
  | zero => intro k acc _; rfl
  | succ f ih =>
    intro k acc h
    unfold sumSw
    obtain ⟨h1, h2⟩ := h k (Nat.le_refl _) (by omega)
    rw [← h1]
    by_cases hs : sw k = true
    · simp only [hs, if_true]
      rw [h2 hs]
      exact ih (k+1) _ (fun k' h1 h2 => h k' (by omega) (by omega))
    · simp only [hs]
      exact ih (k+1) _ (fun k' h1 h2 => h k' (by omega) (by omega))

theorem sumSw_congr (sw : Nat → Bool) (cell : Nat → Nat) (a b : FArr Nat) (fuel k acc : Nat)
    (h : ∀ k', k ≤ k' → k' < k + fuel → sw k' = true → a.get (cell k') = b.get (cell k')) :
    sumSw sw cell a fuel k acc = sumSw sw cell b fuel k acc :=
  sumSw_congr2 sw sw cell a b fuel k acc (fun k' h1 h2 => ⟨rfl, h k' h1 h2⟩)

theorem sumSw_succ (sw : Nat → Bool) (cell : Nat → Nat) (a : FArr Nat) : ∀ (f k acc : Nat),
    sumSw sw cell a (f+1) k acc =
      if sw (k+f) then add64 (sumSw sw cell a f k acc) (a.get (cell (k+f))) else sumSw sw cell a f k acc
  | 0, _, _ => rfl
  | f+1, k, acc => by
    rw [show sumSw sw cell a (f+1+1) k acc = sumSw sw cell a (f+1) (k+1) (if sw k then add64 acc (a.get (cell k)) else acc) from rfl,
      sumSw_succ sw cell a f (k+1), show k + 1 + f = k + (f+1) by omega]
    rfl

/-- bandwidth from the switch ports to `j` (column sum over port rows) -/
def colSum (n : Nat) (sw : Nat → Bool) (a : FArr Nat) (j : Nat) : Nat := sumSw sw (fun k => k*n+j) a n 0 0
/-- bandwidth from `i` to the switch ports (row sum over port columns) -/
def rowSum (n : Nat) (sw : Nat → Bool) (a : FArr Nat) (i : Nat) : Nat := sumSw sw (fun k => i*n+k) a n 0 0

/-- the switch test used by the closure on a caller's structure -/
def swOf (p : Pub) : Nat → Bool := fun i => isSw ((toArr p.objs none).get i)

def closureStep (n : Nat) (sw : Nat → Bool) (i bwI j : Nat) (a : FArr Nat) : FArr Nat :=
  if i == j || sw j then a
  else a.upd (i*n+j) (add64 (a.get (i*n+j)) (if bwI > colSum n sw a j then colSum n sw a j else bwI))

theorem closureJ_eq (n : Nat) (sw : Nat → Bool) (i bwI : Nat) : ∀ (fuel j : Nat) (a : FArr Nat),
    closureJ n sw i bwI fuel j a = iter (closureStep n sw i bwI) fuel j a :=
  eq_iter (fun _ _ => rfl) fun f j a => by rw [closureJ]; unfold closureStep; split <;> rfl

/-- pass `j` writes cell `(i, j)` and reads, besides it, the port rows of column `j`: no other pass writes in column `j` -/
theorem closureJ_spec (n : Nat) (sw : Nat → Bool) (i bwI : Nat) (a : FArr Nat) :
    (∀ x y, y < n → ¬ (x = i ∧ y ≠ i ∧ sw y = false) → (closureJ n sw i bwI n 0 a).get (x*n+y) = a.get (x*n+y)) ∧
    (∀ j, j < n → j ≠ i → sw j = false →
      (closureJ n sw i bwI n 0 a).get (i*n+j) =
        add64 (a.get (i*n+j)) (if bwI > colSum n sw a j then colSum n sw a j else bwI)) := by
  rw [closureJ_eq]
  have hg : ∀ k, (i == k || sw k) = false ↔ k ≠ i ∧ sw k = false := fun k => by
    rw [Bool.or_eq_false_iff, beq_eq_false_iff_ne, ne_comm]
  -- the cells of pass `k` are named by the loop's own test, so that a pass is followed without translating it
  obtain ⟨s1, s2⟩ := iter_spec (cellAt n) (fun q => q.2 < n) (closureStep n sw i bwI)
    (fun k q => (i == k || sw k) = false ∧ q.1 = i ∧ q.2 = k) (fun k q => q.2 = k ∧ (q.1 = i ∨ sw q.1 = true)) n
    (fun k a q hk hq hw => by
      unfold closureStep cellAt
      cases hc : (i == k || sw k)
      · rw [if_neg Bool.false_ne_true, get_upd_cell _ _ hq hk, if_neg (fun e => hw ⟨hc, e⟩)]
      · rfl)
    (fun k a b q hk hq hw hab => by
      have e : colSum n sw a k = colSum n sw b k :=
        sumSw_congr sw _ a b n 0 0 (fun k' _ _ hs => hab (k', k) hk ⟨rfl, Or.inr hs⟩)
      unfold closureStep cellAt
      rw [hw.1, hw.2.1, hw.2.2, if_neg Bool.false_ne_true, if_neg Bool.false_ne_true, FArr.get_upd, FArr.get_upd, if_pos rfl,
        if_pos rfl, e]
      exact congrArg (add64 · _) (hab (i, k) hk ⟨rfl, Or.inl rfl⟩))
    (fun k k' q hk _ _ hw hd => Nat.ne_of_lt hk (hw.2.2.symm.trans hd.1))
    (fun k k' q hk _ _ hw hw' => Nat.ne_of_lt hk (hw.2.2.symm.trans hw'.2.2))
    n 0 a (Nat.zero_add n)
  refine ⟨fun x y hy hn => s2 (x, y) hy (fun k _ _ ⟨hc, e1, e2⟩ => by subst e2; exact hn ⟨e1, (hg y).1 hc⟩),
    fun j h2 h3 h4 => ?_⟩
  have hw := (hg j).2 ⟨h3, h4⟩
  exact (s1 j (i, j) (Nat.zero_le j) h2 h2 ⟨hw, rfl, rfl⟩).trans (by
    unfold closureStep cellAt; rw [hw, if_neg Bool.false_ne_true, FArr.get_upd, if_pos rfl])

def closureRow (n : Nat) (sw : Nat → Bool) (i : Nat) (a : FArr Nat) : FArr Nat :=
  if sw i then a else closureJ n sw i (rowSum n sw a i) n 0 a

theorem closureI_eq (n : Nat) (sw : Nat → Bool) : ∀ (fuel i : Nat) (a : FArr Nat),
    closureI n sw fuel i a = iter (closureRow n sw) fuel i a :=
  eq_iter (fun _ _ => rfl) fun f i a => by rw [closureI]; unfold closureRow; split <;> rfl

/-- pass `i` writes the cells of row `i` between non-ports and reads row `i` and the port rows: no pass writes in a port row -/
theorem closureI_spec (n : Nat) (sw : Nat → Bool) (a : FArr Nat) :
    (∀ x y, y < n → ¬ (x < n ∧ sw x = false ∧ y ≠ x ∧ sw y = false) → (closureI n sw n 0 a).get (x*n+y) = a.get (x*n+y)) ∧
    (∀ i j, i < n → sw i = false → j < n → j ≠ i → sw j = false →
      (closureI n sw n 0 a).get (i*n+j) =
        add64 (a.get (i*n+j)) (if rowSum n sw a i > colSum n sw a j then colSum n sw a j else rowSum n sw a i)) := by
  rw [closureI_eq]
  have hrow : ∀ k a, sw k = false → closureRow n sw k a = closureJ n sw k (rowSum n sw a k) n 0 a := fun k a hs => by
    unfold closureRow; rw [if_neg (by rw [hs]; exact Bool.false_ne_true)]
  obtain ⟨s1, s2⟩ := iter_spec (cellAt n) (fun q => q.2 < n) (closureRow n sw)
    (fun k q => q.1 = k ∧ sw k = false ∧ q.2 ≠ k ∧ sw q.2 = false) (fun k q => q.1 = k ∨ sw q.1 = true) n
    (fun k a q hk hq hw => by
      by_cases hs : sw k = false
      · rw [hrow k a hs]
        exact (closureJ_spec n sw k _ a).1 q.1 q.2 hq (fun e => hw ⟨e.1, hs, e.2⟩)
      · unfold closureRow; rw [if_pos (by simpa using hs)])
    (fun k a b q hk hq hw hab => by
      obtain ⟨q1, q2⟩ := q
      obtain ⟨rfl, hs, h1, h2⟩ := hw
      have er : rowSum n sw a q1 = rowSum n sw b q1 :=
        sumSw_congr sw _ a b n 0 0 (fun k' _ hk' _ => hab (q1, k') (Nat.zero_add n ▸ hk') (Or.inl rfl))
      have ec : colSum n sw a q2 = colSum n sw b q2 :=
        sumSw_congr sw _ a b n 0 0 (fun k' _ _ hsk => hab (k', q2) hq (Or.inr hsk))
      unfold cellAt
      rw [hrow q1 a hs, hrow q1 b hs, (closureJ_spec n sw q1 _ a).2 q2 hq h1 h2, (closureJ_spec n sw q1 _ b).2 q2 hq h1 h2, er, ec]
      exact congrArg (add64 · _) (hab (q1, q2) hq (Or.inl rfl)))
    (fun k k' q hk _ _ hw hd => hd.elim (fun e => Nat.ne_of_lt hk (hw.1.symm.trans e)) (fun e => by rw [hw.1, hw.2.1] at e; cases e))
    (fun k k' q hk _ _ hw hw' => Nat.ne_of_lt hk (hw.1.symm.trans hw'.1))
    n 0 a (Nat.zero_add n)
  refine ⟨fun x y hy hn => s2 (x, y) hy (fun k _ h2 ⟨e, h3, h4, h5⟩ => by subst e; exact hn ⟨h2, h3, h4, h5⟩),
    fun i j h2 h3 h4 h5 h6 => ?_⟩
  exact (s1 i (i, j) (Nat.zero_le i) h2 h4 ⟨rfl, h3, h5, h6⟩).trans (by
    unfold cellAt; rw [hrow i a h3]; exact (closureJ_spec n sw i _ a).2 j h4 h5 h6)

/-! ## MERGE_SWITCH_PORTS -/

theorem firstSw_spec (objs : List (Option Obj)) (i : Nat) (h : firstSw objs = some i) :
    i < objs.length ∧ isSw (objs.getD i none) = true ∧ ∀ q, q < i → isSw (objs.getD q none) = false := by
  unfold firstSw at h
  simp only at h
  split at h
  · rename_i hl
    cases h
    refine ⟨hl, ?_, ?_⟩
    · have := List.findIdx_getElem (w := hl)
      simpa [List.getD, List.getElem?_eq_getElem hl] using this
    · intro q hq
      have hql : q < objs.length := by omega
      have := List.not_of_lt_findIdx hq
      simpa [List.getD, List.getElem?_eq_getElem hql] using this
  · cases h

/-- one pass of the `k` loop that merges port `j` into port `i` -/
def mergeStep (n i j k : Nat) (a : FArr Nat) : FArr Nat :=
  if k == i || k == j then a
  else
    let a1 := a.upd (k*n+i) (add64 (a.get (k*n+i)) (a.get (k*n+j)))
    let a2 := a1.upd (k*n+j) 0
    let a3 := a2.upd (i*n+k) (add64 (a2.get (i*n+k)) (a2.get (j*n+k)))
    a3.upd (j*n+k) 0

theorem mergeK_eq (n i j : Nat) : ∀ (fuel k : Nat) (a : FArr Nat), mergeK n i j fuel k a = iter (mergeStep n i j) fuel k a :=
  eq_iter (fun _ _ => rfl) fun f k a => by rw [mergeK]; unfold mergeStep; split <;> rfl

/-- one pass, cell by cell (the four assignments, last one first) -/
theorem mergeStep_cell {n i j k : Nat} (hi : i < n) (hj : j < n) (hk : k < n) (hki : k ≠ i) (hkj : k ≠ j)
    (a : FArr Nat) {x y : Nat} (hy : y < n) :
    (mergeStep n i j k a).get (x*n+y) =
      if x = j ∧ y = k then 0 else if x = i ∧ y = k then add64 (a.get (i*n+k)) (a.get (j*n+k))
      else if x = k ∧ y = j then 0 else if x = k ∧ y = i then add64 (a.get (k*n+i)) (a.get (k*n+j)) else a.get (x*n+y) := by
  have hs : (k == i || k == j) = false := by simp [hki, hkj]
  unfold mergeStep
  rw [hs]
  simp only [Bool.false_eq_true, if_false, get_upd_cell _ _ hy hk, get_upd_cell _ _ hy hj, get_upd_cell _ _ hy hi,
    get_upd_cell _ _ hk hj, get_upd_cell _ _ hk hi, Ne.symm hki, Ne.symm hkj, false_and, if_false]

/-- the cells of pass `k`: row and column `k` inside the rows and columns of the two ports -/
def mergeCells (i j k : Nat) (q : Nat × Nat) : Prop :=
  k ≠ i ∧ k ≠ j ∧ ((q.1 = k ∧ (q.2 = i ∨ q.2 = j)) ∨ (q.2 = k ∧ (q.1 = i ∨ q.1 = j)))

theorem mergeCells_disjoint {i j k k' : Nat} {q : Nat × Nat} (hk : k ≠ k') (h : mergeCells i j k q)
    (h' : mergeCells i j k' q) : False := by
  obtain ⟨h1, h2, h3⟩ := h
  obtain ⟨h1', h2', h3'⟩ := h'
  rcases h3 with ⟨e, _⟩ | ⟨e, c⟩ <;> rcases h3' with ⟨e', _⟩ | ⟨e', c'⟩
  · exact hk (e.symm.trans e')
  · exact c'.elim (fun c => h1 (e.symm.trans c)) (fun c => h2 (e.symm.trans c))
  · exact c.elim (fun c => h1' (e'.symm.trans c)) (fun c => h2' (e'.symm.trans c))
  · exact hk (e.symm.trans e')

/-- what the `k` loop of one merge does to the row and the column of the kept port, and what it leaves alone: a pass reads and
writes its own four cells only -/
theorem mergeK_spec (n i j : Nat) (hij : i ≠ j) (hi : i < n) (hj : j < n) (a : FArr Nat) :
    (∀ k, k < n → k ≠ i → k ≠ j →
      (mergeK n i j n 0 a).get (k*n+i) = add64 (a.get (k*n+i)) (a.get (k*n+j)) ∧
      (mergeK n i j n 0 a).get (i*n+k) = add64 (a.get (i*n+k)) (a.get (j*n+k))) ∧
    (∀ x y, y < n → (∀ k, k < n → ¬ mergeCells i j k (x, y)) → (mergeK n i j n 0 a).get (x*n+y) = a.get (x*n+y)) := by
  rw [mergeK_eq]
  obtain ⟨s1, s2⟩ := iter_spec (cellAt n) (fun q => q.2 < n) (mergeStep n i j) (mergeCells i j) (mergeCells i j) n
    (fun k a q hk hq hw => by
      by_cases hc : k = i ∨ k = j
      · unfold mergeStep; rw [if_pos (by simpa using hc)]
      · have hki : k ≠ i := fun e => hc (Or.inl e)
        have hkj : k ≠ j := fun e => hc (Or.inr e)
        unfold cellAt
        rw [mergeStep_cell hi hj hk hki hkj a hq, if_neg (fun e => hw ⟨hki, hkj, Or.inr ⟨e.2, Or.inr e.1⟩⟩),
          if_neg (fun e => hw ⟨hki, hkj, Or.inr ⟨e.2, Or.inl e.1⟩⟩), if_neg (fun e => hw ⟨hki, hkj, Or.inl ⟨e.1, Or.inr e.2⟩⟩),
          if_neg (fun e => hw ⟨hki, hkj, Or.inl ⟨e.1, Or.inl e.2⟩⟩)])
    (fun k a b q hk hq hw hab => by
      have hq' := hab q hq hw
      obtain ⟨hki, hkj, _⟩ := hw
      have e := fun x y hy hd => hab (x, y) hy ⟨hki, hkj, hd⟩
      unfold cellAt at *
      rw [mergeStep_cell hi hj hk hki hkj a hq, mergeStep_cell hi hj hk hki hkj b hq,
        e i k hk (Or.inr ⟨rfl, Or.inl rfl⟩), e j k hk (Or.inr ⟨rfl, Or.inr rfl⟩), e k i hi (Or.inl ⟨rfl, Or.inl rfl⟩),
        e k j hj (Or.inl ⟨rfl, Or.inr rfl⟩), hq'])
    (fun k k' q hk _ _ hw hd => mergeCells_disjoint (Nat.ne_of_lt hk) hw hd)
    (fun k k' q hk _ _ hw hd => mergeCells_disjoint (Nat.ne_of_lt hk) hw hd)
    n 0 a (Nat.zero_add n)
  refine ⟨fun k h2 hki hkj => ⟨?_, ?_⟩, fun x y hy hp => s2 (x, y) hy (fun k _ => hp k)⟩
  · exact (s1 k (k, i) (Nat.zero_le k) h2 hi ⟨hki, hkj, Or.inl ⟨rfl, Or.inl rfl⟩⟩).trans (by
      unfold cellAt; rw [mergeStep_cell hi hj h2 hki hkj a hi]; simp [hki, hkj, hij])
  · exact (s1 k (i, k) (Nat.zero_le k) h2 h2 ⟨hki, hkj, Or.inr ⟨rfl, Or.inl rfl⟩⟩).trans (by
      unfold cellAt; rw [mergeStep_cell hi hj h2 hki hkj a h2]; simp [hij])

def mergePort (n i j : Nat) (s : FArr (Option Obj) × FArr Nat) : FArr (Option Obj) × FArr Nat :=
  if isSw (s.1.get j) then
    let b := mergeK n i j n 0 s.2
    let b1 := b.upd (i*n+i) (add64 (b.get (i*n+i)) (b.get (j*n+j)))
    (s.1.upd j none, b1.upd (j*n+j) 0)
  else s

theorem mergeJ_eq (n i : Nat) (fuel j : Nat) (o : FArr (Option Obj)) (a : FArr Nat) :
    mergeJ n i fuel j o a = iter (mergePort n i) fuel j (o, a) :=
  eq_iter (F := fun f j s => mergeJ n i f j s.1 s.2) (fun _ _ => rfl)
    (fun f j s => by show mergeJ n i (f+1) j s.1 s.2 = _; rw [mergeJ]; unfold mergePort; split <;> rfl) fuel j (o, a)

/-- the ports merged and dropped when the loop reaches `j` -/
def gone (o : FArr (Option Obj)) (i j q : Nat) : Prop := i < q ∧ q < j ∧ isSw (o.get q) = true

instance (o : FArr (Option Obj)) (i j q : Nat) : Decidable (gone o i j q) := by unfold gone; infer_instance

/-- the state of the port loop when it reaches `j`, in terms of the arrays `o`, `a` it started with: the ports before `j` are
dropped, the cells between the other objects are as they were, the row and the column of the kept port `i` hold the sums so far -/
structure MergeInv (n i : Nat) (o : FArr (Option Obj)) (a : FArr Nat) (j : Nat) (s : FArr (Option Obj) × FArr Nat) : Prop where
  objs : ∀ q, s.1.get q = if gone o i j q then none else o.get q
  rest : ∀ x y, x < n → y < n → x ≠ i → y ≠ i → ¬ gone o i j x → ¬ gone o i j y → s.2.get (x*n+y) = a.get (x*n+y)
  sums : ∀ k, k < n → k ≠ i → ¬ gone o i j k →
    s.2.get (k*n+i) = sumSw (fun q => isSw (o.get q)) (fun q => k*n+q) a (j - (i+1)) (i+1) (a.get (k*n+i)) ∧
    s.2.get (i*n+k) = sumSw (fun q => isSw (o.get q)) (fun q => q*n+k) a (j - (i+1)) (i+1) (a.get (i*n+k))

theorem mergePort_inv (n i : Nat) (hin : i < n) (o : FArr (Option Obj)) (a : FArr Nat) (j : Nat) (hij : i < j) (hjn : j < n)
    (s : FArr (Option Obj) × FArr Nat) (h : MergeInv n i o a j s) : MergeInv n i o a (j+1) (mergePort n i j s) := by
  have hoj : s.1.get j = o.get j := by rw [h.objs j, if_neg (fun c => Nat.lt_irrefl j c.2.1)]
  have hfu : j + 1 - (i + 1) = (j - (i+1)) + 1 := Nat.succ_sub hij
  have hij' : i + 1 + (j - (i+1)) = j := Nat.add_sub_cancel' hij
  have hmono : ∀ q, ¬ gone o i (j+1) q → ¬ gone o i j q := fun q hq c => hq ⟨c.1, Nat.lt_succ_of_lt c.2.1, c.2.2⟩
  have hobjs : ∀ q, q ≠ j ∨ isSw (o.get j) = false → s.1.get q = if gone o i (j+1) q then none else o.get q := by
    intro q hq
    rw [h.objs q]
    by_cases c : gone o i j q
    · rw [if_pos c, if_pos ⟨c.1, Nat.lt_succ_of_lt c.2.1, c.2.2⟩]
    · rw [if_neg c, if_neg (fun c' => c ⟨c'.1, Nat.lt_of_le_of_ne (Nat.le_of_lt_succ c'.2.1)
        (fun e => hq.elim (fun hq => hq e) (fun hq => by have := c'.2.2; rw [e, hq] at this; cases this)), c'.2.2⟩)]
  unfold mergePort
  rw [hoj]
  by_cases hs : isSw (o.get j) = true
  · rw [if_pos hs]
    have hnj : ∀ q, ¬ gone o i (j+1) q → q ≠ j := fun q hq e => hq ⟨e ▸ hij, e ▸ Nat.lt_succ_self j, e ▸ hs⟩
    obtain ⟨m1, m2⟩ := mergeK_spec n i j (Nat.ne_of_lt hij) hin hjn s.2
    generalize mergeK n i j n 0 s.2 = b at m1 m2 ⊢
    have hb : ∀ x y, x < n → y < n → x ≠ i → y ≠ i → x ≠ j → y ≠ j →
        ((b.upd (i*n+i) (add64 (b.get (i*n+i)) (b.get (j*n+j)))).upd (j*n+j) 0).get (x*n+y) = s.2.get (x*n+y) := by
      intro x y hx hy hxi hyi hxj hyj
      rw [get_upd_cell _ _ hy hjn, if_neg (fun e => hxj e.1), get_upd_cell _ _ hy hin, if_neg (fun e => hxi e.1)]
      exact m2 x y hy (fun k _ c => c.2.2.elim (fun c => c.2.elim hyi hyj) (fun c => c.2.elim hxi hxj))
    refine ⟨fun q => ?_, fun x y hx hy hxi hyi hgx hgy => ?_, fun k hk hki hgk => ?_⟩
    · rw [FArr.get_upd]
      by_cases hq : q = j
      · rw [if_pos hq, if_pos (show gone o i (j+1) q from ⟨hq ▸ hij, hq ▸ Nat.lt_succ_self j, hq ▸ hs⟩)]
      · rw [if_neg hq]; exact hobjs q (Or.inl hq)
    · rw [hb x y hx hy hxi hyi (hnj x hgx) (hnj y hgy)]
      exact h.rest x y hx hy hxi hyi (hmono x hgx) (hmono y hgy)
    · have hkj := hnj k hgk
      obtain ⟨e1, e2⟩ := m1 k hk hki hkj
      obtain ⟨c1, c2⟩ := h.sums k hk hki (hmono k hgk)
      have hjj : ¬ gone o i j j := fun c => Nat.lt_irrefl j c.2.1
      rw [hfu, sumSw_succ, sumSw_succ, hij', if_pos hs, if_pos hs, ← c1, ← c2,
        ← h.rest k j hk hjn hki (Nat.ne_of_gt hij) (hmono k hgk) hjj, ← h.rest j k hjn hk (Nat.ne_of_gt hij) hki hjj (hmono k hgk),
        ← e1, ← e2, get_upd_cell _ _ hin hjn, if_neg (fun e => hkj e.1), get_upd_cell _ _ hin hin, if_neg (fun e => hki e.1),
        get_upd_cell _ _ hk hjn, if_neg (fun e => hkj e.2), get_upd_cell _ _ hk hin, if_neg (fun e => hki e.2)]
      exact ⟨rfl, rfl⟩
  · rw [if_neg hs]
    refine ⟨fun q => hobjs q (Or.inr (Bool.eq_false_iff.mpr hs)), fun x y hx hy hxi hyi hgx hgy => h.rest x y hx hy hxi hyi (hmono x hgx) (hmono y hgy),
      fun k hk hki hgk => ?_⟩
    rw [hfu, sumSw_succ, sumSw_succ, hij', if_neg hs, if_neg hs]
    exact h.sums k hk hki (hmono k hgk)

/-- what the port loop of MERGE_SWITCH_PORTS, started behind the first port `i`, hands to REMOVE_NULL -/
theorem mergeJ_inv (n i : Nat) (hin : i < n) (o : FArr (Option Obj)) (a : FArr Nat) :
    MergeInv n i o a n (mergeJ n i (n - (i+1)) (i+1) o a) := by
  rw [mergeJ_eq]
  have hn : i + 1 + (n - (i+1)) = n := Nat.add_sub_cancel' hin
  have h := iter_inv (mergePort n i) (MergeInv n i o a) (n - (i+1)) (i+1) (o, a)
    ⟨fun q => by rw [if_neg (fun c => Nat.lt_irrefl _ (Nat.lt_of_lt_of_le c.2.1 c.1))], fun _ _ _ _ _ _ _ _ => rfl,
      fun k _ _ _ => by rw [Nat.sub_self]; exact ⟨rfl, rfl⟩⟩
    (fun j s h1 h2 h => mergePort_inv n i hin o a j h1 (hn ▸ h2) s h)
  rwa [hn] at h

/-- the objects MERGE_SWITCH_PORTS keeps: non-NULL and not a port listed after the first port `i` -/
def keepOf (p : Pub) (i : Nat) : Nat → Bool :=
  fun q => liveOf p.objs q && !(decide (i < q) && isSw (p.objs.getD q none))

theorem keepOf_first {p : Pub} {i : Nat} (hf : firstSw p.objs = some i) : keepOf p i i = true := by
  have hsi := (firstSw_spec p.objs i hf).2.1
  unfold keepOf liveOf
  cases hx : p.objs.getD i none with
  | none => rw [hx] at hsi; cases hsi
  | some _ => rw [decide_eq_false (Nat.lt_irrefl i)]; rfl

/-- the structure MERGE_SWITCH_PORTS hands to REMOVE_NULL when `i` is the first port -/
def merged (p : Pub) (i : Nat) : Pub :=
  { p with objs := ofArr (mergeJ p.n i (p.n - (i+1)) (i+1) (toArr p.objs none) (toArr p.vals 0)).1 p.n,
           vals := ofArr (mergeJ p.n i (p.n - (i+1)) (i+1) (toArr p.objs none) (toArr p.vals 0)).2 (p.n * p.n) }

theorem trMerge_first {p : Pub} {i : Nat} (hf : firstSw p.objs = some i) : trMerge p = trRemoveNull (merged p i) := by
  unfold trMerge; rw [hf]; rfl

/-- `MergeInv` at the end of the loop, read off the lists: the non-NULL objects left are those of `keepOf`, unchanged; so are the
values between them outside the row and the column of the kept port `i`, which hold the sums over the ports -/
theorem merged_spec (p : Pub) (i : Nat) (hlen : p.objs.length = p.n) (hin : i < p.n) :
    liveOf (merged p i).objs = keepOf p i ∧
    (∀ x, x < p.n → keepOf p i x = true → (merged p i).objs.getD x none = p.objs.getD x none) ∧
    (∀ x y, x < p.n → y < p.n → keepOf p i x = true → keepOf p i y = true → x ≠ i → y ≠ i →
      (merged p i).vals.getD (x*p.n + y) 0 = p.vals.getD (x*p.n + y) 0) ∧
    (∀ k, k < p.n → keepOf p i k = true → k ≠ i →
      (merged p i).vals.getD (k*p.n + i) 0 =
        sumSw (swOf p) (fun q => k*p.n+q) (toArr p.vals 0) (p.n - (i+1)) (i+1) (p.vals.getD (k*p.n+i) 0) ∧
      (merged p i).vals.getD (i*p.n + k) 0 =
        sumSw (swOf p) (fun q => q*p.n+k) (toArr p.vals 0) (p.n - (i+1)) (i+1) (p.vals.getD (i*p.n+k) 0)) := by
  have mS := mergeJ_inv p.n i hin (toArr p.objs none) (toArr p.vals 0)
  unfold merged
  generalize mergeJ p.n i (p.n - (i+1)) (i+1) (toArr p.objs none) (toArr p.vals 0) = m at mS ⊢
  obtain ⟨mO, mF, mC⟩ := mS
  have hnot : ∀ x, keepOf p i x = true → ¬ gone (toArr p.objs none) i p.n x := by
    intro x hx ⟨h1, _, h2⟩
    unfold keepOf at hx
    rw [decide_eq_true h1, show isSw (p.objs.getD x none) = true from h2, Bool.and_self, Bool.not_true, Bool.and_false] at hx
    cases hx
  have hcell : ∀ x y, x < p.n → y < p.n → (ofArr m.2 (p.n * p.n)).getD (x*p.n+y) 0 = m.2.get (x*p.n+y) :=
    fun x y hx hy => ofArr_getD _ _ _ _ (mul_add_lt_mul hx hy)
  refine ⟨funext fun q => ?_, fun x hx kx => ?_, fun x y hx hy kx ky hxi hyi => ?_, fun k hk kk hki => ?_⟩
  · show liveOf (ofArr m.1 p.n) q = _
    unfold keepOf liveOf
    by_cases hq : q < p.n
    · rw [ofArr_getD _ _ _ _ hq, mO q]
      by_cases hc : gone (toArr p.objs none) i p.n q
      · rw [if_pos hc, decide_eq_true hc.1, show isSw (p.objs.getD q none) = true from hc.2.2]
        exact (Bool.and_false _).symm
      · rw [if_neg hc, show (decide (i < q) && isSw (p.objs.getD q none)) = false from
          Bool.eq_false_iff.2 fun hb => hc ⟨of_decide_eq_true (Bool.and_eq_true _ _ ▸ hb).1, hq, (Bool.and_eq_true _ _ ▸ hb).2⟩]
        exact (Bool.and_true _).symm
    -- past the end both lists read `none`
    · have hq := Nat.le_of_not_lt hq
      rw [List.getD_eq_getElem?_getD, List.getD_eq_getElem?_getD, List.getElem?_eq_none (by rw [ofArr_length]; exact hq),
        List.getElem?_eq_none (by rw [hlen]; exact hq)]; rfl
  · show (ofArr m.1 p.n).getD x none = _
    rw [ofArr_getD _ _ _ _ hx, mO x, if_neg (hnot x kx)]; rfl
  · show (ofArr m.2 (p.n * p.n)).getD _ 0 = _
    rw [hcell x y hx hy, mF x y hx hy hxi hyi (hnot x kx) (hnot y ky)]; rfl
  · obtain ⟨c1, c2⟩ := mC k hk hki (hnot k kk)
    exact ⟨(hcell k i hk hin).trans c1, (hcell i k hin hk).trans c2⟩

end Hw.Dist
