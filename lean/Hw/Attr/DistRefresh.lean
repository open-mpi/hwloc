/-
  Pointer-level model of `hwloc_internal_distances_refresh()` (hwloc/distances.c:833-856): the loop that walks
  the doubly linked list `topology->first_dist .. topology->last_dist` of internal distances structures, asks
  `hwloc_internal_distances_refresh_one()` for each element and UNLINKS + FREES the elements that "became
  useless" (fewer than 2 of their objects still exist) while iterating.

  This is the code that runs at the end of every `hwloc_topology_load()` (topology.c:4538), hence on every
  XML import that carried <distances2>/<distances2hetero> elements: elements whose <indexes> name objects that
  do not exist (or that a type filter removed) are dropped here.  The abstract model `Hw.Attr.Distances`
  (`refreshList = filterMap`) cannot see the links; this one has them: a heap of nodes addressed by `Nat`
  with `next`/`prev` fields, a `freed` mark, and `first`/`last` of the topology.  EVERY field read or write
  of a node checks the `freed` mark (`.error (.uaf p)` = use after free, `.error (.dfree p)` = double free),
  so "memory safe" is "returns `.ok`".

      for(dist = topology->first_dist; dist; dist = next) {
        next = dist->next;
        if (hwloc_internal_distances_refresh_one(topology, dist) < 0) {
          if (dist->prev) dist->prev->next = next; else topology->first_dist = next;
          if (next) next->prev = dist->prev;       else topology->last_dist = dist->prev;
          hwloc_internal_distances_free(dist);
          continue;
        }
      }

  `running = false` is the source as it is (the predecessor is re-read from `dist->prev`).  `running = true`
  is the variant that keeps the predecessor in a loop-local variable advanced by the for-increment
  (`prev = dist`): after a drop the local points to the node that was just freed, so dropping the NEXT node
  too writes into freed memory.  It is kept as a negative lemma (the model must be able to tell them apart).
-/
namespace Hw.DistRefresh

structure Heap where
  next  : Nat → Option Nat
  prev  : Nat → Option Nat
  freed : Nat → Bool
  first : Option Nat
  last  : Option Nat

inductive Err where
  | uaf (p : Nat)      -- a field of a freed node is read or written
  | dfree (p : Nat)    -- a freed node is freed again
  | fuel
  deriving DecidableEq, Repr

abbrev M := Except Err

def rdNext (h : Heap) (p : Nat) : M (Option Nat) := if h.freed p then .error (.uaf p) else .ok (h.next p)
def rdPrev (h : Heap) (p : Nat) : M (Option Nat) := if h.freed p then .error (.uaf p) else .ok (h.prev p)
def wrNext (h : Heap) (p : Nat) (v : Option Nat) : M Heap :=
  if h.freed p then .error (.uaf p) else .ok { h with next := fun q => if q = p then v else h.next q }
def wrPrev (h : Heap) (p : Nat) (v : Option Nat) : M Heap :=
  if h.freed p then .error (.uaf p) else .ok { h with prev := fun q => if q = p then v else h.prev q }
def free (h : Heap) (p : Nat) : M Heap :=
  if h.freed p then .error (.dfree p) else .ok { h with freed := fun q => if q = p then true else h.freed q }

/-- the body of the `if (refresh_one < 0)` block, `pv` = the predecessor the code uses -/
def unlink (h : Heap) (d : Nat) (pv nx : Option Nat) : M Heap := do
  let h1 ← match pv with
    | some p => wrNext h p nx
    | none => pure { h with first := nx }
  let h2 ← match nx with
    | some n => wrPrev h1 n pv
    | none => pure { h1 with last := pv }
  free h2 d

/-- the loop; `pl` = the loop-local predecessor of the `running` variant; `drop d` = `refresh_one(d) < 0` -/
def loop (running : Bool) (drop : Nat → Bool) : (fuel : Nat) → Heap → (pl dist : Option Nat) → M Heap
  | _, h, _, none => .ok h
  | 0, _, _, some _ => .error .fuel
  | fuel + 1, h, pl, some d => do
      let nx ← rdNext h d
      if drop d then
        let pv ← if running then pure pl else rdPrev h d
        let h' ← unlink h d pv nx
        loop running drop fuel h' (some d) nx
      else
        loop running drop fuel h (some d) nx

def refresh (running : Bool) (drop : Nat → Bool) (h : Heap) (fuel : Nat) : M Heap :=
  loop running drop fuel h none h.first

/-- `Chain h p l`: the nodes of `l` are live and linked in this order, the first one having predecessor `p` -/
def Chain (h : Heap) : Option Nat → List Nat → Prop
  | _, [] => True
  | p, a :: l => h.freed a = false ∧ h.prev a = p ∧ h.next a = l.head? ∧ Chain h (some a) l

/-- the topology's list is exactly `l`: first/last, every next and every prev agree with `l`, all live -/
def Linked (h : Heap) (l : List Nat) : Prop :=
  l.Nodup ∧ h.first = l.head? ∧ h.last = l.getLast? ∧ Chain h none l

/-- a heap holding exactly the list `l` (for the concrete witnesses) -/
def mk (l : List Nat) : Heap :=
  { next := fun p => match l.idxOf? p with | some i => l[i + 1]? | none => none
    prev := fun p => match l.idxOf? p with | some i => if i = 0 then none else l[i - 1]? | none => none
    freed := fun _ => false
    first := l.head?
    last := l.getLast? }

/-- decidable view of a heap on the nodes `0..n-1` -/
def view (h : Heap) (n : Nat) : List (Option Nat × Option Nat × Bool) × Option Nat × Option Nat :=
  ((List.range n).map (fun p => (h.next p, h.prev p, h.freed p)), h.first, h.last)

/-- walk from `first` along `next` (what every later consumer does: distances_get, export, dup, destroy) -/
def walk (h : Heap) : (fuel : Nat) → Option Nat → M (List Nat)
  | _, none => .ok []
  | 0, some _ => .error .fuel
  | fuel + 1, some d => do
      let nx ← rdNext h d
      let r ← walk h fuel nx
      pure (d :: r)

end Hw.DistRefresh
