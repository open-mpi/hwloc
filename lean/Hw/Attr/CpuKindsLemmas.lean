/-
  Hw.Attr.CpuKindsLemmas — the cpukinds model (C15) as far as the kinds array alone is concerned: the register loop
  in loop-free form, the partition it keeps, which PUs a register / a restrict leaves in one kind (`Together`; coverage
  is its diagonal), capacity, sorting and renumbering, and what each public call does to the array up to order and
  efficiencies.
-/
import Hw.Attr.CpuKinds
import Hw.Base.Bits
import Hw.Base.InsertSort
import Hw.Base.ListLemmas
namespace Hw
namespace CpuKinds

/-! ### finite sets as `Nat` masks -/

theorem testBit_andnot (a b i : Nat) : (andnot a b).testBit i = (a.testBit i && !b.testBit i) :=
  Bits.testBit_andnot a b i

theorem mem_andnot {a b i : Nat} : (andnot a b).testBit i = true ↔ a.testBit i = true ∧ b.testBit i = false := by
  rw [testBit_andnot, Bool.and_eq_true, Bool.not_eq_true']

theorem mem_inter {a b i : Nat} : (a &&& b).testBit i = true ↔ a.testBit i = true ∧ b.testBit i = true := by
  rw [Nat.testBit_and, Bool.and_eq_true]

theorem and_eq_zero_iff_bits (a b : Nat) :
    a &&& b = 0 ↔ ∀ i, a.testBit i = true → b.testBit i = true → False := by
  rw [Bits.and_eq_zero_iff]
  exact forall_congr' fun i => imp_congr_right fun _ => by rw [Bool.eq_false_iff]

theorem and_eq_right_iff_bits (a b : Nat) :
    a &&& b = b ↔ ∀ i, b.testBit i = true → a.testBit i = true := by
  rw [Nat.and_comm]; exact Bits.and_eq_left_iff

def Sub (a b : Nat) : Prop := ∀ i, a.testBit i = true → b.testBit i = true
def Meets (a b : Nat) : Prop := ∃ i, a.testBit i = true ∧ b.testBit i = true

theorem not_meets_iff (a b : Nat) : ¬ Meets a b ↔ a &&& b = 0 := by
  rw [and_eq_zero_iff_bits]
  constructor
  · intro h i h1 h2; exact h ⟨i, h1, h2⟩
  · intro h ⟨i, h1, h2⟩; exact h i h1 h2

theorem disj_mono {a a' b b' : Nat} (ha : Sub a' a) (hb : Sub b' b) (h : a &&& b = 0) : a' &&& b' = 0 := by
  rw [and_eq_zero_iff_bits] at h ⊢
  exact fun i h1 h2 => h i (ha i h1) (hb i h2)

theorem and_sub_left (a b : Nat) : Sub (a &&& b) a := fun _ h => (mem_inter.mp h).1
theorem and_sub_right (a b : Nat) : Sub (a &&& b) b := fun _ h => (mem_inter.mp h).2
theorem andnot_sub (a b : Nat) : Sub (andnot a b) a := fun _ h => (mem_andnot.mp h).1

theorem andnot_inter (k cs : Nat) : andnot k (cs &&& k) = andnot k cs := by
  apply Nat.eq_of_testBit_eq; intro i
  simp only [testBit_andnot, Nat.testBit_and]
  cases k.testBit i <;> cases cs.testBit i <;> rfl

theorem andnot_inter' (cs k : Nat) : andnot cs (cs &&& k) = andnot cs k := by
  rw [Nat.and_comm]; exact andnot_inter cs k

theorem and_andnot_of_disj {cs k x : Nat} (h : k &&& x = 0) : andnot cs k &&& x = cs &&& x :=
  Bits.and_eq_and_of_testBit fun i hi => by
    rw [testBit_andnot, Bits.and_eq_zero_iff.1 ((Nat.and_comm x k).trans h) i hi, Bool.not_false, Bool.and_true]

theorem andnot_of_disj {cs k : Nat} (h : cs &&& k = 0) : andnot cs k = cs := by
  unfold andnot; rw [h, Nat.xor_zero]

theorem andnot_ne_zero {a b : Nat} (h : a &&& b ≠ b) : andnot b (a &&& b) ≠ 0 := by
  intro h0
  apply h
  apply Nat.eq_of_testBit_eq; intro i
  have := Bits.eq_zero_iff.mp h0 i
  rw [testBit_andnot] at this
  cases hb : b.testBit i
  · rw [Nat.testBit_and, hb, Bool.and_false]
  · rw [hb, Bool.true_and] at this
    cases hab : (a &&& b).testBit i
    · rw [hab] at this; cases this
    · rfl

/-! ### `compare_inclusion` at the set level -/

theorem rel_cases (a b : Nat) :
    (rel a b = .equal ∧ a = b) ∨
    (rel a b = .included ∧ a ≠ b ∧ a &&& b = a) ∨
    (rel a b = .contains ∧ a ≠ b ∧ a &&& b ≠ a ∧ a &&& b = b) ∨
    (rel a b = .different ∧ a ≠ b ∧ a &&& b ≠ a ∧ a &&& b ≠ b ∧ a &&& b = 0) ∨
    (rel a b = .intersects ∧ a ≠ b ∧ a &&& b ≠ a ∧ a &&& b ≠ b ∧ a &&& b ≠ 0) := by
  unfold rel
  by_cases h1 : a = b
  · rw [if_pos h1]; exact Or.inl ⟨rfl, h1⟩
  · rw [if_neg h1]
    by_cases h2 : a &&& b = a
    · rw [if_pos h2]; exact Or.inr (Or.inl ⟨rfl, h1, h2⟩)
    · rw [if_neg h2]
      by_cases h3 : a &&& b = b
      · rw [if_pos h3]; exact Or.inr (Or.inr (Or.inl ⟨rfl, h1, h2, h3⟩))
      · rw [if_neg h3]
        by_cases h4 : a &&& b = 0
        · rw [if_pos h4]; exact Or.inr (Or.inr (Or.inr (Or.inl ⟨rfl, h1, h2, h3, h4⟩)))
        · rw [if_neg h4]; exact Or.inr (Or.inr (Or.inr (Or.inr ⟨rfl, h1, h2, h3, h4⟩)))

theorem rel_equal {a b : Nat} : rel a b = .equal ↔ a = b := by
  rcases rel_cases a b with ⟨e, h⟩ | ⟨e, h, _⟩ | ⟨e, h, _⟩ | ⟨e, h, _⟩ | ⟨e, h, _⟩ <;> rw [e] <;> simp [h]

theorem different_disj {a b : Nat} (h : rel a b = .different) : a &&& b = 0 := by
  rcases rel_cases a b with ⟨e, _⟩ | ⟨e, _⟩ | ⟨e, _⟩ | ⟨_, _, _, _, hz⟩ | ⟨e, _⟩
  all_goals first | exact hz | (rw [e] at h; cases h)

theorem rel_different_of_disj {a b : Nat} (ha : a ≠ 0) (hb : b ≠ 0) (h : a &&& b = 0) :
    rel a b = .different := by
  rcases rel_cases a b with ⟨_, e⟩ | ⟨_, _, hl⟩ | ⟨_, _, _, hr⟩ | ⟨e, _⟩ | ⟨_, _, _, _, hz⟩
  · subst e; rw [Nat.and_self] at h; exact absurd h ha
  · rw [h] at hl; exact absurd hl.symm ha
  · rw [h] at hr; exact absurd hr.symm hb
  · exact e
  · exact absurd h hz

theorem rel_trichotomy (a b : Nat) :
    (rel a b = .intersects ∨ rel a b = .included) ∨ (rel a b = .contains ∨ rel a b = .equal) ∨
      rel a b = .different := by
  cases rel a b <;> simp

/-! ### classification of an old kind against the registered cpuset -/

inductive Cls | split | merge | diff
deriving DecidableEq, Repr

/-- `x` (a kind, non-empty) against `cs`: disjoint, wholly inside `cs` (CONTAINS / EQUAL), or partly inside
    (INTERSECTS / INCLUDED) -/
def cls (cs x : Nat) : Cls :=
  if cs &&& x = 0 then .diff else if cs &&& x = x then .merge else .split

theorem cls_cases (cs x : Nat) :
    (cls cs x = .diff ∧ cs &&& x = 0) ∨ (cls cs x = .merge ∧ cs &&& x ≠ 0 ∧ cs &&& x = x) ∨
    (cls cs x = .split ∧ cs &&& x ≠ 0 ∧ cs &&& x ≠ x) := by
  unfold cls
  by_cases h1 : cs &&& x = 0
  · rw [if_pos h1]; exact Or.inl ⟨rfl, h1⟩
  · rw [if_neg h1]
    by_cases h2 : cs &&& x = x
    · rw [if_pos h2]; exact Or.inr (Or.inl ⟨rfl, h1, h2⟩)
    · rw [if_neg h2]; exact Or.inr (Or.inr ⟨rfl, h1, h2⟩)

theorem rel_cls {cs x : Nat} (hcs : cs ≠ 0) (hx : x ≠ 0) :
    ((rel cs x = .intersects ∨ rel cs x = .included) ∧ cls cs x = .split) ∨
    ((rel cs x = .contains ∨ rel cs x = .equal) ∧ cls cs x = .merge) ∨
    (rel cs x = .different ∧ cls cs x = .diff) := by
  unfold cls
  rcases rel_cases cs x with ⟨e, h⟩ | ⟨e, hne, hl⟩ | ⟨e, _, _, hr⟩ | ⟨e, _, _, _, hz⟩ | ⟨e, _, _, hr, hz⟩
  · subst h
    rw [Nat.and_self, if_neg hx, if_pos rfl]; exact Or.inr (Or.inl ⟨Or.inr e, rfl⟩)
  · rw [hl, if_neg hcs, if_neg hne]; exact Or.inl ⟨Or.inr e, rfl⟩
  · rw [hr, if_neg hx, if_pos rfl]; exact Or.inr (Or.inl ⟨Or.inl e, rfl⟩)
  · rw [if_pos hz]; exact Or.inr (Or.inr ⟨e, rfl⟩)
  · rw [if_neg hz, if_neg hr]; exact Or.inl ⟨Or.inl e, rfl⟩

/-! ### kinds lists -/

def Covers (ks : List Kind) (p : Nat) : Prop := ∃ k ∈ ks, k.cpuset.testBit p = true

def NonEmpty (ks : List Kind) : Prop := ∀ k ∈ ks, k.cpuset ≠ 0
def Disjoint (ks : List Kind) : Prop := ks.Pairwise (fun a b => a.cpuset &&& b.cpuset = 0)
def InfosNodup (ks : List Kind) : Prop := ∀ k ∈ ks, k.infos.Nodup

theorem covers_cons {k : Kind} {ks : List Kind} {p : Nat} :
    Covers (k :: ks) p ↔ k.cpuset.testBit p = true ∨ Covers ks p := by
  simp [Covers]

theorem covers_append {a b : List Kind} {p : Nat} : Covers (a ++ b) p ↔ Covers a p ∨ Covers b p := by
  simp only [Covers, List.mem_append, or_and_right, exists_or]

theorem idx_unique {ks : List Kind} (hdj : Disjoint ks) {i j : Nat} (hi : i < ks.length) (hj : j < ks.length) {p : Nat}
    (hpi : ks[i].cpuset.testBit p = true) (hpj : ks[j].cpuset.testBit p = true) : i = j := by
  have H := List.pairwise_iff_getElem.mp hdj
  rcases Nat.lt_trichotomy i j with hij | hij | hij
  · exact ((and_eq_zero_iff_bits _ _).mp (H i j hi hj hij) p hpi hpj).elim
  · exact hij
  · exact ((and_eq_zero_iff_bits _ _).mp (H j i hj hi hij) p hpj hpi).elim

theorem kind_unique {ks : List Kind} (hdj : Disjoint ks) {a b : Kind} (ha : a ∈ ks) (hb : b ∈ ks) {p : Nat}
    (hpa : a.cpuset.testBit p = true) (hpb : b.cpuset.testBit p = true) : a = b := by
  obtain ⟨i, hi, rfl⟩ := List.getElem_of_mem ha
  obtain ⟨j, hj, rfl⟩ := List.getElem_of_mem hb
  simp only [idx_unique hdj hi hj hpa hpb]

structure Part (ks : List Kind) : Prop where
  ne : NonEmpty ks
  dj : Disjoint ks
  nd : InfosNodup ks

theorem part_nil : Part [] := ⟨fun _ h => (nomatch h), List.Pairwise.nil, fun _ h => (nomatch h)⟩

/-! ### which PUs share a kind, and what a register / a restrict makes of it (histories: CpuKindsClasses.lean) -/

def Together (ks : List Kind) (p q : Nat) : Prop :=
  ∃ k ∈ ks, k.cpuset.testBit p = true ∧ k.cpuset.testBit q = true

abbrev Same := Nat → Nat → Prop

def regSame (S : Same) (cs : Nat) : Same := fun p q =>
  (cs.testBit p = true ∧ cs.testBit q = true ∧ (S p q ∨ (¬ S p p ∧ ¬ S q q))) ∨
  (cs.testBit p = false ∧ cs.testBit q = false ∧ S p q)

def restrictSame (S : Same) (r : Nat) : Same := fun p q =>
  S p q ∧ r.testBit p = true ∧ r.testBit q = true

theorem together_self {ks : List Kind} {p : Nat} : Together ks p p ↔ Covers ks p := by
  unfold Together Covers
  constructor
  · rintro ⟨k, hk, h, _⟩; exact ⟨k, hk, h⟩
  · rintro ⟨k, hk, h⟩; exact ⟨k, hk, h, h⟩

/-! ### infos -/

theorem addInfos_step_mem (acc : List Info) (p x : Info) :
    x ∈ (if acc.contains p then acc else acc ++ [p]) ↔ x ∈ acc ∨ x = p := by
  by_cases h : acc.contains p = true
  · rw [if_pos h]
    constructor
    · exact Or.inl
    · rintro (h1 | h1)
      · exact h1
      · subst h1; exact List.contains_iff_mem.mp h
  · rw [if_neg h]; simp

theorem mem_addInfos (cur new : List Info) (x : Info) : x ∈ addInfos cur new ↔ x ∈ cur ∨ x ∈ new := by
  unfold addInfos
  induction new generalizing cur with
  | nil => simp
  | cons p ps ih =>
    rw [List.foldl_cons, ih, addInfos_step_mem, List.mem_cons, or_assoc]

theorem nodup_addInfos (cur new : List Info) (h : cur.Nodup) : (addInfos cur new).Nodup :=
  List.foldlRecOn new _ h fun acc hacc p _ => by
    show (if acc.contains p then acc else acc ++ [p]).Nodup
    split
    · exact hacc
    · rename_i hc
      rw [List.nodup_append]
      refine ⟨hacc, List.pairwise_singleton _ _, fun a ha b hb e => hc (List.contains_iff_mem.mpr ?_)⟩
      rw [← List.mem_singleton.mp hb, ← e]; exact ha

/-- re-adding a duplicate-free list to an empty slot reproduces it (XML reload, split copy) -/
theorem addInfos_nil_of_nodup (l : List Info) (h : l.Nodup) : addInfos [] l = l := by
  refine foldl_inv _ (fun pre acc => acc = pre) l ?_ l [] [] rfl rfl
  rintro pre p post _ e rfl
  rw [← e] at h
  exact if_neg fun hc =>
    (List.nodup_append.mp h).2.2 p (List.contains_iff_mem.mp hc) p List.mem_cons_self rfl

/-! ### the register loop -/

section RegLoop
variable (f : Int) (infos : List Info) (o : Bool)

theorem regLoop_nil (cs : Nat) : regLoop f infos o [] cs = ([], [], cs) := rfl

theorem regLoop_break (k : Kind) (ks : List Kind) : regLoop f infos o (k :: ks) 0 = (k :: ks, [], 0) := by
  simp [regLoop]

theorem regLoop_split (k : Kind) (ks : List Kind) (cs : Nat) (hcs : cs ≠ 0)
    (h : rel cs k.cpuset = .intersects ∨ rel cs k.cpuset = .included) :
    regLoop f infos o (k :: ks) cs =
      ({ k with cpuset := andnot k.cpuset (cs &&& k.cpuset) } ::
          (regLoop f infos o ks (andnot cs (cs &&& k.cpuset))).1,
       { cpuset := cs &&& k.cpuset, eff := -1, forced := f,
         infos := addInfos (addInfos [] k.infos) infos } ::
          (regLoop f infos o ks (andnot cs (cs &&& k.cpuset))).2.1,
       (regLoop f infos o ks (andnot cs (cs &&& k.cpuset))).2.2) := by
  rcases h with h | h <;> simp [regLoop, hcs, h]

theorem regLoop_merge (k : Kind) (ks : List Kind) (cs : Nat) (hcs : cs ≠ 0)
    (h : rel cs k.cpuset = .contains ∨ rel cs k.cpuset = .equal) :
    regLoop f infos o (k :: ks) cs =
      ({ k with infos := addInfos k.infos infos,
                forced := if o || k.forced = -1 then f else k.forced } ::
          (regLoop f infos o ks (andnot cs k.cpuset)).1,
       (regLoop f infos o ks (andnot cs k.cpuset)).2.1,
       (regLoop f infos o ks (andnot cs k.cpuset)).2.2) := by
  rcases h with h | h <;> simp [regLoop, hcs, h]

theorem regLoop_diff (k : Kind) (ks : List Kind) (cs : Nat) (hcs : cs ≠ 0)
    (h : rel cs k.cpuset = .different) :
    regLoop f infos o (k :: ks) cs =
      (k :: (regLoop f infos o ks cs).1, (regLoop f infos o ks cs).2.1, (regLoop f infos o ks cs).2.2) := by
  simp [regLoop, hcs, h]

theorem regLoop_len : ∀ (ks : List Kind) (cs : Nat),
    (regLoop f infos o ks cs).1.length = ks.length ∧ (regLoop f infos o ks cs).2.1.length ≤ ks.length := by
  intro ks
  induction ks with
  | nil => intro cs; exact ⟨rfl, Nat.le_refl _⟩
  | cons k ks ih =>
    intro cs
    by_cases hcs : cs = 0
    · subst hcs; rw [regLoop_break]; exact ⟨rfl, Nat.zero_le _⟩
    · rcases rel_trichotomy cs k.cpuset with hr | hr | hr
      · rw [regLoop_split f infos o k ks cs hcs hr]
        have := ih (andnot cs (cs &&& k.cpuset))
        simp only [List.length_cons]; omega
      · rw [regLoop_merge f infos o k ks cs hcs hr]
        have := ih (andnot cs k.cpuset)
        simp only [List.length_cons]; omega
      · rw [regLoop_diff f infos o k ks cs hcs hr]
        have := ih cs
        simp only [List.length_cons]; omega

theorem regAdded_len (ks : List Kind) (cs : Nat) : (regAdded f infos o ks cs).length ≤ ks.length + 1 := by
  unfold regAdded
  have := (regLoop_len f infos o ks cs).2
  simp only [List.length_append]
  split
  · exact Nat.le_succ_of_le this
  · exact Nat.succ_le_succ this

end RegLoop

/-! #### the loop without its loop -/

def flatOld (f : Int) (infos : List Info) (o : Bool) (cs : Nat) (k : Kind) : Kind :=
  match cls cs k.cpuset with
  | .diff => k
  | .merge => { k with infos := addInfos k.infos infos,
                       forced := if o || k.forced = -1 then f else k.forced }
  | .split => { k with cpuset := andnot k.cpuset (cs &&& k.cpuset) }

def flatNew (f : Int) (infos : List Info) (cs : Nat) (k : Kind) : Option Kind :=
  match cls cs k.cpuset with
  | .split => some { cpuset := cs &&& k.cpuset, eff := -1, forced := f,
                     infos := addInfos (addInfos [] k.infos) infos }
  | _ => none

def flatRem (cs : Nat) (ks : List Kind) : Nat := ks.foldl (fun c k => andnot c k.cpuset) cs

theorem flatOld_congr (f : Int) (infos : List Info) (o : Bool) {cs cs' : Nat} (k : Kind)
    (h : cs' &&& k.cpuset = cs &&& k.cpuset) : flatOld f infos o cs' k = flatOld f infos o cs k := by
  simp only [flatOld, cls, h]

theorem flatNew_congr (f : Int) (infos : List Info) {cs cs' : Nat} (k : Kind)
    (h : cs' &&& k.cpuset = cs &&& k.cpuset) : flatNew f infos cs' k = flatNew f infos cs k := by
  simp only [flatNew, cls, h]

theorem flatOld_zero (f : Int) (infos : List Info) (o : Bool) (k : Kind) : flatOld f infos o 0 k = k := by
  simp only [flatOld, cls, Nat.zero_and, if_true]

theorem flatNew_zero (f : Int) (infos : List Info) (k : Kind) : flatNew f infos 0 k = none := by
  simp only [flatNew, cls, Nat.zero_and, if_true]

theorem flatOld_sub (f : Int) (infos : List Info) (o : Bool) (cs : Nat) (k : Kind) :
    Sub (flatOld f infos o cs k).cpuset k.cpuset := by
  unfold flatOld
  split
  · exact fun _ h => h
  · exact fun _ h => h
  · exact andnot_sub _ _

theorem flatRem_zero (ks : List Kind) : flatRem 0 ks = 0 :=
  List.foldlRecOn (motive := (· = 0)) ks _ rfl fun _ h _ _ => by rw [h]; exact andnot_of_disj (Nat.zero_and _)

theorem flatRem_cons (cs : Nat) (k : Kind) (ks : List Kind) :
    flatRem cs (k :: ks) = flatRem (andnot cs k.cpuset) ks := rfl

theorem flatRem_bits (ks : List Kind) : ∀ (cs p : Nat),
    (flatRem cs ks).testBit p = true ↔ (cs.testBit p = true ∧ ¬ Covers ks p) := by
  induction ks with
  | nil => intro cs p; simp [flatRem, Covers]
  | cons k ks ih =>
    intro cs p
    rw [flatRem_cons, ih, covers_cons, testBit_andnot]
    cases cs.testBit p <;> cases k.cpuset.testBit p <;> simp

/-- on a partition the C loop with its shrinking cpuset and early `break` classifies every old kind against
    the ORIGINAL cpuset: old kinds are rewritten pointwise, split-off kinds collected in order, and the
    remainder is the cpuset minus all kinds -/
theorem regLoop_flat (f : Int) (infos : List Info) (o : Bool) :
    ∀ (ks : List Kind) (cs : Nat), NonEmpty ks → Disjoint ks →
      regLoop f infos o ks cs =
        (ks.map (flatOld f infos o cs), ks.filterMap (flatNew f infos cs), flatRem cs ks) := by
  intro ks
  induction ks with
  | nil => intro cs _ _; rfl
  | cons k ks ih =>
    intro cs hne hdj
    have hne' : NonEmpty ks := fun x hx => hne x (List.mem_cons_of_mem _ hx)
    have hdj' : Disjoint ks := (List.pairwise_cons.mp hdj).2
    have hk0 : k.cpuset ≠ 0 := hne k List.mem_cons_self
    have hkx : ∀ x ∈ ks, k.cpuset &&& x.cpuset = 0 := (List.pairwise_cons.mp hdj).1
    by_cases hcs : cs = 0
    · subst hcs
      rw [regLoop_break, flatRem_zero, List.map_congr_left (fun x _ => flatOld_zero f infos o x), List.map_id',
        List.filterMap_eq_nil_iff.mpr (fun x _ => flatNew_zero f infos x)]
    · -- the shrunk cpuset meets the later kinds exactly as the original does
      have t1 : ks.map (flatOld f infos o (andnot cs k.cpuset)) = ks.map (flatOld f infos o cs) :=
        List.map_congr_left (fun x hx => flatOld_congr f infos o x (and_andnot_of_disj (hkx x hx)))
      have t2 : ks.filterMap (flatNew f infos (andnot cs k.cpuset)) = ks.filterMap (flatNew f infos cs) :=
        filterMap_congr (fun x hx => flatNew_congr f infos x (and_andnot_of_disj (hkx x hx)))
      rcases rel_cls hcs hk0 with ⟨hr, hc⟩ | ⟨hr, hc⟩ | ⟨hr, hc⟩
      · rw [regLoop_split f infos o k ks cs hcs hr, ih _ hne' hdj']
        simp only [List.map_cons, List.filterMap_cons, flatOld, flatNew, hc, flatRem_cons,
          andnot_inter', t1, t2]
      · rw [regLoop_merge f infos o k ks cs hcs hr, ih _ hne' hdj']
        simp only [List.map_cons, List.filterMap_cons, flatOld, flatNew, hc, t1, t2, flatRem_cons]
      · rw [regLoop_diff f infos o k ks cs hcs hr, ih _ hne' hdj']
        simp only [List.map_cons, List.filterMap_cons, flatOld, flatNew, hc, flatRem_cons,
          andnot_of_disj (different_disj hr)]

theorem internalRegister_kinds_flat (st : State) (cs : Nat) (f : Int) (infos : List Info) (fl : Nat)
    (hcs : cs ≠ 0) (hfl : fl / 2 = 0) (hne : NonEmpty st.kinds) (hdj : Disjoint st.kinds) :
    (internalRegister st cs f infos fl).1.kinds =
      st.kinds.map (flatOld f infos (decide (fl % 2 = 1)) cs) ++
      (st.kinds.filterMap (flatNew f infos cs) ++
        (if flatRem cs st.kinds = 0 then [] else
          [{ cpuset := flatRem cs st.kinds, eff := -1, forced := f, infos := addInfos [] infos }])) := by
  simp [internalRegister, hcs, hfl, regAdded, regLoop_flat f infos _ st.kinds cs hne hdj]

theorem flatOld_eq (f : Int) (infos : List Info) (o : Bool) (cs : Nat) {k : Kind} (hk : k.cpuset ≠ 0) :
    flatOld f infos o cs k =
      if cs &&& k.cpuset = k.cpuset then
        { k with infos := addInfos k.infos infos, forced := if o || k.forced = -1 then f else k.forced }
      else { k with cpuset := andnot k.cpuset cs } := by
  rcases cls_cases cs k.cpuset with ⟨hc, hz⟩ | ⟨hc, _, hm⟩ | ⟨hc, _, hs⟩
  · rw [if_neg (by rw [hz]; exact hk.symm), andnot_of_disj (by rw [Nat.and_comm]; exact hz)]
    simp only [flatOld, hc]
  · rw [if_pos hm]; simp only [flatOld, hc]
  · rw [if_neg hs]; simp only [flatOld, hc, andnot_inter]

theorem flatNew_eq_some (f : Int) (infos : List Info) (cs : Nat) (k k' : Kind) :
    flatNew f infos cs k = some k' ↔ (cs &&& k.cpuset ≠ 0 ∧ cs &&& k.cpuset ≠ k.cpuset) ∧
      k' = { cpuset := cs &&& k.cpuset, eff := -1, forced := f, infos := addInfos (addInfos [] k.infos) infos } := by
  rcases cls_cases cs k.cpuset with ⟨hc, hz⟩ | ⟨hc, _, hm⟩ | ⟨hc, hnz, hs⟩ <;> simp only [flatNew, hc]
  · exact ⟨nofun, fun h => absurd hz h.1.1⟩
  · exact ⟨nofun, fun h => absurd hm h.1.2⟩
  · exact ⟨fun h => ⟨⟨hnz, hs⟩, (Option.some.inj h).symm⟩, fun h => by rw [h.2]⟩

theorem disjoint_flat {ks : List Kind} (hdj : Disjoint ks) (f : Int) (infos : List Info) (o : Bool) (cs : Nat)
    {rem : List Kind} (hrem : Disjoint rem) (hout : ∀ r ∈ rem, ∀ p, r.cpuset.testBit p = true → ¬ Covers ks p) :
    Disjoint (ks.map (flatOld f infos o cs) ++ (ks.filterMap (flatNew f infos cs) ++ rem)) := by
  have hnew : ∀ {k k' : Kind}, flatNew f infos cs k = some k' → Sub k'.cpuset k.cpuset := by
    intro k k' e
    rw [((flatNew_eq_some f infos cs k k').mp e).2]; exact and_sub_right _ _
  unfold Disjoint
  rw [List.pairwise_append, List.pairwise_append]
  refine ⟨List.pairwise_map.mpr (hdj.imp fun h => disj_mono (flatOld_sub _ _ _ _ _) (flatOld_sub _ _ _ _ _) h),
    ⟨hdj.filterMap _ fun _ _ h _ hb _ hb' => disj_mono (hnew hb) (hnew hb') h, hrem, ?_⟩, ?_⟩
  · intro b hb r hr
    obtain ⟨k, hk, e⟩ := List.mem_filterMap.mp hb
    rw [and_eq_zero_iff_bits]
    exact fun p h1 h2 => hout r hr p h2 ⟨k, hk, hnew e p h1⟩
  · intro a ha x hx
    obtain ⟨k, hk, rfl⟩ := List.mem_map.mp ha
    rw [and_eq_zero_iff_bits]
    intro p h1 h2
    have hkp := flatOld_sub f infos o cs k p h1
    rcases List.mem_append.mp hx with hx | hx
    · -- a PU of an old kind and of a split-off kind: both come from the same old kind, whose two parts are disjoint
      obtain ⟨k2, hk2, e⟩ := List.mem_filterMap.mp hx
      have := kind_unique hdj hk hk2 hkp (hnew e p h2)
      subst this
      obtain ⟨⟨hnz, hs⟩, rfl⟩ := (flatNew_eq_some f infos cs k _).mp e
      rcases cls_cases cs k.cpuset with ⟨_, hz⟩ | ⟨_, _, hm⟩ | ⟨hc, _⟩
      · exact hnz hz
      · exact hs hm
      simp only [flatOld, hc] at h1
      rw [(mem_andnot.mp h1).2] at h2; cases h2
    · exact hout x hx p h2 ⟨k, hk, hkp⟩

theorem mem_internalRegister {st : State} (hne : NonEmpty st.kinds) (hdj : Disjoint st.kinds) (cs : Nat) (f : Int) (infos : List Info) (fl : Nat)
    (hcs : cs ≠ 0) (hfl : fl / 2 = 0) (k' : Kind) :
    k' ∈ (internalRegister st cs f infos fl).1.kinds ↔
      (∃ k ∈ st.kinds, cs &&& k.cpuset ≠ k.cpuset ∧ k' = { k with cpuset := andnot k.cpuset cs }) ∨
      (∃ k ∈ st.kinds, cs &&& k.cpuset = k.cpuset ∧
        k' = { k with infos := addInfos k.infos infos,
                      forced := if decide (fl % 2 = 1) || k.forced = -1 then f else k.forced }) ∨
      (∃ k ∈ st.kinds, (cs &&& k.cpuset ≠ 0 ∧ cs &&& k.cpuset ≠ k.cpuset) ∧
        k' = { cpuset := cs &&& k.cpuset, eff := -1, forced := f, infos := addInfos (addInfos [] k.infos) infos }) ∨
      (flatRem cs st.kinds ≠ 0 ∧
        k' = { cpuset := flatRem cs st.kinds, eff := -1, forced := f, infos := addInfos [] infos }) := by
  rw [internalRegister_kinds_flat st cs f infos fl hcs hfl hne hdj, List.mem_append, List.mem_append,
    List.mem_map, List.mem_filterMap]
  -- one equivalence per piece of the array: old kinds (either shape), split-off kinds, remainder
  refine (or_congr ⟨?_, ?_⟩ (or_congr (by simp only [flatNew_eq_some]) ?_)).trans or_assoc
  · rintro ⟨k, hk, rfl⟩
    rw [flatOld_eq f infos _ cs (hne k hk)]
    by_cases hm : cs &&& k.cpuset = k.cpuset
    · rw [if_pos hm]; exact Or.inr ⟨k, hk, hm, rfl⟩
    · rw [if_neg hm]; exact Or.inl ⟨k, hk, hm, rfl⟩
  · rintro (⟨k, hk, hm, rfl⟩ | ⟨k, hk, hm, rfl⟩)
    · exact ⟨k, hk, by rw [flatOld_eq f infos _ cs (hne k hk), if_neg hm]⟩
    · exact ⟨k, hk, by rw [flatOld_eq f infos _ cs (hne k hk), if_pos hm]⟩
  · by_cases hz : flatRem cs st.kinds = 0
    · rw [if_pos hz]; exact ⟨nofun, fun h => absurd hz h.1⟩
    · rw [if_neg hz, List.mem_singleton]; exact ⟨fun h => ⟨hz, h⟩, fun h => h.2⟩

theorem internalRegister_part {st : State} (P : Part st.kinds) (cs : Nat) (f : Int) (infos : List Info) (fl : Nat)
    (hcs : cs ≠ 0) (hfl : fl / 2 = 0) : Part (internalRegister st cs f infos fl).1.kinds := by
  have M := mem_internalRegister P.ne P.dj cs f infos fl hcs hfl
  refine ⟨?_, ?_, ?_⟩
  · intro k' hk'
    rcases (M k').mp hk' with ⟨k, hk, hm, rfl⟩ | ⟨k, hk, _, rfl⟩ | ⟨k, hk, h, rfl⟩ | ⟨hz, rfl⟩
    · show andnot k.cpuset cs ≠ 0
      rw [← andnot_inter]; exact andnot_ne_zero hm
    · exact P.ne k hk
    · exact h.1
    · exact hz
  · rw [internalRegister_kinds_flat st cs f infos fl hcs hfl P.ne P.dj]
    apply disjoint_flat P.dj
    · split
      · exact List.Pairwise.nil
      · exact List.pairwise_singleton _ _
    · intro r hr p hp
      split at hr
      · cases hr
      · rw [List.mem_singleton.mp hr] at hp
        exact ((flatRem_bits _ _ _).mp hp).2
  · intro k' hk'
    rcases (M k').mp hk' with ⟨k, hk, _, rfl⟩ | ⟨k, hk, _, rfl⟩ | ⟨k, hk, _, rfl⟩ | ⟨_, rfl⟩
    · exact P.nd k hk
    · exact nodup_addInfos _ _ (P.nd k hk)
    · exact nodup_addInfos _ _ (nodup_addInfos _ _ List.nodup_nil)
    · exact nodup_addInfos _ _ List.nodup_nil

theorem internalRegister_together {st : State} {S : Same} (hne : NonEmpty st.kinds) (hdj : Disjoint st.kinds)
    (T : ∀ p q, Together st.kinds p q ↔ S p q)
    (cs : Nat) (f : Int) (infos : List Info) (fl : Nat) (hcs : cs ≠ 0) (hfl : fl / 2 = 0) :
    ∀ p q, Together (internalRegister st cs f infos fl).1.kinds p q ↔ regSame S cs p q := by
  intro p q
  have hcov : ∀ p, S p p ↔ Covers st.kinds p := fun p => by rw [← T p p, together_self]
  have M := mem_internalRegister hne hdj cs f infos fl hcs hfl
  constructor
  · rintro ⟨k', hk', hp, hq⟩
    rcases (M k').mp hk' with ⟨k, hk, _, rfl⟩ | ⟨k, hk, hm, rfl⟩ | ⟨k, hk, _, rfl⟩ | ⟨_, rfl⟩
    · -- what is left of an old kind outside cs
      have hp := mem_andnot.mp hp
      have hq := mem_andnot.mp hq
      exact Or.inr ⟨hp.2, hq.2, (T p q).mp ⟨k, hk, hp.1, hq.1⟩⟩
    · -- an old kind inside cs
      have hsub := (and_eq_right_iff_bits cs k.cpuset).mp hm
      exact Or.inl ⟨hsub p hp, hsub q hq, Or.inl ((T p q).mp ⟨k, hk, hp, hq⟩)⟩
    · -- the part of an old kind inside cs
      have hp := mem_inter.mp hp
      have hq := mem_inter.mp hq
      exact Or.inl ⟨hp.1, hq.1, Or.inl ((T p q).mp ⟨k, hk, hp.2, hq.2⟩)⟩
    · -- the uncovered rest
      have hp := (flatRem_bits _ _ _).mp hp
      have hq := (flatRem_bits _ _ _).mp hq
      exact Or.inl ⟨hp.1, hq.1, Or.inr ⟨fun h => hp.2 ((hcov p).mp h), fun h => hq.2 ((hcov q).mp h)⟩⟩
  · rintro (⟨hpc, hqc, hS | ⟨hnp, hnq⟩⟩ | ⟨hpc, hqc, hS⟩)
    · -- both inside cs, together before: their kind, merged, or its part inside cs
      obtain ⟨k, hk, hp, hq⟩ := (T p q).mpr hS
      have hb := mem_inter.mpr ⟨hpc, hp⟩
      by_cases hm : cs &&& k.cpuset = k.cpuset
      · exact ⟨_, (M _).mpr (Or.inr (Or.inl ⟨k, hk, hm, rfl⟩)), hp, hq⟩
      · exact ⟨_, (M _).mpr (Or.inr (Or.inr (Or.inl ⟨k, hk, ⟨Bits.ne_zero_iff.mpr ⟨p, hb⟩, hm⟩, rfl⟩))), hb,
          mem_inter.mpr ⟨hqc, hq⟩⟩
    · -- both inside cs, both uncovered before: the remainder kind
      have hb := (flatRem_bits st.kinds cs p).mpr ⟨hpc, fun h => hnp ((hcov p).mpr h)⟩
      exact ⟨_, (M _).mpr (Or.inr (Or.inr (Or.inr ⟨Bits.ne_zero_iff.mpr ⟨p, hb⟩, rfl⟩))), hb,
        (flatRem_bits _ _ _).mpr ⟨hqc, fun h => hnq ((hcov q).mpr h)⟩⟩
    · -- both outside cs, together before: what is left of their kind
      obtain ⟨k, hk, hp, hq⟩ := (T p q).mpr hS
      have hm : cs &&& k.cpuset ≠ k.cpuset := fun hm => by
        rw [(and_eq_right_iff_bits cs k.cpuset).mp hm p hp] at hpc; cases hpc
      exact ⟨_, (M _).mpr (Or.inl ⟨k, hk, hm, rfl⟩), mem_andnot.mpr ⟨hp, hpc⟩, mem_andnot.mpr ⟨hq, hqc⟩⟩

theorem internalRegister_covers {st : State} (hne : NonEmpty st.kinds) (hdj : Disjoint st.kinds)
    (cs : Nat) (f : Int) (infos : List Info) (fl : Nat) (hcs : cs ≠ 0) (hfl : fl / 2 = 0) (p : Nat) :
    Covers (internalRegister st cs f infos fl).1.kinds p ↔ Covers st.kinds p ∨ cs.testBit p = true := by
  rw [← together_self, internalRegister_together hne hdj (fun _ _ => Iff.rfl) cs f infos fl hcs hfl p p]
  unfold regSame
  rw [together_self]
  cases cs.testBit p <;> simp [Classical.em]

/-! ### capacity -/

theorem lt_two_pow_bitLen (x : Nat) : x < 2 ^ bitLen x := by
  unfold bitLen
  split
  · rename_i h; rw [h]; exact Nat.one_pos
  · exact Nat.lt_log2_self

theorem capFor_ge (nr : Nat) : 2 * nr + 1 ≤ capFor nr := by
  have h2 := lt_two_pow_bitLen (2 * nr)
  have h3 : 2 ^ (bitLen (2 * nr) + 1) = 2 * 2 ^ bitLen (2 * nr) := by rw [Nat.pow_succ, Nat.mul_comm]
  unfold capFor
  rw [Nat.add_sub_cancel]
  simp only []
  split <;> omega

theorem internalRegister_cap (st : State) (cs : Nat) (f : Int) (infos : List Info) (fl : Nat)
    (hcs : cs ≠ 0) (hfl : fl / 2 = 0) (h : st.kinds.length + st.stale.length ≤ st.alloc) :
    let st' := (internalRegister st cs f infos fl).1
    st'.kinds.length + st'.stale.length ≤ st'.alloc := by
  have h1 := (regLoop_len f infos (decide (fl % 2 = 1)) st.kinds cs).1
  have h2 := regAdded_len f infos (decide (fl % 2 = 1)) st.kinds cs
  have h3 := capFor_ge st.kinds.length
  simp only [internalRegister, hcs, hfl, if_false, ne_eq, not_true_eq_false, List.length_append, List.length_drop]
  omega

theorem internalRegister_root (st : State) (cs : Nat) (f : Int) (infos : List Info) (fl : Nat) :
    (internalRegister st cs f infos fl).1.root = st.root := by
  unfold internalRegister
  split
  · rfl
  · split <;> rfl

/-! ### everything but `eff` / `dupd`: transfer along permutations of the "core" of the kinds -/

abbrev Core := Nat × Int × List Info
def Kind.core (k : Kind) : Core := (k.cpuset, k.forced, k.infos)

def SameCore (l l' : List Kind) : Prop := (l'.map Kind.core).Perm (l.map Kind.core)

theorem SameCore.refl (l : List Kind) : SameCore l l := List.Perm.refl _
theorem SameCore.trans {a b c : List Kind} (h1 : SameCore a b) (h2 : SameCore b c) : SameCore a c :=
  List.Perm.trans h2 h1
theorem SameCore.symm {l l' : List Kind} (h : SameCore l l') : SameCore l' l := List.Perm.symm h
theorem SameCore.length {l l' : List Kind} (h : SameCore l l') : l'.length = l.length := by
  have := h.length_eq; simpa using this

theorem SameCore.of_map {l : List Kind} (g : Kind → Kind) (hg : ∀ k, (g k).core = k.core) :
    SameCore l (l.map g) := by
  unfold SameCore
  rw [List.map_map, show Kind.core ∘ g = Kind.core from funext hg]

theorem SameCore.of_perm {l l' : List Kind} (h : l'.Perm l) : SameCore l l' := h.map _

theorem forall_core {l l' : List Kind} (h : SameCore l l') {P : Core → Prop}
    (hl : ∀ k ∈ l, P k.core) : ∀ k ∈ l', P k.core := by
  intro k hk
  have : k.core ∈ l.map Kind.core := h.mem_iff.mp (List.mem_map_of_mem hk)
  obtain ⟨k0, hk0, e⟩ := List.mem_map.mp this
  rw [← e]; exact hl k0 hk0

theorem exists_core {l l' : List Kind} (h : SameCore l l') {P : Core → Prop}
    (hl : ∃ k ∈ l, P k.core) : ∃ k ∈ l', P k.core := by
  obtain ⟨k, hk, hp⟩ := hl
  have : k.core ∈ l'.map Kind.core := h.mem_iff.mpr (List.mem_map_of_mem hk)
  obtain ⟨k0, hk0, e⟩ := List.mem_map.mp this
  exact ⟨k0, hk0, by rw [e]; exact hp⟩

theorem pairwise_core {l l' : List Kind} (h : SameCore l l') {R : Core → Core → Prop}
    (hs : ∀ {a b}, R a b → R b a) (hl : l.Pairwise (fun a b => R a.core b.core)) :
    l'.Pairwise (fun a b => R a.core b.core) :=
  List.pairwise_map.mp ((List.Perm.symm h).pairwise (List.pairwise_map.mpr hl) hs)

theorem covers_core {l l' : List Kind} (h : SameCore l l') (p : Nat) : Covers l' p ↔ Covers l p :=
  ⟨exists_core h.symm (P := fun c => c.1.testBit p = true), exists_core h (P := fun c => c.1.testBit p = true)⟩

theorem Part.transfer {l l' : List Kind} (h : SameCore l l') (P : Part l) : Part l' where
  ne := forall_core h (P := fun c => c.1 ≠ 0) P.ne
  dj := pairwise_core h (R := fun a b => a.1 &&& b.1 = 0) (fun {a b} hab => by rw [Nat.and_comm]; exact hab) P.dj
  nd := forall_core h (P := fun c => c.2.2.Nodup) P.nd

/-! ### sorting and renumbering -/

theorem insertBy_eq (key : Kind → Nat) (k : Kind) (l : List Kind) :
    insertBy key k l = l.takeWhile (fun x => decide (key x ≤ key k)) ++ k :: l.dropWhile (fun x => decide (key x ≤ key k)) :=
  InsertSort.insertRec_eq _ k (insertBy key k) rfl (fun _ _ h => if_neg (by simpa using h)) (fun _ _ h => if_pos (by simpa using h)) l

theorem insertBy_perm (key : Kind → Nat) (k : Kind) (l : List Kind) : (insertBy key k l).Perm (k :: l) := by
  rw [insertBy_eq]; exact InsertSort.split_perm _ k l

theorem sortBy_perm (key : Kind → Nat) (l : List Kind) : (sortBy key l).Perm l := by
  induction l with
  | nil => exact List.Perm.refl _
  | cons x xs ih =>
    unfold sortBy
    exact (insertBy_perm key x _).trans (List.Perm.cons x ih)

theorem renumber_map {β : Type} (g : Kind → β) (hg : ∀ (k : Kind) (e : Int), g { k with eff := e } = g k) (i : Nat)
    (l : List Kind) : (renumber i l).map g = l.map g := by
  induction l generalizing i with
  | nil => rfl
  | cons x xs ih => simp only [renumber, List.map_cons, ih (i + 1), hg]

theorem length_renumber (i : Nat) (l : List Kind) : (renumber i l).length = l.length := by
  induction l generalizing i with
  | nil => rfl
  | cons x xs ih => simp only [renumber, List.length_cons, ih (i + 1)]

theorem renumber_eff (i : Nat) (l : List Kind) (j : Nat) (h : j < (renumber i l).length) :
    (renumber i l)[j].eff = ((i + j : Nat) : Int) := by
  induction l generalizing i j with
  | nil => exact absurd h (Nat.not_lt_zero _)
  | cons x xs ih =>
    cases j with
    | zero => rfl
    | succ j =>
      simp only [renumber, List.getElem_cons_succ]
      rw [ih (i + 1) j, Nat.add_assoc, Nat.add_comm 1 j]

theorem rank_two (strat : Strategy) (a b : Kind) (t : List Kind) :
    rank strat (a :: b :: t) = match chooseKey strat (a :: b :: t) with
      | some key => finalize key (a :: b :: t)
      | none => clearEff (a :: b :: t) := rfl

theorem rank_sameCore (strat : Strategy) (ks : List Kind) : SameCore ks (rank strat ks) := by
  unfold rank
  split
  · exact SameCore.refl _
  · exact SameCore.of_map (l := [_]) (fun k => { k with eff := 0 }) (fun _ => rfl)
  · split
    · unfold finalize SameCore
      rw [renumber_map Kind.core fun _ _ => rfl]
      exact (sortBy_perm _ ks).map _
    · exact SameCore.of_map _ (fun _ => rfl)

def EffShape (ks : List Kind) : Prop :=
  (∀ k ∈ ks, k.eff = -1) ∨ (∀ (i : Nat) (h : i < ks.length), ks[i].eff = (i : Int))

/-! ### restrict: the kinds cut by the new root cpuset -/

/-- every cpuset cut by `r`, emptied kinds dropped (`restrictKinds` before it re-ranks) -/
abbrev cutKinds (r : Nat) (ks : List Kind) : List Kind :=
  (ks.map (fun k => { k with cpuset := k.cpuset &&& r })).filter (fun k => decide (k.cpuset ≠ 0))

theorem mem_cutKinds {r : Nat} {ks : List Kind} {k : Kind} :
    k ∈ cutKinds r ks ↔ ∃ k0 ∈ ks, k0.cpuset &&& r ≠ 0 ∧ k = { k0 with cpuset := k0.cpuset &&& r } := by
  simp only [List.mem_filter, List.mem_map, decide_eq_true_eq]
  constructor
  · rintro ⟨⟨k0, hk0, rfl⟩, hne⟩; exact ⟨k0, hk0, hne, rfl⟩
  · rintro ⟨k0, hk0, hne, rfl⟩; exact ⟨⟨k0, hk0, rfl⟩, hne⟩

theorem restrict_together {ks : List Kind} {S : Same} (T : ∀ p q, Together ks p q ↔ S p q) (r : Nat) :
    ∀ p q, Together (cutKinds r ks) p q ↔ restrictSame S r p q := by
  intro p q
  constructor
  · rintro ⟨k, hk, hp, hq⟩
    obtain ⟨k0, hk0, _, rfl⟩ := mem_cutKinds.mp hk
    exact ⟨(T p q).mp ⟨k0, hk0, and_sub_left _ _ p hp, and_sub_left _ _ q hq⟩, and_sub_right _ _ p hp,
      and_sub_right _ _ q hq⟩
  · rintro ⟨hS, hrp, hrq⟩
    obtain ⟨k, hk, hp, hq⟩ := (T p q).mpr hS
    have hb := mem_inter.mpr ⟨hp, hrp⟩
    exact ⟨_, mem_cutKinds.mpr ⟨k, hk, Bits.ne_zero_iff.mpr ⟨p, hb⟩, rfl⟩, hb, mem_inter.mpr ⟨hq, hrq⟩⟩

theorem covers_cutKinds (r : Nat) (ks : List Kind) (p : Nat) :
    Covers (cutKinds r ks) p ↔ Covers ks p ∧ r.testBit p = true := by
  rw [← together_self, restrict_together (fun _ _ => Iff.rfl) r p p]
  unfold restrictSame
  rw [together_self, and_self]

theorem part_cutKinds {ks : List Kind} (P : Part ks) (r : Nat) : Part (cutKinds r ks) := by
  refine ⟨?_, ?_, ?_⟩
  · intro k hk
    obtain ⟨k0, _, hne, rfl⟩ := mem_cutKinds.mp hk
    exact hne
  · exact List.Pairwise.filter _ (List.pairwise_map.mpr
      (P.dj.imp fun h => disj_mono (and_sub_left _ _) (and_sub_left _ _) h))
  · intro k hk
    obtain ⟨k0, hk0, _, rfl⟩ := mem_cutKinds.mp hk
    exact P.nd k0 hk0

theorem restrictKinds_cases (strat : Strategy) (st : State) (r : Nat) :
    (cutKinds r st.kinds = st.kinds.map (fun k => { k with cpuset := k.cpuset &&& r }) ∧
      restrictKinds strat st r =
        { st with kinds := st.kinds.map (fun k => { k with cpuset := k.cpuset &&& r }), root := r }) ∨
    (∃ n, 0 < n ∧ (cutKinds r st.kinds).length + n = st.kinds.length ∧
      restrictKinds strat st r = { st with kinds := rank strat (cutKinds r st.kinds), root := r,
                                           stale := List.replicate n (lastArr st.kinds) ++ st.stale }) := by
  have hle : (cutKinds r st.kinds).length ≤ (st.kinds.map _).length := List.length_filter_le _ _
  unfold restrictKinds
  simp only []
  split
  · rename_i h
    have e : cutKinds r st.kinds = st.kinds.map (fun k => { k with cpuset := k.cpuset &&& r }) :=
      List.filter_eq_self.mpr (List.length_filter_eq_length_iff.mp (Nat.le_antisymm hle (Nat.le_of_sub_eq_zero h)))
    exact Or.inl ⟨e, congrArg (fun l => ({ st with kinds := l, root := r } : State)) e⟩
  · rename_i h
    refine Or.inr ⟨_, Nat.pos_of_ne_zero h, ?_, rfl⟩
    rw [Nat.add_sub_cancel' hle, List.length_map]

theorem restrictKinds_root (strat : Strategy) (st : State) (r : Nat) : (restrictKinds strat st r).root = r := by
  rcases restrictKinds_cases strat st r with ⟨_, e⟩ | ⟨n, _, _, e⟩ <;> rw [e]

theorem restrictKinds_sameCore (strat : Strategy) (st : State) (r : Nat) :
    SameCore (cutKinds r st.kinds) (restrictKinds strat st r).kinds := by
  rcases restrictKinds_cases strat st r with ⟨e1, e⟩ | ⟨n, _, _, e⟩ <;> rw [e]
  · rw [e1]; exact SameCore.refl _
  · exact rank_sameCore strat _

/-! ### what the state keeps by itself -/

structure Wf (st : State) : Prop where
  part : Part st.kinds
  cap : st.kinds.length + st.stale.length ≤ st.alloc

theorem restrictKinds_wf (strat : Strategy) {st : State} (W : Wf st) (r : Nat) : Wf (restrictKinds strat st r) := by
  have hc := W.cap
  rcases restrictKinds_cases strat st r with ⟨e1, e⟩ | ⟨n, _, hn, e⟩ <;> rw [e]
  · refine ⟨e1 ▸ part_cutKinds W.part r, ?_⟩
    show (List.map _ _).length + _ ≤ _
    rw [List.length_map]; exact hc
  · refine ⟨(part_cutKinds W.part r).transfer (rank_sameCore strat _), ?_⟩
    show (rank strat _).length + (List.replicate _ _ ++ st.stale).length ≤ st.alloc
    rw [(rank_sameCore strat _).length, List.length_append, List.length_replicate]
    omega

/-! ### XML reload is a re-registration that reproduces the array (up to `eff`, `dupd`) -/

def fresh (k : Kind) : Kind := { k with eff := -1, dupd := false }

theorem regLoop_all_diff (f : Int) (infos : List Info) (o : Bool) :
    ∀ (A : List Kind) (cs : Nat), cs ≠ 0 → NonEmpty A → (∀ a ∈ A, cs &&& a.cpuset = 0) →
      regLoop f infos o A cs = (A, [], cs) := by
  intro A
  induction A with
  | nil => intro cs _ _ _; rfl
  | cons a A ih =>
    intro cs hcs hne hd
    have hr := rel_different_of_disj hcs (hne a List.mem_cons_self) (hd a List.mem_cons_self)
    rw [regLoop_diff f infos o a A cs hcs hr,
      ih cs hcs (fun x hx => hne x (List.mem_cons_of_mem _ hx)) (fun x hx => hd x (List.mem_cons_of_mem _ hx))]

theorem xmlReload_eq (strat : Strategy) {st : State} (P : Part st.kinds) :
    ∃ a, st.kinds.length ≤ a ∧ xmlReload strat st = ⟨rank strat (st.kinds.map fresh), a, [], st.root⟩ := by
  have H := foldl_inv (fun s k => (internalRegister s k.cpuset k.forced k.infos 1).1)
    (fun pre s => ∃ a, pre.length ≤ a ∧ s = ⟨pre.map fresh, a, [], st.root⟩) st.kinds ?_
    st.kinds [] { root := st.root } rfl ⟨0, Nat.le_refl _, rfl⟩
  · obtain ⟨a, ha, e⟩ := H
    exact ⟨a, ha, by unfold xmlReload; simp only []; rw [e]⟩
  -- on a partition the kind re-registered next is disjoint from those already there: it is appended
  rintro A b B _ e ⟨a, ha, rfl⟩
  rw [← e] at P
  have hb : b.cpuset ≠ 0 := P.ne b (List.mem_append_right _ List.mem_cons_self)
  have hloop := regLoop_all_diff b.forced b.infos true (A.map fresh) b.cpuset hb
    (fun x hx => by
      obtain ⟨x0, hx0, e⟩ := List.mem_map.mp hx
      rw [← e]; exact P.ne x0 (List.mem_append_left _ hx0))
    (fun x hx => by
      obtain ⟨x0, hx0, e⟩ := List.mem_map.mp hx
      rw [← e, Nat.and_comm]
      exact (List.pairwise_append.mp P.dj).2.2 x0 hx0 b List.mem_cons_self)
  have hinf : addInfos [] b.infos = b.infos :=
    addInfos_nil_of_nodup _ (P.nd b (List.mem_append_right _ List.mem_cons_self))
  have hcap := capFor_ge A.length
  exact ⟨max a (capFor A.length), by rw [List.length_append, List.length_singleton]; omega,
    by simp [internalRegister, hb, regAdded, hloop, hinf, fresh]⟩

theorem xmlReload_sameCore (strat : Strategy) {st : State} (P : Part st.kinds) :
    SameCore st.kinds (xmlReload strat st).kinds := by
  obtain ⟨a, _, e⟩ := xmlReload_eq strat P
  rw [e]
  exact (SameCore.of_map fresh (fun _ => rfl)).trans (rank_sameCore strat _)

/-! ### what a public call does to the array -/

inductive Effect
  | reg (cs : Nat) (f : Int) (infos : List Info)
  | cut (r : Nat)
  | none

/-- a valid register (negative efficiencies normalised), a restrict that leaves something of the root cpuset,
    or a call that leaves the kinds alone up to order, `eff` and `dupd` -/
def effect (root : Nat) : Op → Effect
  | .register (some cs) f i 0 => if cs = 0 then .none else .reg cs (if f < 0 then -1 else f) i
  | .restrict set => if root &&& set = 0 then .none else .cut (root &&& set)
  | _ => .none

/-- the shape of every reference fold over a history (`ghostStep`, `absStep`, `clStep`): a valid register and a restrict that
    leaves something of the root cpuset update the abstract state, every other call leaves it alone -/
def effStep {α : Type} (root : α → Nat) (reg : α → Nat → Int → List Info → α) (cut : α → Nat → α) (a : α) : Op → α
  | .register (some cs) f i 0 => if cs = 0 then a else reg a cs (if f < 0 then -1 else f) i
  | .register _ _ _ _ => a
  | .restrict set => if root a &&& set = 0 then a else cut a (root a &&& set)
  | _ => a

theorem effStep_eq {α : Type} (root : α → Nat) (reg : α → Nat → Int → List Info → α) (cut : α → Nat → α) (a : α)
    (op : Op) : effStep root reg cut a op = match effect (root a) op with
      | .reg c f i => reg a c f i
      | .cut r => cut a r
      | .none => a := by
  cases op with
  | register cs f i fl =>
    cases cs with
    | none => rfl
    | some c =>
      cases fl with
      | zero =>
        show (if c = 0 then a else _) = match (if c = 0 then Effect.none else _) with
          | .reg .. => _ | .cut _ => _ | .none => _
        split <;> rfl
      | succ n => rfl
  | restrict set =>
    show (if root a &&& set = 0 then a else _) = match (if root a &&& set = 0 then Effect.none else _) with
      | .reg .. => _ | .cut _ => _ | .none => _
    split <;> rfl
  | dup => rfl
  | xml => rfl
  | refresh => rfl

theorem register_einval (strat : Strategy) (st : State) (cs : Option Nat) (f : Int) (infos : List Info)
    (fl : Nat) (h : fl ≠ 0 ∨ cs = none ∨ cs = some 0) : register strat st cs f infos fl = (st, .einval) := by
  unfold register
  by_cases hf : fl = 0
  · rw [if_neg (not_not_intro hf)]
    rcases h with h | h | h
    · exact absurd hf h
    · subst h; rfl
    · subst h; rfl
  · rw [if_pos hf]

theorem register_valid (strat : Strategy) (st : State) {c : Nat} (hc : c ≠ 0) (f : Int) (infos : List Info) :
    register strat st (some c) f infos 0 =
      ({ (internalRegister st c (if f < 0 then -1 else f) infos 1).1 with
         kinds := rank strat (internalRegister st c (if f < 0 then -1 else f) infos 1).1.kinds }, .ok) := by
  simp [register, hc]

theorem register_args (cs : Option Nat) (fl : Nat) :
    (fl ≠ 0 ∨ cs = none ∨ cs = some 0) ∨ ∃ c, c ≠ 0 ∧ cs = some c ∧ fl = 0 := by
  by_cases h : fl ≠ 0 ∨ cs = none ∨ cs = some 0
  · exact Or.inl h
  · cases cs with
    | none => exact absurd (Or.inr (Or.inl rfl)) h
    | some c =>
      exact Or.inr ⟨c, fun hc => h (Or.inr (Or.inr (by rw [hc]))), rfl,
        Classical.byContradiction fun hf => h (Or.inl hf)⟩

theorem effect_register_einval (root : Nat) {cs : Option Nat} (f : Int) (i : List Info) {fl : Nat}
    (h : fl ≠ 0 ∨ cs = none ∨ cs = some 0) : effect root (.register cs f i fl) = .none := by
  cases cs with
  | none => rfl
  | some c =>
    cases fl with
    | zero =>
      rcases h with h | h | h
      · exact absurd rfl h
      · cases h
      · cases h; rfl
    | succ n => rfl

theorem effect_register_valid (root : Nat) {c : Nat} (hc : c ≠ 0) (f : Int) (i : List Info) :
    effect root (.register (some c) f i 0) = .reg c (if f < 0 then -1 else f) i :=
  if_neg hc

theorem step_cases (strat : Strategy) (st : State) (op : Op) :
    match effect st.root op with
    | .reg c f i => c ≠ 0 ∧ step strat st op = { (internalRegister st c f i 1).1 with
                                                  kinds := rank strat (internalRegister st c f i 1).1.kinds }
    | .cut r => step strat st op = restrictKinds strat st r
    | .none => step strat st op = st ∨ step strat st op = dup st ∨ step strat st op = xmlReload strat st ∨
               step strat st op = refresh strat st := by
  cases op with
  | register cs f i fl =>
    rcases register_args cs fl with h | ⟨c, hc, rfl, rfl⟩
    · rw [effect_register_einval st.root f i h]
      exact Or.inl (congrArg Prod.fst (register_einval strat st cs f i fl h))
    · rw [effect_register_valid st.root hc]
      exact ⟨hc, congrArg Prod.fst (register_valid strat st hc f i)⟩
  | restrict set =>
    show match (if st.root &&& set = 0 then Effect.none else Effect.cut (st.root &&& set)) with
      | .reg c f i => _ | .cut r => (restrict strat st set).1 = restrictKinds strat st r
      | .none => (restrict strat st set).1 = st ∨ _
    unfold restrict
    by_cases h : st.root &&& set = 0
    · rw [if_pos h, if_pos h]; exact Or.inl rfl
    · rw [if_neg h, if_neg h]
  | dup => exact Or.inr (Or.inl rfl)
  | xml => exact Or.inr (Or.inr (Or.inl rfl))
  | refresh => exact Or.inr (Or.inr (Or.inr rfl))

theorem step_wf (strat : Strategy) {st : State} (W : Wf st) (op : Op) : Wf (step strat st op) := by
  have h := step_cases strat st op
  generalize effect st.root op = e at h
  cases e with
  | reg c f i =>
    obtain ⟨hc, e⟩ := h
    rw [e]
    refine ⟨(internalRegister_part W.part c f i 1 hc rfl).transfer (rank_sameCore strat _), ?_⟩
    show (rank strat _).length + _ ≤ _
    rw [(rank_sameCore strat _).length]
    exact internalRegister_cap st c f i 1 hc rfl W.cap
  | cut r => rw [show step strat st op = _ from h]; exact restrictKinds_wf strat W r
  | none =>
    rcases (show _ ∨ _ ∨ _ ∨ _ from h) with e | e | e | e <;> rw [e]
    · exact W
    · refine ⟨W.part.transfer (SameCore.of_map _ (fun _ => rfl)), ?_⟩
      show (List.map _ _).length + ([] : List Bool).length ≤ st.kinds.length
      rw [List.length_map]; exact Nat.le_refl _
    · obtain ⟨a, ha, e⟩ := xmlReload_eq strat W.part
      rw [e]
      refine ⟨W.part.transfer ((SameCore.of_map fresh (fun _ => rfl)).trans (rank_sameCore strat _)), ?_⟩
      show (rank strat _).length + 0 ≤ a
      rw [(rank_sameCore strat _).length, List.length_map]; exact ha
    · refine ⟨W.part.transfer (rank_sameCore strat _), ?_⟩
      show (rank strat _).length + _ ≤ _
      rw [(rank_sameCore strat _).length]; exact W.cap

theorem step_effect (strat : Strategy) {st : State} (P : Part st.kinds) (op : Op) :
    match effect st.root op with
    | .reg c f i => c ≠ 0 ∧ SameCore (internalRegister st c f i 1).1.kinds (step strat st op).kinds ∧
                    (step strat st op).root = st.root
    | .cut r => SameCore (cutKinds r st.kinds) (step strat st op).kinds ∧ (step strat st op).root = r
    | .none => SameCore st.kinds (step strat st op).kinds ∧ (step strat st op).root = st.root := by
  have h := step_cases strat st op
  generalize effect st.root op = e at h
  cases e with
  | reg c f i =>
    obtain ⟨hc, e⟩ := h
    rw [e]
    exact ⟨hc, rank_sameCore strat _, internalRegister_root st c f i 1⟩
  | cut r =>
    rw [show step strat st op = _ from h]
    exact ⟨restrictKinds_sameCore strat st r, restrictKinds_root strat st r⟩
  | none =>
    rcases (show _ ∨ _ ∨ _ ∨ _ from h) with e | e | e | e <;> rw [e]
    · exact ⟨SameCore.refl _, rfl⟩
    · exact ⟨SameCore.of_map _ (fun _ => rfl), rfl⟩
    · obtain ⟨a, _, e'⟩ := xmlReload_eq strat P
      exact ⟨xmlReload_sameCore strat P, by rw [e']⟩
    · exact ⟨rank_sameCore strat _, rfl⟩

/-! ### histories; the variable HWLOC_CPUKINDS_RANKING may change between the calls -/

/-- one public call together with the value of HWLOC_CPUKINDS_RANKING in force when it runs -/
abbrev EOp := Strategy × Op

def stepE (st : State) (p : EOp) : State := step p.1 st p.2

def runE (root : Nat) (h : List EOp) : State := h.foldl stepE { root := root }

theorem runE_const (strat : Strategy) (root : Nat) (h : List Op) :
    runE root (h.map (fun o => (strat, o))) = run strat root h := by
  unfold runE run
  rw [List.foldl_map]
  rfl

theorem map_snd_pair (strat : Strategy) (h : List Op) : (h.map (fun o => (strat, o))).map (·.2) = h := by
  rw [List.map_map]; exact List.map_id h

theorem wf_init (root : Nat) : Wf { root := root } := ⟨part_nil, Nat.le_refl _⟩

theorem runE_wf (root : Nat) (h : List EOp) : Wf (runE root h) :=
  List.foldlRecOn h stepE (wf_init root) (fun _ W p _ => step_wf p.1 W p.2)

theorem runE_rel {α : Type} (r : State → α → Prop) (astep : α → Op → α) (a0 : α) (root : Nat)
    (h0 : r { root := root } a0)
    (hstep : ∀ (s : Strategy) (st : State) (a : α) (op : Op), Wf st → r st a → r (step s st op) (astep a op))
    (h : List EOp) : r (runE root h) ((h.map (·.2)).foldl astep a0) := by
  unfold runE
  rw [List.foldl_map]
  exact (List.foldl_rel (r := fun st a => Wf st ∧ r st a) ⟨wf_init root, h0⟩
    (fun p _ st a H => ⟨step_wf p.1 H.1 p.2, hstep p.1 st a p.2 H.1 H.2⟩)).2

/-! ### the invariant over histories, against a reference ("ghost") coverage and info assignment -/

/-- reference semantics of a history: root cpuset, covered PUs, info pairs owed to each PU -/
structure Ghost where
  root : Nat
  cov : Nat := 0
  ow : Nat → Info → Prop := fun _ _ => False

def ghostStep (g : Ghost) : Op → Ghost
  | .register (some cs) _ i 0 =>
    if cs = 0 then g
    else { g with cov := g.cov ||| cs, ow := fun p x => g.ow p x ∨ (cs.testBit p = true ∧ x ∈ i) }
  | .register _ _ _ _ => g
  | .restrict set =>
    if g.root &&& set = 0 then g
    else { root := g.root &&& set, cov := g.cov &&& (g.root &&& set),
           ow := fun p x => g.ow p x ∧ (g.root &&& set).testBit p = true }
  | _ => g

def runGhost (root : Nat) (h : List Op) : Ghost := h.foldl ghostStep { root := root }

/-- the part of the invariant that only depends on the cores of the kinds -/
structure KInv (ks : List Kind) (cov : Nat) (ow : Nat → Info → Prop) : Prop where
  ne : NonEmpty ks
  dj : Disjoint ks
  nd : InfosNodup ks
  cov : ∀ p, Covers ks p ↔ cov.testBit p = true
  inf : ∀ k ∈ ks, ∀ p, k.cpuset.testBit p = true → ∀ x, x ∈ k.infos ↔ ow p x
  frc : ∀ k ∈ ks, -1 ≤ k.forced

theorem KInv.transfer {l l' : List Kind} (h : SameCore l l') {cov : Nat} {ow : Nat → Info → Prop}
    (H : KInv l cov ow) : KInv l' cov ow :=
  have P := Part.transfer h ⟨H.ne, H.dj, H.nd⟩
  { ne := P.ne, dj := P.dj, nd := P.nd, cov := fun p => (covers_core h p).trans (H.cov p)
    inf := forall_core h (P := fun c => ∀ p, c.1.testBit p = true → ∀ x, x ∈ c.2.2 ↔ ow p x) H.inf
    frc := forall_core h (P := fun c => -1 ≤ c.2.1) H.frc }

structure Inv (st : State) (g : Ghost) : Prop where
  k : KInv st.kinds g.cov g.ow
  owz : ∀ p x, g.ow p x → g.cov.testBit p = true
  root : g.root = st.root
  cap : st.kinds.length + st.stale.length ≤ st.alloc
  eff : EffShape st.kinds

theorem ghostStep_eq (g : Ghost) (op : Op) :
    ghostStep g op = effStep Ghost.root
      (fun g cs _ i => { g with cov := g.cov ||| cs, ow := fun p x => g.ow p x ∨ (cs.testBit p = true ∧ x ∈ i) })
      (fun g r => { root := r, cov := g.cov &&& r, ow := fun p x => g.ow p x ∧ r.testBit p = true }) g op := by
  cases op with
  | register cs f i fl => cases cs <;> cases fl <;> rfl
  | _ => rfl

/-! ### get_by_cpuset -/

theorem sub_meets {s a : Nat} (hs : s ≠ 0) (h : Sub s a) : Meets s a := by
  obtain ⟨i, hi⟩ := Bits.ne_zero_iff.mp hs
  exact ⟨i, hi, h i hi⟩

theorem sub_unique {ks : List Kind} (hdj : Disjoint ks) {s : Nat} (hs : s ≠ 0) (i j : Nat)
    (hi : i < ks.length) (hj : j < ks.length) (h1 : Sub s ks[i].cpuset) (h2 : Sub s ks[j].cpuset) : i = j :=
  have ⟨p, hp⟩ := Bits.ne_zero_iff.mp hs
  idx_unique hdj hi hj (h1 p hp) (h2 p hp)

theorem byCpusetLoop_cons (k : Kind) (ks : List Kind) (s i : Nat) :
    byCpusetLoop (k :: ks) s i = match rel s k.cpuset with
      | .equal | .included => .idx i
      | .intersects | .contains => .err .exdev
      | .different => byCpusetLoop ks s (i + 1) := rfl

/-- the loop stops at the first kind the set meets: inside it — its index; otherwise EXDEV, and then the set lies
    inside no kind at all, as the later ones are disjoint from this one; ENOENT when it meets none -/
theorem byCpusetLoop_cases (s : Nat) (hs : s ≠ 0) :
    ∀ (ks : List Kind) (i : Nat), NonEmpty ks → Disjoint ks →
      (∃ n, ∃ h : n < ks.length, byCpusetLoop ks s i = .idx (i + n) ∧ Sub s ks[n].cpuset) ∨
      (byCpusetLoop ks s i = .err .exdev ∧ (∃ k ∈ ks, Meets s k.cpuset) ∧ ∀ k ∈ ks, ¬ Sub s k.cpuset) ∨
      (byCpusetLoop ks s i = .err .enoent ∧ ∀ k ∈ ks, ¬ Meets s k.cpuset) := by
  intro ks
  induction ks with
  | nil => intro i _ _; exact Or.inr (Or.inr ⟨rfl, fun _ h => (nomatch h)⟩)
  | cons k ks ih =>
    intro i hne hdj
    have stop : s &&& k.cpuset ≠ 0 → s &&& k.cpuset ≠ s →
        (∃ x ∈ k :: ks, Meets s x.cpuset) ∧ ∀ x ∈ k :: ks, ¬ Sub s x.cpuset := by
      intro hnz hnl
      obtain ⟨p, hp⟩ := Bits.ne_zero_iff.mp hnz
      obtain ⟨hp1, hp2⟩ := mem_inter.mp hp
      refine ⟨⟨k, List.mem_cons_self, p, hp1, hp2⟩,
        List.forall_mem_cons.mpr ⟨fun h => hnl (Bits.and_eq_left_iff.mpr h), fun x hx hsx => ?_⟩⟩
      exact (and_eq_zero_iff_bits _ _).mp ((List.pairwise_cons.mp hdj).1 x hx) p hp2 (hsx p hp1)
    rw [byCpusetLoop_cons]
    rcases rel_cases s k.cpuset with ⟨hr, e⟩ | ⟨hr, _, hl⟩ | ⟨hr, _, hnl, hrr⟩ | ⟨hr, _, _, _, hz⟩ |
      ⟨hr, _, hnl, _, hnz⟩ <;> rw [hr]
    · exact Or.inl ⟨0, Nat.zero_lt_succ _, rfl, e ▸ fun _ h => h⟩
    · exact Or.inl ⟨0, Nat.zero_lt_succ _, rfl, Bits.and_eq_left_iff.mp hl⟩
    · exact Or.inr (Or.inl ⟨rfl, stop (fun h => hne k List.mem_cons_self (hrr.symm.trans h)) hnl⟩)
    · have hnm : ¬ Meets s k.cpuset := (not_meets_iff _ _).mpr hz
      rcases ih (i + 1) (fun x hx => hne x (List.mem_cons_of_mem _ hx)) (List.pairwise_cons.mp hdj).2 with
        ⟨n, hn, e, hsub⟩ | ⟨e, ⟨x, hx, hm⟩, hall⟩ | ⟨e, hall⟩
      · exact Or.inl ⟨n + 1, Nat.succ_lt_succ hn, by rw [e, Nat.add_assoc, Nat.add_comm 1 n], hsub⟩
      · exact Or.inr (Or.inl ⟨e, ⟨x, List.mem_cons_of_mem _ hx, hm⟩,
          List.forall_mem_cons.mpr ⟨fun hsy => hnm (sub_meets hs hsy), hall⟩⟩)
      · exact Or.inr (Or.inr ⟨e, List.forall_mem_cons.mpr ⟨hnm, hall⟩⟩)
    · exact Or.inr (Or.inl ⟨rfl, stop hnz hnl⟩)

theorem getByCpuset_some (st : State) {s : Nat} (hs : s ≠ 0) :
    getByCpuset st (some s) 0 = byCpusetLoop st.kinds s 0 := by
  simp [getByCpuset, hs]

/-- the three outcomes exclude each other on a partition, so each is characterised exactly -/
theorem byCpusetLoop_exact (s : Nat) (hs : s ≠ 0) (ks : List Kind) (hne : NonEmpty ks) (hdj : Disjoint ks) :
    (∀ j, byCpusetLoop ks s 0 = .idx j ↔ ∃ hj : j < ks.length, Sub s ks[j].cpuset) ∧
    (byCpusetLoop ks s 0 = .err .exdev ↔ (∃ k ∈ ks, Meets s k.cpuset) ∧ ∀ k ∈ ks, ¬ Sub s k.cpuset) ∧
    (byCpusetLoop ks s 0 = .err .enoent ↔ ∀ k ∈ ks, ¬ Meets s k.cpuset) ∧
    byCpusetLoop ks s 0 ≠ .err .einval ∧ byCpusetLoop ks s 0 ≠ .err .ok := by
  have xA : ∀ j (_ : j < ks.length), Sub s ks[j].cpuset → ¬ (∀ k ∈ ks, ¬ Sub s k.cpuset) :=
    fun j hj hsub hall => hall _ (List.getElem_mem hj) hsub
  have xB : ∀ j (_ : j < ks.length), Sub s ks[j].cpuset → ¬ (∀ k ∈ ks, ¬ Meets s k.cpuset) :=
    fun j hj hsub hall => hall _ (List.getElem_mem hj) (sub_meets hs hsub)
  have xC : (∃ k ∈ ks, Meets s k.cpuset) → ¬ (∀ k ∈ ks, ¬ Meets s k.cpuset) :=
    fun ⟨k, hk, hm⟩ hall => hall k hk hm
  rcases byCpusetLoop_cases s hs ks 0 hne hdj with ⟨n, hn, e, hsub⟩ | ⟨e, hm, hall⟩ | ⟨e, hall⟩ <;> rw [e]
  · rw [Nat.zero_add]
    refine ⟨fun j => ⟨fun h => ?_, fun ⟨hj, hj'⟩ => ?_⟩, ⟨nofun, fun h => absurd h.2 (xA n hn hsub)⟩,
      ⟨nofun, fun h => absurd h (xB n hn hsub)⟩, nofun, nofun⟩
    · cases h; exact ⟨hn, hsub⟩
    · rw [sub_unique hdj hs n j hn hj hsub hj']
  · exact ⟨fun j => ⟨nofun, fun ⟨hj, hj'⟩ => absurd hall (xA j hj hj')⟩, ⟨fun _ => ⟨hm, hall⟩, fun _ => rfl⟩,
      ⟨nofun, fun h => absurd h (xC hm)⟩, nofun, nofun⟩
  · exact ⟨fun j => ⟨nofun, fun ⟨hj, hj'⟩ => absurd hall (xB j hj hj')⟩,
      ⟨nofun, fun h => absurd hall (xC h.1)⟩, ⟨fun _ => hall, fun _ => rfl⟩, nofun,
      nofun⟩

end CpuKinds
end Hw
