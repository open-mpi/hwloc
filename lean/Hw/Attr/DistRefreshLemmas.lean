/-
  Lemmas about the pointer-level model `Hw.DistRefresh` of `hwloc_internal_distances_refresh()`.

  Proof device: a ZIPPER view of the list.  `Inv h rk rest` says that the topology's list is
  `rk.reverse ++ rest`, described from the loop cursor: `rest` is a forward chain (`Chain`) whose first node
  has predecessor `rk.head?`, `rk` is a backward chain (`Back`) whose first node has successor `rest.head?`.
  Moving the cursor (`Inv.shift`) is a re-bracketing; unlinking the node under the cursor (`unlink_inv`)
  touches only the two heads, everything else is a frame argument: it is given once, for the chain behind the
  cursor (`Chain.unlinked`), and the chain before the cursor is the same chain on the heap read from the other end
  (`Heap.flip`, `Back_iff_flip`).  What one turn of the loop does at the head of a chain is `loop_cons`, for both variants.
-/
import Hw.Attr.DistRefresh
import Hw.Base.ListLemmas
namespace Hw.DistRefresh

/-- the heap read from the other end.  Unlinking commutes with it: `unlinked h.flip d nx pv` is `(unlinked h d pv nx).flip` by
unfolding. -/
def Heap.flip (h : Heap) : Heap :=
  { next := h.prev, prev := h.next, freed := h.freed, first := h.last, last := h.first }

/-- backward chain: the nodes of `l` are live and linked in REVERSE order, the first one having successor `nx` -/
def Back (h : Heap) : Option Nat → List Nat → Prop
  | _, [] => True
  | nx, a :: l => h.freed a = false ∧ h.next a = nx ∧ h.prev a = l.head? ∧ Back h (some a) l

theorem Back_iff_flip (h : Heap) : ∀ (l : List Nat) (nx : Option Nat), Back h nx l ↔ Chain h.flip nx l
  | [], _ => Iff.rfl
  | a :: l, _ => by simp only [Back, Chain, Back_iff_flip h l]; rfl

theorem Chain.frame {h h' : Heap} : ∀ {l : List Nat} {p : Option Nat},
    (∀ a ∈ l, h'.freed a = h.freed a ∧ h'.prev a = h.prev a ∧ h'.next a = h.next a) →
    Chain h p l → Chain h' p l
  | [], _, _, _ => trivial
  | a :: l, p, hf, hc => by
      simp only [Chain] at hc ⊢
      obtain ⟨h1, h2, h3, h4⟩ := hc
      obtain ⟨f1, f2, f3⟩ := hf a (List.mem_cons_self ..)
      exact ⟨f1 ▸ h1, f2 ▸ h2, f3 ▸ h3, Chain.frame (fun b hb => hf b (List.mem_cons_of_mem _ hb)) h4⟩

theorem Chain.head_live {h : Heap} {p : Option Nat} : ∀ {l : List Nat}, Chain h p l → ∀ a, l.head? = some a → h.freed a = false
  | [], _, _, e => nomatch e
  | _ :: _, hc, _, e => by cases e; exact hc.1

theorem loop_cons {h : Heap} {p : Option Nat} {d : Nat} {rest : List Nat} (hc : Chain h p (d :: rest))
    (running : Bool) (drop : Nat → Bool) (k : Nat) (pl : Option Nat) :
    loop running drop (k + 1) h pl (some d) =
      if drop d then unlink h d (if running then pl else p) rest.head? >>= fun h' => loop running drop k h' (some d) rest.head?
      else loop running drop k h (some d) rest.head? := by
  obtain ⟨fd, pd, nd, -⟩ := hc
  cases running <;> simp [loop, rdNext, rdPrev, fd, pd, nd, bind, Except.bind, pure, Except.pure]

/-- zipper invariant: the list is `rk.reverse ++ rest`, seen from the cursor between `rk` and `rest` -/
def Inv (h : Heap) (rk rest : List Nat) : Prop :=
  (rk.Nodup ∧ rest.Nodup ∧ ∀ a ∈ rk, ∀ b ∈ rest, a ≠ b) ∧
  h.first = rk.getLast?.or rest.head? ∧ h.last = rest.getLast?.or rk.head? ∧
  Back h rest.head? rk ∧ Chain h rk.head? rest

theorem Inv_nil_iff (h : Heap) (l : List Nat) : Inv h [] l ↔ Linked h l := by
  simp [Inv, Linked, Back]

theorem Inv.shift (h : Heap) (rk rest : List Nat) (d : Nat) : Inv h rk (d :: rest) ↔ Inv h (d :: rk) rest := by
  simp only [Inv, Back, Chain, List.head?_cons, List.nodup_cons, List.mem_cons, getLast?_cons_or]
  constructor
  · rintro ⟨⟨n1, ⟨n2, n3⟩, n4⟩, f, l, b, c1, c2, c3, c4⟩
    refine ⟨⟨⟨fun hm => n4 d hm d (Or.inl rfl) rfl, n1⟩, n3, ?_⟩, f, l, ⟨c1, c3, c2, b⟩, c4⟩
    intro a ha b hb
    rcases ha with rfl | ha
    · intro e; exact n2 (e ▸ hb)
    · exact n4 a ha b (Or.inr hb)
  · rintro ⟨⟨⟨n1, n2⟩, n3, n4⟩, f, l, ⟨c1, c3, c2, b⟩, c4⟩
    refine ⟨⟨n2, ⟨fun hm => n4 d (Or.inl rfl) d hm rfl, n3⟩, ?_⟩, f, l, b, c1, c2, c3, c4⟩
    intro a ha b hb
    rcases hb with rfl | hb
    · intro e; exact n1 (e ▸ ha)
    · exact n4 a (Or.inr ha) b hb

theorem Inv.shifts (h : Heap) : ∀ (pre rk rest : List Nat), Inv h rk (pre ++ rest) ↔ Inv h (pre.reverse ++ rk) rest
  | [], rk, rest => by simp
  | d :: pre, rk, rest => by
      rw [List.cons_append, Inv.shift, Inv.shifts h pre (d :: rk) rest]
      simp

theorem Inv.linked {h : Heap} {rk : List Nat} (hi : Inv h rk []) : Linked h rk.reverse := by
  have := (Inv.shifts h rk.reverse [] []).2 (by simpa using hi)
  simpa [Inv_nil_iff] using this

theorem Linked.inv {h : Heap} {pre rest : List Nat} (hl : Linked h (pre ++ rest)) : Inv h pre.reverse rest := by
  have := (Inv.shifts h pre [] rest).1 ((Inv_nil_iff ..).2 hl)
  simpa using this

/-- the heap after unlinking + freeing `d` whose neighbours are `pv` and `nx` -/
def unlinked (h : Heap) (d : Nat) (pv nx : Option Nat) : Heap :=
  { next := fun q => if some q = pv then nx else h.next q
    prev := fun q => if some q = nx then pv else h.prev q
    freed := fun q => if q = d then true else h.freed q
    first := if pv = none then nx else h.first
    last := if nx = none then pv else h.last }

theorem unlink_eq (h : Heap) (d : Nat) (pv nx : Option Nat)
    (hp : ∀ p, pv = some p → h.freed p = false) (hn : ∀ n, nx = some n → h.freed n = false)
    (hd : h.freed d = false) : unlink h d pv nx = .ok (unlinked h d pv nx) := by
  cases pv with
  | none =>
    cases nx with
    | none => simp [unlink, free, unlinked, hd, bind, Except.bind, pure, Except.pure]
    | some n =>
      have := hn n rfl
      simp [unlink, free, wrPrev, unlinked, hd, this, bind, Except.bind, pure, Except.pure, eq_comm]
  | some p =>
    have hp' := hp p rfl
    cases nx with
    | none => simp [unlink, free, wrNext, unlinked, hd, hp', bind, Except.bind, pure, Except.pure, eq_comm]
    | some n =>
      have := hn n rfl
      simp [unlink, free, wrNext, wrPrev, unlinked, hd, hp', this, bind, Except.bind, eq_comm]

theorem unlinked_frame (h : Heap) (d : Nat) (pv nx : Option Nat) (a : Nat)
    (h1 : a ≠ d) (h2 : some a ≠ pv) (h3 : some a ≠ nx) :
    (unlinked h d pv nx).freed a = h.freed a ∧ (unlinked h d pv nx).prev a = h.prev a ∧
    (unlinked h d pv nx).next a = h.next a := by
  simp [unlinked, h1, h2, h3]

/-- the chain behind an unlinked node `d` is still a chain, now hanging from `pv`: only its head is written, the rest is framed -/
theorem Chain.unlinked {h : Heap} {d : Nat} {pv : Option Nat} {rest : List Nat} (hc : Chain h (some d) rest)
    (hn : (d :: rest).Nodup) (hpv : ∀ a ∈ rest, some a ≠ pv) : Chain (unlinked h d pv rest.head?) pv rest := by
  rw [List.nodup_cons] at hn
  cases rest with
  | nil => trivial
  | cons n r =>
    simp only [Chain, List.head?_cons] at hc ⊢
    obtain ⟨fn, -, nn, hc⟩ := hc
    have hnr := (List.nodup_cons.1 hn.2).1
    have hnd : n ≠ d := fun e => hn.1 (e ▸ List.mem_cons_self ..)
    refine ⟨by simpa [Hw.DistRefresh.unlinked, hnd] using fn, by simp [Hw.DistRefresh.unlinked],
      by simpa [Hw.DistRefresh.unlinked, hpv n (List.mem_cons_self ..)] using nn, ?_⟩
    refine Chain.frame (fun a ha => unlinked_frame _ _ _ _ _ ?_ (hpv a (List.mem_cons_of_mem _ ha)) ?_) hc
    · intro e; exact hn.1 (e ▸ List.mem_cons_of_mem _ ha)
    · intro e; exact hnr (Option.some.inj e ▸ ha)

theorem unlink_inv {h : Heap} {rk rest : List Nat} {d : Nat} (hi : Inv h rk (d :: rest)) :
    unlink h d rk.head? rest.head? = .ok (unlinked h d rk.head? rest.head?) ∧
    Inv (unlinked h d rk.head? rest.head?) rk rest := by
  obtain ⟨⟨n1, n2, n3⟩, hf, hl, hb, hc⟩ := hi
  simp only [Chain] at hc
  obtain ⟨fd, -, -, hc⟩ := hc
  have n4 := (List.nodup_cons.1 n2).2
  have hne : ∀ a ∈ rk, ∀ b ∈ rest, a ≠ b := fun a ha b hb => n3 a ha b (List.mem_cons_of_mem _ hb)
  have hrd : d ∉ rk := fun hm => n3 d hm d (List.mem_cons_self ..) rfl
  have hchain : Chain (unlinked h d rk.head? rest.head?) rk.head? rest :=
    hc.unlinked n2 (fun a ha e => hne a (List.mem_of_mem_head? e.symm) a ha rfl)
  -- the same on the heap read from the other end
  rw [Back_iff_flip] at hb
  have hback : Back (unlinked h d rk.head? rest.head?) rest.head? rk := (Back_iff_flip ..).2
    (Chain.unlinked (h := h.flip) hb (List.nodup_cons.2 ⟨hrd, n1⟩) (fun a ha e => hne a ha a (List.mem_of_mem_head? e.symm) rfl))
  refine ⟨unlink_eq _ _ _ _ (Chain.head_live (h := h.flip) hb) hc.head_live fd, ⟨n1, n4, hne⟩, ?_, ?_, hback, hchain⟩
  · cases rk with
    | nil => simp [unlinked]
    | cons p r => simpa [unlinked, List.getLast?_cons] using hf
  · cases rest with
    | nil => simp [unlinked]
    | cons n r => simpa [unlinked, List.getLast?_cons_cons, List.getLast?_cons] using hl

theorem loop_false_inv (drop : Nat → Bool) : ∀ (rest rk : List Nat) (h : Heap) (pl : Option Nat),
    Inv h rk rest →
    ∃ h', loop false drop rest.length h pl rest.head? = .ok h' ∧
          Linked h' (rk.reverse ++ rest.filter (fun d => !drop d)) ∧
          (∀ p, h'.freed p = (h.freed p || (decide (p ∈ rest) && drop p)))
  | [], rk, h, pl, hi => ⟨h, by simp [loop], by simpa using hi.linked, by simp⟩
  | d :: rest, rk, h, pl, hi => by
      rw [List.length_cons, List.head?_cons, loop_cons hi.2.2.2.2]
      cases hd : drop d with
      | false =>
        obtain ⟨h', e, hl, hfr⟩ := loop_false_inv drop rest (d :: rk) h (some d) ((Inv.shift ..).1 hi)
        refine ⟨h', by simpa using e, by simpa [List.filter_cons, hd] using hl, ?_⟩
        intro p
        rw [hfr p]
        by_cases hp : p = d
        · subst hp; simp [hd]
        · simp [hp]
      | true =>
        obtain ⟨e1, hi'⟩ := unlink_inv hi
        obtain ⟨h', e, hl, hfr⟩ := loop_false_inv drop rest rk _ (some d) hi'
        refine ⟨h', ?_, by simpa [List.filter_cons, hd] using hl, ?_⟩
        · simp [e1, e, bind, Except.bind]
        · intro p
          rw [hfr p]
          by_cases hp : p = d
          · subst hp; simp [hd, unlinked]
          · simp [hp, unlinked]

/-- (A) the loop of the source: never touches freed memory, stops within `l.length` iterations, leaves
    exactly the kept nodes, in order, linked both ways with first/last right, and frees exactly the dropped -/
theorem refresh_spec (h : Heap) (l : List Nat) (hl : Linked h l) (drop : Nat → Bool) :
    ∃ h', refresh false drop h l.length = .ok h' ∧
          Linked h' (l.filter (fun d => !drop d)) ∧
          (∀ p, h'.freed p = (h.freed p || (decide (p ∈ l) && drop p))) := by
  obtain ⟨h', e, hl', hf⟩ := loop_false_inv drop l [] h none ((Inv_nil_iff ..).2 hl)
  refine ⟨h', ?_, by simpa using hl', hf⟩
  rw [refresh, hl.2.1]; exact e

theorem walk_chain (h : Heap) : ∀ (l : List Nat) (p : Option Nat) (n : Nat), Chain h p l → l.length ≤ n →
    walk h n l.head? = .ok l
  | [], _, n, _, _ => by cases n <;> simp [walk]
  | a :: l, p, 0, _, hn => by simp at hn
  | a :: l, p, n + 1, hc, hn => by
      simp only [Chain] at hc
      obtain ⟨fa, -, na, hc⟩ := hc
      have := walk_chain h l (some a) n hc (by simpa using hn)
      simp [walk, rdNext, fa, na, this, bind, Except.bind, pure, Except.pure]

/-- (B) a later consumer walking first → next sees exactly `l` and never touches freed memory -/
theorem walk_linked_fuel (h : Heap) (l : List Nat) (hl : Linked h l) (n : Nat) (hn : l.length ≤ n) :
    walk h n h.first = .ok l := by
  rw [hl.2.1]; exact walk_chain h l none n hl.2.2.2 hn

theorem walk_linked (h : Heap) (l : List Nat) (hl : Linked h l) : walk h l.length h.first = .ok l :=
  walk_linked_fuel h l hl _ (Nat.le_refl _)

theorem refresh_then_walk (h : Heap) (l : List Nat) (hl : Linked h l) (drop : Nat → Bool) :
    ∃ h', refresh false drop h l.length = .ok h' ∧
          walk h' l.length h'.first = .ok (l.filter (fun d => !drop d)) := by
  obtain ⟨h', e, hl', -⟩ := refresh_spec h l hl drop
  exact ⟨h', e, walk_linked_fuel h' _ hl' _ (List.length_filter_le ..)⟩

/-- the `running` variant walks over a prefix of kept nodes like the real loop, its local predecessor being right -/
theorem loop_true_skip (drop : Nat → Bool) (h : Heap) : ∀ (pre rest : List Nat) (p pl : Option Nat) (k : Nat),
    Chain h p (pre ++ rest) → (∀ x ∈ pre, drop x = false) →
    loop true drop (pre.length + k) h pl (pre ++ rest).head? = loop true drop k h (pre.getLast?.or pl) rest.head?
  | [], rest, p, pl, k, _, _ => by simp
  | d :: pre, rest, p, pl, k, hc, hk => by
      have ih := loop_true_skip drop h pre rest (some d) (some d) k hc.2.2.2
        (fun x hx => hk x (List.mem_cons_of_mem _ hx))
      have e : (d :: pre).length + k = (pre.length + k) + 1 := by simp only [List.length_cons]; omega
      rw [e, getLast?_cons_or, ← ih, List.cons_append, List.head?_cons, loop_cons hc, hk d (List.mem_cons_self ..)]
      rfl

/-- (C) the variant with a loop-local predecessor: as soon as two ADJACENT nodes are dropped (the first such
    pair being `a`, `b`), unlinking `b` writes `a->next` after `a` was freed -/
theorem running_uaf (h : Heap) (a b : Nat) (pre post : List Nat) (hl : Linked h (pre ++ a :: b :: post))
    (drop : Nat → Bool) (hk : ∀ x ∈ pre, drop x = false) (ha : drop a = true) (hb : drop b = true) :
    refresh true drop h (pre ++ a :: b :: post).length = .error (.uaf a) := by
  have hi := hl.inv
  have e : (pre ++ a :: b :: post).length = pre.length + ((post.length + 1) + 1) := by simp
  rw [refresh, hl.2.1, e, loop_true_skip drop h pre _ none none _ hl.2.2.2 hk]
  obtain ⟨e1, hi'⟩ := unlink_inv hi
  have hpv : pre.getLast?.or none = pre.reverse.head? := by simp
  rw [hpv, List.head?_cons, loop_cons hi.2.2.2.2, ha, if_pos rfl, if_pos rfl, e1]
  show loop true drop _ _ (some a) (some b) = _
  rw [loop_cons hi'.2.2.2.2, hb, if_pos rfl, if_pos rfl]
  simp [unlink, wrNext, unlinked, bind, Except.bind]

/-! ### (D) exhaustive finite check: every drop pattern on every list of at most 5 nodes -/

/-- the nodes of `0..n-1` that the mask `m` keeps (bit `d` set = node `d` is dropped) -/
def keptOf (n m : Nat) : List Nat := (List.range n).filter (fun d => !m.testBit d)

def adjacentDrops (n m : Nat) : Bool :=
  (List.range n).any fun i => decide (i + 1 < n) && m.testBit i && m.testBit (i + 1)

/-- the run returned `.ok h'` and walking `h'` from `first` gives exactly `l` (no freed node touched) -/
def okWalks (r : M Heap) (n : Nat) (l : List Nat) : Bool :=
  match r with
  | .ok h' => (match walk h' n h'.first with | .ok l' => l' == l | .error _ => false)
  | .error _ => false

def isError {α} (r : M α) : Bool := match r with | .ok _ => false | .error _ => true

def errOf {α} (r : M α) : Option Err := match r with | .ok _ => none | .error e => some e

def firstAdjacent (n m : Nat) : Option Nat :=
  (List.range n).find? fun i => decide (i + 1 < n) && m.testBit i && m.testBit (i + 1)

/-- one pattern: the real loop is safe and leaves the kept nodes; the `running` variant fails IFF two adjacent
    nodes are dropped (the error being the write into the first such node, already freed), and otherwise
    leaves the kept nodes too -/
def checkOne (n m : Nat) : Bool :=
  okWalks (refresh false (fun d => m.testBit d) (mk (List.range n)) n) n (keptOf n m) &&
  (isError (refresh true (fun d => m.testBit d) (mk (List.range n)) n) == adjacentDrops n m) &&
  (adjacentDrops n m || okWalks (refresh true (fun d => m.testBit d) (mk (List.range n)) n) n (keptOf n m)) &&
  (errOf (refresh true (fun d => m.testBit d) (mk (List.range n)) n) == (firstAdjacent n m).map Err.uaf)

def checkAll : Bool := (List.range 6).all fun n => (List.range (2 ^ n)).all fun m => checkOne n m

theorem all_patterns_le5 : checkAll = true := by decide +kernel

theorem okWalks_iff (r : M Heap) (n : Nat) (l : List Nat) :
    okWalks r n l = true ↔ ∃ h', r = .ok h' ∧ walk h' n h'.first = .ok l := by
  cases r with
  | error e => simp [okWalks]
  | ok h' =>
    simp only [okWalks, Except.ok.injEq, exists_eq_left']
    cases walk h' n h'.first with
    | error e => simp
    | ok l' => simp

theorem isError_iff {α} (r : M α) : isError r = true ↔ ∃ e, r = .error e := by
  cases r <;> simp [isError]

theorem adjacentDrops_iff (n m : Nat) :
    adjacentDrops n m = true ↔ ∃ i, i + 1 < n ∧ m.testBit i = true ∧ m.testBit (i + 1) = true := by
  simp only [adjacentDrops, List.any_eq_true, List.mem_range, Bool.and_eq_true, decide_eq_true_eq]
  constructor
  · rintro ⟨i, -, ⟨h1, h2⟩, h3⟩; exact ⟨i, h1, h2, h3⟩
  · rintro ⟨i, h1, h2, h3⟩; exact ⟨i, by omega, ⟨h1, h2⟩, h3⟩

/-- (D) unpacked: what `checkAll = true` says for one `n ≤ 5` and one mask `m < 2^n` -/
theorem all_patterns_le5_spec (n m : Nat) (hn : n ≤ 5) (hm : m < 2 ^ n) :
    (∃ h', refresh false (fun d => m.testBit d) (mk (List.range n)) n = .ok h' ∧
           walk h' n h'.first = .ok (keptOf n m)) ∧
    ((∃ e, refresh true (fun d => m.testBit d) (mk (List.range n)) n = .error e) ↔
      ∃ i, i + 1 < n ∧ m.testBit i = true ∧ m.testBit (i + 1) = true) ∧
    (∀ h', refresh true (fun d => m.testBit d) (mk (List.range n)) n = .ok h' →
           walk h' n h'.first = .ok (keptOf n m)) := by
  have h := all_patterns_le5
  simp only [checkAll, List.all_eq_true, List.mem_range] at h
  have h1 := h n (by omega) m hm
  simp only [checkOne, Bool.and_eq_true, Bool.or_eq_true, beq_iff_eq] at h1
  obtain ⟨⟨⟨a, b⟩, c⟩, -⟩ := h1
  refine ⟨(okWalks_iff ..).1 a, ?_, ?_⟩
  · rw [← isError_iff, ← adjacentDrops_iff, b]
  · intro h' e
    rcases c with c | c
    · rw [← b, e] at c; simp [isError] at c
    · obtain ⟨h'', e', w⟩ := (okWalks_iff ..).1 c
      rw [e] at e'; cases e'; exact w

theorem all_patterns_le5_err (n m : Nat) (hn : n ≤ 5) (hm : m < 2 ^ n) :
    errOf (refresh true (fun d => m.testBit d) (mk (List.range n)) n) = (firstAdjacent n m).map Err.uaf := by
  have h := all_patterns_le5
  simp only [checkAll, List.all_eq_true, List.mem_range] at h
  have h1 := h n (by omega) m hm
  simp only [checkOne, Bool.and_eq_true, beq_iff_eq] at h1
  exact h1.2

/-- non-vacuity of the hypothesis of (A)-(C): `mk` builds linked heaps -/
theorem linked_mk_0123 : Linked (mk [0, 1, 2, 3]) [0, 1, 2, 3] := by
  refine ⟨by decide, rfl, rfl, ?_⟩
  simp only [Chain]
  decide +kernel

example : ∃ h', refresh false (fun d => d == 1 || d == 2) (mk [0, 1, 2, 3]) 4 = .ok h' ∧ Linked h' [0, 3] ∧
    h'.freed 1 = true ∧ h'.freed 2 = true ∧ h'.freed 0 = false ∧ h'.freed 3 = false := by
  obtain ⟨h', e, l, f⟩ := refresh_spec _ _ linked_mk_0123 (fun d => d == 1 || d == 2)
  exact ⟨h', e, l, by rw [f]; rfl, by rw [f]; rfl, by rw [f]; rfl, by rw [f]; rfl⟩

example : refresh true (fun d => d == 1 || d == 2) (mk [0, 1, 2, 3]) 4 = .error (.uaf 1) :=
  running_uaf (mk [0, 1, 2, 3]) 1 2 [0] [3] linked_mk_0123 _ (by simp) rfl rfl

example : checkOne 3 3 = true := by decide +kernel
example : errOf (refresh true (fun d => (3).testBit d) (mk [0, 1, 2]) 3) = some (.uaf 0) := by decide +kernel
example : errOf (refresh true (fun d => (6).testBit d) (mk [0, 1, 2]) 3) = some (.uaf 1) := by decide +kernel
example : isError (refresh true (fun d => (5).testBit d) (mk [0, 1, 2]) 3) = false := by decide +kernel
example : okWalks (refresh false (fun d => (3).testBit d) (mk [0, 1, 2]) 3) 3 [2] = true := by decide +kernel
example : okWalks (refresh false (fun d => (3).testBit d) (mk [0, 1, 2]) 3) 3 [1, 2] = false := by decide +kernel

end Hw.DistRefresh
