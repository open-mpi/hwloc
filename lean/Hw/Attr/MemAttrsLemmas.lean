import Hw.Attr.MemAttrs
import Hw.Base.Bits
import Hw.Base.InsertSort
import Hw.Base.ListLemmas
import Hw.Base.Cases
/-
  Hw.Attr.MemAttrsLemmas — C14 below the API level: the best-of fold returns the FIRST optimum; a lookup after a history
  of `set`s on equal-or-disjoint locations returns the last covering value; refresh keeps every still-valid lookup; the
  default-nodeset loops keep the chosen nodes disjoint.
-/
namespace Hw.MemAttrs

/-! ## A. best-of -/

/-- a value as the attribute's direction ranks it: larger is better -/
def score (h : Bool) (v : Nat) : Int := if h then v else -v

theorem score_le (h : Bool) (a b : Nat) : score h a ≤ score h b ↔ (if h then a ≤ b else b ≤ a) := by
  cases h
  · exact ⟨fun hh => by simp only [score, Bool.false_eq_true, if_false] at hh ⊢; omega,
      fun hh => by simp only [score, Bool.false_eq_true, if_false] at hh ⊢; omega⟩
  · exact ⟨fun hh => by simp only [score, if_true] at hh ⊢; omega,
      fun hh => by simp only [score, if_true] at hh ⊢; omega⟩

theorem score_lt (h : Bool) (a b : Nat) : score h a < score h b ↔ (if h then a < b else b < a) := by
  rw [← Int.not_le, score_le]
  cases h <;> exact Nat.not_le

theorem bestStep_some {α : Type} (h : Bool) (b x : α × Nat) :
    bestStep h (some b) x = if score h x.2 ≤ score h b.2 then some b else some x := by
  have := score_le h x.2 b.2
  cases h
  · simp only [Bool.false_eq_true, if_false] at this
    simp only [bestStep, Bool.false_eq_true, if_false, ge_iff_le, this]
  · simp only [if_true] at this
    simp only [bestStep, if_true, this]

theorem bestOf_cons {α : Type} (h : Bool) (x : α × Nat) (xs : List (α × Nat)) :
    bestOf h (x :: xs) = xs.foldl (bestStep h) (some x) := rfl

def FirstBest {α : Type} (h : Bool) (l : List (α × Nat)) (r : α × Nat) : Prop :=
  ∃ pre post, l = pre ++ r :: post ∧ (∀ x ∈ pre, score h x.2 < score h r.2) ∧ ∀ x ∈ post, score h x.2 ≤ score h r.2

theorem FirstBest.le {α : Type} {h : Bool} {l : List (α × Nat)} {r : α × Nat} (H : FirstBest h l r) :
    ∀ x ∈ l, score h x.2 ≤ score h r.2 := by
  obtain ⟨pre, post, rfl, hp, hq⟩ := H
  exact List.forall_mem_append.mpr ⟨fun x hx => Int.le_of_lt (hp x hx), List.forall_mem_cons.mpr ⟨Int.le_refl _, hq⟩⟩

/-- the best-of fold, by the loop rule with the visited prefix: the accumulator is the first best of what was visited -/
theorem bestOf_spec {α : Type} (h : Bool) (l : List (α × Nat)) :
    match bestOf h l with
    | none => l = []
    | some r => FirstBest h l r := by
  refine foldl_inv (bestStep h) (fun pre st => match st with | none => pre = [] | some r => FirstBest h pre r) l ?_
    l [] none rfl rfl
  intro pre x _ st _ hP
  cases st with
  | none => subst hP; exact ⟨[], [], rfl, nofun, nofun⟩
  | some b =>
    obtain ⟨p, q, rfl, hp, hq⟩ := hP
    rw [bestStep_some]
    by_cases hxb : score h x.2 ≤ score h b.2
    · rw [if_pos hxb]
      exact ⟨p, q ++ [x], by simp, hp, List.forall_mem_append.mpr ⟨hq, List.forall_mem_singleton.mpr hxb⟩⟩
    · rw [if_neg hxb]
      refine ⟨p ++ b :: q, [], by simp, fun y hy => ?_, nofun⟩
      have := FirstBest.le ⟨p, q, rfl, hp, hq⟩ y hy
      omega

/-! ## set facts -/

theorem subset_iff_and {a b : Nat} : subset a b = true ↔ a &&& b = a := by
  simp [subset]

theorem subset_iff_testBit {a b : Nat} :
    subset a b = true ↔ ∀ i, a.testBit i = true → b.testBit i = true :=
  subset_iff_and.trans Bits.and_eq_left_iff

theorem subset_refl (a : Nat) : subset a a = true := by
  simp [subset]

theorem subset_disjoint_absurd {q p s : Nat} (hq : q ≠ 0) (h1 : subset q p = true)
    (h2 : subset q s = true) (hd : p &&& s = 0) : False := by
  obtain ⟨i, hi⟩ := Nat.exists_testBit_of_ne_zero hq
  have a := subset_iff_testBit.1 h1 i hi
  have b := subset_iff_testBit.1 h2 i hi
  have c := Bits.and_eq_zero_iff.1 hd i a
  rw [b] at c
  cases c

/-! ## B. initiator lists -/

def Loc.nonempty : Loc → Prop
  | .cpuset m => m ≠ 0
  | .obj _ _ => True

/-- "equal or disjoint" for cpuset locations; unrelated kinds never interfere -/
def Compat : Loc → Loc → Prop
  | .cpuset x, .cpuset y => x = y ∨ x &&& y = 0
  | _, _ => True

theorem matchLoc_obj {q : Loc} {t g : Nat} : matchLoc q (.obj t g) = true ↔ q = .obj t g := by
  cases q with
  | cpuset m => exact ⟨nofun, nofun⟩
  | obj t' g' =>
    show (t' == t && g' == g) = true ↔ _
    rw [Bool.and_eq_true, beq_iff_eq, beq_iff_eq, Loc.obj.injEq]

theorem matchLoc_refl (q : Loc) : matchLoc q q = true := by
  cases q with
  | cpuset m => exact subset_refl m
  | obj t g => exact matchLoc_obj.mpr rfl

theorem findInit_nil (q : Loc) : findInit q [] = none := rfl

theorem findInit_cons (q : Loc) (i : Init) (is : List Init) :
    findInit q (i :: is) = if matchLoc q i.loc then some i else findInit q is := by
  simp only [findInit, List.find?_cons]
  cases matchLoc q i.loc <;> simp

theorem findInit_setInit_same (q : Loc) (v : Nat) (is : List Init) :
    (findInit q (setInit q v is)).map (·.value) = some v := by
  induction is with
  | nil => simp [setInit, findInit_cons, matchLoc_refl]
  | cons i is ih =>
    simp only [setInit]
    by_cases hm : matchLoc q i.loc = true
    · rw [if_pos hm, findInit_cons, if_pos hm]; rfl
    · rw [if_neg hm, findInit_cons, if_neg hm]; exact ih

theorem matchLoc_both_eq {q p s : Loc} (hq : q.nonempty) (hc : Compat p s)
    (h1 : matchLoc q p = true) (h2 : matchLoc q s = true) : s = p := by
  cases p with
  | obj t g =>
    rw [matchLoc_obj.mp h1] at h2
    cases s with
    | obj t' g' => exact (matchLoc_obj.mp h2).symm
    | cpuset y => cases h2
  | cpuset x =>
    cases s with
    | obj t g => rw [matchLoc_obj.mp h2] at h1; cases h1
    | cpuset y =>
      cases q with
      | obj t g => cases h1
      | cpuset m =>
        rcases hc with hc | hc
        · rw [hc]
        · exact (subset_disjoint_absurd hq h1 h2 hc).elim

theorem findInit_setInit_other (p q : Loc) (v : Nat) (is : List Init)
    (hp : p.nonempty) (hq : q.nonempty) (hc : ∀ i ∈ is, Compat p i.loc) :
    (findInit q (setInit p v is)).map (·.value) =
      if matchLoc q p then some v else (findInit q is).map (·.value) := by
  induction is with
  | nil =>
    simp only [setInit, findInit_cons, findInit_nil]
    by_cases hm : matchLoc q p = true <;> simp [hm]
  | cons i is ih =>
    have ih := ih (fun j hj => hc j (List.mem_cons_of_mem _ hj))
    have hci := hc i List.mem_cons_self
    simp only [setInit]
    by_cases hm : matchLoc p i.loc = true
    · have he : i.loc = p := matchLoc_both_eq hp hci (matchLoc_refl p) hm
      rw [if_pos hm, findInit_cons, findInit_cons, he]
      by_cases hqp : matchLoc q p = true
      · rw [if_pos hqp, if_pos hqp]; rfl
      · rw [if_neg hqp, if_neg hqp, if_neg hqp]
    · rw [if_neg hm, findInit_cons, findInit_cons]
      by_cases hqi : matchLoc q i.loc = true
      · have hqp : ¬ matchLoc q p = true := by
          intro hqp
          have he : i.loc = p := matchLoc_both_eq hq hci hqp hqi
          rw [he, matchLoc_refl] at hm
          exact hm rfl
        rw [if_pos hqi, if_neg hqp, if_pos hqi]
      · rw [if_neg hqi, if_neg hqi]
        exact ih

/-- the specification: value given by the last `set` in the history whose location covers the query -/
def specGet (h : List (Loc × Nat)) (q : Loc) : Option Nat :=
  (h.reverse.find? (fun p => matchLoc q p.1)).map (·.2)

def runSets (is0 : List Init) (h : List (Loc × Nat)) : List Init :=
  h.foldl (fun is p => setInit p.1 p.2 is) is0

theorem mem_setInit {q : Loc} {v : Nat} {is : List Init} {i : Init} :
    i ∈ setInit q v is → i.loc = q ∨ ∃ j ∈ is, j.loc = i.loc := by
  induction is with
  | nil =>
    intro h
    simp only [setInit, List.mem_singleton] at h
    exact Or.inl (by rw [h])
  | cons j js ih =>
    simp only [setInit]
    by_cases hm : matchLoc q j.loc = true
    · rw [if_pos hm]
      intro h
      rcases List.mem_cons.1 h with h | h
      · exact Or.inr ⟨j, List.mem_cons_self, by rw [h]⟩
      · exact Or.inr ⟨i, List.mem_cons_of_mem _ h, rfl⟩
    · rw [if_neg hm]
      intro h
      rcases List.mem_cons.1 h with h | h
      · exact Or.inr ⟨j, List.mem_cons_self, by rw [h]⟩
      · rcases ih h with h | ⟨k, hk, e⟩
        · exact Or.inl h
        · exact Or.inr ⟨k, List.mem_cons_of_mem _ hk, e⟩

theorem runSets_append (is0 : List Init) (h1 h2 : List (Loc × Nat)) :
    runSets is0 (h1 ++ h2) = runSets (runSets is0 h1) h2 := by
  simp [runSets, List.foldl_append]

theorem mem_runSets (h : List (Loc × Nat)) :
    ∀ i ∈ runSets [] h, ∃ a ∈ h, a.1 = i.loc := by
  unfold runSets
  refine List.foldlRecOn h _ (motive := fun (is : List Init) => ∀ i ∈ is, ∃ a ∈ h, a.1 = i.loc)
    (fun i hi => nomatch hi) ?_
  · intro is hinv p hp i hi
    rcases mem_setInit hi with e | ⟨j, hj, e⟩
    · exact ⟨p, hp, e.symm⟩
    · obtain ⟨a, ha, e'⟩ := hinv j hj
      exact ⟨a, ha, e'.trans e⟩

theorem get_after_set_history (h : List (Loc × Nat))
    (hpd : ∀ a ∈ h, ∀ b ∈ h, Compat a.1 b.1) (hne : ∀ a ∈ h, a.1.nonempty)
    (q : Loc) (hq : q.nonempty) :
    (findInit q (runSets [] h)).map (·.value) = specGet h q := by
  refine (foldl_inv (fun is p => setInit p.1 p.2 is)
    (fun pre is => is = runSets [] pre ∧ (findInit q is).map (·.value) = specGet pre q) h ?_ h [] [] rfl ⟨rfl, rfl⟩).2
  rintro pre p post _ e ⟨rfl, hget⟩
  have hp : p ∈ h := e ▸ List.mem_append_right _ List.mem_cons_self
  refine ⟨(runSets_append [] pre [p]).symm, ?_⟩
  rw [findInit_setInit_other p.1 q p.2 _ (hne p hp) hq, hget]
  · -- the last call covering `q` is this one, or the last one before it
    unfold specGet
    rw [List.reverse_append, List.reverse_singleton, List.singleton_append, List.find?_cons]
    cases matchLoc q p.1 <;> rfl
  · intro i hi
    obtain ⟨a, ha, e'⟩ := mem_runSets pre i hi
    rw [← e']
    exact hpd p hp a (e ▸ List.mem_append_left _ ha)

/-! ## C. refresh keeps every still-valid lookup -/

def validQuery (e : Env) : Loc → Prop
  | .cpuset q => q ≠ 0 ∧ subset q e.root = true
  | .obj t g => e.hasObj t g = true

theorem subset_inter_eq {m c r : Nat} (hr : subset m r = true) :
    subset m (c &&& r) = subset m c := by
  rw [Bool.eq_iff_iff, subset_iff_testBit, subset_iff_testBit]
  rw [subset_iff_testBit] at hr
  constructor
  · intro h i hi
    have := h i hi
    rw [Nat.testBit_and, Bool.and_eq_true] at this
    exact this.1
  · intro h i hi
    rw [Nat.testBit_and, h i hi, hr i hi]; rfl

/-- what `hwloc__imi_refresh` keeps -/
theorem refreshInit_eq_some {e : Env} {i i' : Init} :
    refreshInit e i = some i' ↔
      match i.loc with
      | .cpuset c => c &&& e.root ≠ 0 ∧ i' = ⟨.cpuset (c &&& e.root), i.value⟩
      | .obj t g => e.hasObj t g = true ∧ i' = i := by
  obtain ⟨loc, v⟩ := i
  cases loc with
  | cpuset c =>
    show (if (c &&& e.root == 0) = true then none else some _) = some i' ↔ _
    by_cases hz : c &&& e.root = 0
    · rw [if_pos (by rw [hz]; rfl)]; exact ⟨nofun, fun h => absurd hz h.1⟩
    · rw [if_neg (by simpa using hz)]; exact ⟨fun h => ⟨hz, (Option.some.inj h).symm⟩, fun h => by rw [h.2]⟩
  | obj t g =>
    show (if e.hasObj t g = true then some _ else none) = some i' ↔ _
    by_cases hh : e.hasObj t g = true
    · rw [if_pos hh]; exact ⟨fun h => ⟨hh, (Option.some.inj h).symm⟩, fun h => by rw [h.2]⟩
    · rw [if_neg hh]; exact ⟨nofun, fun h => absurd h.1 hh⟩

theorem refreshInit_eq_none {e : Env} {i : Init} :
    refreshInit e i = none ↔
      match i.loc with
      | .cpuset c => c &&& e.root = 0
      | .obj t g => e.hasObj t g = false := by
  unfold refreshInit; cases i.loc <;> simp

theorem matchLoc_refreshInit {e : Env} {q : Loc} (hq : validQuery e q) (i : Init) :
    (refreshInit e i).any (fun i' => matchLoc q i'.loc) = matchLoc q i.loc := by
  obtain ⟨loc, v⟩ := i
  cases loc <;> dsimp only [refreshInit] <;> split
  · rename_i c hz
    cases q with
    | obj t g => rfl
    | cpuset m =>
      -- a query inside the root cpuset and inside `c` would meet the root cpuset
      exact (Bool.eq_false_iff.mpr fun hs => subset_disjoint_absurd hq.1 hs hq.2 (beq_iff_eq.mp hz)).symm
  · cases q with
    | obj t g => rfl
    | cpuset m => exact subset_inter_eq hq.2
  · rfl
  · rename_i t g hh
    refine (Bool.eq_false_iff.mpr fun hm => hh ?_).symm
    rw [matchLoc_obj.mp hm] at hq
    exact hq

theorem refreshInit_value {e : Env} {i i' : Init} : refreshInit e i = some i' → i'.value = i.value := by
  intro h
  have h := refreshInit_eq_some.mp h
  split at h <;> rw [h.2]

theorem findInit_refresh (e : Env) (is : List Init) (q : Loc) (hq : validQuery e q) :
    (findInit q (is.filterMap (refreshInit e))).map (·.value) = (findInit q is).map (·.value) := by
  unfold findInit
  rw [List.find?_filterMap, funext (matchLoc_refreshInit hq)]
  cases hf : is.find? (fun i => matchLoc q i.loc) with
  | none => rfl
  | some i =>
    -- the initiator found before is matched, so refresh keeps it
    have hm := matchLoc_refreshInit hq i
    rw [List.find?_some hf] at hm
    cases hr : refreshInit e i with
    | none => rw [hr] at hm; cases hm
    | some i' => rw [Option.bind_some, hr]; exact congrArg some (refreshInit_value hr)

theorem mem_refreshInits (e : Env) (is : List Init) (i' : Init) :
    i' ∈ is.filterMap (refreshInit e) ↔ ∃ i ∈ is, refreshInit e i = some i' :=
  List.mem_filterMap

theorem refreshInit_idem {e : Env} {i i' : Init} :
    refreshInit e i = some i' → refreshInit e i' = some i' := by
  intro h
  have h := refreshInit_eq_some.mp h
  split at h <;> rename_i hl <;> rw [h.2, refreshInit_eq_some]
  · show _ &&& e.root &&& e.root ≠ 0 ∧ _
    rw [Nat.and_assoc, Nat.and_self]
    exact ⟨h.1, rfl⟩
  · rw [hl]; exact ⟨h.1, rfl⟩

/-! ## D. default nodeset -/

def ocs (o : Obj) : Nat := o.cpuset.getD 0

theorem insertByOs_eq (n : Obj) (l : List Obj) :
    insertByOs n l = l.takeWhile (fun m => decide (m.os.getD 0 < n.os.getD 0)) ++
      n :: l.dropWhile (fun m => decide (m.os.getD 0 < n.os.getD 0)) :=
  InsertSort.insertRec_eq _ n (insertByOs n) rfl (fun _ _ h => if_neg (by simpa using h)) (fun _ _ h => if_pos (by simpa using h)) l

theorem mem_insertByOs (n x : Obj) (l : List Obj) : x ∈ insertByOs n l ↔ x = n ∨ x ∈ l := by
  rw [insertByOs_eq, (InsertSort.split_perm _ n l).mem_iff, List.mem_cons]

theorem mem_sortByOs (l : List Obj) (n : Obj) : n ∈ sortByOs l ↔ n ∈ l := by
  induction l with
  | nil => simp [sortByOs]
  | cons m ms ih =>
    have : sortByOs (m :: ms) = insertByOs m (sortByOs ms) := rfl
    rw [this, mem_insertByOs, ih, List.mem_cons]

/-- invariant of the default-nodeset loops (`pool` = the NUMA level) -/
structure DnsInv (pool : List Obj) (s : DnsState) : Prop where
  rem : ∀ c ∈ s.chosen, ocs c &&& s.remaining = 0
  pw : s.chosen.Pairwise (fun a b => ocs a &&& ocs b = 0)
  mem : ∀ c ∈ s.chosen, c ∈ pool
  bits : ∀ b, s.nodeset.testBit b = true ↔ ∃ n ∈ s.chosen, n.os.getD 0 = b

theorem and_andnot_self (x r : Nat) : x &&& (r ^^^ (r &&& x)) = 0 := by
  rw [Bits.and_eq_zero_iff]
  intro i hi
  rw [Nat.testBit_xor, Nat.testBit_and, hi]
  cases r.testBit i <;> rfl

theorem and_andnot_of_disjoint {c r : Nat} (x : Nat) (h : c &&& r = 0) :
    c &&& (r ^^^ (r &&& x)) = 0 := by
  rw [Bits.and_eq_zero_iff] at h ⊢
  intro i hi
  rw [Nat.testBit_xor, Nat.testBit_and, h i hi]
  rfl

theorem disjoint_of_subset_of_disjoint {n c r : Nat} (hs : subset n r = true) (hd : c &&& r = 0) :
    n &&& c = 0 := by
  rw [Bits.and_eq_zero_iff] at hd ⊢
  rw [subset_iff_testBit] at hs
  intro i hi
  cases hc : c.testBit i with
  | false => rfl
  | true =>
    have := hd i hc
    rw [hs i hi] at this
    cases this

theorem DnsInv.take {pool : List Obj} {s : DnsState} {n : Obj} (hi : DnsInv pool s)
    (hn : n ∈ pool) (hd : ∀ c ∈ s.chosen, ocs n &&& ocs c = 0) : DnsInv pool (s.take n) where
  rem := List.forall_mem_cons.mpr ⟨and_andnot_self _ _, fun c hc => and_andnot_of_disjoint _ (hi.rem c hc)⟩
  pw := List.pairwise_cons.2 ⟨hd, hi.pw⟩
  mem := List.forall_mem_cons.mpr ⟨hn, hi.mem⟩
  bits := fun b => by
    show (s.nodeset ||| (1 <<< n.os.getD 0)).testBit b = true ↔ ∃ m ∈ n :: s.chosen, m.os.getD 0 = b
    rw [Nat.testBit_or, Bits.testBit_one_shl, Bool.or_eq_true, decide_eq_true_eq, hi.bits b, or_comm]
    simp only [List.mem_cons, or_and_right, exists_or, exists_eq_left]

theorem DnsInv.take_subset {pool : List Obj} {s : DnsState} {n : Obj} (hi : DnsInv pool s)
    (hn : n ∈ pool) (hs : subset (n.cpuset.getD 0) s.remaining = true) : DnsInv pool (s.take n) :=
  hi.take hn (fun c hc => disjoint_of_subset_of_disjoint (n := ocs n) hs (hi.rem c hc))

theorem DnsInv.setDone {pool : List Obj} {s : DnsState} (d : Bool) (hi : DnsInv pool s) :
    DnsInv pool { s with done := d } :=
  ⟨hi.rem, hi.pw, hi.mem, hi.bits⟩

/-- what one iteration of either loop does to the state: the node is taken if it fits into what remains, or not; then `done` is set -/
def DnsStep (s : DnsState) (n : Obj) (t : DnsState) : Prop :=
  ∃ s' d, t = { s' with done := d } ∧ (s' = s ∨ (subset (n.cpuset.getD 0) s.remaining = true ∧ s' = s.take n))

theorem dnsPass1_step (first : Option String) (s : DnsState) (n : Obj) : DnsStep s n (dnsPass1 first s n) :=
  ite_cases (fun _ => ⟨s, s.done, rfl, Or.inl rfl⟩) fun _ => ite_cases (fun _ => ⟨s, s.done, rfl, Or.inl rfl⟩) fun _ =>
    ite_pred (fun s' : DnsState => DnsStep s n { s' with done := s'.remaining == 0 })
      (fun h => ⟨_, _, rfl, Or.inr ⟨h, rfl⟩⟩) fun _ => ⟨_, _, rfl, Or.inl rfl⟩

theorem dnsPass2_step (s : DnsState) (p : Nat × Obj) : DnsStep s p.2 (dnsPass2 s p) :=
  ite_cases (fun _ => ⟨s, s.done, rfl, Or.inl rfl⟩) fun _ => ite_cases (fun _ => ⟨s, s.done, rfl, Or.inl rfl⟩) fun _ =>
    ite_pred (fun s' : DnsState => DnsStep s p.2 { s' with done := s'.remaining == 0 })
      (fun h => ⟨_, _, rfl, Or.inr ⟨(Bool.and_eq_true _ _ ▸ h).1, rfl⟩⟩) fun _ => ⟨_, _, rfl, Or.inl rfl⟩

theorem DnsInv.pass {pool : List Obj} {s t : DnsState} {n : Obj} (hi : DnsInv pool s) (hn : n ∈ pool)
    (h : DnsStep s n t) : DnsInv pool t := by
  obtain ⟨s', d, rfl, rfl | ⟨hsub, rfl⟩⟩ := h
  · exact hi.setDone d
  · exact (hi.take_subset hn hsub).setDone d

theorem DnsStep.chosen_mono {s t : DnsState} {n x : Obj} (h : DnsStep s n t) (hx : x ∈ s.chosen) : x ∈ t.chosen := by
  obtain ⟨s', d, rfl, rfl | ⟨_, rfl⟩⟩ := h
  · exact hx
  · exact List.mem_cons_of_mem _ hx

theorem mem_enumFrom1 {l : List Obj} {p : Nat × Obj} (h : p ∈ enumFrom1 l) : p.2 ∈ l := by
  simp only [enumFrom1, List.mem_map] at h
  obtain ⟨⟨a, b⟩, hab, rfl⟩ := h
  exact (List.of_mem_zip hab).2

theorem DnsInv.init (pool : List Obj) (r : Nat) (d : Bool) :
    DnsInv pool { nodeset := 0, chosen := [], remaining := r, done := d } := by
  refine ⟨?_, List.Pairwise.nil, ?_, ?_⟩
  · intro c hc; cases hc
  · intro c hc; cases hc
  · intro b
    simp

theorem defaultNodesetState_inv (e : Env) : DnsInv e.nodes (defaultNodesetState e) := by
  unfold defaultNodesetState
  split
  · exact DnsInv.init _ _ _
  · rename_i n0 rest heq
    have hmem : ∀ x ∈ n0 :: rest, x ∈ e.nodes := by
      intro x hx
      rw [← heq] at hx
      exact (mem_sortByOs _ _).1 hx
    dsimp only
    refine List.foldlRecOn _ _ (motive := DnsInv e.nodes) (List.foldlRecOn _ _ (motive := DnsInv e.nodes) ?_ ?_) ?_
    · apply DnsInv.take (DnsInv.init _ _ _) (hmem n0 List.mem_cons_self)
      intro c hc; cases hc
    · intro s hi x hx
      exact hi.pass (hmem x (List.mem_cons_of_mem _ hx)) (dnsPass1_step n0.subtype s x)
    · intro s hi p hp
      exact hi.pass (hmem p.2 (List.mem_cons_of_mem _ (mem_enumFrom1 hp))) (dnsPass2_step s p)

theorem defaultNodeset_remaining (e : Env) :
    ∀ c ∈ (defaultNodesetState e).chosen, ocs c &&& (defaultNodesetState e).remaining = 0 :=
  (defaultNodesetState_inv e).rem

end Hw.MemAttrs
