/-
  Hw.Attr.CpuKindsRank — the ranking of CPU kinds (C15): the array is strictly sorted by the
  ranking value the code chose, efficiencies are the positions, over all histories.

  `hwloc__cpukinds_finalize_ranking` calls libc `qsort` (not a hand-written sort) and is only reached after
  `hwloc__cpukinds_check_duplicate_rankings` returned 0, i.e. with pairwise distinct ranking values.  The
  model sorts by insertion; `sorted_perm_unique` shows that ANY sorting algorithm returns the same array on
  such inputs, so neither the algorithm nor its (in)stability is observable.

  Which value each setting of HWLOC_CPUKINDS_RANKING chooses is stated as propositions over the array (`Sel`); on that,
  `rank_spec` says what `rank` computes on every array, and `Ranked` is what it leaves and every later public call keeps —
  also when the variable changes between the calls (`runET`).
-/
import Hw.Attr.CpuKindsLemmas
namespace Hw
namespace CpuKinds

/-! ### insertion sort: sorted, strictly sorted on distinct keys, unique -/

abbrev SortedBy (key : Kind → Nat) (l : List Kind) : Prop := l.Pairwise (fun a b => key a ≤ key b)
abbrev StrictBy (key : Kind → Nat) (l : List Kind) : Prop := l.Pairwise (fun a b => key a < key b)

theorem insertBy_sorted (key : Kind → Nat) (k : Kind) (l : List Kind) (h : SortedBy key l) :
    SortedBy key (insertBy key k l) := by
  rw [insertBy_eq]
  exact InsertSort.split_pairwise (R := fun a b => key a ≤ key b) _ k (fun _ _ _ => Nat.le_trans)
    l h (fun x _ hx => of_decide_eq_true hx) (fun x _ hx => Nat.le_of_lt (Nat.not_le.mp (of_decide_eq_false hx)))

theorem sortBy_sorted (key : Kind → Nat) (l : List Kind) : SortedBy key (sortBy key l) := by
  induction l with
  | nil => exact List.Pairwise.nil
  | cons x xs ih => unfold sortBy; exact insertBy_sorted key x _ ih

theorem dupFree_iff_nodup (l : List Nat) : dupFree l = true ↔ l.Nodup := by
  induction l with
  | nil => simp [dupFree]
  | cons x xs ih =>
    rw [List.nodup_cons, ← ih]
    simp [dupFree]

theorem strict_of_sorted_nodup (key : Kind → Nat) (l : List Kind) (hs : SortedBy key l)
    (hn : (l.map key).Nodup) : StrictBy key l :=
  List.pairwise_map.mp (((List.pairwise_map.mpr hs).and hn).imp fun h => Nat.lt_of_le_of_ne h.1 h.2)

theorem sortBy_strict (key : Kind → Nat) (l : List Kind) (h : dupFree (l.map key) = true) :
    StrictBy key (sortBy key l) := by
  apply strict_of_sorted_nodup key _ (sortBy_sorted key l)
  exact (((sortBy_perm key l).map key).nodup_iff).mpr ((dupFree_iff_nodup _).mp h)

theorem sorted_perm_unique (key : Kind → Nat) (l l' : List Kind) (hd : dupFree (l.map key) = true)
    (hp : l'.Perm l) (hs : SortedBy key l') : l' = sortBy key l :=
  (hp.trans (sortBy_perm key l).symm).eq_of_pairwise (le := fun a b => key a ≤ key b)
    (fun _ _ ha hb h1 h2 => inj_of_nodup_map ((dupFree_iff_nodup _).mp hd) (hp.mem_iff.mp ha)
      ((sortBy_perm key l).mem_iff.mp hb) (Nat.le_antisymm h1 h2))
    hs (sortBy_sorted key l)

/-! ### the chosen ranking value depends only on (forced efficiency, infos), not on order / cpuset / eff -/

abbrev FI := Int × List Info
def Kind.fi (k : Kind) : FI := (k.forced, k.infos)

def KeyOK (key : Kind → Nat) : Prop := ∀ a b : Kind, a.fi = b.fi → key a = key b

theorem fi_eq {a b : Kind} (h : a.fi = b.fi) : a.forced = b.forced ∧ a.infos = b.infos := by
  unfold Kind.fi at h
  exact ⟨congrArg Prod.fst h, congrArg Prod.snd h⟩

theorem summarize_congr {a b : Kind} (h : a.fi = b.fi) : summarize a = summarize b := by
  unfold summarize; rw [(fi_eq h).2]

theorem forcedKey_ok : KeyOK forcedKey := fun a b h => by unfold forcedKey; rw [(fi_eq h).1]
theorem ctFreqKey_ok (hb : Bool) : KeyOK (ctFreqKey hb) := fun a b h => by
  simp only [ctFreqKey, summarize_congr h]
theorem ctKey_ok : KeyOK ctKey := fun a b h => by simp only [ctKey, summarize_congr h]
theorem freqKey_ok (hb : Bool) : KeyOK (freqKey hb) := fun a b h => by
  simp only [freqKey, summarize_congr h]

def ofFI (c : FI) : Kind := { cpuset := 0, eff := 0, forced := c.1, infos := c.2 }

theorem map_key_fi {β : Type} {key : Kind → β} (hk : ∀ a b : Kind, a.fi = b.fi → key a = key b) (l : List Kind) :
    l.map key = (l.map Kind.fi).map (fun c => key (ofFI c)) := by
  rw [List.map_map]
  exact List.map_congr_left fun a _ => hk a (ofFI a.fi) rfl

theorem map_key_perm {β : Type} {key : Kind → β} (hk : ∀ a b : Kind, a.fi = b.fi → key a = key b) {ks ks' : List Kind}
    (hp : (ks'.map Kind.fi).Perm (ks.map Kind.fi)) : (ks'.map key).Perm (ks.map key) := by
  rw [map_key_fi hk, map_key_fi hk]; exact hp.map _

theorem all_fi_perm {ks ks' : List Kind} (P : Kind → Bool) (hP : ∀ a b : Kind, a.fi = b.fi → P a = P b)
    (hp : (ks'.map Kind.fi).Perm (ks.map Kind.fi)) : ks'.all P = ks.all P :=
  (List.all_map (p := id)).symm.trans ((map_key_perm hP hp).all_eq.trans List.all_map)

theorem dupFree_fi_perm {key : Kind → Nat} (hk : KeyOK key) {ks ks' : List Kind}
    (hp : (ks'.map Kind.fi).Perm (ks.map Kind.fi)) : dupFree (ks'.map key) = dupFree (ks.map key) := by
  rw [Bool.eq_iff_iff, dupFree_iff_nodup, dupFree_iff_nodup]
  exact (map_key_perm hk hp).nodup_iff

theorem tryForced_perm {ks ks' : List Kind} (hp : (ks'.map Kind.fi).Perm (ks.map Kind.fi)) :
    tryForced ks' = tryForced ks := by
  unfold tryForced
  rw [all_fi_perm (fun k => decide (k.forced ≠ -1)) (fun a b h => by simp only [(fi_eq h).1]) hp,
    dupFree_fi_perm forcedKey_ok hp]

theorem all_summ_perm (g : Summ → Nat) {ks ks' : List Kind} (hp : (ks'.map Kind.fi).Perm (ks.map Kind.fi)) :
    (ks'.map summarize).all (fun s => decide (g s ≠ 0)) = (ks.map summarize).all (fun s => decide (g s ≠ 0)) := by
  rw [List.all_map, List.all_map]
  exact all_fi_perm _ (fun a b h => by simp only [Function.comp, summarize_congr h]) hp

theorem tryInfo_perm (s : Strategy) {ks ks' : List Kind} (hp : (ks'.map Kind.fi).Perm (ks.map Kind.fi)) :
    tryInfo s ks' = tryInfo s ks := by
  unfold tryInfo
  simp only [all_summ_perm (·.maxFreq) hp, all_summ_perm (·.baseFreq) hp, all_summ_perm (·.coreType) hp]
  cases s <;> simp only [dupFree_fi_perm (ctFreqKey_ok _) hp, dupFree_fi_perm ctKey_ok hp,
    dupFree_fi_perm (freqKey_ok _) hp]

theorem chooseKey_perm (strat : Strategy) {ks ks' : List Kind}
    (hp : (ks'.map Kind.fi).Perm (ks.map Kind.fi)) : chooseKey strat ks' = chooseKey strat ks := by
  unfold chooseKey
  cases strat <;> simp only [tryForced_perm hp, tryInfo_perm _ hp]

/-! ### which ranking value each strategy chooses, as propositions over the array (no Bool computation) -/

/-- `hwloc__cpukinds_try_rank_by_forced_efficiency` succeeds: no forced efficiency is UNKNOWN and the values, as
    `uint64_t`, are pairwise distinct -/
def ForcedOK (ks : List Kind) : Prop := (∀ k ∈ ks, k.forced ≠ -1) ∧ (ks.map forcedKey).Nodup

/-- `summary->have_max_freq` / `have_base_freq` / `have_intel_core_type` -/
def HaveMax (ks : List Kind) : Prop := ∀ k ∈ ks, (summarize k).maxFreq ≠ 0
def HaveBase (ks : List Kind) : Prop := ∀ k ∈ ks, (summarize k).baseFreq ≠ 0
def HaveCT (ks : List Kind) : Prop := ∀ k ∈ ks, (summarize k).coreType ≠ 0

def haveMaxB (ks : List Kind) : Bool := (ks.map summarize).all (fun s => decide (s.maxFreq ≠ 0))
def haveBaseB (ks : List Kind) : Bool := (ks.map summarize).all (fun s => decide (s.baseFreq ≠ 0))
def haveCTB (ks : List Kind) : Bool := (ks.map summarize).all (fun s => decide (s.coreType ≠ 0))

theorem all_summ_iff (g : Summ → Nat) (ks : List Kind) :
    (ks.map summarize).all (fun s => decide (g s ≠ 0)) = true ↔ ∀ k ∈ ks, g (summarize k) ≠ 0 := by
  simp [List.all_eq_true]

/-- what `hwloc__cpukinds_try_rank_by_info` requires of the summaries for each info-based heuristic -/
def Need : Strategy → List Kind → Prop
  | .coretypeFreqStrict, ks => HaveCT ks ∧ (HaveMax ks ∨ HaveBase ks)
  | .coretypeFreq, ks => HaveCT ks ∨ HaveMax ks ∨ HaveBase ks
  | .coretype, ks => HaveCT ks
  | .frequency, ks => HaveMax ks ∨ HaveBase ks
  | .freqMax, ks => HaveMax ks
  | .freqBase, ks => HaveBase ks
  | _, _ => False

/-- the ranking value each info-based heuristic computes (base frequency preferred when EVERY kind has one) -/
def infoKey : Strategy → List Kind → Kind → Nat
  | .coretypeFreqStrict, ks => ctFreqKey (haveBaseB ks)
  | .coretypeFreq, ks => ctFreqKey (haveBaseB ks)
  | .coretype, _ => ctKey
  | .frequency, ks => freqKey (haveBaseB ks)
  | .freqMax, _ => freqKey false
  | .freqBase, _ => freqKey true
  | _, _ => fun _ => 0

def InfoOK (h : Strategy) (ks : List Kind) : Prop := Need h ks ∧ (ks.map (infoKey h ks)).Nodup

theorem fin_sel (ks : List Kind) (ok : Bool) (key key' : Kind → Nat) (P : Prop) (hP : ok = true ↔ P) :
    (if ok && dupFree (ks.map key) then some key else none) = some key' ↔ (P ∧ (ks.map key).Nodup) ∧ key' = key := by
  rw [← hP, ← dupFree_iff_nodup, ← Bool.and_eq_true]
  split
  · exact ⟨fun e => ⟨‹_›, (Option.some.inj e).symm⟩, fun e => by rw [e.2]⟩
  · exact ⟨nofun, fun e => absurd e.1 ‹_›⟩

theorem tryForced_sel (ks : List Kind) (key : Kind → Nat) :
    tryForced ks = some key ↔ ForcedOK ks ∧ key = forcedKey :=
  fin_sel ks (ks.all fun k => decide (k.forced ≠ -1)) forcedKey key _ (by simp [List.all_eq_true])

theorem tryInfo_sel (h : Strategy) (ks : List Kind) (key : Kind → Nat) :
    tryInfo h ks = some key ↔ InfoOK h ks ∧ key = infoKey h ks := by
  have hM : haveMaxB ks = true ↔ HaveMax ks := all_summ_iff (·.maxFreq) ks
  have hB : haveBaseB ks = true ↔ HaveBase ks := all_summ_iff (·.baseFreq) ks
  have hC : haveCTB ks = true ↔ HaveCT ks := all_summ_iff (·.coreType) ks
  cases h
  case coretypeFreqStrict =>
    exact fin_sel ks (haveCTB ks && (haveMaxB ks || haveBaseB ks)) (ctFreqKey (haveBaseB ks)) key _
      (by rw [Bool.and_eq_true, Bool.or_eq_true, hM, hB, hC]; rfl)
  case coretypeFreq =>
    exact fin_sel ks (haveCTB ks || haveMaxB ks || haveBaseB ks) (ctFreqKey (haveBaseB ks)) key _
      (by rw [Bool.or_eq_true, Bool.or_eq_true, hM, hB, hC]; exact or_assoc)
  case coretype => exact fin_sel ks (haveCTB ks) ctKey key _ hC
  case frequency =>
    exact fin_sel ks (haveMaxB ks || haveBaseB ks) (freqKey (haveBaseB ks)) key _
      (by rw [Bool.or_eq_true, hM, hB]; rfl)
  case freqMax => exact fin_sel ks (haveMaxB ks) (freqKey false) key _ hM
  case freqBase => exact fin_sel ks (haveBaseB ks) (freqKey true) key _ hB
  all_goals exact ⟨nofun, fun h => h.1.1.elim⟩

/-- "strategy `s` ranks the array `ks` by the value `key`" — the decision procedure of
    `hwloc_internal_cpukinds_rank`, as a proposition -/
def Sel : Strategy → List Kind → (Kind → Nat) → Prop
  | .dflt, ks, key => (ForcedOK ks ∧ key = forcedKey) ∨
                      (¬ ForcedOK ks ∧ InfoOK .coretypeFreq ks ∧ key = infoKey .coretypeFreq ks)
  | .noForced, ks, key => InfoOK .coretypeFreq ks ∧ key = infoKey .coretypeFreq ks
  | .forced, ks, key => ForcedOK ks ∧ key = forcedKey
  | .none, _, _ => False
  | .coretypeFreq, ks, key => InfoOK .coretypeFreq ks ∧ key = infoKey .coretypeFreq ks
  | .coretypeFreqStrict, ks, key => InfoOK .coretypeFreqStrict ks ∧ key = infoKey .coretypeFreqStrict ks
  | .coretype, ks, key => InfoOK .coretype ks ∧ key = infoKey .coretype ks
  | .frequency, ks, key => InfoOK .frequency ks ∧ key = infoKey .frequency ks
  | .freqMax, ks, key => InfoOK .freqMax ks ∧ key = infoKey .freqMax ks
  | .freqBase, ks, key => InfoOK .freqBase ks ∧ key = infoKey .freqBase ks

theorem chooseKey_iff_sel (s : Strategy) (ks : List Kind) (key : Kind → Nat) :
    chooseKey s ks = some key ↔ Sel s ks key := by
  cases s
  case dflt =>
    show (match tryForced ks with | some k => some k | none => tryInfo .coretypeFreq ks) = some key ↔ _
    cases hf : tryForced ks with
    | some k =>
      obtain ⟨c, rfl⟩ := (tryForced_sel ks k).mp hf
      exact ⟨fun e => Or.inl ⟨c, (Option.some.inj e).symm⟩, fun e => e.elim (fun e => by rw [e.2]) (fun e => absurd c e.1)⟩
    | none =>
      have c : ¬ ForcedOK ks := fun c => by rw [(tryForced_sel ks _).mpr ⟨c, rfl⟩] at hf; cases hf
      show tryInfo .coretypeFreq ks = some key ↔ _
      rw [tryInfo_sel]
      exact ⟨fun e => Or.inr ⟨c, e⟩, fun e => e.elim (fun e => absurd e.1 c) (fun e => e.2)⟩
  case noForced => exact tryInfo_sel .coretypeFreq ks key
  case forced => exact tryForced_sel ks key
  case none => exact ⟨fun e => (by cases e), fun e => e.elim⟩
  case coretypeFreq => exact tryInfo_sel .coretypeFreq ks key
  case coretypeFreqStrict => exact tryInfo_sel .coretypeFreqStrict ks key
  case coretype => exact tryInfo_sel .coretype ks key
  case frequency => exact tryInfo_sel .frequency ks key
  case freqMax => exact tryInfo_sel .freqMax ks key
  case freqBase => exact tryInfo_sel .freqBase ks key

theorem chooseKey_none_iff (s : Strategy) (ks : List Kind) : chooseKey s ks = none ↔ ∀ key, ¬ Sel s ks key :=
  Option.eq_none_iff_forall_ne_some.trans (forall_congr' fun key => not_congr (chooseKey_iff_sel s ks key))

theorem infoKey_ok (s : Strategy) (ks : List Kind) : KeyOK (infoKey s ks) := by
  cases s
  case coretypeFreqStrict => exact ctFreqKey_ok _
  case coretypeFreq => exact ctFreqKey_ok _
  case coretype => exact ctKey_ok
  case frequency => exact freqKey_ok _
  case freqMax => exact freqKey_ok _
  case freqBase => exact freqKey_ok _
  all_goals exact fun _ _ _ => rfl

theorem sel_keyOK {s : Strategy} {ks : List Kind} {key : Kind → Nat} (h : Sel s ks key) :
    KeyOK key ∧ (ks.map key).Nodup := by
  have hi : ∀ {s'}, InfoOK s' ks ∧ key = infoKey s' ks → KeyOK key ∧ (ks.map key).Nodup :=
    fun ⟨hok, e⟩ => e ▸ ⟨infoKey_ok _ ks, hok.2⟩
  have hf : ForcedOK ks ∧ key = forcedKey → KeyOK key ∧ (ks.map key).Nodup :=
    fun ⟨hok, e⟩ => e ▸ ⟨forcedKey_ok, hok.2⟩
  cases s
  case dflt => exact h.elim hf (fun h => hi h.2)
  case forced => exact hf h
  case none => exact h.elim
  all_goals exact hi h

theorem chooseKey_some {strat : Strategy} {ks : List Kind} {key : Kind → Nat}
    (h : chooseKey strat ks = some key) : KeyOK key ∧ dupFree (ks.map key) = true :=
  (sel_keyOK ((chooseKey_iff_sel strat ks key).mp h)).imp_right (dupFree_iff_nodup _).mpr

/-! ### `Ranked`: the array is strictly sorted by the chosen ranking value and efficiencies are positions -/

/-- what `hwloc_internal_cpukinds_rank` establishes (and every later public call keeps) -/
def Ranked (strat : Strategy) (ks : List Kind) : Prop :=
  (ks.length = 1 → ∀ k ∈ ks, k.eff = 0) ∧
  (2 ≤ ks.length →
    match chooseKey strat ks with
    | some key => StrictBy key ks ∧ ∀ (i : Nat) (h : i < ks.length), ks[i].eff = (i : Int)
    | none => ∀ k ∈ ks, k.eff = -1)

theorem ranked_nil (strat : Strategy) : Ranked strat [] := ⟨by simp, by simp⟩

theorem fi_perm_of_sameCore {l l' : List Kind} (h : SameCore l l') :
    (l'.map Kind.fi).Perm (l.map Kind.fi) := by
  have := List.Perm.map (fun c : Core => ((c.2.1, c.2.2) : FI)) h
  rw [List.map_map, List.map_map] at this
  exact this

theorem strictBy_iff_map (key : Kind → Nat) (l : List Kind) :
    StrictBy key l ↔ (l.map key).Pairwise (· < ·) := List.pairwise_map.symm

theorem chooseKey_rank (strat : Strategy) (ks : List Kind) : chooseKey strat (rank strat ks) = chooseKey strat ks :=
  chooseKey_perm strat (fi_perm_of_sameCore (rank_sameCore strat ks))

/-- with a ranking value chosen on the input, `hwloc_internal_cpukinds_rank` IS sort-and-renumber, whatever the length
    (for at most one kind the C code sets efficiency 0 without looking at the value, which is what renumbering does) -/
theorem rank_of_key {strat : Strategy} {ks : List Kind} {key : Kind → Nat} (hc : chooseKey strat ks = some key) :
    rank strat ks = renumber 0 (sortBy key ks) ∧ StrictBy key (rank strat ks) ∧
    ∀ (i : Nat) (hi : i < (rank strat ks).length), (rank strat ks)[i].eff = (i : Int) := by
  have e : rank strat ks = renumber 0 (sortBy key ks) := by
    match ks, hc with
    | [], _ => rfl
    | [_], _ => rfl
    | a :: b :: t, hc => rw [rank_two, hc]; rfl
  obtain ⟨hok, hd⟩ := chooseKey_some hc
  rw [e]
  refine ⟨rfl, ?_, fun i hi => by rw [renumber_eff, Nat.zero_add]⟩
  -- renumbering touches no ranking value
  rw [strictBy_iff_map, renumber_map key fun _ _ => hok _ _ rfl, ← strictBy_iff_map]
  exact sortBy_strict key _ hd

/-- `hwloc_internal_cpukinds_rank` on EVERY array, in terms of the ranking value chosen on its INPUT -/
theorem rank_spec (strat : Strategy) (ks : List Kind) :
    SameCore ks (rank strat ks) ∧
    (ks.length ≤ 1 → (rank strat ks).map Kind.core = ks.map Kind.core ∧ ∀ k ∈ rank strat ks, k.eff = 0) ∧
    (2 ≤ ks.length →
      match chooseKey strat ks with
      | some key => rank strat ks = renumber 0 (sortBy key ks) ∧ StrictBy key (rank strat ks) ∧
                    dupFree (ks.map key) = true ∧
                    (∀ (i : Nat) (hi : i < (rank strat ks).length), (rank strat ks)[i].eff = (i : Int))
      | none => rank strat ks = clearEff ks) := by
  refine ⟨rank_sameCore strat ks, ?_, ?_⟩
  · intro h1
    match ks, h1 with
    | [], _ => exact ⟨rfl, by simp [rank]⟩
    | [k], _ => exact ⟨rfl, by simp [rank]⟩
    | _ :: _ :: _, h1 => simp at h1
  · intro h2
    cases hc : chooseKey strat ks with
    | some key => exact have R := rank_of_key hc; ⟨R.1, R.2.1, (chooseKey_some hc).2, R.2.2⟩
    | none =>
      match ks, h2 with
      | a :: b :: t, _ => rw [rank_two, hc]

theorem rank_ranked (strat : Strategy) (ks : List Kind) : Ranked strat (rank strat ks) := by
  have S := rank_spec strat ks
  have hlen := S.1.length
  unfold Ranked
  rw [chooseKey_rank]
  refine ⟨fun h1 => (S.2.1 (Nat.le_of_eq (hlen ▸ h1))).2, fun h2 => ?_⟩
  have H := S.2.2 (hlen ▸ h2)
  cases hc : chooseKey strat ks with
  | some key => rw [hc] at H; exact ⟨H.2.1, H.2.2.2⟩
  | none =>
    rw [hc] at H; rw [H]
    intro k hk
    obtain ⟨k0, _, e⟩ := List.mem_map.mp hk
    rw [← e]

theorem Ranked.map {strat : Strategy} {ks : List Kind} (h : Ranked strat ks) (g : Kind → Kind)
    (hfi : ∀ k, (g k).fi = k.fi) (heff : ∀ k, (g k).eff = k.eff) : Ranked strat (ks.map g) := by
  have hck : chooseKey strat (ks.map g) = chooseKey strat ks :=
    chooseKey_perm strat (by rw [List.map_map, show Kind.fi ∘ g = Kind.fi from funext hfi])
  have hmem : ∀ k' ∈ ks.map g, ∃ k ∈ ks, k'.eff = k.eff := fun k' hk' => by
    obtain ⟨k, hk, rfl⟩ := List.mem_map.mp hk'; exact ⟨k, hk, heff k⟩
  refine ⟨fun h1 k' hk' => ?_, fun h2 => ?_⟩
  · obtain ⟨k, hk, e⟩ := hmem k' hk'
    rw [e]; exact h.1 (by rwa [List.length_map] at h1) k hk
  · have H := h.2 (by rwa [List.length_map] at h2)
    rw [hck]
    cases hc : chooseKey strat ks with
    | none =>
      rw [hc] at H
      intro k' hk'
      obtain ⟨k, hk, e⟩ := hmem k' hk'
      rw [e]; exact H k hk
    | some key =>
      rw [hc] at H
      have hok := (chooseKey_some hc).1
      refine ⟨List.pairwise_map.mpr (H.1.imp fun hab => by rwa [hok _ _ (hfi _), hok _ _ (hfi _)]), fun i hi => ?_⟩
      rw [List.getElem_map, heff]
      exact H.2 i (by rwa [List.length_map] at hi)

theorem Ranked.eff_idx {strat : Strategy} {ks : List Kind} (h : Ranked strat ks)
    (hr : ¬ (2 ≤ ks.length ∧ chooseKey strat ks = none)) :
    ∀ (i : Nat) (hi : i < ks.length), ks[i].eff = (i : Int) := by
  intro i hi
  by_cases h2 : 2 ≤ ks.length
  · have H := h.2 h2
    cases hc : chooseKey strat ks with
    | none => exact absurd ⟨h2, hc⟩ hr
    | some key => rw [hc] at H; exact H.2 i hi
  · have h1 : ks.length = 1 := by omega
    have : i = 0 := by omega
    subst this
    exact h.1 h1 _ (List.getElem_mem hi)

theorem Ranked.of_key {strat : Strategy} {ks : List Kind} {key : Kind → Nat} (h : Ranked strat ks)
    (hc : chooseKey strat ks = some key) :
    StrictBy key ks ∧ ∀ (i : Nat) (hi : i < ks.length), ks[i].eff = (i : Int) := by
  refine ⟨?_, h.eff_idx fun hr => by rw [hc] at hr; cases hr.2⟩
  by_cases h2 : 2 ≤ ks.length
  · have H := h.2 h2
    rw [hc] at H; exact H.1
  · exact List.pairwise_iff_getElem.mpr fun _ _ _ hj hij => absurd (Nat.lt_of_le_of_lt (Nat.zero_lt_of_lt hij) hj) h2

theorem Ranked.eff_unknown {strat : Strategy} {ks : List Kind} (h : Ranked strat ks)
    (hr : 2 ≤ ks.length ∧ chooseKey strat ks = none) : ∀ k ∈ ks, k.eff = -1 := by
  have H := h.2 hr.1
  rw [hr.2] at H
  exact H

theorem Ranked.effShape {strat : Strategy} {ks : List Kind} (h : Ranked strat ks) : EffShape ks := by
  by_cases hr : 2 ≤ ks.length ∧ chooseKey strat ks = none
  · exact Or.inl (h.eff_unknown hr)
  · exact Or.inr (h.eff_idx hr)

theorem Ranked.effs {strat : Strategy} {ks : List Kind} (h : Ranked strat ks) :
    ((2 ≤ ks.length ∧ chooseKey strat ks = none) → ks.map (·.eff) = List.replicate ks.length (-1)) ∧
    (¬ (2 ≤ ks.length ∧ chooseKey strat ks = none) →
      ks.map (·.eff) = (List.range ks.length).map (fun (i : Nat) => (i : Int))) := by
  constructor
  · intro hr
    rw [List.eq_replicate_iff]
    refine ⟨by simp, ?_⟩
    intro b hb
    obtain ⟨k, hk, e⟩ := List.mem_map.mp hb
    rw [← e]; exact h.eff_unknown hr k hk
  · intro hr
    apply List.ext_getElem
    · simp
    · intro i h1 h2
      simp only [List.getElem_map, List.getElem_range]
      exact h.eff_idx hr i (by simpa using h1)

theorem forcedKey_known {k : Kind} (hb : -1 ≤ k.forced ∧ k.forced < 18446744073709551616) (hk : k.forced ≠ -1) :
    (forcedKey k : Int) = k.forced := by
  have h0 : 0 ≤ k.forced := by omega
  unfold forcedKey
  rw [Int.emod_eq_of_lt h0 hb.2, Int.toNat_of_nonneg h0]

/-- `ForcedOK` read on the forced efficiencies themselves, any range: equal values have equal `uint64_t` casts -/
theorem ForcedOK.distinct {ks : List Kind} (h : ForcedOK ks) :
    (∀ k ∈ ks, k.forced ≠ -1) ∧ (ks.map (·.forced)).Pairwise (· ≠ ·) :=
  ⟨h.1, List.pairwise_map.mpr ((List.pairwise_map.mp h.2).imp fun hne e => hne (by unfold forcedKey; rw [e]))⟩

theorem forcedOK_iff_of_inj (ks : List Kind)
    (hinj : ∀ a ∈ ks, ∀ b ∈ ks, a.forced ≠ -1 → b.forced ≠ -1 → forcedKey a = forcedKey b → a.forced = b.forced) :
    ForcedOK ks ↔ (∀ k ∈ ks, k.forced ≠ -1) ∧ (ks.map (·.forced)).Pairwise (· ≠ ·) :=
  ⟨ForcedOK.distinct, fun ⟨hk, hd⟩ => ⟨hk, List.pairwise_map.mpr ((List.pairwise_map.mp hd).imp_of_mem
    fun ha hb hne e => hne (hinj _ ha _ hb (hk _ ha) (hk _ hb) e))⟩⟩

/-- under the range of the public API, `ForcedOK` is literally "all known and pairwise distinct" -/
theorem forcedOK_iff (ks : List Kind) (hb : ∀ k ∈ ks, -1 ≤ k.forced ∧ k.forced < 18446744073709551616) :
    ForcedOK ks ↔ (∀ k ∈ ks, k.forced ≠ -1) ∧ (ks.map (·.forced)).Pairwise (· ≠ ·) := by
  apply forcedOK_iff_of_inj
  intro a ha b hb' h3 h4 e
  rw [← forcedKey_known (hb a ha) h3, ← forcedKey_known (hb b hb') h4, e]

theorem chooseKey_forced {strat : Strategy} (hs : strat = .dflt ∨ strat = .forced) {ks : List Kind} (hok : ForcedOK ks) :
    chooseKey strat ks = some forcedKey := by
  rcases hs with rfl | rfl <;> simp only [chooseKey, (tryForced_sel ks _).mpr ⟨hok, rfl⟩]

/-- on known values in the range of the public API the `uint64_t` cast keeps the order -/
theorem strictBy_forcedKey_known {l : List Kind} (hb : ∀ k ∈ l, -1 ≤ k.forced ∧ k.forced < 18446744073709551616)
    (hk : ∀ k ∈ l, k.forced ≠ -1) (h : StrictBy forcedKey l) : (l.map (·.forced)).Pairwise (· < ·) := by
  rw [List.pairwise_map]
  refine h.imp_of_mem fun {a b} ha hb' hlt => ?_
  rw [← forcedKey_known (hb a ha) (hk a ha), ← forcedKey_known (hb b hb') (hk b hb')]
  exact Int.ofNat_lt.mpr hlt

/-- the bound is the range of the ranking value's type (`uint64_t`) -/
theorem ranked_forced_consistent {strat : Strategy} (hs : strat = .dflt ∨ strat = .forced) {ks : List Kind}
    (h : Ranked strat ks) (hb : ∀ k ∈ ks, -1 ≤ k.forced ∧ k.forced < 18446744073709551616)
    (hk : ∀ k ∈ ks, k.forced ≠ -1) (hd : (ks.map (·.forced)).Pairwise (· ≠ ·)) :
    (∀ (i : Nat) (hi : i < ks.length), ks[i].eff = (i : Int)) ∧ (ks.map (·.forced)).Pairwise (· < ·) :=
  have R := h.of_key (chooseKey_forced hs ((forcedOK_iff ks hb).mpr ⟨hk, hd⟩))
  ⟨R.2, strictBy_forcedKey_known hb hk R.1⟩

theorem strictBy_lt_iff {key : Kind → Nat} {ks : List Kind} (h : StrictBy key ks) (i j : Nat)
    (hi : i < ks.length) (hj : j < ks.length) : i < j ↔ key ks[i] < key ks[j] := by
  have H := List.pairwise_iff_getElem.mp h
  constructor
  · intro hij; exact H i j hi hj hij
  · intro hlt
    rcases Nat.lt_trichotomy i j with hij | hij | hij
    · exact hij
    · subst hij; omega
    · have := H j i hj hi hij; omega

/-! ### histories in which HWLOC_CPUKINDS_RANKING changes between the calls -/

/-- did this call run `hwloc_internal_cpukinds_rank` on the whole array?  register: iff it succeeded; XML reload and
    refresh: always; restrict: iff a kind disappeared; dup: never -/
def ranks (st : State) (p : EOp) : Bool :=
  match p.2 with
  | .register cs f i fl => decide ((register p.1 st cs f i fl).2 = .ok)
  | .restrict set => decide ((restrict p.1 st set).1.kinds.length < st.kinds.length)
  | .dup => false
  | .xml => true
  | .refresh => true

/-- the strategy under which the array was last ranked -/
def tagStep (st : State) (tag : Strategy) (p : EOp) : Strategy := if ranks st p then p.1 else tag

def stepET (x : State × Strategy) (p : EOp) : State × Strategy := (stepE x.1 p, tagStep x.1 x.2 p)

def runET (root : Nat) (h : List EOp) : State × Strategy := h.foldl stepET ({ root := root }, .dflt)

theorem runET_fst (root : Nat) (h : List EOp) : (runET root h).1 = runE root h :=
  (List.foldl_hom Prod.fst fun _ _ => rfl).symm

theorem register_ranked_tag (s : Strategy) (st : State) (tag : Strategy) (h : Ranked tag st.kinds)
    (cs : Option Nat) (f : Int) (infos : List Info) (fl : Nat) :
    Ranked (if decide ((register s st cs f infos fl).2 = .ok) = true then s else tag)
      (register s st cs f infos fl).1.kinds := by
  rcases register_args cs fl with hv | ⟨c, hc, rfl, rfl⟩
  · rw [register_einval s st cs f infos fl hv]; exact h
  · rw [register_valid s st hc]; exact rank_ranked s _

theorem restrict_ranked_tag (s : Strategy) (st : State) (tag : Strategy) (h : Ranked tag st.kinds) (set : Nat) :
    Ranked (if decide ((restrict s st set).1.kinds.length < st.kinds.length) = true then s else tag)
      (restrict s st set).1.kinds := by
  unfold restrict
  split
  · rw [if_neg (by rw [decide_eq_true_eq]; exact Nat.lt_irrefl _)]; exact h
  · show Ranked (if decide ((restrictKinds s st _).kinds.length < _) = true then s else tag) (restrictKinds s st _).kinds
    rcases restrictKinds_cases s st (st.root &&& set) with ⟨_, e⟩ | ⟨n, hn, hl, e⟩ <;> rw [e]
    · -- nothing dropped: no re-ranking, and cutting cpusets does not touch what `Ranked` looks at
      rw [if_neg (by rw [decide_eq_true_eq]; show ¬ (List.map _ _).length < _; rw [List.length_map]; exact Nat.lt_irrefl _)]
      exact h.map _ (fun _ => rfl) (fun _ => rfl)
    · rw [if_pos (by rw [decide_eq_true_eq]; show (rank s _).length < _; rw [(rank_sameCore s _).length]; omega)]
      exact rank_ranked s _

theorem stepET_ranked (x : State × Strategy) (h : Ranked x.2 x.1.kinds) (p : EOp) :
    Ranked (stepET x p).2 (stepET x p).1.kinds := by
  obtain ⟨s, op⟩ := p
  cases op with
  | register cs f i fl => exact register_ranked_tag s x.1 x.2 h cs f i fl
  | restrict set => exact restrict_ranked_tag s x.1 x.2 h set
  | dup =>
    exact h.map _ (fun _ => rfl) (fun _ => rfl)
  | xml => exact rank_ranked s _
  | refresh => exact rank_ranked s _

theorem runET_ranked (root : Nat) (h : List EOp) : Ranked (runET root h).2 (runET root h).1.kinds :=
  List.foldlRecOn h stepET (motive := fun x => Ranked x.2 x.1.kinds) (ranked_nil _)
    (fun x H p _ => stepET_ranked x H p)

theorem runE_ranked (root : Nat) (h : List EOp) : Ranked (runET root h).2 (runE root h).kinds :=
  runET_fst root h ▸ runET_ranked root h

/-- one strategy throughout: the tag never changes -/
theorem step_ranked (strat : Strategy) (st : State) (h : Ranked strat st.kinds) (op : Op) :
    Ranked strat (step strat st op).kinds := by
  have := stepET_ranked (st, strat) h (strat, op)
  rwa [show (stepET (st, strat) (strat, op)).2 = strat from ite_self _] at this

theorem run_ranked (strat : Strategy) (root : Nat) (h : List Op) : Ranked strat (run strat root h).kinds :=
  List.foldlRecOn h (step strat) (motive := fun st => Ranked strat st.kinds) (ranked_nil _)
    (fun st H op _ => step_ranked strat st H op)

theorem runET_last (root : Nat) (h : List EOp) (p : EOp) (hr : ranks (runE root h) p = true) :
    (runET root (h ++ [p])).2 = p.1 ∧ (runET root (h ++ [p])).1 = stepE (runE root h) p := by
  unfold runET
  rw [List.foldl_append]
  simp only [List.foldl_cons, List.foldl_nil]
  have e := runET_fst root h
  unfold runET at e
  constructor
  · show tagStep _ _ p = p.1
    unfold tagStep; rw [e, hr]; rfl
  · show stepE _ p = _
    rw [e]

end CpuKinds
end Hw
