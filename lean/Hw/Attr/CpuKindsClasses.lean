/-
  Hw.Attr.CpuKindsClasses — WHICH PUs share a kind (C15).

  The abstract map PU ↦ (forced, infos) of CpuKindsRefine.lean does not say how PUs are grouped (two kinds may
  carry equal cells).  The grouping is a partial equivalence `same p q` folded over the history:
    register cs :  two PUs of `cs` stay / become together iff they were together or were both uncovered;
                   two PUs outside `cs` stay together iff they were; a PU inside and one outside are separated;
    restrict r  :  together iff they were and both survive.
  `Together ks p q` (some kind contains both; one step of it is in CpuKindsLemmas.lean) is proved equal to that fold
  after every history, so the kinds array is, up to order / eff / dupd, determined by the abstract state (map + classes).
-/
import Hw.Attr.CpuKindsRefine
namespace Hw
namespace CpuKinds

theorem Together.transfer {l l' : List Kind} (h : SameCore l l') {p q : Nat} :
    Together l' p q ↔ Together l p q :=
  ⟨fun hh => exists_core h.symm (P := fun c => c.1.testBit p = true ∧ c.1.testBit q = true) hh,
   fun hh => exists_core h (P := fun c => c.1.testBit p = true ∧ c.1.testBit q = true) hh⟩

structure Cl where
  root : Nat
  same : Same := fun _ _ => False

def clStep (a : Cl) : Op → Cl
  | .register (some cs) _ _ 0 => if cs = 0 then a else { a with same := regSame a.same cs }
  | .register _ _ _ _ => a
  | .restrict set =>
    if a.root &&& set = 0 then a
    else { root := a.root &&& set, same := restrictSame a.same (a.root &&& set) }
  | _ => a

def clRun (root : Nat) (h : List Op) : Cl := h.foldl clStep { root := root }

theorem clStep_eq (a : Cl) (op : Op) :
    clStep a op = effStep Cl.root (fun a cs _ _ => { a with same := regSame a.same cs })
      (fun a r => { root := r, same := restrictSame a.same r }) a op := by
  cases op with
  | register cs f i fl => cases cs <;> cases fl <;> rfl
  | _ => rfl

theorem step_together (strat : Strategy) {st : State} (P : Part st.kinds) {a : Cl}
    (T : ∀ p q, Together st.kinds p q ↔ a.same p q) (hr : a.root = st.root) (op : Op) :
    (∀ p q, Together (step strat st op).kinds p q ↔ (clStep a op).same p q) ∧
      (clStep a op).root = (step strat st op).root := by
  have h := step_effect strat P op
  rw [clStep_eq, effStep_eq, hr]
  generalize effect st.root op = e at h
  cases e with
  | reg c f i =>
    obtain ⟨hc, hs, hroot⟩ := h
    have K := internalRegister_together P.ne P.dj T c f i 1 hc rfl
    exact ⟨fun p q => (Together.transfer hs).trans (K p q), hroot.symm⟩
  | cut r => exact ⟨fun p q => (Together.transfer h.1).trans (restrict_together T r p q), h.2.symm⟩
  | none => exact ⟨fun p q => (Together.transfer h.1).trans (T p q), hr.trans h.2.symm⟩

theorem runE_together (root : Nat) (h : List EOp) :
    ∀ p q, Together (runE root h).kinds p q ↔ ((h.map (·.2)).foldl clStep { root := root }).same p q :=
  (runE_rel (fun st a => (∀ p q, Together st.kinds p q ↔ a.same p q) ∧ a.root = st.root) clStep _ root
    ⟨fun _ _ => ⟨fun ⟨_, hk, _⟩ => (nomatch hk), False.elim⟩, rfl⟩
    (fun s _ _ op W H => step_together s W.part H.1 H.2 op) h).1

theorem run_together (strat : Strategy) (root : Nat) (h : List Op) :
    ∀ p q, Together (run strat root h).kinds p q ↔ (clRun root h).same p q := by
  have := runE_together root (h.map (fun o => (strat, o)))
  rwa [runE_const, map_snd_pair] at this

end CpuKinds
end Hw
