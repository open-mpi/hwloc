/-
  Hw.Attr.GroupingValue — the factorised matrix between the groups (`GROUP_VALUE`, model `groupValue`): it is the `uint64_t`-wrapped
  double sum of the cells between the two groups divided by the product of the sizes, and it is symmetric whenever the matrix is —
  which is why `hwloc__groups_by_distances` may recurse with `needcheck = 0` as far as symmetry is concerned.
-/
import Hw.Attr.Grouping
namespace Hw.Grouping

def sumL (f : Nat → Nat) : List Nat → Nat
  | [] => 0
  | x :: xs => f x + sumL f xs

theorem sumL_add (f g : Nat → Nat) : ∀ l, sumL (fun x => f x + g x) l = sumL f l + sumL g l
  | [] => rfl
  | x :: xs => by simp only [sumL, sumL_add f g xs]; omega

theorem sumL_congr {f g : Nat → Nat} : ∀ l, (∀ x ∈ l, f x = g x) → sumL f l = sumL g l
  | [], _ => rfl
  | x :: xs, h => by
    simp only [sumL]
    rw [h x (List.mem_cons_self ..), sumL_congr xs (fun y hy => h y (List.mem_cons_of_mem _ hy))]

theorem sumL_swap (F : Nat → Nat → Nat) (B : List Nat) : ∀ A : List Nat,
    sumL (fun i => sumL (fun j => F i j) B) A = sumL (fun j => sumL (fun i => F i j) A) B
  | [] => by
    simp only [sumL]
    induction B with
    | nil => rfl
    | cons y ys ih => simp only [sumL]; omega
  | x :: xs => by
    simp only [sumL]
    rw [sumL_swap F B xs, ← sumL_add]

theorem foldl_wrap (f : Nat → Nat) : ∀ (l : List Nat) (acc : Nat),
    (l.foldl (fun acc j => (acc + f j) % W64) acc) % W64 = (acc + sumL f l) % W64
  | [], acc => by simp [sumL]
  | x :: xs, acc => by
    simp only [List.foldl_cons, sumL]
    rw [foldl_wrap f xs, Nat.mod_add_mod, Nat.add_assoc]

theorem foldl_wrap_lt (f : Nat → Nat) (l : List Nat) (acc : Nat) (h : acc < W64) :
    l.foldl (fun acc j => (acc + f j) % W64) acc < W64 :=
  List.foldlRecOn (motive := (· < W64)) l _ h fun _ _ _ _ => Nat.mod_lt _ (by decide)

/-- the wrapped double accumulation, in the order the C loops run -/
def wsum (M : Mat) (A B : List Nat) (acc : Nat) : Nat :=
  A.foldl (fun acc i => B.foldl (fun acc j => (acc + M i j) % W64) acc) acc

theorem wsum_lt (M : Mat) (B A : List Nat) (acc : Nat) (h : acc < W64) : wsum M A B acc < W64 :=
  List.foldlRecOn (motive := (· < W64)) A _ h fun acc hacc _ _ => foldl_wrap_lt _ B acc hacc

theorem wsum_mod (M : Mat) (B : List Nat) : ∀ (A : List Nat) (acc : Nat),
    wsum M A B acc % W64 = (acc + sumL (fun i => sumL (fun j => M i j) B) A) % W64
  | [], acc => by simp [wsum, sumL]
  | x :: xs, acc => by
    unfold wsum
    simp only [List.foldl_cons, sumL]
    have ih := wsum_mod M B xs (B.foldl (fun acc j => (acc + M x j) % W64) acc)
    unfold wsum at ih
    rw [ih]
    have h1 := foldl_wrap (fun j => M x j) B acc
    rw [← Nat.mod_add_mod, h1, Nat.mod_add_mod, Nat.add_assoc]

theorem groupValue_eq (M : Mat) (n : Nat) (ids : Nat → Nat) (a b : Nat) :
    groupValue M n ids a b =
      (sumL (fun i => sumL (fun j => M i j) (members ids n (b+1))) (members ids n (a+1))) % W64
        / ((members ids n (a+1)).length * (members ids n (b+1)).length) := by
  unfold groupValue
  have h := wsum_mod M (members ids n (b+1)) (members ids n (a+1)) 0
  have hl := wsum_lt M (members ids n (b+1)) (members ids n (a+1)) 0 (by decide)
  unfold wsum at h hl
  rw [Nat.mod_eq_of_lt hl, Nat.zero_add] at h
  rw [h]

theorem members_lt {ids : Nat → Nat} {n g i : Nat} (h : i ∈ members ids n g) : i < n := by
  unfold members at h
  exact List.mem_range.mp (List.mem_filter.mp h).1

theorem groupValue_symm (M : Mat) (n : Nat) (ids : Nat → Nat) (hs : ∀ i j, i < n → j < n → M i j = M j i) (a b : Nat) :
    groupValue M n ids a b = groupValue M n ids b a := by
  rw [groupValue_eq, groupValue_eq, sumL_swap, Nat.mul_comm]
  congr 2
  apply sumL_congr
  intro j hj
  apply sumL_congr
  intro i hi
  exact hs i j (members_lt hi) (members_lt hj)

end Hw.Grouping
