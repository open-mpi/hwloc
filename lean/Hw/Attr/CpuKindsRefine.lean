/-
  Hw.Attr.CpuKindsRefine — the refinement of the kinds array to an abstract map  PU ↦ (forced efficiency, infos)
  (C15), and the invariant of C15 over histories.

  `Refines ks m`: every PU of every kind has cell `m p = (forced, infos)` of that kind, uncovered PUs have no cell.
  `internalRegister_refines` (any flags, on the loop-free form of the register loop) and the steps of public
  histories keep it, against the abstract folds `AMap.regG` / `AMap.reg` / `AMap.restrict`.  The reference semantics
  `Ghost` (coverage, owed info pairs) is a view of the abstract map (`AbsGhost`), so the invariant `Inv` follows from
  the refinement, what the array keeps by itself (`Wf`) and, for the efficiency shape, its being ranked (`runE_ranked`).
-/
import Hw.Attr.CpuKindsRank
namespace Hw
namespace CpuKinds

/-! ### the abstract map  PU ↦ (forced efficiency, infos) -/

abbrev Cell := FI
abbrev AMap := Nat → Option Cell

structure Refines (ks : List Kind) (m : AMap) : Prop where
  cell : ∀ k ∈ ks, ∀ p, k.cpuset.testBit p = true → m p = some k.fi
  none : ∀ p, ¬ Covers ks p → m p = none

def AMap.infosAt (m : AMap) (p : Nat) : List Info :=
  match m p with
  | none => []
  | some c => c.2

/-- abstract registration through the PUBLIC call (forced efficiency always overwritten): every PU of `cs`
    gets the new forced efficiency and the union (in order, without exact duplicates) of its infos with the
    new ones; other PUs are untouched -/
def AMap.reg (m : AMap) (cs : Nat) (f : Int) (infos : List Info) : AMap := fun p =>
  if cs.testBit p = true then some (f, addInfos (m.infosAt p) infos) else m p

def AMap.restrict (m : AMap) (r : Nat) : AMap := fun p => if r.testBit p = true then m p else none

/-- the kind of PU `p` lies wholly inside `cs` (merge branch) -/
def wholeKind (ks : List Kind) (cs p : Nat) : Bool :=
  ks.any (fun k => k.cpuset.testBit p && decide (cs &&& k.cpuset = k.cpuset))

/-- abstract registration through `hwloc_internal_cpukinds_register` with the OVERWRITE flag `o`.
    Infos as in `AMap.reg`.  Forced efficiency: the rule "keep an already known value unless OVERWRITE" is
    applied by the C code only when the PU's whole kind is covered (CONTAINS / EQUAL); when the kind is
    split (INTERSECTS / INCLUDED) the split-off kind takes the new value unconditionally, even UNKNOWN. -/
def AMap.regG (ks : List Kind) (o : Bool) (m : AMap) (cs : Nat) (f : Int) (infos : List Info) : AMap := fun p =>
  if cs.testBit p = true then
    match m p with
    | none => some (f, addInfos [] infos)
    | some c => some (if o || c.1 = -1 || !wholeKind ks cs p then f else c.1, addInfos c.2 infos)
  else m p

theorem AMap.regG_true (ks : List Kind) (m : AMap) (cs : Nat) (f : Int) (infos : List Info) :
    AMap.regG ks true m cs f infos = m.reg cs f infos := by
  funext p
  unfold AMap.regG AMap.reg AMap.infosAt
  cases m p <;> simp

theorem wholeKind_eq {ks : List Kind} (hdj : Disjoint ks) (cs : Nat) {p : Nat} {k : Kind} (hk : k ∈ ks)
    (hp : k.cpuset.testBit p = true) : wholeKind ks cs p = decide (cs &&& k.cpuset = k.cpuset) := by
  rw [Bool.eq_iff_iff, decide_eq_true_eq]
  unfold wholeKind
  rw [List.any_eq_true]
  constructor
  · rintro ⟨x, hx, hh⟩
    rw [Bool.and_eq_true, decide_eq_true_eq] at hh
    rw [← kind_unique hdj hx hk hh.1 hp]; exact hh.2
  · exact fun hm => ⟨k, hk, by rw [hp, Bool.true_and, decide_eq_true_eq]; exact hm⟩

theorem internalRegister_refines {st : State} {m : AMap} (hne : NonEmpty st.kinds) (hdj : Disjoint st.kinds)
    (hnd : InfosNodup st.kinds) (R : Refines st.kinds m)
    (cs : Nat) (f : Int) (infos : List Info) (fl : Nat) (hcs : cs ≠ 0) (hfl : fl / 2 = 0) :
    Refines (internalRegister st cs f infos fl).1.kinds
      (AMap.regG st.kinds (decide (fl % 2 = 1)) m cs f infos) := by
  constructor
  · intro k' hk' p hp
    rcases (mem_internalRegister hne hdj cs f infos fl hcs hfl k').mp hk' with
      ⟨k, hk, _, rfl⟩ | ⟨k, hk, hm, rfl⟩ | ⟨k, hk, ⟨_, hs⟩, rfl⟩ | ⟨_, rfl⟩
    · -- outside the registered cpuset the cell is kept
      have hp' := mem_andnot.mp hp
      unfold AMap.regG
      rw [if_neg (by rw [hp'.2]; exact Bool.false_ne_true)]
      exact R.cell k hk p hp'.1
    · -- a whole kind inside it: forced efficiency by the keep / overwrite rule
      have hpk : k.cpuset.testBit p = true := hp
      have hw : wholeKind st.kinds cs p = true := by rw [wholeKind_eq hdj cs hk hpk, decide_eq_true hm]
      unfold AMap.regG
      rw [if_pos ((and_eq_right_iff_bits cs k.cpuset).mp hm p hpk), R.cell k hk p hpk]
      simp only [hw, Bool.not_true, Bool.or_false]
      rfl
    · -- the covered part of a partly covered kind: the new forced efficiency unconditionally
      have hp' := mem_inter.mp hp
      have hw : wholeKind st.kinds cs p = false := by rw [wholeKind_eq hdj cs hk hp'.2, decide_eq_false hs]
      unfold AMap.regG
      rw [if_pos hp'.1, R.cell k hk p hp'.2]
      simp [Kind.fi, hw, addInfos_nil_of_nodup _ (hnd k hk)]
    · -- the uncovered rest
      have hp' := (flatRem_bits _ _ _).mp hp
      unfold AMap.regG
      rw [if_pos hp'.1, R.none p hp'.2]
      rfl
  · intro p hnc
    -- an uncovered PU was uncovered before and is outside cs
    have h := fun hc => hnc ((internalRegister_covers hne hdj cs f infos fl hcs hfl p).mpr hc)
    unfold AMap.regG
    rw [if_neg fun hc => h (Or.inr hc)]
    exact R.none p fun hc => h (Or.inl hc)

theorem Refines.transfer {l l' : List Kind} (h : SameCore l l') {m : AMap} (R : Refines l m) : Refines l' m where
  cell := forall_core h (P := fun c => ∀ p, c.1.testBit p = true → m p = some (c.2.1, c.2.2)) R.cell
  none := fun p hn => R.none p (fun hc => hn ((covers_core h p).mpr hc))

theorem refines_nil : Refines [] (fun _ => none) := ⟨fun _ h => (nomatch h), fun _ _ => rfl⟩

theorem refines_covers {ks : List Kind} {m : AMap} (R : Refines ks m) (p : Nat) : Covers ks p ↔ m p ≠ none := by
  constructor
  · rintro ⟨k, hk, hp⟩
    rw [R.cell k hk p hp]; exact Option.some_ne_none _
  · intro hn
    exact Classical.byContradiction fun hc => hn (R.none p hc)

/-- `cutKinds` is restrict before the re-ranking, which `Refines.transfer` absorbs -/
theorem restrict_refines {ks : List Kind} {m : AMap} (R : Refines ks m) (r : Nat) :
    Refines (cutKinds r ks) (m.restrict r) := by
  constructor
  · intro k hk p hp
    obtain ⟨k0, hk0, _, rfl⟩ := mem_cutKinds.mp hk
    unfold AMap.restrict
    rw [if_pos (and_sub_right _ _ p hp)]
    exact R.cell k0 hk0 p (and_sub_left _ _ p hp)
  · intro p hn
    unfold AMap.restrict
    split
    · rename_i hr
      exact R.none p fun hc => hn ((covers_cutKinds r ks p).mpr ⟨hc, hr⟩)
    · rfl

/-! ### histories of public calls against the abstract fold -/

structure Abs where
  root : Nat
  map : AMap := fun _ => none

/-- abstract semantics of one public call: a valid register updates the cells of its PUs, a valid restrict
    restricts the map; dup / XML round trip / refresh and every rejected call leave it alone -/
def absStep (a : Abs) : Op → Abs
  | .register (some cs) f i 0 =>
    if cs = 0 then a else { a with map := a.map.reg cs (if f < 0 then -1 else f) i }
  | .register _ _ _ _ => a
  | .restrict set =>
    if a.root &&& set = 0 then a
    else { root := a.root &&& set, map := a.map.restrict (a.root &&& set) }
  | _ => a

def absRun (root : Nat) (h : List Op) : Abs := h.foldl absStep { root := root }

theorem absStep_eq (a : Abs) (op : Op) :
    absStep a op = effStep Abs.root (fun a cs f i => { a with map := a.map.reg cs f i })
      (fun a r => { root := r, map := a.map.restrict r }) a op := by
  cases op with
  | register cs f i fl => cases cs <;> cases fl <;> rfl
  | _ => rfl

theorem step_refines (strat : Strategy) {st : State} (P : Part st.kinds) {a : Abs}
    (R : Refines st.kinds a.map) (hr : a.root = st.root) (op : Op) :
    Refines (step strat st op).kinds (absStep a op).map ∧ (absStep a op).root = (step strat st op).root := by
  have h := step_effect strat P op
  rw [absStep_eq, effStep_eq, hr]
  generalize effect st.root op = e at h
  cases e with
  | reg c f i =>
    obtain ⟨hc, hs, hroot⟩ := h
    have K := internalRegister_refines P.ne P.dj P.nd R c f i 1 hc rfl
    rw [show decide (1 % 2 = 1) = true from rfl, AMap.regG_true] at K
    exact ⟨K.transfer hs, hroot.symm⟩
  | cut r => exact ⟨(restrict_refines R r).transfer h.1, h.2.symm⟩
  | none => exact ⟨R.transfer h.1, hr.trans h.2.symm⟩

theorem runE_refines (root : Nat) (h : List EOp) :
    Refines (runE root h).kinds (absRun root (h.map (·.2))).map ∧
    (absRun root (h.map (·.2))).root = (runE root h).root :=
  runE_rel (fun st a => Refines st.kinds a.map ∧ a.root = st.root) absStep _ root ⟨refines_nil, rfl⟩
    (fun s _ _ op W H => step_refines s W.part H.1 H.2 op) h

theorem run_refines (strat : Strategy) (root : Nat) (h : List Op) :
    Refines (run strat root h).kinds (absRun root h).map ∧ (absRun root h).root = (run strat root h).root := by
  have := runE_refines root (h.map (fun o => (strat, o)))
  rwa [runE_const, map_snd_pair] at this

/-- cell of PU `p` read from the array: the first (on a partition: the only) kind containing `p` -/
def cellAt (ks : List Kind) (p : Nat) : Option Cell :=
  (ks.find? (fun k => k.cpuset.testBit p)).map Kind.fi

theorem cellAt_eq {ks : List Kind} {m : AMap} (R : Refines ks m) (p : Nat) : cellAt ks p = m p := by
  unfold cellAt
  cases hf : ks.find? (fun k => k.cpuset.testBit p) with
  | none =>
    rw [List.find?_eq_none] at hf
    rw [R.none p]; · rfl
    rintro ⟨k, hk, hp⟩
    exact hf k hk hp
  | some k =>
    have hk := List.mem_of_find?_eq_some hf
    have hp := List.find?_some hf
    rw [R.cell k hk p hp]; rfl

/-! ### properties of the abstract fold: coverage, info sets, duplicate-freeness, forced values -/

theorem AMap.reg_ne_none (m : AMap) (cs : Nat) (f : Int) (infos : List Info) (p : Nat) :
    m.reg cs f infos p ≠ none ↔ (cs.testBit p = true ∨ m p ≠ none) := by
  unfold AMap.reg
  split
  · rename_i h; simp [h]
  · rename_i h; simp [h]

theorem AMap.reg_some {m : AMap} {cs : Nat} {f : Int} {infos : List Info} {p : Nat} {c : Cell}
    (h : m.reg cs f infos p = some c) :
    (cs.testBit p = true ∧ c = (f, addInfos (m.infosAt p) infos)) ∨ (cs.testBit p ≠ true ∧ m p = some c) := by
  unfold AMap.reg at h
  split at h
  · rename_i hp; injection h with h; exact Or.inl ⟨hp, h.symm⟩
  · rename_i hp; exact Or.inr ⟨hp, h⟩

theorem AMap.restrict_some {m : AMap} {r p : Nat} {c : Cell} (h : m.restrict r p = some c) :
    r.testBit p = true ∧ m p = some c := by
  unfold AMap.restrict at h
  split at h
  · rename_i hp; exact ⟨hp, h⟩
  · cases h

/-- link to the reference semantics `Ghost`, PU by PU: the domain of the abstract map is the reference coverage and
    the info SET of a cell is the set of owed pairs -/
structure CellGhost (oc : Option Cell) (cov : Bool) (ow : Info → Prop) : Prop where
  dom : oc ≠ none ↔ cov = true
  inf : ∀ c, oc = some c → ∀ x, x ∈ c.2 ↔ ow x
  nd : ∀ c, oc = some c → c.2.Nodup
  owz : ∀ x, ow x → cov = true

structure AbsGhost (a : Abs) (g : Ghost) : Prop where
  root : a.root = g.root
  pu : ∀ p, CellGhost (a.map p) (g.cov.testBit p) (g.ow p)

theorem absGhost_step {a : Abs} {g : Ghost} (H : AbsGhost a g) (op : Op) :
    AbsGhost (absStep a op) (ghostStep g op) := by
  rw [absStep_eq, ghostStep_eq, effStep_eq, effStep_eq, ← H.root]
  cases effect a.root op with
  | reg c f i =>
    refine ⟨rfl, fun p => ?_⟩
    have Hp := H.pu p
    show CellGhost (if c.testBit p = true then some (f, addInfos (a.map.infosAt p) i) else a.map p)
      ((g.cov ||| c).testBit p) (fun x => g.ow p x ∨ (c.testBit p = true ∧ x ∈ i))
    rw [Nat.testBit_or]
    cases hc : c.testBit p
    · simpa using Hp
    · -- what `p` was owed is what its cell lists, nothing when it had none
      have hl : (a.map.infosAt p).Nodup ∧ ∀ x, x ∈ a.map.infosAt p ↔ g.ow p x := by
        unfold AMap.infosAt
        cases hm : a.map p with
        | none =>
          have hcov : g.cov.testBit p ≠ true := fun h => Hp.dom.mpr h hm
          exact ⟨List.nodup_nil, fun x => ⟨nofun, fun ho => absurd (Hp.owz x ho) hcov⟩⟩
        | some c0 => exact ⟨Hp.nd c0 hm, Hp.inf c0 hm⟩
      refine ⟨by simp, ?_, ?_, by simp⟩
      · rintro _ ⟨⟩ x
        rw [mem_addInfos, hl.2 x]; simp
      · rintro _ ⟨⟩
        exact nodup_addInfos _ _ hl.1
  | cut r =>
    refine ⟨rfl, fun p => ?_⟩
    have Hp := H.pu p
    show CellGhost (if r.testBit p = true then a.map p else none) ((g.cov &&& r).testBit p)
      (fun x => g.ow p x ∧ r.testBit p = true)
    rw [Nat.testBit_and]
    cases hr : r.testBit p
    · exact ⟨by simp, nofun, nofun, by simp⟩
    · simpa using Hp
  | none => exact H

theorem absGhost_run (root : Nat) (h : List Op) : AbsGhost (absRun root h) (runGhost root h) :=
  List.foldl_rel (r := AbsGhost)
    ⟨rfl, fun p => ⟨by simp [Nat.zero_testBit], nofun, nofun, fun _ h => False.elim h⟩⟩
    (fun op _ _ _ H => absGhost_step H op)

theorem effect_reg {root : Nat} {op : Op} {c : Nat} {f : Int} {i : List Info} (h : effect root op = .reg c f i) :
    ∃ f0, op = .register (some c) f0 i 0 ∧ f = if f0 < 0 then -1 else f0 := by
  cases op with
  | register cs f0 i0 fl =>
    rcases register_args cs fl with hv | ⟨c0, hc0, rfl, rfl⟩
    · rw [effect_register_einval root f0 i0 hv] at h; cases h
    · rw [effect_register_valid root hc0] at h; cases h; exact ⟨f0, rfl, rfl⟩
  | restrict set =>
    change (if root &&& set = 0 then Effect.none else _) = _ at h
    split at h <;> cases h
  | _ => cases h

theorem abs_forced_P (P : Int → Prop) (root : Nat) (h : List Op)
    (hP : ∀ cs f i fl, Op.register cs f i fl ∈ h → P (if f < 0 then -1 else f)) :
    ∀ p c, (absRun root h).map p = some c → P c.1 := by
  refine List.foldlRecOn h absStep (b := { root := root }) (motive := fun a => ∀ p c, a.map p = some c → P c.1)
    (fun _ _ hc => nomatch hc) ?_
  intro a Ha op hop
  rw [absStep_eq, effStep_eq]
  cases he : effect a.root op with
  | reg c f i =>
    obtain ⟨f0, rfl, rfl⟩ := effect_reg he
    intro p cell hcell
    rcases AMap.reg_some hcell with ⟨_, rfl⟩ | ⟨_, hm⟩
    · exact hP (some c) f0 i 0 hop
    · exact Ha p cell hm
  | cut r => exact fun p cell hcell => Ha p cell (AMap.restrict_some hcell).2
  | none => exact Ha

theorem runE_forced_P (P : Int → Prop) (root : Nat) (h : List EOp)
    (hP : ∀ s cs f i fl, (s, Op.register cs f i fl) ∈ h → P (if f < 0 then -1 else f)) :
    ∀ k ∈ (runE root h).kinds, P k.forced := by
  intro k hk
  obtain ⟨p, hp⟩ := Bits.ne_zero_iff.mp ((runE_wf root h).part.ne k hk)
  refine abs_forced_P P root (h.map (·.2)) ?_ p k.fi ((runE_refines root h).1.cell k hk p hp)
  intro cs f i fl hm
  obtain ⟨⟨s, o⟩, hq, rfl⟩ := List.mem_map.mp hm
  exact hP s cs f i fl hq

theorem run_forced_P (P : Int → Prop) (strat : Strategy) (root : Nat) (h : List Op)
    (hP : ∀ cs f i fl, Op.register cs f i fl ∈ h → P (if f < 0 then -1 else f)) :
    ∀ k ∈ (run strat root h).kinds, P k.forced := by
  rw [← runE_const]
  apply runE_forced_P
  intro s cs f i fl hm
  obtain ⟨o, ho, e⟩ := List.mem_map.mp hm
  cases e
  exact hP cs f i fl ho

/-! ### the invariant of C15 over histories -/

/-- partition and capacity are kept by the array itself; coverage and owed infos are read off the abstract map; forced
    efficiencies come from the register calls; the efficiency shape is what being ranked leaves -/
theorem runE_inv (root : Nat) (h : List EOp) : Inv (runE root h) (runGhost root (h.map (·.2))) := by
  have W := runE_wf root h
  have ⟨R, hr⟩ := runE_refines root h
  have G := absGhost_run root (h.map (·.2))
  refine ⟨⟨W.part.ne, W.part.dj, W.part.nd, fun p => (refines_covers R p).trans (G.pu p).dom,
    fun k hk p hp => (G.pu p).inf k.fi (R.cell k hk p hp), ?_⟩, fun p => (G.pu p).owz, G.root.symm.trans hr, W.cap,
    (runE_ranked root h).effShape⟩
  apply runE_forced_P (fun x => -1 ≤ x) root h
  intro _ _ f _ _ _
  split <;> omega

theorem run_inv (strat : Strategy) (root : Nat) (h : List Op) : Inv (run strat root h) (runGhost root h) := by
  have := runE_inv root (h.map (fun o => (strat, o)))
  rwa [runE_const, map_snd_pair] at this

/-! ### efficiency order between PUs, from their abstract cells -/

theorem eff_order_by_cells {strat : Strategy} {ks : List Kind} {m : AMap} (hR : Ranked strat ks) (R : Refines ks m)
    {key : Kind → Nat} (hk : chooseKey strat ks = some key)
    (i j : Nat) (hi : i < ks.length) (hj : j < ks.length) (p q : Nat) (cp cq : Cell)
    (hp : ks[i].cpuset.testBit p = true) (hq : ks[j].cpuset.testBit q = true)
    (hcp : m p = some cp) (hcq : m q = some cq) :
    ks[i].eff = (i : Int) ∧ ks[j].eff = (j : Int) ∧ (i < j ↔ key (ofFI cp) < key (ofFI cq)) := by
  have H := hR.of_key hk
  have hok := (chooseKey_some hk).1
  have e1 : cp = ks[i].fi := by
    have := R.cell _ (List.getElem_mem hi) p hp
    rw [hcp] at this; injection this
  have e2 : cq = ks[j].fi := by
    have := R.cell _ (List.getElem_mem hj) q hq
    rw [hcq] at this; injection this
  refine ⟨H.2 i hi, H.2 j hj, ?_⟩
  rw [e1, e2, ← hok ks[i] (ofFI ks[i].fi) rfl, ← hok ks[j] (ofFI ks[j].fi) rfl]
  exact strictBy_lt_iff H.1 i j hi hj

end CpuKinds
end Hw
