/-
  Hw.Attr.GroupingWalk — the part of `hwloc__groups_by_distances` that creates and inserts the Groups, composed with the model of
  `hwloc_topology_insert_group_object` (Hw.Topo.Insert): one call (`insertStep`), the Groups of one round (`insertRound`), all the
  rounds (`walk`: a round in which an insertion returned NULL is the last one, otherwise the objects of the next round are the
  Groups just inserted — or the objects they were merged into, which have the same cpuset).

  On a laminar tree the whole walk leaves a laminar tree with the same root set (`walk_lam`).
-/
import Hw.Attr.GroupingSets
import Hw.Topo.InsertSort
namespace Hw.Grouping
open Hw.Topo Hw.Topo.Ins

/-- what `hwloc_topology_insert_group_object` takes from the topology -/
structure GEnv where
  filterGroup : Nat
  rootCpuset : Nat
  rootNodeset : Nat
  numas : List (Nat × Nat)

def isGroupIn (t : T) (g : Nat) : Bool := (objsT t).any (fun o => o.gp == g && o.type == tGROUP)

/-- one `hwloc_topology_insert_group_object(topology, group_obj)` of the grouping code (the Group's nodesets were dropped before):
the tree after the call, and whether it returned NULL (`failed++`) -/
def insertStep (e : GEnv) (t : T) (o : IObj) : T × Bool :=
  match insertGroup e.filterGroup e.rootCpuset e.rootNodeset e.numas t o.gp
      { cpuset := some o.key, nodeset := none, dm := false, kind := o.kind, subkind := o.subkind } with
  | .einval => (t, true)
  | .mergedRoot => (t, false)
  | .core _ (.inserted t') => (fixOrder o.gp t', false)
  | .core _ (.merged t' g) => (if isGroupIn t g then fixOrder g t' else t', false)
  | .core _ (.failed t') => (t', true)
  | .core _ .stuck => (t, true)                    -- unreachable on laminar trees (`insertGroup_good`)

/-- the Groups of one round, in order; the flag says whether some insertion returned NULL -/
def insertRound (e : GEnv) : T → List IObj → T × Bool
  | t, [] => (t, false)
  | t, o :: os => ((insertRound e (insertStep e t o).1 os).1, (insertStep e t o).2 || (insertRound e (insertStep e t o).1 os).2)

/-- all rounds: the tree after the commit and `grouping_next_subkind` after it -/
def walk (e : GEnv) : List Round → (sets : Nat → Nat) → (subkind base : Nat) → T → T × Nat
  | [], _, sk, _, t => (t, sk)
  | r :: rs, sets, sk, base, t =>
    if (insertRound e t (roundObjs sets r sk base)).2 then ((insertRound e t (roundObjs sets r sk base)).1, sk + 1)
    else walk e rs (fun g => ((roundObjs sets r sk base).map (·.key)).getD g 0) (sk + 1) (base + r.nb)
           (insertRound e t (roundObjs sets r sk base)).1

theorem insertStep_lam (e : GEnv) (t : T) (o : IObj) (h : Lam t) :
    Lam (insertStep e t o).1 ∧ (insertStep e t o).1.o.key = t.o.key := by
  unfold insertStep
  split
  · exact ⟨h, rfl⟩
  · exact ⟨h, rfl⟩
  · rename_i key t' heq
    have hg := insertGroup_good _ _ _ _ t o.gp _ h key _ heq
    exact ⟨fixOrder_lam _ _ hg.1, by rw [fixOrder_key]; exact hg.2.1⟩
  · rename_i key t' g heq
    have hg := insertGroup_good _ _ _ _ t o.gp _ h key _ heq
    split
    · exact ⟨fixOrder_lam _ _ hg.1, by rw [fixOrder_key]; exact hg.2.1⟩
    · exact ⟨hg.1, hg.2.1⟩
  · rename_i key t' heq
    have hg := insertGroup_good _ _ _ _ t o.gp _ h key _ heq
    exact ⟨hg.1, hg.2.1⟩
  · exact ⟨h, rfl⟩

theorem insertRound_lam (e : GEnv) : ∀ (os : List IObj) (t : T), Lam t →
    Lam (insertRound e t os).1 ∧ (insertRound e t os).1.o.key = t.o.key
  | [], _, h => ⟨h, rfl⟩
  | o :: os, t, h => by
    have h1 := insertStep_lam e t o h
    have h2 := insertRound_lam e os _ h1.1
    exact ⟨h2.1, by rw [insertRound]; exact h2.2.trans h1.2⟩

theorem walk_lam (e : GEnv) : ∀ (rs : List Round) (sets : Nat → Nat) (sk base : Nat) (t : T), Lam t →
    Lam (walk e rs sets sk base t).1 ∧ (walk e rs sets sk base t).1.o.key = t.o.key
  | [], _, _, _, _, h => ⟨h, rfl⟩
  | r :: rs, sets, sk, base, t, h => by
    have h1 := insertRound_lam e (roundObjs sets r sk base) t h
    unfold walk
    split
    · exact h1
    · have h2 := walk_lam e rs (fun g => ((roundObjs sets r sk base).map (·.key)).getD g 0) (sk + 1) (base + r.nb) _ h1.1
      exact ⟨h2.1, h2.2.trans h1.2⟩

/-- `grouping_next_subkind` advances by at most one per round -/
theorem walk_subkind_le (e : GEnv) : ∀ (rs : List Round) (sets : Nat → Nat) (sk base : Nat) (t : T),
    sk ≤ (walk e rs sets sk base t).2 ∧ (walk e rs sets sk base t).2 ≤ sk + rs.length
  | [], _, _, _, _ => ⟨Nat.le_refl _, Nat.le_refl _⟩
  | r :: rs, sets, sk, base, t => by
    unfold walk
    split
    · simp only [List.length_cons]; omega
    · have := walk_subkind_le e rs (fun g => ((roundObjs sets r sk base).map (·.key)).getD g 0) (sk + 1) (base + r.nb)
        (insertRound e t (roundObjs sets r sk base)).1
      simp only [List.length_cons]; omega

end Hw.Grouping
