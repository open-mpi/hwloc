/-
  Hw.Attr.Infos — `hwloc_modify_infos` (hwloc/topology.c 473-606; `hwloc_obj_add_info` is its ADD).

  The C functions edit one array in place (REPLACE and REMOVE compact it while scanning it).  The
  model `*Arr` follows the array code literally — a cell store `Nat → Info` that is read and written
  by index — and is proved equal to the list specification `*Spec` the documentation describes.
  Return codes as in the C: ADD 1; ADD_UNIQUE 0 (present) or 1; REPLACE 1+isMatch or (none) ADD's 1;
  REMOVE the number of removed pairs; unknown operation −1 (EINVAL); NULL name/value −1 (EINVAL)
  for ADD, ADD_UNIQUE, REPLACE (NULL = wildcard for REMOVE).
-/
namespace Hw.Infos

abbrev Info := String × String

/-! ### list specifications -/

def addSpec (l : List Info) (n v : String) : List Info := l ++ [(n, v)]

def addUniqueSpec (l : List Info) (n v : String) : List Info × Int :=
  if l.contains (n, v) then (l, 0) else (addSpec l n v, 1)

/-- REPLACE: the first pair named `n` gets the new value, later pairs named `n` are deleted, the others keep their
relative order; if there is none the pair is appended -/
def replaceSpec (l : List Info) (n v : String) : List Info × Int :=
  let cnt := l.countP (fun p => p.1 == n)
  if cnt = 0 then (addSpec l n v, 1)
  else
    let rec go : List Info → Bool → List Info
      | [], _ => []
      | p :: ps, seen => if p.1 == n then (if seen then go ps true else (n, v) :: go ps true) else p :: go ps seen
    (go l false, 1 + (cnt : Int))

def isMatch (n v : Option String) (p : Info) : Bool :=
  (match n with | none => true | some n => p.1 == n) && (match v with | none => true | some v => p.2 == v)

/-- REMOVE: exactly the matching pairs are deleted (NULL name / value match everything) -/
def removeSpec (l : List Info) (n v : Option String) : List Info × Int :=
  (l.filter (fun p => !isMatch n v p), ((l.countP (isMatch n v) : Nat) : Int))

/-! ### the in-place array code -/

/-- array cells as a function, `count` valid cells -/
structure Arr where
  cell : Nat → Info
  count : Nat

def Arr.ofList (l : List Info) : Arr := ⟨fun i => (l[i]?).getD ("", ""), l.length⟩
def Arr.toList (a : Arr) : List Info := (List.range a.count).map a.cell
def Arr.set (a : Arr) (i : Nat) (p : Info) : Arr := { a with cell := fun j => if j = i then p else a.cell j }

/-- loop of `hwloc__remove_infos`: state = (cells, found) after scanning `i` cells -/
def removeLoop (n v : Option String) (a : Arr) : Nat → Arr × Nat
  | 0 => (a, 0)
  | i+1 =>
    let (a', found) := removeLoop n v a i
    if isMatch n v (a'.cell i) then (a', found + 1)        -- cells ≥ i are still the original ones
    else (a'.set (i - found) (a'.cell i), found)

def removeArr (l : List Info) (n v : Option String) : List Info × Int :=
  let (a, found) := removeLoop n v (Arr.ofList l) l.length
  (({ a with count := l.length - found } : Arr).toList, (found : Int))

/-- loop of `hwloc__replace_infos` -/
def replaceLoop (n v : String) (a : Arr) : Nat → Arr × Nat
  | 0 => (a, 0)
  | i+1 =>
    let (a', found) := replaceLoop n v a i
    if (a'.cell i).1 == n then
      if found = 0 then (a'.set i ((a'.cell i).1, v), 1) else (a', found + 1)
    else if 1 < found then (a'.set (i - (found - 1)) (a'.cell i), found)
    else (a', found)

def replaceArr (l : List Info) (n v : String) : List Info × Int :=
  let (a, found) := replaceLoop n v (Arr.ofList l) l.length
  if found = 0 then (addSpec l n v, 1)
  else (({ a with count := l.length - (found - 1) } : Arr).toList, 1 + (found : Int))

/-- the `op` of `hwloc_modify_infos`; its numeric values are decoded by `infoOp` (Hw/Topo/History.lean) -/
inductive Op | add | addUnique | replace | remove | unknown
deriving DecidableEq, Repr

def modify (l : List Info) (op : Op) (n v : Option String) : List Info × Int :=
  match op, n, v with
  | .add, some n, some v => (addSpec l n v, 1)
  | .addUnique, some n, some v => addUniqueSpec l n v
  | .replace, some n, some v => replaceArr l n v
  | .remove, n, v => removeArr l n v
  | _, _, _ => (l, -1)

end Hw.Infos
