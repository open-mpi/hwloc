/-
  Hw.Attr.Distances — model of hwloc/distances.c (user API for adding, getting, removing and
  transforming distance matrices, refresh after topology changes, XML / dup transfer).
  Core Lean only.

  Conventions
  * an object is known by its type, gp_index, os_index and whether its subtype is "NVSwitch";
    a topology is the list of its live objects in level order (`Topo`);
  * C arrays that are read and written in place (`values`, `objs`, `indexes`, `different_types`)
    are *functional arrays* `FArr α` (index ↦ value) updated by `upd`; every loop is written with explicit fuel
    `fuel = bound - index` and the same index arithmetic as the C code;
  * `uint64_t` additions wrap (`add64`).
-/
namespace Hw.Dist

/-! ## constants of include/hwloc/distances.h -/

def KIND_FROM_OS : Nat := 1
def KIND_FROM_USER : Nat := 2
def KIND_VALUE_LATENCY : Nat := 4
def KIND_VALUE_BANDWIDTH : Nat := 8
def KIND_HETEROGENEOUS : Nat := 16
def KIND_VALUE_HOPS : Nat := 32
/-- `HWLOC_DISTANCES_KIND_FROM_ALL` (distances.c) -/
def KIND_FROM_ALL : Nat := 3
/-- `HWLOC_DISTANCES_KIND_VALUE_ALL` -/
def KIND_VALUE_ALL : Nat := 44
/-- `HWLOC_DISTANCES_KIND_ALL` -/
def KIND_ALL : Nat := 63
/-- `HWLOC_DISTANCES_ADD_FLAG_ALL` -/
def ADD_FLAG_ALL : Nat := 3

def TY_NONE : Int := -1
def TY_PU : Int := 4
def TY_NUMA : Int := 14
/-- `HWLOC_DIST_TYPE_USE_OS_INDEX` -/
def useOs (t : Int) : Bool := t == TY_PU || t == TY_NUMA

def W64 : Nat := 18446744073709551616
def add64 (a b : Nat) : Nat := (a + b) % W64

/-- `hwloc_weight_long` on a 6-bit quantity -/
def weight6 (k : Nat) : Nat :=
  (List.range 6).foldl (fun a i => a + (if k.testBit i then 1 else 0)) 0

inductive Err where
  | EINVAL | ENOENT
deriving DecidableEq, Repr

structure Obj where
  ty : Int
  gp : Nat
  os : Nat
  sw : Bool
deriving DecidableEq, Repr, Inhabited

abbrev Topo := List Obj

/-! ## functional arrays

`FArr α` is a C array seen as a total function of the index.  (It is a structure, not a bare
function type, so that compiled loops returning an array run once instead of once per read.) -/

structure FArr (α : Type) where
  get : Nat → α

def FArr.upd {α : Type} (a : FArr α) (p : Nat) (v : α) : FArr α := ⟨fun q => if q = p then v else a.get q⟩
def toArr {α : Type} (l : List α) (d : α) : FArr α := ⟨fun i => l.getD i d⟩
def ofArr {α : Type} (a : FArr α) (m : Nat) : List α := (List.range m).map a.get

/-- number of live indexes below `j` (the value of `newj` when the C loop reaches `j`) -/
def rank (live : Nat → Bool) : Nat → Nat
  | 0 => 0
  | j+1 => rank live j + (if live j then 1 else 0)

/-! ## `hwloc_internal_distances_restrict` -/

/-- inner loop `for(j=0,newj=0; j<nbobjs; j++) if (objs[j]) { values[newi*k+newj] = values[i*n+j]; newj++; }`
on the one flat array `a` -/
def compactRow (n k : Nat) (live : Nat → Bool) (i newi : Nat) :
    (fuel j newj : Nat) → FArr Nat → FArr Nat
  | 0, _, _, a => a
  | f+1, j, newj, a =>
    if live j then compactRow n k live i newi f (j+1) (newj+1) (a.upd (newi*k+newj) (a.get (i*n+j)))
    else compactRow n k live i newi f (j+1) newj a

/-- outer loop `for(i=0,newi=0; i<nbobjs; i++) if (objs[i]) { <row>; newi++; }` -/
def compactRows (n k : Nat) (live : Nat → Bool) : (fuel i newi : Nat) → FArr Nat → FArr Nat
  | 0, _, _, a => a
  | f+1, i, newi, a =>
    if live i then compactRows n k live f (i+1) (newi+1) (compactRow n k live i newi n 0 0 a)
    else compactRows n k live f (i+1) newi a

/-- first loop nest of `hwloc_internal_distances_restrict`; `k = nbobjs - disappeared` -/
def compactVals (n k : Nat) (live : Nat → Bool) (a : FArr Nat) : FArr Nat :=
  compactRows n k live n 0 0 a

/-- second loop: `if (objs[i]) { objs[newi]=objs[i]; indexes[newi]=indexes[i]; different_types[newi]=…; newi++ }`.
The liveness test reads the *current* `objs` array. -/
def compactObjs : (fuel i newi : Nat) → FArr (Option Obj) → FArr Nat → FArr Int →
    FArr (Option Obj) × FArr Nat × FArr Int
  | 0, _, _, o, x, t => (o, x, t)
  | f+1, i, newi, o, x, t =>
    if (o.get i).isSome then
      compactObjs f (i+1) (newi+1) (o.upd newi (o.get i)) (x.upd newi (x.get i)) (t.upd newi (t.get i))
    else compactObjs f (i+1) newi o x t

/-! ## internal structures -/

structure Dist where
  id : Nat
  name : Option String
  kind : Nat
  /-- `unique_type`, −1 = `HWLOC_OBJ_TYPE_NONE` -/
  uniq : Int
  /-- `different_types != NULL` -/
  hetero : Bool
  n : Nat
  idx : List Nat
  tys : List Int
  objs : List (Option Obj)
  /-- `iflags & OBJS_VALID` -/
  valid : Bool
  vals : List Nat
deriving DecidableEq, Repr

/-- what `hwloc_distances_get*` hands to the caller (container id + public struct) -/
structure Pub where
  id : Nat
  kind : Nat
  n : Nat
  objs : List (Option Obj)
  vals : List Nat
deriving DecidableEq, Repr

structure State where
  topo : Topo
  dists : List Dist
  nextId : Nat
deriving Repr

def State.init (T : Topo) : State := { topo := T, dists := [], nextId := 0 }

/-- apply `hwloc_internal_distances_restrict` to a whole structure whose `objs` array has just been
(re)filled; `k` = number of non-NULL objects.  Arrays are truncated to the new `nbobjs`. -/
def compactLists (n k : Nat) (objs : List (Option Obj)) (idx : List Nat) (tys : List Int) (vals : List Nat) :
    List (Option Obj) × List Nat × List Int × List Nat :=
  let o := toArr objs none
  let live := fun i => (o.get i).isSome
  let v' := compactVals n k live (toArr vals 0)
  let r := compactObjs n 0 0 o (toArr idx 0) (toArr tys (-1))
  (ofArr r.1 k, ofArr r.2.1 k, ofArr r.2.2 k, ofArr v' (k*k))

def countNone (objs : List (Option Obj)) : Nat := objs.countP (fun o => o.isNone)

/-- unique type of a list of non-NULL objects, or `TY_NONE` -/
def uniqueType (objs : List (Option Obj)) : Int :=
  match objs with
  | some o :: rest => if rest.all (fun x => match x with | some y => y.ty == o.ty | none => true) then o.ty else TY_NONE
  | _ => TY_NONE

/-! ## adding -/

/-- argument validation of `hwloc_distances_add_create` -/
def kindOk (kind : Nat) : Bool :=
  kind &&& KIND_ALL == kind && weight6 (kind &&& KIND_FROM_ALL) ≤ 1 && weight6 (kind &&& KIND_VALUE_ALL) ≤ 1

/-- `hwloc_distances_add_create`: the new handle and the state with the id consumed -/
def addCreate (st : State) (name : Option String) (kind flags : Nat) : Except Err (State × Dist) :=
  if !kindOk kind then .error .EINVAL
  else if flags ≠ 0 then .error .EINVAL
  else .ok ({ st with nextId := st.nextId + 1 },
            { id := st.nextId, name := name, kind := kind, uniq := TY_NONE, hetero := false, n := 0,
              idx := [], tys := [], objs := [], valid := false, vals := [] })

/-- `hwloc_distances_add_values` (public wrapper + backend).  `objs` has `n` entries, `vals` has `n*n`.
On error the handle is destroyed (the caller drops it). -/
def addValues (h : Dist) (n : Nat) (objs : List (Option Obj)) (vals : List Nat) (flags : Nat) : Except Err Dist :=
  if objs.any (fun o => o.isNone) then .error .EINVAL      -- public wrapper: any NULL object
  else if h.n ≠ 0 then .error .EINVAL
  else if flags ≠ 0 || n < 2 then .error .EINVAL
  else
    let disappeared := countNone objs
    if disappeared == n then .error .ENOENT
    else
      let k := n - disappeared
      let c := if disappeared ≠ 0 then compactLists n k objs [] [] vals else (objs, [], [], vals)
      let objs' := c.1
      let vals' := c.2.2.2
      let ut := uniqueType objs'
      let het := ut == TY_NONE
      let tys : List Int := if het then objs'.map (fun o => match o with | some x => x.ty | none => TY_NONE) else []
      let idx := objs'.map (fun o => match o with | some x => (if useOs ut then x.os else x.gp) | none => 0)
      .ok { h with n := k, objs := objs', valid := true, idx := idx, uniq := ut, hetero := het, tys := tys,
                   vals := vals', kind := if het then h.kind ||| KIND_HETEROGENEOUS else h.kind }

/-- `hwloc_distances_add_commit` (grouping is modelled in `Hw.Attr.Grouping`, not here: it does not touch the list) -/
def addCommit (st : State) (h : Dist) (flags : Nat) : Except Err State :=
  if flags &&& ADD_FLAG_ALL ≠ flags then .error .EINVAL
  else if h.n == 0 then .error .EINVAL
  else .ok { st with dists := st.dists ++ [h] }

/-! ## refresh -/

/-- the lookup done by `hwloc_internal_distances_refresh_one` for slot `i` -/
def resolve (T : Topo) (uniq : Int) (ty : Int) (ix : Nat) : Option Obj :=
  if useOs uniq then T.find? (fun o => o.ty == uniq && o.os == ix)
  else T.find? (fun o => o.ty == ty && o.gp == ix)

def resolveAll (T : Topo) (d : Dist) : List (Option Obj) :=
  (List.range d.n).map (fun i =>
    resolve T d.uniq (if d.hetero then d.tys.getD i TY_NONE else d.uniq) (d.idx.getD i 0))

/-- `hwloc_internal_distances_refresh_one`; `none` = "became useless, drop" -/
def refreshOne (T : Topo) (d : Dist) : Option Dist :=
  if d.valid then some d
  else
    let objs := resolveAll T d
    let disappeared := countNone objs
    if d.n - disappeared < 2 then none
    else if disappeared ≠ 0 then
      let k := d.n - disappeared
      let c := compactLists d.n k objs d.idx d.tys d.vals
      some { d with n := k, objs := c.1, idx := c.2.1, tys := if d.hetero then c.2.2.1 else [],
                    vals := c.2.2.2, valid := true }
    else some { d with objs := objs, valid := true }

/-- `hwloc_internal_distances_refresh` -/
def refreshList (T : Topo) (ds : List Dist) : List Dist := ds.filterMap (refreshOne T)

def State.refresh (st : State) : State := { st with dists := refreshList st.topo st.dists }

/-- `hwloc_internal_distances_invalidate_cached_objs` -/
def invalidate (ds : List Dist) : List Dist := ds.map (fun d => { d with valid := false })

/-- successful `hwloc_topology_restrict` leaving the live objects `T'` -/
def State.restrict (st : State) (T' : Topo) : State :=
  { st with topo := T', dists := invalidate st.dists }

/-- `hwloc_topology_dup` (then the old topology is destroyed): ids and the id counter are kept,
cached objects are not -/
def State.dup (st : State) (T' : Topo) : State :=
  { topo := T', nextId := st.nextId,
    dists := st.dists.map (fun d => { d with valid := false, objs := List.replicate d.n none }) }

/-! ## getting -/

def Dist.pub (d : Dist) : Pub := { id := d.id, kind := d.kind, n := d.n, objs := d.objs, vals := d.vals }

/-- the filter of `hwloc__distances_get` (a structure passes iff no `continue` fires) -/
def matchesFilter (name : Option String) (ty : Int) (kind : Nat) (d : Dist) : Bool :=
  let kf := kind &&& KIND_FROM_ALL
  let km := kind &&& KIND_VALUE_ALL
  !(name.isSome && (d.name.isNone || name != d.name)) &&
  !(ty != TY_NONE && ty != d.uniq) &&
  !(kf != 0 && kf &&& d.kind == 0) &&
  !(km != 0 && km &&& d.kind == 0)

/-- `hwloc__distances_get`: refreshed state, `*nr` on return, structures stored in the caller's array -/
def getCore (st : State) (name : Option String) (ty : Int) (kind : Nat) (cap : Nat) : State × Nat × List Pub :=
  let st' := st.refresh
  let m := st'.dists.filter (matchesFilter name ty kind)
  (st', m.length, (m.take cap).map Dist.pub)

def get (st : State) (kind flags cap : Nat) : Except Err (State × Nat × List Pub) :=
  if flags ≠ 0 then .error .EINVAL else .ok (getCore st none TY_NONE kind cap)

/-- `ty` is `hwloc_get_depth_type(depth)` (−1 for an invalid depth) or the caller's type -/
def getByType (st : State) (ty : Int) (kind flags cap : Nat) : Except Err (State × Nat × List Pub) :=
  if flags ≠ 0 then .error .EINVAL else .ok (getCore st none ty kind cap)

def getByDepth (st : State) (depthType : Int) (kind flags cap : Nat) : Except Err (State × Nat × List Pub) :=
  if flags ≠ 0 then .error .EINVAL
  else if depthType == -1 then .error .EINVAL
  else .ok (getCore st none depthType kind cap)

def getByName (st : State) (name : Option String) (flags cap : Nat) : Except Err (State × Nat × List Pub) :=
  if flags ≠ 0 then .error .EINVAL else .ok (getCore st name TY_NONE KIND_ALL cap)

/-- `hwloc__internal_distances_from_public` -/
def fromPublic (ds : List Dist) (id : Nat) : Option Dist := ds.find? (fun d => d.id == id)

/-- `hwloc_distances_get_name` -/
def getName (st : State) (p : Pub) : Option String :=
  match fromPublic st.dists p.id with
  | some d => d.name
  | none => none

/-! ## removing -/

def remove (st : State) : State := { st with dists := [] }

/-- `hwloc_distances_remove_by_depth`; `ty` = `hwloc_get_depth_type(depth)` -/
def removeByDepth (st : State) (ty : Int) : Except Err State :=
  if ty == -1 then .error .EINVAL
  else .ok { st with dists := st.dists.filter (fun d => d.uniq != ty) }

/-- `hwloc_distances_release_remove` -/
def releaseRemove (st : State) (p : Pub) : Except Err State :=
  match fromPublic st.dists p.id with
  | none => .error .EINVAL
  | some _ => .ok { st with dists := st.dists.eraseP (fun d => d.id == p.id) }

/-! ## XML export + import into a fresh topology with live objects `T'` -/

def renumber : List Dist → Nat → List Dist
  | [], _ => []
  | d :: ds, i => { d with id := i, valid := false, objs := List.replicate d.n none } :: renumber ds (i+1)

/-- result: the refreshed exporting state, and the imported state -/
def xmlRoundTrip (st : State) (T' : Topo) : State × State :=
  let st1 := st.refresh
  -- homogeneous structures are exported first
  let ordered := st1.dists.filter (fun d => !d.hetero) ++ st1.dists.filter (fun d => d.hetero)
  -- structures with fewer than 2 objects are ignored by the importer
  let imported := renumber (ordered.filter (fun d => 2 ≤ d.n)) 0
  (st1, { topo := T', dists := refreshList T' imported, nextId := imported.length })

/-! ## transforms (on the caller's copy, in place) -/

def isSw (o : Option Obj) : Bool := match o with | some x => x.sw | none => false

def clearHetero (k : Nat) : Nat := k - (k &&& KIND_HETEROGENEOUS)

/-- `hwloc__distances_transform_remove_null` -/
def trRemoveNull (p : Pub) : Option Err × Pub :=
  let nb := p.n - countNone p.objs
  if nb < 2 then (some .EINVAL, p)
  else if nb == p.n then (none, p)
  else
    let c := compactLists p.n nb p.objs [] [] p.vals
    let ut := uniqueType c.1
    (none, { p with n := nb, objs := c.1, vals := c.2.2.2,
                    kind := if ut == TY_NONE then p.kind ||| KIND_HETEROGENEOUS else clearHetero p.kind })

/-- `for(i=0; i<nbobjs; i++) values[i*nbobjs+i] = 0;` -/
def zeroDiag (n : Nat) : (fuel i : Nat) → FArr Nat → FArr Nat
  | 0, _, a => a
  | f+1, i, a => zeroDiag n f (i+1) (a.upd (i*n+i) 0)

/-- smallest positive value (0 if none) -/
def minPos (vs : List Nat) : Nat :=
  vs.foldl (fun d v => if v ≠ 0 && (d == 0 || v < d) then v else d) 0

/-- the matrix after the diagonal has been zeroed -/
def linksBase (p : Pub) : List Nat := ofArr (zeroDiag p.n p.n 0 (toArr p.vals 0)) (p.n * p.n)

/-- `hwloc__distances_transform_links` -/
def trLinks (p : Pub) : Option Err × Pub :=
  if p.kind &&& KIND_VALUE_BANDWIDTH == 0 then (some .EINVAL, p)
  else
    let v0 := linksBase p
    let divider := minPos v0
    if divider == 0 then (none, { p with vals := v0 })
    else if v0.any (fun v => v % divider ≠ 0) then (some .ENOENT, { p with vals := v0 })
    else (none, { p with vals := v0.map (fun v => v / divider) })

/-- body of `for(k=0;k<nbobjs;k++)` inside the merge of port `j` into port `i` -/
def mergeK (n i j : Nat) : (fuel k : Nat) → FArr Nat → FArr Nat
  | 0, _, a => a
  | f+1, k, a =>
    if k == i || k == j then mergeK n i j f (k+1) a
    else
      let a1 := a.upd (k*n+i) (add64 (a.get (k*n+i)) (a.get (k*n+j)))
      let a2 := a1.upd (k*n+j) 0
      let a3 := a2.upd (i*n+k) (add64 (a2.get (i*n+k)) (a2.get (j*n+k)))
      let a4 := a3.upd (j*n+k) 0
      mergeK n i j f (k+1) a4

/-- `for(j=i+1; j<nbobjs; j++) if (is_nvswitch(objs[j])) { merge port j into port i; objs[j] = NULL; }` -/
def mergeJ (n i : Nat) : (fuel j : Nat) → FArr (Option Obj) → FArr Nat → FArr (Option Obj) × FArr Nat
  | 0, _, o, a => (o, a)
  | f+1, j, o, a =>
    if isSw (o.get j) then
      let b := mergeK n i j n 0 a
      let b1 := b.upd (i*n+i) (add64 (b.get (i*n+i)) (b.get (j*n+j)))
      mergeJ n i f (j+1) (o.upd j none) (b1.upd (j*n+j) 0)
    else mergeJ n i f (j+1) o a

/-- index of the first NVSwitch port -/
def firstSw (objs : List (Option Obj)) : Option Nat :=
  let i := objs.findIdx isSw
  if i < objs.length then some i else none

/-- `hwloc__distances_transform_merge_switch_ports` followed by `remove_null` on success -/
def trMerge (p : Pub) : Option Err × Pub :=
  match firstSw p.objs with
  | none => (some .ENOENT, p)
  | some i =>
    let r := mergeJ p.n i (p.n - (i+1)) (i+1) (toArr p.objs none) (toArr p.vals 0)
    trRemoveNull { p with objs := ofArr r.1 p.n, vals := ofArr r.2 (p.n * p.n) }

/-- `Σ_k is_nvswitch(objs[k]) ? values[cell k] : 0` accumulated in a `uint64_t` -/
def sumSw (sw : Nat → Bool) (cell : Nat → Nat) (a : FArr Nat) : (fuel k acc : Nat) → Nat
  | 0, _, acc => acc
  | f+1, k, acc => sumSw sw cell a f (k+1) (if sw k then add64 acc (a.get (cell k)) else acc)

def closureJ (n : Nat) (sw : Nat → Bool) (i bwI : Nat) : (fuel j : Nat) → FArr Nat → FArr Nat
  | 0, _, a => a
  | f+1, j, a =>
    if i == j || sw j then closureJ n sw i bwI f (j+1) a
    else
      let bwJ := sumSw sw (fun k => k*n+j) a n 0 0
      closureJ n sw i bwI f (j+1) (a.upd (i*n+j) (add64 (a.get (i*n+j)) (if bwI > bwJ then bwJ else bwI)))

def closureI (n : Nat) (sw : Nat → Bool) : (fuel i : Nat) → FArr Nat → FArr Nat
  | 0, _, a => a
  | f+1, i, a =>
    if sw i then closureI n sw f (i+1) a
    else
      let bwI := sumSw sw (fun k => i*n+k) a n 0 0
      closureI n sw f (i+1) (closureJ n sw i bwI n 0 a)

/-- `hwloc__distances_transform_transitive_closure` -/
def trClosure (p : Pub) : Option Err × Pub :=
  let o := toArr p.objs none
  let sw := fun i => isSw (o.get i)
  (none, { p with vals := ofArr (closureI p.n sw p.n 0 (toArr p.vals 0)) (p.n * p.n) })

/-- `hwloc_distances_transform` -/
def transform (p : Pub) (tr flags attr : Nat) : Option Err × Pub :=
  if flags ≠ 0 || attr ≠ 0 then (some .EINVAL, p)
  else match tr with
    | 0 => trRemoveNull p
    | 1 => trLinks p
    | 2 => trMerge p
    | 3 => trClosure p
    | _ => (some .EINVAL, p)

end Hw.Dist
