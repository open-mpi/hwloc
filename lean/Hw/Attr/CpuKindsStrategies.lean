/-
  Hw.Attr.CpuKindsStrategies — C15: what `hwloc_internal_cpukinds_rank` does to EVERY kinds array under EVERY value of
  HWLOC_CPUKINDS_RANKING, strategy by strategy (`rank_spec`, the table `Sel` and the histories `runET` with a changing
  variable are in CpuKindsRank); the info summary of a kind in terms of the LAST pair of each name; the executable forms
  the driver uses; private writes into the array (harness ops) that leave the reachable states.
-/
import Hw.Attr.CpuKindsRank
namespace Hw
namespace CpuKinds

theorem rank_by_strategy (s : Strategy) (ks : List Kind) (h2 : 2 ≤ ks.length) :
    (∀ key, Sel s ks key →
      rank s ks = renumber 0 (sortBy key ks) ∧ StrictBy key (rank s ks) ∧ (ks.map key).Nodup ∧
      (∀ (i : Nat) (hi : i < (rank s ks).length), (rank s ks)[i].eff = (i : Int))) ∧
    ((∀ key, ¬ Sel s ks key) → rank s ks = clearEff ks) := by
  refine ⟨fun key hs => ?_, fun hn => ?_⟩
  · have R := rank_of_key ((chooseKey_iff_sel s ks key).mpr hs)
    exact ⟨R.1, R.2.1, (sel_keyOK hs).2, R.2.2⟩
  · have H := (rank_spec s ks).2.2 h2
    rwa [(chooseKey_none_iff s ks).mpr hn] at H

/-! ### consistency with known, pairwise distinct forced efficiencies — every array -/

theorem rank_forced_mem (strat : Strategy) (ks : List Kind) : ∀ k ∈ rank strat ks, ∃ k0 ∈ ks, k.forced = k0.forced :=
  forall_core (rank_sameCore strat ks) (P := fun c => ∃ k0 ∈ ks, c.2.1 = k0.forced) (fun k hk => ⟨k, hk, rfl⟩)

/-- `hb`: the public entry point stores -1 for every negative value, and the ranking value is a `uint64_t` -/
theorem rank_consistent_with_forced {strat : Strategy} (hs : strat = .dflt ∨ strat = .forced) (ks : List Kind)
    (hb : ∀ k ∈ ks, -1 ≤ k.forced ∧ k.forced < 18446744073709551616)
    (hk : ∀ k ∈ ks, k.forced ≠ -1) (hd : (ks.map (·.forced)).Pairwise (· ≠ ·)) :
    SameCore ks (rank strat ks) ∧
    ((rank strat ks).map (·.forced)).Pairwise (· < ·) ∧
    (∀ (i : Nat) (hi : i < (rank strat ks).length), (rank strat ks)[i].eff = (i : Int)) ∧
    (2 ≤ ks.length → rank strat ks = renumber 0 (sortBy forcedKey ks)) := by
  have R := rank_of_key (chooseKey_forced hs ((forcedOK_iff ks hb).mpr ⟨hk, hd⟩))
  have hmem : ∀ k ∈ rank strat ks, (-1 ≤ k.forced ∧ k.forced < 18446744073709551616) ∧ k.forced ≠ -1 := fun k hm => by
    obtain ⟨k0, h0, e⟩ := rank_forced_mem strat ks k hm; rw [e]; exact ⟨hb k0 h0, hk k0 h0⟩
  exact ⟨rank_sameCore strat ks, strictBy_forcedKey_known (fun k hm => (hmem k hm).1) (fun k hm => (hmem k hm).2) R.2.1,
    R.2.2, fun _ => R.1⟩

theorem rank_forced_fails (ks : List Kind) (h2 : 2 ≤ ks.length)
    (hb : ∀ k ∈ ks, -1 ≤ k.forced ∧ k.forced < 18446744073709551616)
    (h : (∃ k ∈ ks, k.forced = -1) ∨ ¬ (ks.map (·.forced)).Pairwise (· ≠ ·)) :
    rank .forced ks = clearEff ks := by
  apply (rank_by_strategy .forced ks h2).2
  intro key hs
  rcases h with ⟨k, hk, e⟩ | h
  · exact hs.1.distinct.1 k hk e
  · exact h hs.1.distinct.2

/-- the `uint64_t` cast of a C `int` (what `ranking_value = forced_efficiency` stores) -/
def ukey (f : Int) : Nat := if 0 ≤ f then f.toNat else (f + 18446744073709551616).toNat

theorem emod_of_range {M f : Int} (h1 : -M ≤ f) (h2 : f < M) : f % M = if 0 ≤ f then f else f + M := by
  split
  · exact Int.emod_eq_of_lt ‹_› h2
  · rw [← Int.add_emod_right, Int.emod_eq_of_lt (by omega) (by omega)]

theorem forcedKey_int (k : Kind) (h : -9223372036854775808 ≤ k.forced ∧ k.forced < 9223372036854775808) :
    forcedKey k = ukey k.forced := by
  unfold forcedKey ukey
  rw [emod_of_range (by omega) (by omega)]
  split <;> rfl

theorem emod_toNat_inj {M x y : Int} (hM : 0 < M) (h1 : -M < x - y) (h2 : x - y < M)
    (e : (x % M).toNat = (y % M).toNat) : x = y := by
  have e' : x % M = y % M := by
    have := congrArg Int.ofNat e
    rwa [Int.ofNat_eq_natCast, Int.ofNat_eq_natCast, Int.toNat_of_nonneg (Int.emod_nonneg _ (Int.ne_of_gt hM)),
      Int.toNat_of_nonneg (Int.emod_nonneg _ (Int.ne_of_gt hM))] at this
  have hz : (x - y) % M = 0 := Int.emod_eq_emod_iff_emod_sub_eq_zero.mp e'
  by_cases h0 : 0 ≤ x - y
  · rw [Int.emod_eq_of_lt h0 h2] at hz; omega
  · rw [emod_of_range (Int.le_of_lt h1) h2, if_neg h0] at hz; omega

/-- on the whole range of a C `int` (negative values other than -1 included — the internal entry point and private
    writes can store them) `ForcedOK` is still "all known and pairwise distinct" -/
theorem forcedOK_iff_int (ks : List Kind)
    (hb : ∀ k ∈ ks, -9223372036854775808 ≤ k.forced ∧ k.forced < 9223372036854775808) :
    ForcedOK ks ↔ (∀ k ∈ ks, k.forced ≠ -1) ∧ (ks.map (·.forced)).Pairwise (· ≠ ·) := by
  apply forcedOK_iff_of_inj
  intro a ha b hb' _ _ e
  have h1 := hb a ha
  have h2 := hb b hb'
  exact emod_toNat_inj (by decide) (by omega) (by omega) e

/-! ### the info summary of a kind: the LAST pair of each name counts -/

def lastVal (name : String) (infos : List Info) : Option String :=
  infos.foldl (fun acc i => if i.1 = name then some i.2 else acc) none

/-- the last CoreType pair whose value is one of the two recognised strings -/
def lastCoreType (infos : List Info) : Nat :=
  infos.foldl (fun acc i => if i.1 = "CoreType" then
      (if i.2 = "IntelAtom" then 1 else if i.2 = "IntelCore" then 2 else acc) else acc) 0

def freqOf : Option String → Nat
  | some v => atoiU32 v
  | none => 0

theorem summStep_maxFreq (s : Summ) (i : Info) :
    (summStep s i).maxFreq = if i.1 = "FrequencyMaxMHz" then atoiU32 i.2 else s.maxFreq := by
  simp only [summStep, apply_ite Summ.maxFreq, ite_self]

theorem summStep_baseFreq (s : Summ) (i : Info) :
    (summStep s i).baseFreq = if i.1 = "FrequencyBaseMHz" then atoiU32 i.2 else s.baseFreq := by
  by_cases e2 : i.1 = "FrequencyBaseMHz"
  · simp only [summStep, if_neg (show ¬ i.1 = "FrequencyMaxMHz" by simp [e2]), if_pos e2]
  · simp only [summStep, apply_ite Summ.baseFreq, if_neg e2, ite_self]

theorem summStep_coreType (s : Summ) (i : Info) :
    (summStep s i).coreType = if i.1 = "CoreType" then
      (if i.2 = "IntelAtom" then 1 else if i.2 = "IntelCore" then 2 else s.coreType) else s.coreType := by
  by_cases e3 : i.1 = "CoreType"
  · simp only [summStep, if_neg (show ¬ i.1 = "FrequencyMaxMHz" by simp [e3]),
      if_neg (show ¬ i.1 = "FrequencyBaseMHz" by simp [e3]), if_pos e3, apply_ite Summ.coreType]
  · simp only [summStep, apply_ite Summ.coreType, if_neg e3, ite_self]

theorem freqOf_step (name : String) (a : Option String) (i : Info) :
    freqOf (if i.1 = name then some i.2 else a) = if i.1 = name then atoiU32 i.2 else freqOf a := by
  split <;> rfl

theorem foldl_summ_freq (proj : Summ → Nat) (name : String)
    (hstep : ∀ s i, proj (summStep s i) = if i.1 = name then atoiU32 i.2 else proj s) (l : List Info) (s : Summ)
    (a : Option String) (h0 : proj s = freqOf a) :
    proj (l.foldl summStep s) = freqOf (l.foldl (fun acc i => if i.1 = name then some i.2 else acc) a) :=
  List.foldl_rel (r := fun s a => proj s = freqOf a) h0 fun i _ s a h => by rw [hstep, freqOf_step, h]

theorem summarize_spec (k : Kind) :
    (summarize k).maxFreq = freqOf (lastVal "FrequencyMaxMHz" k.infos) ∧
    (summarize k).baseFreq = freqOf (lastVal "FrequencyBaseMHz" k.infos) ∧
    (summarize k).coreType = lastCoreType k.infos :=
  ⟨foldl_summ_freq Summ.maxFreq _ summStep_maxFreq k.infos {} none rfl,
   foldl_summ_freq Summ.baseFreq _ summStep_baseFreq k.infos {} none rfl,
   (List.foldl_hom Summ.coreType (fun s i => (summStep_coreType s i).symm)).symm⟩

/-- every info-based strategy fails on an array of two or more kinds containing such a kind (`rank_info_fails`) -/
theorem summarize_absent (k : Kind) (h : ∀ i ∈ k.infos, i.1 ≠ "FrequencyMaxMHz" ∧ i.1 ≠ "FrequencyBaseMHz" ∧ i.1 ≠ "CoreType") :
    (summarize k).maxFreq = 0 ∧ (summarize k).baseFreq = 0 ∧ (summarize k).coreType = 0 := by
  unfold summarize
  suffices H : k.infos.foldl summStep {} = {} by rw [H]; exact ⟨rfl, rfl, rfl⟩
  refine List.foldlRecOn k.infos summStep (b := {}) (motive := fun s => s = {}) rfl ?_
  intro s hs i hi
  have hi := h i hi
  unfold summStep
  rw [if_neg hi.1, if_neg hi.2.1, if_neg hi.2.2, hs]

/-- the core-type summary is 0 (none recognised), 1 (IntelAtom) or 2 (IntelCore) -/
theorem summarize_coreType_le (k : Kind) : (summarize k).coreType ≤ 2 := by
  unfold summarize
  refine List.foldlRecOn k.infos summStep (b := {}) (motive := fun s => s.coreType ≤ 2) (Nat.zero_le _) ?_
  intro s hs i _
  rw [summStep_coreType]
  repeat' split
  all_goals omega

/-- "rank first by coretype (Core >> Atom) then by frequency": as long as the frequencies stay below 2^20 MHz the value
    `(intel_core_type << 20) + freq` orders kinds lexicographically by (core type, frequency) — nothing wraps and the
    frequency never reaches the core-type bits -/
theorem ctFreqKey_lex (hb : Bool) (a b : Kind) (ha : freqKey hb a < 1048576) (hb' : freqKey hb b < 1048576) :
    ctFreqKey hb a < ctFreqKey hb b ↔
      (summarize a).coreType < (summarize b).coreType ∨
      ((summarize a).coreType = (summarize b).coreType ∧ freqKey hb a < freqKey hb b) := by
  have ca := summarize_coreType_le a
  have cb := summarize_coreType_le b
  have e : ∀ k : Kind, ctFreqKey hb k = ((summarize k).coreType * 1048576 + freqKey hb k) % 4294967296 := by
    intro k
    unfold ctFreqKey freqKey
    simp only [Nat.shiftLeft_eq]
  rw [e a, e b, Nat.mod_eq_of_lt (by omega), Nat.mod_eq_of_lt (by omega)]
  omega

/-- beyond 2^20 the frequency does reach the core-type bits: an IntelAtom kind at 1048576 + 1500 MHz gets the value of
    an IntelCore kind at 1500 MHz (the two are then "duplicates" and the strategy fails) -/
theorem ctFreqKey_collision :
    ctFreqKey true { cpuset := 1, eff := -1, forced := -1, infos := [("CoreType", "IntelAtom"), ("FrequencyBaseMHz", "1050076")] } =
    ctFreqKey true { cpuset := 2, eff := -1, forced := -1, infos := [("CoreType", "IntelCore"), ("FrequencyBaseMHz", "1500")] } := by
  decide +kernel

/-! #### non-numeric values: libc `atoi` answers 0, the kind then has no frequency summary -/

theorem strtol_nonnumeric (s : String) (c : Char) (cs : List Char) (h : s.toList.dropWhile isSpace = c :: cs)
    (h1 : c ≠ '-') (h2 : c ≠ '+') (h3 : c.isDigit = false) : strtol s = 0 := by
  unfold strtol
  simp only [h]
  split
  · rename_i r e; injection e with e1 _; exact absurd e1 h1
  · rename_i r e; injection e with e1 _; exact absurd e1 h2
  · simp [digitsVal, h3]

theorem strtol_empty (s : String) (h : s.toList.dropWhile isSpace = []) : strtol s = 0 := by
  unfold strtol
  simp only [h]
  simp [digitsVal]

def NonNumeric (v : String) : Prop :=
  v.toList.dropWhile isSpace = [] ∨
  ∃ c cs, v.toList.dropWhile isSpace = c :: cs ∧ c ≠ '-' ∧ c ≠ '+' ∧ c.isDigit = false

theorem atoiU32_nonnumeric (v : String) (h : NonNumeric v) : atoiU32 v = 0 := by
  have e : strtol v = 0 := by
    rcases h with h | ⟨c, cs, h, h1, h2, h3⟩
    · exact strtol_empty v h
    · exact strtol_nonnumeric v c cs h h1 h2 h3
  unfold atoiU32; rw [e]; rfl

theorem freqOf_lastVal_zero {name : String} {infos : List Info}
    (h : lastVal name infos = none ∨ ∃ v, lastVal name infos = some v ∧ NonNumeric v) :
    freqOf (lastVal name infos) = 0 := by
  rcases h with h | ⟨v, h, hv⟩
  · rw [h]; rfl
  · rw [h]; exact atoiU32_nonnumeric v hv

/-- `no_forced_efficiency` has the requirement of `coretype+frequency` -/
theorem rank_info_fails (s : Strategy) (hs : s ≠ .dflt ∧ s ≠ .forced) (ks : List Kind) (h2 : 2 ≤ ks.length)
    (hn : ¬ Need (if s = .noForced then .coretypeFreq else s) ks) : rank s ks = clearEff ks := by
  apply (rank_by_strategy s ks h2).2
  intro key hsel
  cases s
  case dflt => exact hs.1 rfl
  case forced => exact hs.2 rfl
  case none => exact hsel
  case noForced => exact hn hsel.1.1
  all_goals exact hn hsel.1.1

/-! ### executable forms used by the driver (cross-check on every line of the differential run) -/

instance rankedDec (strat : Strategy) (ks : List Kind) : Decidable (Ranked strat ks) := by
  unfold Ranked
  cases chooseKey strat ks with
  | none => exact inferInstanceAs (Decidable ((ks.length = 1 → ∀ k ∈ ks, k.eff = 0) ∧
      (2 ≤ ks.length → ∀ k ∈ ks, k.eff = -1)))
  | some key => exact inferInstanceAs (Decidable ((ks.length = 1 → ∀ k ∈ ks, k.eff = 0) ∧ (2 ≤ ks.length →
      StrictBy key ks ∧ ∀ (i : Nat) (h : i < ks.length), ks[i].eff = (i : Int))))

def rankedB (strat : Strategy) (ks : List Kind) : Bool := decide (Ranked strat ks)

theorem rankedB_iff (strat : Strategy) (ks : List Kind) : rankedB strat ks = true ↔ Ranked strat ks := by
  unfold rankedB; exact decide_eq_true_iff

def summ2 (k : Kind) : Summ :=
  { coreType := lastCoreType k.infos, maxFreq := freqOf (lastVal "FrequencyMaxMHz" k.infos),
    baseFreq := freqOf (lastVal "FrequencyBaseMHz" k.infos) }

theorem summ2_eq (k : Kind) : summ2 k = summarize k := by
  have h := summarize_spec k
  unfold summ2
  rw [← h.1, ← h.2.1, ← h.2.2]

/-- what the driver checks after every line: the array is ranked w.r.t. the strategy of the last ranking call and the
    last-pair summaries are the fold summaries (both are theorems: `runET_ranked`, `summ2_eq`) -/
def specOK (tag : Strategy) (ks : List Kind) : Bool :=
  rankedB tag ks && ks.all (fun k => let a := summ2 k; let b := summarize k
    a.coreType == b.coreType && a.maxFreq == b.maxFreq && a.baseFreq == b.baseFreq)

theorem runET_specOK (root : Nat) (h : List EOp) : specOK (runET root h).2 (runET root h).1.kinds = true := by
  unfold specOK
  rw [Bool.and_eq_true, rankedB_iff, List.all_eq_true]
  refine ⟨runET_ranked root h, ?_⟩
  intro k _
  simp only [summ2_eq, beq_self_eq_true, Bool.and_self]

/-! ### leaving the reachable states (harness ops `rawset` / `rawswap` / `rawrank`): private writes into the array,
    so that `rank` is driven on arrays no history of public calls produces -/

def rawSet (st : State) (idx : Nat) (forced eff : Int) : State × Err :=
  match st.kinds[idx]? with
  | some k => ({ st with kinds := st.kinds.set idx { k with forced := forced, eff := eff } }, .ok)
  | none => (st, .enoent)

def rawSwap (st : State) (i j : Nat) : State × Err :=
  match st.kinds[i]?, st.kinds[j]? with
  | some a, some b => ({ st with kinds := (st.kinds.set i b).set j a }, .ok)
  | _, _ => (st, .enoent)

/-- a direct call of `hwloc_internal_cpukinds_rank` under `strat` -/
def rawRank (strat : Strategy) (st : State) : State := { st with kinds := rank strat st.kinds }

end CpuKinds
end Hw
