/- Hw.Attr.DiffCommute — entries of a diff that address different attributes commute, so a list with pairwise distinct
   slots applies to the same result in any order (`applyAll_perm`); in particular the reversed list that undoes a successfully
   applied one may be given in THE SAME order, which is what the REVERSE flag does. -/
import Hw.Attr.DiffSlots
namespace Hw.Diff
variable {σ : Type} [DecidableEq σ]

/-! ### pointwise commutation of the three update functions -/

theorem sizeFun_sizeFun_comm (t1 t2 : Data σ) (n1 δ1 n2 δ2 : Mem) (hne : t1.key ≠ t2.key) (x : Data σ) :
    sizeFun t1 n1 δ1 (sizeFun t2 n2 δ2 x) = sizeFun t2 n2 δ2 (sizeFun t1 n1 δ1 x) := by
  apply Data.ext' <;>
    simp only [sizeFun_depth, sizeFun_lidx, sizeFun_ancs, sizeFun_numa, sizeFun_shape1, sizeFun_shape2, sizeFun_name,
      sizeFun_infos, sizeFun_lmem, sizeFun_tmem, sizeFun_key]
  · by_cases h1 : x.key = t1.key
    · simp only [h1, hne, if_true, if_false]
    · simp only [h1, if_false]
  · rw [BitVec.add_assoc, BitVec.add_assoc, BitVec.add_comm (if x.key = t2.key ∨ x.key ∈ t2.ancs then δ2 else 0)]

theorem sizeFun_nameFun_comm (t : Data σ) (n δ : Mem) (k : Key) (s : σ) (x : Data σ) :
    sizeFun t n δ (nameFun k s x) = nameFun k s (sizeFun t n δ x) := by
  rw [sizeFun_eq, nameFun_eq, sizeFun_eq, nameFun_eq]; rfl

theorem sizeFun_infosFun_comm (t : Data σ) (n δ : Mem) (k : Key) (l : List (σ × σ)) (x : Data σ) :
    sizeFun t n δ (infosFun k l x) = infosFun k l (sizeFun t n δ x) := by
  rw [sizeFun_eq, infosFun_eq, sizeFun_eq, infosFun_eq]; rfl

theorem nameFun_infosFun_comm (k : Key) (s : σ) (k' : Key) (l : List (σ × σ)) (x : Data σ) :
    nameFun k s (infosFun k' l x) = infosFun k' l (nameFun k s x) := by
  rw [nameFun_eq, infosFun_eq, nameFun_eq, infosFun_eq]; rfl

theorem nameFun_nameFun_comm (k1 k2 : Key) (s1 s2 : σ) (hne : k1 ≠ k2) (x : Data σ) :
    nameFun k1 s1 (nameFun k2 s2 x) = nameFun k2 s2 (nameFun k1 s1 x) := by
  apply Data.ext' <;>
    simp only [nameFun_depth, nameFun_lidx, nameFun_ancs, nameFun_numa,
      nameFun_shape1, nameFun_shape2, nameFun_name, nameFun_infos, nameFun_lmem, nameFun_tmem, nameFun_key]
  by_cases h1 : x.key = k1
  · simp only [h1, hne, if_true, if_false]
  · simp only [h1, if_false]

theorem infosFun_infosFun_comm (k1 k2 : Key) (l1 l2 : List (σ × σ)) (hne : k1 ≠ k2) (x : Data σ) :
    infosFun k1 l1 (infosFun k2 l2 x) = infosFun k2 l2 (infosFun k1 l1 x) := by
  apply Data.ext' <;>
    simp only [infosFun_depth, infosFun_lidx, infosFun_ancs, infosFun_numa,
      infosFun_shape1, infosFun_shape2, infosFun_name, infosFun_infos, infosFun_lmem, infosFun_tmem, infosFun_key]
  by_cases h1 : x.key = k1
  · simp only [h1, hne, if_true, if_false]
  · simp only [h1, if_false]

/-! ### replacements of two different names commute -/

theorem replaceFirst_comm {nm1 nm2 : σ} (o1 n1 o2 n2 : σ) (hne : nm1 ≠ nm2) : ∀ l : List (σ × σ),
    (replaceFirst nm1 o1 n1 l).bind (replaceFirst nm2 o2 n2) = (replaceFirst nm2 o2 n2 l).bind (replaceFirst nm1 o1 n1)
  | [] => rfl
  | (a, v) :: r => by
    by_cases c1 : a = nm1 ∧ v = o1
    · obtain ⟨rfl, rfl⟩ := c1
      cases h : replaceFirst nm2 o2 n2 r <;> simp [replaceFirst, hne, h]
    · by_cases c2 : a = nm2 ∧ v = o2
      · obtain ⟨rfl, rfl⟩ := c2
        cases h : replaceFirst nm1 o1 n1 r <;> simp [replaceFirst, hne.symm, h]
      · have ih := congrArg (Option.map ((a, v) :: ·)) (replaceFirst_comm o1 n1 o2 n2 hne r)
        simpa only [replaceFirst, c1, c2, if_false, Option.bind_map, Option.map_bind, Function.comp_def] using ih

theorem replaceFirst_swap {nm1 o1 n1 nm2 o2 n2 : σ} (hne : nm1 ≠ nm2) {l l1 l12 : List (σ × σ)}
    (h1 : replaceFirst nm1 o1 n1 l = some l1) (h2 : replaceFirst nm2 o2 n2 l1 = some l12) :
    ∃ l2, replaceFirst nm2 o2 n2 l = some l2 ∧ replaceFirst nm1 o1 n1 l2 = some l12 := by
  rw [← Option.bind_eq_some_iff, ← replaceFirst_comm o1 n1 o2 n2 hne, h1]; exact h2

/-! ### what a step (`objStep`) reads and what it leaves alone -/

def Attr.kind : Attr σ → Nat
  | .size _ _ => 0
  | .name _ _ => 1
  | .info _ _ _ => 2
  | .unknown => 3

theorem objStep_congr {d d' : Data σ} (k : Key) (a : Attr σ) (hk : d'.key = d.key) (ha : d'.ancs = d.ancs)
    (hn : d'.numa = d.numa) (hl : a.kind = 0 → d'.lmem = d.lmem) (hnm : a.kind = 1 → d'.name = d.name)
    (hi : a.kind = 2 → d'.infos = d.infos) : objStep d' k a = objStep d k a := by
  cases a with
  | size o n => simp only [objStep, hn, hl rfl, sizeFun_congr hk ha]
  | name o n => cases o <;> cases n <;> simp only [objStep, hnm rfl]
  | info nm o n => simp only [objStep, hi rfl]
  | unknown => rfl

theorem objStep_frame {d d' : Data σ} {k k' : Key} {a a' : Attr σ} {g : Data σ → Data σ}
    (hk : d.key = k) (hk' : d'.key = k') (hi : k = k' → a.kind ≠ a'.kind) (h : objStep d k a = some g) :
    objStep (g d') k' a' = objStep d' k' a' := by
  have hne : a'.kind = a.kind → d'.key ≠ k := fun c e => hi (e.symm.trans hk') c.symm
  rcases objStep_some h with ⟨o, n, rfl, -, -, rfl⟩ | ⟨o, n, rfl, -, rfl⟩ | ⟨nm, o, n, l, rfl, -, rfl⟩
  · refine objStep_congr k' a' (sizeFun_key ..) (sizeFun_ancs ..) (sizeFun_numa ..) (fun c => ?_)
      (fun _ => sizeFun_name ..) (fun _ => sizeFun_infos ..)
    rw [sizeFun_lmem, if_neg (hk ▸ hne c)]
  · refine objStep_congr k' a' (nameFun_key ..) (nameFun_ancs ..) (nameFun_numa ..) (fun _ => nameFun_lmem ..)
      (fun c => ?_) (fun _ => nameFun_infos ..)
    rw [nameFun_name, if_neg (hne c)]
  · refine objStep_congr k' a' (infosFun_key ..) (infosFun_ancs ..) (infosFun_numa ..) (fun _ => infosFun_lmem ..)
      (fun _ => infosFun_name ..) (fun c => ?_)
    rw [infosFun_infos, if_neg (hne c)]

theorem objStep_comm {d1 d2 : Data σ} {k1 k2 : Key} {a1 a2 : Attr σ} {g1 g2 : Data σ → Data σ}
    (hk1 : d1.key = k1) (hk2 : d2.key = k2) (hi : k1 = k2 → a1.kind ≠ a2.kind)
    (h1 : objStep d1 k1 a1 = some g1) (h2 : objStep d2 k2 a2 = some g2) (x : Data σ) : g1 (g2 x) = g2 (g1 x) := by
  rcases objStep_some h1 with ⟨o1, n1, rfl, -, -, rfl⟩ | ⟨o1, n1, rfl, -, rfl⟩ | ⟨nm1, o1, n1, l1, rfl, -, rfl⟩ <;>
  rcases objStep_some h2 with ⟨o2, n2, rfl, -, -, rfl⟩ | ⟨o2, n2, rfl, -, rfl⟩ | ⟨nm2, o2, n2, l2, rfl, -, rfl⟩
  · exact sizeFun_sizeFun_comm _ _ _ _ _ _ (fun e => hi (hk1.symm.trans (e.trans hk2)) rfl) x
  · exact sizeFun_nameFun_comm _ _ _ _ _ _
  · exact sizeFun_infosFun_comm _ _ _ _ _ _
  · exact (sizeFun_nameFun_comm _ _ _ _ _ _).symm
  · exact nameFun_nameFun_comm _ _ _ _ (fun e => hi e rfl) x
  · exact nameFun_infosFun_comm _ _ _ _ _
  · exact (sizeFun_infosFun_comm _ _ _ _ _ _).symm
  · exact (nameFun_infosFun_comm _ _ _ _ _).symm
  · exact infosFun_infosFun_comm _ _ _ _ (fun e => hi e rfl) x

theorem objStep_swap {d1 d2 : Data σ} {k1 k2 : Key} {a1 a2 : Attr σ} {g1 g2 : Data σ → Data σ}
    (hk1 : d1.key = k1) (hk2 : d2.key = k2) (heq : k1 = k2 → d1 = d2) (hi : k1 = k2 → a1.sameSlot a2 = false)
    (h1 : objStep d1 k1 a1 = some g1) (h2 : objStep (g1 d2) k2 a2 = some g2) :
    ∃ g2' g1', objStep d2 k2 a2 = some g2' ∧ objStep (g2' d1) k1 a1 = some g1' ∧ g1' ∘ g2' = g2 ∘ g1 := by
  by_cases hK : k1 = k2 ∧ a1.kind = a2.kind
  · obtain ⟨hkk, hkind⟩ := hK
    have hs := hi hkk
    have hd := heq hkk
    subst hkk
    subst hd
    rcases objStep_some h1 with ⟨o1, n1, rfl, -, -, rfl⟩ | ⟨o1, n1, rfl, -, rfl⟩ | ⟨nm1, o1, n1, l1, rfl, hl1, rfl⟩
    · cases a2 <;> simp [Attr.kind, Attr.sameSlot] at hkind hs
    · cases a2 <;> simp [Attr.kind, Attr.sameSlot] at hkind hs
    · cases a2 with
      | info nm2 o2 n2 =>
        have hne : nm1 ≠ nm2 := by simpa [Attr.sameSlot] using hs
        have hinf : ∀ l, (infosFun k1 l d1).infos = l := fun l => by rw [infosFun_infos, if_pos hk1]
        simp only [objStep, hinf, Option.map_eq_some_iff] at h2
        obtain ⟨l12, hl12, rfl⟩ := h2
        obtain ⟨l2, e2, e1⟩ := replaceFirst_swap hne hl1 hl12
        refine ⟨infosFun k1 l2, infosFun k1 l12, ?_, ?_, ?_⟩
        · simp only [objStep, e2, Option.map_some]
        · simp only [objStep, hinf, e1, Option.map_some]
        · funext x; simp only [Function.comp, infosFun_infosFun]
      | _ => simp [Attr.kind] at hkind
  · have hi' : k1 = k2 → a1.kind ≠ a2.kind := fun e c => hK ⟨e, c⟩
    have h2' : objStep d2 k2 a2 = some g2 := by rw [← objStep_frame hk1 hk2 hi' h1]; exact h2
    have h1' : objStep (g2 d1) k1 a1 = some g1 := by
      rw [objStep_frame hk2 hk1 (fun e c => hi' e.symm c.symm) h2']; exact h1
    exact ⟨g2, g1, h2', h1', funext (objStep_comm hk1 hk2 hi' h1 h2')⟩

/-! ### two independent attribute changes can be exchanged -/

theorem applyAttr_swap {T T1 T2 : Topo σ} {k1 k2 : Key} {a1 a2 : Attr σ}
    (hi : (sameObj T.nbl k1 k2 && a1.sameSlot a2) = false)
    (h1 : applyAttr T k1 a1 = some T1) (h2 : applyAttr T1 k2 a2 = some T2) :
    ∃ T1', applyAttr T k2 a2 = some T1' ∧ applyAttr T1' k1 a1 = some T2 := by
  rcases applyAttr_some h1 with ⟨d1, g1, hd1, hg1, rfl⟩ | ⟨nm1, o1, n1, l1, rfl, hd1, hn1, hl1, rfl⟩
  · have hget := getObj_mapData T g1 (objStep_key hg1) k2
    rcases applyAttr_some h2 with ⟨d2', g2, hd2', hg2, rfl⟩ | ⟨nm2, o2, n2, l2, rfl, hd2', hn2, hl2, rfl⟩
    · rw [hd2', eq_comm, Option.map_eq_some_iff] at hget
      obtain ⟨d2, hd2, rfl⟩ := hget
      obtain ⟨g2', g1', e2, e1, hc⟩ := objStep_swap (getObj_some hd1).2 (getObj_some hd2).2
        (fun e => by subst e; rw [hd1] at hd2; exact Option.some.inj hd2) (fun e => by simpa [sameObj, e] using hi) hg1 hg2
      have hd1' : getObj (T.mapData g2') k1 = some (g2' d1) := by
        rw [getObj_mapData T g2' (objStep_key e2) k1, hd1]; rfl
      refine ⟨T.mapData g2', applyAttr_of_objStep hd2 e2, ?_⟩
      rw [applyAttr_of_objStep hd1' e1, Topo.mapData_mapData, Topo.mapData_mapData, hc]
    · rw [hd2', eq_comm, Option.map_eq_none_iff] at hget
      exact ⟨{ T with tinfos := l2 }, applyAttr_of_tinfos hget hn2 hl2,
        applyAttr_of_objStep (T := { T with tinfos := l2 }) hd1 hg1⟩
  · rcases applyAttr_some h2 with ⟨d2, g2, hd2, hg2, rfl⟩ | ⟨nm2, o2, n2, l12, rfl, hd2, hn2, hl12, rfl⟩
    · refine ⟨T.mapData g2, applyAttr_of_objStep hd2 hg2, applyAttr_of_tinfos ?_ hn1 hl1⟩
      rw [getObj_mapData T g2 (objStep_key hg2) k1, hd1]; rfl
    · have hne : nm1 ≠ nm2 := by
        have : sameObj T.nbl k1 k2 = true := by simp [sameObj, hn1, show k2.1 = T.nbl from hn2]
        simpa [this, Attr.sameSlot] using hi
      obtain ⟨l2, e2, e1⟩ := replaceFirst_swap hne hl1 hl12
      exact ⟨{ T with tinfos := l2 }, applyAttr_of_tinfos hd2 hn2 e2,
        applyAttr_of_tinfos (T := { T with tinfos := l2 }) hd1 hn1 e1⟩

/-! ### entries -/

theorem Attr.sameSlot_oriented (r1 r2 : Bool) (a b : Attr σ) : (a.oriented r1).sameSlot (b.oriented r2) = a.sameSlot b := by
  cases r1 <;> cases r2 <;>
    simp only [Attr.oriented, if_true, Bool.false_eq_true, if_false, Attr.sameSlot_swap_left] <;>
    rw [Attr.sameSlot_comm, Attr.sameSlot_swap_left, Attr.sameSlot_comm]

theorem applyOne_swap {r1 r2 : Bool} {T T1 T2 : Topo σ} {e1 e2 : Entry σ} (hi : Indep T.nbl e1 e2)
    (h1 : applyOne r1 T e1 = some T1) (h2 : applyOne r2 T1 e2 = some T2) :
    ∃ T1', applyOne r2 T e2 = some T1' ∧ applyOne r1 T1' e1 = some T2 := by
  obtain ⟨k1, a1, rfl, h1⟩ := applyOne_some h1
  obtain ⟨k2, a2, rfl, h2⟩ := applyOne_some h2
  refine applyAttr_swap ?_ h1 h2
  rw [Attr.sameSlot_oriented]
  simpa only [Indep, indep, Bool.not_eq_true'] using hi

theorem applyOne_comm {r1 r2 : Bool} {T : Topo σ} {e1 e2 : Entry σ} (hi : Indep T.nbl e1 e2) :
    (applyOne r1 T e1).bind (fun T1 => applyOne r2 T1 e2) = (applyOne r2 T e2).bind (fun T1 => applyOne r1 T1 e1) := by
  apply Option.ext
  intro X
  simp only [Option.bind_eq_some_iff]
  constructor
  · rintro ⟨T1, h1, h2⟩
    exact applyOne_swap hi h1 h2
  · rintro ⟨T1, h1, h2⟩
    exact applyOne_swap hi.symm h1 h2

theorem applyAll_perm {rv : Bool} {d d' : List (Entry σ)} (hp : d.Perm d') :
    ∀ (T : Topo σ), DistinctSlots T.nbl d → applyAll rv T d = applyAll rv T d' := by
  induction hp with
  | nil => exact fun _ _ => rfl
  | cons x _ ih =>
    intro T hd
    simp only [applyAll]
    cases h1 : applyOne rv T x with
    | none => rfl
    | some T1 => exact ih T1 (applyOne_nbl h1 ▸ (List.pairwise_cons.1 hd).2)
  | swap x y l =>
    intro T hd
    simp only [applyAll, ← Option.bind_assoc]
    rw [applyOne_comm ((List.pairwise_cons.1 hd).1 x List.mem_cons_self)]
  | trans h12 _ ih1 ih2 =>
    exact fun T hd => (ih1 T hd).trans (ih2 T (h12.pairwise hd fun h => h.symm))

theorem applyAll_same_order_inv {rev : Bool} {T T' : Topo σ} {d : List (Entry σ)} (hk : KeysInj T) (hn : InfoNamesDistinct T)
    (hd : DistinctSlots T.nbl d) (h : applyAll rev T d = some T') : applyAll (!rev) T' d = some T := by
  rw [← applyAll_perm (List.reverse_perm d) T' ((applyAll_nbl h).symm ▸ List.pairwise_reverse.2 (hd.imp Indep.symm))]
  exact applyAll_reverse_inv hk hn h

end Hw.Diff
