/-
  Hw.Attr.InfosLemmas — the in-place array loops of REMOVE and REPLACE compute their list specifications
  (the compaction never overwrites a cell that is still to be read).
-/
import Hw.Attr.Infos
namespace Hw.Infos

theorem ofList_cell (l : List Info) (i : Nat) (h : i < l.length) : (Arr.ofList l).cell i = l[i] := by
  simp [Arr.ofList, List.getElem?_eq_getElem h]

/-! ### the array of a compacting loop as an output buffer

`Buf l i k out a`: the loop has read `i` cells of `l` and dropped `k` of them, the cells written so far spell `out`, the cells
from `i` on are untouched.  A loop step drops the cell read (`skip`), writes behind the output (`push`) or finds the cell read
already in its place (`keep`); the write position `i - k` never passes the read position. -/

structure Buf (l : List Info) (i k : Nat) (out : List Info) (a : Arr) : Prop where
  len : out.length + k = i
  pre : (List.range out.length).map a.cell = out
  tail : ∀ j, i ≤ j → a.cell j = (Arr.ofList l).cell j

variable {l : List Info} {i k : Nat} {out : List Info} {a : Arr}

theorem Buf.init (l : List Info) : Buf l 0 0 [] (Arr.ofList l) := ⟨rfl, rfl, fun _ _ => rfl⟩

theorem Buf.read (h : Buf l i k out a) (hi : i < l.length) : a.cell i = l[i] := by
  rw [h.tail i (Nat.le_refl _), ofList_cell l i hi]

theorem Buf.skip (h : Buf l i k out a) : Buf l (i + 1) (k + 1) out a :=
  ⟨congrArg (· + 1) h.len, h.pre, fun j hj => h.tail j (by omega)⟩

/-- `x` is written behind the output, at `i - k = out.length ≤ i`: never onto a cell still to be read -/
theorem Buf.push (h : Buf l i k out a) (x : Info) : Buf l (i + 1) k (out ++ [x]) (a.set (i - k) x) := by
  have hlen := h.len
  rw [show i - k = out.length by omega]
  refine ⟨by simp; omega, ?_, fun j hj => ?_⟩
  · rw [List.length_append, List.length_singleton, List.range_succ, List.map_append, List.map_singleton]
    congr 1
    · exact (List.map_congr_left fun j hj => by simp [Arr.set, Nat.ne_of_lt (List.mem_range.1 hj)]).trans h.pre
    · simp [Arr.set]
  · have : j ≠ out.length := by omega
    simp only [Arr.set, this, if_false]; exact h.tail j (by omega)

/-- nothing was dropped so far: the cell read is already in its place -/
theorem Buf.keep (h : Buf l i 0 out a) (hi : i < l.length) : Buf l (i + 1) 0 (out ++ [l[i]]) a := by
  have hl : out.length = i := h.len
  refine ⟨by simp [hl], ?_, fun j hj => h.tail j (by omega)⟩
  rw [List.length_append, List.length_singleton, List.range_succ, List.map_append, List.map_singleton, h.pre, hl, h.read hi]

/-! ### REMOVE -/

theorem removeLoop_buf (l : List Info) (n v : Option String) (i : Nat) (hi : i ≤ l.length) :
    Buf l i (removeLoop n v (Arr.ofList l) i).2 ((l.take i).filter (fun p => !isMatch n v p)) (removeLoop n v (Arr.ofList l) i).1 ∧
    (removeLoop n v (Arr.ofList l) i).2 = (l.take i).countP (isMatch n v) := by
  induction i with
  | zero => exact ⟨Buf.init l, rfl⟩
  | succ i ih =>
    have hlt : i < l.length := by omega
    obtain ⟨hb, hcnt⟩ := ih (by omega)
    unfold removeLoop
    generalize removeLoop n v (Arr.ofList l) i = s at hb hcnt
    obtain ⟨a', found⟩ := s
    simp only at hb hcnt ⊢
    rw [hb.read hlt, List.take_succ_eq_append_getElem hlt, List.filter_append, List.countP_append, ← hcnt]
    cases hm : isMatch n v l[i]
    · simpa [hm] using hb.push l[i]
    · simpa [hm] using hb.skip

/-! ### REPLACE -/

theorem go_append (n v : String) (xs ys : List Info) (seen : Bool) :
    replaceSpec.go n v (xs ++ ys) seen = replaceSpec.go n v xs seen ++ replaceSpec.go n v ys (seen || xs.any (fun p => p.1 == n)) := by
  induction xs generalizing seen with
  | nil => simp [replaceSpec.go]
  | cons x xs ih =>
    simp only [List.cons_append, replaceSpec.go, List.any_cons, ih]
    cases x.1 == n <;> cases seen <;> simp

theorem replaceLoop_buf (l : List Info) (n v : String) (i : Nat) (hi : i ≤ l.length) :
    Buf l i ((replaceLoop n v (Arr.ofList l) i).2 - 1) (replaceSpec.go n v (l.take i) false) (replaceLoop n v (Arr.ofList l) i).1 ∧
    (replaceLoop n v (Arr.ofList l) i).2 = (l.take i).countP (fun p => p.1 == n) := by
  induction i with
  | zero => exact ⟨Buf.init l, rfl⟩
  | succ i ih =>
    have hlt : i < l.length := by omega
    obtain ⟨hb, hcnt⟩ := ih (by omega)
    unfold replaceLoop
    generalize replaceLoop n v (Arr.ofList l) i = s at hb hcnt
    obtain ⟨a', found⟩ := s
    simp only at hb hcnt ⊢
    have hany : (l.take i).any (fun p => p.1 == n) = decide (0 < found) := by
      rw [hcnt, Bool.eq_iff_iff, List.any_eq_true, decide_eq_true_iff, List.countP_pos_iff]
    rw [hb.read hlt, List.take_succ_eq_append_getElem hlt, go_append, List.countP_append, ← hcnt, hany, Bool.false_or]
    cases hm : l[i].1 == n
    · by_cases hf : 1 < found
      · simpa [replaceSpec.go, hm, hf] using hb.push l[i]
      · have h0 : found - 1 = 0 := by omega
        rw [h0] at hb
        simpa [replaceSpec.go, hm, hf, h0] using hb.keep hlt
    · by_cases hf : found = 0
      · -- the first pair of that name: the value is replaced where it stands, nothing was dropped so far
        subst hf
        simpa [replaceSpec.go, hm, eq_of_beq hm] using hb.push (n, v)
      · obtain ⟨f, rfl⟩ := Nat.exists_eq_succ_of_ne_zero hf
        simpa [replaceSpec.go, hm] using hb.skip

end Hw.Infos
