/-
  Hw.Attr.CpuKinds — model of hwloc/cpukinds.c (C15).  Core Lean only.

  cpusets are finite sets of PU indexes, modelled as `Nat` bit masks (`Nat.testBit`).  The bitmap
  layer (word lists, `infinite` flag) is C03's business; here `hwloc_bitmap_compare_inclusion`,
  `and`, `andnot`, `iszero` appear through their set-level meaning.

  Modelled (literal order of the C loops, order of the kinds array, order of the info arrays):
    hwloc_internal_cpukinds_register   argument checks, capacity 2N+1 -> power of two >= 8,
                                       split (INTERSECTS/INCLUDED) / merge (CONTAINS/EQUAL) loop with the
                                       shrinking cpuset and early break, remainder kind, info union
                                       without exact duplicates, forced-efficiency overwrite rule
    hwloc_cpukinds_register            flags / NULL / empty checks, negative efficiency -> UNKNOWN,
                                       OVERWRITE flag, rank afterwards
    hwloc_internal_cpukinds_rank       every strategy selectable by HWLOC_CPUKINDS_RANKING, info summaries
                                       with the C `atoi` + unsigned (mod 2^32) arithmetic, duplicate check,
                                       sort + renumber, "failed" path
    hwloc_internal_cpukinds_restrict   and with the root cpuset, drop emptied kinds, rank iff one was dropped
    hwloc_internal_cpukinds_dup        exact-size copy
    XML export + import                re-registration of every exported kind into an empty array, rank at
                                       the end of load
    hwloc_cpukinds_get_nr/get_info/get_by_cpuset

  Array slots: `alloc` is `nr_cpukinds_allocated`; `stale` records, for the slots `nr, nr+1, ...`
  that `restrict`'s memmove left behind *without clearing them* (finding F20; the repaired code memsets them), whether the
  `infos.array` pointer still stored there is non-NULL.  A later register that creates a new kind in such a slot starts
  from that stale `infos` (`staleHit`): undefined behaviour in C (use-after-free / double free, see Props/C15.lean,
  `C15_defect_stale_slot_reachable`).  Outside that input class the functions below are the C code.
-/
namespace Hw
namespace CpuKinds

abbrev Info := String × String

/-- `hwloc_bitmap_andnot` on finite sets -/
def andnot (a b : Nat) : Nat := a ^^^ (a &&& b)

/-- result of `hwloc_bitmap_compare_inclusion` -/
inductive Rel | equal | included | contains | intersects | different
deriving DecidableEq, Repr

/-- `hwloc_bitmap_compare_inclusion(a, b)` on finite sets (empty `a`, non-empty `b` is INCLUDED as in C) -/
def rel (a b : Nat) : Rel :=
  if a = b then .equal
  else if a &&& b = a then .included
  else if a &&& b = b then .contains
  else if a &&& b = 0 then .different
  else .intersects

/-- `struct hwloc_internal_cpukind_s` without `ranking_value` (always recomputed before use) -/
structure Kind where
  cpuset : Nat
  eff : Int        -- efficiency
  forced : Int     -- forced_efficiency
  infos : List Info
  dupd : Bool := false   -- went through hwloc_internal_cpukinds_dup: infos.array is non-NULL even when empty
deriving DecidableEq, Repr

/-- `infos.array != NULL` (this build: `calloc(0)` in `hwloc__tma_dup_infos` returns a non-NULL pointer) -/
def Kind.arrNonNull (k : Kind) : Bool := k.dupd || !k.infos.isEmpty

inductive Err | ok | einval | enoent | exdev
deriving DecidableEq, Repr

structure State where
  kinds : List Kind := []
  alloc : Nat := 0            -- nr_cpukinds_allocated
  stale : List Bool := []     -- `infos.array != NULL` left in slots nr, nr+1, .. by restrict's memmove
  root : Nat := 0             -- cpuset of the root object (what restrict intersects with)
deriving Repr

/-! ### infos -/

/-- `hwloc__cpukind_add_infos`: append every pair that is not already there (exact name+value match) -/
def addInfos (cur new : List Info) : List Info :=
  new.foldl (fun acc p => if acc.contains p then acc else acc ++ [p]) cur

/-! ### libc `atoi` as used on info values, then stored into an `unsigned` -/

def isSpace (c : Char) : Bool :=
  c = ' ' || c = '\t' || c = '\n' || c = '\x0b' || c = '\x0c' || c = '\r'

def digitsVal : List Char → Nat → Nat
  | [], acc => acc
  | c :: cs, acc => if c.isDigit then digitsVal cs (acc * 10 + (c.toNat - 48)) else acc

/-- `strtol(s, NULL, 10)` (clamped to `long`) -/
def strtol (s : String) : Int :=
  let cs := s.toList.dropWhile isSpace
  match cs with
  | '-' :: r => - (Int.ofNat (min (digitsVal r 0) 9223372036854775808))
  | '+' :: r => Int.ofNat (min (digitsVal r 0) 9223372036854775807)
  | r => Int.ofNat (min (digitsVal r 0) 9223372036854775807)

/-- `(unsigned) atoi(s)`: `atoi` is `(int) strtol`, both casts are reductions mod 2^32 -/
def atoiU32 (s : String) : Nat := (strtol s % 4294967296).toNat

/-! ### ranking -/

structure Summ where
  coreType : Nat := 0
  maxFreq : Nat := 0
  baseFreq : Nat := 0
deriving Repr

def summStep (s : Summ) (i : Info) : Summ :=
  if i.1 = "FrequencyMaxMHz" then { s with maxFreq := atoiU32 i.2 }
  else if i.1 = "FrequencyBaseMHz" then { s with baseFreq := atoiU32 i.2 }
  else if i.1 = "CoreType" then
    if i.2 = "IntelAtom" then { s with coreType := 1 }
    else if i.2 = "IntelCore" then { s with coreType := 2 }
    else s
  else s

/-- one entry of `hwloc__cpukinds_summarize_info` (calloc'ed, later infos overwrite earlier ones) -/
def summarize (k : Kind) : Summ := k.infos.foldl summStep {}

/-- `hwloc__cpukinds_check_duplicate_rankings` returns 0 -/
def dupFree : List Nat → Bool
  | [] => true
  | x :: xs => !xs.contains x && dupFree xs

/-- values of HWLOC_CPUKINDS_RANKING (`dflt` also for unset / unrecognised) -/
inductive Strategy
  | dflt | noForced | forced | coretypeFreq | coretypeFreqStrict | coretype | frequency | freqMax | freqBase | none
deriving DecidableEq, Repr

/-- the `getenv("HWLOC_CPUKINDS_RANKING")` strcmp chain; `none` = variable unset; unrecognised = default -/
def parseEnv : Option String → Strategy
  | none => .dflt
  | some "default" => .dflt
  | some "none" => .none
  | some "coretype+frequency" => .coretypeFreq
  | some "coretype+frequency_strict" => .coretypeFreqStrict
  | some "coretype" => .coretype
  | some "frequency" => .frequency
  | some "frequency_max" => .freqMax
  | some "frequency_base" => .freqBase
  | some "forced_efficiency" => .forced
  | some "no_forced_efficiency" => .noForced
  | some _ => .dflt

/-- `ranking_value = forced_efficiency` (int to uint64) -/
def forcedKey (k : Kind) : Nat := (k.forced % 18446744073709551616).toNat

/-- `hwloc__cpukinds_try_rank_by_forced_efficiency` -/
def tryForced (ks : List Kind) : Option (Kind → Nat) :=
  if ks.all (fun k => decide (k.forced ≠ -1)) && dupFree (ks.map forcedKey) then some forcedKey else none

/-- `(intel_core_type << 20) + freq` in `unsigned` arithmetic -/
def ctFreqKey (haveBase : Bool) (k : Kind) : Nat :=
  let s := summarize k
  ((s.coreType <<< 20) + (if haveBase then s.baseFreq else s.maxFreq)) % 4294967296

def ctKey (k : Kind) : Nat := ((summarize k).coreType <<< 20) % 4294967296
def freqKey (haveBase : Bool) (k : Kind) : Nat :=
  if haveBase then (summarize k).baseFreq else (summarize k).maxFreq

/-- `hwloc__cpukinds_try_rank_by_info` for the given heuristics (only the info-based ones reach it) -/
def tryInfo (h : Strategy) (ks : List Kind) : Option (Kind → Nat) :=
  let ss := ks.map summarize
  let haveMax := ss.all (fun s => decide (s.maxFreq ≠ 0))
  let haveBase := ss.all (fun s => decide (s.baseFreq ≠ 0))
  let haveCT := ss.all (fun s => decide (s.coreType ≠ 0))
  let fin (ok : Bool) (key : Kind → Nat) : Option (Kind → Nat) :=
    if ok && dupFree (ks.map key) then some key else none
  match h with
  | .coretypeFreqStrict => fin (haveCT && (haveMax || haveBase)) (ctFreqKey haveBase)
  | .coretypeFreq => fin (haveCT || haveMax || haveBase) (ctFreqKey haveBase)
  | .coretype => fin haveCT ctKey
  | .frequency => fin (haveMax || haveBase) (freqKey haveBase)
  | .freqMax => fin haveMax (freqKey false)
  | .freqBase => fin haveBase (freqKey true)
  | _ => none

/-- which ranking values `hwloc_internal_cpukinds_rank` ends up sorting by (`none` = label "failed") -/
def chooseKey (strat : Strategy) (ks : List Kind) : Option (Kind → Nat) :=
  match strat with
  | .dflt => match tryForced ks with
      | some k => some k
      | none => tryInfo .coretypeFreq ks
  | .noForced => tryInfo .coretypeFreq ks
  | .forced => tryForced ks
  | .none => none
  | h => tryInfo h ks

/-- insertion into a list sorted by `key`; `qsort` with pairwise distinct keys has a unique result -/
def insertBy (key : Kind → Nat) (k : Kind) : List Kind → List Kind
  | [] => [k]
  | x :: xs => if key k < key x then k :: x :: xs else x :: insertBy key k xs

def sortBy (key : Kind → Nat) : List Kind → List Kind
  | [] => []
  | k :: ks => insertBy key k (sortBy key ks)

/-- "define our own efficiency between 0 and N-1" -/
def renumber : Nat → List Kind → List Kind
  | _, [] => []
  | i, k :: ks => { k with eff := (i : Int) } :: renumber (i + 1) ks

def clearEff (ks : List Kind) : List Kind := ks.map (fun k => { k with eff := -1 })

/-- `hwloc__cpukinds_finalize_ranking` -/
def finalize (key : Kind → Nat) (ks : List Kind) : List Kind := renumber 0 (sortBy key ks)

/-- `hwloc_internal_cpukinds_rank` -/
def rank (strat : Strategy) (ks : List Kind) : List Kind :=
  match ks with
  | [] => []
  | [k] => [{ k with eff := 0 }]
  | _ => match chooseKey strat ks with
    | some key => finalize key ks
    | none => clearEff ks

/-! ### register -/

/-- `hwloc_flsl` on a non-negative value -/
def bitLen (x : Nat) : Nat := if x = 0 then 0 else Nat.log2 x + 1

/-- capacity demanded by a register on an array holding `nr` kinds -/
def capFor (nr : Nat) : Nat :=
  let m := 2 ^ (bitLen (2 * nr + 1 - 1) + 1)
  if m < 8 then 8 else m

/-- the loop `for(i=0; i<oldnr; i++)`: returns (old kinds after the loop, new kinds appended at
    `newnr++` in creation order, remaining cpuset).  The `break` on an emptied cpuset is tested at
    the top here (the C tests it at the bottom; the set is non-empty on entry). -/
def regLoop (forced : Int) (infos : List Info) (ovw : Bool) :
    List Kind → Nat → List Kind × List Kind × Nat
  | [], cs => ([], [], cs)
  | k :: ks, cs =>
    if cs = 0 then (k :: ks, [], 0)
    else match rel cs k.cpuset with
      | .intersects | .included =>
        let inter := cs &&& k.cpuset
        let nk : Kind := { cpuset := inter, eff := -1, forced := forced,
                           infos := addInfos (addInfos [] k.infos) infos }
        let k' : Kind := { k with cpuset := andnot k.cpuset inter }
        let r := regLoop forced infos ovw ks (andnot cs inter)
        (k' :: r.1, nk :: r.2.1, r.2.2)
      | .contains | .equal =>
        let k' : Kind := { k with infos := addInfos k.infos infos,
                                  forced := if ovw || k.forced = -1 then forced else k.forced }
        let r := regLoop forced infos ovw ks (andnot cs k.cpuset)
        (k' :: r.1, r.2.1, r.2.2)
      | .different =>
        let r := regLoop forced infos ovw ks cs
        (k :: r.1, r.2.1, r.2.2)

/-- kinds appended by a register: the split-off kinds, then the remainder kind if any -/
def regAdded (forced : Int) (infos : List Info) (ovw : Bool) (ks : List Kind) (cs : Nat) : List Kind :=
  let r := regLoop forced infos ovw ks cs
  r.2.1 ++ (if r.2.2 = 0 then [] else
    [{ cpuset := r.2.2, eff := -1, forced := forced, infos := addInfos [] infos }])

/-- `hwloc_internal_cpukinds_register` (flags: bit 0 = OVERWRITE_FORCED_EFFICIENCY) -/
def internalRegister (st : State) (cs : Nat) (forced : Int) (infos : List Info) (flags : Nat) :
    State × Err :=
  if cs = 0 then (st, .einval)
  else if flags / 2 ≠ 0 then (st, .einval)
  else
    let ovw := flags % 2 = 1
    let olds := (regLoop forced infos ovw st.kinds cs).1
    let added := regAdded forced infos ovw st.kinds cs
    ({ st with kinds := olds ++ added,
               alloc := max st.alloc (capFor st.kinds.length),
               stale := st.stale.drop added.length }, .ok)

/-- the register writes a new kind into a vacated slot whose stale `infos.array` is non-NULL -/
def staleHit (st : State) (cs : Nat) (forced : Int) (infos : List Info) (ovw : Bool) : Bool :=
  (st.stale.take (regAdded forced infos ovw st.kinds cs).length).any id

/-- `hwloc_cpukinds_register`; `cs = none` is the NULL pointer -/
def register (strat : Strategy) (st : State) (cs : Option Nat) (forced : Int) (infos : List Info)
    (flags : Nat) : State × Err :=
  if flags ≠ 0 then (st, .einval)
  else match cs with
    | none => (st, .einval)
    | some c =>
      if c = 0 then (st, .einval)
      else
        let f : Int := if forced < 0 then -1 else forced
        let st' := (internalRegister st c f infos 1).1
        ({ st' with kinds := rank strat st'.kinds }, .ok)

/-! ### restrict, dup, XML round trip, refresh -/

/-- every slot vacated by one restrict holds a bit-copy of the kind that was last in the array -/
def lastArr (ks : List Kind) : Bool :=
  match ks.getLast? with
  | some k => k.arrNonNull
  | none => false

/-- `hwloc_internal_cpukinds_restrict` once the root cpuset is `root'` -/
def restrictKinds (strat : Strategy) (st : State) (root' : Nat) : State :=
  let ks := st.kinds.map (fun k => { k with cpuset := k.cpuset &&& root' })
  let ks' := ks.filter (fun k => decide (k.cpuset ≠ 0))
  let removed := ks.length - ks'.length
  if removed = 0 then { st with kinds := ks', root := root' }
  else { st with kinds := rank strat ks', root := root',
                 stale := List.replicate removed (lastArr st.kinds) ++ st.stale }

/-- `hwloc_topology_restrict(topology, set, 0)` as far as cpukinds are concerned: the root cpuset
    becomes `root ∩ set`; EINVAL (nothing touched) when that is empty -/
def restrict (strat : Strategy) (st : State) (set : Nat) : State × Err :=
  if st.root &&& set = 0 then (st, .einval)
  else (restrictKinds strat st (st.root &&& set), .ok)

/-- `hwloc_internal_cpukinds_dup` -/
def dup (st : State) : State :=
  { st with kinds := st.kinds.map (fun k => { k with dupd := true }), alloc := st.kinds.length, stale := [] }

/-- XML export + import into a fresh topology: every kind is re-registered in array order, ranking
    runs once at the end of `hwloc_topology_load` -/
def xmlReload (strat : Strategy) (st : State) : State :=
  let st0 : State := { root := st.root }
  let st1 := st.kinds.foldl (fun s k => (internalRegister s k.cpuset k.forced k.infos 1).1) st0
  { st1 with kinds := rank strat st1.kinds }

/-- `hwloc_topology_refresh` -/
def refresh (strat : Strategy) (st : State) : State := { st with kinds := rank strat st.kinds }

/-! ### consulting -/

inductive Res | idx (i : Nat) | err (e : Err)
deriving DecidableEq, Repr

def byCpusetLoop : List Kind → Nat → Nat → Res
  | [], _, _ => .err .enoent
  | k :: ks, s, i =>
    match rel s k.cpuset with
    | .equal | .included => .idx i
    | .intersects | .contains => .err .exdev
    | .different => byCpusetLoop ks s (i + 1)

/-- `hwloc_cpukinds_get_by_cpuset`; `none` is the NULL pointer -/
def getByCpuset (st : State) (s : Option Nat) (flags : Nat) : Res :=
  if flags ≠ 0 then .err .einval
  else match s with
    | none => .err .einval
    | some s => if s = 0 then .err .einval else byCpusetLoop st.kinds s 0

/-- `hwloc_cpukinds_get_nr` -/
def getNr (st : State) (flags : Nat) : Res :=
  if flags ≠ 0 then .err .einval else .idx st.kinds.length

/-- `hwloc_cpukinds_get_info` -/
def getInfo (st : State) (id : Nat) (flags : Nat) : Except Err Kind :=
  if flags ≠ 0 then .error .einval
  else match st.kinds[id]? with
    | some k => .ok k
    | none => .error .enoent

/-! ### histories of public calls -/

inductive Op
  | register (cs : Option Nat) (forced : Int) (infos : List Info) (flags : Nat)
  | restrict (set : Nat)
  | dup
  | xml
  | refresh
deriving Repr

def step (strat : Strategy) (st : State) : Op → State
  | .register cs f i fl => (register strat st cs f i fl).1
  | .restrict set => (restrict strat st set).1
  | .dup => dup st
  | .xml => xmlReload strat st
  | .refresh => refresh strat st

/-- state after a history, starting from a freshly loaded topology whose root cpuset is `root` -/
def run (strat : Strategy) (root : Nat) (h : List Op) : State :=
  h.foldl (step strat) { root := root }

end CpuKinds
end Hw
