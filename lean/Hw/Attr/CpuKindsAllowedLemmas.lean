/-
  Hw.Attr.CpuKindsAllowedLemmas — facts about the topology-level model of Hw.Attr.CpuKindsAllowed (C15 with
  HWLOC_TOPOLOGY_FLAG_INCLUDE_DISALLOWED): the allowed cpuset stays inside the root cpuset, never enters the kinds,
  and histories with `allow` calls reduce to plain cpukinds histories.
-/
import Hw.Attr.CpuKindsAllowed
import Hw.Attr.CpuKindsLemmas
namespace Hw
namespace CpuKinds

theorem allow_fst (t : TState) (cs : Option Nat) (fl : Nat) :
    ∃ a, (allow t cs fl).1 = { t with allowed := a } ∧
      (a = t.allowed ∨ t.inclDis = true ∧ (a = t.st.root ∨ a ≠ 0 ∧ ∃ c, a = t.st.root &&& c)) := by
  unfold allow
  by_cases hd : (!t.inclDis) = true
  · rw [if_pos hd]; exact ⟨_, rfl, Or.inl rfl⟩
  rw [if_neg hd]
  have hd' : t.inclDis = true := by cases h : t.inclDis <;> simp [h] at hd ⊢
  by_cases h1 : fl = 1
  · rw [if_pos h1]
    cases cs with
    | none => exact ⟨_, rfl, Or.inr ⟨hd', Or.inl rfl⟩⟩
    | some c => exact ⟨_, rfl, Or.inl rfl⟩
  rw [if_neg h1]
  by_cases h4 : fl = 4
  · rw [if_pos h4]
    cases cs with
    | none => exact ⟨_, rfl, Or.inl rfl⟩
    | some c =>
      simp only
      by_cases hz : t.st.root &&& c = 0
      · rw [if_pos hz]; exact ⟨_, rfl, Or.inl rfl⟩
      · rw [if_neg hz]; exact ⟨_, rfl, Or.inr ⟨hd', Or.inr ⟨hz, c, rfl⟩⟩⟩
  rw [if_neg h4]; exact ⟨_, rfl, Or.inl rfl⟩

theorem allow_st (t : TState) (cs : Option Nat) (fl : Nat) : (allow t cs fl).1.st = t.st := by
  obtain ⟨a, e, _⟩ := allow_fst t cs fl
  rw [e]

theorem tinit_wf (root : Nat) (d : Bool) : WfT (tinit root d) :=
  ⟨Nat.and_self _, fun _ => rfl, fun h => h⟩

theorem allow_wf {t : TState} (W : WfT t) (cs : Option Nat) (fl : Nat) : WfT (allow t cs fl).1 := by
  obtain ⟨a, e, h⟩ := allow_fst t cs fl
  rw [e]
  rcases h with rfl | ⟨hd, rfl | ⟨hne, c, rfl⟩⟩
  · exact W
  · exact ⟨Nat.and_self _, fun _ => rfl, fun h => h⟩
  · refine ⟨?_, fun h => (by rw [hd] at h; cases h), fun _ => hne⟩
    show t.st.root &&& c &&& t.st.root = t.st.root &&& c
    rw [Nat.and_comm (t.st.root &&& c), ← Nat.and_assoc, Nat.and_self]

theorem sub_meets_root {a r s : Nat} (hsub : a &&& r = a) (h : a &&& s ≠ 0) : r &&& s ≠ 0 := by
  intro h0
  apply h
  rw [← hsub, Nat.and_assoc, h0, Nat.and_zero]

theorem restrictT_wf (strat : Strategy) {t : TState} (W : WfT t) (set : Nat) : WfT (restrictT strat t set).1 := by
  unfold restrictT
  split
  · exact W
  · rename_i hne
    refine ⟨?_, ?_, fun _ => hne⟩
    · show t.allowed &&& set &&& (restrictKinds strat t.st (t.st.root &&& set)).root = t.allowed &&& set
      rw [restrictKinds_root]
      calc t.allowed &&& set &&& (t.st.root &&& set)
          = (t.allowed &&& t.st.root) &&& (set &&& set) := by
            rw [Nat.and_assoc, Nat.and_assoc]
            congr 1
            rw [← Nat.and_assoc, Nat.and_comm set t.st.root, Nat.and_assoc]
        _ = t.allowed &&& set := by rw [W.sub, Nat.and_self]
    · intro hd
      show t.allowed &&& set = (restrictKinds strat t.st (t.st.root &&& set)).root
      rw [restrictKinds_root, W.eq hd]

theorem step_root_of_not_restrict (strat : Strategy) (st : State) (o : Op) (h : ∀ s, o ≠ .restrict s) :
    (step strat st o).root = st.root := by
  cases o with
  | restrict s => exact absurd rfl (h s)
  | register cs f i fl =>
    show (register strat st cs f i fl).1.root = st.root
    rcases register_args cs fl with h | ⟨c, hc, rfl, rfl⟩
    · rw [register_einval strat st cs f i fl h]
    · rw [register_valid strat st hc]; exact internalRegister_root st _ _ _ _
  | dup => rfl
  | refresh => rfl
  | xml =>
    show (xmlReload strat st).root = st.root
    exact List.foldlRecOn st.kinds (fun s k => (internalRegister s k.cpuset k.forced k.infos 1).1)
      (b := { root := st.root }) (motive := fun s => s.root = st.root) rfl
      (fun s hs k _ => (internalRegister_root s _ _ _ _).trans hs)

theorem wfT_of_root {t : TState} (W : WfT t) {st' : State} (h : st'.root = t.st.root) :
    WfT { t with st := st' } :=
  ⟨by show t.allowed &&& st'.root = _; rw [h]; exact W.sub,
   fun hd => by show t.allowed = st'.root; rw [h]; exact W.eq hd,
   fun hr => W.ne (by rw [← h]; exact hr)⟩

theorem stepT_wf (strat : Strategy) {t : TState} (W : WfT t) (o : TOp) : WfT (stepT strat t o) := by
  cases o with
  | allow cs fl => exact allow_wf W cs fl
  | op o =>
    cases o with
    | restrict s => exact restrictT_wf strat W s
    | register cs f i fl => exact wfT_of_root W (step_root_of_not_restrict strat t.st _ (fun _ => Op.noConfusion))
    | dup => exact wfT_of_root W (step_root_of_not_restrict strat t.st .dup (fun _ => Op.noConfusion))
    | xml => exact wfT_of_root W (step_root_of_not_restrict strat t.st .xml (fun _ => Op.noConfusion))
    | refresh => exact wfT_of_root W (step_root_of_not_restrict strat t.st .refresh (fun _ => Op.noConfusion))

theorem foldT_wf (strat : Strategy) {t : TState} (W : WfT t) (h : List TOp) : WfT (h.foldl (stepT strat) t) :=
  List.foldlRecOn h (stepT strat) W (fun _ W o _ => stepT_wf strat W o)

theorem runT_wf (strat : Strategy) (root : Nat) (d : Bool) (h : List TOp) : WfT (runT strat root d h) :=
  foldT_wf strat (tinit_wf root d) h

/-- a restrict of the topology is, for the cpukinds, the restrict of `CpuKinds.restrict` (or a refused one) -/
theorem restrictT_st (strat : Strategy) {t : TState} (W : WfT t) (set : Nat) :
    (restrictT strat t set).1.st = (restrict strat t.st (if t.allowed &&& set = 0 then 0 else set)).1 := by
  unfold restrictT restrict
  by_cases h : t.allowed &&& set = 0
  · rw [if_pos h, if_pos h, Nat.and_zero, if_pos rfl]
  · rw [if_neg h, if_neg h, if_neg (sub_meets_root W.sub h)]

theorem foldT_eq (strat : Strategy) (h : List TOp) : ∀ {t : TState}, WfT t →
    (h.foldl (stepT strat) t).st = (traceT strat t h).foldl (step strat) t.st := by
  induction h with
  | nil => intro t _; rfl
  | cons o r ih =>
    intro t W
    rw [List.foldl_cons, ih (stepT_wf strat W o)]
    cases o with
    | allow cs fl =>
      show _ = (traceT strat (stepT strat t (.allow cs fl)) r).foldl (step strat) t.st
      rw [show (stepT strat t (.allow cs fl)).st = t.st from allow_st t cs fl]
    | op o =>
      cases o with
      | restrict s =>
        show _ = (traceT strat (stepT strat t (.op (.restrict s))) r).foldl (step strat)
                  (step strat t.st (.restrict (if t.allowed &&& s = 0 then 0 else s)))
        rw [show (stepT strat t (.op (.restrict s))).st = _ from restrictT_st strat W s]
        rfl
      | register cs f i fl => rfl
      | dup => rfl
      | xml => rfl
      | refresh => rfl

theorem runT_eq_run (strat : Strategy) (root : Nat) (d : Bool) (h : List TOp) :
    (runT strat root d h).st = run strat root (traceT strat (tinit root d) h) :=
  foldT_eq strat h (tinit_wf root d)

theorem restrictT_kinds (strat : Strategy) (t : TState) (set : Nat) (h : t.allowed &&& set ≠ 0) :
    SameCore (cutKinds (t.st.root &&& set) t.st.kinds) (restrictT strat t set).1.st.kinds ∧
    (restrictT strat t set).1.st.root = t.st.root &&& set ∧
    (restrictT strat t set).1.allowed = t.allowed &&& set := by
  unfold restrictT
  rw [if_neg h]
  exact ⟨restrictKinds_sameCore _ _ _, restrictKinds_root _ _ _, rfl⟩

theorem restrictT_covers (strat : Strategy) (t : TState) (set : Nat) (h : t.allowed &&& set ≠ 0) (p : Nat) :
    Covers (restrictT strat t set).1.st.kinds p ↔ Covers t.st.kinds p ∧ (t.st.root &&& set).testBit p = true :=
  (covers_core (restrictT_kinds strat t set h).1 p).trans (covers_cutKinds _ _ p)

end CpuKinds
end Hw
