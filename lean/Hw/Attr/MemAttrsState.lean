import Hw.Attr.MemAttrsApi
/-
  Hw.Attr.MemAttrsState — state-level lemmas (target lists, get-after-set on the attribute table).
-/
namespace Hw.MemAttrs

/-! ## E1. target lists -/

theorem matchTarget_congr {ty gp : Nat} {os : Option Nat} {t t' : Target}
    (h1 : t'.type = t.type) (h2 : t'.gp = t.gp) (h3 : t'.os = t.os) :
    matchTarget ty gp os t' = matchTarget ty gp os t := by
  unfold matchTarget
  rw [h1, h2, h3]

theorem setSlot_key (ni : Bool) (q : Option Loc) (v : Nat) (t : Target) :
    (setSlot ni q v t).type = t.type ∧ (setSlot ni q v t).gp = t.gp ∧ (setSlot ni q v t).os = t.os := by
  unfold setSlot
  cases ni <;> cases q <;> exact ⟨rfl, rfl, rfl⟩

theorem matchTarget_setSlot (ty gp : Nat) (os : Option Nat) (ni : Bool) (q : Option Loc) (v : Nat)
    (t : Target) : matchTarget ty gp os (setSlot ni q v t) = matchTarget ty gp os t :=
  have k := setSlot_key ni q v t
  matchTarget_congr k.1 k.2.1 k.2.2

theorem findTarget_nil (ty gp : Nat) (os : Option Nat) : findTarget ty gp os [] = none := rfl

theorem findTarget_cons (ty gp : Nat) (os : Option Nat) (t : Target) (ts : List Target) :
    findTarget ty gp os (t :: ts) =
      if matchTarget ty gp os t then some t else findTarget ty gp os ts := by
  simp only [findTarget, List.find?_cons]
  cases matchTarget ty gp os t <;> simp

theorem matchTarget_default (ty gp : Nat) (os : Option Nat) :
    matchTarget ty gp os { type := ty, gp := gp, os := os, inits := [], noinit := 0 } = true := by
  simp [matchTarget]

theorem findTarget_updTarget_same (ty gp : Nat) (os : Option Nat) (f : Target → Target)
    (hf : ∀ t, matchTarget ty gp os (f t) = matchTarget ty gp os t) (ts : List Target) :
    findTarget ty gp os (updTarget ty gp os f ts) =
      some (f ((findTarget ty gp os ts).getD { type := ty, gp := gp, os := os, inits := [], noinit := 0 })) := by
  induction ts with
  | nil =>
    simp only [updTarget, findTarget_nil, Option.getD_none]
    rw [findTarget_cons, if_pos (by rw [hf, matchTarget_default])]
  | cons t ts ih =>
    simp only [updTarget]
    by_cases hm : matchTarget ty gp os t = true
    · rw [if_pos hm, findTarget_cons, if_pos (by rw [hf, hm]), findTarget_cons, if_pos hm]
      rfl
    · rw [if_neg hm, findTarget_cons, if_neg hm, findTarget_cons, if_neg hm]
      exact ih

theorem refreshTarget_key {e : Env} {ni : Bool} {t t' : Target} (h : refreshTarget e ni t = some t') :
    t'.type = t.type ∧ t'.gp = t.gp ∧ t'.os = t.os ∧ t'.noinit = t.noinit := by
  rw [refreshTarget_some e ni t t' h]
  cases ni <;> exact ⟨rfl, rfl, rfl, rfl⟩

theorem matchTarget_refreshTarget {e : Env} {ni : Bool} {s s' : Target} (ty gp : Nat) (os : Option Nat)
    (h : refreshTarget e ni s = some s') : matchTarget ty gp os s' = matchTarget ty gp os s :=
  have k := refreshTarget_key h
  matchTarget_congr k.1 k.2.1 k.2.2.1

theorem findTarget_refresh (e : Env) (ni : Bool) (ty gp : Nat) (os : Option Nat) (ts : List Target)
    (t t' : Target)
    (h1 : findTarget ty gp os ts = some t) (h2 : refreshTarget e ni t = some t') :
    findTarget ty gp os (ts.filterMap (refreshTarget e ni)) = some t' := by
  unfold findTarget at h1 ⊢
  obtain ⟨hm, as, bs, rfl, hbefore⟩ := List.find?_eq_some_iff_append.mp h1
  -- refresh keeps the key: `t` still matches, and what stood before it still does not
  have : (as ++ t :: bs).find? (fun s => (refreshTarget e ni s).any (matchTarget ty gp os)) = some t := by
    refine List.find?_eq_some_iff_append.mpr ⟨?_, as, bs, rfl, fun s hs => ?_⟩
    · rw [h2]; exact (matchTarget_refreshTarget ty gp os h2).trans hm
    · cases hr : refreshTarget e ni s with
      | none => rfl
      | some s' => exact (congrArg (!·) (matchTarget_refreshTarget ty gp os hr)).trans (hbefore s hs)
  rw [List.find?_filterMap, this, Option.bind_some, h2]

/-- a stored value that answers a still-valid query survives the refresh: its target is kept (its object exists; with
    initiators, the one that answered is kept), is still the first match for its key, and answers the same -/
theorem lookup_refresh (e : Env) (ni : Bool) (ty gp : Nat) (os : Option Nat) (ts : List Target) (t : Target)
    (init : LocArg) (v : Nat) (hf : findTarget ty gp os ts = some t) (ho : e.hasObj t.type t.gp = true)
    (hq : ∀ q, toInternal init = some q → validQuery e q) (hv : targetValue ni init t = some v) :
    ∃ t', findTarget ty gp os (ts.filterMap (refreshTarget e ni)) = some t' ∧ targetValue ni init t' = some v := by
  cases hr : refreshTarget e ni t with
  | some t' =>
    exact ⟨t', findTarget_refresh e ni ty gp os ts t t' hf hr, by rw [targetValue_refresh e ni t t' init hr hq]; exact hv⟩
  | none =>
    rcases (refreshTarget_none_iff e ni t).mp hr with h | ⟨rfl, hall⟩
    · rw [ho] at h; cases h
    · -- the value just found would still be found among the refreshed initiators, of which there are none
      simp only [targetValue, if_true] at hv
      cases hi : toInternal init with
      | none => rw [hi] at hv; cases hv
      | some q =>
        rw [hi] at hv
        have := findInit_refresh e t.inits q (hq q hi)
        rw [List.filterMap_eq_nil_iff.mpr hall, show (findInit q t.inits).map (·.value) = some v from hv] at this
        cases this

/-! ## E2. get after set on the attribute table -/

/-- what a caller may legitimately pass as initiator in topology `e` -/
def validArg (e : Env) (init : LocArg) : Prop := ∃ q, toInternal init = some q ∧ validQuery e q

theorem ensureValid_flags (e : Env) (a : Attr) : (ensureValid e a).flags = a.flags := by
  unfold ensureValid; split <;> rfl

theorem ensureValid_conv (e : Env) (a : Attr) : (ensureValid e a).conv = a.conv := by
  unfold ensureValid; split <;> rfl

theorem ensureValid_name (e : Env) (a : Attr) : (ensureValid e a).name = a.name := by
  unfold ensureValid; split <;> rfl

theorem ensureValid_needInit (e : Env) (a : Attr) : (ensureValid e a).needInit = a.needInit := by
  unfold Attr.needInit; rw [ensureValid_flags]

theorem ensureValid_valid (e : Env) (a : Attr) : (ensureValid e a).valid = true := by
  unfold ensureValid
  by_cases h : a.valid = true
  · rw [if_pos h]; exact h
  · rw [if_neg h]; rfl

theorem setAttr_static (e : Env) (a : Attr) (ty gp : Nat) (os : Option Nat) (q : Option Loc) (v : Nat) :
    (setAttr e true a ty gp os q v).name = a.name ∧ (setAttr e true a ty gp os q v).flags = a.flags ∧
    (setAttr e true a ty gp os q v).conv = a.conv := by
  simp only [setAttr, if_true]
  unfold ensureValid
  split <;> exact ⟨rfl, rfl, rfl⟩

theorem setAttr_needInit (e : Env) (a : Attr) (ty gp : Nat) (os : Option Nat) (q : Option Loc) (v : Nat) :
    (setAttr e true a ty gp os q v).needInit = a.needInit := by
  simp only [setAttr, if_true, Attr.needInit, ensureValid_flags]

theorem setAttr_targets (e : Env) (a : Attr) (ty gp : Nat) (os : Option Nat) (q : Option Loc) (v : Nat) :
    (setAttr e true a ty gp os q v).targets =
      updTarget ty gp os (setSlot a.needInit q v) (ensureValid e a).targets := by
  simp only [setAttr, if_true, ensureValid_needInit]

theorem setAttr_valid (e : Env) (a : Attr) (ty gp : Nat) (os : Option Nat) (q : Option Loc) (v : Nat) :
    (setAttr e true a ty gp os q v).valid = !(findTarget ty gp os (ensureValid e a).targets).isNone := by
  simp only [setAttr, if_true, ensureValid_valid, Bool.true_and]

theorem findTarget_setAttr (e : Env) (a : Attr) (ty gp : Nat) (os : Option Nat) (q : Option Loc) (v : Nat) :
    findTarget ty gp os (setAttr e true a ty gp os q v).targets =
      some (setSlot a.needInit q v ((findTarget ty gp os (ensureValid e a).targets).getD
        { type := ty, gp := gp, os := os, inits := [], noinit := 0 })) := by
  rw [setAttr_targets]
  exact findTarget_updTarget_same ty gp os _ (fun t => matchTarget_setSlot ty gp os _ _ _ t) _

theorem getValue_of (e : Env) (tbl : Table) (id : Nat) (A : Attr) (o : Obj) (init : LocArg) (t : Target)
    (v : Nat) (h1 : tbl[id]? = some A) (h2 : A.conv = false)
    (h3 : findTarget o.type o.gp o.os (ensureValid e A).targets = some t)
    (h4 : targetValue (ensureValid e A).needInit init t = some v) :
    (getValue e tbl id (some o) init 0).2 = .ok v := by
  simp only [getValue, ne_eq, not_true_eq_false, if_false, h1, h2, Bool.false_eq_true, h3, h4]

/-- get after set for either kind of attribute: `q` is the stored initiator (`none` without initiators); what the
    written slot answers (`hslot`) is what the lookup returns.  A refresh comes in between exactly when the slot was
    just created — then it has the object's own (type, gp), so `lookup_refresh` applies. -/
theorem getValue_setAttr (e : Env) (tbl : Table) (id : Nat) (a : Attr) (o : Obj) (init : LocArg) (v : Nat)
    (q : Option Loc) (ha : tbl[id]? = some a) (hconv : a.conv = false) (ho : e.hasObj o.type o.gp = true)
    (hq : ∀ q', toInternal init = some q' → validQuery e q')
    (hslot : ∀ t, targetValue a.needInit init (setSlot a.needInit q v t) = some v) :
    (getValue e (tbl.set id (setAttr e true a o.type o.gp o.os q v)) id (some o) init 0).2 = .ok v := by
  have hf := findTarget_setAttr e a o.type o.gp o.os q v
  have hslot : ∀ t, targetValue (setAttr e true a o.type o.gp o.os q v).needInit init (setSlot a.needInit q v t) = some v :=
    fun t => by rw [setAttr_needInit]; exact hslot t
  obtain ⟨t, ht, hv⟩ : ∃ t, findTarget o.type o.gp o.os (ensureValid e (setAttr e true a o.type o.gp o.os q v)).targets
      = some t ∧ targetValue (setAttr e true a o.type o.gp o.os q v).needInit init t = some v := by
    unfold ensureValid
    by_cases hvld : (setAttr e true a o.type o.gp o.os q v).valid = true
    · rw [if_pos hvld]; exact ⟨_, hf, hslot _⟩
    · rw [if_neg hvld]
      rw [setAttr_valid] at hvld
      cases hn : findTarget o.type o.gp o.os (ensureValid e a).targets with
      | some t => rw [hn] at hvld; exact absurd rfl hvld
      | none =>
        rw [hn, Option.getD_none] at hf
        have k := setSlot_key a.needInit q v { type := o.type, gp := o.gp, os := o.os, inits := [], noinit := 0 }
        exact lookup_refresh e _ _ _ _ _ _ init v hf (by rw [k.1, k.2.1]; exact ho) hq (hslot _)
  apply getValue_of e _ id _ o init t v (getElem?_set_self_of_some ha) _ ht
  · rw [ensureValid_needInit]; exact hv
  · rw [(setAttr_static e a _ _ _ _ _).2.2, hconv]

theorem getValue_setValue_needInit (e : Env) (tbl : Table) (id : Nat) (a : Attr) (o : Obj) (init : LocArg)
    (v : Nat)
    (ha : tbl[id]? = some a) (hconv : a.conv = false) (hni : a.needInit = true)
    (ho : e.hasObj o.type o.gp = true) (hinit : validArg e init) :
    (setValue e tbl id (some o) init 0 v).2 = .ok () ∧
    (getValue e (setValue e tbl id (some o) init 0 v).1 id (some o) init 0).2 = .ok v := by
  obtain ⟨q, hq, hvq⟩ := hinit
  have hnn : init ≠ .null := by
    intro h; rw [h] at hq; cases hq
  have hset : setValue e tbl id (some o) init 0 v =
      (tbl.set id (setAttr e true a o.type o.gp o.os (some q) v), .ok ()) := by
    simp [setValue, ha, hconv, hni, hq, hnn]
  rw [hset]
  refine ⟨rfl, getValue_setAttr e tbl id a o init v (some q) ha hconv ho
    (fun q' h => by rw [hq] at h; cases h; exact hvq) (fun t => ?_)⟩
  rw [hni]
  simp only [targetValue, if_true, hq]
  exact findInit_setInit_same q v _

theorem getValue_setValue_noInit (e : Env) (tbl : Table) (id : Nat) (a : Attr) (o : Obj) (v : Nat)
    (ha : tbl[id]? = some a) (hconv : a.conv = false) (hni : a.needInit = false)
    (ho : e.hasObj o.type o.gp = true) :
    (setValue e tbl id (some o) .null 0 v).2 = .ok () ∧
    (getValue e (setValue e tbl id (some o) .null 0 v).1 id (some o) .null 0).2 = .ok v := by
  have hset : setValue e tbl id (some o) .null 0 v =
      (tbl.set id (setAttr e true a o.type o.gp o.os none v), .ok ()) := by
    simp [setValue, ha, hconv, hni, toInternal]
  rw [hset]
  exact ⟨rfl, getValue_setAttr e tbl id a o .null v none ha hconv ho (fun _ h => nomatch h)
    (fun t => by rw [hni]; rfl)⟩

theorem setValue_cases (e : Env) (tbl : Table) (id : Nat) (tgt : Option Obj) (init : LocArg) (flags v : Nat) :
    setValue e tbl id tgt init flags v = (tbl, .error .EINVAL) ∨
    ∃ (a : Attr) (o : Obj), tbl[id]? = some a ∧ a.conv = false ∧
      (setValue e tbl id tgt init flags v).1 = tbl.set id (setAttr e true a o.type o.gp o.os (toInternal init) v) := by
  cases tgt with
  | none => exact Or.inl rfl
  | some o =>
    unfold setValue
    simp only
    by_cases h1 : flags ≠ 0
    · rw [if_pos h1]; exact Or.inl rfl
    rw [if_neg h1]
    by_cases h2 : (decide (init ≠ .null) && (toInternal init).isNone) = true
    · rw [if_pos h2]; exact Or.inl rfl
    rw [if_neg h2]
    cases ha : tbl[id]? with
    | none => exact Or.inl rfl
    | some a =>
      simp only
      by_cases h3 : (a.needInit && init == .null) = true
      · rw [if_pos h3]; exact Or.inl rfl
      rw [if_neg h3]
      by_cases h4 : a.conv = true
      · rw [if_pos h4]; exact Or.inl rfl
      rw [if_neg h4]
      exact Or.inr ⟨a, o, rfl, Bool.eq_false_iff.mpr h4, rfl⟩

/-! ## E3. frame: other attributes are not affected -/

theorem setValue_fst_getElem?_ne (e : Env) (tbl : Table) (id id' : Nat) (tgt : Option Obj)
    (init : LocArg) (fl v : Nat) (h : id' ≠ id) :
    (setValue e tbl id tgt init fl v).1[id']? = tbl[id']? := by
  rcases setValue_cases e tbl id tgt init fl v with e | ⟨_, _, _, _, e⟩ <;> rw [e]
  exact List.getElem?_set_ne (Ne.symm h)

theorem getValue_snd_congr (e : Env) (tbl1 tbl2 : Table) (id : Nat) (o : Option Obj) (init : LocArg)
    (fl : Nat) (h : tbl1[id]? = tbl2[id]?) :
    (getValue e tbl1 id o init fl).2 = (getValue e tbl2 id o init fl).2 := by
  unfold getValue
  cases o with
  | none => rfl
  | some o =>
    simp only
    by_cases hf : fl ≠ 0
    · rw [if_pos hf, if_pos hf]
    · rw [if_neg hf, if_neg hf, h]
      cases tbl2[id]? with
      | none => rfl
      | some a =>
        simp only
        by_cases hc : a.conv = true
        · rw [if_pos hc, if_pos hc]
        · rw [if_neg hc, if_neg hc]
          cases findTarget o.type o.gp o.os (ensureValid e a).targets with
          | none => rfl
          | some t =>
            simp only
            cases targetValue (ensureValid e a).needInit init t <;> rfl

theorem getValue_setValue_other_attr (e : Env) (tbl : Table) (id id' : Nat) (tgt : Option Obj)
    (init : LocArg) (fl v : Nat) (o' : Option Obj) (init' : LocArg) (fl' : Nat) (h : id' ≠ id) :
    (getValue e (setValue e tbl id tgt init fl v).1 id' o' init' fl').2 =
      (getValue e tbl id' o' init' fl').2 :=
  getValue_snd_congr e _ _ id' o' init' fl' (setValue_fst_getElem?_ne e tbl id id' tgt init fl v h)

end Hw.MemAttrs
