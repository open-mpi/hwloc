/- Hw.Attr.Diff — model of hwloc/diff.c (topology diffs): build (pairwise DFS), apply, cancel loop.

   The model is generic in the string type `σ`: the C code only ever uses `strcmp(..) == 0`, `strdup`
   and NULL tests on strings, so only decidable equality is needed.  The driver instantiates `σ := String`,
   the concrete witnesses in the lemmas use `σ := Nat`.

   Abstraction (assumes a well-formed topology, C01): an object is addressed by `(depth, logical_index)`
   (what `hwloc_get_obj_by_depth` does through the level arrays) and the `parent` chain of an object is the
   static list `ancs` of the keys of its ancestors.  `shape1`/`shape2` are opaque tokens standing for
   everything `hwloc_diff_trees` compares and can only answer with TOO_COMPLEX
   (shape1: type, subtype, os_index, the four sets; shape2: the memcmp'ed type-specific attribute bytes). -/
namespace Hw.Diff

abbrev Key := Int × Nat
abbrev Mem := BitVec 64

structure Data (σ : Type) where
  depth : Int
  lidx : Nat
  ancs : List Key
  numa : Bool
  shape1 : σ
  shape2 : σ
  name : Option σ
  infos : List (σ × σ)
  lmem : Mem
  tmem : Mem
deriving DecidableEq, Repr

def Data.key {σ} (d : Data σ) : Key := (d.depth, d.lidx)

/-- an object with its four child lists (normal, memory, I/O, misc) -/
inductive Obj (σ : Type) where
  | mk (d : Data σ) (c0 c1 c2 c3 : List (Obj σ))

inductive Attr (σ : Type) where
  | size (old new : Mem)
  | name (old new : Option σ)          -- `none` = NULL string: never queued by build, hand-built lists only
  | info (name old new : σ)
  | unknown                              -- obj_attr.diff.generic.type outside the enum
deriving DecidableEq, Repr

inductive Entry (σ : Type) where
  | tooComplex (k : Key)
  | objAttr (k : Key) (a : Attr σ)
  | unknown                              -- generic.type outside the enum
deriving DecidableEq, Repr

def Entry.isTC {σ} : Entry σ → Bool
  | .tooComplex _ => true
  | _ => false

structure Topo (σ : Type) where
  root : Obj σ
  nbl : Int                              -- topology->nb_levels
  tinfos : List (σ × σ)                  -- topology->infos
  allowed : σ                            -- allowed_cpuset + allowed_nodeset (opaque)
  dists : List (σ × Bool)                -- per distances structure: compared fields (opaque), different_types != NULL
  mattrs : σ                             -- everything the memattr loop compares (opaque)
  kinds : σ                              -- everything the cpukind loop compares (opaque)

section
variable {σ : Type} [DecidableEq σ]

def Obj.data : Obj σ → Data σ
  | .mk d _ _ _ _ => d

/-! ### DFS flattening and local update -/

mutual
def Obj.flat : Obj σ → List (Data σ)
  | .mk d c0 c1 c2 c3 => d :: (flatL c0 ++ (flatL c1 ++ (flatL c2 ++ flatL c3)))
def flatL : List (Obj σ) → List (Data σ)
  | [] => []
  | x :: xs => x.flat ++ flatL xs
end

mutual
def Obj.mapData (g : Data σ → Data σ) : Obj σ → Obj σ
  | .mk d c0 c1 c2 c3 => .mk (g d) (mapDataL g c0) (mapDataL g c1) (mapDataL g c2) (mapDataL g c3)
def mapDataL (g : Data σ → Data σ) : List (Obj σ) → List (Obj σ)
  | [] => []
  | x :: xs => x.mapData g :: mapDataL g xs
end

/-! ### hwloc_diff_trees -/

/-- the infos loop (diff.c:219-235): entries queued so far, and whether it ran to completion -/
def infosGo (k : Key) : List (σ × σ) → List (σ × σ) → List (Entry σ) × Bool
  | [], [] => ([], true)
  | (n1, v1) :: r1, (n2, v2) :: r2 =>
    if n1 ≠ n2 then ([], false) else
    let r := infosGo k r1 r2
    ((if v1 ≠ v2 then [Entry.objAttr k (.info n1 v1 v2)] else []) ++ r.1, r.2)
  | _, _ => ([], false)

def infosDiff (k : Key) (i1 i2 : List (σ × σ)) : List (Entry σ) × Bool :=
  if i1.length ≠ i2.length then ([], false) else infosGo k i1 i2

def nameDiff (a b : Data σ) : List (Entry σ) :=
  if a.name ≠ b.name then [.objAttr a.key (.name a.name b.name)] else []

def sizeDiff (a b : Data σ) : List (Entry σ) :=
  if a.numa ∧ a.lmem ≠ b.lmem then [.objAttr a.key (.size a.lmem b.lmem)] else []

/-- one stage of hwloc_diff_trees: the entries queued by the stage, then either the remaining stages or
    `goto out_too_complex` (which queues TOO_COMPLEX for obj1 and returns) -/
def stage (k : Key) (r : List (Entry σ) × Bool) (next : List (Entry σ)) : List (Entry σ) :=
  r.1 ++ (if r.2 then next else [.tooComplex k])

mutual
def diffTrees : Obj σ → Obj σ → List (Entry σ)
  | .mk a a0 a1 a2 a3, .mk b b0 b1 b2 b3 =>
    -- depth, type/subtype/os_index/sets, then "a name that exists on one side only" (diff.c:157-159)
    if a.depth ≠ b.depth ∨ a.shape1 ≠ b.shape1 ∨ a.name.isSome ≠ b.name.isSome then [.tooComplex a.key] else
    stage a.key (nameDiff a b ++ sizeDiff a b, decide (a.shape2 = b.shape2))
    (stage a.key (infosDiff a.key a.infos b.infos)
    (stage a.key (diffKids a0 b0)
    (stage a.key (diffKids a1 b1)
    (stage a.key (diffKids a2 b2)
    (stage a.key (diffKids a3 b3) [])))))
/-- one `for (child1, child2)` loop: entries of the common prefix; false when one list is longer -/
def diffKids : List (Obj σ) → List (Obj σ) → List (Entry σ) × Bool
  | x :: xs, y :: ys =>
    let r := diffKids xs ys
    (diffTrees x y ++ r.1, r.2)
  | [], [] => ([], true)
  | _ :: _, [] => ([], false)
  | [], _ :: _ => ([], false)
end

/-- the distances loop (diff.c:369-389): the structures are compared pairwise, field by field (unique_type,
    whether a per-object types array exists, nbobjs, kind, that array, the values, the objects' logical
    indexes); true = goto roottoocomplex.  Each structure is the opaque token of those fields plus the
    `different_types != NULL` flag, so the loop accepts exactly equal lists. -/
def distsDiffer (l1 l2 : List (σ × Bool)) : Bool := decide (l1 ≠ l2)

/-- hwloc_topology_diff_build (flags = 0, both loaded): return value and the list left in `*diffp` -/
def build (A B : Topo σ) : Int × List (Entry σ) :=
  let d := diffTrees A.root B.root
  let rtc : List (Entry σ) := [.tooComplex A.root.data.key]
  if d.any Entry.isTC then (1, d) else
  if A.allowed ≠ B.allowed then (1, d ++ rtc) else
  let i := infosDiff (A.nbl, 0) A.tinfos B.tinfos
  let d := d ++ i.1
  if !i.2 then (1, d ++ rtc) else
  if distsDiffer A.dists B.dists then (1, d ++ rtc) else
  if A.mattrs ≠ B.mattrs then (1, d ++ rtc) else
  if A.kinds ≠ B.kinds then (1, d ++ rtc) else
  (0, d)

/-! ### hwloc_apply_diff_one / hwloc_topology_diff_apply -/

def Topo.flat (T : Topo σ) : List (Data σ) := T.root.flat

def Topo.mapData (T : Topo σ) (g : Data σ → Data σ) : Topo σ := { T with root := T.root.mapData g }

/-- hwloc_get_obj_by_depth: the object stored at `levels[depth][idx]` -/
def getObj (T : Topo σ) (k : Key) : Option (Data σ) := T.flat.find? (fun d => d.key = k)

/-- first `(name, old)` match gets `new` (diff.c:533-542) -/
def replaceFirst (nm old new : σ) : List (σ × σ) → Option (List (σ × σ))
  | [] => none
  | (n, v) :: r =>
    if n = nm ∧ v = old then some ((n, new) :: r)
    else (replaceFirst nm old new r).map ((n, v) :: ·)

def sizeFun (tgt : Data σ) (new delta : Mem) (x : Data σ) : Data σ :=
  if x.key = tgt.key then { x with lmem := new, tmem := x.tmem + delta }
  else if x.key ∈ tgt.ancs then { x with tmem := x.tmem + delta }
  else x

def nameFun (k : Key) (new : σ) (x : Data σ) : Data σ :=
  if x.key = k then { x with name := some new } else x

def infosFun (k : Key) (infos : List (σ × σ)) (x : Data σ) : Data σ :=
  if x.key = k then { x with infos := infos } else x

def Attr.swap : Attr σ → Attr σ
  | .size o n => .size n o
  | .name o n => .name n o
  | .info nm o n => .info nm n o
  | .unknown => .unknown

/-- old/new as seen through the REVERSE flag -/
def Attr.oriented (rev : Bool) (a : Attr σ) : Attr σ := if rev then a.swap else a

/-- body of hwloc_apply_diff_one for an OBJ_ATTR entry, old/new already oriented; `none` = return -1.
    A hand-built NAME entry with a NULL side is answered with `none`: the C code returns -1 when the object
    has no name and is undefined (strcmp/strdup of NULL) otherwise; the harness never executes that case. -/
def applyAttr (T : Topo σ) (k : Key) (a : Attr σ) : Option (Topo σ) :=
  match getObj T k with
  | some d =>
    match a with
    | .size o n => if d.numa ∧ d.lmem = o then some (T.mapData (sizeFun d n (n - o))) else none
    | .name (some o) (some n) => if d.name = some o then some (T.mapData (nameFun k n)) else none
    | .name _ _ => none
    | .info nm o n => (replaceFirst nm o n d.infos).map (fun l => T.mapData (infosFun k l))
    | .unknown => none
  | none =>
    if k.1 = T.nbl then
      match a with
      | .info nm o n => (replaceFirst nm o n T.tinfos).map (fun l => { T with tinfos := l })
      | _ => none
    else none

/-- hwloc_apply_diff_one -/
def applyOne (rev : Bool) (T : Topo σ) : Entry σ → Option (Topo σ)
  | .objAttr k a => applyAttr T k (a.oriented rev)
  | _ => none

/-- hwloc_cancel_diff (diff.c:560-568): the already applied prefix is undone *last applied first*
    (recursion to the end of the prefix, then apply on the way back), flag flipped, errors ignored -/
def cancel (rev : Bool) (T : Topo σ) : List (Entry σ) → Topo σ
  | [] => T
  | e :: r =>
    let T' := cancel rev T r
    (applyOne (!rev) T' e).getD T'

/-- the main loop of hwloc_topology_diff_apply: `done` = entries applied so far (reversed),
    result = (return value, topology afterwards) -/
def applyGo (rev : Bool) (T : Topo σ) (done : List (Entry σ)) : List (Entry σ) → Int × Topo σ
  | [] => (0, T)
  | e :: r =>
    match applyOne rev T e with
    | some T' => applyGo rev T' (e :: done) r
    | none => (- ((done.length : Int) + 1), cancel rev T done.reverse)

def apply (rev : Bool) (T : Topo σ) (d : List (Entry σ)) : Int × Topo σ := applyGo rev T [] d

/-- plain successful application of a whole list (no cancel), used by the statements -/
def applyAll (rev : Bool) (T : Topo σ) : List (Entry σ) → Option (Topo σ)
  | [] => some T
  | e :: r => (applyOne rev T e).bind (fun T' => applyAll rev T' r)

end
end Hw.Diff
