/-
  Hw.Attr.CpuKindsStrategiesAllowed — C15: histories in which HWLOC_CPUKINDS_RANKING changes between the calls, on
  topologies loaded with INCLUDE_DISALLOWED and with `hwloc_topology_allow` calls mixed in, reduce to the plain
  env-switching histories `runE` (Hw/Attr/CpuKindsLemmas.lean) (as `runT_eq_run` does for one fixed strategy).
-/
import Hw.Attr.CpuKindsAllowedLemmas
import Hw.Attr.CpuKindsStrategies
namespace Hw
namespace CpuKinds

abbrev ETOp := Strategy × TOp

def stepTE (t : TState) (p : ETOp) : TState := stepT p.1 t p.2

def runTE (root : Nat) (d : Bool) (h : List ETOp) : TState := h.foldl stepTE (tinit root d)

/-- the history as the cpukinds code sees it: `allow` calls vanish, a restrict refused because its set misses the allowed
    cpuset becomes a restrict to the empty set (refused as well); every call keeps its strategy -/
def traceTE : TState → List ETOp → List EOp
  | _, [] => []
  | t, (s, .allow cs fl) :: r => traceTE (stepT s t (.allow cs fl)) r
  | t, (s, .op (.restrict set)) :: r =>
      (s, .restrict (if t.allowed &&& set = 0 then 0 else set)) :: traceTE (stepT s t (.op (.restrict set))) r
  | t, (s, .op o) :: r => (s, o) :: traceTE (stepT s t (.op o)) r

theorem foldTE_wf {t : TState} (W : WfT t) (h : List ETOp) : WfT (h.foldl stepTE t) :=
  List.foldlRecOn h stepTE W (fun _ W p _ => stepT_wf p.1 W p.2)

theorem runTE_wf (root : Nat) (d : Bool) (h : List ETOp) : WfT (runTE root d h) :=
  foldTE_wf (tinit_wf root d) h

theorem foldTE_eq (h : List ETOp) : ∀ {t : TState}, WfT t →
    (h.foldl stepTE t).st = (traceTE t h).foldl stepE t.st := by
  induction h with
  | nil => intro t _; rfl
  | cons p r ih =>
    intro t W
    obtain ⟨s, o⟩ := p
    rw [List.foldl_cons, ih (show WfT (stepTE t (s, o)) from stepT_wf s W o)]
    cases o with
    | allow cs fl =>
      show _ = (traceTE (stepT s t (.allow cs fl)) r).foldl stepE t.st
      rw [show (stepTE t (s, .allow cs fl)).st = t.st from allow_st t cs fl]
      rfl
    | op o =>
      cases o with
      | restrict set =>
        show _ = (traceTE (stepT s t (.op (.restrict set))) r).foldl stepE
                  (step s t.st (.restrict (if t.allowed &&& set = 0 then 0 else set)))
        rw [show (stepTE t (s, .op (.restrict set))).st = _ from restrictT_st s W set]
        rfl
      | register cs f i fl => rfl
      | dup => rfl
      | xml => rfl
      | refresh => rfl

theorem runTE_eq_runE (root : Nat) (d : Bool) (h : List ETOp) :
    (runTE root d h).st = runE root (traceTE (tinit root d) h) :=
  foldTE_eq h (tinit_wf root d)

end CpuKinds
end Hw
