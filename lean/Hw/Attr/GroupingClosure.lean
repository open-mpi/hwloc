/-
  Hw.Attr.GroupingClosure — closure characterisation of `hwloc__find_groups_by_min_distance` (model Hw.Attr.Grouping).

  The code's comment promises the transitive closure of the "minimal distance" graph.  That is NOT what the loop computes for every
  matrix (`newfirstfound` is the first object found in a pass, not the smallest one: see `C13_group_closure_not_transitive_witness`).
  What holds for every matrix is soundness (same id ⇒ connected, `findGroups_spec`).  Here: the invariant of the outer loop (`JInv`,
  `outer_J`) that holds when the minimal-distance relation is symmetric and transitive among the `n` objects (block-structured
  matrices: every real NUMA/package latency matrix).  It makes the ids exactly the classes of that relation (`C13_group_ids_closure`).
-/
import Hw.Attr.GroupingLemmas
namespace Hw.Grouping

/-! ## the invariant of the outer loop on clique-structured matrices -/

structure JInv (M : Mat) (md n i : Nat) (o : Out) : Prop where
  same_edge : ∀ a b, a < n → b < n → a ≠ b → o.ids a ≠ 0 → o.ids a = o.ids b → M a b = md
  edge_same : ∀ a b, a < n → b < n → a ≠ b → M a b = md → o.ids a ≠ 0 → o.ids b = o.ids a
  isolated : ∀ a, a < i → o.ids a = 0 → ∀ b, b < n → b ≠ a → M a b ≠ md

section clique
variable (M : Mat) (md n : Nat)
variable (hsym : ∀ a b, a < n → b < n → M a b = md → M b a = md)
variable (htr : ∀ a b c, a < n → b < n → c < n → a ≠ c → M a b = md → M b c = md → M a c = md)
include hsym htr

theorem outerStep_J (i : Nat) (o : Out) (hi : i < n) (h : OInv M md n o) (hJ : JInv M md n i o) :
    JInv M md n (i + 1) (outerStep M md n i o) := by
  -- `i` and the objects at minimal distance of it: closed under minimal cells, and a clique
  have hC : ∀ j k, j < n → k < n → (j = i ∨ M i j = md) → M j k = md → (k = i ∨ M i k = md) := by
    intro j k hj hk hCj hm
    by_cases hki : k = i
    · exact Or.inl hki
    · exact Or.inr (hCj.elim (fun e => e ▸ hm) fun hij => htr i j k hi hj hk (fun e => hki e.symm) hij hm)
  have hclq : ∀ a b, a < n → b < n → a ≠ b → (a = i ∨ M i a = md) → (b = i ∨ M i b = md) → M a b = md := by
    intro a b ha hb hab hNa hNb
    rcases hNa with hai | hia
    · rw [hai]; exact hNb.resolve_left fun e => hab (hai.trans e.symm)
    · rcases hNb with hbi | hib
      · rw [hbi]; exact hsym i a hi ha hia
      · exact htr a i b ha hi hb hab (hsym i a hi ha hia) hib
  have hN : o.ids i = 0 → ∀ b, b < n → b ≠ i → M i b = md → o.ids b = 0 := fun h0 b hb hbi hm =>
    Decidable.byContradiction fun hz => hz (by rw [hJ.edge_same b i hb hi hbi (hsym i b hi hb hm) hz] at h0; exact h0)
  obtain ⟨o', e, hrow, ⟨hids, -⟩ | ⟨-, hii, -, hnew, hold, -⟩⟩ :=
    outerStep_cases M md n i hi o h (fun x => x = i ∨ M i x = md) hC (Or.inl rfl)
  · rw [e]
    refine ⟨by rw [hids]; exact hJ.same_edge, by rw [hids]; exact hJ.edge_same, fun a ha ha0 b hb hba hm => ?_⟩
    rw [hids] at ha0 hrow
    by_cases hai : a = i
    · rw [hai] at ha0 hba hm; exact hrow ha0 b hb hba hm (hN ha0 b hb hba hm)
    · exact hJ.isolated a (by omega) ha0 b hb hba hm
  rw [e]
  have h0 := (hnew i hii).1
  have hg : o.gid ≠ 0 := Nat.ne_of_gt h.gpos
  have hmem : ∀ x, x < n → (o'.ids x = o.gid ↔ (x = i ∨ M i x = md)) := fun x hxn => ⟨fun hx => (hnew x hx).2.2, fun hx => by
    by_cases hxi : x = i
    · rw [hxi]; exact hii
    · have hx := hx.resolve_left hxi
      exact Decidable.byContradiction fun c => hrow h0 x hxn hxi hx ((hold x c).trans (hN h0 x hxn hxi hx))⟩
  refine ⟨fun a b ha hb hab ha0 hsame => ?_, fun a b ha hb hab hm ha0 => ?_, fun a ha ha0 b hb hba hm => ?_⟩
  · by_cases hag : o'.ids a = o.gid
    · exact hclq a b ha hb hab ((hmem a ha).1 hag) ((hmem b hb).1 (hsame ▸ hag))
    · have ea := hold a hag
      have eb := hold b (hsame ▸ hag)
      exact hJ.same_edge a b ha hb hab (ea ▸ ha0) (by rw [← ea, ← eb]; exact hsame)
  · by_cases hag : o'.ids a = o.gid
    · exact ((hmem b hb).2 (hC a b ha hb ((hmem a ha).1 hag) hm)).trans hag.symm
    · have ea := hold a hag
      have hob := hJ.edge_same a b ha hb hab hm (ea ▸ ha0)
      have hbg : o'.ids b ≠ o.gid := fun c => (ea ▸ ha0 : o.ids a ≠ 0) (by rw [← hob, (hnew b c).1])
      exact ((hold b hbg).trans hob).trans ea.symm
  · have hag : o'.ids a ≠ o.gid := fun c => hg (c ▸ ha0)
    have hai : a ≠ i := fun c => hag (c ▸ hii)
    exact hJ.isolated a (by omega) ((hold a hag) ▸ ha0) b hb hba hm

theorem outer_J : OInv M md n (outer M md n n 0 outInit) ∧ JInv M md n n (outer M md n n 0 outInit) :=
  outer_ind M md n (JInv M md n)
    ⟨fun _ _ _ _ _ h => absurd rfl h, fun _ _ _ _ _ _ h => absurd rfl h, fun _ h => absurd h (Nat.not_lt_zero _)⟩
    (outerStep_J M md n hsym htr)

end clique

end Hw.Grouping
