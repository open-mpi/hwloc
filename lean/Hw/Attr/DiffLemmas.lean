/- Hw.Attr.DiffLemmas — lemmas about the model of diff.c (Hw.Attr.Diff). -/
import Hw.Attr.Diff
namespace Hw.Diff
set_option linter.unusedSectionVars false
variable {σ : Type}

theorem Mem.delta_cancel (t n o : Mem) : t + (n - o) + (o - n) = t := by
  have e : o - n = -(n - o) := by rw [BitVec.neg_sub, BitVec.sub_eq_add_neg, BitVec.add_comm]
  rw [e, BitVec.add_assoc, BitVec.add_right_neg, BitVec.add_zero]

/-! ### flat / mapData (nested induction) -/

mutual
theorem flat_mapData (g : Data σ → Data σ) : ∀ o : Obj σ, (o.mapData g).flat = o.flat.map g
  | .mk d c0 c1 c2 c3 => by
    simp only [Obj.mapData, Obj.flat, List.map_cons, List.map_append, flatL_mapDataL g c0, flatL_mapDataL g c1,
      flatL_mapDataL g c2, flatL_mapDataL g c3]
theorem flatL_mapDataL (g : Data σ → Data σ) : ∀ l : List (Obj σ), flatL (mapDataL g l) = (flatL l).map g
  | [] => by simp [mapDataL, flatL]
  | x :: xs => by simp only [mapDataL, flatL, List.map_append, flat_mapData g x, flatL_mapDataL g xs]
end

mutual
theorem mapData_congr (f g : Data σ → Data σ) : ∀ o : Obj σ, (∀ d ∈ o.flat, f d = g d) → o.mapData f = o.mapData g
  | .mk d c0 c1 c2 c3 => by
    intro h
    simp only [Obj.flat, List.mem_cons, List.mem_append] at h
    simp only [Obj.mapData]
    rw [h d (Or.inl rfl), mapDataL_congr f g c0 (fun x hx => h x (by simp [hx])),
      mapDataL_congr f g c1 (fun x hx => h x (by simp [hx])),
      mapDataL_congr f g c2 (fun x hx => h x (by simp [hx])), mapDataL_congr f g c3 (fun x hx => h x (by simp [hx]))]
theorem mapDataL_congr (f g : Data σ → Data σ) : ∀ l : List (Obj σ), (∀ d ∈ flatL l, f d = g d) → mapDataL f l = mapDataL g l
  | [] => by simp [mapDataL]
  | x :: xs => by
    intro h
    simp only [flatL, List.mem_append] at h
    simp only [mapDataL]
    rw [mapData_congr f g x (fun d hd => h d (Or.inl hd)), mapDataL_congr f g xs (fun d hd => h d (Or.inr hd))]
end

mutual
theorem mapData_id : ∀ o : Obj σ, o.mapData id = o
  | .mk d c0 c1 c2 c3 => by simp only [Obj.mapData, id, mapDataL_id c0, mapDataL_id c1, mapDataL_id c2, mapDataL_id c3]
theorem mapDataL_id : ∀ l : List (Obj σ), mapDataL id l = l
  | [] => by simp [mapDataL]
  | x :: xs => by simp only [mapDataL, mapData_id x, mapDataL_id xs]
end

mutual
theorem mapData_comp (f g : Data σ → Data σ) : ∀ o : Obj σ, (o.mapData f).mapData g = o.mapData (g ∘ f)
  | .mk d c0 c1 c2 c3 => by
    simp only [Obj.mapData, Function.comp, mapDataL_comp f g c0, mapDataL_comp f g c1, mapDataL_comp f g c2, mapDataL_comp f g c3]
theorem mapDataL_comp (f g : Data σ → Data σ) : ∀ l : List (Obj σ), mapDataL g (mapDataL f l) = mapDataL (g ∘ f) l
  | [] => by simp [mapDataL]
  | x :: xs => by simp only [mapDataL, mapData_comp f g x, mapDataL_comp f g xs]
end

theorem mapData_eq_self (f : Data σ → Data σ) (o : Obj σ) (h : ∀ d ∈ o.flat, f d = d) : o.mapData f = o := by
  have := mapData_congr f id o (fun d hd => by simp [h d hd])
  rw [this, mapData_id]

theorem mapData_mapData_self (f g : Data σ → Data σ) (o : Obj σ) (h : ∀ d ∈ o.flat, g (f d) = d) :
    (o.mapData f).mapData g = o := by
  rw [mapData_comp]; exact mapData_eq_self _ o (fun d hd => by simp [Function.comp, h d hd])

variable [DecidableEq σ]

/-! ### hypotheses under which the object addressing of a diff is meaningful -/

/-- `(depth, logical_index)` identifies an object (C01 well-formedness) -/
def KeysInj (T : Topo σ) : Prop := ∀ x ∈ T.flat, ∀ y ∈ T.flat, x.key = y.key → x = y

/-- no infos array holds two pairs with the same name -/
def InfoNamesDistinct (T : Topo σ) : Prop :=
  (∀ d ∈ T.flat, (d.infos.map Prod.fst).Nodup) ∧ (T.tinfos.map Prod.fst).Nodup

theorem Topo.flat_mapData (T : Topo σ) (g : Data σ → Data σ) : (T.mapData g).flat = T.flat.map g := by
  simp [Topo.flat, Topo.mapData, Hw.Diff.flat_mapData]

theorem getObj_some {T : Topo σ} {k : Key} {d : Data σ} (h : getObj T k = some d) : d ∈ T.flat ∧ d.key = k := by
  unfold getObj at h
  exact ⟨List.mem_of_find?_eq_some h, by simpa using List.find?_some h⟩

theorem getObj_mapData (T : Topo σ) (g : Data σ → Data σ) (hg : ∀ x, (g x).key = x.key) (k : Key) :
    getObj (T.mapData g) k = (getObj T k).map g := by
  unfold getObj
  rw [Topo.flat_mapData, List.find?_map]
  congr 2
  funext x
  simp [Function.comp, hg]

theorem sizeFun_eq (t : Data σ) (n δ : Mem) (x : Data σ) : sizeFun t n δ x =
    { x with lmem := if x.key = t.key then n else x.lmem,
             tmem := x.tmem + if x.key = t.key ∨ x.key ∈ t.ancs then δ else 0 } := by
  unfold sizeFun
  by_cases h1 : x.key = t.key
  · rw [if_pos h1, if_pos h1, if_pos (Or.inl h1)]
  · by_cases h2 : x.key ∈ t.ancs
    · rw [if_neg h1, if_pos h2, if_neg h1, if_pos (Or.inr h2)]
    · rw [if_neg h1, if_neg h2, if_neg h1, if_neg (not_or.2 ⟨h1, h2⟩)]
      exact (congrArg (fun m => ({ x with tmem := m } : Data σ)) (BitVec.add_zero x.tmem)).symm

theorem nameFun_eq (k : Key) (s : σ) (x : Data σ) :
    nameFun k s x = { x with name := if x.key = k then some s else x.name } := by
  unfold nameFun
  by_cases h : x.key = k
  · rw [if_pos h, if_pos h]
  · rw [if_neg h, if_neg h]

theorem infosFun_eq (k : Key) (l : List (σ × σ)) (x : Data σ) :
    infosFun k l x = { x with infos := if x.key = k then l else x.infos } := by
  unfold infosFun
  by_cases h : x.key = k
  · rw [if_pos h, if_pos h]
  · rw [if_neg h, if_neg h]

@[simp] theorem sizeFun_key (t : Data σ) (n δ : Mem) (x : Data σ) : (sizeFun t n δ x).key = x.key := by
  rw [sizeFun_eq]; rfl
@[simp] theorem nameFun_key (k : Key) (n : σ) (x : Data σ) : (nameFun k n x).key = x.key := by
  rw [nameFun_eq]; rfl
@[simp] theorem infosFun_key (k : Key) (l : List (σ × σ)) (x : Data σ) : (infosFun k l x).key = x.key := by
  rw [infosFun_eq]; rfl

theorem sizeFun_congr {t t' : Data σ} (hk : t.key = t'.key) (ha : t.ancs = t'.ancs) (n δ : Mem) :
    sizeFun t n δ = sizeFun t' n δ := by
  funext x; unfold sizeFun; rw [hk, ha]

section fields
variable (t : Data σ) (n δ : Mem) (k : Key) (s : σ) (l : List (σ × σ)) (x : Data σ)

theorem sizeFun_ancs : (sizeFun t n δ x).ancs = x.ancs := by rw [sizeFun_eq]
theorem sizeFun_numa : (sizeFun t n δ x).numa = x.numa := by rw [sizeFun_eq]
theorem sizeFun_infos : (sizeFun t n δ x).infos = x.infos := by rw [sizeFun_eq]
theorem nameFun_infos : (nameFun k s x).infos = x.infos := by rw [nameFun_eq]
theorem sizeFun_lmem_self : (sizeFun t n δ t).lmem = n := by rw [sizeFun_eq]; exact if_pos rfl

theorem sizeFun_depth : (sizeFun t n δ x).depth = x.depth := by rw [sizeFun_eq]
theorem sizeFun_lidx : (sizeFun t n δ x).lidx = x.lidx := by rw [sizeFun_eq]
theorem sizeFun_shape1 : (sizeFun t n δ x).shape1 = x.shape1 := by rw [sizeFun_eq]
theorem sizeFun_shape2 : (sizeFun t n δ x).shape2 = x.shape2 := by rw [sizeFun_eq]
theorem sizeFun_name : (sizeFun t n δ x).name = x.name := by rw [sizeFun_eq]
theorem sizeFun_lmem : (sizeFun t n δ x).lmem = if x.key = t.key then n else x.lmem := by rw [sizeFun_eq]
theorem sizeFun_tmem : (sizeFun t n δ x).tmem = x.tmem + (if x.key = t.key ∨ x.key ∈ t.ancs then δ else 0) := by
  rw [sizeFun_eq]

theorem nameFun_depth : (nameFun k s x).depth = x.depth := by rw [nameFun_eq]
theorem nameFun_lidx : (nameFun k s x).lidx = x.lidx := by rw [nameFun_eq]
theorem nameFun_ancs : (nameFun k s x).ancs = x.ancs := by rw [nameFun_eq]
theorem nameFun_numa : (nameFun k s x).numa = x.numa := by rw [nameFun_eq]
theorem nameFun_shape1 : (nameFun k s x).shape1 = x.shape1 := by rw [nameFun_eq]
theorem nameFun_shape2 : (nameFun k s x).shape2 = x.shape2 := by rw [nameFun_eq]
theorem nameFun_lmem : (nameFun k s x).lmem = x.lmem := by rw [nameFun_eq]
theorem nameFun_tmem : (nameFun k s x).tmem = x.tmem := by rw [nameFun_eq]
theorem nameFun_name : (nameFun k s x).name = if x.key = k then some s else x.name := by rw [nameFun_eq]

theorem infosFun_depth : (infosFun k l x).depth = x.depth := by rw [infosFun_eq]
theorem infosFun_lidx : (infosFun k l x).lidx = x.lidx := by rw [infosFun_eq]
theorem infosFun_ancs : (infosFun k l x).ancs = x.ancs := by rw [infosFun_eq]
theorem infosFun_numa : (infosFun k l x).numa = x.numa := by rw [infosFun_eq]
theorem infosFun_shape1 : (infosFun k l x).shape1 = x.shape1 := by rw [infosFun_eq]
theorem infosFun_shape2 : (infosFun k l x).shape2 = x.shape2 := by rw [infosFun_eq]
theorem infosFun_lmem : (infosFun k l x).lmem = x.lmem := by rw [infosFun_eq]
theorem infosFun_tmem : (infosFun k l x).tmem = x.tmem := by rw [infosFun_eq]
theorem infosFun_name : (infosFun k l x).name = x.name := by rw [infosFun_eq]
theorem infosFun_infos : (infosFun k l x).infos = if x.key = k then l else x.infos := by rw [infosFun_eq]

end fields

theorem Data.ext' {a b : Data σ} (h1 : a.depth = b.depth) (h2 : a.lidx = b.lidx) (h3 : a.ancs = b.ancs)
    (h4 : a.numa = b.numa) (h5 : a.shape1 = b.shape1) (h6 : a.shape2 = b.shape2) (h7 : a.name = b.name)
    (h8 : a.infos = b.infos) (h9 : a.lmem = b.lmem) (h10 : a.tmem = b.tmem) : a = b := by
  cases a; cases b; simp_all

theorem infosFun_infosFun (k : Key) (l l' : List (σ × σ)) (x : Data σ) :
    infosFun k l' (infosFun k l x) = infosFun k l' x := by
  apply Data.ext' <;> simp only [infosFun_depth, infosFun_lidx, infosFun_ancs, infosFun_numa, infosFun_shape1,
    infosFun_shape2, infosFun_name, infosFun_lmem, infosFun_tmem, infosFun_infos, infosFun_key]
  split <;> rfl

/-- a SIZE change followed by the swapped SIZE change (target found again as `d'`) -/
theorem sizeFun_cancel (d d' : Data σ) (n o : Mem) (hk : d'.key = d.key) (ha : d'.ancs = d.ancs) (x : Data σ) :
    sizeFun d' o (o - n) (sizeFun d n (n - o) x) = if x.key = d.key then { x with lmem := o } else x := by
  by_cases h1 : x.key = d.key
  · have e1 : sizeFun d n (n - o) x = { x with lmem := n, tmem := x.tmem + (n - o) } := by simp [sizeFun, h1]
    have hk2 : ({ x with lmem := n, tmem := x.tmem + (n - o) } : Data σ).key = d'.key := h1.trans hk.symm
    rw [e1]
    simp only [sizeFun, hk2, if_true, h1, Mem.delta_cancel]
  · by_cases h2 : x.key ∈ d.ancs
    · have e1 : sizeFun d n (n - o) x = { x with tmem := x.tmem + (n - o) } := by simp [sizeFun, h1, h2]
      have hk2 : ¬ (({ x with tmem := x.tmem + (n - o) } : Data σ).key = d'.key) := fun h => h1 (h.trans hk)
      have ha2 : ({ x with tmem := x.tmem + (n - o) } : Data σ).key ∈ d'.ancs := ha ▸ h2
      rw [e1]
      simp only [sizeFun, hk2, ha2, if_true, if_false, h1, Mem.delta_cancel]
    · have e1 : sizeFun d n (n - o) x = x := by simp [sizeFun, h1, h2]
      have hk2 : ¬ (x.key = d'.key) := fun h => h1 (h.trans hk)
      have ha2 : ¬ (x.key ∈ d'.ancs) := ha ▸ h2
      rw [e1]
      simp only [sizeFun, hk2, ha2, if_false, h1]

/-! ### replaceFirst -/

/-- a successful `replaceFirst` skips the pairs that do not match and rewrites the first that does -/
theorem replaceFirst_rec {nm o n : σ} {motive : List (σ × σ) → List (σ × σ) → Prop}
    (hit : ∀ r, motive ((nm, o) :: r) ((nm, n) :: r))
    (skip : ∀ a v r r', ¬(a = nm ∧ v = o) → replaceFirst nm o n r = some r' → motive r r' →
      motive ((a, v) :: r) ((a, v) :: r')) :
    ∀ {l l' : List (σ × σ)}, replaceFirst nm o n l = some l' → motive l l'
  | [], _, h => by cases h
  | (a, v) :: r, l', h => by
    unfold replaceFirst at h
    split at h
    · rename_i hc; obtain ⟨rfl, rfl⟩ := hc; cases h; exact hit r
    · rename_i hc
      obtain ⟨r', hr, rfl⟩ := Option.map_eq_some_iff.1 h
      exact skip a v r r' hc hr (replaceFirst_rec hit skip hr)

theorem replaceFirst_fst {nm o n : σ} {l l' : List (σ × σ)} (h : replaceFirst nm o n l = some l') :
    l'.map Prod.fst = l.map Prod.fst :=
  replaceFirst_rec (o := o) (n := n) (motive := fun l l' => l'.map Prod.fst = l.map Prod.fst) (fun _ => rfl)
    (fun _ _ _ _ _ _ ih => congrArg (_ :: ·) ih) h

theorem replaceFirst_mem {nm o n : σ} {l l' : List (σ × σ)} (h : replaceFirst nm o n l = some l') :
    nm ∈ l.map Prod.fst :=
  replaceFirst_rec (motive := fun l _ => nm ∈ l.map Prod.fst) (fun _ => List.mem_cons_self)
    (fun _ _ _ _ _ _ ih => List.mem_cons_of_mem _ ih) h

theorem replaceFirst_inv {nm o n : σ} {l l' : List (σ × σ)} (hnd : (l.map Prod.fst).Nodup)
    (h : replaceFirst nm o n l = some l') : replaceFirst nm n o l' = some l := by
  refine replaceFirst_rec (motive := fun l l' => (l.map Prod.fst).Nodup → replaceFirst nm n o l' = some l)
    (fun r _ => by simp [replaceFirst]) (fun a v r r' _ hr ih hnd => ?_) h hnd
  rw [List.map_cons, List.nodup_cons] at hnd
  have hne : a ≠ nm := fun ha => hnd.1 (ha ▸ replaceFirst_mem hr)
  simp [replaceFirst, hne, ih hnd.2]

/-! ### one attribute change seen as a step on `Data` -/

/-- what `applyAttr` does when the key names the object `d`: the guard, and the function mapped over the tree -/
def objStep (d : Data σ) (k : Key) : Attr σ → Option (Data σ → Data σ)
  | .size o n => if d.numa ∧ d.lmem = o then some (sizeFun d n (n - o)) else none
  | .name (some o) (some n) => if d.name = some o then some (nameFun k n) else none
  | .info nm o n => (replaceFirst nm o n d.infos).map (infosFun k)
  | _ => none

theorem applyAttr_obj {T : Topo σ} {k : Key} {d : Data σ} (h : getObj T k = some d) (a : Attr σ) :
    applyAttr T k a = (objStep d k a).map T.mapData := by
  simp only [applyAttr, h]
  cases a with
  | size o n => simp only [objStep]; split <;> rfl
  | name o n => cases o <;> cases n <;> simp only [objStep] <;> first | rfl | (split <;> rfl)
  | info nm o n => simp only [objStep, Option.map_map]; rfl
  | unknown => rfl

theorem objStep_some {d : Data σ} {k : Key} {a : Attr σ} {g : Data σ → Data σ} (h : objStep d k a = some g) :
    (∃ o n, a = .size o n ∧ d.numa = true ∧ d.lmem = o ∧ g = sizeFun d n (n - o)) ∨
    (∃ o n, a = .name (some o) (some n) ∧ d.name = some o ∧ g = nameFun k n) ∨
    (∃ nm o n l, a = .info nm o n ∧ replaceFirst nm o n d.infos = some l ∧ g = infosFun k l) := by
  revert h
  fun_cases objStep d k a <;> intro h
  case case1 o n hc => cases h; exact Or.inl ⟨o, n, rfl, hc.1, hc.2, rfl⟩
  case case3 o n hc => cases h; exact Or.inr (Or.inl ⟨o, n, rfl, hc, rfl⟩)
  case case5 nm o n =>
    obtain ⟨l, hl, rfl⟩ := Option.map_eq_some_iff.mp h
    exact Or.inr (Or.inr ⟨nm, o, n, l, rfl, hl, rfl⟩)
  all_goals cases h

theorem objStep_key {d : Data σ} {k : Key} {a : Attr σ} {g : Data σ → Data σ} (h : objStep d k a = some g)
    (x : Data σ) : (g x).key = x.key := by
  rcases objStep_some h with ⟨o, n, rfl, -, -, rfl⟩ | ⟨o, n, rfl, -, rfl⟩ | ⟨nm, o, n, l, rfl, -, rfl⟩
  · exact sizeFun_key _ _ _ _
  · exact nameFun_key _ _ _
  · exact infosFun_key _ _ _

theorem applyAttr_some {T T' : Topo σ} {k : Key} {a : Attr σ} (h : applyAttr T k a = some T') :
    (∃ d g, getObj T k = some d ∧ objStep d k a = some g ∧ T' = T.mapData g) ∨
    (∃ nm o n l, a = .info nm o n ∧ getObj T k = none ∧ k.1 = T.nbl ∧ replaceFirst nm o n T.tinfos = some l ∧
      T' = { T with tinfos := l }) := by
  cases hd : getObj T k with
  | some d =>
    rw [applyAttr_obj hd] at h
    obtain ⟨g, hg, rfl⟩ := Option.map_eq_some_iff.1 h
    exact Or.inl ⟨d, g, rfl, hg, rfl⟩
  | none =>
    simp only [applyAttr, hd] at h
    split at h
    · rename_i hk
      cases a with
      | info nm o n =>
        obtain ⟨l, hl, rfl⟩ := Option.map_eq_some_iff.1 h
        exact Or.inr ⟨nm, o, n, l, rfl, rfl, hk, hl, rfl⟩
      | _ => cases h
    · cases h

theorem applyAttr_of_objStep {T : Topo σ} {k : Key} {a : Attr σ} {d : Data σ} {g : Data σ → Data σ}
    (hd : getObj T k = some d) (hg : objStep d k a = some g) : applyAttr T k a = some (T.mapData g) := by
  rw [applyAttr_obj hd, hg]; rfl

theorem applyAttr_of_tinfos {T : Topo σ} {k : Key} {nm o n : σ} {l : List (σ × σ)} (hd : getObj T k = none)
    (hk : k.1 = T.nbl) (hl : replaceFirst nm o n T.tinfos = some l) :
    applyAttr T k (.info nm o n) = some { T with tinfos := l } := by
  simp only [applyAttr, hd, hk, if_true, hl, Option.map_some]

theorem applyAttr_nbl {T T' : Topo σ} {k : Key} {a : Attr σ} (h : applyAttr T k a = some T') : T'.nbl = T.nbl := by
  rcases applyAttr_some h with ⟨d, g, -, -, rfl⟩ | ⟨nm, o, n, l, -, -, -, -, rfl⟩ <;> rfl

theorem objStep_infoNames {d : Data σ} {k : Key} {a : Attr σ} {g : Data σ → Data σ} (h : objStep d k a = some g)
    (x : Data σ) : (g x).infos.map Prod.fst = x.infos.map Prod.fst ∨ (g x).infos.map Prod.fst = d.infos.map Prod.fst := by
  rcases objStep_some h with ⟨o, n, -, -, -, rfl⟩ | ⟨o, n, -, -, rfl⟩ | ⟨nm, o, n, l, -, hl, rfl⟩
  · rw [sizeFun_infos]; exact Or.inl rfl
  · rw [nameFun_infos]; exact Or.inl rfl
  · rw [infosFun_infos]
    by_cases hx : x.key = k
    · rw [if_pos hx]; exact Or.inr (replaceFirst_fst hl)
    · rw [if_neg hx]; exact Or.inl rfl

theorem objStep_inv {d : Data σ} {k : Key} {a : Attr σ} {g : Data σ → Data σ} (hkey : d.key = k)
    (hnd : (d.infos.map Prod.fst).Nodup) (h : objStep d k a = some g) :
    ∃ g', objStep (g d) k a.swap = some g' ∧ ∀ x, (x.key = k → x = d) → g' (g x) = x := by
  rcases objStep_some h with ⟨o, n, rfl, hnu, rfl, rfl⟩ | ⟨o, n, rfl, hnm, rfl⟩ | ⟨nm, o, n, l, rfl, hl, rfl⟩
  · refine ⟨sizeFun (sizeFun d n (n - d.lmem) d) d.lmem (d.lmem - n), ?_, fun x hx => ?_⟩
    · simp only [Attr.swap, objStep, sizeFun_numa, sizeFun_lmem_self, hnu, and_self, if_true]
    · rw [sizeFun_cancel d _ n d.lmem (sizeFun_key ..) (sizeFun_ancs ..) x]
      by_cases h1 : x.key = d.key
      · rw [if_pos h1, hx (h1.trans hkey)]
      · rw [if_neg h1]
  · refine ⟨nameFun k o, ?_, fun x hx => ?_⟩
    · simp only [Attr.swap, objStep, nameFun_name, hkey, if_true]
    · rw [nameFun_eq, nameFun_eq]
      by_cases h1 : x.key = k
      · have := hx h1; subst this
        simp only [if_pos h1, if_pos (show (Data.key { x with name := some n }) = k from h1), ← hnm]
      · simp only [if_neg h1]
  · refine ⟨infosFun k d.infos, ?_, fun x hx => ?_⟩
    · simp only [Attr.swap, objStep, infosFun_infos, hkey, if_true, replaceFirst_inv hnd hl, Option.map_some]
    · rw [infosFun_infosFun, infosFun_eq]
      by_cases h1 : x.key = k
      · rw [if_pos h1, hx h1]
      · rw [if_neg h1]

/-! ### one entry: inverse and preservation of the hypotheses -/

theorem Attr.swap_swap (a : Attr σ) : a.swap.swap = a := by cases a <;> rfl

theorem Attr.oriented_not (rev : Bool) (a : Attr σ) : a.oriented (!rev) = (a.oriented rev).swap := by
  cases rev <;> simp [Attr.oriented, Attr.swap_swap]

theorem Topo.mapData_mapData_self (T : Topo σ) (f g : Data σ → Data σ) (h : ∀ d ∈ T.flat, g (f d) = d) :
    (T.mapData f).mapData g = T := by
  cases T
  simp only [Topo.mapData]
  congr
  exact Hw.Diff.mapData_mapData_self f g _ h

theorem Topo.mapData_mapData (T : Topo σ) (f g : Data σ → Data σ) : (T.mapData f).mapData g = T.mapData (g ∘ f) := by
  simp only [Topo.mapData, mapData_comp]

theorem Topo.mapData_id (T : Topo σ) : T.mapData id = T := by
  cases T; simp [Topo.mapData, Hw.Diff.mapData_id]

theorem applyAttr_inv {T T' : Topo σ} {k : Key} {a : Attr σ} (hk : KeysInj T) (hn : InfoNamesDistinct T)
    (h : applyAttr T k a = some T') : applyAttr T' k a.swap = some T := by
  rcases applyAttr_some h with ⟨d, g, hd, hg, rfl⟩ | ⟨nm, o, n, l, rfl, hd, hnbl, hl, rfl⟩
  · obtain ⟨hmem, hkey⟩ := getObj_some hd
    obtain ⟨g', hg', hgg⟩ := objStep_inv hkey (hn.1 d hmem) hg
    have hd' : getObj (T.mapData g) k = some (g d) := by rw [getObj_mapData T g (objStep_key hg), hd]; rfl
    rw [applyAttr_of_objStep hd' hg',
      Topo.mapData_mapData_self T g g' (fun x hx => hgg x (fun e => hk x hx d hmem (e.trans hkey.symm)))]
  · exact applyAttr_of_tinfos (T := { T with tinfos := l }) hd hnbl (replaceFirst_inv hn.2 hl)

theorem applyAttr_preserves {T T' : Topo σ} {k : Key} {a : Attr σ} (hk : KeysInj T) (hn : InfoNamesDistinct T)
    (h : applyAttr T k a = some T') : KeysInj T' ∧ InfoNamesDistinct T' := by
  rcases applyAttr_some h with ⟨d, g, hd, hg, rfl⟩ | ⟨nm, o, n, l, -, -, -, hl, rfl⟩
  · refine ⟨?_, ?_, hn.2⟩
    · intro x hx y hy hxy
      rw [Topo.flat_mapData, List.mem_map] at hx hy
      obtain ⟨x0, hx0, rfl⟩ := hx
      obtain ⟨y0, hy0, rfl⟩ := hy
      rw [objStep_key hg, objStep_key hg] at hxy
      rw [hk x0 hx0 y0 hy0 hxy]
    · intro x hx
      rw [Topo.flat_mapData, List.mem_map] at hx
      obtain ⟨x0, hx0, rfl⟩ := hx
      rcases objStep_infoNames hg x0 with e | e <;> rw [e]
      · exact hn.1 x0 hx0
      · exact hn.1 d (getObj_some hd).1
  · exact ⟨hk, hn.1, by show (l.map Prod.fst).Nodup; rw [replaceFirst_fst hl]; exact hn.2⟩

theorem applyOne_some {T T' : Topo σ} {rev : Bool} {e : Entry σ} (h : applyOne rev T e = some T') :
    ∃ k a, e = .objAttr k a ∧ applyAttr T k (a.oriented rev) = some T' := by
  cases e with
  | objAttr k a => exact ⟨k, a, rfl, h⟩
  | tooComplex k => cases h
  | unknown => cases h

theorem applyOne_inv {T T' : Topo σ} {rev : Bool} {e : Entry σ} (hk : KeysInj T) (hn : InfoNamesDistinct T)
    (h : applyOne rev T e = some T') : applyOne (!rev) T' e = some T := by
  obtain ⟨k, a, rfl, h⟩ := applyOne_some h
  show applyAttr T' k (a.oriented !rev) = some T
  rw [Attr.oriented_not]
  exact applyAttr_inv hk hn h

theorem applyOne_preserves {T T' : Topo σ} {rev : Bool} {e : Entry σ} (hk : KeysInj T) (hn : InfoNamesDistinct T)
    (h : applyOne rev T e = some T') : KeysInj T' ∧ InfoNamesDistinct T' := by
  obtain ⟨k, a, rfl, h⟩ := applyOne_some h
  exact applyAttr_preserves hk hn h

/-! ### lists of entries: the main loop, the cancel loop -/

theorem applyAll_append (rev : Bool) (T : Topo σ) (p q : List (Entry σ)) :
    applyAll rev T (p ++ q) = (applyAll rev T p).bind (fun T' => applyAll rev T' q) := by
  induction p generalizing T with
  | nil => simp [applyAll]
  | cons e r ih =>
    simp only [List.cons_append, applyAll]
    cases applyOne rev T e with
    | none => simp
    | some T1 => simp [ih]

theorem applyAll_preserves {rev : Bool} : ∀ {p : List (Entry σ)} {T T' : Topo σ}, KeysInj T → InfoNamesDistinct T →
    applyAll rev T p = some T' → KeysInj T' ∧ InfoNamesDistinct T'
  | [], T, T', hk, hn, h => by simp [applyAll] at h; subst h; exact ⟨hk, hn⟩
  | e :: r, T, T', hk, hn, h => by
    simp only [applyAll, Option.bind_eq_some_iff] at h
    obtain ⟨T1, h1, h2⟩ := h
    have := applyOne_preserves hk hn h1
    exact applyAll_preserves this.1 this.2 h2

theorem applyGo_append (rev : Bool) (q : List (Entry σ)) : ∀ (p : List (Entry σ)) (T T1 : Topo σ) (done : List (Entry σ)),
    applyAll rev T p = some T1 → applyGo rev T done (p ++ q) = applyGo rev T1 (p.reverse ++ done) q
  | [], T, T1, done, h => by cases h; rfl
  | e :: p, T, T1, done, h => by
    simp only [applyAll, Option.bind_eq_some_iff] at h
    obtain ⟨T2, h1, h2⟩ := h
    rw [List.cons_append, applyGo, h1, List.reverse_cons, List.append_assoc]
    exact applyGo_append rev q p T2 T1 (e :: done) h2

theorem apply_ok {rev : Bool} {T T' : Topo σ} {d : List (Entry σ)} (h : applyAll rev T d = some T') :
    apply rev T d = (0, T') := by
  have := applyGo_append rev [] d T T' [] h
  rwa [List.append_nil] at this

theorem apply_fail {rev : Bool} {T T1 : Topo σ} {p r : List (Entry σ)} {e : Entry σ}
    (hp : applyAll rev T p = some T1) (he : applyOne rev T1 e = none) :
    apply rev T (p ++ e :: r) = (- ((p.length : Int) + 1), cancel rev T1 p) := by
  unfold apply
  rw [applyGo_append rev (e :: r) p T T1 [] hp, applyGo, he]
  simp

theorem applyAll_cases (rev : Bool) : ∀ (d : List (Entry σ)) (T : Topo σ),
    (∃ T', applyAll rev T d = some T') ∨
    (∃ p e r T1, d = p ++ e :: r ∧ applyAll rev T p = some T1 ∧ applyOne rev T1 e = none)
  | [], T => Or.inl ⟨T, rfl⟩
  | x :: q, T => by
    cases h : applyOne rev T x with
    | none => exact Or.inr ⟨[], x, q, T, rfl, rfl, h⟩
    | some T2 =>
      rcases applyAll_cases rev q T2 with ⟨T', h'⟩ | ⟨p, e, r, T1, hq, hp, he⟩
      · exact Or.inl ⟨T', by simp [applyAll, h, h']⟩
      · exact Or.inr ⟨x :: p, e, r, T1, by simp [hq], by simp [applyAll, h, hp], he⟩

theorem applyAll_reverse_inv {rev : Bool} : ∀ {p : List (Entry σ)} {T T1 : Topo σ}, KeysInj T → InfoNamesDistinct T →
    applyAll rev T p = some T1 → applyAll (!rev) T1 p.reverse = some T
  | [], T, T1, _, _, h => by simp [applyAll] at h; simp [applyAll, h]
  | e :: r, T, T1, hk, hn, h => by
    simp only [applyAll, Option.bind_eq_some_iff] at h
    obtain ⟨T2, h1, h2⟩ := h
    have hp := applyOne_preserves hk hn h1
    rw [List.reverse_cons, applyAll_append, applyAll_reverse_inv hp.1 hp.2 h2]
    simp [applyAll, applyOne_inv hk hn h1]

/-- as long as every undo step succeeds, the cancel path (last applied first, errors ignored) is the reversed list applied with the
    flag flipped -/
theorem cancel_of_reverse {rev : Bool} {T T0 : Topo σ} : ∀ {p : List (Entry σ)},
    applyAll (!rev) T p.reverse = some T0 → cancel rev T p = T0
  | [], h => by cases h; rfl
  | e :: r, h => by
    rw [List.reverse_cons, applyAll_append, Option.bind_eq_some_iff] at h
    obtain ⟨T', h1, h2⟩ := h
    simp only [applyAll, Option.bind_eq_some_iff] at h2
    obtain ⟨_, h3, h4⟩ := h2
    cases h4
    rw [cancel, cancel_of_reverse h1, h3]; rfl

theorem cancel_applyAll {rev : Bool} {p : List (Entry σ)} {T T1 : Topo σ} (hk : KeysInj T) (hn : InfoNamesDistinct T)
    (h : applyAll rev T p = some T1) : cancel rev T1 p = T :=
  cancel_of_reverse (applyAll_reverse_inv hk hn h)

/-! ### specification side of diff_build -/

/-- nothing a diff compares differs between two paired objects -/
def dataSame (a b : Data σ) : Prop :=
  a.depth = b.depth ∧ a.shape1 = b.shape1 ∧ a.shape2 = b.shape2 ∧ a.name = b.name ∧
  (a.numa = true → a.lmem = b.lmem) ∧ a.infos = b.infos

/-- two paired objects differ at most in what a diff can express (name, local memory, info values) -/
def dataRepr (a b : Data σ) : Prop :=
  a.depth = b.depth ∧ a.shape1 = b.shape1 ∧ a.name.isSome = b.name.isSome ∧ a.shape2 = b.shape2 ∧
  a.infos.map Prod.fst = b.infos.map Prod.fst

mutual
/-- same tree structure (all four child lists), `R` on every pair of corresponding objects -/
def Obj.Rel (R : Data σ → Data σ → Prop) : Obj σ → Obj σ → Prop
  | .mk a a0 a1 a2 a3, .mk b b0 b1 b2 b3 => R a b ∧ RelL R a0 b0 ∧ RelL R a1 b1 ∧ RelL R a2 b2 ∧ RelL R a3 b3
def RelL (R : Data σ → Data σ → Prop) : List (Obj σ) → List (Obj σ) → Prop
  | [], [] => True
  | x :: xs, y :: ys => x.Rel R y ∧ RelL R xs ys
  | _ :: _, [] => False
  | [], _ :: _ => False
end

theorem infosGo_nil_iff (k : Key) : ∀ (i1 i2 : List (σ × σ)), infosGo k i1 i2 = ([], true) ↔ i1 = i2
  | [], [] => ⟨fun _ => rfl, fun _ => rfl⟩
  | [], _ :: _ => ⟨nofun, nofun⟩
  | _ :: _, [] => ⟨nofun, nofun⟩
  | (n1, v1) :: r1, (n2, v2) :: r2 => by
    unfold infosGo
    by_cases hn : n1 = n2
    · rw [if_neg (not_not_intro hn)]
      by_cases hv : v1 = v2
      · subst hn; subst hv
        rw [if_neg (not_not_intro rfl)]
        show ([] ++ (infosGo k r1 r2).1, (infosGo k r1 r2).2) = ([], true) ↔ _
        rw [List.nil_append, Prod.eta, infosGo_nil_iff k r1 r2, List.cons.injEq]
        exact ⟨fun h => ⟨rfl, h⟩, fun h => h.2⟩
      · rw [if_pos hv]
        exact ⟨nofun, fun h => absurd (Prod.mk.inj (List.cons.inj h).1).2 hv⟩
    · rw [if_pos hn]
      exact ⟨nofun, fun h => absurd (Prod.mk.inj (List.cons.inj h).1).1 hn⟩

theorem infosGo_ok_iff (k : Key) : ∀ (i1 i2 : List (σ × σ)),
    (infosGo k i1 i2).2 = true ↔ i1.map Prod.fst = i2.map Prod.fst
  | [], [] => ⟨fun _ => rfl, fun _ => rfl⟩
  | [], _ :: _ => ⟨nofun, nofun⟩
  | _ :: _, [] => ⟨nofun, nofun⟩
  | (n1, v1) :: r1, (n2, v2) :: r2 => by
    unfold infosGo
    by_cases hn : n1 = n2
    · rw [if_neg (not_not_intro hn), List.map_cons, List.map_cons, List.cons.injEq]
      exact ⟨fun h => ⟨hn, (infosGo_ok_iff k r1 r2).1 h⟩, fun h => (infosGo_ok_iff k r1 r2).2 h.2⟩
    · rw [if_pos hn]
      exact ⟨nofun, fun h => absurd (List.cons.inj h).1 hn⟩

def infoEntry (k : Key) (t : σ × σ × σ) : Entry σ := .objAttr k (.info t.1 t.2.1 t.2.2)

theorem infosGo_form (k : Key) : ∀ (i1 i2 : List (σ × σ)), ∃ l : List (σ × σ × σ),
    (infosGo k i1 i2).1 = l.map (infoEntry k) ∧ (l.map (·.1)).Sublist (i1.map Prod.fst)
  | [], [] => ⟨[], rfl, .slnil⟩
  | [], _ :: _ => ⟨[], rfl, .slnil⟩
  | _ :: _, [] => ⟨[], rfl, List.nil_sublist _⟩
  | (n1, v1) :: r1, (n2, v2) :: r2 => by
    obtain ⟨l, e, hs⟩ := infosGo_form k r1 r2
    unfold infosGo
    by_cases hn : n1 = n2
    · rw [if_neg (not_not_intro hn)]
      by_cases hv : v1 = v2
      · exact ⟨l, by rw [if_neg (not_not_intro hv)]; exact e, hs.cons _⟩
      · exact ⟨(n1, v1, v2) :: l, by rw [if_pos hv]; exact congrArg (_ :: ·) e, hs.cons_cons _⟩
    · exact ⟨[], by rw [if_pos hn]; rfl, List.nil_sublist _⟩

theorem infosGo_noTC (k : Key) (i1 i2 : List (σ × σ)) : (infosGo k i1 i2).1.any Entry.isTC = false := by
  obtain ⟨l, e, _⟩ := infosGo_form k i1 i2
  rw [e, List.any_map]
  exact List.any_eq_false.2 fun _ _ => Bool.false_ne_true

theorem infosGo_entries (k : Key) (i1 i2 : List (σ × σ)) : ∀ e ∈ (infosGo k i1 i2).1,
    ∃ nm o n, e = Entry.objAttr k (.info nm o n) ∧ nm ∈ i1.map Prod.fst := by
  intro e he
  obtain ⟨l, el, hs⟩ := infosGo_form k i1 i2
  rw [el] at he
  obtain ⟨t, ht, rfl⟩ := List.mem_map.1 he
  exact ⟨t.1, t.2.1, t.2.2, rfl, hs.subset (List.mem_map_of_mem ht)⟩

theorem infosDiff_nil_iff (k : Key) (i1 i2 : List (σ × σ)) : infosDiff k i1 i2 = ([], true) ↔ i1 = i2 := by
  unfold infosDiff
  by_cases hl : i1.length = i2.length
  · simp [hl, infosGo_nil_iff]
  · simp only [ne_eq, hl, not_false_eq_true, if_true, Prod.mk.injEq, Bool.false_eq_true, and_false, false_iff]
    intro h; exact hl (by rw [h])

theorem infosDiff_ok_iff (k : Key) (i1 i2 : List (σ × σ)) :
    (infosDiff k i1 i2).2 = true ↔ i1.map Prod.fst = i2.map Prod.fst := by
  unfold infosDiff
  by_cases hl : i1.length = i2.length
  · simp [hl, infosGo_ok_iff]
  · simp only [ne_eq, hl, not_false_eq_true, if_true, Bool.false_eq_true, false_iff]
    intro h; exact hl (by simpa using congrArg List.length h)

theorem infosDiff_of_names (k : Key) {i1 i2 : List (σ × σ)} (h : i1.map Prod.fst = i2.map Prod.fst) :
    infosDiff k i1 i2 = ((infosGo k i1 i2).1, true) := by
  have hlen : i1.length = i2.length := by simpa using congrArg List.length h
  unfold infosDiff
  rw [if_neg (not_not_intro hlen)]
  exact Prod.ext rfl ((infosGo_ok_iff _ _ _).2 h)

theorem infosDiff_noTC (k : Key) (i1 i2 : List (σ × σ)) : (infosDiff k i1 i2).1.any Entry.isTC = false := by
  unfold infosDiff
  split <;> simp [infosGo_noTC]

theorem nameDiff_nil_iff (a b : Data σ) : nameDiff a b = [] ↔ a.name = b.name := by
  unfold nameDiff; by_cases h : a.name = b.name <;> simp [h]
theorem sizeDiff_nil_iff (a b : Data σ) : sizeDiff a b = [] ↔ (a.numa = true → a.lmem = b.lmem) := by
  unfold sizeDiff; by_cases h : a.numa = true <;> by_cases h2 : a.lmem = b.lmem <;> simp [h, h2]
theorem nameDiff_noTC (a b : Data σ) : (nameDiff a b).any Entry.isTC = false := by
  unfold nameDiff; split <;> simp [Entry.isTC]
theorem sizeDiff_noTC (a b : Data σ) : (sizeDiff a b).any Entry.isTC = false := by
  unfold sizeDiff; split <;> simp [Entry.isTC]

theorem mem_nameDiff {a b : Data σ} {e : Entry σ} (h : e ∈ nameDiff a b) : ∃ o n, e = .objAttr a.key (.name o n) := by
  unfold nameDiff at h
  split at h
  · exact ⟨_, _, by simpa using h⟩
  · simp at h

theorem mem_sizeDiff {a b : Data σ} {e : Entry σ} (h : e ∈ sizeDiff a b) : ∃ o n, e = .objAttr a.key (.size o n) := by
  unfold sizeDiff at h
  split at h
  · exact ⟨_, _, by simpa using h⟩
  · simp at h

/-- a property of entry lists that is multiplicative over `++`, holds of `[]` and fails on a lone TOO_COMPLEX entry
    ("is empty", "holds no TOO_COMPLEX entry") -/
structure StageProp (Q : List (Entry σ) → Prop) : Prop where
  app : ∀ l1 l2, Q (l1 ++ l2) ↔ Q l1 ∧ Q l2
  nil : Q []
  tc : ∀ k, ¬ Q [.tooComplex k]

theorem StageProp.stage {Q : List (Entry σ) → Prop} (hQ : StageProp Q) (k : Key) (r : List (Entry σ) × Bool)
    (next : List (Entry σ)) : Q (stage k r next) ↔ Q r.1 ∧ r.2 = true ∧ Q next := by
  unfold Hw.Diff.stage
  rw [hQ.app]
  cases r.2
  · exact ⟨fun h => absurd h.2 (hQ.tc k), fun h => nomatch h.2.1⟩
  · exact ⟨fun h => ⟨h.1, rfl, h.2⟩, fun h => ⟨h.1, h.2.2⟩⟩

mutual
theorem diffTrees_iff {Q : List (Entry σ) → Prop} (hQ : StageProp Q) {R : Data σ → Data σ → Prop}
    (hR : ∀ a b, R a b ↔ (a.depth = b.depth ∧ a.shape1 = b.shape1 ∧ a.name.isSome = b.name.isSome) ∧
      Q (nameDiff a b ++ sizeDiff a b) ∧ a.shape2 = b.shape2 ∧
      Q (infosDiff a.key a.infos b.infos).1 ∧ (infosDiff a.key a.infos b.infos).2 = true) :
    ∀ (x y : Obj σ), Q (diffTrees x y) ↔ x.Rel R y
  | .mk a a0 a1 a2 a3, .mk b b0 b1 b2 b3 => by
    unfold diffTrees Obj.Rel
    rw [hR a b, ← diffKids_iff hQ hR a0 b0, ← diffKids_iff hQ hR a1 b1, ← diffKids_iff hQ hR a2 b2,
      ← diffKids_iff hQ hR a3 b3]
    by_cases h0 : a.depth ≠ b.depth ∨ a.shape1 ≠ b.shape1 ∨ a.name.isSome ≠ b.name.isSome
    · rw [if_pos h0]
      refine ⟨fun h => absurd h (hQ.tc _), fun h => ?_⟩
      rcases h0 with c | c | c
      · exact absurd h.1.1.1 c
      · exact absurd h.1.1.2.1 c
      · exact absurd h.1.1.2.2 c
    · rw [if_neg h0, hQ.stage, hQ.stage, hQ.stage, hQ.stage, hQ.stage, hQ.stage]
      have h0' : a.depth = b.depth ∧ a.shape1 = b.shape1 ∧ a.name.isSome = b.name.isSome :=
        ⟨Classical.byContradiction fun c => h0 (Or.inl c), Classical.byContradiction fun c => h0 (Or.inr (Or.inl c)),
          Classical.byContradiction fun c => h0 (Or.inr (Or.inr c))⟩
      simp only [decide_eq_true_eq, hQ.nil, and_true, h0', true_and, and_assoc]
theorem diffKids_iff {Q : List (Entry σ) → Prop} (hQ : StageProp Q) {R : Data σ → Data σ → Prop}
    (hR : ∀ a b, R a b ↔ (a.depth = b.depth ∧ a.shape1 = b.shape1 ∧ a.name.isSome = b.name.isSome) ∧
      Q (nameDiff a b ++ sizeDiff a b) ∧ a.shape2 = b.shape2 ∧
      Q (infosDiff a.key a.infos b.infos).1 ∧ (infosDiff a.key a.infos b.infos).2 = true) :
    ∀ (l1 l2 : List (Obj σ)), (Q (diffKids l1 l2).1 ∧ (diffKids l1 l2).2 = true) ↔ RelL R l1 l2
  | [], [] => by unfold diffKids RelL; exact ⟨fun _ => trivial, fun _ => ⟨hQ.nil, rfl⟩⟩
  | _ :: _, [] => by unfold diffKids RelL; exact ⟨fun h => (nomatch h.2), False.elim⟩
  | [], _ :: _ => by unfold diffKids RelL; exact ⟨fun h => (nomatch h.2), False.elim⟩
  | x :: xs, y :: ys => by
    unfold diffKids RelL
    rw [← diffTrees_iff hQ hR x y, ← diffKids_iff hQ hR xs ys]
    show (Q (diffTrees x y ++ (diffKids xs ys).1) ∧ _) ↔ _
    rw [hQ.app, and_assoc]
end

theorem stageProp_nil : StageProp (fun l : List (Entry σ) => l = []) :=
  ⟨fun _ _ => List.append_eq_nil_iff, rfl, fun _ => List.cons_ne_nil _ _⟩

theorem stageProp_noTC : StageProp (fun l : List (Entry σ) => l.any Entry.isTC = false) :=
  ⟨fun l1 l2 => by rw [List.any_append, Bool.or_eq_false_iff], rfl, fun _ h => nomatch h⟩

theorem dataSame_iff (a b : Data σ) : dataSame a b ↔
    (a.depth = b.depth ∧ a.shape1 = b.shape1 ∧ a.name.isSome = b.name.isSome) ∧
      nameDiff a b ++ sizeDiff a b = [] ∧ a.shape2 = b.shape2 ∧
      (infosDiff a.key a.infos b.infos).1 = [] ∧ (infosDiff a.key a.infos b.infos).2 = true := by
  constructor
  · rintro ⟨h1, h2, h3, h4, h5, h6⟩
    have hi := (infosDiff_nil_iff a.key _ _).2 h6
    exact ⟨⟨h1, h2, by rw [h4]⟩, List.append_eq_nil_iff.2 ⟨(nameDiff_nil_iff a b).2 h4, (sizeDiff_nil_iff a b).2 h5⟩, h3,
      by rw [hi], by rw [hi]⟩
  · rintro ⟨⟨h1, h2, _⟩, hns, h3, i1, i2⟩
    have hns' := List.append_eq_nil_iff.1 hns
    exact ⟨h1, h2, h3, (nameDiff_nil_iff a b).1 hns'.1, (sizeDiff_nil_iff a b).1 hns'.2,
      (infosDiff_nil_iff a.key _ _).1 (Prod.ext i1 i2)⟩

theorem dataRepr_iff (a b : Data σ) : dataRepr a b ↔
    (a.depth = b.depth ∧ a.shape1 = b.shape1 ∧ a.name.isSome = b.name.isSome) ∧
      (nameDiff a b ++ sizeDiff a b).any Entry.isTC = false ∧ a.shape2 = b.shape2 ∧
      (infosDiff a.key a.infos b.infos).1.any Entry.isTC = false ∧ (infosDiff a.key a.infos b.infos).2 = true := by
  constructor
  · rintro ⟨h1, h2, h3, h4, h5⟩
    exact ⟨⟨h1, h2, h3⟩, by rw [List.any_append, nameDiff_noTC, sizeDiff_noTC]; rfl, h4, infosDiff_noTC _ _ _,
      (infosDiff_ok_iff _ _ _).2 h5⟩
  · rintro ⟨⟨h1, h2, h3⟩, _, h4, _, h5⟩
    exact ⟨h1, h2, h3, h4, (infosDiff_ok_iff _ _ _).1 h5⟩

theorem diffTrees_nil_iff (x y : Obj σ) : diffTrees x y = [] ↔ x.Rel dataSame y :=
  diffTrees_iff stageProp_nil dataSame_iff x y
theorem diffKids_nil_iff (l1 l2 : List (Obj σ)) : ((diffKids l1 l2).1 = [] ∧ (diffKids l1 l2).2 = true) ↔ RelL dataSame l1 l2 :=
  diffKids_iff stageProp_nil dataSame_iff l1 l2
theorem diffTrees_noTC_iff : ∀ (x y : Obj σ), (diffTrees x y).any Entry.isTC = false ↔ x.Rel dataRepr y :=
  diffTrees_iff stageProp_noTC dataRepr_iff
theorem diffKids_noTC_iff : ∀ (l1 l2 : List (Obj σ)),
    ((diffKids l1 l2).1.any Entry.isTC = false ∧ (diffKids l1 l2).2 = true) ↔ RelL dataRepr l1 l2 :=
  diffKids_iff stageProp_noTC dataRepr_iff

theorem distsDiffer_false_iff (l1 l2 : List (σ × Bool)) : distsDiffer l1 l2 = false ↔ l1 = l2 := by
  simp [distsDiffer]

/-- nothing that hwloc_topology_diff_build compares differs -/
def TopoSame (A B : Topo σ) : Prop :=
  A.root.Rel dataSame B.root ∧ A.allowed = B.allowed ∧ A.tinfos = B.tinfos ∧
  A.dists = B.dists ∧ A.mattrs = B.mattrs ∧ A.kinds = B.kinds

/-- the topologies differ at most in what a diff can express -/
def TopoRepr (A B : Topo σ) : Prop :=
  A.root.Rel dataRepr B.root ∧ A.allowed = B.allowed ∧ A.tinfos.map Prod.fst = B.tinfos.map Prod.fst ∧
  A.dists = B.dists ∧ A.mattrs = B.mattrs ∧ A.kinds = B.kinds

theorem build_cases (A B : Topo σ) :
    (TopoRepr A B ∧
      build A B = (0, diffTrees A.root B.root ++ (infosDiff (A.nbl, 0) A.tinfos B.tinfos).1)) ∨
    (¬ TopoRepr A B ∧ (build A B).1 = 1 ∧ (build A B).2.any Entry.isTC = true ∧
      ∀ e ∈ (build A B).2, e ∈ diffTrees A.root B.root ∨ e ∈ (infosDiff (A.nbl, 0) A.tinfos B.tinfos).1 ∨
        e = .tooComplex A.root.data.key) := by
  unfold TopoRepr
  rw [← diffTrees_noTC_iff, ← infosDiff_ok_iff (A.nbl, 0), ← distsDiffer_false_iff]
  by_cases h1 : (diffTrees A.root B.root).any Entry.isTC = true
  · have e : build A B = (1, diffTrees A.root B.root) := by simp [build, h1]
    rw [e]
    exact Or.inr ⟨fun h => by rw [h1] at h; exact absurd h.1 (by decide), rfl, h1, fun e he => Or.inl he⟩
  · by_cases h : A.allowed = B.allowed ∧ (infosDiff (A.nbl, 0) A.tinfos B.tinfos).2 = true ∧
        distsDiffer A.dists B.dists = false ∧ A.mattrs = B.mattrs ∧ A.kinds = B.kinds
    · exact Or.inl ⟨⟨Bool.eq_false_iff.mpr h1, h⟩, by simp [build, h1, h]⟩
    · have e : ∃ l, (∀ e ∈ l, e ∈ diffTrees A.root B.root ∨ e ∈ (infosDiff (A.nbl, 0) A.tinfos B.tinfos).1) ∧
          build A B = (1, l ++ [.tooComplex A.root.data.key]) := by
        by_cases h2 : A.allowed = B.allowed
        · refine ⟨diffTrees A.root B.root ++ (infosDiff (A.nbl, 0) A.tinfos B.tinfos).1, fun e => List.mem_append.1, ?_⟩
          simp only [build, h1, h2, ne_eq, not_true_eq_false, if_false, Bool.false_eq_true]
          simp only [h2, true_and] at h
          -- each of the four remaining tests either jumps to `roottoocomplex` or holds
          exact ite_eq_left_iff.mpr fun c1 => ite_eq_left_iff.mpr fun c2 => ite_eq_left_iff.mpr fun c3 =>
            ite_eq_left_iff.mpr fun c4 =>
              absurd ⟨by simpa using c1, by simpa using c2, Decidable.of_not_not c3, Decidable.of_not_not c4⟩ h
        · exact ⟨diffTrees A.root B.root, fun e => Or.inl, by simp [build, h1, h2]⟩
      obtain ⟨l, hl, e⟩ := e
      rw [e]
      refine Or.inr ⟨fun hr => h hr.2, rfl, by rw [List.any_append, Bool.or_eq_true]; exact Or.inr rfl, fun e he => ?_⟩
      rcases List.mem_append.1 he with he | he
      · exact (hl e he).imp_right Or.inl
      · exact Or.inr (Or.inr (List.mem_singleton.1 he))

theorem build_ret (A B : Topo σ) : (build A B).1 = 0 ∨ (build A B).1 = 1 := by
  rcases build_cases A B with ⟨_, h⟩ | ⟨_, h, _⟩
  · exact Or.inl (by rw [h])
  · exact Or.inr h

theorem build_ret0_iff (A B : Topo σ) : (build A B).1 = 0 ↔ TopoRepr A B := by
  rcases build_cases A B with ⟨hr, h⟩ | ⟨hr, h, _⟩
  · exact ⟨fun _ => hr, fun _ => by rw [h]⟩
  · exact ⟨fun h0 => by rw [h] at h0; exact absurd h0 (by decide), fun h' => absurd h' hr⟩

theorem build_tc (A B : Topo σ) : (build A B).2.any Entry.isTC = decide ((build A B).1 = 1) := by
  rcases build_cases A B with ⟨hr, h⟩ | ⟨_, h1, h2, _⟩
  · rw [h, List.any_append, (diffTrees_noTC_iff _ _).2 hr.1, infosDiff_noTC]; rfl
  · rw [h1, h2]; rfl

theorem build_empty_iff (A B : Topo σ) : build A B = (0, []) ↔ TopoSame A B := by
  rcases build_cases A B with ⟨hr, h⟩ | ⟨hr, h1, _⟩
  · rw [h]
    constructor
    · intro e
      have e' := List.append_eq_nil_iff.1 (Prod.mk.inj e).2
      exact ⟨(diffTrees_nil_iff _ _).1 e'.1, hr.2.1,
        (infosDiff_nil_iff (A.nbl, 0) _ _).1 (Prod.ext e'.2 ((infosDiff_ok_iff _ _ _).2 hr.2.2.1)), hr.2.2.2⟩
    · rintro ⟨hroot, _, hti, _⟩
      rw [(diffTrees_nil_iff _ _).2 hroot, (infosDiff_nil_iff (A.nbl, 0) _ _).2 hti]; rfl
  · constructor
    · intro e; rw [e] at h1; cases h1
    · rintro ⟨hroot, hal, hti, hd, hm, hkd⟩
      refine absurd ⟨(diffTrees_noTC_iff _ _).1 ?_, hal, by rw [hti], hd, hm, hkd⟩ hr
      rw [(diffTrees_nil_iff _ _).2 hroot]; rfl

/-! ### the INFO part of apply ∘ build on one infos array -/

/-- the INFO entries of one infos array applied in order (what hwloc_apply_diff_one does to that array) -/
def applyInfos : List (σ × σ) → List (Entry σ) → Option (List (σ × σ))
  | l, [] => some l
  | l, .objAttr _ (.info nm o n) :: r => (replaceFirst nm o n l).bind (fun l' => applyInfos l' r)
  | _, _ :: _ => none

theorem applyInfos_frame (k : Key) (a v : σ) : ∀ (es : List (Entry σ)) (l : List (σ × σ)),
    (∀ e ∈ es, ∃ nm o n, e = Entry.objAttr k (.info nm o n) ∧ nm ≠ a) →
    applyInfos ((a, v) :: l) es = (applyInfos l es).map ((a, v) :: ·)
  | [], l, _ => by simp [applyInfos]
  | e :: r, l, h => by
    obtain ⟨nm, o, n, rfl, hne⟩ := h e (by simp)
    have hne' : ¬ (a = nm) := fun c => hne c.symm
    simp only [applyInfos, replaceFirst, hne', false_and, if_false]
    cases hr : replaceFirst nm o n l with
    | none => simp
    | some l' =>
      simp only [Option.map_some, Option.bind_some]
      exact applyInfos_frame k a v r l' (fun e he => h e (by simp [he]))

/-- `C16_F13c_witness` shows that the `Nodup` hypothesis is needed -/
theorem applyInfos_infosGo (k : Key) : ∀ (i1 i2 : List (σ × σ)), (i1.map Prod.fst).Nodup →
    (infosGo k i1 i2).2 = true → applyInfos i1 (infosGo k i1 i2).1 = some i2
  | [], [], _, _ => by simp [infosGo, applyInfos]
  | [], _ :: _, _, h => by simp [infosGo] at h
  | _ :: _, [], _, h => by simp [infosGo] at h
  | (n1, v1) :: r1, (n2, v2) :: r2, hnd, h => by
    unfold infosGo at h ⊢
    by_cases hn : n1 = n2
    · subst hn
      simp only [ne_eq, not_true_eq_false, if_false] at h ⊢
      simp only [List.map_cons, List.nodup_cons] at hnd
      have ih := applyInfos_infosGo k r1 r2 hnd.2 h
      have hfr : ∀ e ∈ (infosGo k r1 r2).1, ∃ nm o n, e = Entry.objAttr k (.info nm o n) ∧ nm ≠ n1 := by
        intro e he
        obtain ⟨nm, o, n, h1, h2⟩ := infosGo_entries k r1 r2 e he
        exact ⟨nm, o, n, h1, fun c => hnd.1 (c ▸ h2)⟩
      by_cases hv : v1 = v2
      · subst hv
        simp only [not_true_eq_false, if_false, List.nil_append]
        rw [applyInfos_frame k n1 v1 _ r1 hfr, ih]; rfl
      · simp only [hv, not_false_eq_true, if_true, List.singleton_append, applyInfos, replaceFirst, and_self,
          Option.bind_some]
        rw [applyInfos_frame k n1 v2 _ r1 hfr, ih]; rfl
    · simp [hn] at h

/-! ### what build can queue -/

/-- the entries `hwloc_diff_trees` and the topology-infos loop can queue: TOO_COMPLEX, NAME with both strings set, SIZE, INFO -/
inductive Entry.Built : Entry σ → Prop
  | tc (k : Key) : Built (.tooComplex k)
  | name (k : Key) (o n : σ) : Built (.objAttr k (.name (some o) (some n)))
  | size (k : Key) (o n : Mem) : Built (.objAttr k (.size o n))
  | info (k : Key) (nm o n : σ) : Built (.objAttr k (.info nm o n))

/-- no NULL string in a NAME entry (INFO entries carry plain strings in the model) -/
def Entry.NoNull : Entry σ → Prop
  | .objAttr _ (.name o n) => o.isSome = true ∧ n.isSome = true
  | _ => True

theorem Entry.Built.noNull {e : Entry σ} (h : e.Built) : e.NoNull := by
  cases h with
  | name => exact ⟨rfl, rfl⟩
  | _ => trivial

theorem forall_stage {P : Entry σ → Prop} {k : Key} {r : List (Entry σ) × Bool} {next : List (Entry σ)}
    (hr : ∀ e ∈ r.1, P e) (hn : ∀ e ∈ next, P e) (hk : P (.tooComplex k)) : ∀ e ∈ stage k r next, P e := by
  intro e he
  unfold stage at he
  rcases List.mem_append.1 he with he | he
  · exact hr e he
  · split at he
    · exact hn e he
    · rw [List.mem_singleton.1 he]; exact hk

theorem infosDiff_built (k : Key) (i1 i2 : List (σ × σ)) : ∀ e ∈ (infosDiff k i1 i2).1, e.Built := by
  intro e he
  unfold infosDiff at he
  split at he
  · exact nomatch he
  · obtain ⟨nm, o, n, rfl, _⟩ := infosGo_entries k i1 i2 e he
    exact .info ..

/-- the NAME stage is only reached when both names are set or both are NULL: it queues nothing, or one entry without NULL string -/
theorem nameDiff_cases (a b : Data σ) (hs : a.name.isSome = b.name.isSome) :
    (a.name = b.name ∧ nameDiff a b = []) ∨
    (∃ o n, a.name = some o ∧ b.name = some n ∧ o ≠ n ∧ nameDiff a b = [.objAttr a.key (.name (some o) (some n))]) := by
  unfold nameDiff
  by_cases h : a.name = b.name
  · exact Or.inl ⟨h, if_neg (not_not_intro h)⟩
  · rw [if_pos h]
    cases ha : a.name with
    | none => rw [ha] at hs h; cases hb : b.name with
      | none => exact absurd hb.symm h
      | some _ => rw [hb] at hs; cases hs
    | some o => rw [ha] at hs h; cases hb : b.name with
      | none => rw [hb] at hs; cases hs
      | some n => exact Or.inr ⟨o, n, rfl, rfl, fun e => h (by rw [hb, e]), rfl⟩

theorem nameDiff_built (a b : Data σ) (hn : a.name.isSome = b.name.isSome) : ∀ e ∈ nameDiff a b, e.Built := by
  rcases nameDiff_cases a b hn with ⟨_, e⟩ | ⟨o, n, _, _, _, e⟩ <;> rw [e]
  · exact fun _ he => nomatch he
  · exact fun _ he => List.mem_singleton.1 he ▸ .name ..

theorem sizeDiff_built (a b : Data σ) : ∀ e ∈ sizeDiff a b, e.Built := fun _ he => by
  obtain ⟨o, n, rfl⟩ := mem_sizeDiff he; exact .size ..

mutual
theorem diffTrees_built : ∀ (x y : Obj σ), ∀ e ∈ diffTrees x y, e.Built
  | .mk a a0 a1 a2 a3, .mk b b0 b1 b2 b3 => by
    have tc := Entry.Built.tc (σ := σ) a.key
    unfold diffTrees
    by_cases h0 : a.depth ≠ b.depth ∨ a.shape1 ≠ b.shape1 ∨ a.name.isSome ≠ b.name.isSome
    · rw [if_pos h0]; exact fun e he => List.mem_singleton.1 he ▸ tc
    · rw [if_neg h0]
      have hn : a.name.isSome = b.name.isSome := Classical.byContradiction fun h => h0 (Or.inr (Or.inr h))
      exact forall_stage (fun e he => (List.mem_append.1 he).elim (nameDiff_built a b hn e) (sizeDiff_built a b e))
        (forall_stage (infosDiff_built _ _ _) (forall_stage (diffKids_built a0 b0) (forall_stage (diffKids_built a1 b1)
          (forall_stage (diffKids_built a2 b2) (forall_stage (diffKids_built a3 b3) (fun _ he => nomatch he) tc) tc) tc) tc) tc) tc
theorem diffKids_built : ∀ (l1 l2 : List (Obj σ)), ∀ e ∈ (diffKids l1 l2).1, e.Built
  | [], [] => fun _ he => nomatch he
  | _ :: _, [] => fun _ he => nomatch he
  | [], _ :: _ => fun _ he => nomatch he
  | x :: xs, y :: ys => by
    intro e he
    unfold diffKids at he
    exact (List.mem_append.1 he).elim (diffTrees_built x y e) (diffKids_built xs ys e)
end

theorem build_built (A B : Topo σ) : ∀ e ∈ (build A B).2, e.Built := by
  have key : ∀ e, (e ∈ diffTrees A.root B.root ∨ e ∈ (infosDiff (A.nbl, 0) A.tinfos B.tinfos).1 ∨
      e = .tooComplex A.root.data.key) → e.Built := by
    rintro e (he | he | rfl)
    · exact diffTrees_built _ _ e he
    · exact infosDiff_built _ _ _ e he
    · exact .tc _
  rcases build_cases A B with ⟨_, h⟩ | ⟨_, _, _, h⟩
  · rw [h]; exact fun e he => key e ((List.mem_append.1 he).imp_right Or.inl)
  · exact fun e he => key e (h e he)

/-! ### build never queues a NULL string -/

theorem diffKids_noNull : ∀ (l1 l2 : List (Obj σ)), ∀ e ∈ (diffKids l1 l2).1, e.NoNull :=
  fun l1 l2 e he => (diffKids_built l1 l2 e he).noNull

theorem build_noNull (A B : Topo σ) : ∀ e ∈ (build A B).2, e.NoNull :=
  fun e he => (build_built A B e he).noNull

end Hw.Diff
