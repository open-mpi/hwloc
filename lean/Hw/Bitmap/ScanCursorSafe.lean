/-
  Hw.Bitmap.ScanCursorSafe — memory safety of the cursor-level parser models, for EVERY byte string:
  every logged read index is ≤ s.length (the terminating NUL), every logged store into `ulongs[]`
  has 0 ≤ index < ulongs_count ≤ ulongs_allocated, every store into `ustr` has index < 17; and a parser that
  returns 0 has written every word of the destination (sign characters and huge numbers included, i.e. beyond
  the domain of the structural models).
-/
import Hw.Bitmap.ScanCursor
import Hw.Bitmap.ScanLemmas
import Hw.Base.Cases
namespace Hw
namespace Bitmap
namespace Cursor

/-- every access recorded in the log is in bounds, for an input of `n` bytes + NUL -/
structure Log.Safe (n : Nat) (lg : Log) : Prop where
  reads : ∀ r, r ∈ lg.reads → r ≤ n
  writes : ∀ w, w ∈ lg.writes → 0 ≤ w.1 ∧ w.1 < (w.2 : Int)
  ustr : ∀ u, u ∈ lg.ustr → u < 17

theorem safe_empty (n : Nat) : Log.empty.Safe n := by
  refine ⟨?_, ?_, ?_⟩ <;> intro x hx <;> cases hx

theorem Log.Safe.add {n : Nat} {lg : Log} (h : lg.Safe n) {rs : List Nat} {ws : List (Int × Nat)} {us : List Nat}
    (hr : ∀ r, r ∈ rs → r ≤ n) (hw : ∀ w, w ∈ ws → 0 ≤ w.1 ∧ w.1 < (w.2 : Int)) (hu : ∀ u, u ∈ us → u < 17) :
    Log.Safe n ⟨rs ++ lg.reads, ws ++ lg.writes, us ++ lg.ustr⟩ :=
  ⟨fun r m => (List.mem_append.mp m).elim (hr r) (h.reads r), fun w m => (List.mem_append.mp m).elim (hw w) (h.writes w),
    fun u m => (List.mem_append.mp m).elim (hu u) (h.ustr u)⟩

theorem safe_rd {n : Nat} {lg : Log} (h : lg.Safe n) {i : Nat} (hi : i ≤ n) : (lg.rd i).Safe n :=
  h.add (rs := [i]) (ws := []) (us := []) (fun _ m => List.mem_singleton.mp m ▸ hi) (fun _ m => nomatch m)
    (fun _ m => nomatch m)

theorem safe_rdRange {n : Nat} {lg : Log} (h : lg.Safe n) {i k : Nat} (hi : i + k ≤ n + 1) :
    (lg.rdRange i k).Safe n :=
  h.add (ws := []) (us := []) (fun r m => by obtain ⟨j, hj, rfl⟩ := List.mem_map.mp m; have := List.mem_range.mp hj; omega)
    (fun _ m => nomatch m) (fun _ m => nomatch m)

theorem safe_wr {n : Nat} {lg : Log} (h : lg.Safe n) {i : Int} {cnt : Nat} (h0 : 0 ≤ i) (h1 : i < (cnt : Int)) :
    (lg.wr i cnt).Safe n :=
  h.add (rs := []) (ws := [(i, cnt)]) (us := []) (fun _ m => nomatch m)
    (fun _ m => List.mem_singleton.mp m ▸ ⟨h0, h1⟩) (fun _ m => nomatch m)

/-- the store of `hwloc_bitmap_zero` / `hwloc_bitmap_fill`: word 0 of a set of one word -/
theorem safe_wr_first {n : Nat} {lg : Log} (h : lg.Safe n) : (lg.wr 0 1).Safe n :=
  safe_wr h (Int.le_refl 0) (by decide)

theorem safe_uwRange {n : Nat} {lg : Log} (h : lg.Safe n) {k : Nat} (hk : k ≤ 17) : (lg.uwRange k).Safe n :=
  h.add (rs := []) (ws := []) (fun _ m => nomatch m) (fun _ m => nomatch m)
    (fun u m => by have := List.mem_range.mp m; omega)

theorem safe_uw {n : Nat} {lg : Log} (h : lg.Safe n) {i : Nat} (hi : i < 17) : (lg.uw i).Safe n :=
  h.add (rs := []) (ws := []) (us := [i]) (fun _ m => nomatch m) (fun _ m => nomatch m)
    (fun _ m => List.mem_singleton.mp m ▸ hi)

def CRes.defined (r : CRes) : Bool := r.toScan.defined

/-- what every parser run satisfies, for an input of `n` bytes: all accesses in bounds, and a returned 0 only
with every word written -/
def Out.Good (n : Nat) (o : Out) : Prop := o.log.Safe n ∧ o.res.defined = true

/-- inside a loop: the accesses are in bounds unconditionally, a returned 0 has every word written provided `D`
(what the loop assumes of the cells it starts from) -/
def Out.GoodIf (n : Nat) (D : Prop) (o : Out) : Prop := o.log.Safe n ∧ (D → o.res.defined = true)

theorem Out.GoodIf.good {n : Nat} {D : Prop} {o : Out} (h : o.GoodIf n D) (d : D) : o.Good n := ⟨h.1, h.2 d⟩

theorem rd_ge (s : List Byte) (i : Nat) (h : s.length ≤ i) : rd s i = 0 := by
  simp [rd, List.getD_eq_getElem?_getD, List.getElem?_eq_none h]

theorem rd_ne_zero_lt (s : List Byte) (i : Nat) (h : rd s i ≠ 0) : i < s.length := by
  apply Classical.byContradiction
  intro hn
  exact h (rd_ge s i (by omega))

theorem scanWhile_spec (p : Byte → Bool) (s : List Byte) : ∀ fuel i,
    i ≤ scanWhile p s fuel i ∧ scanWhile p s fuel i ≤ i + fuel ∧
    (∀ j, i ≤ j → j < scanWhile p s fuel i → p (rd s j) = true) ∧
    (scanWhile p s fuel i < i + fuel → p (rd s (scanWhile p s fuel i)) = false) := by
  intro fuel
  induction fuel with
  | zero =>
    intro i
    exact ⟨Nat.le_refl i, Nat.le_refl i, fun j h1 h2 => absurd h2 (Nat.not_lt.mpr h1), fun h => absurd h (Nat.lt_irrefl i)⟩
  | succ f ih =>
    intro i
    unfold scanWhile
    split
    · rename_i hpi
      obtain ⟨h1, h2, h3, h4⟩ := ih (i + 1)
      rw [Nat.add_right_comm] at h2 h4
      exact ⟨Nat.le_of_succ_le h1, h2,
        fun j hj1 hj2 => if e : j = i then e ▸ hpi else h3 j (Nat.lt_of_le_of_ne hj1 (Ne.symm e)) hj2, h4⟩
    · rename_i hn
      exact ⟨Nat.le_refl i, Nat.le_add_right i _, fun j h1 h2 => absurd h2 (Nat.not_lt.mpr h1),
        fun _ => Bool.eq_false_iff.mpr hn⟩

theorem scanWhile_ge (p : Byte → Bool) (s : List Byte) (fuel i : Nat) : i ≤ scanWhile p s fuel i :=
  (scanWhile_spec p s fuel i).1

theorem scanWhile_before (p : Byte → Bool) (s : List Byte) (fuel i j : Nat) :
    i ≤ j → j < scanWhile p s fuel i → p (rd s j) = true :=
  (scanWhile_spec p s fuel i).2.2.1 j

theorem scanWhile_le (p : Byte → Bool) (hp : p 0 = false) (s : List Byte) (fuel i : Nat) (h : i ≤ s.length) :
    scanWhile p s fuel i ≤ s.length := by
  apply Classical.byContradiction
  intro hn
  -- a scan that went past the end has accepted the NUL at `s.length`
  have := scanWhile_before p s fuel i s.length h (by omega)
  rw [rd_ge s _ (Nat.le_refl _), hp] at this
  cases this

theorem scanWhile_stop (p : Byte → Bool) (hp : p 0 = false) (s : List Byte) (fuel i : Nat) (h : s.length < i + fuel) :
    p (rd s (scanWhile p s fuel i)) = false := by
  by_cases hr : scanWhile p s fuel i < i + fuel
  · exact (scanWhile_spec p s fuel i).2.2.2 hr
  · rw [rd_ge s _ (by omega)]; exact hp

theorem isSpace_zero : isSpace 0 = false := by decide
theorem isDigitIn_zero (b : Nat) : isDigitIn b 0 = false := by
  simp [isDigitIn, digitVal]

/-- strtoul reads a contiguous block that ends at the NUL at the latest -/
theorem strtoScanned_le (base : Nat) (s : List Byte) (i : Nat) (hi : i ≤ s.length) :
    i + strtoScanned base s i ≤ s.length + 1 := by
  unfold strtoScanned
  extract_lets fuel p q hasX b d0 e
  have hp1 : i ≤ p := scanWhile_ge _ _ _ _
  have hp2 : p ≤ s.length := scanWhile_le _ isSpace_zero _ _ _ hi
  have hq : p ≤ q ∧ q ≤ s.length := by
    refine ite_pred (fun q => p ≤ q ∧ q ≤ s.length) (fun h => ?_) fun _ => ⟨Nat.le_refl _, hp2⟩
    have : rd s p ≠ 0 := by rcases h with h | h <;> rw [h] <;> decide
    have := rd_ne_zero_lt s p this
    omega
  have hd : q ≤ d0 ∧ d0 ≤ s.length := by
    refine ite_pred (fun d => q ≤ d ∧ d ≤ s.length) (fun h => ?_) fun _ => ⟨Nat.le_refl _, hq.2⟩
    simp only [hasX, Bool.and_eq_true, beq_iff_eq, Bool.or_eq_true] at h
    have h1 : rd s (q+1) ≠ 0 := by rcases h.1.2 with h | h <;> rw [h] <;> decide
    have := rd_ne_zero_lt s (q+1) h1
    omega
  have he1 : d0 ≤ e := scanWhile_ge (isDigitIn b) s fuel d0
  have he2 : e ≤ s.length := scanWhile_le (isDigitIn b) (isDigitIn_zero b) s fuel d0 hd.2
  omega

theorem strtoCore_adv_le (base : Nat) (l s1 : List Byte) (neg : Bool) : (strtoCore base l s1 neg).2 ≤ l.length := by
  unfold strtoCore
  exact ite_pred (fun x : Nat × Nat => x.2 ≤ l.length) (fun _ => Nat.zero_le _) fun _ => Nat.sub_le _ _

theorem strtoulL_adv_le (base : Nat) (l : List Byte) : (strtoulL base l).2 ≤ l.length := by
  unfold strtoulL
  split <;> exact strtoCore_adv_le _ _ _ _

theorem strtoulC_next_le (base : Nat) (s : List Byte) (i : Nat) (hi : i ≤ s.length) :
    i + (strtoulC base s i).adv ≤ s.length := by
  have := strtoulL_adv_le base (s.drop i)
  simp only [strtoulC]
  rw [List.length_drop] at this
  omega

theorem strtoulC_scanned (base : Nat) (s : List Byte) (i : Nat) : (strtoulC base s i).scanned = strtoScanned base s i := rfl

theorem safe_strtoul {s : List Byte} {lg : Log} (h : lg.Safe s.length) (base i : Nat) (hi : i ≤ s.length) :
    (lg.rdRange i (strtoulC base s i).scanned).Safe s.length :=
  safe_rdRange h (by rw [strtoulC_scanned]; exact strtoScanned_le base s i hi)

/-- `strncmp` against a literal without NUL stays inside the string -/
theorem matchLen_le (s : List Byte) : ∀ (pat : List Byte) (i : Nat), (∀ c, c ∈ pat → c ≠ 0) → i ≤ s.length →
    i + matchLen s i pat ≤ s.length := by
  intro pat
  induction pat with
  | nil => intro i _ h; simpa [matchLen] using h
  | cons c cs ih =>
    intro i hc h
    unfold matchLen
    split
    · rename_i e
      have hne : rd s i ≠ 0 := by rw [e]; exact hc c (List.mem_cons_self ..)
      have hlt := rd_ne_zero_lt s i hne
      have := ih (i+1) (fun c' hc' => hc c' (List.mem_cons_of_mem _ hc')) hlt
      omega
    · omega

theorem matchLen_le_length (s : List Byte) : ∀ (pat : List Byte) (i : Nat), matchLen s i pat ≤ pat.length := by
  intro pat
  induction pat with
  | nil => intro i; simp [matchLen]
  | cons c cs ih =>
    intro i
    unfold matchLen
    split
    · have := ih (i+1); simp only [List.length_cons]; omega
    · omega

theorem safe_strncmp {s : List Byte} {lg : Log} (h : lg.Safe s.length) (i : Nat) (pat : List Byte)
    (hpat : ∀ c, c ∈ pat → c ≠ 0) (hi : i ≤ s.length) :
    (strncmpC s i pat lg).2.Safe s.length := by
  unfold strncmpC
  simp only
  apply safe_rdRange h
  have := matchLen_le s pat i hpat hi
  split <;> omega

/-- after a successful `strncmp` the cursor may advance by the literal's length -/
theorem strncmp_true_le {s : List Byte} {lg : Log} (i : Nat) (pat : List Byte)
    (hpat : ∀ c, c ∈ pat → c ≠ 0) (hi : i ≤ s.length) (hm : (strncmpC s i pat lg).1 = true) :
    i + pat.length ≤ s.length := by
  unfold strncmpC at hm
  simp only [beq_iff_eq] at hm
  have := matchLen_le s pat i hpat hi
  omega

theorem pat_inf_nz : ∀ c, c ∈ pat_inf → c ≠ 0 := by decide
theorem pat_0x_nz : ∀ c, c ∈ pat_0x → c ≠ 0 := by decide

theorem commaPass_safe (s : List Byte) : ∀ fuel cur count lg, lg.Safe s.length → cur ≤ s.length →
    (commaPass s fuel cur count lg).2.Safe s.length := by
  intro fuel
  induction fuel with
  | zero => intro cur count lg h _; exact h
  | succ f ih =>
    intro cur count lg h hc
    unfold commaPass
    simp only
    have hj1 := scanWhile_ge (fun c => c != 44 && c != 0) s (s.length + 1) cur
    have hj2 := scanWhile_le (fun c => c != 44 && c != 0) (by decide) s (s.length + 1) cur hc
    have hs : (lg.rdRange cur (scanWhile (fun c => c != 44 && c != 0) s (s.length + 1) cur + 1 - cur)).Safe s.length :=
      safe_rdRange h (by omega)
    split
    · rename_i e
      apply ih _ _ _ hs
      have : rd s (scanWhile (fun c => c != 44 && c != 0) s (s.length + 1) cur) ≠ 0 := by rw [e]; decide
      have := rd_ne_zero_lt s _ this
      omega
    · exact hs

theorem hwlocLoopC_good (s : List Byte) (nw : Nat) : ∀ fuel cur count accum ws infinite lg,
    lg.Safe s.length → cur ≤ s.length → count ≤ 2 * nw →
    (hwlocLoopC s nw fuel cur count accum ws infinite lg).GoodIf s.length (DefinedFrom ws ((count + 1) / 2)) := by
  intro fuel
  induction fuel with
  | zero => intro cur count accum ws infinite lg h hc _; exact ⟨safe_strtoul h 16 cur hc, fun _ => rfl⟩
  | succ f ih =>
    intro cur count accum ws infinite lg h hc hcnt
    unfold hwlocLoopC
    extract_lets r lg1 next count' accum' st lg2
    have h1 : lg1.Safe s.length := safe_strtoul h 16 cur hc
    have hn : next ≤ s.length := strtoulC_next_le 16 s cur hc
    refine ite_cases (fun _ => ⟨h1, fun _ => rfl⟩) fun hc0 => ?_
    have hc' : count' = count - 1 := rfl
    -- the store (if any) and the read of *next
    have h2 : lg2.Safe s.length :=
      safe_rd (ite_pred (fun st : List (Option Word) × Word × Log => st.2.2.Safe _)
        (fun _ => safe_wr h1 (by omega) (by omega)) fun _ => h1) hn
    have hstep : DefinedFrom ws ((count + 1) / 2) → DefinedFrom st.1 ((count' + 1) / 2) :=
      definedFrom_group _ _ _ hc0
    refine ite_cases (fun e => ?_) fun _ =>
      ite_cases (fun _ => ⟨safe_wr_first h2, fun _ => rfl⟩) fun hz => ⟨h2, fun hdef => ?_⟩
    · obtain ⟨hs, hd⟩ := ih (next + 1) count' st.2.1 st.1 infinite lg2 h2
        (rd_ne_zero_lt s _ (by rw [e]; decide)) (by omega)
      exact ⟨hs, fun hdef => hd (hstep hdef)⟩
    · have hz' : (count' + 1) / 2 = 0 := by omega
      exact definedFrom_zero_all _ (hz' ▸ hstep hdef)

theorem hwlocSscanfC_good (s : List Byte) : (hwlocSscanfC s).Good s.length := by
  unfold hwlocSscanfC
  extract_lets cp count m lg count' ulongcount accum ulongcount'
  have h1 : m.2.Safe s.length :=
    safe_strncmp (commaPass_safe s _ 0 1 _ (safe_empty _) (Nat.zero_le _)) 0 pat_inf pat_inf_nz (Nat.zero_le _)
  refine ite_cases (fun hm => ?_) fun _ =>
    (hwlocLoopC_good s _ _ _ _ _ _ _ _ h1 (Nat.zero_le _) (by omega)).good (definedFrom_replicate _)
  have h7 : 7 ≤ s.length := strncmp_true_le 0 pat_inf pat_inf_nz (Nat.zero_le _) hm
  have h2 : lg.Safe s.length := safe_rd h1 h7
  refine ite_cases (fun _ => ⟨safe_wr_first h2, rfl⟩) fun e => ?_
  have : rd s 7 ≠ 0 := by
    intro e0; apply e; rw [e0]; decide
  exact (hwlocLoopC_good s _ _ _ _ _ _ _ _ h2 (rd_ne_zero_lt s 7 this) (by omega)).good (definedFrom_replicate _)

theorem okOf_defined (b : Option Bitmap) : (okOf b).defined = true := by
  cases b with
  | none => rfl
  | some b => exact map_some_all _

theorem listLoopC_good (s : List Byte) : ∀ fuel cur b beg big lg,
    lg.Safe s.length → cur ≤ s.length → (listLoopC s fuel cur b beg big lg).Good s.length := by
  intro fuel
  induction fuel with
  | zero => intro cur b beg big lg h _; exact ⟨h, rfl⟩
  | succ f ih =>
    intro cur b beg big lg h hc
    unfold listLoopC
    extract_lets lg1 c1 lg2 r lg3 next isBig big' b' lg4 lg5 b''
    have h1 : lg1.Safe s.length := safe_rd h hc
    have hc1 : cur ≤ c1 := scanWhile_ge _ s _ cur
    have hc2 : c1 ≤ s.length := scanWhile_le _ (by decide) s _ cur hc
    have h3 : lg3.Safe s.length := safe_strtoul (safe_rdRange h1 (by omega)) 0 c1 hc2
    have hn : next ≤ s.length := strtoulC_next_le 0 s c1 hc2
    have h4 : lg4.Safe s.length := safe_rd h3 hn
    -- either the string ends here, or the loop goes on behind `next`
    have step : ∀ (lg' : Log), lg'.Safe s.length → ∀ x b' beg' big' k,
        (if rd s next = 0 then (⟨okOf x, lg', 0, k⟩ : Out)
          else listLoopC s f (next + 1) b' beg' big' lg').Good s.length :=
      fun lg' hl x b' beg' big' k => ite_cases (fun _ => ⟨hl, okOf_defined x⟩) fun hne =>
        ih _ _ _ _ _ hl (rd_ne_zero_lt s _ hne)
    refine ite_cases (fun _ => ⟨h1, okOf_defined _⟩) fun _ =>
      ite_cases (fun _ => ⟨safe_wr_first h3, rfl⟩) fun _ => ?_
    cases beg with
    | some b0 => exact step _ h4 _ _ _ _ _
    | none =>
      refine ite_cases (fun e45 => ?_) fun _ => ite_cases (fun _ => step _ h4 _ _ _ _ _) fun _ => step _ h4 _ _ _ _ _
      have hne : rd s next ≠ 0 := by rw [e45]; decide
      have h5 : lg5.Safe s.length := safe_rd h4 (rd_ne_zero_lt s _ hne)
      exact ite_cases (fun _ => ⟨h5, okOf_defined _⟩) fun _ => ih _ _ _ _ _ h5 (rd_ne_zero_lt s _ hne)

theorem listSscanfC_good (s : List Byte) : (listSscanfC s).Good s.length :=
  listLoopC_good s _ _ _ _ _ _ (safe_wr_first (safe_empty _)) (Nat.zero_le _)

theorem tasksetLoopC_good (s : List Byte) (nw e : Nat) (he : e ≤ s.length) (hz : rd s e = 0) :
    ∀ fuel cur chars count ws infinite lg,
    lg.Safe s.length → cur + chars = e → count = (chars + 15) / 16 → count ≤ nw →
    (tasksetLoopC s nw fuel cur chars count ws infinite lg).GoodIf s.length
      ((∀ j, cur ≤ j → j < e → rd s j ≠ 0) ∧ DefinedFrom ws count) := by
  intro fuel
  induction fuel with
  | zero => intro cur chars count ws infinite lg h _ _ _; exact ⟨h, fun _ => rfl⟩
  | succ f ih =>
    intro cur chars count ws infinite lg h hce hcount hnw
    unfold tasksetLoopC
    extract_lets lg1 t ustr lg2 r w w' lg3
    have hr : lg1.Safe s.length := safe_rd h (by omega)
    -- `e` is where `strlen` stopped: no NUL before it, so `*current == 0` exactly when `chars = 0`
    refine ite_cases (fun hz0 => ⟨hr, fun ⟨hnz, hdef⟩ => ?_⟩) fun hne => ?_
    · have hc0 : chars = 0 :=
        Classical.byContradiction fun hn => hnz cur (Nat.le_refl _) (by omega) hz0
      have : count = 0 := by omega
      exact definedFrom_zero_all _ (this ▸ hdef)
    · have hpos : 0 < chars :=
        Nat.pos_of_ne_zero fun h0 => hne (by rwa [show cur = e by omega])
      obtain ⟨t1, t16, tc, c1, hnext⟩ := taskset_chunk (t := t) hpos hcount rfl
      clear hcount  -- a division; every `omega` below would pay for it
      have hl : lg2.Safe s.length :=
        safe_uw (safe_uwRange (safe_rdRange hr (by omega)) (by omega)) (by omega)
      have hl3 : lg3.Safe s.length := safe_wr hl (by omega) (by omega)
      refine ite_cases (fun _ => ⟨safe_wr_first hl, fun _ => rfl⟩) fun _ => ?_
      obtain ⟨hs, hd⟩ := ih (cur + t) (chars - t) (count - 1) (setCell ws (count - 1) w') infinite lg3 hl3
        (by omega) hnext (by omega)
      refine ⟨hs, fun ⟨hnz, hdef⟩ => hd ⟨fun j hj1 hj2 => hnz j (by omega) hj2, ?_⟩⟩
      apply definedFrom_setCell
      rw [Nat.sub_add_cancel c1]; exact hdef

theorem tasksetGoC_good (s : List Byte) (cur : Nat) (infinite : Bool) (lg : Log) (h : lg.Safe s.length)
    (hc : cur ≤ s.length) : (tasksetGoC s cur infinite lg).Good s.length := by
  unfold tasksetGoC
  extract_lets e lg1 chars count
  have he1 : cur ≤ e := scanWhile_ge _ s _ cur
  have he2 : e ≤ s.length := scanWhile_le _ (by decide) s _ cur hc
  have hz : rd s e = 0 := by
    have := scanWhile_stop (fun c => c != 0) (by decide) s (s.length + 1) cur (by omega)
    simpa using this
  refine (tasksetLoopC_good s count e he2 hz (count + 1) cur chars count (List.replicate count none)
    infinite lg1 (safe_rdRange h (by omega)) (Nat.add_sub_cancel' he1) (taskset_count _) (Nat.le_refl _)).good
      ⟨fun j h1 h2 => ?_, definedFrom_replicate _⟩
  simpa using scanWhile_before (fun c => c != 0) s (s.length + 1) cur j h1 h2

theorem tasksetSscanfC_good (s : List Byte) : (tasksetSscanfC s).Good s.length := by
  unfold tasksetSscanfC
  extract_lets m lg m2 cur lg'
  have h1 : m.2.Safe s.length := safe_strncmp (safe_empty s.length) 0 pat_inf pat_inf_nz (Nat.zero_le _)
  refine ite_cases (fun hm => ?_) fun _ => ?_
  · have h7 : 7 ≤ s.length := strncmp_true_le 0 pat_inf pat_inf_nz (Nat.zero_le _) hm
    have h2 : lg.Safe s.length := safe_rd h1 h7
    exact ite_cases (fun _ => ⟨safe_wr_first h2, rfl⟩) fun _ => tasksetGoC_good s 7 true _ h2 h7
  · have hcur : cur ≤ s.length :=
      ite_pred (· ≤ s.length) (fun hm => strncmp_true_le (lg := m.2) 0 pat_0x pat_0x_nz (Nat.zero_le _) hm)
        fun _ => Nat.zero_le _
    have h3 : lg'.Safe s.length := safe_rd (safe_strncmp h1 0 pat_0x pat_0x_nz (Nat.zero_le _)) hcur
    exact ite_cases (fun _ => ⟨safe_wr_first h3, rfl⟩) fun _ => tasksetGoC_good s _ false _ h3 hcur

/-! ### allocation: `ulongs_count ≤ ulongs_allocated` after the reset -/

theorem le_pow2ceil (n : Nat) : n ≤ pow2ceil n := by
  unfold pow2ceil
  split
  · omega
  · have := Nat.lt_log2_self (n := n - 1)
    omega

theorem le_allocFor (prev n : Nat) : n ≤ allocFor prev n ∧ prev ≤ allocFor prev n := by
  have := le_pow2ceil n
  unfold allocFor
  split <;> omega

theorem Log.Safe.writes_alloc {n : Nat} {lg : Log} (h : lg.Safe n) (prev : Nat) :
    ∀ w, w ∈ lg.writes → 0 ≤ w.1 ∧ w.1 < (w.2 : Int) ∧ w.2 ≤ allocFor prev w.2 :=
  fun w hw => ⟨(h.writes w hw).1, (h.writes w hw).2, (le_allocFor prev w.2).1⟩

end Cursor
end Bitmap
end Hw
