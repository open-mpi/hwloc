/-
  Hw.Bitmap.Combine — or / and / andnot / xor / not and the constructors, characterised by `mem`.
  The four binary combinators of hwloc/bitmap.c differ in a word function, a flag function and in what they do
  with the words of the longer operand (copy them through some function, or cut the count back): `BinOp`
  describes one, `binopPure` is its meaning, and under the laws `BinOp.Sound` every virtual word of the result
  is the word function of the operands' virtual words (`readWord_binopPure`).  `Hw.Bitmap.Alias` runs the same
  descriptions on a store where the destination may be an operand.
-/
import Hw.Bitmap.Lemmas
namespace Hw

theorem fillW_or (x y : Bool) : fillW x ||| fillW y = fillW (x || y) := by
  cases x <;> cases y <;> simp [fillW]
theorem fillW_and (x y : Bool) : fillW x &&& fillW y = fillW (x && y) := by
  cases x <;> cases y <;> simp [fillW]
theorem fillW_not (x : Bool) : ~~~ fillW x = fillW (!x) := by
  cases x <;> simp [fillW]
theorem fillW_xor (x y : Bool) : fillW x ^^^ fillW y = fillW (x != y) := by
  cases x <;> cases y <;> simp [fillW]
theorem or_fillW_true (w : Word) : w ||| fillW true = fillW true := by
  simp only [fillW_true, BitVec.or_allOnes]
theorem fillW_true_or (w : Word) : fillW true ||| w = fillW true := by
  simp only [fillW_true, BitVec.allOnes_or]
theorem and_fillW_false (w : Word) : w &&& fillW false = fillW false := by simp
theorem fillW_false_and (w : Word) : fillW false &&& w = fillW false := by simp
theorem Bitmap.and_fillW_true (w : Word) : w &&& fillW true = w := by simp only [fillW_true, BitVec.and_allOnes]
theorem Bitmap.fillW_true_and (w : Word) : fillW true &&& w = w := by simp only [fillW_true, BitVec.allOnes_and]
theorem Bitmap.or_fillW_false (w : Word) : w ||| fillW false = w := by simp
theorem Bitmap.fillW_false_or (w : Word) : fillW false ||| w = w := by simp
theorem Bitmap.not_fillW_false : ~~~ fillW false = fillW true := fillW_not false

namespace Bitmap

/-- what the C does with the words between `min_count` and `max_count` when the operand that owns them
is the longer one: copy them through `g`, or cut `ulongs_count` back to `min_count` -/
inductive Tail | copy (g : Word → Word) | shrink

structure BinOp where
  f : Word → Word → Word                 -- on the common words
  tail1 : Bool → Tail                    -- set1 longer; argument: set2->infinite
  tail2 : Bool → Tail                    -- set2 longer; argument: set1->infinite
  infOp : Bool → Bool → Bool

def binopPure (op : BinOp) (a b : Bitmap) : Bitmap :=
  let c :=
    if a.count = b.count then a.count
    else if b.count < a.count then (match op.tail1 b.inf with | .shrink => b.count | .copy _ => a.count)
    else (match op.tail2 a.inf with | .shrink => a.count | .copy _ => b.count)
  build c (fun i => op.f (a.readWord i) (b.readWord i)) (op.infOp a.inf b.inf)

def opOr : BinOp :=
  { f := fun a b => a ||| b,
    tail1 := fun i2 => if i2 then .shrink else .copy (fun w => w),
    tail2 := fun i1 => if i1 then .shrink else .copy (fun w => w),
    infOp := fun x y => x || y }
def opAnd : BinOp :=
  { f := fun a b => a &&& b,
    tail1 := fun i2 => if i2 then .copy (fun w => w) else .shrink,
    tail2 := fun i1 => if i1 then .copy (fun w => w) else .shrink,
    infOp := fun x y => x && y }
def opAndnot : BinOp :=
  { f := fun a b => a &&& ~~~ b,
    tail1 := fun i2 => if !i2 then .copy (fun w => w) else .shrink,
    tail2 := fun i1 => if i1 then .copy (fun w => ~~~ w) else .shrink,
    infOp := fun x y => x && !y }
def opXor : BinOp :=
  { f := fun a b => a ^^^ b,
    tail1 := fun i2 => .copy (fun w => w ^^^ fillW i2),
    tail2 := fun i1 => .copy (fun w => w ^^^ fillW i1),
    infOp := fun x y => x != y }

theorem binopPure_or (a b : Bitmap) : binopPure opOr a b = a.or b := by
  unfold binopPure Bitmap.or orCount opOr
  cases a.inf <;> cases b.inf <;> simp
theorem binopPure_and (a b : Bitmap) : binopPure opAnd a b = a.and b := by
  unfold binopPure Bitmap.and andCount opAnd
  cases a.inf <;> cases b.inf <;> simp
theorem binopPure_andnot (a b : Bitmap) : binopPure opAndnot a b = a.andnot b := by
  unfold binopPure Bitmap.andnot andnotCount opAndnot
  cases a.inf <;> cases b.inf <;> simp
theorem binopPure_xor (a b : Bitmap) : binopPure opXor a b = a.xor b := by
  unfold binopPure Bitmap.xor opXor
  simp only
  congr 1
  split
  · rename_i h; simp [h]
  · split <;> omega

theorem binopPure_count (op : BinOp) (a b : Bitmap) :
    (binopPure op a b).count = max a.count b.count ∨
    (binopPure op a b).count = b.count ∧ b.count < a.count ∧ op.tail1 b.inf = .shrink ∨
    (binopPure op a b).count = a.count ∧ a.count < b.count ∧ op.tail2 a.inf = .shrink := by
  unfold binopPure
  rw [build_count]
  split
  · exact .inl (by omega)
  · split
    · cases ht : op.tail1 b.inf with
      | shrink => exact .inr (.inl ⟨rfl, ‹_›, rfl⟩)
      | copy g => exact .inl (by dsimp only; omega)
    · cases ht : op.tail2 a.inf with
      | shrink => exact .inr (.inr ⟨rfl, by omega, rfl⟩)
      | copy g => exact .inl (by dsimp only; omega)

theorem binopPure_inv (op : BinOp) (a b : Bitmap) (ha : a.Inv) (hb : b.Inv) : (binopPure op a b).Inv := by
  show 1 ≤ (binopPure op a b).count
  rcases binopPure_count op a b with h | ⟨h, _, _⟩ | ⟨h, _, _⟩
  · exact h ▸ Nat.le_trans ha (Nat.le_max_left ..)
  · exact h ▸ hb
  · exact h ▸ ha

/-- the flag rule, and the rules that cut the count back, agree with `f` on fill words -/
structure BinOp.Sound (op : BinOp) : Prop where
  fill : ∀ x y, op.f (fillW x) (fillW y) = fillW (op.infOp x y)
  s1 : ∀ i1 i2, op.tail1 i2 = .shrink → ∀ w, op.f w (fillW i2) = fillW (op.infOp i1 i2)
  s2 : ∀ i1 i2, op.tail2 i1 = .shrink → ∀ w, op.f (fillW i1) w = fillW (op.infOp i1 i2)

theorem readWord_binopPure {op : BinOp} (h : BinOp.Sound op) (a b : Bitmap) (i : Nat) :
    (binopPure op a b).readWord i = op.f (a.readWord i) (b.readWord i) := by
  by_cases hi : i < (binopPure op a b).count
  · unfold binopPure at hi ⊢
    rw [build_count] at hi
    rw [readWord_build, if_pos hi]
  · -- `i` is beyond the result's count: an operand that still has word `i` was cut back by a `shrink` rule
    rw [readWord_ge _ (Nat.le_of_not_lt hi)]
    show fillW (op.infOp a.inf b.inf) = _
    rcases binopPure_count op a b with hc | ⟨hc, _, ht⟩ | ⟨hc, _, ht⟩
    · rw [readWord_ge a (by omega), readWord_ge b (by omega), h.fill]
    · rw [readWord_ge b (by omega)]; exact (h.s1 a.inf b.inf ht _).symm
    · rw [readWord_ge a (by omega)]; exact (h.s2 a.inf b.inf ht _).symm

theorem opOr_sound : BinOp.Sound opOr where
  fill := fillW_or
  s1 i1 i2 h w := match i2, h with
    | true, _ => by show w ||| fillW true = fillW (i1 || true); rw [Bool.or_true]; exact or_fillW_true w
  s2 i1 i2 h w := match i1, h with
    | true, _ => fillW_true_or w

theorem opAnd_sound : BinOp.Sound opAnd where
  fill := fillW_and
  s1 i1 i2 h w := match i2, h with
    | false, _ => by show w &&& fillW false = fillW (i1 && false); rw [Bool.and_false]; exact and_fillW_false w
  s2 i1 i2 h w := match i1, h with
    | false, _ => fillW_false_and w

theorem opAndnot_sound : BinOp.Sound opAndnot where
  fill x y := by show fillW x &&& ~~~ fillW y = fillW (x && !y); rw [fillW_not, fillW_and]
  s1 i1 i2 h w := match i2, h with
    | true, _ => by
      show w &&& ~~~ fillW true = fillW (i1 && !true)
      rw [fillW_not, Bool.not_true, Bool.and_false]; exact and_fillW_false w
  s2 i1 i2 h w := match i1, h with
    | false, _ => fillW_false_and _

theorem opXor_sound : BinOp.Sound opXor where
  fill := fillW_xor
  s1 _ _ h := nomatch h
  s2 _ _ h := nomatch h

theorem readWord_or (a b : Bitmap) (i : Nat) : (a.or b).readWord i = a.readWord i ||| b.readWord i :=
  binopPure_or a b ▸ readWord_binopPure opOr_sound a b i
theorem readWord_and (a b : Bitmap) (i : Nat) : (a.and b).readWord i = a.readWord i &&& b.readWord i :=
  binopPure_and a b ▸ readWord_binopPure opAnd_sound a b i
theorem readWord_andnot (a b : Bitmap) (i : Nat) :
    (a.andnot b).readWord i = a.readWord i &&& ~~~ b.readWord i :=
  binopPure_andnot a b ▸ readWord_binopPure opAndnot_sound a b i
theorem readWord_xor (a b : Bitmap) (i : Nat) : (a.xor b).readWord i = a.readWord i ^^^ b.readWord i :=
  binopPure_xor a b ▸ readWord_binopPure opXor_sound a b i

theorem readWord_not (a : Bitmap) (i : Nat) : a.not.readWord i = ~~~ a.readWord i := by
  unfold Bitmap.not
  rw [readWord_build]
  split
  · rfl
  · rw [readWord_ge a (by omega), fillW_not]

theorem mem_or (a b : Bitmap) (n : Nat) : (a.or b).mem n = (a.mem n || b.mem n) := by
  simp only [mem_def, readWord_or, BitVec.getLsbD_or]
theorem mem_and (a b : Bitmap) (n : Nat) : (a.and b).mem n = (a.mem n && b.mem n) := by
  simp only [mem_def, readWord_and, BitVec.getLsbD_and]
theorem mem_andnot (a b : Bitmap) (n : Nat) : (a.andnot b).mem n = (a.mem n && !b.mem n) := by
  have hm : n % 64 < 64 := Nat.mod_lt _ (by omega)
  simp only [mem_def, readWord_andnot, BitVec.getLsbD_and, BitVec.getLsbD_not, hm, decide_true, Bool.true_and]
theorem mem_xor (a b : Bitmap) (n : Nat) : (a.xor b).mem n = (a.mem n != b.mem n) := by
  simp only [mem_def, readWord_xor, BitVec.getLsbD_xor]
theorem mem_not (a : Bitmap) (n : Nat) : a.not.mem n = !a.mem n := by
  have hm : n % 64 < 64 := Nat.mod_lt _ (by omega)
  simp only [mem_def, readWord_not, BitVec.getLsbD_not, hm, decide_true, Bool.true_and]

theorem or_inv (a b : Bitmap) (ha : a.Inv) (hb : b.Inv) : (a.or b).Inv :=
  binopPure_or a b ▸ binopPure_inv opOr a b ha hb
theorem and_inv (a b : Bitmap) (ha : a.Inv) (hb : b.Inv) : (a.and b).Inv :=
  binopPure_and a b ▸ binopPure_inv opAnd a b ha hb
theorem andnot_inv (a b : Bitmap) (ha : a.Inv) (hb : b.Inv) : (a.andnot b).Inv :=
  binopPure_andnot a b ▸ binopPure_inv opAndnot a b ha hb
theorem xor_inv (a b : Bitmap) (ha : a.Inv) (_hb : b.Inv) : (a.xor b).Inv :=
  build_inv _ _ _ (by unfold Inv count at *; omega)
theorem not_inv (a : Bitmap) (ha : a.Inv) : a.not.Inv := build_inv _ _ _ ha

theorem mem_build_word (c i : Nat) (m : Word) (inf : Bool) (hi : i < c) (n : Nat) :
    (build c (fun j => if j = i then m else fillW inf) inf).mem n = if n / 64 = i then m.getLsbD (n % 64) else inf := by
  rw [mem_def, readWord_build]
  by_cases h : n / 64 = i
  · rw [if_pos (h ▸ hi), if_pos h, if_pos h]
  · rw [if_neg h, ite_self (c := n / 64 < c) (fillW inf), if_neg h, fillW_getLsbD _ _ (Nat.mod_lt _ (by omega))]

theorem decide_div_mod (n i k : Nat) (hk : k < 64) :
    (if n / 64 = i then decide (n % 64 = k) else false) = decide (n = 64 * i + k) := by
  split
  · exact decide_eq_decide.mpr (by omega)
  · exact (decide_eq_false (by omega)).symm

theorem mem_alloc (n : Nat) : alloc.mem n = false :=
  (mem_build_word 1 0 0#64 false (by omega) n).trans (by rw [BitVec.getLsbD_zero, ite_self])

theorem mem_allocFull (n : Nat) : allocFull.mem n = true :=
  (mem_build_word 1 0 (BitVec.allOnes 64) true (by omega) n).trans
    (by rw [← fillW_true, fillW_getLsbD _ _ (Nat.mod_lt _ (by omega)), ite_self])

theorem mem_zero (b : Bitmap) (n : Nat) : b.zero.mem n = false := mem_alloc n
theorem mem_fill (b : Bitmap) (n : Nat) : b.fill.mem n = true := mem_allocFull n
theorem mem_dup (b : Bitmap) (n : Nat) : b.dup.mem n = b.mem n := rfl
theorem mem_copy (d s : Bitmap) (n : Nat) : (d.copy s).mem n = s.mem n := rfl

theorem mem_fromUlongs (b : Bitmap) (ms : List Word) (n : Nat) :
    (b.fromUlongs ms).mem n = ((ms[n/64]?).getD 0#64).getLsbD (n%64) := rfl

theorem mem_fromUlong (b : Bitmap) (m : Word) (n : Nat) :
    (b.fromUlong m).mem n = (decide (n < 64) && m.getLsbD n) := by
  refine (mem_build_word 1 0 m false (by omega) n).trans ?_
  by_cases h : n < 64
  · rw [if_pos (by omega), Nat.mod_eq_of_lt h, decide_eq_true h, Bool.true_and]
  · rw [if_neg (by omega), decide_eq_false h, Bool.false_and]

theorem mem_fromIthUlong (b : Bitmap) (i : Nat) (m : Word) (n : Nat) :
    (b.fromIthUlong i m).mem n = (decide (n / 64 = i) && m.getLsbD (n % 64)) := by
  refine (mem_build_word (i + 1) i m false (by omega) n).trans ?_
  by_cases h : n / 64 = i
  · rw [if_pos h, decide_eq_true h, Bool.true_and]
  · rw [if_neg h, decide_eq_false h, Bool.false_and]

theorem mem_only (b : Bitmap) (c n : Nat) : (b.only c).mem n = decide (n = c) := by
  have hc : c % 64 < 64 := Nat.mod_lt _ (by omega)
  rw [← Nat.div_add_mod c 64, ← decide_div_mod n _ _ hc, Nat.div_add_mod]
  simp only [← bitW_getLsbD (c % 64) _ hc]
  exact mem_build_word (c / 64 + 1) (c / 64) _ false (by omega) n

theorem mem_allbut (b : Bitmap) (c n : Nat) : (b.allbut c).mem n = !decide (n = c) := by
  have hc : c % 64 < 64 := Nat.mod_lt _ (by omega)
  refine (mem_build_word (c / 64 + 1) (c / 64) _ true (by omega) n).trans ?_
  rw [← Nat.div_add_mod c 64, ← decide_div_mod n _ _ hc, Nat.div_add_mod, BitVec.getLsbD_not, bitW_getLsbD _ _ hc,
    decide_eq_true (Nat.mod_lt n (by omega : 0 < 64)), Bool.true_and]
  split <;> rfl

theorem alloc_inv : alloc.Inv := by decide
theorem allocFull_inv : allocFull.Inv := by decide
theorem zero_inv (b : Bitmap) : b.zero.Inv := by simp [Inv, zero]
theorem fill_inv (b : Bitmap) : b.fill.Inv := by simp [Inv, fill]
theorem fromUlong_inv (b : Bitmap) (m : Word) : (b.fromUlong m).Inv := by simp [Inv, fromUlong]
theorem fromIthUlong_inv (b : Bitmap) (i : Nat) (m : Word) : (b.fromIthUlong i m).Inv :=
  build_inv _ _ _ (by omega)
theorem fromUlongs_inv (b : Bitmap) (ms : List Word) (h : ms ≠ []) : (b.fromUlongs ms).Inv := by
  unfold Inv fromUlongs; simp only
  cases ms with
  | nil => exact absurd rfl h
  | cons _ _ => simp
theorem only_inv (b : Bitmap) (c : Nat) : (b.only c).Inv := build_inv _ _ _ (by omega)
theorem allbut_inv (b : Bitmap) (c : Nat) : (b.allbut c).Inv := build_inv _ _ _ (by omega)

end Bitmap
end Hw
