/-
  Hw.Bitmap.Search — first / next / last and the `_unset` duals, characterised by `mem` only.
-/
import Hw.Bitmap.Queries
import Hw.Bitmap.BitStream
namespace Hw

/-- `r` is the least member of `S` strictly above `prev`, or -1 when there is none -/
def IsNext (S : Nat → Bool) (prev : Int) (r : Int) : Prop :=
  (r = -1 ∧ ∀ m : Nat, prev < m → S m = false) ∨
  (∃ n : Nat, r = n ∧ prev < n ∧ S n = true ∧ ∀ m : Nat, prev < m → m < n → S m = false)

/-- `r` is the least member of `S`, or -1 when `S` is empty -/
def IsFirst (S : Nat → Bool) (r : Int) : Prop :=
  (r = -1 ∧ ∀ m : Nat, S m = false) ∨
  (∃ n : Nat, r = n ∧ S n = true ∧ ∀ m : Nat, m < n → S m = false)

/-- `r` is the greatest member of `S`; -1 when `S` is empty or unbounded -/
def IsLast (S : Nat → Bool) (r : Int) : Prop :=
  (r = -1 ∧ ((∀ m : Nat, S m = false) ∨ (∀ N : Nat, ∃ m, N ≤ m ∧ S m = true))) ∨
  (∃ n : Nat, r = n ∧ S n = true ∧ ∀ m : Nat, n < m → S m = false)

theorem isNext_pred (S : Nat → Bool) (p : Nat) (r : Int) : IsNext S ((p : Int) - 1) r ↔
    (r = -1 ∧ ∀ m, p ≤ m → S m = false) ∨
    (∃ n : Nat, r = n ∧ p ≤ n ∧ S n = true ∧ ∀ m, p ≤ m → m < n → S m = false) := by
  unfold IsNext
  simp only [show ∀ m : Nat, (p : Int) - 1 < m ↔ p ≤ m from fun m => by omega]

theorem IsNext.unique {S : Nat → Bool} {prev r r' : Int} (h : IsNext S prev r) (h' : IsNext S prev r') : r = r' := by
  rcases h with ⟨e, h0⟩ | ⟨n, e, hp, hn, hl⟩ <;> rcases h' with ⟨e', h0'⟩ | ⟨n', e', hp', hn', hl'⟩
  · rw [e, e']
  · have := h0 n' hp'; rw [hn'] at this; cases this
  · have := h0' n hp; rw [hn] at this; cases this
  · rw [e, e']
    rcases Nat.lt_trichotomy n n' with hlt | heq | hgt
    · have := hl' n hp hlt; rw [hn] at this; cases this
    · rw [heq]
    · have := hl n' hp' hgt; rw [hn'] at this; cases this

theorem IsFirst_iff_next (S : Nat → Bool) (r : Int) : IsFirst S r ↔ IsNext S (-1) r := by
  rw [show (-1 : Int) = ((0 : Nat) : Int) - 1 from rfl, isNext_pred]
  simp only [IsFirst, Nat.zero_le, true_and, forall_const]

theorem IsFirst.unique {S : Nat → Bool} {r r' : Int} (h : IsFirst S r) (h' : IsFirst S r') : r = r' :=
  ((IsFirst_iff_next S r).mp h).unique ((IsFirst_iff_next S r').mp h')

theorem IsLast.unique {S : Nat → Bool} {r r' : Int} (h : IsLast S r) (h' : IsLast S r') : r = r' := by
  rcases h with ⟨e, h0⟩ | ⟨n, e, hn, hl⟩ <;> rcases h' with ⟨e', h0'⟩ | ⟨n', e', hn', hl'⟩
  · rw [e, e']
  · rcases h0 with h0 | h0
    · have := h0 n'; rw [hn'] at this; cases this
    · obtain ⟨m, hm, hs⟩ := h0 (n' + 1)
      have := hl' m (by omega); rw [hs] at this; cases this
  · rcases h0' with h0' | h0'
    · have := h0' n; rw [hn] at this; cases this
    · obtain ⟨m, hm, hs⟩ := h0' (n + 1)
      have := hl m (by omega); rw [hs] at this; cases this
  · rw [e, e']
    rcases Nat.lt_trichotomy n n' with hlt | heq | hgt
    · have := hl n' hlt; rw [hn'] at this; cases this
    · rw [heq]
    · have := hl' n hgt; rw [hn] at this; cases this

namespace Bitmap

theorem nextWord_neg_one (f : Nat → Word) (i : Nat) : nextWord f (-1) i = f i :=
  if_neg fun h => absurd h.1 (by decide)

theorem nextWord_natCast (f : Nat → Word) (q i : Nat) :
    nextWord f (q : Int) i = if q / 64 = i then f i &&& ~~~ toW (q % 64) else f i := by
  unfold nextWord
  simp only [Int.natCast_nonneg, true_and, Int.toNat_natCast]

/-- bit `j` of the word examined by `next` at index `i ≥ (prev+1)/64` -/
theorem nextWord_getLsbD (f : Nat → Word) (p i j : Nat) (hj : j < 64) (hi : p / 64 ≤ i) :
    (nextWord f ((p : Int) - 1) i).getLsbD j = ((f i).getLsbD j && decide (p ≤ 64 * i + j)) := by
  cases p with
  | zero =>
    rw [show ((0 : Nat) : Int) - 1 = -1 from rfl, nextWord_neg_one, decide_eq_true (Nat.zero_le _), Bool.and_true]
  | succ q =>
    rw [Int.natCast_succ, Int.add_sub_cancel, nextWord_natCast]
    refine ite_pred (fun w : Word => w.getLsbD j = _) (fun h => ?_) fun h => ?_
    · rw [BitVec.getLsbD_and, BitVec.getLsbD_not, toW_getLsbD _ _ (Nat.mod_lt _ (by decide)), decide_eq_true hj,
        Bool.true_and, ← decide_not]
      congr 1
      refine decide_eq_decide.mpr ?_
      rw [Nat.not_le, Nat.succ_le_iff, lt_bit_iff hj, h]
      simp only [Nat.lt_irrefl, false_or, true_and]
    · have hq : q / 64 < i := Nat.lt_of_le_of_ne (Nat.le_trans (Nat.div_le_div_right (Nat.le_succ q)) hi) h
      rw [decide_eq_true (Nat.succ_le_of_lt ((lt_bit_iff hj).mpr (.inl hq))), Bool.and_true]

/-- from word `p / 64` on, the bits of the words `next` examines are the members of `b` from `p` on -/
theorem bitAt_nextWord (b : Bitmap) (p m : Nat) (hi : p / 64 ≤ m / 64) :
    bitAt (nextWord b.readWord ((p : Int) - 1)) m = (b.mem m && decide (p ≤ m)) := by
  unfold bitAt
  rw [nextWord_getLsbD _ _ _ _ (Nat.mod_lt _ (by decide)) hi, Nat.div_add_mod m 64]
  rfl

theorem next_spec (b : Bitmap) (prev : Int) (hprev : -1 ≤ prev) : IsNext b.mem prev (b.next prev) := by
  obtain ⟨p, rfl⟩ : ∃ p : Nat, prev = (p : Int) - 1 := ⟨(prev + 1).toNat, by omega⟩
  have hp1 : ((p : Int) - 1 + 1).toNat = p := by omega
  unfold next
  simp only [hp1]
  -- beyond the stored words every index has the value of the flag
  have tail : ∀ q : Nat, p ≤ q → b.count * 64 ≤ q → (∀ m : Nat, p ≤ m → m < q → b.mem m = false) →
      IsNext b.mem ((p : Int) - 1) (if b.inf then (q : Int) else -1) := fun q hpq hq hlow => by
    rw [isNext_pred]
    cases hinf : b.inf with
    | true => exact Or.inr ⟨q, rfl, hpq, by rw [mem_of_ge b q hq]; exact hinf, hlow⟩
    | false =>
      refine Or.inl ⟨rfl, fun m hm => ?_⟩
      by_cases hmq : m < q
      · exact hlow m hm hmq
      · rw [mem_of_ge b m (by omega)]; exact hinf
  by_cases hc : b.count ≤ p / 64
  · rw [if_pos hc]
    rw [show (p : Int) - 1 + 1 = (p : Nat) by omega]
    exact tail p (Nat.le_refl _) ((Nat.le_div_iff_mul_le (by decide)).mp hc) fun m h1 h2 => absurd h2 (Nat.not_lt.mpr h1)
  · rw [if_neg hc]
    have hbit : ∀ m, p ≤ m → bitAt (nextWord b.readWord ((p : Int) - 1)) m = b.mem m := fun m hm => by
      rw [bitAt_nextWord b p m (Nat.div_le_div_right hm), decide_eq_true hm, Bool.and_true]
    cases hl : lowest (fun i => decide (p / 64 ≤ i) && nextWord b.readWord ((p : Int) - 1) i != 0#64) b.count with
    | some i =>
      obtain ⟨hi0, _, hset, hlow⟩ := lowestBit_some hl
      rw [bitAt_nextWord b p _ (by omega), Bool.and_eq_true, decide_eq_true_eq] at hset
      exact (isNext_pred _ _ _).mpr
        (Or.inr ⟨_, rfl, hset.2, hset.1, fun m hm h2 => hbit m hm ▸ hlow m (Nat.div_le_div_right hm) h2⟩)
    | none =>
      exact tail (b.count * 64) (Nat.le_of_lt ((Nat.div_lt_iff_lt_mul (by decide)).mp (Nat.not_le.mp hc))) (Nat.le_refl _)
        fun m h1 h2 => hbit m h1 ▸ lowestBit_none hl m (Nat.div_le_div_right h1) ((Nat.div_lt_iff_lt_mul (by decide)).mpr h2)

theorem first_eq_next (b : Bitmap) : b.first = b.next (-1) := by
  unfold first firstNZ next
  simp only [show ((-1 : Int) + 1).toNat / 64 = 0 from rfl, Nat.zero_le, decide_true, Bool.true_and,
    nextWord_neg_one, Nat.le_zero_eq]
  by_cases h : b.count = 0
  · rw [if_pos h, h]; rfl
  · rw [if_neg h]

theorem first_spec (b : Bitmap) : IsFirst b.mem b.first :=
  (IsFirst_iff_next _ _).mpr (first_eq_next b ▸ next_spec b (-1) (Int.le_refl _))

/-! unset duals through `not` -/

theorem not_count (b : Bitmap) : b.not.count = b.count := by simp [Bitmap.not]
theorem not_readWord (b : Bitmap) : b.not.readWord = fun i => ~~~ b.readWord i := funext (readWord_not b)

theorem firstUnset_eq (b : Bitmap) : b.firstUnset = b.not.first := by
  unfold firstUnset first firstNZ
  rw [not_count, not_readWord]; rfl

theorem nextUnset_eq (b : Bitmap) (prev : Int) : b.nextUnset prev = b.not.next prev := by
  unfold nextUnset next
  rw [not_count, not_readWord]; rfl

theorem not_mem (b : Bitmap) : b.not.mem = fun n => !b.mem n := funext (mem_not b)

theorem firstUnset_spec (b : Bitmap) : IsFirst (fun n => !b.mem n) b.firstUnset :=
  firstUnset_eq b ▸ not_mem b ▸ first_spec b.not

theorem nextUnset_spec (b : Bitmap) (prev : Int) (h : -1 ≤ prev) :
    IsNext (fun n => !b.mem n) prev (b.nextUnset prev) :=
  nextUnset_eq b prev ▸ not_mem b ▸ next_spec b.not prev h

theorem last_spec (b : Bitmap) : IsLast b.mem b.last := by
  unfold last
  cases hinf : b.inf with
  | true => exact Or.inl ⟨rfl, Or.inr ((inf_iff_unbounded b).mp hinf)⟩
  | false =>
    have hge : ∀ m, ¬ m / 64 < b.count → b.mem m = false := fun m h => by
      rw [mem_of_ge b m ((Nat.le_div_iff_mul_le (by decide)).mp (Nat.not_lt.mp h))]; exact hinf
    unfold lastNZ
    cases hl : highest (fun i => b.readWord i != 0#64) b.count with
    | none =>
      refine Or.inl ⟨rfl, Or.inl fun m => ?_⟩
      by_cases hmc : m / 64 < b.count
      · exact highestBit_none hl m hmc
      · exact hge m hmc
    | some i =>
      obtain ⟨_, hset, hhigh⟩ := highestBit_some hl
      refine Or.inr ⟨_, rfl, hset, fun m hm => ?_⟩
      by_cases hmc : m / 64 < b.count
      · exact hhigh m hm hmc
      · exact hge m hmc

theorem lastUnset_eq (b : Bitmap) : b.lastUnset = b.not.last := by
  unfold lastUnset last lastNZ
  rw [not_count, not_readWord]; rfl

theorem lastUnset_spec (b : Bitmap) : IsLast (fun n => !b.mem n) b.lastUnset :=
  lastUnset_eq b ▸ not_mem b ▸ last_spec b.not

end Bitmap
end Hw
