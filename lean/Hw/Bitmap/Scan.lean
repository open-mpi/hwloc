/-
  Hw.Bitmap.Scan — the three bitmap parsers (hwloc/bitmap.c 375–450, 516–569, 672–742) on
  NUL-terminated byte lists.  Word cells of the destination are `Option Word`: `none` is a cell
  that `hwloc_bitmap_reset_by_ulongs` left uninitialised and that was never written afterwards.
-/
import Hw.Bitmap.Print
namespace Hw
namespace Bitmap

inductive ScanRes
  | ok (words : List (Option Word)) (inf : Bool)     -- return 0
  | fail                                             -- return -1 (destination zeroed)
  | unsupported                                      -- outside the modelled domain (sign in a number)
deriving Repr, DecidableEq

/-- the resulting bitmap when every cell is defined -/
def ScanRes.bitmap? : ScanRes → Option Bitmap
  | .ok ws inf => (ws.mapM id).map (fun w => ⟨w, inf⟩)
  | .fail => some ⟨[0#64], false⟩
  | .unsupported => none

def ScanRes.defined : ScanRes → Bool
  | .ok ws _ => ws.all Option.isSome
  | _ => true

def isPrefix (p s : List Byte) : Bool := s.take p.length == p

def countCommas (s : List Byte) : Nat := s.countP (· == 44)

def setCell (ws : List (Option Word)) (i : Nat) (w : Word) : List (Option Word) := ws.set i (some w)

/-- main loop of `hwloc_bitmap_sscanf` (after the `fix:` commit: every substring, including a
final empty one, is processed).  `count` = substrings still expected. -/
def hwlocLoop : Nat → List Byte → Nat → Word → List (Option Word) → Bool → ScanRes
  | 0, _, _, _, _, _ => .fail         -- unreachable: fuel = initial count
  | fuel+1, cur, count, accum, ws, infinite =>
    match strtoul 16 cur with
    | .unsupported => .unsupported
    | .ok val next =>
      -- assert(count > 0)
      if count = 0 then .fail else
      let count := count - 1
      let accum := accum ||| (BitVec.ofNat 64 val <<< ((count * 32) % 64))
      let (ws, accum) := if count % 2 = 0 then (setCell ws (count / 2) accum, 0#64) else (ws, accum)
      match next with
      | 44 :: rest => hwlocLoop fuel rest count accum ws infinite
      | [] => if count > 0 then .fail else .ok ws infinite
      | _ :: _ => .fail

def hwlocScan (s : List Byte) : ScanRes :=
  let count := 1 + countCommas s
  if isPrefix (str "0xf...f") s then
    let cur := s.drop 7
    match cur with
    | 44 :: rest =>
      let count := count - 1
      let ulongcount := (count + 1) / 2
      let accum : Word := if count % 2 ≠ 0 then BitVec.ofNat 64 (0xFFFFFFFF <<< 32) else 0#64
      hwlocLoop count rest count accum (List.replicate ulongcount none) true
    | _ => .ok [some (BitVec.allOnes 64)] true      -- hwloc_bitmap_fill
  else
    let ulongcount := (count + 1) / 2
    hwlocLoop count s count 0#64 (List.replicate ulongcount none) false

/-- domain bound of the list-format model: indexes below 2^21 (beyond it C integer conversions and
giant allocations come into play; the harness reports such inputs as `unsupported` too) -/
def listMaxIndex : Nat := 2^21

/-- what one parsed number does: new bitmap, new `begin`, and whether the loop stops (infinite range) -/
def listStep (b : Bitmap) (beg : Option Nat) (val : Nat) (next : List Byte) : Bitmap × Option Nat × Bool :=
  match beg with
  | some b0 => (b.setRange b0 (some val), none, false)
  | none =>
    match next with
    | 45 :: [] => (b.setRange val none, none, true)
    | 45 :: _ => (b, some val, false)
    | 44 :: _ => (b.set val, none, false)
    | 32 :: _ => (b.set val, none, false)
    | [] => (b.set val, none, false)
    | _ => (b, none, false)

/-- `hwloc_bitmap_list_sscanf`; state: the bitmap built so far and `begin` (`none` = -1) -/
def listLoop : Nat → List Byte → Bitmap → Option Nat → ScanRes
  | 0, _, _, _ => .fail           -- unreachable: fuel = length + 1
  | fuel+1, cur, b, beg =>
    match cur with
    | [] => .ok (b.words.map some) b.inf
    | _ =>
      let cur := cur.dropWhile (fun c => c == 44 || c == 32)
      match strtoul 0 cur with
      | .unsupported => .unsupported
      | .ok val next =>
        if next.length = cur.length then .fail     -- no digit
        else if listMaxIndex ≤ val then .unsupported
        else
          let r := listStep b beg val next
          if r.2.2 then .ok (r.1.words.map some) r.1.inf
          else match next with
            | [] => .ok (r.1.words.map some) r.1.inf
            | _ :: rest => listLoop fuel rest r.1 r.2.1

def listScan (s : List Byte) : ScanRes := listLoop (s.length + 1) s ⟨[0#64], false⟩ none

/-- loop of `hwloc_bitmap_taskset_sscanf` -/
def tasksetLoop : Nat → List Byte → Nat → Nat → List (Option Word) → Bool → ScanRes
  | 0, _, _, _, _, _ => .fail           -- unreachable
  | fuel+1, cur, chars, count, ws, infinite =>
    match cur with
    | [] => .ok ws infinite
    | _ =>
      let tmpchars := if chars % 16 = 0 then 16 else chars % 16
      let ustr := cur.take tmpchars
      match strtoul 16 ustr with
      | .unsupported => .unsupported
      | .ok val next =>
        if !next.isEmpty then .fail else
        let w : Word := BitVec.ofNat 64 val
        let w := if infinite && tmpchars != 16 then w ||| (BitVec.allOnes 64 <<< (4 * tmpchars)) else w
        tasksetLoop fuel (cur.drop tmpchars) (chars - tmpchars) (count - 1) (setCell ws (count - 1) w) infinite

/-- the part of `hwloc_bitmap_taskset_sscanf` after the prefix handling -/
def tasksetGo (cur : List Byte) (infinite : Bool) : ScanRes :=
  let chars := cur.length
  let count := (chars * 4 + 63) / 64
  tasksetLoop (count + 1) cur chars count (List.replicate count none) infinite

def tasksetScan (s : List Byte) : ScanRes :=
  if isPrefix (str "0xf...f") s then
    if (s.drop 7).isEmpty then .ok [some (BitVec.allOnes 64)] true else tasksetGo (s.drop 7) true
  else if isPrefix (str "0x") s then
    if (s.drop 2).isEmpty then .ok [some 0#64] false else tasksetGo (s.drop 2) false
  else
    if s.isEmpty then .ok [some 0#64] false else tasksetGo s false

end Bitmap
end Hw
