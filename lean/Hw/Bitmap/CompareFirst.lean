/-
  Hw.Bitmap.CompareFirst — `hwloc_bitmap_compare_first` (literal model) has the sign of the
  comparison of the two `first` indexes, the empty set being the greatest.
-/
import Hw.Bitmap.Order
namespace Hw

/-- the documented meaning of `compare_first` in terms of the two `first` results -/
def cmpFirstSpec (f1 f2 : Int) : Int :=
  if f1 = f2 then 0 else if f1 = -1 then 1 else if f2 = -1 then -1 else if f1 < f2 then -1 else 1

def sgn (v : Int) : Int := if v < 0 then -1 else if 0 < v then 1 else 0

theorem sgn_of_pos {v : Int} (h : 0 < v) : sgn v = 1 := by
  unfold sgn; rw [if_neg (by omega), if_pos h]
theorem sgn_of_neg {v : Int} (h : v < 0) : sgn v = -1 := by
  unfold sgn; rw [if_pos h]

theorem cmpFirstSpec_self (x : Int) : cmpFirstSpec x x = 0 := by
  unfold cmpFirstSpec; rw [if_pos rfl]
theorem cmpFirstSpec_lt {x y : Int} (hx : 0 ≤ x) (h : y = -1 ∨ x < y) : cmpFirstSpec x y = -1 := by
  unfold cmpFirstSpec
  rw [if_neg (by omega), if_neg (by omega)]
  split
  · rfl
  · rw [if_pos (by omega)]
theorem cmpFirstSpec_gt {x y : Int} (hy : 0 ≤ y) (h : x = -1 ∨ y < x) : cmpFirstSpec x y = 1 := by
  unfold cmpFirstSpec
  rw [if_neg (by omega)]
  split
  · rfl
  · rw [if_neg (by omega), if_neg (by omega)]
theorem sgn_cmpFirstSpec (x y : Int) : sgn (cmpFirstSpec x y) = cmpFirstSpec x y := by
  unfold cmpFirstSpec
  repeat' split
  all_goals rfl
theorem sgn_sub_eq_cmpFirstSpec {x y v : Int} (hx : 0 ≤ x) (hy : 0 ≤ y) (hv : v = x - y) :
    sgn v = cmpFirstSpec x y := by
  rcases Int.lt_trichotomy x y with h | h | h
  · rw [sgn_of_neg (by omega), cmpFirstSpec_lt hx (Or.inr h)]
  · rw [h, cmpFirstSpec_self, hv, h, Int.sub_self]; rfl
  · rw [sgn_of_pos (by omega), cmpFirstSpec_gt hy (Or.inr h)]
namespace Bitmap

theorem first_of_firstNZ_some (b : Bitmap) (i : Nat) (h : b.firstNZ = some i) :
    b.first = ((ffsl (b.readWord i) - 1 + 64 * i : Nat) : Int) := by
  unfold first; rw [h]

theorem first_of_firstNZ_none (b : Bitmap) (h : b.firstNZ = none) :
    b.first = if b.inf then ((b.count * 64 : Nat) : Int) else -1 := by
  unfold first; rw [h]

theorem firstNZ_some_of (b : Bitmap) (i : Nat) (hi : i < b.count) (hne : b.readWord i ≠ 0#64)
    (hz : ∀ k, k < i → b.readWord k = 0#64) : b.firstNZ = some i := by
  unfold firstNZ
  apply lowest_some.mpr
  refine ⟨hi, by simpa using hne, fun k hk => by simp [hz k hk]⟩

theorem firstNZ_none_of (b : Bitmap) (hz : ∀ k, k < b.count → b.readWord k = 0#64) : b.firstNZ = none := by
  unfold firstNZ
  apply lowest_none.mpr
  intro k hk; simp [hz k hk]

theorem first_ge_neg_one (b : Bitmap) : -1 ≤ b.first := by
  rcases first_spec b with ⟨e, _⟩ | ⟨n, e, _, _⟩ <;> omega

theorem first_of_zero_prefix (b : Bitmap) (K : Nat) (hz : ∀ k, k < K → b.readWord k = 0#64) :
    b.first = -1 ∨ ((64 * K : Nat) : Int) ≤ b.first := by
  rcases first_spec b with ⟨e, _⟩ | ⟨n, e, hn, _⟩
  · exact Or.inl e
  · right
    rw [e]
    have : ¬ n / 64 < K := by
      intro hk
      rw [mem_def, hz _ hk] at hn
      simp at hn
    have : 64 * K ≤ n := by omega
    exact_mod_cast this

theorem first_ne_neg_one_of_word (b : Bitmap) (i : Nat) (hne : b.readWord i ≠ 0#64) : b.first ≠ -1 := by
  intro e
  rcases first_spec b with ⟨_, h0⟩ | ⟨n, e', _, _⟩
  · exact hne ((readWord_fill_iff b i false).mpr (fun j _ => h0 _))
  · omega

theorem first_eq_of (b : Bitmap) (n : Nat) (hn : b.mem n = true) (hl : ∀ m, m < n → b.mem m = false) :
    b.first = (n : Int) :=
  (first_spec b).unique (Or.inr ⟨n, rfl, hn, hl⟩)

theorem first_mem (b : Bitmap) (n : Nat) (h : b.first = (n : Int)) : b.mem n = true := by
  rcases first_spec b with ⟨e, _⟩ | ⟨n', e, hn, _⟩
  · omega
  · have : n = n' := by omega
    rw [this]; exact hn

/-- `x` has only zero words and `y` begins with as many zero words: the tests `hwloc_bitmap_compare_first`
makes on the rest of `y` compare the two `first` results, whichever of the two operands `x` is -/
theorem cmpFirstSpec_of_zero_words (x y : Bitmap)
    (hzx : ∀ k, k < x.count → x.readWord k = 0#64) (hzy : ∀ k, k < x.count → y.readWord k = 0#64) :
    cmpFirstSpec x.first y.first =
      (if x.inf then (if (y.readWord x.count).getLsbD 0 then 0 else -1)
       else if (List.range y.count).any (fun i => decide (x.count ≤ i) && y.readWord i != 0#64) then 1
       else compareFirstTail x.inf y.inf) ∧
    cmpFirstSpec y.first x.first =
      (if x.inf then (if (y.readWord x.count).getLsbD 0 then 0 else 1)
       else if (List.range y.count).any (fun i => decide (x.count ≤ i) && y.readWord i != 0#64) then -1
       else compareFirstTail y.inf x.inf) := by
  have hfx := first_of_firstNZ_none x (firstNZ_none_of x hzx)
  cases hx : x.inf with
  | true =>
    -- `y.first`, if any, is at least `x.first = x.count * 64`, with equality exactly when that bit of `y` is set
    have hbit : (y.readWord x.count).getLsbD 0 = y.mem (x.count * 64) := by
      rw [readWord_getLsbD y x.count 0 (by omega), Nat.add_zero, Nat.mul_comm]
    rw [hx, if_pos rfl] at hfx
    rw [if_pos rfl, if_pos rfl, hfx, hbit]
    cases hm : y.mem (x.count * 64) with
    | true =>
      rw [first_eq_of y _ hm fun m hm => by rw [mem_def, hzy _ (by omega)]; exact BitVec.getLsbD_zero]
      exact ⟨cmpFirstSpec_self _, cmpFirstSpec_self _⟩
    | false =>
      have := first_of_zero_prefix y x.count hzy
      have : y.first ≠ ((x.count * 64 : Nat) : Int) := fun h => by rw [first_mem y _ h] at hm; cases hm
      exact ⟨cmpFirstSpec_lt (by omega) (by omega), cmpFirstSpec_gt (by omega) (by omega)⟩
  | false =>
    rw [hx, if_neg Bool.false_ne_true] at hfx
    rw [if_neg Bool.false_ne_true, if_neg Bool.false_ne_true, hfx]
    cases hany : (List.range y.count).any (fun i => decide (x.count ≤ i) && y.readWord i != 0#64) with
    | true =>
      obtain ⟨i, _, hi⟩ := List.any_eq_true.mp hany
      simp only [Bool.and_eq_true, decide_eq_true_eq, bne_iff_ne, ne_eq] at hi
      have := first_ne_neg_one_of_word y i hi.2
      have := first_ge_neg_one y
      exact ⟨cmpFirstSpec_gt (by omega) (Or.inl rfl), cmpFirstSpec_lt (by omega) (Or.inl rfl)⟩
    | false =>
      rw [first_of_firstNZ_none y (firstNZ_none_of y fun k hk => ?_)]
      · cases y.inf with
        | true =>
          exact ⟨cmpFirstSpec_gt (Int.natCast_nonneg _) (Or.inl rfl), cmpFirstSpec_lt (Int.natCast_nonneg _) (Or.inl rfl)⟩
        | false => exact ⟨rfl, rfl⟩
      · by_cases hk2 : k < x.count
        · exact hzy k hk2
        · have := List.any_eq_false.mp hany k (List.mem_range.mpr hk)
          simp only [Bool.not_eq_true, Bool.and_eq_false_iff, decide_eq_false_iff_not, bne_eq_false_iff_eq] at this
          exact this.resolve_left (fun h => h (by omega))

theorem compareFirst_spec (a b : Bitmap) : sgn (a.compareFirst b) = cmpFirstSpec a.first b.first := by
  unfold compareFirst
  extract_lets minc
  have zeros : ∀ {K}, (∀ k, k < K → (a.readWord k != 0#64 || b.readWord k != 0#64) = false) →
      (∀ k, k < K → a.readWord k = 0#64) ∧ (∀ k, k < K → b.readWord k = 0#64) := fun h => by
    simp only [Bool.or_eq_false_iff, bne_eq_false_iff_eq] at h
    exact ⟨fun k hk => (h k hk).1, fun k hk => (h k hk).2⟩
  cases hl : lowest (fun i => a.readWord i != 0#64 || b.readWord i != 0#64) minc with
  | some i =>
    obtain ⟨hi, hor, hlow⟩ := lowest_some.mp hl
    have hi' : i < a.count ∧ i < b.count := by omega
    obtain ⟨hza, hzb⟩ := zeros hlow
    have hit : ∀ x : Bitmap, i < x.count → (∀ k, k < i → x.readWord k = 0#64) → x.readWord i ≠ 0#64 →
        1 ≤ ffsl (x.readWord i) ∧ ffsl (x.readWord i) ≤ 64 ∧
          x.first = ((ffsl (x.readWord i) - 1 + 64 * i : Nat) : Int) := fun x hx hz hne =>
      ⟨(ffsl_spec _ hne).1, (ffsl_spec _ hne).2.1, first_of_firstNZ_some x i (firstNZ_some_of x i hx hne hz)⟩
    have miss : ∀ x : Bitmap, (∀ k, k < i → x.readWord k = 0#64) → x.readWord i = 0#64 →
        ffsl (x.readWord i) = 0 ∧ (x.first = -1 ∨ ((64 * (i + 1) : Nat) : Int) ≤ x.first) := fun x hz h0 =>
      ⟨(ffsl_eq_zero_iff _).mpr h0, first_of_zero_prefix x (i + 1) fun k hk => by
        by_cases hk' : k < i
        · exact hz k hk'
        · rw [show k = i by omega]; exact h0⟩
    dsimp only
    by_cases ha : a.readWord i = 0#64
    · have hb : b.readWord i ≠ 0#64 := by
        intro hb; rw [ha, hb] at hor; simp at hor
      obtain ⟨fa0, hfa⟩ := miss a hza ha
      obtain ⟨g1, g2, hfb⟩ := hit b hi'.2 hzb hb
      rw [if_neg (fun h => h.1 fa0), sgn_of_pos (by omega), cmpFirstSpec_gt (by omega) (by omega)]
    · obtain ⟨g1, g2, hfa⟩ := hit a hi'.1 hza ha
      by_cases hb : b.readWord i = 0#64
      · obtain ⟨fb0, hfb⟩ := miss b hzb hb
        rw [if_neg (fun h => h.2 fb0), sgn_of_neg (by omega), cmpFirstSpec_lt (by omega) (by omega)]
      · obtain ⟨k1, k2, hfb⟩ := hit b hi'.2 hzb hb
        rw [if_pos ⟨Nat.ne_of_gt g1, Nat.ne_of_gt k1⟩, hfa, hfb]
        exact sgn_sub_eq_cmpFirstSpec (Int.natCast_nonneg _) (Int.natCast_nonneg _) (by omega)
  | none =>
    obtain ⟨hza, hzb⟩ := zeros (lowest_none.mp hl)
    have hminc : minc = min a.count b.count := rfl
    dsimp only
    by_cases hlt : a.count < b.count
    · have hmin : minc = a.count := by omega
      rw [hmin] at hza hzb
      rw [if_pos hlt, hmin, ← (cmpFirstSpec_of_zero_words a b hza hzb).1, sgn_cmpFirstSpec]
    · rw [if_neg hlt]
      by_cases hgt : b.count < a.count
      · have hmin : minc = b.count := by omega
        rw [hmin] at hza hzb
        rw [if_pos hgt, hmin, ← (cmpFirstSpec_of_zero_words b a hzb hza).2, sgn_cmpFirstSpec]
      · have heq : a.count = b.count := by omega
        have hmin : minc = a.count := by omega
        rw [hmin] at hza hzb
        rw [if_neg hgt, first_of_firstNZ_none a (firstNZ_none_of a hza),
          first_of_firstNZ_none b (firstNZ_none_of b (heq ▸ hzb)), heq]
        cases a.inf <;> cases b.inf <;> simp [compareFirstTail, sgn, cmpFirstSpec] <;> omega

end Bitmap
end Hw
