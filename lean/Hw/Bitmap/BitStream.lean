/-
  Hw.Bitmap.BitStream — the bits of a stream of 64-bit words.  A bitmap denotes the stream `b.readWord`
  (its stored words, then the fill word for ever) and `b.mem` is `bitAt b.readWord` by definition.  Every
  search of hwloc/bitmap.c (first / next / last, compare) looks for the first or last non-zero word of such a
  stream and applies `ffsl` / `flsl` to it: that finds the lowest / highest set bit, stated here once.
-/
import Hw.Bitmap.Repr
namespace Hw

def bitAt (f : Nat → Word) (n : Nat) : Bool := (f (n / 64)).getLsbD (n % 64)

theorem bitAt_word (f : Nat → Word) (i j : Nat) (hj : j < 64) : bitAt f (64 * i + j) = (f i).getLsbD j := by
  unfold bitAt
  rw [Nat.mul_add_div (by decide), Nat.mul_add_mod, Nat.div_eq_of_lt hj, Nat.mod_eq_of_lt hj, Nat.add_zero]

theorem bitAt_zero_word {f : Nat → Word} {m : Nat} (h : f (m / 64) = 0#64) : bitAt f m = false := by
  unfold bitAt; rw [h]; exact BitVec.getLsbD_zero

/-- a position below bit `j` of word `i` lies in an earlier word, or in word `i` at a lower bit -/
theorem lt_bit_iff {i j m : Nat} (hj : j < 64) : m < 64 * i + j ↔ m / 64 < i ∨ (m / 64 = i ∧ m % 64 < j) := by omega

theorem bit_lt_cases {i j m : Nat} (h : 64 * i + j < m) : i < m / 64 ∨ (m / 64 = i ∧ j < m % 64) := by omega

theorem lowestBit_some {f : Nat → Word} {i0 c i : Nat}
    (h : lowest (fun i => decide (i0 ≤ i) && f i != 0#64) c = some i) :
    i0 ≤ i ∧ i < c ∧ bitAt f (ffsl (f i) - 1 + 64 * i) = true ∧
      ∀ m, i0 ≤ m / 64 → m < ffsl (f i) - 1 + 64 * i → bitAt f m = false := by
  obtain ⟨hic, hne, hlow⟩ := lowest_some.mp h
  rw [Bool.and_eq_true, decide_eq_true_eq, bne_iff_ne] at hne
  obtain ⟨f1, f2, f3, f4⟩ := ffsl_spec _ hne.2
  have hj : ffsl (f i) - 1 < 64 := Nat.sub_one_lt_of_le f1 f2
  refine ⟨hne.1, hic, ?_, fun m h0 hm => ?_⟩
  · rw [Nat.add_comm, bitAt_word f i _ hj]; exact f3
  · rcases (lt_bit_iff hj).mp (Nat.add_comm _ _ ▸ hm) with hi | ⟨hi, hj⟩
    · exact bitAt_zero_word (by simpa [h0] using hlow (m / 64) hi)
    · unfold bitAt; rw [hi]; exact f4 _ hj

theorem lowestBit_none {f : Nat → Word} {i0 c : Nat} (h : lowest (fun i => decide (i0 ≤ i) && f i != 0#64) c = none)
    (m : Nat) (h0 : i0 ≤ m / 64) (hm : m / 64 < c) : bitAt f m = false :=
  bitAt_zero_word (by simpa [h0] using lowest_none.mp h (m / 64) hm)

theorem highestBit_some {f : Nat → Word} {c i : Nat} (h : highest (fun i => f i != 0#64) c = some i) :
    i < c ∧ bitAt f (flsl (f i) - 1 + 64 * i) = true ∧
      ∀ m, flsl (f i) - 1 + 64 * i < m → m / 64 < c → bitAt f m = false := by
  obtain ⟨hic, hne, hhigh⟩ := highest_some.mp h
  obtain ⟨f1, f2, f3, f4⟩ := flsl_spec _ (by simpa using hne : f i ≠ 0#64)
  refine ⟨hic, ?_, fun m hm hmc => ?_⟩
  · rw [Nat.add_comm, bitAt_word f i _ (Nat.sub_one_lt_of_le f1 f2)]; exact f3
  · rcases bit_lt_cases (Nat.add_comm _ _ ▸ hm) with hi | ⟨hi, hj⟩
    · exact bitAt_zero_word (by simpa using hhigh (m / 64) hi hmc)
    · unfold bitAt; rw [hi]; exact f4 _ hj (Nat.mod_lt _ (by decide))

theorem highestBit_none {f : Nat → Word} {c : Nat} (h : highest (fun i => f i != 0#64) c = none) (m : Nat)
    (hm : m / 64 < c) : bitAt f m = false :=
  bitAt_zero_word (by simpa using highest_none.mp h (m / 64) hm)

end Hw
