/-
  Hw.Bitmap.ScanCursor — cursor-level models of `hwloc_bitmap_sscanf`, `hwloc_bitmap_list_sscanf`
  and `hwloc_bitmap_taskset_sscanf` (hwloc/bitmap.c 375–450, 516–569, 672–742) exactly as the C
  walks the string.

  The input is a byte list `s`; the memory the C sees is `s ++ [NUL]` (an allocation of
  `s.length + 1` bytes).  Every character access goes through `rd s i` and is recorded in the read
  log (`Log.reads`); the index `s.length` is the terminating NUL, anything larger is an
  out-of-bounds read.  Every store into `set->ulongs[]` is recorded with the `ulongs_count` that
  `hwloc_bitmap_reset_by_ulongs` established (`Log.writes`, the index is an `Int` because the C
  computes `count-1`), every store into the 17-byte `ustr` scratch buffer in `Log.ustr`.

  libc is modelled by small functions that log the indexes libc reads:
  `strchr` (up to and including the match or the NUL), `strncmp` against a NUL-free literal (up to
  and including the first mismatch), `strlen`, `memcpy`, and `strtoul` (white space, optional sign,
  optional `0x`, digits, up to and including the first byte that stops the digit loop; the value and
  `endptr` follow glibc, including a sign: the value is negated modulo 2^64 unless it overflowed).

  Embedded NUL bytes in `s` are allowed: every scan stops at the first one exactly as the C does.
-/
import Hw.Bitmap.Scan
namespace Hw
namespace Bitmap
namespace Cursor

/-- the byte at index `i` of the NUL-terminated string; (out-of-bounds indexes read as NUL too, but
they are logged and the safety theorems show they never occur) -/
def rd (s : List Byte) (i : Nat) : Byte := s.getD i 0

structure Log where
  reads : List Nat            -- indexes into the input string
  writes : List (Int × Nat)   -- (index into set->ulongs[], ulongs_count at that time)
  ustr : List Nat             -- indexes into `char ustr[17]` (taskset parser)
deriving Repr

def Log.empty : Log := ⟨[], [], []⟩
def Log.rd (lg : Log) (i : Nat) : Log := { lg with reads := i :: lg.reads }
/-- `k` consecutive reads starting at `i` -/
def Log.rdRange (lg : Log) (i k : Nat) : Log := { lg with reads := (List.range k).map (i + ·) ++ lg.reads }
def Log.wr (lg : Log) (i : Int) (cnt : Nat) : Log := { lg with writes := (i, cnt) :: lg.writes }
def Log.uwRange (lg : Log) (k : Nat) : Log := { lg with ustr := List.range k ++ lg.ustr }
def Log.uw (lg : Log) (i : Nat) : Log := { lg with ustr := i :: lg.ustr }

/-- result of a parser run -/
inductive CRes
  | ok (words : List (Option Word)) (inf : Bool)   -- return 0
  | fail                                           -- return -1, destination zeroed
  | assertFail                                     -- `assert(count > 0)` of hwloc_bitmap_sscanf fired
  | okBig                                          -- list format: return 0, but an index ≥ 2^21 went into a bitmap call (set not modelled)
deriving Repr, DecidableEq

structure Out where
  res : CRes
  log : Log
  nalloc : Nat      -- the count handed to `hwloc_bitmap_reset_by_ulongs` (1 on the fill/zero paths; 0 = not applicable)
  big : Bool        -- list format: some strtoul returned a value ≥ 2^21 (outside the set-level domain)
deriving Repr

/-- the view of the old structural models -/
def CRes.toScan : CRes → ScanRes
  | .ok ws inf => .ok ws inf
  | .fail => .fail
  | .assertFail => .fail
  | .okBig => .unsupported

/-! ### allocation sizing (`hwloc_bitmap_enlarge_by_ulongs`) -/

/-- `1U << hwloc_flsl(needed - 1)` -/
def pow2ceil (needed : Nat) : Nat := if needed ≤ 1 then 1 else 2 ^ (Nat.log2 (needed - 1) + 1)
/-- `ulongs_allocated` after `hwloc_bitmap_reset_by_ulongs(set, needed)` when it was `prev` before -/
def allocFor (prev needed : Nat) : Nat := if pow2ceil needed > prev then pow2ceil needed else prev

/-! ### scanning primitives -/

/-- `while (p(s[i])) i++` : the index where the loop stops.  Every `p` used is false on NUL. -/
def scanWhile (p : Byte → Bool) (s : List Byte) : Nat → Nat → Nat
  | 0, i => i
  | fuel+1, i => if p (rd s i) then scanWhile p s fuel (i+1) else i

/-- number of leading bytes of `pat` that equal the string at `i` (`strncmp` walks exactly these plus the first mismatch) -/
def matchLen (s : List Byte) : Nat → List Byte → Nat
  | _, [] => 0
  | i, c :: cs => if rd s i = c then 1 + matchLen s (i+1) cs else 0

/-- `strncmp(pat, s+i, pat.length)` for a NUL-free literal: (equal?, log) -/
def strncmpC (s : List Byte) (i : Nat) (pat : List Byte) (lg : Log) : Bool × Log :=
  let m := matchLen s i pat
  (m == pat.length, lg.rdRange i (if m = pat.length then m else m + 1))

/-! ### strtoul -/

/-- base / prefix selection of strtoul after white space and sign (same decision structure as
`Hw.strtoul`): the base and the place where the digit loop starts -/
def strtoPrefix (base : Nat) (s1 : List Byte) : Nat × List Byte :=
  match s1 with
  | 48 :: x :: d :: r =>
    if (x == 120 || x == 88) && isDigitIn 16 d && (base == 16 || base == 0) then (16, d :: r)
    else if base == 0 then (8, s1) else (base, s1)
  | 48 :: _ => if base == 0 then (8, s1) else (base, s1)
  | _ => if base == 0 then (10, s1) else (base, s1)

/-- the part of strtoul after white space and sign: `s1` is what follows them, `neg` the sign -/
def strtoCore (base : Nat) (l s1 : List Byte) (neg : Bool) : Nat × Nat :=
  let bs := strtoPrefix base s1
  let t := takeDigits bs.1 bs.2 0 0
  if t.2.1 = 0 then (0, 0)
  else ((if t.1 > ulongMax then ulongMax else if neg then (2^64 - t.1) % 2^64 else t.1), l.length - t.2.2.length)

/-- value and `endptr - nptr` of `strtoul(l, &end, base)`, total (signs included) -/
def strtoulL (base : Nat) (l : List Byte) : Nat × Nat :=
  match l.dropWhile isSpace with
  | 45 :: r => strtoCore base l r true
  | 43 :: r => strtoCore base l r false
  | s1 => strtoCore base l s1 false

/-- number of bytes libc reads, starting at `i` (contiguous): white space, sign, `0x`, digits, and
the byte that stops the digit loop -/
def strtoScanned (base : Nat) (s : List Byte) (i : Nat) : Nat :=
  let fuel := s.length + 1
  let p := scanWhile isSpace s fuel i
  let q := if rd s p = 45 ∨ rd s p = 43 then p + 1 else p
  let hasX : Bool := rd s q == 48 && (rd s (q+1) == 120 || rd s (q+1) == 88) && (base == 16 || base == 0)
  let b := if hasX then 16 else if base == 0 then (if rd s q = 48 then 8 else 10) else base
  let d0 := if hasX then q + 2 else q
  let e := scanWhile (isDigitIn b) s fuel d0
  e + 1 - i

structure Strto where
  val : Nat
  adv : Nat
  scanned : Nat

def strtoulC (base : Nat) (s : List Byte) (i : Nat) : Strto :=
  let r := strtoulL base (s.drop i)
  ⟨r.1, r.2, strtoScanned base s i⟩

/-! ### hwloc format -/

/-- the comma-counting pre-pass: `while ((current = strchr(current, ',')) != NULL) { count++; current++; }` -/
def commaPass (s : List Byte) : Nat → Nat → Nat → Log → Nat × Log
  | 0, _, count, lg => (count, lg)        -- unreachable: fuel = length + 1
  | fuel+1, cur, count, lg =>
    let j := scanWhile (fun c => c != 44 && c != 0) s (s.length + 1) cur     -- strchr
    let lg := lg.rdRange cur (j + 1 - cur)
    if rd s j = 44 then commaPass s fuel (j + 1) (count + 1) lg else (count, lg)

def pat_inf : List Byte := [48, 120, 102, 46, 46, 46, 102]     -- "0xf...f"
def pat_0x : List Byte := [48, 120]                              -- "0x"

/-- main loop of `hwloc_bitmap_sscanf`; `nw` = `ulongs_count` after the reset; fuel = `count`
(so fuel 0 is exactly the state in which the assert fires) -/
def hwlocLoopC (s : List Byte) (nw : Nat) : Nat → Nat → Nat → Word → List (Option Word) → Bool → Log → Out
  | 0, cur, _, _, _, _, lg =>
    ⟨.assertFail, lg.rdRange cur (strtoulC 16 s cur).scanned, nw, false⟩
  | fuel+1, cur, count, accum, ws, infinite, lg =>
    let r := strtoulC 16 s cur
    let lg := lg.rdRange cur r.scanned
    let next := cur + r.adv
    if count = 0 then ⟨.assertFail, lg, nw, false⟩ else
    let count := count - 1
    let accum := accum ||| (BitVec.ofNat 64 r.val <<< ((count * 32) % 64))
    let st : List (Option Word) × Word × Log :=
      if count % 2 = 0 then (setCell ws (count / 2) accum, 0#64, lg.wr ((count / 2 : Nat) : Int) nw) else (ws, accum, lg)
    let lg := st.2.2.rd next
    if rd s next = 44 then hwlocLoopC s nw fuel (next + 1) count st.2.1 st.1 infinite lg
    else if rd s next ≠ 0 ∨ count > 0 then ⟨.fail, lg.wr 0 1, nw, false⟩     -- hwloc_bitmap_zero
    else ⟨.ok st.1 infinite, lg, nw, false⟩

def hwlocSscanfC (s : List Byte) : Out :=
  let cp := commaPass s (s.length + 1) 0 1 Log.empty
  let count := cp.1
  let m := strncmpC s 0 pat_inf cp.2
  if m.1 then
    let lg := m.2.rd 7
    if rd s 7 ≠ 44 then ⟨.ok [some (BitVec.allOnes 64)] true, lg.wr 0 1, 1, false⟩     -- hwloc_bitmap_fill
    else
      let count := count - 1
      let ulongcount := (count + 1) / 2
      let accum : Word := if count % 2 ≠ 0 then BitVec.ofNat 64 (0xFFFFFFFF <<< 32) else 0#64
      hwlocLoopC s ulongcount count 8 count accum (List.replicate ulongcount none) true lg
  else
    let ulongcount := (count + 1) / 2
    hwlocLoopC s ulongcount count 0 count 0#64 (List.replicate ulongcount none) false m.2

/-! ### list format -/

/-- the `long val` of the C seen as an unsigned 64-bit number; `begin = -1` is `none` -/
def begOf (val : Nat) : Option Nat := if val = 2^64 - 1 then none else some val

def okOf (b : Option Bitmap) : CRes :=
  match b with
  | some b => .ok (b.words.map some) b.inf
  | none => .okBig

/-- `hwloc_bitmap_list_sscanf`.  (Stores into `ulongs[]` other than those of `hwloc_bitmap_zero` happen inside
`hwloc_bitmap_set` / `hwloc_bitmap_set_range`, which are the C03 models `Bitmap.set` / `Bitmap.setRange`.)  The set built so far is `none` once an index ≥ 2^21 went into a
bitmap call (the walk over the string goes on; `hwloc_bitmap_set_range` is assumed not to fail:
no allocation failure). -/
def listLoopC (s : List Byte) : Nat → Nat → Option Bitmap → Option Nat → Bool → Log → Out
  | 0, _, _, _, big, lg => ⟨.fail, lg, 0, big⟩           -- unreachable: fuel = length + 1
  | fuel+1, cur, b, beg, big, lg =>
    let lg := lg.rd cur                                        -- while (*current != '\0')
    if rd s cur = 0 then ⟨okOf b, lg, 0, big⟩ else
    let c1 := scanWhile (fun c => c == 44 || c == 32) s (s.length + 1) cur     -- ignore empty ranges
    let lg := lg.rdRange cur (c1 + 1 - cur)
    let r := strtoulC 0 s c1
    let lg := lg.rdRange c1 r.scanned
    let next := c1 + r.adv
    if r.adv = 0 then ⟨.fail, lg.wr 0 1, 0, big⟩ else            -- next == current: failed, hwloc_bitmap_zero
    let isBig := decide (listMaxIndex ≤ r.val)
    let big := big || isBig
    let b := if isBig then none else b
    match beg with
    | some b0 =>
      -- finishing a range
      let b := b.map (fun b => b.setRange b0 (some r.val))
      let lg := lg.rd next
      if rd s next = 0 then ⟨okOf b, lg, 0, big⟩ else listLoopC s fuel (next + 1) b none big lg
    | none =>
      let lg := lg.rd next
      if rd s next = 45 then
        let lg := lg.rd (next + 1)
        if rd s (next + 1) = 0 then ⟨okOf (b.map (fun b => b.setRange r.val none)), lg, 0, big⟩     -- infinite range; break
        else listLoopC s fuel (next + 1) b (begOf r.val) big lg
      else if rd s next = 44 ∨ rd s next = 32 ∨ rd s next = 0 then
        let b := b.map (fun b => b.set r.val)
        if rd s next = 0 then ⟨okOf b, lg, 0, big⟩ else listLoopC s fuel (next + 1) b none big lg
      else
        if rd s next = 0 then ⟨okOf b, lg, 0, big⟩ else listLoopC s fuel (next + 1) b none big lg

def listSscanfC (s : List Byte) : Out :=
  listLoopC s (s.length + 1) 0 (some ⟨[0#64], false⟩) none false (Log.empty.wr 0 1)     -- hwloc_bitmap_zero

/-! ### taskset format -/

/-- loop of `hwloc_bitmap_taskset_sscanf`; `nw` = `ulongs_count` after the reset -/
def tasksetLoopC (s : List Byte) (nw : Nat) : Nat → Nat → Nat → Nat → List (Option Word) → Bool → Log → Out
  | 0, _, _, _, _, _, lg => ⟨.fail, lg, nw, false⟩       -- unreachable
  | fuel+1, cur, chars, count, ws, infinite, lg =>
    let lg := lg.rd cur                                        -- while (*current != '\0')
    if rd s cur = 0 then ⟨.ok ws infinite, lg, nw, false⟩ else
    let tmpchars := if chars % 16 = 0 then 16 else chars % 16
    let ustr := (List.range tmpchars).map (fun j => rd s (cur + j))          -- memcpy(ustr, current, tmpchars)
    let lg := ((lg.rdRange cur tmpchars).uwRange tmpchars).uw tmpchars       --  + ustr[tmpchars] = 0
    let r := strtoulL 16 ustr                                                -- strtoul(ustr, &next, 16): reads the local buffer only
    if ustr.getD r.2 0 ≠ 0 then ⟨.fail, lg.wr 0 1, nw, false⟩ else           -- *next != '\0'
    let w : Word := BitVec.ofNat 64 r.1
    let w := if infinite && tmpchars != 16 then w ||| (BitVec.allOnes 64 <<< (4 * tmpchars)) else w
    let lg := lg.wr ((count : Int) - 1) nw
    tasksetLoopC s nw fuel (cur + tmpchars) (chars - tmpchars) (count - 1) (setCell ws (count - 1) w) infinite lg

def tasksetGoC (s : List Byte) (cur : Nat) (infinite : Bool) (lg : Log) : Out :=
  let e := scanWhile (fun c => c != 0) s (s.length + 1) cur        -- strlen(current)
  let lg := lg.rdRange cur (e + 1 - cur)
  let chars := e - cur
  let count := (chars * 4 + 63) / 64
  tasksetLoopC s count (count + 1) cur chars count (List.replicate count none) infinite lg

def tasksetSscanfC (s : List Byte) : Out :=
  let m := strncmpC s 0 pat_inf Log.empty
  if m.1 then
    let lg := m.2.rd 7
    if rd s 7 = 0 then ⟨.ok [some (BitVec.allOnes 64)] true, lg.wr 0 1, 1, false⟩     -- hwloc_bitmap_fill
    else tasksetGoC s 7 true lg
  else
    let m2 := strncmpC s 0 pat_0x m.2
    let cur := if m2.1 then 2 else 0
    let lg := m2.2.rd cur
    if rd s cur = 0 then ⟨.ok [some 0#64] false, lg.wr 0 1, 1, false⟩                  -- hwloc_bitmap_zero
    else tasksetGoC s cur false lg

/-! ### observations used by the differential tie -/

def Log.maxRead (lg : Log) : Nat := lg.reads.foldl max 0

end Cursor
end Bitmap
end Hw
