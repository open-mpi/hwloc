/-
  Hw.Bitmap.History — API histories over a pool of bitmap handles, the abstract set semantics
  they refine, and the invariant over every reachable pool.
-/
import Hw.Bitmap.Order
namespace Hw
namespace Bitmap

/-- the modifying part of the public bitmap API, over handles (`Nat`) into a pool -/
inductive Op
  | alloc (h : Nat) | allocFull (h : Nat) | dup (h s : Nat) | copy (h s : Nat)
  | zero (h : Nat) | fill (h : Nat) | only (h c : Nat) | allbut (h c : Nat)
  | fromUlong (h : Nat) (m : Word) | fromIthUlong (h i : Nat) (m : Word)
  | fromUlongs (h : Nat) (m : Word) (ms : List Word)          -- nr ≥ 1
  | set (h c : Nat) | clr (h c : Nat) | setIthUlong (h i : Nat) (m : Word)
  | setRange (h beg : Nat) (en : Option Nat) | clrRange (h beg : Nat) (en : Option Nat)
  | or (r a b : Nat) | and (r a b : Nat) | andnot (r a b : Nat) | xor (r a b : Nat) | not (r a : Nat)
  | singlify (h : Nat)

abbrev Pool := Nat → Bitmap

def Pool.upd (p : Pool) (h : Nat) (b : Bitmap) : Pool := fun k => if k = h then b else p k

/-- destination handle and new value of one API call (operands are read from the pool *before*
the call: that this is also what the C code computes when the destination aliases an operand is
the subject of `Hw.Bitmap.Alias`) -/
def Op.eval (p : Pool) : Op → Nat × Bitmap
  | .alloc h => (h, Bitmap.alloc)
  | .allocFull h => (h, Bitmap.allocFull)
  | .dup h s => (h, (p s).dup)
  | .copy h s => (h, (p h).copy (p s))
  | .zero h => (h, (p h).zero)
  | .fill h => (h, (p h).fill)
  | .only h c => (h, (p h).only c)
  | .allbut h c => (h, (p h).allbut c)
  | .fromUlong h m => (h, (p h).fromUlong m)
  | .fromIthUlong h i m => (h, (p h).fromIthUlong i m)
  | .fromUlongs h m ms => (h, (p h).fromUlongs (m :: ms))
  | .set h c => (h, (p h).set c)
  | .clr h c => (h, (p h).clr c)
  | .setIthUlong h i m => (h, (p h).setIthUlong i m)
  | .setRange h b e => (h, (p h).setRange b e)
  | .clrRange h b e => (h, (p h).clrRange b e)
  | .or r a b => (r, (p a).or (p b))
  | .and r a b => (r, (p a).and (p b))
  | .andnot r a b => (r, (p a).andnot (p b))
  | .xor r a b => (r, (p a).xor (p b))
  | .not r a => (r, (p a).not)
  | .singlify h => (h, (p h).singlify)

def step (p : Pool) (op : Op) : Pool := let (h, b) := op.eval p; p.upd h b

def run (p : Pool) (ops : List Op) : Pool := ops.foldl step p

/-- the pool every program starts from: every handle freshly allocated -/
def Pool.init : Pool := fun _ => Bitmap.alloc

theorem eval_inv (p : Pool) (hp : ∀ h, (p h).Inv) (op : Op) : (op.eval p).2.Inv :=
  match op with
  | .alloc _ => alloc_inv
  | .allocFull _ => allocFull_inv
  | .dup _ s => hp s
  | .copy _ s => hp s
  | .zero h => zero_inv (p h)
  | .fill h => fill_inv (p h)
  | .only h c => only_inv (p h) c
  | .allbut h c => allbut_inv (p h) c
  | .fromUlong h m => fromUlong_inv (p h) m
  | .fromIthUlong h i m => fromIthUlong_inv (p h) i m
  | .fromUlongs h m ms => fromUlongs_inv (p h) (m :: ms) (List.cons_ne_nil m ms)
  | .set _ _ => set_inv _ _ (hp _)
  | .clr _ _ => clr_inv _ _ (hp _)
  | .setIthUlong _ _ _ => setIthUlong_inv _ _ _ (hp _)
  | .setRange _ _ _ => setRange_inv _ _ _ (hp _)
  | .clrRange _ _ _ => clrRange_inv _ _ _ (hp _)
  | .or _ _ _ => or_inv _ _ (hp _) (hp _)
  | .and _ _ _ => and_inv _ _ (hp _) (hp _)
  | .andnot _ _ _ => andnot_inv _ _ (hp _) (hp _)
  | .xor _ _ _ => xor_inv _ _ (hp _) (hp _)
  | .not _ _ => not_inv _ (hp _)
  | .singlify _ => singlify_inv _ (hp _)

theorem step_inv (p : Pool) (hp : ∀ h, (p h).Inv) (op : Op) : ∀ h, ((step p op) h).Inv := by
  intro h
  unfold step Pool.upd
  simp only
  split
  · exact eval_inv p hp op
  · exact hp h

theorem run_inv (p : Pool) (hp : ∀ h, (p h).Inv) (ops : List Op) : ∀ h, ((run p ops) h).Inv := by
  induction ops generalizing p with
  | nil => exact hp
  | cons op ops ih => exact ih (step p op) (step_inv p hp op)

theorem init_inv : ∀ h, (Pool.init h).Inv := fun _ => alloc_inv

/-! ### the abstract semantics: sets of naturals as membership functions -/

abbrev SetPool := Nat → Nat → Bool

def Pool.abs (p : Pool) : SetPool := fun h n => (p h).mem n

/-- what one API call does to the sets: destination handle and its new set, from the sets of the pool
(`firstOf h` is the `first` of handle `h`, used by `singlify` only) -/
def specEval (s : SetPool) (firstOf : Nat → Int) : Op → Nat × (Nat → Bool)
  | .alloc h => (h, fun _ => false)
  | .allocFull h => (h, fun _ => true)
  | .dup h x => (h, s x)
  | .copy h x => (h, s x)
  | .zero h => (h, fun _ => false)
  | .fill h => (h, fun _ => true)
  | .only h c => (h, fun n => decide (n = c))
  | .allbut h c => (h, fun n => !decide (n = c))
  | .fromUlong h m => (h, fun n => decide (n < 64) && m.getLsbD n)
  | .fromIthUlong h i m => (h, fun n => decide (n / 64 = i) && m.getLsbD (n % 64))
  | .fromUlongs h m ms => (h, fun n => (((m :: ms)[n/64]?).getD 0#64).getLsbD (n % 64))
  | .set h c => (h, fun n => s h n || decide (n = c))
  | .clr h c => (h, fun n => s h n && !decide (n = c))
  | .setIthUlong h i m => (h, fun n => if n / 64 = i then m.getLsbD (n % 64) else s h n)
  | .setRange h b none => (h, fun n => s h n || decide (b ≤ n))
  | .setRange h b (some e) => (h, fun n => s h n || (decide (b ≤ n) && decide (n ≤ e)))
  | .clrRange h b none => (h, fun n => s h n && !decide (b ≤ n))
  | .clrRange h b (some e) => (h, fun n => s h n && !(decide (b ≤ n) && decide (n ≤ e)))
  | .or r a b => (r, fun n => s a n || s b n)
  | .and r a b => (r, fun n => s a n && s b n)
  | .andnot r a b => (r, fun n => s a n && !s b n)
  | .xor r a b => (r, fun n => s a n != s b n)
  | .not r a => (r, fun n => !s a n)
  | .singlify h => (h, fun n => decide (firstOf h = (n : Int)))

/-- every API call computes, on the denoted sets, the mathematical operation it is named after -/
theorem eval_refines (p : Pool) (op : Op) :
    (op.eval p).1 = (specEval p.abs (fun h => (p h).first) op).1 ∧
    ∀ n, (op.eval p).2.mem n = (specEval p.abs (fun h => (p h).first) op).2 n :=
  match op with
  | .alloc _ => ⟨rfl, mem_alloc⟩
  | .allocFull _ => ⟨rfl, mem_allocFull⟩
  | .dup _ _ => ⟨rfl, fun _ => rfl⟩
  | .copy _ _ => ⟨rfl, fun _ => rfl⟩
  | .zero h => ⟨rfl, mem_zero (p h)⟩
  | .fill h => ⟨rfl, mem_fill (p h)⟩
  | .only h c => ⟨rfl, mem_only (p h) c⟩
  | .allbut h c => ⟨rfl, mem_allbut (p h) c⟩
  | .fromUlong h m => ⟨rfl, mem_fromUlong (p h) m⟩
  | .fromIthUlong h i m => ⟨rfl, mem_fromIthUlong (p h) i m⟩
  | .fromUlongs h m ms => ⟨rfl, mem_fromUlongs (p h) (m :: ms)⟩
  | .set _ _ => ⟨rfl, mem_set _ _⟩
  | .clr _ _ => ⟨rfl, mem_clr _ _⟩
  | .setIthUlong _ _ _ => ⟨rfl, mem_setIthUlong _ _ _⟩
  | .setRange _ _ none => ⟨rfl, mem_setRange_none _ _⟩
  | .setRange _ _ (some _) => ⟨rfl, mem_setRange_some _ _ _⟩
  | .clrRange _ _ none => ⟨rfl, mem_clrRange_none _ _⟩
  | .clrRange _ _ (some _) => ⟨rfl, mem_clrRange_some _ _ _⟩
  | .or _ _ _ => ⟨rfl, mem_or _ _⟩
  | .and _ _ _ => ⟨rfl, mem_and _ _⟩
  | .andnot _ _ _ => ⟨rfl, mem_andnot _ _⟩
  | .xor _ _ _ => ⟨rfl, mem_xor _ _⟩
  | .not _ _ => ⟨rfl, mem_not _⟩
  | .singlify _ => ⟨rfl, mem_singlify _⟩

end Bitmap
end Hw
