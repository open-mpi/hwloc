/-
  Hw.Bitmap.Print — chunk lists of the three bitmap printers (hwloc/bitmap.c 252–358, 452–499,
  571–655).  One list element per `hwloc_snprintf` call, in call order (an element may be empty
  where the C code sets `res = 0`).  The chunk list never depends on the buffer size, so the
  returned length (sum of chunk lengths) is the length of the untruncated text.
-/
import Hw.Bitmap.Ops
import Hw.Base.Num
namespace Hw
namespace Bitmap

def hi32 (w : Word) : Nat := w.toNat / 2^32
def lo32 (w : Word) : Nat := w.toNat % 2^32

/-- number of low words that are printed: the words above are all equal to the fill word -/
def topWords (b : Bitmap) : Nat :=
  match highest (fun i => b.readWord i != fillW b.inf) b.count with
  | some i => i + 1
  | none => 0

/-- the 32-bit groups handed to the hwloc-format loop, most significant first -/
def groups (b : Bitmap) : List Nat :=
  ((List.range b.topWords).reverse.map (fun i => [hi32 (b.readWord i), lo32 (b.readWord i)])).flatten

/-- loop body of `hwloc_bitmap_snprintf` over the groups; state = (needcomma, merge) -/
def hwlocBody : List Nat → Bool → Bool → List (List Byte)
  | [], _, _ => []
  | g :: gs, needcomma, merge =>
    let last := gs.isEmpty
    if merge && g == 0xFFFFFFFF then [] :: hwlocBody gs needcomma false
    else if g != 0 then
      ((if needcomma then str ",0x" else str "0x") ++ hexPad 8 g) :: hwlocBody gs true false
    else if last then (if needcomma then str ",0x0" else str "0x0") :: hwlocBody gs needcomma false
    else if needcomma then str "," :: hwlocBody gs needcomma false
    else [] :: hwlocBody gs needcomma false

def chunksHwloc (b : Bitmap) : List (List Byte) :=
  let pre := if b.inf then [str "0xf...f"] else []
  let all := pre ++ hwlocBody b.groups b.inf b.inf
  if (text all).length = 0 then all ++ [str "0x0"] else all

/-- loop body of `hwloc_bitmap_taskset_snprintf`; words most significant first;
`isLast` tells whether the word is `ulongs[0]`; state = (started, merge) -/
def tasksetBody : List Word → Bool → Bool → List (List Byte)
  | [], _, _ => []
  | w :: ws, started, merge =>
    let isLast := ws.isEmpty
    if started then
      (if merge && hi32 w == 0xFFFFFFFF then hexPad 8 (lo32 w) else hexPad 16 w.toNat)
        :: tasksetBody ws true false
    else if w != 0#64 || isLast then (str "0x" ++ hexDigits w.toNat) :: tasksetBody ws true false
    else [] :: tasksetBody ws false false

/-- words printed by the taskset printer: a finite bitmap always keeps `ulongs[0]` -/
def tasksetTop (b : Bitmap) : Nat := if b.inf then b.topWords else max b.topWords 1

def chunksTaskset (b : Bitmap) : List (List Byte) :=
  let pre := if b.inf then [str "0xf...f"] else []
  let ws := (List.range b.tasksetTop).reverse.map b.readWord
  let all := pre ++ tasksetBody ws b.inf b.inf
  if (text all).length = 0 then all ++ [str "0x0"] else all

/-- `hwloc_bitmap_list_snprintf`: ranges from `next` / `next_unset`; `fuel` bounds the loop -/
def listBody (b : Bitmap) : Nat → Int → Bool → List (List Byte)
  | 0, _, _ => []
  | fuel+1, prev, needcomma =>
    let beg := b.next prev
    if beg = -1 then []
    else
      let en := b.nextUnset beg
      let comma := if needcomma then str "," else []
      if en = beg + 1 then (comma ++ decDigits beg.toNat) :: listBody b fuel (en - 1) true
      else if en = -1 then [comma ++ decDigits beg.toNat ++ str "-"]
      else (comma ++ decDigits beg.toNat ++ str "-" ++ decDigits (en - 1).toNat) :: listBody b fuel (en - 1) true

def chunksList (b : Bitmap) : List (List Byte) := listBody b (b.count * 64 + 2) (-1) false

/-- the three `*_snprintf(buf, buflen, set)` calls -/
def snprintfHwloc (cap : Nat) (b : Bitmap) : Cur := emitAll cap (chunksHwloc b)
def snprintfTaskset (cap : Nat) (b : Bitmap) : Cur := emitAll cap (chunksTaskset b)
def snprintfList (cap : Nat) (b : Bitmap) : Cur := emitAll cap (chunksList b)

end Bitmap
end Hw
