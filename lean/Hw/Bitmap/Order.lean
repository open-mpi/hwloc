/-
  Hw.Bitmap.Order — singlify, weight, nr_ulongs, compare: characterised by `mem` only.
-/
import Hw.Bitmap.Search
import Hw.Base.Bits
namespace Hw

theorem lt_iff_of_highest_diff {x y : Word} {j : Nat} (hne : x.getLsbD j ≠ y.getLsbD j)
    (habove : ∀ k, j < k → x.getLsbD k = y.getLsbD k) : x < y ↔ y.getLsbD j = true := by
  rw [BitVec.lt_def]
  simp only [← BitVec.testBit_toNat] at hne habove ⊢
  -- whichever of the two has the bit is the greater
  cases hy : y.toNat.testBit j with
  | true =>
    rw [hy] at hne
    exact iff_of_true (Nat.lt_of_testBit' j (Bool.eq_false_iff.mpr hne) hy habove) rfl
  | false =>
    rw [hy] at hne
    have := Nat.lt_of_testBit' j hy ((Bool.not_eq_false _).mp hne) fun k hk => (habove k hk).symm
    exact iff_of_false (by omega) Bool.false_ne_true

theorem xor_bne_zero (x y : Word) : (x ^^^ y != 0#64) = (x != y) := by
  apply Bool.eq_iff_iff.mpr
  rw [bne_iff_ne, bne_iff_ne, ne_eq, ne_eq, BitVec.xor_eq_zero_iff]

namespace Bitmap

theorem firstNZ_none_zero (b : Bitmap) (h : b.firstNZ = none) (k : Nat) (hk : k < b.count) : b.readWord k = 0#64 := by
  have := lowest_none.mp h k hk
  simpa using this

theorem mem_singlify (b : Bitmap) (n : Nat) : b.singlify.mem n = decide (b.first = (n : Int)) := by
  unfold singlify first
  cases hf : b.firstNZ with
  | some i =>
    obtain ⟨hic, hne, _⟩ := lowest_some.mp hf
    obtain ⟨f1, f2, _, _⟩ := ffsl_spec _ (by simpa using hne : b.readWord i ≠ 0#64)
    dsimp only
    refine (mem_build_word b.count i _ false hic n).trans ?_
    rw [bitW_getLsbD _ _ (by omega), decide_div_mod n i _ (by omega)]
    exact decide_eq_decide.mpr (by omega)
  | none =>
    have hz := firstNZ_none_zero b hf
    dsimp only
    cases hinf : b.inf with
    | true =>
      -- with the flag cleared every virtual word is zero
      have h0 : (b.setInf false).readWord (n / 64) = 0#64 := by
        rw [readWord_setInf]
        split
        · exact hz _ ‹_›
        · rfl
      rw [if_pos rfl, if_pos rfl, mem_set, mem_def, h0, BitVec.getLsbD_zero, Bool.false_or]
      exact decide_eq_decide.mpr (by omega)
    | false =>
      rw [if_neg Bool.false_ne_true, if_neg Bool.false_ne_true, decide_eq_false (by omega)]
      by_cases hk : n / 64 < b.count
      · rw [mem_def, hz _ hk, BitVec.getLsbD_zero]
      · rw [mem_of_ge b n (by omega), hinf]

theorem singlify_inv (b : Bitmap) (h : b.Inv) : b.singlify.Inv := by
  unfold singlify
  cases b.firstNZ with
  | some i => exact build_inv _ _ _ h
  | none =>
    simp only; split
    · exact set_inv _ _ (setInf_inv _ _ h)
    · exact h

theorem weightLong_eq (w : Word) : weightLong w = (List.range 64).countP (fun j => w.getLsbD j) := by
  unfold weightLong; rw [List.countP_eq_length_filter]

theorem countP_bitAt (f : Nat → Word) (c : Nat) :
    (List.range (c * 64)).countP (bitAt f) = ((List.range c).map fun i => weightLong (f i)).sum := by
  induction c with
  | zero => rfl
  | succ c ih =>
    rw [Nat.succ_mul, List.range_add, List.countP_append, List.countP_map, ih, List.range_succ (n := c), List.map_append,
      List.sum_append, List.map_singleton, List.sum_singleton, weightLong_eq]
    congr 1
    exact List.countP_congr fun j hj => by
      rw [Function.comp_apply, Nat.mul_comm, bitAt_word f c j (List.mem_range.mp hj)]

theorem weight_infinite (b : Bitmap) (h : b.inf = true) : b.weight = -1 := by simp [weight, h]

theorem weight_finite (b : Bitmap) (h : b.inf = false) :
    b.weight = (((List.range (b.count * 64)).countP b.mem : Nat) : Int) := by
  unfold weight
  rw [if_neg (by rw [h]; decide), words_eq, List.map_map]
  exact congrArg Nat.cast (countP_bitAt b.readWord b.count).symm

theorem countP_stable (S : Nat → Bool) (N M : Nat) (hNM : N ≤ M) (h : ∀ m, N ≤ m → S m = false) :
    (List.range M).countP S = (List.range N).countP S := by
  obtain ⟨d, rfl⟩ : ∃ d, M = N + d := ⟨M - N, by omega⟩
  rw [List.range_add, List.countP_append, List.countP_map]
  have : List.countP (S ∘ fun x => N + x) (List.range d) = 0 := by
    rw [List.countP_eq_zero]
    intro x _
    simp [h (N + x) (by omega)]
  omega

/-- `weight` as a function of the set only: any bound above all members will do -/
theorem weight_spec (b : Bitmap) (h : b.inf = false) (N : Nat) (hN : ∀ m, N ≤ m → b.mem m = false) :
    b.weight = (((List.range N).countP b.mem : Nat) : Int) := by
  rw [weight_finite b h]
  have hB : ∀ m, b.count * 64 ≤ m → b.mem m = false := fun m hm => by rw [mem_of_ge b m hm, h]
  congr 1
  rcases Nat.le_total N (b.count * 64) with hle | hle
  · exact countP_stable _ _ _ hle hN
  · exact (countP_stable _ _ _ hle hB).symm

theorem nrUlongs_infinite (b : Bitmap) (h : b.inf = true) : b.nrUlongs = -1 := by simp [nrUlongs, h]
theorem nrUlongs_empty (b : Bitmap) (h : b.inf = false) (hl : b.last = -1) : b.nrUlongs = 0 := by
  unfold nrUlongs; simp only [h, Bool.false_eq_true, if_false, hl]; rfl
theorem nrUlongs_last (b : Bitmap) (h : b.inf = false) (l : Nat) (hl : b.last = (l : Int)) :
    b.nrUlongs = ((l / 64 + 1 : Nat) : Int) := by
  unfold nrUlongs; simp only [h, Bool.false_eq_true, if_false, hl]
  show (((l + 64) / 64 : Nat) : Int) = _
  congr 1; omega

/-- specification of `hwloc_bitmap_compare` on sets: the sign is decided at the highest index
where the sets differ; a set that is eventually full is above one that is eventually empty -/
def IsCompare (A B : Nat → Bool) (r : Int) : Prop :=
  (r = 0 ∧ ∀ n, A n = B n) ∨
  (r = -1 ∧ ((∃ n, B n = true ∧ A n = false ∧ ∀ m, n < m → A m = B m) ∨
             (∃ N, ∀ m, N ≤ m → B m = true ∧ A m = false))) ∨
  (r = 1 ∧ ((∃ n, A n = true ∧ B n = false ∧ ∀ m, n < m → A m = B m) ∨
             (∃ N, ∀ m, N ≤ m → A m = true ∧ B m = false)))

/-- `B` has an index that `A` lacks, above which `A` lies inside `B`: what the two ways of being below share -/
def Below (A B : Nat → Bool) : Prop := ∃ n, B n = true ∧ A n = false ∧ ∀ m, n < m → A m = true → B m = true

theorem Below.asymm {A B : Nat → Bool} : Below A B → Below B A → False := by
  rintro ⟨n, hb, ha, ab⟩ ⟨n', ha', hb', ba⟩
  -- at the higher of the two indices the inclusion above the lower one fails
  rcases Nat.lt_trichotomy n n' with hlt | rfl | hgt
  · rw [ab n' hlt ha'] at hb'; cases hb'
  · rw [ha] at ha'; cases ha'
  · rw [ba n hgt hb] at ha; cases ha

theorem Below.not_eq {A B : Nat → Bool} : Below A B → (∀ n, A n = B n) → False := by
  rintro ⟨n, hb, ha, _⟩ h0
  rw [h0 n, hb] at ha; cases ha

theorem IsCompare.sign {A B : Nat → Bool} {r : Int} (h : IsCompare A B r) :
    (r = 0 ∧ ∀ n, A n = B n) ∨ (r = -1 ∧ Below A B) ∨ (r = 1 ∧ Below B A) := by
  rcases h with h0 | ⟨e, ⟨n, hb, ha, ab⟩ | ⟨N, hN⟩⟩ | ⟨e, ⟨n, ha, hb, ab⟩ | ⟨N, hN⟩⟩
  · exact Or.inl h0
  · exact Or.inr (Or.inl ⟨e, n, hb, ha, fun m hm h => ab m hm ▸ h⟩)
  · exact Or.inr (Or.inl ⟨e, N, (hN N (Nat.le_refl N)).1, (hN N (Nat.le_refl N)).2,
      fun m hm _ => (hN m (Nat.le_of_lt hm)).1⟩)
  · exact Or.inr (Or.inr ⟨e, n, ha, hb, fun m hm h => (ab m hm).symm ▸ h⟩)
  · exact Or.inr (Or.inr ⟨e, N, (hN N (Nat.le_refl N)).1, (hN N (Nat.le_refl N)).2,
      fun m hm _ => (hN m (Nat.le_of_lt hm)).1⟩)

theorem IsCompare.unique {A B : Nat → Bool} {r r' : Int} (h : IsCompare A B r) (h' : IsCompare A B r') : r = r' := by
  rcases h.sign with ⟨e, h0⟩ | ⟨e, h1⟩ | ⟨e, h2⟩ <;> rcases h'.sign with ⟨e', h0'⟩ | ⟨e', h1'⟩ | ⟨e', h2'⟩
  · rw [e, e']
  · exact (h1'.not_eq h0).elim
  · exact (h2'.not_eq fun n => (h0 n).symm).elim
  · exact (h1.not_eq h0').elim
  · rw [e, e']
  · exact (h1.asymm h2').elim
  · exact (h2.not_eq fun n => (h0' n).symm).elim
  · exact (h1'.asymm h2).elim
  · rw [e, e']

theorem compare_spec (a b : Bitmap) : IsCompare a.mem b.mem (a.compare b) := by
  unfold compare
  split
  · rename_i hinf
    -- beyond both counts each set is its flag, and the flags are opposite
    have hb : b.inf = !a.inf := Bool.eq_not.mpr (bne_iff_ne.mp hinf).symm
    have far : ∀ m, max a.count b.count * 64 ≤ m → a.mem m = a.inf ∧ b.mem m = !a.inf := fun m hm =>
      ⟨mem_of_ge a m (Nat.le_trans (Nat.mul_le_mul_right _ (Nat.le_max_left _ _)) hm),
       hb ▸ mem_of_ge b m (Nat.le_trans (Nat.mul_le_mul_right _ (Nat.le_max_right _ _)) hm)⟩
    revert far
    cases a.inf <;> intro far
    · exact Or.inr (Or.inl ⟨rfl, Or.inr ⟨_, fun m hm => (far m hm).symm⟩⟩)
    · exact Or.inr (Or.inr ⟨rfl, Or.inr ⟨_, far⟩⟩)
  · rename_i hinf
    have hinf' : a.inf = b.inf := by simpa using hinf
    -- the sets differ exactly at the set bits of the xor-ed words; beyond both counts they agree
    let f : Nat → Word := fun i => a.readWord i ^^^ b.readWord i
    have bit : ∀ m, bitAt f m = (a.mem m != b.mem m) := fun m => BitVec.getLsbD_xor ..
    have agree : ∀ m, (m / 64 < max a.count b.count → bitAt f m = false) → a.mem m = b.mem m := fun m h => by
      by_cases hm : m / 64 < max a.count b.count
      · have := h hm; rw [bit] at this; simpa using this
      · rw [mem_of_ge a m (by omega), mem_of_ge b m (by omega), hinf']
    rw [highest_congr (q := fun i => f i != 0#64) fun i _ => (xor_bne_zero _ _).symm]
    cases hh : highest (fun i => f i != 0#64) (max a.count b.count) with
    | none => exact Or.inl ⟨rfl, fun m => agree m (highestBit_none hh m)⟩
    | some i =>
      obtain ⟨_, hset, hhigh⟩ := highestBit_some hh
      obtain ⟨f1, f2, _, _⟩ := flsl_spec _ (by simpa using (highest_some.mp hh).2.1 : f i ≠ 0#64)
      have hj : flsl (f i) - 1 < 64 := by omega
      have hn : flsl (f i) - 1 + 64 * i = 64 * i + (flsl (f i) - 1) := Nat.add_comm _ _
      have habove : ∀ m, flsl (f i) - 1 + 64 * i < m → a.mem m = b.mem m := fun m hm => agree m (hhigh m hm)
      have hdiff : a.mem (flsl (f i) - 1 + 64 * i) ≠ b.mem (flsl (f i) - 1 + 64 * i) := by
        rw [bit] at hset; simpa using hset
      have hlt : a.readWord i < b.readWord i ↔ b.mem (flsl (f i) - 1 + 64 * i) = true := by
        rw [hn, ← readWord_getLsbD b i _ hj]
        refine lt_iff_of_highest_diff ?_ fun k hk => ?_
        · rw [readWord_getLsbD a i _ hj, readWord_getLsbD b i _ hj, ← hn]; exact hdiff
        · by_cases hk64 : k < 64
          · rw [readWord_getLsbD a i _ hk64, readWord_getLsbD b i _ hk64]; exact habove _ (by omega)
          · rw [BitVec.getLsbD_of_ge _ k (by omega), BitVec.getLsbD_of_ge _ k (by omega)]
      dsimp only
      generalize flsl (f i) - 1 + 64 * i = n at habove hdiff hlt
      split
      · rename_i hl
        have hbj := hlt.mp hl
        exact Or.inr (Or.inl ⟨rfl, Or.inl ⟨n, hbj, Bool.eq_false_iff.mpr fun h => hdiff (h.trans hbj.symm), habove⟩⟩)
      · rename_i hl
        have hbj : b.mem n = false := Bool.eq_false_iff.mpr fun h => hl (hlt.mpr h)
        exact Or.inr (Or.inr ⟨rfl, Or.inl ⟨n, (Bool.not_eq_false _).mp fun h => hdiff (h.trans hbj.symm), hbj, habove⟩⟩)

end Bitmap
end Hw
