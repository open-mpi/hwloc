/-
  Hw.Bitmap.RoundTripTaskset — parsing the text printed by `hwloc_bitmap_taskset_snprintf` with
  `hwloc_bitmap_taskset_sscanf` succeeds and gives a bitmap denoting the same set
  (finite and infinite bitmaps, any word count).  The text is a first chunk of at most 16 hex digits and then
  16-digit words, most significant first (`tasksetGo_first`, `tasksetLoop_tail`).
-/
import Hw.Bitmap.ScanLemmas
import Hw.Bitmap.PrintLemmas
namespace Hw
namespace Bitmap

namespace TasksetRT

theorem pow16 : (16:Nat)^16 = 2^64 := by decide
theorem pow16_8 : (16:Nat)^8 = 2^32 := by decide

theorem merge_word (w : BitVec 64) (h : w.toNat / 2^32 = 0xFFFFFFFF) :
    BitVec.ofNat 64 (w.toNat % 2^32) ||| (BitVec.allOnes 64 <<< 32) = w := by
  have j := join_word w
  unfold hi32 lo32 at j
  rw [h, BitVec.shiftLeft_zero, BitVec.zero_or, BitVec.or_comm] at j
  exact j

theorem ofNat_toNat64 (w : Word) : BitVec.ofNat 64 w.toNat = w := by
  apply BitVec.eq_of_toNat_eq; simp

theorem isEmpty_append_of_ne_nil {l : List Byte} (h : l ≠ []) (X : List Byte) : (l ++ X).isEmpty = false := by
  cases l with
  | nil => exact absurd rfl h
  | cons _ _ => rfl

theorem hexPad16_length (w : Word) : (hexPad 16 w.toNat).length = 16 :=
  hexPad_length 16 _ (by decide) (by rw [pow16]; exact w.isLt)

theorem strtoul16_hexPad_end (k n : Nat) (hn : n < 2 ^ 64) : strtoul 16 (hexPad k n) = .ok n [] := by
  simpa using strtoul16_hexPad k n [] hn noDigitHead_nil

/-- cells written by the scanner loop for the words `ws` (most significant first) -/
def fillCells : List (Option Word) → List Word → List (Option Word)
  | cells, [] => cells
  | cells, w :: ws => fillCells (setCell cells ws.length w) ws

theorem fillCells_replicate (ws : List Word) (suf : List (Option Word)) :
    fillCells (List.replicate ws.length none ++ suf) ws = ws.reverse.map some ++ suf := by
  induction ws generalizing suf with
  | nil => simp [fillCells]
  | cons w ws ih =>
    have : setCell (List.replicate (w :: ws).length none ++ suf) ws.length w
        = List.replicate ws.length none ++ (some w :: suf) := by
      unfold setCell
      rw [List.length_cons, List.replicate_succ', List.append_assoc, List.set_append_right _ _ (by simp)]
      simp
    rw [fillCells, this, ih]; simp

theorem tasksetLoop_step (fuel : Nat) (chunk rest : List Byte) (t n count val : Nat)
    (cells : List (Option Word)) (inf : Bool)
    (hlen : chunk.length = t) (h1 : 1 ≤ t) (h16 : t ≤ 16)
    (hs : strtoul 16 chunk = .ok val []) :
    tasksetLoop (fuel + 1) (chunk ++ rest) (t + 16 * n) count cells inf =
      tasksetLoop fuel rest (16 * n) (count - 1)
        (setCell cells (count - 1)
          (if inf && t != 16 then BitVec.ofNat 64 val ||| (BitVec.allOnes 64 <<< (4 * t))
           else BitVec.ofNat 64 val)) inf := by
  -- the loop takes `chars % 16` characters, or 16 if that is 0: `t` of `t + 16 * n` in both cases
  have ht : (if (t + 16 * n) % 16 = 0 then 16 else (t + 16 * n) % 16) = t := by
    rw [Nat.add_mul_mod_self_left]
    rcases Nat.lt_or_eq_of_le h16 with h | rfl
    · rw [Nat.mod_eq_of_lt h, if_neg (Nat.ne_of_gt h1)]
    · rfl
  have htake : (chunk ++ rest).take t = chunk := by rw [← hlen]; exact List.take_left
  have hdrop : (chunk ++ rest).drop t = rest := by rw [← hlen]; exact List.drop_left
  cases chunk with
  | nil => exact absurd (hlen ▸ h1) (by decide)
  | cons c cs =>
    rw [List.cons_append] at htake hdrop ⊢
    conv => lhs; unfold tasksetLoop
    simp only [ht, htake, hdrop, hs, Nat.add_sub_cancel_left]
    rfl

theorem tasksetLoop_tail (ws : List Word) (fuel : Nat) (cells : List (Option Word)) (inf : Bool)
    (hf : ws.length < fuel) :
    tasksetLoop fuel (ws.map (fun w => hexPad 16 w.toNat)).flatten (16 * ws.length) ws.length cells inf
      = .ok (fillCells cells ws) inf := by
  induction ws generalizing fuel cells with
  | nil =>
    cases fuel with
    | zero => simp at hf
    | succ fuel => simp [tasksetLoop, fillCells]
  | cons w ws ih =>
    cases fuel with
    | zero => simp at hf
    | succ fuel =>
      have hl := hexPad16_length w
      have hs := strtoul16_hexPad_end 16 w.toNat w.isLt
      simp only [List.map_cons, List.flatten_cons, List.length_cons]
      rw [Nat.mul_succ, Nat.add_comm (16 * _), tasksetLoop_step fuel _ _ 16 _ _ w.toNat cells inf hl (by decide) (by decide) hs]
      rw [Nat.add_sub_cancel, ih _ _ (by simpa using hf)]
      simp [fillCells]

theorem tasksetGo_first (chunk : List Byte) (w : Word) (ws : List Word) (val : Nat) (inf : Bool)
    (h1 : 1 ≤ chunk.length) (h16 : chunk.length ≤ 16)
    (hs : strtoul 16 chunk = .ok val [])
    (hw : (if inf && chunk.length != 16 then BitVec.ofNat 64 val ||| (BitVec.allOnes 64 <<< (4 * chunk.length))
           else BitVec.ofNat 64 val) = w) :
    tasksetGo (chunk ++ (ws.map (fun w => hexPad 16 w.toNat)).flatten) inf
      = .ok ((ws.reverse ++ [w]).map some) inf := by
  have hlen : (ws.map (fun w => hexPad 16 w.toNat)).flatten.length = 16 * ws.length := by
    simp only [List.length_flatten, List.map_map, Function.comp_def, hexPad16_length, List.map_const',
      List.sum_replicate_nat, Nat.mul_comm]
  unfold tasksetGo
  simp only [List.length_append, hlen]
  rw [taskset_count, taskset_words _ h1 h16, tasksetLoop_step (ws.length + 1) _ _ _ _ _ val _ inf rfl h1 h16 hs]
  rw [Nat.add_sub_cancel, hw, tasksetLoop_tail _ _ _ _ (by omega)]
  have := fillCells_replicate (w :: ws) []
  simp only [List.length_cons, List.append_nil] at this
  show ScanRes.ok (fillCells _ (w :: ws)) inf = _
  rw [this]; simp

theorem tasksetBody_started (ws : List Word) :
    tasksetBody ws true false = ws.map (fun w => hexPad 16 w.toNat) := by
  induction ws with
  | nil => rfl
  | cons w ws ih => simp [tasksetBody, ih]

theorem range_succ_rev_map (f : Nat → Word) (k : Nat) :
    (List.range (k + 1)).reverse.map f = f k :: (List.range k).reverse.map f := by
  simp [List.range_succ]

theorem range_succ_map_rev (f : Nat → Word) (k : Nat) :
    (List.range (k + 1)).map f = ((List.range k).reverse.map f).reverse ++ [f k] := by
  simp [List.range_succ]

theorem flatten_hexPad_chars (ws : List Word) :
    ∀ c, c ∈ (ws.map (fun w => hexPad 16 w.toNat)).flatten → IsHexChar c := by
  intro c hc
  rw [List.mem_flatten] at hc
  obtain ⟨l, hl, hcl⟩ := hc
  rw [List.mem_map] at hl
  obtain ⟨w, _, rfl⟩ := hl
  exact hexPad_chars _ _ c hcl

theorem taskset_scan_fin (b : Bitmap) (hinf : b.inf = false) :
    tasksetScan (text b.chunksTaskset)
      = .ok (((List.range (max b.topWords 1)).map b.readWord).map some) false := by
  obtain ⟨k, hk⟩ : ∃ k, max b.topWords 1 = k + 1 := ⟨max b.topWords 1 - 1, by omega⟩
  have hcond : (b.readWord k != 0#64 || ((List.range k).reverse.map b.readWord).isEmpty) = true := by
    cases k with
    | zero => simp
    | succ k =>
      have := readWord_topWords_ne b (k + 1) (by omega)
      rw [hinf, fillW_false] at this
      simp [this]
  have hchunks : b.chunksTaskset = (str "0x" ++ hexDigits (b.readWord k).toNat)
      :: ((List.range k).reverse.map b.readWord).map (fun w => hexPad 16 w.toNat) := by
    unfold chunksTaskset tasksetTop
    simp only [hinf, Bool.false_eq_true, if_false, hk, range_succ_rev_map, List.nil_append]
    unfold tasksetBody
    simp only [Bool.false_eq_true, if_false, hcond, if_true, tasksetBody_started]
    rw [if_neg]
    simp [text, str_0x]
  rw [hchunks, hk, range_succ_map_rev]
  generalize (List.range k).reverse.map b.readWord = ws
  generalize b.readWord k = w
  simp only [text, List.flatten_cons, str_0x, List.cons_append, List.nil_append]
  have hY : ∀ c, c ∈ hexDigits w.toNat ++ (ws.map (fun w => hexPad 16 w.toNat)).flatten → IsHexChar c :=
    List.forall_mem_append.2 ⟨hexDigits_chars _, flatten_hexPad_chars ws⟩
  have hne := isEmpty_append_of_ne_nil (hexDigits_ne_nil w.toNat) (ws.map (fun w => hexPad 16 w.toNat)).flatten
  have hp : isPrefix [48, 120] (48 :: 120 :: (hexDigits w.toNat ++
      (ws.map (fun w => hexPad 16 w.toNat)).flatten)) = true := isPrefix_iff.2 ⟨_, rfl⟩
  unfold tasksetScan
  rw [str_inf, str_0x, isPrefix_inf_false _ fun c hc => hY c (List.mem_of_getElem? hc)]
  simp only [hp, if_true, Bool.false_eq_true, if_false, List.drop_succ_cons, List.drop_zero, hne]
  exact tasksetGo_first _ w ws w.toNat false (hexDigits_length_pos _)
    (hexDigits_length_le _ 16 (by decide) (by rw [pow16]; exact w.isLt))
    (by simpa using strtoul16_hexDigits w.toNat [] w.isLt noDigitHead_nil)
    (by simp)

theorem tasksetScan_inf_prefix (X : List Byte) :
    tasksetScan ([48, 120, 102, 46, 46, 46, 102] ++ X)
      = if X.isEmpty then .ok [some (BitVec.allOnes 64)] true else tasksetGo X true := by
  unfold tasksetScan
  rw [str_inf]
  have hp : isPrefix [48, 120, 102, 46, 46, 46, 102] ([48, 120, 102, 46, 46, 46, 102] ++ X) = true :=
    isPrefix_iff.2 (List.prefix_append _ _)
  have hd : ([48, 120, 102, 46, 46, 46, 102] ++ X).drop 7 = X := rfl
  simp only [hp, if_true, hd]

theorem taskset_scan_inf (b : Bitmap) (hinf : b.inf = true) :
    tasksetScan (text b.chunksTaskset)
      = .ok (((List.range (max b.topWords 1)).map b.readWord).map some) true := by
  have hchunks : text b.chunksTaskset = [48, 120, 102, 46, 46, 46, 102] ++
      text (tasksetBody ((List.range b.topWords).reverse.map b.readWord) true true) := by
    unfold chunksTaskset tasksetTop
    simp only [hinf, if_true]
    rw [if_neg (by simp [text, str_inf])]
    simp [text, str_inf]
  rw [hchunks, tasksetScan_inf_prefix]
  cases hk : b.topWords with
  | zero =>
    -- no word is printed, and the single all-ones word that the scanner returns is word 0
    have h0 : b.readWord 0 = BitVec.allOnes 64 := by rw [readWord_ge_topWords b 0 (by omega), hinf, fillW_true]
    simp [tasksetBody, text, h0]
  | succ k =>
    rw [range_succ_rev_map, Nat.max_eq_left (Nat.succ_pos k), range_succ_map_rev]
    generalize (List.range k).reverse.map b.readWord = ws
    generalize b.readWord k = w
    unfold tasksetBody
    simp only [if_true, Bool.true_and, tasksetBody_started, text, List.flatten_cons]
    by_cases hhi : hi32 w = 0xFFFFFFFF
    · have hl : (hexPad 8 (lo32 w)).length = 8 := hexPad_length 8 _ (by decide) (by rw [pow16_8]; exact lo32_lt w)
      have hne := isEmpty_append_of_ne_nil (hexPad_ne_nil 8 (lo32 w)) (ws.map (fun w => hexPad 16 w.toNat)).flatten
      simp only [hhi, beq_self_eq_true, if_true, hne, Bool.false_eq_true, if_false]
      exact tasksetGo_first _ w ws (lo32 w) true (by omega) (by omega)
        (strtoul16_hexPad_end 8 _ (Nat.lt_trans (lo32_lt w) (by decide)))
        (by rw [hl]; exact merge_word w hhi)
    · have hl := hexPad16_length w
      have hne := isEmpty_append_of_ne_nil (hexPad_ne_nil 16 w.toNat) (ws.map (fun w => hexPad 16 w.toNat)).flatten
      have hb : (hi32 w == 0xFFFFFFFF) = false := by simpa using hhi
      simp only [hb, Bool.false_eq_true, if_false, hne]
      exact tasksetGo_first _ w ws w.toNat true (by omega) (by omega) (strtoul16_hexPad_end 16 _ w.isLt)
        (by rw [hl]; simp)

/-- the exact result of scanning the printed text: the low `topWords` words, and word 0 if there are none -/
theorem taskset_scan (b : Bitmap) :
    tasksetScan (text b.chunksTaskset)
      = .ok (((List.range (max b.topWords 1)).map b.readWord).map some) b.inf := by
  cases hinf : b.inf
  · exact taskset_scan_fin b hinf
  · exact taskset_scan_inf b hinf

end TasksetRT
open TasksetRT

/-- `hinv` is not needed by the proof -/
theorem taskset_roundtrip (b : Bitmap) (hinv : b.Inv) :
    ∃ ws inf, tasksetScan (text b.chunksTaskset) = .ok (ws.map some) inf ∧
      ∀ n, (Bitmap.mk ws inf).mem n = b.mem n :=
  ⟨_, _, taskset_scan b, build_mem_eq b _ (Nat.le_max_left _ _)⟩

end Bitmap
end Hw
