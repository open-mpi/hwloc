/-
  Hw.Bitmap.ScanCursorRefine — the cursor-level parser models return what the structural models of
  `Hw.Bitmap.Scan` return, on the domain the structural models support (NUL-free byte list, structural
  result ≠ `unsupported`).  So the round-trip theorems transfer to the cursor-level models; their memory accesses and
  the definedness of what they return are proved on them directly (`*_good`, `ScanCursorSafe`).
-/
import Hw.Bitmap.ScanCursorSafe
import Hw.Base.Cases
import Hw.Base.NumLemmas
namespace Hw
namespace Bitmap
namespace Cursor

/-- the byte list holds no NUL (it is the C string up to, excluding, its terminator) -/
def NoNul (s : List Byte) : Prop := ∀ c, c ∈ s → c ≠ 0

/-- the cursor-level run `o` refines the structural verdict `x`: they agree wherever the structural model is defined -/
def Refines (o : Out) (x : ScanRes) : Prop := x = .unsupported ∨ o.res.toScan = x

theorem Refines.eq {o : Out} {x : ScanRes} (h : Refines o x) (hsup : x ≠ .unsupported) : o.res.toScan = x :=
  h.resolve_left hsup

theorem rd_eq (s : List Byte) (i : Nat) : rd s i = (s[i]?).getD 0 := by
  simp [rd, List.getD_eq_getElem?_getD]

theorem drop_nil_rd {s : List Byte} {i : Nat} (h : s.drop i = []) : rd s i = 0 :=
  rd_ge s i (List.drop_eq_nil_iff.mp h)

theorem rd_zero_drop {s : List Byte} (hs : NoNul s) {i : Nat} (h : rd s i = 0) : s.drop i = [] := by
  apply List.drop_eq_nil_iff.mpr
  apply Classical.byContradiction
  intro hn
  have hlt : i < s.length := by omega
  rw [rd_eq, List.getElem?_eq_getElem hlt] at h
  exact hs _ (List.getElem_mem hlt) h

theorem drop_rd_cons {s : List Byte} {i : Nat} (h : i < s.length) : s.drop i = rd s i :: s.drop (i + 1) := by
  rw [List.drop_eq_getElem_cons h, rd_eq, List.getElem?_eq_getElem h]
  rfl

/-- how a test of the cursor model on `s[i]` reads on the suffix (`h := rfl` for the test `s[i] != 0`); `rd_zero_drop` is the other outcome -/
theorem drop_of_rd {s : List Byte} {i : Nat} {c : Byte} (h : rd s i = c) (hc : c ≠ 0) : s.drop i = c :: s.drop (i + 1) := by
  rw [← h]; exact drop_rd_cons (rd_ne_zero_lt s i (h ▸ hc))

theorem scanWhile_drop (p : Byte → Bool) (hp : p 0 = false) (s : List Byte) :
    ∀ fuel i, s.length < i + fuel → s.drop (scanWhile p s fuel i) = (s.drop i).dropWhile p := by
  intro fuel
  induction fuel with
  | zero =>
    intro i h
    unfold scanWhile
    rw [List.drop_eq_nil_iff.mpr (by omega)]
    rfl
  | succ f ih =>
    intro i h
    unfold scanWhile
    split
    · rename_i hpi
      have hlt : i < s.length := by
        apply rd_ne_zero_lt
        intro e; rw [e, hp] at hpi; cases hpi
      rw [ih (i+1) (by omega), drop_rd_cons hlt, List.dropWhile_cons, if_pos hpi]
    · rename_i hpi
      by_cases hlt : i < s.length
      · rw [drop_rd_cons hlt, List.dropWhile_cons, if_neg hpi]
      · rw [List.drop_eq_nil_iff.mpr (by omega)]; rfl

theorem strtoCore_eq (base : Nat) (l s1 : List Byte) (neg : Bool) : strtoCore base l s1 neg =
    if (strtoBody base s1).2.1 = 0 then (0, 0)
    else ((if (strtoBody base s1).1 > ulongMax then ulongMax else if neg then (2^64 - (strtoBody base s1).1) % 2^64
      else (strtoBody base s1).1), l.length - (strtoBody base s1).2.2.length) := rfl

/-- where the structural `strtoul` is defined (no sign), the total one returns the same value and end -/
theorem strtoul_refine (base : Nat) (l : List Byte) :
    strtoul base l = .unsupported ∨ strtoul base l = .ok (strtoulL base l).1 (l.drop (strtoulL base l).2) := by
  cases h : strtoul base l with
  | unsupported => exact .inl rfl
  | ok v rest =>
    obtain ⟨n43, n45⟩ := nosign_of_strtoul_ok h
    have e : strtoulL base l = strtoCore base l (l.dropWhile isSpace) false := by
      unfold strtoulL
      split
      · exact absurd ‹_› (n45 _)
      · exact absurd ‹_› (n43 _)
      · rfl
    rw [strtoul_nosign base l n43 n45] at h
    rw [← h, e, strtoCore_eq]
    have hsuf : (strtoBody base (l.dropWhile isSpace)).2.2 <:+ l := (strtoBody_suffix _ _).trans (List.dropWhile_suffix _)
    generalize strtoBody base (l.dropWhile isSpace) = t at hsuf ⊢
    by_cases hn : t.2.1 = 0
    · rw [if_pos hn, if_pos hn]; exact .inr rfl
    · rw [if_neg hn, if_neg hn, min_ulongMax, ← List.suffix_iff_eq_drop.mp hsuf]; exact .inr rfl

theorem strtoulC_refine (base : Nat) (s : List Byte) (i : Nat) :
    strtoul base (s.drop i) = .unsupported ∨
      strtoul base (s.drop i) = .ok (strtoulC base s i).val (s.drop (i + (strtoulC base s i).adv)) := by
  rw [← List.drop_drop]; exact strtoul_refine base (s.drop i)

theorem hwlocLoopC_refine (s : List Byte) (hs : NoNul s) (nw : Nat) : ∀ fuel cur count accum ws infinite lg,
    Refines (hwlocLoopC s nw fuel cur count accum ws infinite lg) (hwlocLoop fuel (s.drop cur) count accum ws infinite) := by
  intro fuel
  induction fuel with
  | zero => intro cur count accum ws infinite lg; exact .inr rfl
  | succ f ih =>
    intro cur count accum ws infinite lg
    unfold hwlocLoopC hwlocLoop
    rcases strtoulC_refine 16 s cur with hst | hst <;> rw [hst]
    · exact .inl rfl
    dsimp only
    generalize cur + (strtoulC 16 s cur).adv = nx
    generalize count - 1 = count'
    refine ite_pred (Refines · _) (fun hc0 => ?_) fun hc0 => ?_
    · rw [if_pos hc0]; exact .inr rfl
    rw [if_neg hc0]
    -- what follows the number is the same whichever cells and accumulator the number left
    have hcont : ∀ (ws' : List (Option Word)) (a : Word) (lg' : Log), Refines
        (if rd s nx = 44 then hwlocLoopC s nw f (nx + 1) count' a ws' infinite lg'
          else if rd s nx ≠ 0 ∨ count' > 0 then ⟨.fail, lg'.wr 0 1, nw, false⟩ else ⟨.ok ws' infinite, lg', nw, false⟩)
        (match s.drop nx with
          | 44 :: rest => hwlocLoop f rest count' a ws' infinite
          | [] => if count' > 0 then .fail else .ok ws' infinite
          | _ :: _ => .fail) := by
      intro ws' a lg'
      refine ite_pred (Refines · _) (fun e44 => ?_) fun n44 => ?_
      · rw [drop_of_rd e44 (by decide)]; exact ih _ _ _ _ _ _
      by_cases h0 : rd s nx = 0
      · rw [rd_zero_drop hs h0]
        refine ite_pred (Refines · _) (fun h => .inr ?_) fun h => .inr ?_
        · exact (if_pos (h.resolve_left (· h0))).symm
        · exact (if_neg fun hc => h (.inr hc)).symm
      · rw [drop_of_rd rfl h0, if_pos (.inl h0)]
        split
        · rename_i heq; injection heq with e _; exact (n44 e).elim
        · rename_i heq; cases heq
        · exact .inr rfl
    by_cases hpar : count' % 2 = 0
    · rw [if_pos hpar, if_pos hpar]; exact hcont _ _ _
    · rw [if_neg hpar, if_neg hpar]; exact hcont _ _ _

theorem countCommas_dropWhile (p : Byte → Bool) (hp : ∀ c, p c = true → c ≠ 44) :
    ∀ l : List Byte, countCommas (l.dropWhile p) = countCommas l := by
  intro l
  induction l with
  | nil => rfl
  | cons c cs ih =>
    rw [List.dropWhile_cons]
    by_cases h : p c = true
    · rw [if_pos h, ih, countCommas_cons, if_neg (hp c h)]; rfl
    · rw [if_neg h]

/-- the `strchr` pre-pass counts the commas -/
theorem commaPass_count (s : List Byte) (hs : NoNul s) : ∀ fuel cur count lg, s.length < cur + fuel →
    (commaPass s fuel cur count lg).1 = count + countCommas (s.drop cur) := by
  intro fuel
  induction fuel with
  | zero =>
    intro cur count lg h
    unfold commaPass
    rw [List.drop_eq_nil_iff.mpr (by omega)]; rfl
  | succ f ih =>
    intro cur count lg h
    unfold commaPass
    simp only
    have hj1 := scanWhile_ge (fun c => c != 44 && c != 0) s (s.length + 1) cur
    have hd := scanWhile_drop (fun c => c != 44 && c != 0) (by decide) s (s.length + 1) cur (by omega)
    have hstop := scanWhile_stop (fun c => c != 44 && c != 0) (by decide) s (s.length + 1) cur (by omega)
    have hcc : countCommas (s.drop cur) = countCommas ((s.drop cur).dropWhile (fun c => c != 44 && c != 0)) :=
      (countCommas_dropWhile _ (by intro c hc; simp at hc; exact hc.1) _).symm
    rw [hcc, ← hd]
    generalize scanWhile (fun c => c != 44 && c != 0) s (s.length + 1) cur = j at hj1 hstop ⊢
    by_cases e : rd s j = 44
    · rw [if_pos e, ih _ _ _ (by omega), drop_of_rd e (by decide), countCommas_cons, if_pos rfl]
      omega
    · rw [if_neg e]
      have hz : rd s j = 0 := by simpa [e] using hstop
      rw [rd_zero_drop hs hz]; rfl

theorem commaPass_total (s : List Byte) (hs : NoNul s) :
    (commaPass s (s.length + 1) 0 1 Log.empty).1 = 1 + countCommas s := by
  have := commaPass_count s hs (s.length + 1) 0 1 Log.empty (by omega)
  rwa [List.drop_zero] at this

/-- `strncmp` against a NUL-free literal is the prefix test -/
theorem matchLen_iff (s : List Byte) : ∀ (pat : List Byte) (i : Nat), (∀ c, c ∈ pat → c ≠ 0) →
    (matchLen s i pat = pat.length ↔ (s.drop i).take pat.length = pat) := by
  intro pat
  induction pat with
  | nil => intro i _; simp [matchLen]
  | cons c cs ih =>
    intro i hc
    unfold matchLen
    by_cases e : rd s i = c
    · rw [if_pos e, drop_of_rd e (hc c (List.mem_cons_self ..)), List.length_cons, List.take_succ_cons, List.cons.injEq,
        ← ih (i+1) fun c' hc' => hc c' (List.mem_cons_of_mem _ hc')]
      simp only [true_and]; omega
    · rw [if_neg e]
      -- the first bytes differ
      refine iff_of_false (by simp) fun h => e ?_
      have := congrArg List.head? h
      rw [List.head?_take, if_neg (by simp), List.head?_drop, List.head?_cons] at this
      rw [rd_eq, this]; rfl

theorem strncmpC_isPrefix (s : List Byte) (pat : List Byte) (hpat : ∀ c, c ∈ pat → c ≠ 0) (lg : Log) :
    (strncmpC s 0 pat lg).1 = isPrefix pat s := by
  have := matchLen_iff s pat 0 hpat
  rw [List.drop_zero] at this
  exact Bool.eq_iff_iff.mpr (beq_iff_eq.trans (this.trans beq_iff_eq.symm))

theorem str_inf_pat : str "0xf...f" = pat_inf := str_inf
theorem str_0x_pat : str "0x" = pat_0x := str_0x

theorem hwlocSscanfC_refine (s : List Byte) (hs : NoNul s) : Refines (hwlocSscanfC s) (hwlocScan s) := by
  unfold hwlocSscanfC hwlocScan
  simp only
  have hcount := commaPass_total s hs
  rw [hcount, strncmpC_isPrefix s pat_inf pat_inf_nz, ← str_inf_pat]
  by_cases hp : isPrefix (str "0xf...f") s = true
  · rw [if_pos hp, if_pos hp]
    refine ite_pred (Refines · _) (fun n44 => ?_) fun e44 => ?_
    · by_cases h0 : rd s 7 = 0
      · rw [rd_zero_drop hs h0]; exact .inr rfl
      · rw [drop_of_rd rfl h0]
        split
        · rename_i heq; injection heq with e _; exact (n44 e).elim
        · exact .inr rfl
    · rw [drop_of_rd (Decidable.not_not.mp e44) (by decide)]
      exact hwlocLoopC_refine s hs _ _ _ _ _ _ _ _
  · rw [if_neg hp, if_neg hp]
    have := hwlocLoopC_refine s hs ((1 + countCommas s + 1) / 2) (1 + countCommas s) 0 (1 + countCommas s) 0#64
      (List.replicate ((1 + countCommas s + 1) / 2) none) false
      (strncmpC s 0 (str "0xf...f") (commaPass s (s.length + 1) 0 1 Log.empty).2).2
    rwa [List.drop_zero] at this

/-- the `memcpy` into `ustr` copies the next `t` bytes of the suffix -/
theorem rdBlock_eq (s : List Byte) (cur t : Nat) (h : cur + t ≤ s.length) :
    (List.range t).map (fun j => rd s (cur + j)) = (s.drop cur).take t := by
  apply List.ext_getElem?
  intro j
  rw [List.getElem?_map, List.getElem?_take, List.getElem?_drop]
  by_cases hj : j < t
  · rw [if_pos hj, List.getElem?_range hj]
    simp [rd_eq, List.getElem?_eq_getElem (show cur + j < s.length by omega)]
  · rw [if_neg hj, List.getElem?_eq_none (by simp; omega)]; rfl

theorem isEmpty_drop_iff {s : List Byte} (hs : NoNul s) (i : Nat) : (s.drop i).isEmpty = true ↔ rd s i = 0 := by
  rw [List.isEmpty_iff]
  exact ⟨drop_nil_rd, rd_zero_drop hs⟩

theorem noNul_take_drop {s : List Byte} (hs : NoNul s) (i t : Nat) : NoNul ((s.drop i).take t) :=
  fun c hc => hs c (List.mem_of_mem_drop (List.mem_of_mem_take hc))

theorem tasksetLoopC_refine (s : List Byte) (hs : NoNul s) (nw : Nat) : ∀ fuel cur chars count ws infinite lg,
    cur + chars = s.length →
    Refines (tasksetLoopC s nw fuel cur chars count ws infinite lg)
      (tasksetLoop fuel (s.drop cur) chars count ws infinite) := by
  intro fuel
  induction fuel with
  | zero => intro cur chars count ws infinite lg _; exact .inr rfl
  | succ f ih =>
    intro cur chars count ws infinite lg hlen
    unfold tasksetLoopC tasksetLoop
    dsimp only
    refine ite_pred (Refines · _) (fun hz => ?_) fun hz => ?_
    · rw [rd_zero_drop hs hz]; exact .inr rfl
    rw [drop_of_rd rfl hz]
    dsimp only
    rw [← drop_of_rd rfl hz]
    generalize ht : (if chars % 16 = 0 then 16 else chars % 16) = t
    have hlt := rd_ne_zero_lt s cur hz
    have ht3 : t ≤ chars := by rw [← ht]; split <;> omega
    rw [rdBlock_eq s cur t (by omega)]
    have hu := noNul_take_drop hs cur t
    generalize (s.drop cur).take t = ustr at hu ⊢
    rcases strtoul_refine 16 ustr with hst | hst <;> rw [hst]
    · exact .inl rfl
    dsimp only
    -- `*next != 0` in the scratch buffer: something is left of the chunk
    refine ite_pred (Refines · _) (fun h => ?_) fun h => ?_
    · rw [drop_of_rd rfl h]; exact .inr rfl
    · rw [rd_zero_drop hu (Decidable.not_not.mp h), List.drop_drop]
      exact ih _ _ _ _ _ _ (by omega)

theorem scan_strlen (s : List Byte) (hs : NoNul s) (cur : Nat) (hc : cur ≤ s.length) :
    scanWhile (fun c => c != 0) s (s.length + 1) cur = s.length := by
  have h2 := scanWhile_le (fun c => c != 0) (by decide) s (s.length + 1) cur hc
  have hz := scanWhile_stop (fun c => c != 0) (by decide) s (s.length + 1) cur (by omega)
  -- the scan stopped on a NUL, and `s` has none
  have := List.drop_eq_nil_iff.mp (rd_zero_drop hs (by simpa using hz))
  omega

theorem tasksetGoC_refine (s : List Byte) (hs : NoNul s) (cur : Nat) (hc : cur ≤ s.length) (infinite : Bool) (lg : Log) :
    Refines (tasksetGoC s cur infinite lg) (tasksetGo (s.drop cur) infinite) := by
  unfold tasksetGoC tasksetGo
  simp only
  rw [scan_strlen s hs cur hc, List.length_drop]
  exact tasksetLoopC_refine s hs _ _ _ _ _ _ _ _ (by omega)

/-- behind a prefix of `k` characters: an empty rest is the fill / zero path, anything else goes
through the digit loop -/
theorem taskset_after_prefix (s : List Byte) (hs : NoNul s) (k : Nat) (hk : k ≤ s.length) (inf : Bool)
    (ws0 : List (Option Word)) (lg : Log) :
    Refines (if rd s k = 0 then (⟨.ok ws0 inf, lg.wr 0 1, 1, false⟩ : Out) else tasksetGoC s k inf lg)
      (if (s.drop k).isEmpty then .ok ws0 inf else tasksetGo (s.drop k) inf) := by
  by_cases h0 : rd s k = 0
  · rw [if_pos h0, if_pos ((isEmpty_drop_iff hs k).mpr h0)]; exact .inr rfl
  · rw [if_neg h0, if_neg fun h => h0 ((isEmpty_drop_iff hs k).mp h)]
    exact tasksetGoC_refine s hs k hk inf _

theorem tasksetSscanfC_refine (s : List Byte) (hs : NoNul s) : Refines (tasksetSscanfC s) (tasksetScan s) := by
  unfold tasksetSscanfC tasksetScan
  extract_lets m lg m2 cur lg'
  have hm : m.1 = isPrefix (str "0xf...f") s := by rw [str_inf_pat]; exact strncmpC_isPrefix s pat_inf pat_inf_nz _
  have hm2 : m2.1 = isPrefix (str "0x") s := by rw [str_0x_pat]; exact strncmpC_isPrefix s pat_0x pat_0x_nz _
  rw [hm]
  by_cases hp : isPrefix (str "0xf...f") s = true
  · rw [if_pos hp, if_pos hp]
    exact taskset_after_prefix s hs 7 (isPrefix_iff.1 hp).length_le true _ lg
  · rw [if_neg hp, if_neg hp]
    have hcur : cur = if isPrefix (str "0x") s = true then 2 else 0 := by rw [← hm2]
    by_cases hp2 : isPrefix (str "0x") s = true
    · rw [if_pos hp2] at hcur
      rw [if_pos hp2, hcur]
      exact taskset_after_prefix s hs 2 (isPrefix_iff.1 hp2).length_le false _ lg'
    · rw [if_neg hp2] at hcur
      rw [if_neg hp2, hcur]
      have := taskset_after_prefix s hs 0 (Nat.zero_le _) false [some 0#64] lg'
      rwa [List.drop_zero] at this

theorem begOf_small (val : Nat) (h : val < listMaxIndex) : begOf val = some val := by
  unfold begOf
  have : listMaxIndex = 2097152 := by decide
  rw [if_neg (by omega)]

theorem listLoopC_refine (s : List Byte) (hs : NoNul s) : ∀ fuel cur b beg big lg,
    cur ≤ s.length →
    Refines (listLoopC s fuel cur (some b) beg big lg) (listLoop fuel (s.drop cur) b beg) := by
  intro fuel
  induction fuel with
  | zero => intro cur b beg big lg _; exact .inr rfl
  | succ f ih =>
    intro cur b beg big lg hcur
    unfold listLoopC listLoop
    dsimp only
    refine ite_pred (Refines · _) (fun hz => ?_) fun hz => ?_
    · rw [rd_zero_drop hs hz]; exact .inr rfl
    rw [drop_of_rd rfl hz]
    dsimp only
    rw [← drop_of_rd rfl hz, ← scanWhile_drop (fun c => c == 44 || c == 32) (by decide) s (s.length + 1) cur (by omega)]
    have hc1 := scanWhile_le (fun c => c == 44 || c == 32) (by decide) s (s.length + 1) cur hcur
    generalize scanWhile (fun c => c == 44 || c == 32) s (s.length + 1) cur = c1 at hc1 ⊢
    rcases strtoulC_refine 0 s c1 with hst | hst <;> rw [hst]
    · exact .inl rfl
    have hnl := strtoulC_next_le 0 s c1 hc1
    dsimp only
    have hlen : (s.drop (c1 + (strtoulC 0 s c1).adv)).length = (s.drop c1).length ↔ (strtoulC 0 s c1).adv = 0 := by
      rw [List.length_drop, List.length_drop]; omega
    generalize (strtoulC 0 s c1).val = val
    generalize c1 + (strtoulC 0 s c1).adv = nx at hlen ⊢
    refine ite_pred (Refines · _) (fun hadv => ?_) fun hadv => ?_
    · rw [if_pos (hlen.mpr hadv)]; exact .inr rfl
    rw [if_neg (mt hlen.mp hadv)]
    by_cases hbig : listMaxIndex ≤ val
    · rw [if_pos hbig]; exact .inl rfl
    rw [if_neg hbig]
    simp only [hbig, decide_false, Bool.or_false, Bool.false_eq_true, if_false, Option.map_some]
    -- whatever `listStep` made of the number: the string ends behind it, or the loop goes on behind the next byte
    have hcont : ∀ b' beg' lg', Refines
        (if rd s nx = 0 then ⟨okOf (some b'), lg', 0, big⟩ else listLoopC s f (nx + 1) (some b') beg' big lg')
        (match s.drop nx with
          | [] => .ok (b'.words.map some) b'.inf
          | _ :: rest => listLoop f rest b' beg') := by
      intro b' beg' lg'
      refine ite_pred (Refines · _) (fun h0 => ?_) fun h0 => ?_
      · rw [rd_zero_drop hs h0]; exact .inr rfl
      · rw [drop_of_rd rfl h0]; exact ih _ _ _ _ _ (rd_ne_zero_lt s nx h0)
    cases beg with
    | some b0 => exact hcont _ _ _
    | none =>
      dsimp only
      refine ite_pred (Refines · _) (fun e45 => ?_) fun n45 => ?_
      · rw [drop_of_rd e45 (by decide)]
        refine ite_pred (Refines · _) (fun e0 => ?_) fun n0 => ?_
        · rw [rd_zero_drop hs e0]; exact .inr rfl
        · rw [listStep_dash _ _ _ (mt drop_nil_rd n0), begOf_small val (by omega)]
          exact ih _ _ _ _ _ (rd_ne_zero_lt s nx (by rw [e45]; decide))
      · refine ite_pred (Refines · _) (fun hsep => ?_) fun hsep => ?_
        · have : listStep b none val (s.drop nx) = (b.set val, none, false) := by
            rcases hsep with e | e | e
            · rw [drop_of_rd e (by decide)]; rfl
            · rw [drop_of_rd e (by decide)]; rfl
            · rw [rd_zero_drop hs e]; rfl
          rw [this]; exact hcont _ _ _
        · have : listStep b none val (s.drop nx) = (b, none, false) := by
            rw [drop_of_rd rfl fun e => hsep (.inr (.inr e))]
            exact listStep_other b val _ n45 (fun e => hsep (.inl e)) fun e => hsep (.inr (.inl e))
          rw [this]; exact hcont _ _ _

theorem listSscanfC_refine (s : List Byte) (hs : NoNul s) : Refines (listSscanfC s) (listScan s) := by
  unfold listSscanfC listScan
  have := listLoopC_refine s hs (s.length + 1) 0 ⟨[0#64], false⟩ none false (Log.empty.wr 0 1) (Nat.zero_le _)
  rwa [List.drop_zero] at this

/-! ### `assert(count > 0)` in `hwloc_bitmap_sscanf` never fires: the parser returns -/

theorem countCommas_suffix {l1 l2 : List Byte} (h : l1 <:+ l2) : countCommas l1 ≤ countCommas l2 :=
  List.Sublist.countP_le h.sublist

/-- the C function returned, 0 or -1 -/
def Out.Returned (o : Out) : Prop := o.res = .fail ∨ ∃ ws inf, o.res = .ok ws inf

/-- as long as at least as many substrings are expected as commas are left, plus one -/
theorem hwlocLoopC_returns (s : List Byte) (nw : Nat) : ∀ fuel cur count accum ws infinite lg,
    fuel = count → 1 + countCommas (s.drop cur) ≤ count →
    (hwlocLoopC s nw fuel cur count accum ws infinite lg).Returned := by
  intro fuel
  induction fuel with
  | zero => intro cur count accum ws infinite lg h1 h2; omega
  | succ f ih =>
    intro cur count accum ws infinite lg h1 h2
    unfold hwlocLoopC
    extract_lets r lg1 next count' accum' st lg2
    refine ite_cases (fun h0 => by omega) fun _ => ite_cases (fun e => ?_) fun _ =>
      ite_cases (fun _ => .inl rfl) fun _ => .inr ⟨_, _, rfl⟩
    have h3 : s.drop next <:+ s.drop cur := by
      rw [← List.drop_drop]; exact List.drop_suffix _ _
    have h4 := countCommas_suffix h3
    rw [drop_of_rd e (by decide), countCommas_cons, if_pos rfl] at h4
    exact ih _ _ _ _ _ _ (by omega) (by omega)

theorem hwlocSscanfC_returns (s : List Byte) (hs : NoNul s) : (hwlocSscanfC s).Returned := by
  unfold hwlocSscanfC
  simp only
  rw [commaPass_total s hs]
  refine ite_cases (fun _ => ite_cases (fun _ => .inr ⟨_, _, rfl⟩) fun e => ?_) fun _ =>
    hwlocLoopC_returns _ _ _ _ _ _ _ _ _ rfl (by rw [List.drop_zero]; exact Nat.le_refl _)
  have e44 : rd s 7 = 44 := Classical.byContradiction (fun h => e h)
  have h4 := countCommas_suffix (List.drop_suffix 7 s)
  rw [drop_of_rd e44 (by decide), countCommas_cons, if_pos rfl, show (7 + 1 : Nat) = 8 from rfl] at h4
  exact hwlocLoopC_returns _ _ _ _ _ _ _ _ _ rfl (by omega)

end Cursor
end Bitmap
end Hw
