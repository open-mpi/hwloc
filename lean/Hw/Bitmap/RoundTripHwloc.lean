/-
  Hw.Bitmap.RoundTripHwloc — `hwloc_bitmap_sscanf (hwloc_bitmap_snprintf b)` denotes the same set as `b`.
-/
import Hw.Bitmap.ScanLemmas
import Hw.Base.NumLemmas
import Hw.Bitmap.PrintLemmas
import Hw.Bitmap.ScanCursor
namespace Hw
namespace Bitmap

/-! ### the printed text as a comma-separated list of encoded 32-bit groups -/

/-- how one 32-bit group is printed (`last`: it is the least significant group) -/
def encG (g : Nat) (last : Bool) : List Byte :=
  if g ≠ 0 then 48 :: 120 :: hexPad 8 g else if last then [48, 120, 48] else []

/-- the groups, most significant first, separated by commas -/
def encGs : List Nat → List Byte
  | [] => []
  | [g] => encG g true
  | g :: g' :: gs => encG g false ++ 44 :: encGs (g' :: gs)

theorem text_hwlocBody_true (gs : List Nat) :
    text (hwlocBody gs true false) = if gs = [] then [] else 44 :: encGs gs := by
  induction gs with
  | nil => simp [hwlocBody, text]
  | cons g gs ih =>
    unfold hwlocBody
    simp only [Bool.false_and, Bool.false_eq_true, if_false, if_true, reduceCtorEq]
    by_cases hg : g = 0
    · subst hg
      cases gs with
      | nil => simp [hwlocBody, text, encGs, encG, str_c0x0]
      | cons g' gs' =>
        simp only [bne_self_eq_false, Bool.false_eq_true, if_false, List.isEmpty_cons, text_cons, ih,
          reduceCtorEq, str_comma]
        simp [encGs, encG]
    · have hg' : (g != 0) = true := by simpa using hg
      simp only [hg', if_true, text_cons, ih, str_c0x]
      cases gs with
      | nil => simp [encGs, encG, hg]
      | cons g' gs' => simp [encGs, encG, hg]

/-- first printed group of a finite bitmap (`needcomma = false`) -/
theorem text_hwlocBody_first (g : Nat) (gs : List Nat) (hg : g ≠ 0) :
    text (hwlocBody (g :: gs) false false) = encGs (g :: gs) := by
  have hg' : (g != 0) = true := by simpa using hg
  unfold hwlocBody
  simp only [Bool.false_and, Bool.false_eq_true, if_false, hg', if_true, text_cons,
    text_hwlocBody_true, str_0x]
  cases gs with
  | nil => simp [encGs, encG, hg]
  | cons g' gs' => simp [encGs, encG, hg]

/-- a leading zero group of a finite bitmap prints nothing -/
theorem text_hwlocBody_skip {g : Nat} (hg : g = 0) (g' : Nat) (gs : List Nat) :
    text (hwlocBody (g :: g' :: gs) false false) = text (hwlocBody (g' :: gs) false false) := by
  rw [hg, hwlocBody]
  simp [text_cons]

/-- infinite bitmap, first group all ones: merged into the `0xf...f` prefix -/
theorem text_hwlocBody_merge {g : Nat} (hg : g = 0xFFFFFFFF) (gs : List Nat) :
    text (hwlocBody (g :: gs) true true) = text (hwlocBody gs true false) := by
  rw [hg, hwlocBody]
  simp [text_cons]

/-- infinite bitmap, first group not all ones -/
theorem text_hwlocBody_nomerge (g : Nat) (gs : List Nat) (hg : g ≠ 0xFFFFFFFF) :
    text (hwlocBody (g :: gs) true true) = text (hwlocBody (g :: gs) true false) := by
  have hg' : (g == 0xFFFFFFFF) = false := by simpa using hg
  rw [hwlocBody, hwlocBody]
  simp only [hg', Bool.and_false, Bool.false_eq_true, if_false]

def CommaOrEnd (rest : List Byte) : Prop := rest = [] ∨ ∃ r, rest = 44 :: r

theorem CommaOrEnd.noDigit {rest : List Byte} (h : CommaOrEnd rest) : NoDigitHead rest := by
  rcases h with h | ⟨r, h⟩
  · rw [h]; exact noDigitHead_nil
  · rw [h]; exact noDigitHead_comma r

theorem strtoul_encG (g : Nat) (last : Bool) (rest : List Byte) (hg : g < 2 ^ 32) (h : CommaOrEnd rest) :
    strtoul 16 (encG g last ++ rest) = .ok g rest := by
  unfold encG
  by_cases h0 : g = 0
  · subst h0
    simp only [ne_eq, not_true_eq_false, if_false]
    cases last with
    | true =>
      have e : ([48, 120, 48] : List Byte) ++ rest = 48 :: 120 :: (hexPad 1 0 ++ rest) := by
        have : hexPad 1 0 = [48] := by decide
        rw [this]; rfl
      simp only [if_true]
      rw [e]
      exact strtoul16_0x_hexPad 1 0 rest (by decide) h.noDigit
    | false =>
      simp only [Bool.false_eq_true, if_false, List.nil_append]
      rcases h with h | ⟨r, h⟩
      · rw [h]; exact strtoul16_nil
      · rw [h]; exact strtoul16_comma r
  · simp only [ne_eq, h0, not_false_eq_true, if_true]
    have hg64 : g < 2 ^ 64 := Nat.lt_trans hg (by decide)
    exact strtoul16_0x_hexPad 8 g rest hg64 h.noDigit

/-- the cells written by `hwlocLoop` for the remaining groups `gs` (most significant first) -/
def scanFill : List Nat → Word → List (Option Word) → List (Option Word)
  | [], _, ws => ws
  | g :: gs, accum, ws =>
    if gs.length % 2 = 0 then
      scanFill gs 0#64 (setCell ws (gs.length / 2) (accum ||| (BitVec.ofNat 64 g <<< ((gs.length * 32) % 64))))
    else scanFill gs (accum ||| (BitVec.ofNat 64 g <<< ((gs.length * 32) % 64))) ws

theorem encGs_commaOrEnd_tail (g : Nat) (gs : List Nat) :
    ∃ rest, CommaOrEnd rest ∧ encGs (g :: gs) = encG g gs.isEmpty ++ rest ∧
      (gs = [] → rest = []) ∧ (gs ≠ [] → rest = 44 :: encGs gs) := by
  cases gs with
  | nil => exact ⟨[], Or.inl rfl, by simp [encGs], fun _ => rfl, fun h => absurd rfl h⟩
  | cons g' gs' =>
    refine ⟨44 :: encGs (g' :: gs'), Or.inr ⟨_, rfl⟩, by simp [encGs], ?_, fun _ => rfl⟩
    intro h; cases h

theorem hwlocLoop_encGs (inf : Bool) (gs : List Nat) (hne : gs ≠ []) (hlt : ∀ g, g ∈ gs → g < 2 ^ 32) :
    ∀ (fuel : Nat) (accum : Word) (ws : List (Option Word)), gs.length ≤ fuel →
      hwlocLoop fuel (encGs gs) gs.length accum ws inf = .ok (scanFill gs accum ws) inf := by
  induction gs with
  | nil => exact absurd rfl hne
  | cons g gs ih =>
    intro fuel accum ws hf
    cases fuel with
    | zero => simp at hf
    | succ fuel =>
      obtain ⟨rest, hce, henc, hnil, hcons⟩ := encGs_commaOrEnd_tail g gs
      have hs : strtoul 16 (encGs (g :: gs)) = .ok g rest := by
        rw [henc]; exact strtoul_encG g _ rest (hlt g (by simp)) hce
      unfold hwlocLoop
      simp only [hs, List.length_cons, Nat.add_one_ne_zero, if_false, Nat.add_sub_cancel]
      cases gs with
      | nil =>
        rw [hnil rfl]
        simp [scanFill]
      | cons g' gs' =>
        rw [hcons (by simp)]
        have ih' := ih (by simp) (fun x hx => hlt x (by simp [hx])) fuel
        rw [scanFill]
        simp only [List.length_cons]
        -- the loop and `scanFill` branch on the same parity
        split <;> exact ih' _ _ (by simpa using hf)

def groupsOf (f : Nat → Word) (k : Nat) : List Nat :=
  ((List.range k).reverse.map (fun i => [hi32 (f i), lo32 (f i)])).flatten

theorem groups_eq (b : Bitmap) : b.groups = groupsOf b.readWord b.topWords := rfl

theorem groupsOf_zero (f : Nat → Word) : groupsOf f 0 = [] := rfl

theorem groupsOf_succ (f : Nat → Word) (k : Nat) :
    groupsOf f (k + 1) = hi32 (f k) :: lo32 (f k) :: groupsOf f k := by
  unfold groupsOf
  rw [List.range_succ, List.reverse_append]
  simp

theorem groupsOf_length (f : Nat → Word) (k : Nat) : (groupsOf f k).length = 2 * k := by
  induction k with
  | zero => rfl
  | succ k ih => rw [groupsOf_succ]; simp [ih]; omega

theorem groupsOf_cons_odd (f : Nat → Word) (k g : Nat) : (g :: groupsOf f k).length % 2 ≠ 0 := by
  rw [List.length_cons, groupsOf_length, Nat.mul_add_mod]; decide

theorem groupsOf_lt (f : Nat → Word) (k : Nat) : ∀ g, g ∈ groupsOf f k → g < 2 ^ 32 := by
  induction k with
  | zero => intro g hg; simp [groupsOf_zero] at hg
  | succ k ih =>
    intro g hg
    rw [groupsOf_succ] at hg
    simp only [List.mem_cons] at hg
    rcases hg with h | h | h
    · rw [h]; exact hi32_lt _
    · rw [h]; exact lo32_lt _
    · exact ih g h

theorem drop_setCell (ws : List (Option Word)) (k : Nat) (w : Word) (h : k < ws.length) :
    (setCell ws k w).drop k = some w :: ws.drop (k + 1) := by
  unfold setCell
  apply List.ext_getElem?
  intro i
  rw [List.getElem?_drop]
  cases i with
  | zero => simp [h]
  | succ i =>
    rw [List.getElem?_set_ne (by omega)]
    simp only [List.getElem?_cons_succ, List.getElem?_drop]
    congr 1; omega

theorem scanFill_groups (f : Nat → Word) : ∀ (k : Nat) (ws : List (Option Word)), k ≤ ws.length →
    scanFill (groupsOf f k) 0#64 ws = (List.range k).map (fun i => some (f i)) ++ ws.drop k := by
  intro k
  induction k with
  | zero => intro ws _; simp [groupsOf_zero, scanFill]
  | succ k ih =>
    intro ws hk
    have hl := groupsOf_length f k
    have e1 : (2 * k + 1) * 32 % 64 = 32 := by rw [Nat.mul_mod_mul_right 32 _ 2, Nat.mul_add_mod]
    have e2 : 2 * k * 32 % 64 = 0 := by rw [Nat.mul_mod_mul_right 32 _ 2, Nat.mul_mod_right]
    rw [groupsOf_succ, scanFill, List.length_cons, hl, if_neg (by rw [Nat.mul_add_mod]; decide), scanFill, hl,
      if_pos (Nat.mul_mod_right 2 k), e1, e2, Nat.mul_div_cancel_left k (by decide), join_word,
      ih _ (by rw [setCell_length]; exact Nat.le_of_succ_le hk), drop_setCell _ _ _ hk, List.range_succ, List.map_append]
    simp

theorem countCommas_append (a b : List Byte) : countCommas (a ++ b) = countCommas a + countCommas b := by
  simp [countCommas, List.countP_append]

theorem countCommas_hex {l : List Byte} (h : ∀ c, c ∈ l → IsHexChar c) : countCommas l = 0 := by
  rw [countCommas, List.countP_eq_zero]
  intro c hc
  have := h c hc
  unfold IsHexChar at this
  rw [beq_iff_eq]; intro e; rw [e] at this
  omega

theorem countCommas_encG (g : Nat) (last : Bool) : countCommas (encG g last) = 0 := by
  unfold encG
  split
  · rw [countCommas_cons, countCommas_cons, countCommas_hex (hexPad_chars 8 g)]; rfl
  · split <;> rfl

theorem countCommas_encGs (gs : List Nat) : countCommas (encGs gs) = gs.length - 1 := by
  induction gs with
  | nil => rfl
  | cons g gs ih =>
    cases gs with
    | nil => simp [encGs, countCommas_encG]
    | cons g' gs' =>
      rw [encGs, countCommas_append, countCommas_cons, if_pos rfl, countCommas_encG, ih]
      simp

theorem length_eq_countCommas_encGs_succ (gs : List Nat) (h : gs ≠ []) : gs.length = countCommas (encGs gs) + 1 := by
  rw [countCommas_encGs]
  cases gs with
  | nil => exact absurd rfl h
  | cons g gs => simp

theorem hwlocScan_inf_encGs (gs : List Nat) (hne : gs ≠ []) (hlt : ∀ g, g ∈ gs → g < 2 ^ 32) :
    hwlocScan (Cursor.pat_inf ++ 44 :: encGs gs) =
      .ok (scanFill gs (if gs.length % 2 ≠ 0 then BitVec.ofNat 64 (0xFFFFFFFF <<< 32) else 0#64)
            (List.replicate ((gs.length + 1) / 2) none)) true := by
  have hc : 1 + countCommas (Cursor.pat_inf ++ 44 :: encGs gs) - 1 = gs.length := by
    rw [countCommas_append, countCommas_cons, if_pos rfl, length_eq_countCommas_encGs_succ gs hne]
    have : countCommas Cursor.pat_inf = 0 := by decide
    omega
  have hp : isPrefix (str "0xf...f") (Cursor.pat_inf ++ 44 :: encGs gs) = true := by
    rw [str_inf]; exact isPrefix_iff.2 (List.prefix_append _ _)
  have hd : (Cursor.pat_inf ++ 44 :: encGs gs).drop 7 = 44 :: encGs gs := by simp [Cursor.pat_inf]
  unfold hwlocScan
  simp only [hp, if_true, hd, hc]
  exact hwlocLoop_encGs true gs hne hlt _ _ _ (Nat.le_refl _)

theorem hwlocScan_fin_encGs (g : Nat) (gs : List Nat) (hg : g ≠ 0) (hlt : ∀ x, x ∈ g :: gs → x < 2 ^ 32) :
    hwlocScan (encGs (g :: gs)) =
      .ok (scanFill (g :: gs) 0#64 (List.replicate (((g :: gs).length + 1) / 2) none)) false := by
  have hc : 1 + countCommas (encGs (g :: gs)) = (g :: gs).length := by
    rw [length_eq_countCommas_encGs_succ (g :: gs) (by simp)]; omega
  have hp : isPrefix (str "0xf...f") (encGs (g :: gs)) = false := by
    obtain ⟨rest, _, henc, _, _⟩ := encGs_commaOrEnd_tail g gs
    have hlen := hexPad_length 8 g (by omega) (by
      have := hlt g (by simp)
      have e : (16:Nat) ^ 8 = 2 ^ 32 := by decide
      omega)
    rw [henc, str_inf, encG, if_pos hg, List.cons_append, List.cons_append]
    refine isPrefix_inf_false _ fun c hc => hexPad_chars 8 g c ?_
    rw [List.getElem?_append_left (by omega)] at hc
    exact List.mem_of_getElem? hc
  unfold hwlocScan
  simp only [hp, hc]
  exact hwlocLoop_encGs false (g :: gs) (by simp) hlt _ _ _ (Nat.le_refl _)

theorem text_chunksHwloc (b : Bitmap) :
    text b.chunksHwloc =
      (if (if b.inf then Cursor.pat_inf else []) ++ text (hwlocBody b.groups b.inf b.inf) = [] then [48, 120, 48]
       else (if b.inf then Cursor.pat_inf else []) ++ text (hwlocBody b.groups b.inf b.inf)) := by
  have e : text ((if b.inf then [str "0xf...f"] else []) ++ hwlocBody b.groups b.inf b.inf) =
      (if b.inf then Cursor.pat_inf else []) ++ text (hwlocBody b.groups b.inf b.inf) := by
    rw [text_append]
    cases b.inf <;> simp [text, str_inf, Cursor.pat_inf]
  unfold chunksHwloc
  simp only [e, List.length_eq_zero_iff]
  by_cases h : (if b.inf then Cursor.pat_inf else []) ++ text (hwlocBody b.groups b.inf b.inf) = []
  · rw [if_pos h, if_pos h, text_append, e, h, str_0x0]; simp [text]
  · rw [if_neg h, if_neg h]; exact e

theorem encGs_cons_ne_nil (g : Nat) (gs : List Nat) (hg : g ≠ 0) : encGs (g :: gs) ≠ [] := by
  obtain ⟨rest, _, henc, _, _⟩ := encGs_commaOrEnd_tail g gs
  rw [henc]; unfold encG; rw [if_pos hg]; simp

theorem map_some_range (f : Nat → Word) (k : Nat) :
    (List.range k).map (fun i => some (f i)) = ((List.range k).map f).map some := by
  rw [List.map_map]; rfl

theorem scanFill_all (f : Nat → Word) (k : Nat) :
    scanFill (groupsOf f k) 0#64 (List.replicate (((groupsOf f k).length + 1) / 2) none)
      = ((List.range k).map f).map some := by
  have hl : ((groupsOf f k).length + 1) / 2 = k := by rw [groupsOf_length, Nat.mul_add_div (by decide : 0 < 2)]; rfl
  rw [hl, scanFill_groups f k _ (by simp)]
  simp only [List.drop_replicate, Nat.sub_self, List.replicate_zero, List.append_nil]
  rw [map_some_range]

/-- an accumulator that starts as the group `g` shifted up stands for a leading `g`: so the scanner sees the top
group that the printer left out (zero) or merged into the `0xf...f` prefix (all ones) -/
theorem scanFill_absorbed (g : Nat) (gs : List Nat) (accum : Word) (hodd : gs.length % 2 ≠ 0)
    (ha : accum = 0#64 ||| BitVec.ofNat 64 g <<< 32) :
    scanFill gs accum (List.replicate ((gs.length + 1) / 2) none)
      = scanFill (g :: gs) 0#64 (List.replicate (((g :: gs).length + 1) / 2) none) := by
  have e1 : gs.length * 32 % 64 = 32 := by rw [Nat.mul_mod_mul_right 32 _ 2, Nat.mod_two_ne_zero.1 hodd]
  have e2 : ((g :: gs).length + 1) / 2 = (gs.length + 1) / 2 := by
    rw [List.length_cons, Nat.add_div_right _ (by decide : 0 < 2), succ_div_two, if_neg hodd]
  rw [scanFill, if_neg hodd, e1, e2, ha]

theorem word_of_zero_groups (w : Word) (h1 : hi32 w = 0) (h2 : lo32 w = 0) : w = 0#64 := by
  have := join_word w
  rw [h1, h2] at this
  rw [← this]; decide

theorem hwloc_scan_fin (b : Bitmap) (hinf : b.inf = false) :
    hwlocScan (text b.chunksHwloc) =
      .ok (((List.range (max b.topWords 1)).map b.readWord).map some) false := by
  rw [text_chunksHwloc, hinf, groups_eq]
  simp only [Bool.false_eq_true, if_false, List.nil_append]
  cases hT : b.topWords with
  | zero =>
    have h0 : b.readWord 0 = 0#64 := by
      rw [readWord_ge_topWords b 0 (by omega), hinf, fillW_false]
    simp only [groupsOf_zero, hwlocBody, text, List.flatten_nil, if_true]
    show _ = ScanRes.ok [some (b.readWord 0)] false
    rw [h0]
    decide
  | succ t =>
    have hw := readWord_topWords_ne b t hT
    rw [hinf, fillW_false] at hw
    rw [Nat.max_eq_left (Nat.succ_pos t), groupsOf_succ]
    have hlt := groupsOf_lt b.readWord (t + 1)
    rw [groupsOf_succ] at hlt
    by_cases hhi : hi32 (b.readWord t) = 0
    · have hlo : lo32 (b.readWord t) ≠ 0 := fun h => hw (word_of_zero_groups _ hhi h)
      have hodd := groupsOf_cons_odd b.readWord t (lo32 (b.readWord t))
      rw [text_hwlocBody_skip hhi, text_hwlocBody_first _ _ hlo, if_neg (encGs_cons_ne_nil _ _ hlo),
        hwlocScan_fin_encGs _ _ hlo (fun x hx => hlt x (by simp [hx])),
        scanFill_absorbed (hi32 (b.readWord t)) _ _ hodd (by rw [hhi]; decide), ← groupsOf_succ, scanFill_all]
    · rw [text_hwlocBody_first _ _ hhi, if_neg (encGs_cons_ne_nil _ _ hhi),
        hwlocScan_fin_encGs _ _ hhi hlt, ← groupsOf_succ, scanFill_all]

theorem hwloc_scan_inf (b : Bitmap) (hinf : b.inf = true) :
    hwlocScan (text b.chunksHwloc) =
      .ok (((List.range (max b.topWords 1)).map b.readWord).map some) true := by
  rw [text_chunksHwloc, hinf, groups_eq]
  simp only [if_true]
  have hne : ∀ X : List Byte, Cursor.pat_inf ++ X ≠ [] := by intro X; simp [Cursor.pat_inf]
  rw [if_neg (hne _)]
  cases hT : b.topWords with
  | zero =>
    have h0 : b.readWord 0 = BitVec.allOnes 64 := by
      rw [readWord_ge_topWords b 0 (by omega), hinf, fillW_true]
    simp only [groupsOf_zero, hwlocBody, text, List.flatten_nil, List.append_nil]
    show _ = ScanRes.ok [some (b.readWord 0)] true
    rw [h0]
    decide
  | succ t =>
    rw [Nat.max_eq_left (Nat.succ_pos t), groupsOf_succ]
    have hlt := groupsOf_lt b.readWord (t + 1)
    rw [groupsOf_succ] at hlt
    by_cases hhi : hi32 (b.readWord t) = 0xFFFFFFFF
    · have hodd := groupsOf_cons_odd b.readWord t (lo32 (b.readWord t))
      rw [text_hwlocBody_merge hhi, text_hwlocBody_true, if_neg (by simp),
        hwlocScan_inf_encGs _ (by simp) (fun x hx => hlt x (by simp [hx])), if_pos hodd,
        scanFill_absorbed (hi32 (b.readWord t)) _ _ hodd (by rw [hhi]; decide), ← groupsOf_succ, scanFill_all]
    · rw [text_hwlocBody_nomerge _ _ hhi, text_hwlocBody_true, if_neg (by simp),
        hwlocScan_inf_encGs _ (by simp) hlt, ← groupsOf_succ]
      rw [if_neg (by rw [groupsOf_length, Nat.mul_mod_right]; decide), scanFill_all]

theorem hwloc_scan (b : Bitmap) :
    hwlocScan (text b.chunksHwloc) = .ok (((List.range (max b.topWords 1)).map b.readWord).map some) b.inf := by
  cases hinf : b.inf
  · exact hwloc_scan_fin b hinf
  · exact hwloc_scan_inf b hinf

theorem hwloc_roundtrip (b : Bitmap) (_hinv : b.Inv) :
    ∃ ws inf, hwlocScan (text b.chunksHwloc) = .ok (ws.map some) inf ∧
      ∀ n, (Bitmap.mk ws inf).mem n = b.mem n :=
  ⟨_, _, hwloc_scan b, build_mem_eq b _ (Nat.le_max_left _ _)⟩

end Bitmap
end Hw
