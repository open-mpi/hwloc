/-
  Hw.Bitmap.Lemmas — the set / clr family (single index, ranges with and without an end, `set_ith_ulong`)
  characterised by `mem`, from the bits of the mask words and the `realloc` / `modify` the model builds them with.
-/
import Hw.Bitmap.Ops
import Hw.Bitmap.BitStream
import Hw.Base.Cases
namespace Hw

theorem bitW_getLsbD (j k : Nat) (hj : j < 64) : (bitW j).getLsbD k = decide (k = j) := by
  unfold bitW
  simp only [BitVec.getLsbD_shiftLeft, BitVec.getLsbD_one]
  by_cases h : k = j
  · subst h; simp [hj]
  · simp [h]; omega

theorem fromW_getLsbD (j k : Nat) : (fromW j).getLsbD k = (decide (k < 64) && decide (j ≤ k)) := by
  unfold fromW
  simp only [BitVec.getLsbD_shiftLeft, BitVec.getLsbD_allOnes]
  by_cases h1 : k < 64 <;> by_cases h2 : j ≤ k <;> simp [h1, h2] <;> omega

theorem toW_getLsbD (j k : Nat) (hj : j < 64) : (toW j).getLsbD k = decide (k ≤ j) := by
  unfold toW
  simp only [BitVec.getLsbD_ushiftRight, BitVec.getLsbD_allOnes]
  by_cases h2 : k ≤ j <;> simp [h2] <;> omega

theorem fromToW_getLsbD (b e k : Nat) (he : e < 64) :
    (fromToW b e).getLsbD k = (decide (b ≤ k) && decide (k ≤ e)) := by
  unfold fromToW
  rw [BitVec.getLsbD_and, toW_getLsbD _ _ he, fromW_getLsbD]
  by_cases h1 : b ≤ k <;> by_cases h2 : k ≤ e <;> simp [h1, h2]
  omega

namespace Bitmap

theorem mem_def (b : Bitmap) (n : Nat) : b.mem n = (b.readWord (n/64)).getLsbD (n%64) := rfl

theorem readWord_getLsbD (b : Bitmap) (k j : Nat) (hj : j < 64) :
    (b.readWord k).getLsbD j = b.mem (64 * k + j) :=
  (bitAt_word b.readWord k j hj).symm

theorem mem_of_ge (b : Bitmap) (n : Nat) (h : b.count * 64 ≤ n) : b.mem n = b.inf := by
  unfold mem
  rw [readWord_ge b (by omega)]
  exact fillW_getLsbD _ _ (Nat.mod_lt _ (by omega))

theorem inf_iff_unbounded (b : Bitmap) : b.inf = true ↔ ∀ N, ∃ m, N ≤ m ∧ b.mem m = true := by
  constructor
  · intro h N
    exact ⟨max N (b.count * 64), Nat.le_max_left _ _, by rw [mem_of_ge b _ (Nat.le_max_right _ _)]; exact h⟩
  · intro h
    obtain ⟨m, hm, hs⟩ := h (b.count * 64)
    rw [mem_of_ge b m hm] at hs; exact hs

@[simp] theorem realloc_inf (b : Bitmap) (n : Nat) : (b.realloc n).inf = b.inf := by
  unfold realloc; split <;> simp

theorem realloc_count (b : Bitmap) (n : Nat) : (b.realloc n).count = max b.count n := by
  unfold realloc; split
  · omega
  · simp; omega

@[simp] theorem readWord_realloc (b : Bitmap) (n i : Nat) : (b.realloc n).readWord i = b.readWord i := by
  unfold realloc; split
  · rfl
  · rw [readWord_build]; split
    · rfl
    · rw [readWord_ge b (by omega)]

@[simp] theorem modify_inf (b : Bitmap) (g) : (b.modify g).inf = b.inf := rfl
@[simp] theorem modify_count (b : Bitmap) (g) : (b.modify g).count = b.count := by simp [modify]

theorem readWord_modify (b : Bitmap) (g : Nat → Word → Word) (i : Nat) :
    (b.modify g).readWord i = if i < b.count then g i (b.readWord i) else b.readWord i := by
  unfold modify; rw [readWord_build]; split
  · rfl
  · rw [readWord_ge b (by omega)]

theorem realloc_inv (b : Bitmap) (n : Nat) (h : b.Inv) : (b.realloc n).Inv := by
  have := realloc_count b n; unfold Inv count at *; omega
theorem modify_inv (b : Bitmap) (g) (h : b.Inv) : (b.modify g).Inv := by
  have := modify_count b g; unfold Inv count at *; omega

theorem mem_modify_realloc (b : Bitmap) (m : Nat) (g : Nat → Word → Word) (n : Nat) :
    ((b.realloc m).modify g).mem n =
      if n / 64 < max b.count m then (g (n/64) (b.readWord (n/64))).getLsbD (n % 64) else b.mem n := by
  rw [mem_def, readWord_modify, readWord_realloc, realloc_count]
  split <;> rfl

@[simp] theorem setInf_count (b : Bitmap) (f : Bool) : (b.setInf f).count = b.count := rfl
@[simp] theorem setInf_inf (b : Bitmap) (f : Bool) : (b.setInf f).inf = f := rfl
theorem setInf_inv (b : Bitmap) (f : Bool) (h : b.Inv) : (b.setInf f).Inv := h

theorem readWord_setInf (b : Bitmap) (f : Bool) (i : Nat) :
    (b.setInf f).readWord i = if i < b.count then b.readWord i else fillW f := by
  split
  · rename_i h
    rw [readWord_lt _ (by simpa using h), readWord_lt _ h]; rfl
  · rw [readWord_ge _ (by simp; omega)]; rfl

/-! ### the word operations behind set / clr and their ranges

`hwloc_bitmap_set*` OR a mask into a word, `hwloc_bitmap_clr*` AND its complement; a word wholly inside a
range becomes all ones, resp. zero.  `MaskOp op mid φ` says how such an operation acts on one bit: `φ` of
the old bit and the mask bit. -/

structure MaskOp (op : Word → Word → Word) (mid : Word) (φ : Bool → Bool → Bool) : Prop where
  bit : ∀ w m k, k < 64 → (op w m).getLsbD k = φ (w.getLsbD k) (m.getLsbD k)
  mid : ∀ x k, k < 64 → mid.getLsbD k = φ x true
  keep : ∀ x, φ x false = x

theorem maskOp_or : MaskOp (· ||| ·) (BitVec.allOnes 64) (· || ·) where
  bit _ _ _ _ := BitVec.getLsbD_or ..
  mid x k hk := by rw [BitVec.getLsbD_allOnes, Bool.or_true]; exact decide_eq_true hk
  keep := Bool.or_false

theorem maskOp_andnot : MaskOp (fun w m => w &&& ~~~ m) 0#64 (fun x y => x && !y) where
  bit w m k hk := by rw [BitVec.getLsbD_and, BitVec.getLsbD_not, decide_eq_true hk, Bool.true_and]
  mid x k _ := by rw [BitVec.getLsbD_zero, Bool.not_true, Bool.and_false]
  keep x := by rw [Bool.not_false, Bool.and_true]

namespace MaskOp
variable {op : Word → Word → Word} {mid : Word} {φ : Bool → Bool → Bool}

theorem leaf (h : MaskOp op mid φ) {w m : Word} {k : Nat} {p : Bool} (hk : k < 64) (hm : m.getLsbD k = p) :
    (op w m).getLsbD k = φ (w.getLsbD k) p := by
  rw [h.bit _ _ _ hk, hm]

theorem outside (h : MaskOp op mid φ) {w : Word} {k : Nat} {p : Bool} (hp : p = false) :
    w.getLsbD k = φ (w.getLsbD k) p := by
  rw [hp, h.keep]

/-- word `j` after `set`/`clr` of the single index `c` -/
theorem single (h : MaskOp op mid φ) (c j k : Nat) (w : Word) (hk : k < 64) :
    (if j = c / 64 then op w (bitW (c % 64)) else w).getLsbD k = φ (w.getLsbD k) (decide (64 * j + k = c)) := by
  refine ite_pred (fun x : Word => x.getLsbD k = _) (fun hj => h.leaf hk ?_) fun hj =>
    h.outside (decide_eq_false (by omega))
  rw [bitW_getLsbD _ _ (Nat.mod_lt _ (by omega))]
  exact decide_eq_decide.mpr (by omega)

/-- word `j` after `set_range`/`clr_range` of `[beg, ∞)` -/
theorem openEnded (h : MaskOp op mid φ) (beg j k : Nat) (w : Word) (hk : k < 64) :
    (if j = beg / 64 then op w (fromW (beg % 64)) else if beg / 64 < j then mid else w).getLsbD k
      = φ (w.getLsbD k) (decide (beg ≤ 64 * j + k)) := by
  refine ite_pred (fun x : Word => x.getLsbD k = _) (fun hj => h.leaf hk ?_) fun hj =>
    ite_pred (fun x : Word => x.getLsbD k = _) (fun hlt => ?_) fun hlt =>
      h.outside (decide_eq_false (by omega))
  · rw [fromW_getLsbD, decide_eq_true hk, Bool.true_and]
    exact decide_eq_decide.mpr (by omega)
  · have : beg ≤ 64 * j + k := by omega
    rw [decide_eq_true this]; exact h.mid _ _ hk

/-- word `j` after `set_range`/`clr_range` of `[beg, e]` -/
theorem closed (h : MaskOp op mid φ) (beg e j k : Nat) (w : Word) (hbe : beg ≤ e) (hk : k < 64) :
    (if beg / 64 = e / 64 then (if j = beg / 64 then op w (fromToW (beg % 64) (e % 64)) else w)
      else if j = beg / 64 then op w (fromW (beg % 64))
      else if j = e / 64 then op w (toW (e % 64))
      else if beg / 64 < j ∧ j < e / 64 then mid else w).getLsbD k
    = φ (w.getLsbD k) (decide (beg ≤ 64 * j + k) && decide (64 * j + k ≤ e)) := by
  have he : e % 64 < 64 := Nat.mod_lt _ (by omega)
  have out : ¬ (beg ≤ 64 * j + k ∧ 64 * j + k ≤ e) →
      w.getLsbD k = φ (w.getLsbD k) (decide (beg ≤ 64 * j + k) && decide (64 * j + k ≤ e)) :=
    fun hn => h.outside (by simpa using hn)
  refine ite_pred (fun x : Word => x.getLsbD k = _) (fun hs => ?_) fun hs => ?_
  · refine ite_pred (fun x : Word => x.getLsbD k = _) (fun hj => h.leaf hk ?_) fun hj => out (by omega)
    rw [fromToW_getLsbD _ _ _ he]
    congr 1 <;> exact decide_eq_decide.mpr (by omega)
  · refine ite_pred (fun x : Word => x.getLsbD k = _) (fun hj => h.leaf hk ?_) fun hj =>
      ite_pred (fun x : Word => x.getLsbD k = _) (fun hj2 => h.leaf hk ?_) fun hj2 =>
      ite_pred (fun x : Word => x.getLsbD k = _) (fun hin => ?_) fun hin => out (by omega)
    · have : 64 * j + k ≤ e := by omega
      rw [fromW_getLsbD, decide_eq_true hk, Bool.true_and, decide_eq_true this, Bool.and_true]
      exact decide_eq_decide.mpr (by omega)
    · have : beg ≤ 64 * j + k := by omega
      rw [toW_getLsbD _ _ he, decide_eq_true this, Bool.true_and]
      exact decide_eq_decide.mpr (by omega)
    · have a1 : beg ≤ 64 * j + k := by omega
      have a2 : 64 * j + k ≤ e := by omega
      rw [decide_eq_true a1, decide_eq_true a2]
      exact h.mid _ _ hk

theorem mem_modify (h : MaskOp op mid φ) (b : Bitmap) (m : Nat) (g : Nat → Word → Word) (p : Nat → Bool) (n : Nat)
    (hg : ∀ j k w, k < 64 → (g j w).getLsbD k = φ (w.getLsbD k) (p (64 * j + k)))
    (hp : m ≤ n / 64 → p n = false) :
    ((b.realloc m).modify g).mem n = φ (b.mem n) (p n) := by
  have hm : n % 64 < 64 := Nat.mod_lt _ (by decide)
  have e : 64 * (n / 64) + n % 64 = n := Nat.div_add_mod n 64
  rw [mem_modify_realloc]
  refine ite_pred (fun x : Bool => x = _) (fun _ => ?_) fun hk => h.outside (hp (by omega))
  rw [hg _ _ _ hm, e, mem_def]

end MaskOp

/-- `G` is the guard of the C code under which an index beyond the stored words needs no work: there
the bitmap holds its flag, which the operation leaves as it is -/
def Idle (φ : Bool → Bool → Bool) (b : Bitmap) (G : Bool) : Prop :=
  G = true → ∀ m x, b.count * 64 ≤ m → φ (b.mem m) x = b.mem m

theorem idle_or (b : Bitmap) : Idle (· || ·) b b.inf := fun hi m x hm => by
  rw [mem_of_ge b m hm, hi]; rfl
theorem idle_andnot (b : Bitmap) : Idle (fun x y => x && !y) b (!b.inf) := fun hi m x hm => by
  rw [mem_of_ge b m hm, (Bool.not_eq_true' _).mp hi]; rfl

namespace MaskOp
variable {op : Word → Word → Word} {mid : Word} {φ : Bool → Bool → Bool}

/-- the early return of every set / clr function -/
theorem mem_guard (h : MaskOp op mid φ) {b : Bitmap} {G : Bool} (hG : Idle φ b G) {beg n : Nat} {p : Bool}
    (hg : (G && decide (b.count * 64 ≤ beg)) = true) (hp : p = true → beg ≤ n) : b.mem n = φ (b.mem n) p := by
  simp only [Bool.and_eq_true, decide_eq_true_eq] at hg
  cases p with
  | false => exact (h.keep _).symm
  | true => exact (hG hg.1 n true (Nat.le_trans hg.2 (hp rfl))).symm

/-- `hwloc_bitmap_set` / `hwloc_bitmap_clr` -/
theorem mem_one (h : MaskOp op mid φ) (b : Bitmap) (G : Bool) (hG : Idle φ b G) (c n : Nat) :
    (if G && decide (b.count * 64 ≤ c) then b
      else (b.realloc (c / 64 + 1)).modify (fun j w => if j = c / 64 then op w (bitW (c % 64)) else w)).mem n
    = φ (b.mem n) (decide (n = c)) := by
  refine ite_pred (fun x : Bitmap => x.mem n = _)
    (fun hg => h.mem_guard hG hg fun hp => Nat.le_of_eq (of_decide_eq_true hp).symm) fun _ => ?_
  refine (h.mem_modify b _ _ (fun n => decide (n = c)) n (fun j k w hk => ?_) fun hk => decide_eq_false (by omega))
  rw [h.single c j k w hk]

/-- `hwloc_bitmap_set_range` / `hwloc_bitmap_clr_range` with `end = -1`; the new flag `f` is what `φ` makes
of any bit inside the range -/
theorem mem_open (h : MaskOp op mid φ) (b : Bitmap) (G : Bool) (hG : Idle φ b G) (beg n : Nat) (f : Bool)
    (hf : ∀ x, φ x true = f) :
    (if G && decide (b.count * 64 ≤ beg) then b
      else ((b.realloc (beg / 64 + 1)).modify (fun j w =>
        if j = beg / 64 then op w (fromW (beg % 64)) else if beg / 64 < j then mid else w)).setInf f).mem n
      = φ (b.mem n) (decide (beg ≤ n)) := by
  refine ite_pred (fun x : Bitmap => x.mem n = _) (fun hg => h.mem_guard hG hg of_decide_eq_true) fun _ => ?_
  have hm : n % 64 < 64 := Nat.mod_lt _ (by decide)
  have e : 64 * (n / 64) + n % 64 = n := Nat.div_add_mod n 64
  rw [mem_def, readWord_setInf, modify_count, realloc_count, readWord_modify, readWord_realloc, realloc_count]
  refine ite_pred (fun x : Word => x.getLsbD (n % 64) = _) (fun hk => ?_) fun hk => ?_
  · rw [if_pos hk, h.openEnded beg _ _ _ hm, e, mem_def]
  · have : beg ≤ n := by omega
    rw [fillW_getLsbD _ _ hm, decide_eq_true this, hf]

/-- `hwloc_bitmap_set_range` / `hwloc_bitmap_clr_range` with an end: an end that reaches into the part
governed by the flag is cut back to the last stored index -/
theorem mem_closed (h : MaskOp op mid φ) (b : Bitmap) (G : Bool) (hG : Idle φ b G) (beg e n : Nat) :
    (if e < beg then b
      else if G && decide (b.count * 64 ≤ beg) then b
      else
        let e' := if G && decide (b.count * 64 ≤ e) then b.count * 64 - 1 else e
        (b.realloc (e' / 64 + 1)).modify (fun j w =>
          if beg / 64 = e' / 64 then (if j = beg / 64 then op w (fromToW (beg % 64) (e' % 64)) else w)
          else if j = beg / 64 then op w (fromW (beg % 64))
          else if j = e' / 64 then op w (toW (e' % 64))
          else if beg / 64 < j ∧ j < e' / 64 then mid else w)).mem n
      = φ (b.mem n) (decide (beg ≤ n) && decide (n ≤ e)) := by
  refine ite_pred (fun x : Bitmap => x.mem n = _) (fun hlt => ?_) fun hbe =>
    ite_pred (fun x : Bitmap => x.mem n = _)
      (fun hg => h.mem_guard hG hg fun hp => of_decide_eq_true (Bool.and_eq_true_iff.mp hp).1) fun hnb => ?_
  · have : ¬ (beg ≤ n ∧ n ≤ e) := by omega
    exact h.outside (by simpa using this)
  · extract_lets e'
    -- the cut end is not before `beg`, and cutting changes nothing: beyond the stored words the operation is idle
    have ⟨he', hcut⟩ : beg ≤ e' ∧ φ (b.mem n) (decide (beg ≤ n) && decide (n ≤ e')) =
        φ (b.mem n) (decide (beg ≤ n) && decide (n ≤ e)) := by
      refine ite_pred (fun x => beg ≤ x ∧ φ (b.mem n) (decide (beg ≤ n) && decide (n ≤ x)) = _) (fun hc => ?_)
        fun _ => ⟨by omega, rfl⟩
      simp only [Bool.and_eq_true, decide_eq_true_eq] at hc
      simp only [hc.1, Bool.true_and, decide_eq_true_eq] at hnb
      refine ⟨by omega, ?_⟩
      by_cases hn : b.count * 64 ≤ n
      · rw [hG hc.1 n _ hn, hG hc.1 n _ hn]
      · rw [decide_eq_true (by omega : n ≤ b.count * 64 - 1), decide_eq_true (by omega : n ≤ e)]
    refine (h.mem_modify b _ _ (fun n => decide (beg ≤ n) && decide (n ≤ e')) n
      (fun j k w hk => h.closed beg e' j k w he' hk) fun hk => ?_).trans hcut
    have : ¬ n ≤ e' := by omega
    rw [decide_eq_false this, Bool.and_false]

end MaskOp

theorem mem_set (b : Bitmap) (c n : Nat) : (b.set c).mem n = (b.mem n || decide (n = c)) :=
  maskOp_or.mem_one b _ (idle_or b) c n
theorem mem_clr (b : Bitmap) (c n : Nat) : (b.clr c).mem n = (b.mem n && !decide (n = c)) :=
  maskOp_andnot.mem_one b _ (idle_andnot b) c n

theorem set_inv (b : Bitmap) (c : Nat) (h : b.Inv) : (b.set c).Inv :=
  ite_cases (fun _ => h) fun _ => modify_inv _ _ (realloc_inv _ _ h)
theorem clr_inv (b : Bitmap) (c : Nat) (h : b.Inv) : (b.clr c).Inv :=
  ite_cases (fun _ => h) fun _ => modify_inv _ _ (realloc_inv _ _ h)

theorem mem_setIthUlong (b : Bitmap) (i : Nat) (m : Word) (n : Nat) :
    (b.setIthUlong i m).mem n = if n / 64 = i then m.getLsbD (n % 64) else b.mem n := by
  unfold setIthUlong
  rw [mem_modify_realloc]
  by_cases h1 : n / 64 = i
  · have hlt : n / 64 < max b.count (i + 1) := by omega
    rw [if_pos hlt, if_pos h1, if_pos h1]
  · rw [if_neg h1, if_neg h1]; split <;> rfl
theorem setIthUlong_inv (b : Bitmap) (i : Nat) (m : Word) (h : b.Inv) : (b.setIthUlong i m).Inv :=
  modify_inv _ _ (realloc_inv _ _ h)

theorem setIthUlong_inf (b : Bitmap) (i : Nat) (m : Word) : (b.setIthUlong i m).inf = b.inf := by
  unfold setIthUlong; simp

theorem mem_setRange_none (b : Bitmap) (beg n : Nat) :
    (b.setRange beg none).mem n = (b.mem n || decide (beg ≤ n)) :=
  maskOp_or.mem_open b _ (idle_or b) beg n true Bool.or_true
theorem mem_clrRange_none (b : Bitmap) (beg n : Nat) :
    (b.clrRange beg none).mem n = (b.mem n && !decide (beg ≤ n)) :=
  maskOp_andnot.mem_open b _ (idle_andnot b) beg n false fun x => by rw [Bool.not_true, Bool.and_false]

theorem mem_setRange_some (b : Bitmap) (beg e n : Nat) :
    (b.setRange beg (some e)).mem n = (b.mem n || (decide (beg ≤ n) && decide (n ≤ e))) :=
  maskOp_or.mem_closed b _ (idle_or b) beg e n
theorem mem_clrRange_some (b : Bitmap) (beg e n : Nat) :
    (b.clrRange beg (some e)).mem n = (b.mem n && !(decide (beg ≤ n) && decide (n ≤ e))) :=
  maskOp_andnot.mem_closed b _ (idle_andnot b) beg e n

theorem setRange_inv (b : Bitmap) (beg : Nat) (en : Option Nat) (h : b.Inv) : (b.setRange beg en).Inv := by
  cases en with
  | none => exact ite_cases (fun _ => h) fun _ => setInf_inv _ _ (modify_inv _ _ (realloc_inv _ _ h))
  | some e =>
    exact ite_cases (fun _ => h) fun _ => ite_cases (fun _ => h) fun _ => modify_inv _ _ (realloc_inv _ _ h)

theorem clrRange_inv (b : Bitmap) (beg : Nat) (en : Option Nat) (h : b.Inv) : (b.clrRange beg en).Inv := by
  cases en with
  | none => exact ite_cases (fun _ => h) fun _ => setInf_inv _ _ (modify_inv _ _ (realloc_inv _ _ h))
  | some e =>
    exact ite_cases (fun _ => h) fun _ => ite_cases (fun _ => h) fun _ => modify_inv _ _ (realloc_inv _ _ h)

theorem clrRange_none_inf (b : Bitmap) (beg : Nat) : (b.clrRange beg none).inf = false := by
  unfold clrRange
  simp only
  split
  · rename_i h
    simp only [Bool.and_eq_true, Bool.not_eq_true'] at h
    exact h.1
  · rfl

end Bitmap
end Hw
