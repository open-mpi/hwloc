/-
  Hw.Bitmap.Queries — boolean queries characterised by `mem` only.  The two-operand queries of
  hwloc/bitmap.c test `max count1 count2` pairs of words and then the two flags: the flag test is the word
  test on the fill words (`forall_readWord_iff`), and a word test that says the same of every pair of bits
  (`Bitwise`) is then a statement about the two sets (`Bitwise.query`).
-/
import Hw.Bitmap.Combine
namespace Hw
namespace Bitmap

theorem words_all_iff (b : Bitmap) (p : Word → Bool) :
    b.words.all p = true ↔ ∀ i, i < b.count → p (b.readWord i) = true := by
  rw [words_eq, List.all_map, List.all_eq_true]
  exact forall_congr' fun i => by rw [List.mem_range]; rfl

theorem readWord_fill_iff (b : Bitmap) (k : Nat) (f : Bool) :
    b.readWord k = fillW f ↔ ∀ j, j < 64 → b.mem (64 * k + j) = f := by
  rw [word_eq_fillW_iff]
  exact forall_congr' fun j => imp_congr_right fun hj => by rw [readWord_getLsbD b k j hj]

theorem all_fill_iff (b : Bitmap) (f : Bool) :
    (b.inf = f ∧ ∀ i, i < b.count → b.readWord i = fillW f) ↔ ∀ n, b.mem n = f := by
  constructor
  · intro ⟨hinf, hall⟩ n
    by_cases hk : n / 64 < b.count
    · rw [mem_def, hall _ hk, fillW_getLsbD _ _ (Nat.mod_lt n (by omega))]
    · rw [mem_of_ge b n (by omega), hinf]
  · intro h
    exact ⟨by rw [← mem_of_ge b _ (Nat.le_refl _)]; exact h _, fun i _ => (readWord_fill_iff b i f).mpr fun j _ => h _⟩

theorem iszero_iff (b : Bitmap) : b.iszero = true ↔ ∀ n, b.mem n = false := by
  unfold iszero
  rw [Bool.and_eq_true, words_all_iff, Bool.not_eq_true']
  simp only [beq_iff_eq]
  exact all_fill_iff b false

theorem isfull_iff (b : Bitmap) : b.isfull = true ↔ ∀ n, b.mem n = true := by
  unfold isfull
  rw [Bool.and_eq_true, words_all_iff]
  simp only [beq_iff_eq]
  exact all_fill_iff b true

theorem forall_readWord_iff (a b : Bitmap) (p : Word → Word → Bool) :
    ((List.range (max a.count b.count)).all (fun i => p (a.readWord i) (b.readWord i)) = true ∧
      p (fillW a.inf) (fillW b.inf) = true) ↔ ∀ i, p (a.readWord i) (b.readWord i) = true := by
  simp only [List.all_eq_true, List.mem_range]
  constructor
  · intro ⟨hall, hfill⟩ i
    by_cases hi : i < max a.count b.count
    · exact hall i hi
    · rw [readWord_ge a (by omega), readWord_ge b (by omega)]; exact hfill
  · intro h
    refine ⟨fun i _ => h i, ?_⟩
    have := h (max a.count b.count)
    rwa [readWord_ge a (Nat.le_max_left _ _), readWord_ge b (Nat.le_max_right _ _)] at this

structure Bitwise (p : Word → Word → Bool) (q : Bool → Bool → Bool) : Prop where
  iff : ∀ x y, p x y = true ↔ ∀ j, j < 64 → q (x.getLsbD j) (y.getLsbD j) = true

theorem Bitwise.fill {p q} (h : Bitwise p q) (x y : Bool) : p (fillW x) (fillW y) = q x y := by
  apply Bool.eq_iff_iff.mpr
  rw [h.iff]
  constructor
  · intro hh; have := hh 0 (by omega); rwa [fillW_getLsbD _ _ (by omega), fillW_getLsbD _ _ (by omega)] at this
  · intro hh j hj; rwa [fillW_getLsbD _ _ hj, fillW_getLsbD _ _ hj]

theorem Bitwise.mem_iff {p q} (h : Bitwise p q) (a b : Bitmap) :
    (∀ i, p (a.readWord i) (b.readWord i) = true) ↔ ∀ n, q (a.mem n) (b.mem n) = true := by
  constructor
  · intro hh n; exact (h.iff _ _).mp (hh (n / 64)) (n % 64) (Nat.mod_lt _ (by omega))
  · intro hh i
    rw [h.iff]; intro j hj
    rw [readWord_getLsbD _ _ _ hj, readWord_getLsbD _ _ _ hj]; exact hh _

/-- the shape of `isequal`, `isincluded` and (negated) `intersects` -/
theorem Bitwise.query {p q} (h : Bitwise p q) (a b : Bitmap) :
    ((List.range (max a.count b.count)).all (fun i => p (a.readWord i) (b.readWord i)) && q a.inf b.inf) = true
      ↔ ∀ n, q (a.mem n) (b.mem n) = true := by
  rw [Bool.and_eq_true, ← h.fill, forall_readWord_iff, h.mem_iff]

theorem bitwise_eq : Bitwise (fun x y => x == y) (fun x y => x == y) where
  iff x y := by
    rw [beq_iff_eq]
    exact ⟨fun e j _ => by rw [e]; exact beq_self_eq_true _,
      fun hh => BitVec.eq_of_getLsbD_eq fun i hi => by simpa using hh i hi⟩

theorem mem_ext_iff (a b : Bitmap) : (∀ n, a.mem n = b.mem n) ↔ ∀ k, a.readWord k = b.readWord k := by
  simpa only [beq_iff_eq] using (bitwise_eq.mem_iff a b).symm

theorem word_incl_iff (x y : Word) : (y == (y ||| x)) = true ↔ ∀ j, j < 64 → x.getLsbD j = true → y.getLsbD j = true := by
  rw [beq_iff_eq, eq_comm]
  simp only [← Bool.or_eq_left_iff_imp, ← BitVec.getLsbD_or]
  exact ⟨fun h j _ => by rw [h], BitVec.eq_of_getLsbD_eq⟩

theorem bitwise_incl : Bitwise (fun x y => y == (y ||| x)) (fun x y => !x || y) where
  iff x y := by
    rw [word_incl_iff]
    exact forall_congr' fun j => imp_congr_right fun _ => by
      rw [Bool.or_eq_true, Bool.not_eq_true', ← Bool.not_eq_true, Decidable.imp_iff_not_or]

theorem bitwise_disj : Bitwise (fun x y => x &&& y == 0#64) (fun x y => !(x && y)) where
  iff x y := by
    rw [beq_iff_eq, word_eq_zero_iff]
    exact forall_congr' fun j => imp_congr_right fun _ => by rw [BitVec.getLsbD_and, Bool.not_eq_true']

theorem isequal_iff (a b : Bitmap) : a.isequal b = true ↔ ∀ n, a.mem n = b.mem n := by
  unfold isequal
  rw [bitwise_eq.query]
  exact forall_congr' fun n => beq_iff_eq

theorem isincluded_iff (sub sup : Bitmap) :
    sub.isincluded sup = true ↔ ∀ n, sub.mem n = true → sup.mem n = true := by
  unfold isincluded
  rw [show (!(sub.inf && !sup.inf)) = (!sub.inf || sup.inf) by rw [Bool.not_and, Bool.not_not],
    bitwise_incl.query sub sup]
  exact forall_congr' fun n => by
    rw [Bool.or_eq_true, Bool.not_eq_true', ← Bool.not_eq_true, Decidable.imp_iff_not_or]

theorem isequal_eq_and (a b : Bitmap) : a.isequal b = (a.isincluded b && b.isincluded a) := by
  apply Bool.eq_iff_iff.mpr
  rw [Bool.and_eq_true, isequal_iff, isincluded_iff, isincluded_iff]
  exact ⟨fun h => ⟨fun n hn => by rw [← h n]; exact hn, fun n hn => by rw [h n]; exact hn⟩,
    fun ⟨h1, h2⟩ n => Bool.eq_iff_iff.mpr ⟨h1 n, h2 n⟩⟩

theorem intersects_iff (a b : Bitmap) : a.intersects b = true ↔ ∃ n, a.mem n = true ∧ b.mem n = true := by
  have h : a.intersects b = !((List.range (max a.count b.count)).all
      (fun i => a.readWord i &&& b.readWord i == 0#64) && !(a.inf && b.inf)) := by
    unfold intersects
    rw [Bool.not_and, Bool.not_not, List.not_all_eq_any_not]
    rfl
  rw [h, Bool.not_eq_true', ← Bool.not_eq_true, bitwise_disj.query, Classical.not_forall]
  exact exists_congr fun n => by rw [Bool.not_eq_true, Bool.not_eq_false', Bool.and_eq_true]


theorem isset_eq (b : Bitmap) (n : Nat) : b.isset n = b.mem n := rfl

theorem toIthUlong_getLsbD (b : Bitmap) (k j : Nat) (hj : j < 64) :
    (b.toIthUlong k).getLsbD j = b.mem (64 * k + j) := readWord_getLsbD b k j hj

theorem toUlong_getLsbD (b : Bitmap) (j : Nat) (hj : j < 64) : b.toUlong.getLsbD j = b.mem j := by
  have := readWord_getLsbD b 0 j hj
  simpa [toUlong] using this

theorem toUlongs_length (b : Bitmap) (nr : Nat) : (b.toUlongs nr).length = nr := by simp [toUlongs]
theorem toUlongs_getElem (b : Bitmap) (nr k : Nat) (h : k < nr) :
    (b.toUlongs nr)[k]'(by simp [toUlongs, h]) = b.toIthUlong k := by
  simp [toUlongs, toIthUlong]

end Bitmap
end Hw
