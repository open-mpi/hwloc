/-
  Hw.Bitmap.Ops — representation-exact model of the operations of hwloc/bitmap.c
  (lines 84–243 and 744–1766).  Every function returns the same `ulongs_count`, the same
  words and the same `infinite` flag as the C code.  Indexes are `Nat`; the C `unsigned`/`int`
  arithmetic does not wrap on the domain (indexes and `64*count` below 2^31) that the harness
  generator respects.  `end = -1` of the range functions is
  `none`.
-/
import Hw.Bitmap.Repr
namespace Hw

/-- `HWLOC_SUBBITMAP_CPU(cpu)` for a bit position `j < 64` -/
def bitW (j : Nat) : Word := 1#64 <<< j
/-- `HWLOC_SUBBITMAP_ULBIT_FROM(j)` -/
def fromW (j : Nat) : Word := BitVec.allOnes 64 <<< j
/-- `HWLOC_SUBBITMAP_ULBIT_TO(j)` -/
def toW (j : Nat) : Word := BitVec.allOnes 64 >>> (63 - j)
/-- `HWLOC_SUBBITMAP_ULBIT_FROMTO(b,e)` -/
def fromToW (b e : Nat) : Word := toW e &&& fromW b

namespace Bitmap

def alloc : Bitmap := ⟨[0#64], false⟩
def allocFull : Bitmap := ⟨[BitVec.allOnes 64], true⟩
def dup (b : Bitmap) : Bitmap := b
/-- `hwloc_bitmap_copy(dst, src)`: `dst` gets `src`'s count, words and flag -/
def copy (_dst src : Bitmap) : Bitmap := src
def zero (_b : Bitmap) : Bitmap := ⟨[0#64], false⟩
def fill (_b : Bitmap) : Bitmap := ⟨[BitVec.allOnes 64], true⟩
def fromUlong (_b : Bitmap) (m : Word) : Bitmap := ⟨[m], false⟩
def fromIthUlong (_b : Bitmap) (i : Nat) (m : Word) : Bitmap :=
  build (i+1) (fun j => if j = i then m else 0#64) false
/-- `hwloc_bitmap_from_ulongs`; the C requires `nr ≥ 1` -/
def fromUlongs (_b : Bitmap) (ms : List Word) : Bitmap := ⟨ms, false⟩
def toUlong (b : Bitmap) : Word := b.readWord 0
def toIthUlong (b : Bitmap) (i : Nat) : Word := b.readWord i
def toUlongs (b : Bitmap) (nr : Nat) : List Word := (List.range nr).map b.readWord

def only (_b : Bitmap) (cpu : Nat) : Bitmap :=
  build (cpu/64+1) (fun j => if j = cpu/64 then bitW (cpu%64) else 0#64) false
def allbut (_b : Bitmap) (cpu : Nat) : Bitmap :=
  build (cpu/64+1) (fun j => if j = cpu/64 then ~~~ bitW (cpu%64) else BitVec.allOnes 64) true

/-- `hwloc_bitmap_realloc_by_ulongs` -/
def realloc (b : Bitmap) (n : Nat) : Bitmap :=
  if n ≤ b.count then b else build n b.readWord b.inf

/-- rewrite every stored word `j` as `g j (old word j)` keeping count and flag -/
def modify (b : Bitmap) (g : Nat → Word → Word) : Bitmap :=
  build b.count (fun j => g j (b.readWord j)) b.inf

/-- overwrite the `infinite` flag only -/
def setInf (b : Bitmap) (f : Bool) : Bitmap := ⟨b.words, f⟩

def set (b : Bitmap) (cpu : Nat) : Bitmap :=
  if b.inf && decide (b.count * 64 ≤ cpu) then b
  else (b.realloc (cpu/64+1)).modify (fun j w => if j = cpu/64 then w ||| bitW (cpu%64) else w)

def clr (b : Bitmap) (cpu : Nat) : Bitmap :=
  if !b.inf && decide (b.count * 64 ≤ cpu) then b
  else (b.realloc (cpu/64+1)).modify (fun j w => if j = cpu/64 then w &&& ~~~ bitW (cpu%64) else w)

def setIthUlong (b : Bitmap) (i : Nat) (m : Word) : Bitmap :=
  (b.realloc (i+1)).modify (fun j w => if j = i then m else w)

/-- `hwloc_bitmap_set_range(set, begin, end)`; `none` is `end = -1` -/
def setRange (b : Bitmap) (beg : Nat) (en : Option Nat) : Bitmap :=
  match en with
  | none =>
    if b.inf && decide (b.count * 64 ≤ beg) then b
    else
      let b' := b.realloc (beg/64+1)
      (b'.modify (fun j w => if j = beg/64 then w ||| fromW (beg%64)
                               else if beg/64 < j then BitVec.allOnes 64 else w)).setInf true
  | some e =>
    if e < beg then b
    else if b.inf && decide (b.count * 64 ≤ beg) then b
    else
      let e' := if b.inf && decide (b.count * 64 ≤ e) then b.count * 64 - 1 else e
      let b' := b.realloc (e'/64+1)
      let bs := beg/64
      let es := e'/64
      b'.modify (fun j w =>
        if bs = es then (if j = bs then w ||| fromToW (beg%64) (e'%64) else w)
        else if j = bs then w ||| fromW (beg%64)
        else if j = es then w ||| toW (e'%64)
        else if bs < j ∧ j < es then BitVec.allOnes 64 else w)

def clrRange (b : Bitmap) (beg : Nat) (en : Option Nat) : Bitmap :=
  match en with
  | none =>
    if !b.inf && decide (b.count * 64 ≤ beg) then b
    else
      let b' := b.realloc (beg/64+1)
      (b'.modify (fun j w => if j = beg/64 then w &&& ~~~ fromW (beg%64)
                               else if beg/64 < j then 0#64 else w)).setInf false
  | some e =>
    if e < beg then b
    else if !b.inf && decide (b.count * 64 ≤ beg) then b
    else
      let e' := if !b.inf && decide (b.count * 64 ≤ e) then b.count * 64 - 1 else e
      let b' := b.realloc (e'/64+1)
      let bs := beg/64
      let es := e'/64
      b'.modify (fun j w =>
        if bs = es then (if j = bs then w &&& ~~~ fromToW (beg%64) (e'%64) else w)
        else if j = bs then w &&& ~~~ fromW (beg%64)
        else if j = es then w &&& ~~~ toW (e'%64)
        else if bs < j ∧ j < es then 0#64 else w)

def isset (b : Bitmap) (cpu : Nat) : Bool := b.mem cpu
def iszero (b : Bitmap) : Bool := !b.inf && b.words.all (· == 0#64)
def isfull (b : Bitmap) : Bool := b.inf && b.words.all (· == BitVec.allOnes 64)

def isequal (a b : Bitmap) : Bool :=
  (List.range (max a.count b.count)).all (fun i => a.readWord i == b.readWord i) && (a.inf == b.inf)

def intersects (a b : Bitmap) : Bool :=
  (List.range (max a.count b.count)).any (fun i => a.readWord i &&& b.readWord i != 0#64) || (a.inf && b.inf)

def isincluded (sub sup : Bitmap) : Bool :=
  (List.range (max sub.count sup.count)).all
      (fun i => sup.readWord i == (sup.readWord i ||| sub.readWord i))
    && !(sub.inf && !sup.inf)

def orCount (a b : Bitmap) : Nat :=
  if a.count = b.count then a.count
  else if b.count < a.count then (if b.inf then b.count else a.count)
  else (if a.inf then a.count else b.count)

def andCount (a b : Bitmap) : Nat :=
  if a.count = b.count then a.count
  else if b.count < a.count then (if b.inf then a.count else b.count)
  else (if a.inf then b.count else a.count)

def andnotCount (a b : Bitmap) : Nat :=
  if a.count = b.count then a.count
  else if b.count < a.count then (if !b.inf then a.count else b.count)
  else (if a.inf then b.count else a.count)

def or (a b : Bitmap) : Bitmap :=
  build (orCount a b) (fun i => a.readWord i ||| b.readWord i) (a.inf || b.inf)
def and (a b : Bitmap) : Bitmap :=
  build (andCount a b) (fun i => a.readWord i &&& b.readWord i) (a.inf && b.inf)
def andnot (a b : Bitmap) : Bitmap :=
  build (andnotCount a b) (fun i => a.readWord i &&& ~~~ b.readWord i) (a.inf && !b.inf)
def xor (a b : Bitmap) : Bitmap :=
  build (max a.count b.count) (fun i => a.readWord i ^^^ b.readWord i) (a.inf != b.inf)
def not (a : Bitmap) : Bitmap :=
  build a.count (fun i => ~~~ a.readWord i) (!a.inf)

/-- index of the first stored word that is non-zero -/
def firstNZ (b : Bitmap) : Option Nat := lowest (fun i => b.readWord i != 0#64) b.count
def lastNZ (b : Bitmap) : Option Nat := highest (fun i => b.readWord i != 0#64) b.count

def first (b : Bitmap) : Int :=
  match b.firstNZ with
  | some i => ((ffsl (b.readWord i) - 1 + 64 * i : Nat) : Int)
  | none => if b.inf then ((b.count * 64 : Nat) : Int) else -1

def firstUnset (b : Bitmap) : Int :=
  match lowest (fun i => ~~~ b.readWord i != 0#64) b.count with
  | some i => ((ffsl (~~~ b.readWord i) - 1 + 64 * i : Nat) : Int)
  | none => if !b.inf then ((b.count * 64 : Nat) : Int) else -1

def last (b : Bitmap) : Int :=
  if b.inf then -1 else
  match b.lastNZ with
  | some i => ((flsl (b.readWord i) - 1 + 64 * i : Nat) : Int)
  | none => -1

def lastUnset (b : Bitmap) : Int :=
  if !b.inf then -1 else
  match highest (fun i => ~~~ b.readWord i != 0#64) b.count with
  | some i => ((flsl (~~~ b.readWord i) - 1 + 64 * i : Nat) : Int)
  | none => -1

/-- the word examined by `hwloc_bitmap_next` at index `i` for `prev_cpu = prev` (`prev ≥ -1`) -/
def nextWord (f : Nat → Word) (prev : Int) (i : Nat) : Word :=
  if 0 ≤ prev ∧ prev.toNat / 64 = i then f i &&& ~~~ toW (prev.toNat % 64) else f i

/-- `hwloc_bitmap_next(set, prev)` for `prev ≥ -1` -/
def next (b : Bitmap) (prev : Int) : Int :=
  let i0 := (prev + 1).toNat / 64
  if b.count ≤ i0 then (if b.inf then prev + 1 else -1)
  else
    match lowest (fun i => decide (i0 ≤ i) && nextWord b.readWord prev i != 0#64) b.count with
    | some i => ((ffsl (nextWord b.readWord prev i) - 1 + 64 * i : Nat) : Int)
    | none => if b.inf then ((b.count * 64 : Nat) : Int) else -1

def nextUnset (b : Bitmap) (prev : Int) : Int :=
  let i0 := (prev + 1).toNat / 64
  if b.count ≤ i0 then (if !b.inf then prev + 1 else -1)
  else
    match lowest (fun i => decide (i0 ≤ i) && nextWord (fun i => ~~~ b.readWord i) prev i != 0#64) b.count with
    | some i => ((ffsl (nextWord (fun i => ~~~ b.readWord i) prev i) - 1 + 64 * i : Nat) : Int)
    | none => if !b.inf then ((b.count * 64 : Nat) : Int) else -1

def singlify (b : Bitmap) : Bitmap :=
  match b.firstNZ with
  | some i => build b.count (fun j => if j = i then bitW (ffsl (b.readWord i) - 1) else 0#64) false
  | none => if b.inf then set (b.setInf false) (b.count * 64) else b

def weight (b : Bitmap) : Int :=
  if b.inf then -1 else (((b.words.map weightLong).sum : Nat) : Int)

/-- `hwloc_bitmap_nr_ulongs` (with the `unsigned` wrap of `last = -1`) -/
def nrUlongs (b : Bitmap) : Int :=
  if b.inf then -1 else
  match b.last with
  | Int.ofNat l => (((l + 64) / 64 : Nat) : Int)
  | Int.negSucc _ => 0     -- (unsigned)(-1) + 64 = 63 (mod 2^32); 63/64 = 0

/-- `hwloc_bitmap_compare`: sign at the highest differing (virtual) word, flags first -/
def compare (a b : Bitmap) : Int :=
  if a.inf != b.inf then (if a.inf then 1 else -1)
  else match highest (fun i => a.readWord i != b.readWord i) (max a.count b.count) with
    | some i => if a.readWord i < b.readWord i then -1 else 1
    | none => 0

/-- final expression of `hwloc_bitmap_compare_first` (all stored words of both are zero) -/
def compareFirstTail (inf1 inf2 : Bool) : Int :=
  (if inf2 then 1 else 0) - (if inf1 then 1 else 0)

/-- `hwloc_bitmap_compare_first`, literal -/
def compareFirst (a b : Bitmap) : Int :=
  let minc := min a.count b.count
  match lowest (fun i => a.readWord i != 0#64 || b.readWord i != 0#64) minc with
  | some i =>
    let f1 := ffsl (a.readWord i)
    let f2 := ffsl (b.readWord i)
    if f1 ≠ 0 ∧ f2 ≠ 0 then (f1 : Int) - f2 else (f2 : Int) - f1
  | none =>
    if a.count < b.count then
      if a.inf then (if (b.readWord minc).getLsbD 0 then 0 else -1)
      else if (List.range b.count).any (fun i => decide (minc ≤ i) && b.readWord i != 0#64) then 1
      else compareFirstTail a.inf b.inf
    else if b.count < a.count then
      if b.inf then (if (a.readWord minc).getLsbD 0 then 0 else 1)
      else if (List.range a.count).any (fun i => decide (minc ≤ i) && a.readWord i != 0#64) then -1
      else compareFirstTail a.inf b.inf
    else compareFirstTail a.inf b.inf

/-! `hwloc_bitmap_compare_inclusion`, literal: a fold over the word indexes with the C's state -/

inductive Incl | equal | included | contains | intersects | different
deriving DecidableEq, Repr

def Incl.toInt : Incl → Int
  | .equal => 0 | .included => 1 | .contains => 2 | .intersects => 3 | .different => 4

structure InclState where
  result : Incl := .equal
  empty1 : Bool := true
  empty2 : Bool := true
  ret : Option Incl := none      -- early `return`
deriving DecidableEq, Repr

/-- the state after an early `return HWLOC_BITMAP_INTERSECTS` (the other fields are dead) -/
def inclStop : InclState := { result := .intersects, empty1 := false, empty2 := false, ret := some .intersects }

/-- one iteration of the loop, as a function of the six tests the C code performs on the two words:
`z1 = !val1`, `z2 = !val2`, `eqw = (val1 == val2)`, `subw = ((val1 & val2) == val1)`,
`supw = ((val1 & val2) == val2)`, `meetw = ((val1 & val2) != 0)` -/
def inclStepB (s : InclState) (z1 z2 eqw subw supw meetw : Bool) : InclState :=
  if s.ret.isSome then s else
  let upd (r : Incl) : InclState :=
    { result := r, empty1 := s.empty1 && z1, empty2 := s.empty2 && z2, ret := none }
  if z1 then
    if z2 then s
    else if s.result = .contains then (if !s.empty2 then inclStop else upd .different)
    else if s.result = .equal then upd .included
    else upd s.result
  else if z2 then
    if s.result = .included then (if !s.empty1 then inclStop else upd .different)
    else if s.result = .equal then upd .contains
    else upd s.result
  else if eqw then
    if s.result = .different then inclStop else upd s.result
  else if subw then
    if s.result = .contains ∨ s.result = .different then inclStop else upd .included
  else if supw then
    if s.result = .included ∨ s.result = .different then inclStop else upd .contains
  else if meetw then inclStop
  else
    if s.result = .equal ∧ !s.empty1 then inclStop
    else if s.result = .included ∧ !s.empty1 then inclStop
    else if s.result = .contains ∧ !s.empty2 then inclStop
    else upd .different

def inclStep (s : InclState) (v1 v2 : Word) : InclState :=
  inclStepB s (v1 == 0#64) (v2 == 0#64) (v1 == v2) (v1 &&& v2 == v1) (v1 &&& v2 == v2) (v1 &&& v2 != 0#64)

def inclFinish (s : InclState) (inf1 inf2 : Bool) : Incl :=
  match s.ret with
  | some r => r
  | none =>
    if !inf1 then
      if inf2 then
        if s.result = .contains then (if !s.empty2 then .intersects else .different)
        else if s.result = .equal then .included
        else s.result
      else s.result
    else if !inf2 then
      if s.result = .included then (if !s.empty1 then .intersects else .different)
      else if s.result = .equal then .contains
      else s.result
    else
      if s.result = .different then .intersects else s.result

def compareInclusion (a b : Bitmap) : Incl :=
  let s := (List.range (max a.count b.count)).foldl
    (fun s i => inclStep s (a.readWord i) (b.readWord i)) {}
  inclFinish s a.inf b.inf

end Bitmap
end Hw
