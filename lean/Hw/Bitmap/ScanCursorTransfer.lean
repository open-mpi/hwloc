/-
  Hw.Bitmap.ScanCursorTransfer — the text produced by the three bitmap printers contains no NUL byte and
  is accepted by the structural parsers, so (refinement) the cursor-level parsers accept it with the
  same words: the round-trip theorems hold for the models whose memory accesses are proved in bounds.
-/
import Hw.Bitmap.ScanCursorRefine
import Hw.Bitmap.RoundTripList
import Hw.Bitmap.RoundTripTaskset
import Hw.Bitmap.RoundTripHwloc
import Hw.Base.Cases
namespace Hw
namespace Bitmap
namespace Cursor

theorem noNul_nil : NoNul [] := by intro c hc; cases hc

theorem noNul_append {a b : List Byte} (ha : NoNul a) (hb : NoNul b) : NoNul (a ++ b) :=
  List.forall_mem_append.mpr ⟨ha, hb⟩

theorem noNul_text {cs : List (List Byte)} (h : ∀ c, c ∈ cs → NoNul c) : NoNul (text cs) := by
  intro x hx
  unfold text at hx
  obtain ⟨c, hc, hxc⟩ := List.mem_flatten.mp hx
  exact h c hc x hxc

theorem noNul_hex {l : List Byte} (h : ∀ c, c ∈ l → IsHexChar c) : NoNul l := by
  intro c hc h0; have := h c hc; unfold IsHexChar at this; rw [h0] at this; omega

theorem noNul_dec {l : List Byte} (h : ∀ c, c ∈ l → IsDecChar c) : NoNul l := by
  intro c hc h0; have := h c hc; unfold IsDecChar at this; rw [h0] at this; omega

theorem noNul_hexPad (w n : Nat) : NoNul (hexPad w n) := noNul_hex (hexPad_chars w n)
theorem noNul_hexDigits (n : Nat) : NoNul (hexDigits n) := noNul_hex (hexDigits_chars n)
theorem noNul_decDigits (n : Nat) : NoNul (decDigits n) := noNul_dec (decDigits_chars n)

instance (l : List Byte) : Decidable (NoNul l) := by unfold NoNul; infer_instance

theorem nn_c0x : NoNul (str ",0x") := by decide +kernel
theorem nn_0x : NoNul (str "0x") := by decide +kernel
theorem nn_c0x0 : NoNul (str ",0x0") := by decide +kernel
theorem nn_0x0 : NoNul (str "0x0") := by decide +kernel
theorem nn_c : NoNul (str ",") := by decide +kernel
theorem nn_m : NoNul (str "-") := by decide +kernel
theorem nn_inf : NoNul (str "0xf...f") := by decide +kernel

def ChunksNoNul (cs : List (List Byte)) : Prop := ∀ c, c ∈ cs → NoNul c

theorem ChunksNoNul.nil : ChunksNoNul [] := fun _ hc => nomatch hc

theorem ChunksNoNul.cons {c : List Byte} {cs : List (List Byte)} (h1 : NoNul c) (h2 : ChunksNoNul cs) :
    ChunksNoNul (c :: cs) :=
  List.forall_mem_cons.mpr ⟨h1, h2⟩

theorem ChunksNoNul.append {a b : List (List Byte)} (h1 : ChunksNoNul a) (h2 : ChunksNoNul b) :
    ChunksNoNul (a ++ b) :=
  List.forall_mem_append.mpr ⟨h1, h2⟩

theorem noNul_ite {c : Prop} [Decidable c] {a b : List Byte} (ha : NoNul a) (hb : NoNul b) :
    NoNul (if c then a else b) :=
  ite_cases (fun _ => ha) fun _ => hb

theorem hwlocBody_noNul : ∀ (gs : List Nat) (nc mg : Bool), ChunksNoNul (hwlocBody gs nc mg) := by
  intro gs
  induction gs with
  | nil => intro nc mg; exact .nil
  | cons g gs ih =>
    intro nc mg
    unfold hwlocBody
    exact ite_cases (fun _ => .cons noNul_nil (ih _ _)) fun _ =>
      ite_cases (fun _ => .cons (noNul_append (noNul_ite nn_c0x nn_0x) (noNul_hexPad _ _)) (ih _ _)) fun _ =>
      ite_cases (fun _ => .cons (noNul_ite nn_c0x0 nn_0x0) (ih _ _)) fun _ =>
      ite_cases (fun _ => .cons nn_c (ih _ _)) fun _ => .cons noNul_nil (ih _ _)

theorem pre_noNul (inf : Bool) : ChunksNoNul (if inf then [str "0xf...f"] else []) :=
  ite_cases (fun _ => .cons nn_inf .nil) fun _ => .nil

/-- the closing `0x0` that the hwloc and taskset printers add to an otherwise empty text -/
theorem chunks_close_noNul {all : List (List Byte)} (h : ChunksNoNul all) :
    ChunksNoNul (if (text all).length = 0 then all ++ [str "0x0"] else all) :=
  ite_cases (fun _ => h.append (.cons nn_0x0 .nil)) fun _ => h

theorem chunksHwloc_noNul (b : Bitmap) : NoNul (text b.chunksHwloc) :=
  noNul_text (chunks_close_noNul ((pre_noNul b.inf).append (hwlocBody_noNul b.groups b.inf b.inf)))

theorem tasksetBody_noNul : ∀ (ws : List Word) (st mg : Bool), ChunksNoNul (tasksetBody ws st mg) := by
  intro ws
  induction ws with
  | nil => intro st mg; exact .nil
  | cons w ws ih =>
    intro st mg
    unfold tasksetBody
    exact ite_cases (fun _ => .cons (noNul_ite (noNul_hexPad _ _) (noNul_hexPad _ _)) (ih _ _)) fun _ =>
      ite_cases (fun _ => .cons (noNul_append nn_0x (noNul_hexDigits _)) (ih _ _)) fun _ => .cons noNul_nil (ih _ _)

theorem chunksTaskset_noNul (b : Bitmap) : NoNul (text b.chunksTaskset) :=
  noNul_text (chunks_close_noNul ((pre_noNul b.inf).append (tasksetBody_noNul _ b.inf b.inf)))

theorem listBody_noNul (b : Bitmap) : ∀ (fuel : Nat) (prev : Int) (nc : Bool), ChunksNoNul (listBody b fuel prev nc) := by
  intro fuel
  induction fuel with
  | zero => intro prev nc; exact .nil
  | succ f ih =>
    intro prev nc
    unfold listBody
    extract_lets beg en comma
    have hcomma : NoNul comma := noNul_ite nn_c noNul_nil
    exact ite_cases (fun _ => .nil) fun _ =>
      ite_cases (fun _ => .cons (noNul_append hcomma (noNul_decDigits _)) (ih _ _)) fun _ =>
      ite_cases (fun _ => .cons (noNul_append (noNul_append hcomma (noNul_decDigits _)) nn_m) .nil) fun _ =>
      .cons (noNul_append (noNul_append (noNul_append hcomma (noNul_decDigits _)) nn_m) (noNul_decDigits _)) (ih _ _)

theorem chunksList_noNul (b : Bitmap) : NoNul (text b.chunksList) :=
  noNul_text (listBody_noNul b _ _ _)

theorem toScan_ok {r : CRes} {ws : List (Option Word)} {inf : Bool} (h : r.toScan = .ok ws inf) : r = .ok ws inf := by
  cases r with
  | ok ws' inf' => simp only [CRes.toScan] at h; injection h with h1 h2; rw [h1, h2]
  | fail => cases h
  | assertFail => cases h
  | okBig => cases h

theorem cursor_of_scan {scanC : List Byte → Out} {scan : List Byte → ScanRes} {t : List Byte} {b : Bitmap}
    (href : NoNul t → Refines (scanC t) (scan t)) (hn : NoNul t)
    (h : ∃ ws inf, scan t = .ok (ws.map some) inf ∧ ∀ n, (Bitmap.mk ws inf).mem n = b.mem n) :
    ∃ ws inf, (scanC t).res = .ok (ws.map some) inf ∧ ∀ n, (Bitmap.mk ws inf).mem n = b.mem n := by
  obtain ⟨ws, inf, h, hm⟩ := h
  refine ⟨ws, inf, toScan_ok ?_, hm⟩
  rw [(href hn).eq (by rw [h]; intro e; cases e), h]

end Cursor
end Bitmap
end Hw
