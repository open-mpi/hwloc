/-
  Hw.Bitmap.ScanLemmas — every parser returns a fully defined destination when it returns 0; `listStep` case by case.
-/
import Hw.Bitmap.Scan
import Hw.Base.Cases
namespace Hw
namespace Bitmap

/-- all cells with index ≥ k are written -/
def DefinedFrom (ws : List (Option Word)) (k : Nat) : Prop := ∀ i, k ≤ i → i < ws.length → (ws[i]?).bind id ≠ none

theorem definedFrom_zero_all (ws : List (Option Word)) (h : DefinedFrom ws 0) : ws.all Option.isSome = true := by
  rw [List.all_eq_true]
  intro x hx
  obtain ⟨i, hi, e⟩ := List.getElem_of_mem hx
  have := h i (Nat.zero_le _) hi
  rw [List.getElem?_eq_getElem hi, e] at this
  cases x with
  | none => simp at this
  | some _ => rfl

theorem setCell_length (ws : List (Option Word)) (i : Nat) (w : Word) : (setCell ws i w).length = ws.length := by
  simp [setCell]

theorem definedFrom_setCell (ws : List (Option Word)) (k : Nat) (w : Word) (h : DefinedFrom ws (k + 1)) :
    DefinedFrom (setCell ws k w) k := by
  intro i hk hi
  rw [setCell_length] at hi
  unfold setCell
  by_cases e : i = k
  · subst e; simp [List.getElem?_set_self hi]
  · rw [List.getElem?_set_ne (by omega)]
    exact h i (by omega) hi

theorem definedFrom_setCell_above (ws : List (Option Word)) (k j : Nat) (w : Word) (h : DefinedFrom ws k) :
    DefinedFrom (setCell ws j w) k := by
  intro i hk hi
  rw [setCell_length] at hi
  unfold setCell
  by_cases e : j = i
  · subst e; simp [List.getElem?_set_self hi]
  · rw [List.getElem?_set_ne e]
    exact h i hk hi

theorem definedFrom_replicate (n : Nat) : DefinedFrom (List.replicate n (none : Option Word)) n := by
  intro i hk hi; simp at hi; omega

theorem defined_ite {c : Prop} [Decidable c] {a b : ScanRes}
    (ha : c → a.defined = true) (hb : ¬ c → b.defined = true) : (if c then a else b).defined = true :=
  ite_pred (fun o : ScanRes => o.defined = true) ha hb

theorem isPrefix_iff {p s : List Byte} : isPrefix p s = true ↔ p <+: s := by
  rw [isPrefix, beq_iff_eq, List.prefix_iff_eq_take]; exact eq_comm

theorem countCommas_cons (c : Byte) (l : List Byte) :
    countCommas (c :: l) = countCommas l + (if c = 44 then 1 else 0) := by
  simp only [countCommas, List.countP_cons, beq_iff_eq]

theorem succ_div_two (n : Nat) : (n + 1) / 2 = if n % 2 = 0 then n / 2 else n / 2 + 1 := by
  have e : (n + 1) / 2 = (n % 2 + 1) / 2 + n / 2 := by
    rw [← Nat.add_mul_div_left _ _ (by decide : 0 < 2), Nat.add_right_comm, Nat.mod_add_div]
  rcases Nat.mod_two_eq_zero_or_one n with h | h <;> rw [e, h] <;> simp [Nat.add_comm]

/-- one parsed 32-bit group: of the `count` groups still expected, it completes word `(count - 1) / 2`
when `count - 1` is even (`x`, `y`: what else the loop carries along) -/
theorem definedFrom_group {β : Type} {ws : List (Option Word)} {count : Nat} (w : Word) (x y : β)
    (hc : count ≠ 0) (h : DefinedFrom ws ((count + 1) / 2)) :
    DefinedFrom (if (count - 1) % 2 = 0 then (setCell ws ((count - 1) / 2) w, x) else (ws, y)).1
      ((count - 1 + 1) / 2) := by
  obtain ⟨n, rfl⟩ := Nat.exists_eq_succ_of_ne_zero hc
  rw [Nat.succ_eq_add_one, Nat.add_div_right n (by decide : 0 < 2)] at h
  -- with `n = count - 1`: the bound was `n / 2 + 1`; it becomes `n / 2` exactly when word `n / 2` is written
  rw [Nat.succ_eq_add_one, Nat.add_sub_cancel, succ_div_two]
  split
  · exact definedFrom_setCell _ _ _ h
  · exact h

theorem hwlocLoop_defined (fuel : Nat) (cur : List Byte) (count : Nat) (accum : Word)
    (ws : List (Option Word)) (infinite : Bool) (h : DefinedFrom ws ((count + 1) / 2)) :
    (hwlocLoop fuel cur count accum ws infinite).defined = true := by
  induction fuel generalizing cur count accum ws with
  | zero => rfl
  | succ fuel ih =>
    unfold hwlocLoop
    cases strtoul 16 cur with
    | unsupported => rfl
    | ok val next =>
      refine defined_ite (fun _ => rfl) fun hc => ?_
      have hstep := definedFrom_group (accum ||| BitVec.ofNat 64 val <<< ((count - 1) * 32 % 64)) (0#64 : Word)
        (accum ||| BitVec.ofNat 64 val <<< ((count - 1) * 32 % 64)) hc h
      dsimp only
      generalize (if (count - 1) % 2 = 0 then
        (setCell ws ((count - 1) / 2) (accum ||| BitVec.ofNat 64 val <<< ((count - 1) * 32 % 64)), (0#64 : Word))
        else (ws, accum ||| BitVec.ofNat 64 val <<< ((count - 1) * 32 % 64))) = st at hstep ⊢
      split
      · exact ih _ _ _ _ hstep
      · refine defined_ite (fun _ => rfl) fun hz => ?_
        have hz' : (count - 1 + 1) / 2 = 0 := by omega
        exact definedFrom_zero_all _ (hz' ▸ hstep)
      · rfl

theorem hwlocScan_defined (s : List Byte) : (hwlocScan s).defined = true := by
  unfold hwlocScan
  refine defined_ite (fun _ => ?_) fun _ => hwlocLoop_defined _ _ _ _ _ _ (definedFrom_replicate _)
  dsimp only
  split
  · exact hwlocLoop_defined _ _ _ _ _ _ (definedFrom_replicate _)
  · rfl

/-- the word count that `hwloc_bitmap_taskset_sscanf` computes, `(chars * 4 + 63) / 64`, is one word per 16 digits -/
theorem taskset_count (chars : Nat) : (chars * 4 + 63) / 64 = (chars + 15) / 16 := by omega

theorem taskset_words {t : Nat} (n : Nat) (h1 : 1 ≤ t) (h16 : t ≤ 16) : (t + 16 * n + 15) / 16 = n + 1 := by omega

/-- behind the `t` characters that the taskset loop takes next, the text is a whole number of 16-digit words -/
theorem taskset_split {chars t : Nat} (hpos : 0 < chars) (ht : t = if chars % 16 = 0 then 16 else chars % 16) :
    1 ≤ t ∧ t ≤ 16 ∧ ∃ n, chars = t + 16 * n := by
  have hd : chars = chars % 16 + 16 * (chars / 16) := (Nat.mod_add_div _ _).symm
  rw [ht]; split
  next h => exact ⟨by decide, by decide, chars / 16 - 1, by omega⟩
  next h => exact ⟨Nat.pos_of_ne_zero h, Nat.le_of_lt (Nat.mod_lt _ (by decide)), _, hd⟩

/-- one iteration of the taskset loop takes `t` characters (first `chars % 16` if that is not 0, then 16 at a time)
and fills one word -/
theorem taskset_chunk {chars count t : Nat} (hpos : 0 < chars) (hcount : count = (chars + 15) / 16)
    (ht : t = if chars % 16 = 0 then 16 else chars % 16) :
    1 ≤ t ∧ t ≤ 16 ∧ t ≤ chars ∧ 1 ≤ count ∧ count - 1 = (chars - t + 15) / 16 := by
  obtain ⟨h1, h16, n, rfl⟩ := taskset_split hpos ht
  rw [hcount, taskset_words n h1 h16, Nat.add_sub_cancel_left, Nat.add_sub_cancel, Nat.mul_add_div (by decide)]
  exact ⟨h1, h16, Nat.le_add_right _ _, Nat.le_add_left _ _, rfl⟩

theorem tasksetLoop_defined (fuel : Nat) (cur : List Byte) (chars count : Nat)
    (ws : List (Option Word)) (infinite : Bool)
    (hlen : cur.length = chars) (hcount : count = (chars + 15) / 16) (h : DefinedFrom ws count) :
    (tasksetLoop fuel cur chars count ws infinite).defined = true := by
  induction fuel generalizing cur chars count ws with
  | zero => rfl
  | succ fuel ih =>
    unfold tasksetLoop
    cases cur with
    | nil =>
      have : chars = 0 := by simpa using hlen.symm
      have hc0 : count = 0 := by omega
      exact definedFrom_zero_all _ (hc0 ▸ h)
    | cons c cs =>
      dsimp only
      cases strtoul 16 ((c :: cs).take (if chars % 16 = 0 then 16 else chars % 16)) with
      | unsupported => rfl
      | ok val next =>
        refine defined_ite (fun _ => rfl) fun _ => ?_
        have hpos : 0 < chars := by rw [← hlen]; simp
        obtain ⟨_, _, _, c1, hnext⟩ := taskset_chunk hpos hcount rfl
        refine ih _ _ _ _ (by rw [List.length_drop, hlen]) hnext ?_
        apply definedFrom_setCell
        rw [Nat.sub_add_cancel c1]; exact h

theorem tasksetGo_defined (cur : List Byte) (infinite : Bool) : (tasksetGo cur infinite).defined = true :=
  tasksetLoop_defined _ _ _ _ _ _ rfl (taskset_count _) (definedFrom_replicate _)

theorem tasksetScan_defined (s : List Byte) : (tasksetScan s).defined = true := by
  unfold tasksetScan
  have go : ∀ {c : Prop} [Decidable c] (r : ScanRes) (cur : List Byte) (inf : Bool), r.defined = true →
      (if c then r else tasksetGo cur inf).defined = true :=
    fun _ _ _ hr => defined_ite (fun _ => hr) fun _ => tasksetGo_defined _ _
  exact defined_ite (fun _ => go _ _ _ rfl) fun _ => defined_ite (fun _ => go _ _ _ rfl) fun _ => go _ _ _ rfl

theorem listStep_some (acc : Bitmap) (m v : Nat) (rest : List Byte) :
    listStep acc (some m) v rest = (acc.setRange m (some v), none, false) := rfl

theorem listStep_open (acc : Bitmap) (m : Nat) :
    listStep acc none m [45] = (acc.setRange m none, none, true) := rfl

theorem listStep_dash (acc : Bitmap) (m : Nat) (X : List Byte) (hX : X ≠ []) :
    listStep acc none m (45 :: X) = (acc, some m, false) := by
  cases X with
  | nil => contradiction
  | cons x xs => rfl

theorem listStep_other (acc : Bitmap) (m : Nat) {c : Byte} (X : List Byte) (h45 : c ≠ 45) (h44 : c ≠ 44) (h32 : c ≠ 32) :
    listStep acc none m (c :: X) = (acc, none, false) := by
  simp [listStep, h45, h44, h32]

theorem map_some_all (ws : List Word) : (ws.map some).all Option.isSome = true := by
  induction ws with
  | nil => rfl
  | cons w ws ih => simp [ih]

theorem listLoop_defined (fuel : Nat) (cur : List Byte) (b : Bitmap) (beg : Option Nat) :
    (listLoop fuel cur b beg).defined = true := by
  induction fuel generalizing cur b beg with
  | zero => rfl
  | succ fuel ih =>
    unfold listLoop
    cases cur with
    | nil => exact map_some_all _
    | cons c cs =>
      dsimp only
      cases strtoul 0 ((c :: cs).dropWhile (fun c => c == 44 || c == 32)) with
      | unsupported => rfl
      | ok val next =>
        refine defined_ite (fun _ => rfl) fun _ => defined_ite (fun _ => rfl) fun _ =>
          defined_ite (fun _ => map_some_all _) fun _ => ?_
        cases next with
        | nil => exact map_some_all _
        | cons x rest => exact ih _ _ _

theorem listScan_defined (s : List Byte) : (listScan s).defined = true := listLoop_defined _ _ _ _

theorem bitmap?_ok_map_some (ws : List Word) (inf : Bool) :
    (ScanRes.ok (ws.map some) inf).bitmap? = some ⟨ws, inf⟩ := by
  have : (ws.map some).mapM id = some ws := by
    induction ws with
    | nil => rfl
    | cons w ws ih => simp [List.mapM_cons, ih]
  simp [ScanRes.bitmap?, this]

theorem bitmap_of_scan {r : ScanRes} {b : Bitmap}
    (h : ∃ ws inf, r = .ok (ws.map some) inf ∧ ∀ n, (Bitmap.mk ws inf).mem n = b.mem n) :
    ∃ x, r.bitmap? = some x ∧ ∀ n, x.mem n = b.mem n := by
  obtain ⟨ws, inf, h, hm⟩ := h
  exact ⟨⟨ws, inf⟩, by rw [h, bitmap?_ok_map_some], hm⟩

end Bitmap
end Hw
