/-
  Hw.Bitmap.Alias — the combinators of hwloc/bitmap.c at the level of a *store* of bitmap structs
  addressed by handles, where the destination may be the same struct as an operand.

  The C code (or / and / andnot / xor, lines 1190–1346; not 1348) first caches the operand
  counts, then `hwloc_bitmap_reset_by_ulongs(res, max_count)` changes `res->ulongs_count` (the words
  already stored are preserved by realloc, the others are whatever memory holds), then loops that
  read `set1->ulongs[i]`, `set2->ulongs[i]` *from the current memory* and write `res->ulongs[i]`,
  then reads the `infinite` flags.  The model below does exactly that over
  `Store := Nat → Raw` with `Raw = (cell : Nat → Word, count, inf)`; cells at or beyond `count` are
  arbitrary (uninitialised / stale memory): every theorem is universally quantified over them.

  `binop_alias`: for all handles r, s1, s2 (equal or not) the struct `r` ends up denoting the pure model applied
  to the ORIGINAL operands, and no other handle changes.  A loop that at step `i` reads index `i` of its sources
  and writes index `i` of its destination commutes with aliasing (`loopPW_eq`), so the whole procedure only
  replaces the destination by a struct computed from the three structs it started from (`binopStore_eq`); the
  tail rules `BinOp.Ok` are needed only to show that this struct denotes the pure operation, where no store occurs.
-/
import Hw.Bitmap.Combine
namespace Hw
namespace Bitmap

structure Raw where
  cell : Nat → Word
  count : Nat
  inf : Bool

def Raw.toBitmap (x : Raw) : Bitmap := build x.count x.cell x.inf

abbrev Store := Nat → Raw

def Store.set (st : Store) (h : Nat) (x : Raw) : Store := fun k => if k = h then x else st k
def Raw.setCell (x : Raw) (i : Nat) (w : Word) : Raw := { x with cell := fun j => if j = i then w else x.cell j }

theorem toBitmap_readWord_lt (x : Raw) (i : Nat) (h : i < x.count) : x.toBitmap.readWord i = x.cell i := by
  unfold Raw.toBitmap; rw [readWord_build]; simp [h]
theorem toBitmap_readWord_ge (x : Raw) (i : Nat) (h : x.count ≤ i) : x.toBitmap.readWord i = fillW x.inf := by
  unfold Raw.toBitmap; rw [readWord_build]; simp [Nat.not_lt.mpr h]
@[simp] theorem toBitmap_count (x : Raw) : x.toBitmap.count = x.count := by simp [Raw.toBitmap]
@[simp] theorem toBitmap_inf (x : Raw) : x.toBitmap.inf = x.inf := rfl

theorem build_congr (c c' : Nat) (f g : Nat → Word) (x y : Bool) (hc : c = c') (hf : ∀ i, i < c → f i = g i)
    (hx : x = y) : build c f x = build c' g y := by
  subst hc; subst hx
  unfold build
  congr 1
  apply List.map_congr_left
  intro i hi
  exact hf i (by simpa using hi)

/-- `for (i = lo; i < lo+n; i++) res->ulongs[i] = f(set1->ulongs[i], set2->ulongs[i]);`
every read goes to the current store -/
def loopPW (r s1 s2 : Nat) (f : Word → Word → Word) (lo : Nat) : Nat → Store → Store
  | 0, st => st
  | n+1, st =>
    let st' := loopPW r s1 s2 f lo n st
    let i := lo + n
    st'.set r ((st' r).setCell i (f ((st' s1).cell i) ((st' s2).cell i)))

theorem Store.set_same (st : Store) (r : Nat) (x : Raw) : st.set r x r = x := if_pos rfl
theorem Store.set_ne (st : Store) {r h : Nat} (x : Raw) (hh : h ≠ r) : st.set r x h = st h := if_neg hh
theorem Store.set_set (st : Store) (r : Nat) (x y : Raw) : (st.set r x).set r y = st.set r y := by
  funext k; unfold Store.set; split <;> rfl
theorem Store.set_proj {α : Type} (p : Raw → α) (st : Store) (r s : Nat) {x : Raw} (h : p x = p (st r)) :
    p (st.set r x s) = p (st s) := by
  unfold Store.set; split
  · rename_i e; rw [e]; exact h
  · rfl
theorem Store.set_self (st : Store) (r : Nat) : st.set r (st r) = st := funext fun s => Store.set_proj id st r s rfl

def Raw.fill (x : Raw) (lo n : Nat) (g : Nat → Word) : Raw :=
  { x with cell := fun i => if lo ≤ i ∧ i < lo + n then g i else x.cell i }

theorem loopPW_eq (r s1 s2 : Nat) (f : Word → Word → Word) (lo n : Nat) (st : Store) {x : Raw}
    (hx : ∀ i, lo ≤ i → x.cell i = (st r).cell i) :
    loopPW r s1 s2 f lo n (st.set r x) = st.set r (x.fill lo n fun i => f ((st s1).cell i) ((st s2).cell i)) := by
  induction n with
  | zero =>
    have : x.fill lo 0 (fun i => f ((st s1).cell i) ((st s2).cell i)) = x := by
      unfold Raw.fill; congr 1; funext i; exact if_neg (by omega)
    rw [this]; rfl
  | succ n ih =>
    -- the cell being written was not written by this loop nor (`hx`) before it: the sources still hold their original word there
    have hsrc : ∀ s, (loopPW r s1 s2 f lo n (st.set r x) s).cell (lo + n) = (st s).cell (lo + n) := fun s => by
      rw [ih]; exact Store.set_proj (·.cell (lo + n)) st r s ((if_neg (by omega)).trans (hx _ (Nat.le_add_right lo n)))
    rw [loopPW]
    simp only [hsrc]
    rw [ih, Store.set_same, Store.set_set]
    congr 1
    unfold Raw.fill Raw.setCell
    congr 1; funext i
    dsimp only
    by_cases hi : i = lo + n
    · subst hi; rw [if_pos rfl, if_pos ⟨by omega, by omega⟩]
    · rw [if_neg hi]; exact ite_congr (propext (by omega)) (fun _ => rfl) fun _ => rfl

/-- the literal store-level procedure of a combinator described by a `BinOp` (`Hw.Bitmap.Combine`, where
`binopPure` is its alias-free meaning) -/
def binopStore (op : BinOp) (r s1 s2 : Nat) (st : Store) : Store :=
  let count1 := (st s1).count
  let count2 := (st s2).count
  let maxc := max count1 count2
  let minc := min count1 count2
  -- hwloc_bitmap_reset_by_ulongs(res, max_count)
  let st := st.set r { st r with count := maxc }
  -- common words
  let st := loopPW r s1 s2 op.f 0 minc st
  -- tail
  let st :=
    if count1 = count2 then st
    else if minc < count1 then
      match op.tail1 (st s2).inf with
      | .shrink => st.set r { st r with count := minc }
      | .copy g => loopPW r s1 s2 (fun a _ => g a) minc (maxc - minc) st
    else
      match op.tail2 (st s1).inf with
      | .shrink => st.set r { st r with count := minc }
      | .copy g => loopPW r s1 s2 (fun _ b => g b) minc (maxc - minc) st
  -- res->infinite = ...
  st.set r { st r with inf := op.infOp (st s1).inf (st s2).inf }

/-- side conditions: the tail rules agree with `f` applied to the other operand's fill word -/
structure BinOp.Ok (op : BinOp) : Prop where
  t1 : ∀ (i2 : Bool) (g : Word → Word), op.tail1 i2 = .copy g → ∀ w, g w = op.f w (fillW i2)
  t2 : ∀ (i1 : Bool) (g : Word → Word), op.tail2 i1 = .copy g → ∀ w, g w = op.f (fillW i1) w

/-- what `binopStore` leaves in the destination, as a function of the three structs it started from -/
def binopRaw (op : BinOp) (x a b : Raw) : Raw :=
  let minc := min a.count b.count
  let maxc := max a.count b.count
  let y := ({ x with count := maxc } : Raw).fill 0 minc fun i => op.f (a.cell i) (b.cell i)
  let z : Raw :=
    if a.count = b.count then y
    else if minc < a.count then
      match op.tail1 b.inf with
      | .shrink => { y with count := minc }
      | .copy g => y.fill minc (maxc - minc) fun i => g (a.cell i)
    else
      match op.tail2 a.inf with
      | .shrink => { y with count := minc }
      | .copy g => y.fill minc (maxc - minc) fun i => g (b.cell i)
  { z with inf := op.infOp a.inf b.inf }

theorem binopStore_eq (op : BinOp) (r s1 s2 : Nat) (st : Store) :
    binopStore op r s1 s2 st = st.set r (binopRaw op (st r) (st s1) (st s2)) := by
  unfold binopStore binopRaw
  extract_lets c1 c2 maxc minc x0 st1 st2 x2 st3 x3 minc' maxc' y z
  -- after the common words: `r` holds `y`, which has `r`'s old flag and, from `minc` on, `r`'s old words
  have e2 : st2 = st.set r y := loopPW_eq r s1 s2 op.f 0 minc st fun _ _ => rfl
  have hy : ∀ i, minc ≤ i → y.cell i = (st r).cell i := fun i hi =>
    if_neg (fun h : 0 ≤ i ∧ i < 0 + minc => by omega)
  have hinf : ∀ s, (st.set r y s).inf = (st s).inf := fun s => Store.set_proj (·.inf) st r s rfl
  have copy := fun w => loopPW_eq r s1 s2 w minc (maxc - minc) st hy
  -- the tail: each branch replaces `r` by the same branch of `z`, and none touches the flag
  have e3 : st3 = st.set r z ∧ z.inf = (st r).inf := by
    simp only [st3, z, x2, e2, hinf, Store.set_same, Store.set_set, copy]
    split
    · exact ⟨rfl, rfl⟩
    · split <;> split <;> exact ⟨rfl, rfl⟩
  show st3.set r { x3 with inf := op.infOp (st3 s1).inf (st3 s2).inf } = _
  simp only [x3, e3.1, Store.set_same, Store.set_set, Store.set_proj (·.inf) st r _ e3.2]

theorem binopRaw_toBitmap (op : BinOp) (hop : op.Ok) (x a b : Raw) :
    (binopRaw op x a b).toBitmap = binopPure op a.toBitmap b.toBitmap := by
  unfold binopRaw binopPure
  extract_lets minc maxc y z c
  have common : ∀ i, i < minc → y.cell i = op.f (a.toBitmap.readWord i) (b.toBitmap.readWord i) := fun i hi => by
    rw [toBitmap_readWord_lt a i (by omega), toBitmap_readWord_lt b i (by omega)]
    exact if_pos ⟨Nat.zero_le _, by omega⟩
  -- a tail copied through `g`, which agrees with `f` against the fill word of the operand that has run out
  have copy : ∀ (g : Nat → Word) (i : Nat), i < maxc →
      (minc ≤ i → g i = op.f (a.toBitmap.readWord i) (b.toBitmap.readWord i)) →
      (y.fill minc (maxc - minc) g).cell i = op.f (a.toBitmap.readWord i) (b.toBitmap.readWord i) := fun g i hi hg => by
    by_cases hlt : i < minc
    · exact (if_neg (by omega)).trans (common i hlt)
    · exact (if_pos ⟨by omega, by omega⟩).trans (hg (by omega))
  have key : z.count = c ∧ ∀ i, i < c → z.cell i = op.f (a.toBitmap.readWord i) (b.toBitmap.readWord i) := by
    simp only [z, c, toBitmap_count, toBitmap_inf]
    by_cases h1 : a.count = b.count
    · rw [if_pos h1, if_pos h1]
      exact ⟨show maxc = _ by omega, fun i hi => common i (by omega)⟩
    · rw [if_neg h1, if_neg h1]
      by_cases h2 : minc < a.count
      · rw [if_pos h2, if_pos (by omega : b.count < a.count)]
        cases ht : op.tail1 b.inf with
        | shrink => dsimp only; exact ⟨show minc = _ by omega, fun i hi => common i (by omega)⟩
        | copy g =>
          dsimp only
          refine ⟨show maxc = _ by omega, fun i hi => copy _ i (by omega) fun hm => ?_⟩
          rw [toBitmap_readWord_lt a i hi, toBitmap_readWord_ge b i (by omega)]
          exact hop.t1 _ g ht _
      · rw [if_neg h2, if_neg (by omega : ¬ b.count < a.count)]
        cases ht : op.tail2 a.inf with
        | shrink => dsimp only; exact ⟨show minc = _ by omega, fun i hi => common i (by omega)⟩
        | copy g =>
          dsimp only
          refine ⟨show maxc = _ by omega, fun i hi => copy _ i (by omega) fun hm => ?_⟩
          rw [toBitmap_readWord_ge a i (by omega), toBitmap_readWord_lt b i hi]
          exact hop.t2 _ g ht _
  exact build_congr _ _ _ _ _ _ key.1 (fun i hi => key.2 i (key.1 ▸ hi)) rfl

theorem binop_alias (op : BinOp) (hop : op.Ok) (r s1 s2 : Nat) (st : Store) :
    (binopStore op r s1 s2 st r).toBitmap = binopPure op (st s1).toBitmap (st s2).toBitmap ∧
    ∀ h, h ≠ r → binopStore op r s1 s2 st h = st h := by
  rw [binopStore_eq, Store.set_same]
  exact ⟨binopRaw_toBitmap op hop _ _ _, fun h hh => Store.set_ne st _ hh⟩

/-! The tail rules depend on a flag only: matching on the flag leaves the one value for which the tail is
copied, and there the copying function is known. -/

theorem opOr_ok : opOr.Ok where
  t1 i2 _ h w := match i2, h with
    | false, rfl => (or_fillW_false w).symm
  t2 i1 _ h w := match i1, h with
    | false, rfl => (fillW_false_or w).symm
theorem opAnd_ok : opAnd.Ok where
  t1 i2 _ h w := match i2, h with
    | true, rfl => (and_fillW_true w).symm
  t2 i1 _ h w := match i1, h with
    | true, rfl => (fillW_true_and w).symm
theorem opAndnot_ok : opAndnot.Ok where
  t1 i2 _ h w := match i2, h with
    | false, rfl => by show w = w &&& ~~~ fillW false; rw [not_fillW_false, and_fillW_true]
  t2 i1 _ h w := match i1, h with
    | true, rfl => (fillW_true_and (~~~ w)).symm
theorem opXor_ok : opXor.Ok where
  t1 _ g h _ := match g, h with
    | _, rfl => rfl
  t2 _ g h _ := match g, h with
    | _, rfl => BitVec.xor_comm _ _

/-! ### `hwloc_bitmap_not(res, set)` with `res == set` allowed -/

def notStore (r s : Nat) (st : Store) : Store :=
  let count := (st s).count
  let st := st.set r { st r with count := count }
  let st := loopPW r s s (fun a _ => ~~~ a) 0 count st
  st.set r { st r with inf := !(st s).inf }

/-- `hwloc_bitmap_not` is the binary procedure run on `set` twice: the counts agree, so no tail rule is used -/
def opNot : BinOp :=
  { f := fun a _ => ~~~ a, tail1 := fun _ => .shrink, tail2 := fun _ => .shrink, infOp := fun x _ => !x }

theorem opNot_ok : opNot.Ok := ⟨(fun _ _ h => nomatch h), (fun _ _ h => nomatch h)⟩

theorem notStore_eq (r s : Nat) (st : Store) : notStore r s st = binopStore opNot r s s st := by
  unfold notStore binopStore
  simp only [Nat.max_self, Nat.min_self, if_true]
  rfl

theorem binopPure_not (a : Bitmap) : binopPure opNot a a = a.not := by
  unfold binopPure
  simp only [if_true]
  rfl

theorem not_alias (r s : Nat) (st : Store) :
    (notStore r s st r).toBitmap = (st s).toBitmap.not ∧ ∀ h, h ≠ r → notStore r s st h = st h := by
  rw [notStore_eq, ← binopPure_not]; exact binop_alias opNot opNot_ok r s s st

end Bitmap
end Hw
