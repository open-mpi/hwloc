/-
  Hw.Bitmap.Repr — representation-exact model of `struct hwloc_bitmap_s` (hwloc/bitmap.c).

  A bitmap is `ulongs_count` 64-bit words plus the `infinite` flag.  `ulongs_allocated`
  is not modelled (it never influences a result; allocation failure is out of scope).
-/
import Hw.Base.Basic
namespace Hw

structure Bitmap where
  words : List Word
  inf : Bool
deriving DecidableEq, Repr, Inhabited

namespace Bitmap

/-- `ulongs_count` -/
def count (b : Bitmap) : Nat := b.words.length

/-- the C invariant `ulongs_count >= 1` -/
def Inv (b : Bitmap) : Prop := 1 ≤ b.words.length

instance (b : Bitmap) : Decidable b.Inv := by unfold Inv; infer_instance

/-- `HWLOC_SUBBITMAP_READULONG(set, i)` -/
def readWord (b : Bitmap) (i : Nat) : Word := (b.words[i]?).getD (fillW b.inf)

/-- membership of index `n` in the set the bitmap denotes (`hwloc_bitmap_isset`) -/
def mem (b : Bitmap) (n : Nat) : Bool := (b.readWord (n / 64)).getLsbD (n % 64)

/-- uniform constructor: `c` words given by `f`, flag `inf` -/
def build (c : Nat) (f : Nat → Word) (inf : Bool) : Bitmap := ⟨(List.range c).map f, inf⟩

@[simp] theorem build_count (c f inf) : (build c f inf).count = c := by simp [build, count]
@[simp] theorem build_inf (c f inf) : (build c f inf).inf = inf := rfl
@[simp] theorem build_words_length (c f inf) : (build c f inf).words.length = c := by simp [build]

theorem readWord_lt (b : Bitmap) {i : Nat} (h : i < b.count) : b.readWord i = b.words[i]'h := by
  unfold readWord; simp [List.getElem?_eq_getElem h]

theorem readWord_ge (b : Bitmap) {i : Nat} (h : b.count ≤ i) : b.readWord i = fillW b.inf := by
  unfold readWord count at *; simp [List.getElem?_eq_none h]

theorem words_eq (b : Bitmap) : b.words = (List.range b.count).map b.readWord := by
  apply List.ext_getElem (by simp [count])
  intro i h1 h2
  rw [List.getElem_map, List.getElem_range, readWord_lt b h1]

theorem readWord_build (c : Nat) (f : Nat → Word) (inf : Bool) (i : Nat) :
    (build c f inf).readWord i = if i < c then f i else fillW inf := by
  by_cases h : i < c
  · simp only [h, if_true]
    unfold readWord build
    simp [List.getElem?_map, List.getElem?_range h]
  · simp only [h, if_false]
    exact readWord_ge _ (by simp; omega)

theorem build_inv (c f inf) (h : 1 ≤ c) : (build c f inf).Inv := by simp [Inv, h]

end Bitmap
end Hw
