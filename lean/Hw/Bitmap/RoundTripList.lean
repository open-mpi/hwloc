/-
  Hw.Bitmap.RoundTripList — parsing the list-format text of a bitmap gives back a bitmap that
  denotes the same set (`hwloc_bitmap_list_snprintf` followed by `hwloc_bitmap_list_sscanf`).

  The scanner's fuel is dealt with once: every iteration consumes a character, so any fuel above the length of
  the text gives the same run (`listLoop_fuel`), and the round trip is about `listRun`, the loop with the fuel
  `listScan` gives it.  The induction then follows the printer alone: the scanner has rebuilt the set up to
  `prev`, the printer emits the next run of consecutive members (`text_listBody_run`), the scanner adds it
  (`listRun_run`, `mem_addRun`).
-/
import Hw.Bitmap.ScanLemmas
import Hw.Bitmap.Search
import Hw.Base.NumLemmas
import Hw.Base.ListLemmas
namespace Hw
namespace Bitmap

theorem listBody_zero (b : Bitmap) (prev : Int) (nc : Bool) : listBody b 0 prev nc = [] := rfl

theorem listBody_succ (b : Bitmap) (pf : Nat) (prev : Int) (nc : Bool) :
    listBody b (pf+1) prev nc =
      if b.next prev = -1 then []
      else if b.nextUnset (b.next prev) = b.next prev + 1 then
        ((if nc then str "," else []) ++ decDigits (b.next prev).toNat)
          :: listBody b pf (b.nextUnset (b.next prev) - 1) true
      else if b.nextUnset (b.next prev) = -1 then
        [(if nc then str "," else []) ++ decDigits (b.next prev).toNat ++ str "-"]
      else ((if nc then str "," else []) ++ decDigits (b.next prev).toNat ++ str "-"
              ++ decDigits (b.nextUnset (b.next prev) - 1).toNat)
          :: listBody b pf (b.nextUnset (b.next prev) - 1) true := rfl

def sepText (T : List Byte) : List Byte := if T = [] then [] else 44 :: T

theorem sepText_noDigit (T : List Byte) : NoDigitHead (sepText T) := by
  unfold sepText; split
  · exact noDigitHead_nil
  · exact noDigitHead_comma _

theorem sepText_cons_append (c : Byte) (X Y : List Byte) : sepText ((c :: X) ++ Y) = 44 :: ((c :: X) ++ Y) :=
  if_neg (List.cons_ne_nil _ _)

theorem text_comma_chunk (X : List Byte) (R : List (List Byte)) (hX : X ≠ []) :
    text ((str "," ++ X) :: R) = sepText (text (([] ++ X) :: R)) := by
  cases X with
  | nil => exact absurd rfl hX
  | cons c X => rw [text_cons, text_cons, List.nil_append, sepText_cons_append, str_comma]; rfl

/-- the comma only affects the first chunk -/
theorem listBody_comma (b : Bitmap) (pf : Nat) (prev : Int) :
    text (listBody b pf prev true) = sepText (text (listBody b pf prev false)) := by
  cases pf with
  | zero => rfl
  | succ pf =>
    rw [listBody_succ, listBody_succ]
    have hne := decDigits_ne_nil (b.next prev).toNat
    have hne2 : ∀ Y : List Byte, decDigits (b.next prev).toNat ++ Y ≠ [] :=
      fun Y h => hne (List.append_eq_nil_iff.mp h).1
    by_cases h1 : b.next prev = -1
    · rw [if_pos h1, if_pos h1]; rfl
    · rw [if_neg h1, if_neg h1]
      by_cases h2 : b.nextUnset (b.next prev) = b.next prev + 1
      · rw [if_pos h2, if_pos h2]; exact text_comma_chunk _ _ hne
      · rw [if_neg h2, if_neg h2]
        by_cases h3 : b.nextUnset (b.next prev) = -1
        · rw [if_pos h3, if_pos h3, if_pos rfl, if_neg Bool.false_ne_true, List.append_assoc, List.append_assoc]
          exact text_comma_chunk _ _ (hne2 _)
        · rw [if_neg h3, if_neg h3, if_pos rfl, if_neg Bool.false_ne_true]
          simp only [List.append_assoc]
          exact text_comma_chunk _ _ (hne2 _)

theorem listLoop_nil (lf : Nat) (acc : Bitmap) (beg : Option Nat) :
    listLoop (lf+1) [] acc beg = .ok (acc.words.map some) acc.inf := rfl

theorem listLoop_fuel (lf lf' : Nat) (cur : List Byte) (b : Bitmap) (beg : Option Nat) (h : cur.length < lf)
    (h' : cur.length < lf') : listLoop lf cur b beg = listLoop lf' cur b beg := by
  refine congrFun (congrFun (fuel_indep (fun f cur => listLoop f cur) (fun f f' cur ih => ?_) lf lf' cur h h') b) beg
  funext b beg
  unfold listLoop
  cases cur with
  | nil => rfl
  | cons c cs =>
    dsimp only
    have hdw : ((c :: cs).dropWhile (fun c => c == 44 || c == 32)).length ≤ (c :: cs).length :=
      (List.dropWhile_suffix _).sublist.length_le
    cases hst : strtoul 0 ((c :: cs).dropWhile (fun c => c == 44 || c == 32)) with
    | unsupported => rfl
    | ok val next =>
      have hn := (strtoul_rest_suffix hst).length_le
      dsimp only
      cases next with
      | nil => rfl
      | cons x rest =>
        dsimp only
        rw [ih rest (by simp only [List.length_cons] at *; omega)]

def listRun (cur : List Byte) (acc : Bitmap) (beg : Option Nat) : ScanRes := listLoop (cur.length + 1) cur acc beg

theorem not_sep_of_dec (c : Nat) (h : IsDecChar c) : (c == 44 || c == 32) = false := by
  unfold IsDecChar at h
  have h1 : ¬ (c = 44) := by omega
  have h2 : ¬ (c = 32) := by omega
  simp [h1, h2]

/-- what the scanner does after a number that did not stop the loop -/
def listCont (rest : List Byte) (a : Bitmap) (bg : Option Nat) : ScanRes :=
  match rest with
  | [] => .ok (a.words.map some) a.inf
  | _ :: rest' => listRun rest' a bg

theorem listRun_num (n : Nat) (rest : List Byte) (acc : Bitmap) (beg : Option Nat)
    (hn : n < listMaxIndex) (hr : NoDigitHead rest) :
    listRun (decDigits n ++ rest) acc beg =
      (if (listStep acc beg n rest).2.2 then
          .ok ((listStep acc beg n rest).1.words.map some) (listStep acc beg n rest).1.inf
       else listCont rest (listStep acc beg n rest).1 (listStep acc beg n rest).2.1) := by
  have hne := decDigits_ne_nil n
  have hch := decDigits_chars n
  have hst := strtoul0_decDigits n rest (by unfold listMaxIndex at hn; omega) hr
  generalize decDigits n = ds at *
  cases ds with
  | nil => contradiction
  | cons c cs =>
    have hc := not_sep_of_dec c (hch c (by simp))
    have hdw : List.dropWhile (fun c => c == 44 || c == 32) (c :: cs ++ rest) = c :: cs ++ rest := by
      rw [List.cons_append, List.dropWhile_cons_of_neg]
      simp [hc]
    unfold listRun
    conv => lhs; unfold listLoop
    simp only [List.cons_append] at hdw hst ⊢
    simp only [hdw, hst]
    have hlen : ¬ (rest.length = (c :: (cs ++ rest)).length) := by
      simp only [List.length_cons, List.length_append]; omega
    rw [if_neg hlen, if_neg (by omega)]
    cases rest with
    | nil => rfl
    | cons x r =>
      dsimp only [listCont, listRun]
      rw [listLoop_fuel _ (r.length + 1) r _ _ (by simp only [List.length_cons, List.length_append]; omega)
        (Nat.lt_succ_self _)]

theorem listCont_sep (T : List Byte) (a : Bitmap) (bg : Option Nat) :
    listCont (sepText T) a bg = listRun T a bg := by
  cases T with
  | nil => rfl
  | cons c cs => rfl

theorem listStep_none_sep (acc : Bitmap) (m : Nat) (T : List Byte) :
    listStep acc none m (sepText T) = (acc.set m, none, false) := by
  unfold sepText; split <;> rfl

/-- how the printer writes the run `m … e` of consecutive members -/
def encRun (m e : Nat) : List Byte := if e = m then decDigits m else decDigits m ++ 45 :: decDigits e

/-- what the scanner makes of it -/
def addRun (acc : Bitmap) (m e : Nat) : Bitmap := if e = m then acc.set m else acc.setRange m (some e)

theorem mem_addRun (acc : Bitmap) (m e n : Nat) :
    (addRun acc m e).mem n = (acc.mem n || (decide (m ≤ n) && decide (n ≤ e))) := by
  unfold addRun
  split
  · rename_i h; subst h
    rw [mem_set]; congr 1
    exact Bool.eq_iff_iff.mpr (by simp; omega)
  · exact mem_setRange_some ..

theorem listRun_run (acc : Bitmap) (m e : Nat) (T : List Byte) (hm : m < listMaxIndex) (he : e < listMaxIndex) :
    listRun (encRun m e ++ sepText T) acc none = listRun T (addRun acc m e) none := by
  unfold encRun addRun
  split
  · rw [listRun_num m _ acc none hm (sepText_noDigit _), listStep_none_sep]
    exact listCont_sep ..
  · have hX : decDigits e ++ sepText T ≠ [] := fun h => decDigits_ne_nil _ (List.append_eq_nil_iff.mp h).1
    rw [List.append_assoc, List.cons_append, listRun_num m _ acc none hm (noDigitHead_minus _), listStep_dash _ _ _ hX]
    show listRun (decDigits e ++ sepText T) acc (some m) = _
    rw [listRun_num e _ acc (some m) he (sepText_noDigit _), listStep_some]
    exact listCont_sep ..

theorem text_listBody_run (b : Bitmap) (pf : Nat) (prev : Int) (m e : Nat) (hm : b.next prev = (m : Int))
    (he : b.nextUnset (m : Int) = ((e + 1 : Nat) : Int)) :
    text (listBody b (pf + 1) prev false) = encRun m e ++ sepText (text (listBody b pf (e : Int) false)) := by
  rw [listBody_succ, hm, he, if_neg (by omega), show ((e + 1 : Nat) : Int) - 1 = (e : Int) by omega]
  unfold encRun
  by_cases h : e = m
  · subst h
    rw [if_pos (by omega), if_pos rfl]
    simp only [Bool.false_eq_true, if_false, List.nil_append, text_cons, listBody_comma, Int.toNat_natCast]
  · rw [if_neg (by omega), if_neg (by omega), if_neg h]
    simp only [Bool.false_eq_true, if_false, List.nil_append, text_cons, listBody_comma, str_minus,
      Int.toNat_natCast, List.append_assoc, List.cons_append, List.nil_append]

/-- the scanner has rebuilt `B` up to `prev`; `[m, e]` is the next run of `B` (nothing between `prev` and
`m`); adding the run rebuilds `B` up to `e` -/
theorem scanned_extend {B : Nat → Bool} {prev : Int} {m e n : Nat} (hpm : prev < m) (hme : m ≤ e)
    (hlow : ∀ k : Nat, prev < k → k < m → B k = false) (hrun : ∀ k, m ≤ k → k ≤ e → B k = true) :
    ((decide ((n : Int) ≤ prev) && B n) || (decide (m ≤ n) && decide (n ≤ e))) = (decide ((n : Int) ≤ (e : Int)) && B n) := by
  by_cases h1 : (n : Int) ≤ prev
  · have h2 : ¬ m ≤ n := by omega
    have h3 : (n : Int) ≤ e := by omega
    simp [h1, h2, h3]
  · by_cases h2 : m ≤ n
    · by_cases h3 : n ≤ e
      · simp [h1, h2, h3, hrun n h2 h3]
      · simp [h1, h2, h3]
    · simp [h1, h2, hlow n (by omega) (by omega)]

theorem scanned_extend_open {B : Nat → Bool} {prev : Int} {m n : Nat} (hpm : prev < m)
    (hlow : ∀ k : Nat, prev < k → k < m → B k = false) (hrun : ∀ k, m ≤ k → B k = true) :
    ((decide ((n : Int) ≤ prev) && B n) || decide (m ≤ n)) = B n := by
  -- an open run is a run that ends at `n` or beyond
  have h := scanned_extend (n := n) (e := max m n) hpm (Nat.le_max_left m n) hlow fun k hk _ => hrun k hk
  rwa [decide_eq_true (Nat.le_max_right m n), decide_eq_true (Int.ofNat_le.2 (Nat.le_max_right m n)), Bool.and_true,
    Bool.true_and] at h

theorem listRun_listBody (b : Bitmap) (hb : b.count * 64 + 64 ≤ listMaxIndex) (pf : Nat) :
    ∀ (prev : Int) (acc : Bitmap),
      -1 ≤ prev → prev ≤ ((b.count * 64 : Nat) : Int) - 1 → ((b.count * 64 : Nat) : Int) - prev ≤ pf →
      (∀ n : Nat, acc.mem n = (decide ((n:Int) ≤ prev) && b.mem n)) →
      ∃ r : Bitmap, listRun (text (listBody b pf prev false)) acc none = .ok (r.words.map some) r.inf ∧
        ∀ n, r.mem n = b.mem n := by
  unfold listMaxIndex at hb
  -- from the end of the stored words on, all indexes agree
  have hC : ∀ n : Nat, b.count * 64 ≤ n → b.mem n = b.mem (b.count * 64) := fun n hn =>
    (mem_of_ge b n hn).trans (mem_of_ge b _ (Nat.le_refl _)).symm
  generalize b.count * 64 = C at hb hC ⊢
  induction pf with
  | zero => intro prev acc h1 h2 h3; omega
  | succ pf ih =>
    intro prev acc h1 h2 h3 hmem
    rcases next_spec b prev h1 with ⟨hn, hno⟩ | ⟨m, hn, hpm, hm, hlow⟩
    · -- no index left
      rw [listBody_succ, if_pos hn]
      refine ⟨acc, rfl, fun n => ?_⟩
      rw [hmem n]
      by_cases hn : (n:Int) ≤ prev
      · simp [hn]
      · simp [hn, hno n (by omega)]
    · have hmC : m ≤ C := Nat.le_of_not_lt fun hgt => by
        have hmm := hC m (Nat.le_of_lt hgt)
        rw [hm, hlow C (by omega) hgt] at hmm; cases hmm
      have hmlt : m < listMaxIndex := by unfold listMaxIndex; omega
      -- the run starts at `m`, the search for its end behind `m`
      have hfrom : ∀ k, m ≤ k → (m < k → b.mem k = true) → b.mem k = true := fun k hk h =>
        (Nat.eq_or_lt_of_le hk).elim (fun e => e ▸ hm) h
      rcases nextUnset_spec b m (by omega) with ⟨hu, hall⟩ | ⟨e', hu, hme, he, hbetween⟩
      · -- open range `m-`
        rw [listBody_succ, hn, hu, if_neg (by omega), if_neg (by omega), if_pos rfl]
        simp only [Bool.false_eq_true, if_false, List.nil_append, text_cons, text_nil, List.append_nil,
          str_minus, Int.toNat_natCast]
        rw [listRun_num m _ acc none hmlt (noDigitHead_minus _), listStep_open]
        refine ⟨acc.setRange m none, by simp, fun n => ?_⟩
        rw [mem_setRange_none, hmem n]
        exact scanned_extend_open hpm hlow fun k hk => hfrom k hk fun h => by simpa using hall k (by omega)
      · -- the run `m … e`
        obtain ⟨e, rfl⟩ : ∃ e, e' = e + 1 := ⟨e' - 1, by omega⟩
        have hrun : ∀ k : Nat, m ≤ k → k ≤ e → b.mem k = true := fun k h1 h2 =>
          hfrom k h1 fun h => by simpa using hbetween k (by omega) (by omega)
        have heC : e + 1 ≤ C := Nat.le_of_not_lt fun hgt => by
          have hmm := hC (e + 1) (Nat.le_of_lt hgt)
          rw [show b.mem (e + 1) = false by simpa using he, hrun C hmC (by omega)] at hmm; cases hmm
        rw [text_listBody_run b pf prev m e hn hu, listRun_run acc m e _ hmlt (by unfold listMaxIndex; omega)]
        exact ih (e : Int) (addRun acc m e) (by omega) (by omega) (by omega) fun n => by
          rw [mem_addRun, hmem n]; exact scanned_extend hpm (by omega) hlow hrun

theorem list_roundtrip (b : Bitmap) (hinv : b.Inv) (hb : b.count * 64 + 64 ≤ listMaxIndex) :
    ∃ ws inf, listScan (text b.chunksList) = .ok (ws.map some) inf ∧
      ∀ n, (Bitmap.mk ws inf).mem n = b.mem n := by
  have _ := hinv   -- not needed: the denotation `mem` is defined for every representation
  have hinit : ∀ n : Nat, (Bitmap.mk [0#64] false).mem n = (decide ((n:Int) ≤ -1) && b.mem n) := by
    intro n
    have h1 : ¬ ((n:Int) ≤ -1) := by omega
    have h2 : (Bitmap.mk [0#64] false).mem n = false := mem_alloc n
    simp [h1, h2]
  obtain ⟨r, hr, hrm⟩ := listRun_listBody b hb (b.count * 64 + 2) (-1) ⟨[0#64], false⟩
    (by omega) (by omega) (by omega) hinit
  exact ⟨r.words, r.inf, hr, hrm⟩

end Bitmap
end Hw
