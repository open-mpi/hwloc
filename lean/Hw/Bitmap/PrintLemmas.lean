/-
  Hw.Bitmap.PrintLemmas — what the hwloc and the taskset round trip both use of the printers: the words from `topWords` on are
  fill words, a word is its two 32-bit groups, hex digits behind `0x` do not begin `0xf...f`.
-/
import Hw.Bitmap.Scan
import Hw.Bitmap.Queries
import Hw.Base.NumLemmas
namespace Hw
namespace Bitmap

/-- a word from its two 32-bit groups, as `hwloc_bitmap_sscanf` accumulates them -/
theorem join_word (w : Word) :
    (0#64 ||| BitVec.ofNat 64 (hi32 w) <<< 32) ||| BitVec.ofNat 64 (lo32 w) <<< 0 = w := by
  apply BitVec.eq_of_getLsbD_eq
  intro i hi
  have hb : w.getLsbD i = w.toNat.testBit i := rfl
  simp only [BitVec.getLsbD_or, BitVec.getLsbD_ofNat, BitVec.getLsbD_shiftLeft, hi32, lo32,
    Nat.testBit_mod_two_pow, Nat.testBit_div_two_pow, hb,
    Nat.sub_zero, Nat.not_lt_zero, decide_false, Bool.not_false, Bool.and_true]
  by_cases h32 : i < 32
  · simp [h32, hi]
  · have : i - 32 + 32 = i := by omega
    have h2 : i - 32 < 64 := by omega
    simp [h32, hi, this, h2]

theorem hi32_lt (w : Word) : hi32 w < 2 ^ 32 := by
  unfold hi32
  have := w.isLt
  have e : (2:Nat) ^ 64 = 2 ^ 32 * 2 ^ 32 := by decide
  rw [Nat.div_lt_iff_lt_mul (by decide)]; omega

theorem lo32_lt (w : Word) : lo32 w < 2 ^ 32 := Nat.mod_lt _ (by decide)

theorem readWord_ge_topWords (b : Bitmap) (i : Nat) (h : b.topWords ≤ i) :
    b.readWord i = fillW b.inf := by
  by_cases hc : b.count ≤ i
  · exact readWord_ge b hc
  · unfold topWords at h
    have key : (b.readWord i != fillW b.inf) = false := by
      cases hh : highest (fun i => b.readWord i != fillW b.inf) b.count with
      | none => exact highest_none.mp hh i (by omega)
      | some j =>
        rw [hh] at h
        simp only at h
        exact (highest_some.mp hh).2.2 i (by omega) (by omega)
    simpa using key

theorem readWord_topWords_ne (b : Bitmap) (t : Nat) (h : b.topWords = t + 1) :
    b.readWord t ≠ fillW b.inf := by
  unfold topWords at h
  cases hh : highest (fun i => b.readWord i != fillW b.inf) b.count with
  | none => rw [hh] at h; simp at h
  | some j =>
    rw [hh] at h
    have : j = t := by simpa using h
    subst this
    simpa using (highest_some.mp hh).2.1

theorem build_mem_eq (b : Bitmap) (K : Nat) (hK : b.topWords ≤ K) :
    ∀ n, (Bitmap.mk ((List.range K).map b.readWord) b.inf).mem n = b.mem n := by
  rw [mem_ext_iff]
  intro k
  have := readWord_build K b.readWord b.inf k
  unfold build at this
  rw [this]; split
  · rfl
  · exact (readWord_ge_topWords b k (by omega)).symm

/-- `0x` and a hex digit behind it do not begin `0xf...f`: the byte after them would be a dot -/
theorem isPrefix_inf_false (Y : List Byte) (hY : ∀ c, Y[1]? = some c → IsHexChar c) :
    isPrefix [48, 120, 102, 46, 46, 46, 102] (48 :: 120 :: Y) = false := by
  rw [Bool.eq_false_iff]
  intro h
  have h5 : Y.take 5 = [102, 46, 46, 46, 102] := by simpa [isPrefix] using h
  have : Y[1]? = some 46 := by rw [← List.getElem?_take_of_lt (show 1 < 5 by decide), h5]; rfl
  exact absurd (hY 46 this) (by unfold IsHexChar; decide)

end Bitmap
end Hw
