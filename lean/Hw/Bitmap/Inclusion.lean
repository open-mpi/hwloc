/-
  Hw.Bitmap.Inclusion — `hwloc_bitmap_compare_inclusion` (literal fold with the C's state) equals the
  classification obtained from the already characterised queries isequal / isincluded / intersects.
-/
import Hw.Bitmap.CompareFirst
namespace Hw
namespace Bitmap

/-- relation summary of a pair of sets (a prefix, a block, or the whole): the first is included in the second,
contains it, meets it; whether they are equal and whether either is empty follow from these three -/
structure Rel where
  sub : Bool
  sup : Bool
  meet : Bool

def Rel.eq (r : Rel) : Bool := r.sub && r.sup
def Rel.e1 (r : Rel) : Bool := r.sub && !r.meet
def Rel.e2 (r : Rel) : Bool := r.sup && !r.meet

/-- summary of the union of two pairs with disjoint supports -/
def Rel.comb (p w : Rel) : Rel := ⟨p.sub && w.sub, p.sup && w.sup, p.meet || w.meet⟩

def Rel.init : Rel := ⟨true, true, false⟩

/-- the C loop state as a function of the summary of the prefix processed so far -/
def stateOf (r : Rel) : InclState :=
  if r.meet && !r.sub && !r.sup then inclStop
  else { result := if r.eq then .equal else if r.sub then .included else if r.sup then .contains else .different,
         empty1 := r.e1, empty2 := r.e2, ret := none }

/-- the finite core: for all 2^6 pairs of summaries, one loop iteration maps the state of the prefix summary to
the state of the combined summary -/
theorem step_rel (p w : Rel) : inclStepB (stateOf p) w.e1 w.e2 w.eq w.sub w.sup w.meet = stateOf (p.comb w) := by
  obtain ⟨b, c, d⟩ := p
  obtain ⟨b', c', d'⟩ := w
  revert b c d b' c' d'
  decide +kernel

def wordRel (v1 v2 : Word) : Rel := ⟨v1 &&& v2 == v1, v1 &&& v2 == v2, v1 &&& v2 != 0#64⟩

theorem word_eq_iff_and (x y : Word) : (x == y) = ((x &&& y == x) && (x &&& y == y)) := by
  apply Bool.eq_iff_iff.mpr
  simp only [beq_iff_eq, Bool.and_eq_true]
  exact ⟨fun h => by subst h; simp, fun ⟨h1, h2⟩ => by rw [← h1, h2]⟩

theorem word_zero_iff_and (x y : Word) : (x == 0#64) = ((x &&& y == x) && !(x &&& y != 0#64)) := by
  apply Bool.eq_iff_iff.mpr
  simp only [beq_iff_eq, Bool.and_eq_true, Bool.not_eq_true', bne_eq_false_iff_eq]
  exact ⟨fun h => by subst h; simp, fun ⟨h1, h2⟩ => by rw [← h1, h2]⟩

theorem inclStep_eq (s : InclState) (v1 v2 : Word) :
    inclStep s v1 v2 = inclStepB s (wordRel v1 v2).e1 (wordRel v1 v2).e2 (wordRel v1 v2).eq
      (wordRel v1 v2).sub (wordRel v1 v2).sup (wordRel v1 v2).meet := by
  rw [inclStep, word_eq_iff_and v1 v2, word_zero_iff_and v1 v2, word_zero_iff_and v2 v1, BitVec.and_comm v2 v1]
  rfl

/-- summary of the first `k` (virtual) words -/
def prefixRel (a b : Bitmap) : Nat → Rel
  | 0 => Rel.init
  | k+1 => (prefixRel a b k).comb (wordRel (a.readWord k) (b.readWord k))

theorem fold_state (a b : Bitmap) (k : Nat) :
    (List.range k).foldl (fun s i => inclStep s (a.readWord i) (b.readWord i)) {} = stateOf (prefixRel a b k) := by
  induction k with
  | zero => rfl
  | succ k ih =>
    rw [List.range_succ, List.foldl_append, ih]
    simp only [List.foldl_cons, List.foldl_nil]
    rw [inclStep_eq]
    exact step_rel _ _

def finalize (s : InclState) : Incl := match s.ret with | some r => r | none => s.result

theorem inclFinish_eq (s : InclState) (i1 i2 : Bool) :
    inclFinish s i1 i2 = finalize (inclStep s (fillW i1) (fillW i2)) := by
  obtain ⟨res, e1, e2, ret⟩ := s
  cases ret with
  | some r => simp [inclFinish, finalize, inclStep, inclStepB]
  | none =>
    cases res <;> revert i1 i2 e1 e2 <;> decide +kernel

theorem finalize_stateOf (r : Rel) :
    finalize (stateOf r) =
      if r.eq then .equal else if r.sub then .included else if r.sup then .contains
      else if r.meet then .intersects else .different := by
  obtain ⟨b, c, d⟩ := r
  revert b c d
  decide +kernel

/-! fields of the summary as quantifications over the words -/

theorem range_succ_all (k : Nat) (p : Nat → Bool) : (List.range (k+1)).all p = ((List.range k).all p && p k) := by
  rw [List.range_succ, List.all_append]; simp
theorem range_succ_any (k : Nat) (p : Nat → Bool) : (List.range (k+1)).any p = ((List.range k).any p || p k) := by
  rw [List.range_succ, List.any_append]; simp

theorem word_sub_iff (x y : Word) : (x &&& y == x) = (y == (y ||| x)) := by
  apply Bool.eq_iff_iff.mpr
  rw [beq_iff_eq, word_incl_iff]
  simp only [← Bool.and_eq_left_iff_imp, ← BitVec.getLsbD_and]
  exact ⟨fun h j _ => by rw [h], BitVec.eq_of_getLsbD_eq⟩

theorem prefixRel_fields (a b : Bitmap) (k : Nat) :
    (prefixRel a b k).sub = (List.range k).all (fun i => b.readWord i == (b.readWord i ||| a.readWord i)) ∧
    (prefixRel a b k).sup = (List.range k).all (fun i => a.readWord i == (a.readWord i ||| b.readWord i)) ∧
    (prefixRel a b k).meet = (List.range k).any (fun i => a.readWord i &&& b.readWord i != 0#64) := by
  induction k with
  | zero => exact ⟨rfl, rfl, rfl⟩
  | succ k ih =>
    rw [range_succ_all, range_succ_all, range_succ_any, ← ih.1, ← ih.2.1, ← ih.2.2,
      ← word_sub_iff, ← word_sub_iff, BitVec.and_comm (b.readWord k)]
    exact ⟨rfl, rfl, rfl⟩

theorem wordRel_fillW (i1 i2 : Bool) : wordRel (fillW i1) (fillW i2) = ⟨!(i1 && !i2), !(i2 && !i1), i1 && i2⟩ := by
  cases i1 <;> cases i2 <;> rfl

theorem compareInclusion_eq (a b : Bitmap) :
    a.compareInclusion b =
      if a.isequal b then .equal
      else if a.isincluded b then .included
      else if b.isincluded a then .contains
      else if a.intersects b then .intersects
      else .different := by
  unfold compareInclusion
  simp only
  rw [fold_state, inclFinish_eq, inclStep_eq, step_rel, finalize_stateOf, wordRel_fillW]
  -- each field of the combined summary is the query of that name: its fold over the words and its clause on the flags
  obtain ⟨f2, f3, f4⟩ := prefixRel_fields a b (max a.count b.count)
  rw [isequal_eq_and]
  unfold isincluded intersects
  rw [Nat.max_comm b.count a.count, ← f2, ← f3, ← f4]
  rfl

end Bitmap
end Hw
