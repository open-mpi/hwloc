/-
  Hw.Topo.StageSetsOK — the part of the set clauses that survives level merging: `Restrict.okT` (SetsOK: set ⊆ complete set for
  every object, the complete sets of normal / memory children inside the parent's, I/O and Misc subtrees without sets) holds for the
  tree handed to `remove_empty`, is preserved by `remove_empty` and (C08, `ok_keepStructure`) by `hwloc_filter_levels_keep_structure`;
  hence (`render_set_in_complete`, Hw/Topo/RenderSets.lean) the WF clause `set-in-complete` holds for every object of the rendered
  dump of the FINAL tree.
-/
import Hw.Topo.StageCompose
import Hw.Topo.RestrictLemmas
namespace Hw.Topo.Restrict.Stage
open Hw.Topo Hw.Topo.Restrict Hw.Topo.SetStage

/-- the decoration carries no sets (I/O and Misc objects have NULL sets) -/
def DecoZero (dc : Deco) : Prop :=
  ∀ o : SObj, (∀ x ∈ objsL (dc.ios o), zeroSets x = true) ∧ (∀ x ∈ objsL (dc.mis o), zeroSets x = true)

theorem okT_toTree (dc : Deco) (hz : DecoZero dc) : ∀ s : ST, AllN Post s → okT (toTree dc s) = true := by
  apply ST.ind
  intro o kids mem ihk ihm h
  obtain ⟨⟨cc, cn, hcc, hcn, g1, g2⟩, hk, hm, _⟩ := h.here
  rw [toTree_node, okT_node]
  refine ⟨?_, ?_, (okL_iff _ _).2 ?_, (okL_iff _ _).2 ?_, (hz o).1, (hz o).2⟩
  · simp only [robj, hcc, Option.getD_some]; exact SetStage.subset_iff.2 g1
  · simp only [robj, hcn, Option.getD_some]; exact SetStage.subset_iff.2 g2
  · intro t ht
    obtain ⟨k, hk', rfl⟩ := List.mem_map.1 ht
    rw [toTree_obj]
    exact ⟨SetStage.subset_iff.2 (hk k hk').2.1, SetStage.subset_iff.2 (hk k hk').2.2.2, ihk k hk' (h.kids k hk')⟩
  · intro t ht
    obtain ⟨m, hm', rfl⟩ := List.mem_map.1 ht
    rw [toTree_obj]
    exact ⟨SetStage.subset_iff.2 (hm m hm').1.2.1, SetStage.subset_iff.2 (hm m hm').1.2.2.2, ihm m hm' (h.mem m hm')⟩

theorem ok_descends (o : RObj) (ns ms ios mis : List Tree) (h : okT (.node o ns ms ios mis) = true) :
    (∀ x ∈ mis, ∀ y ∈ objsT x, zeroSets y = true) ∧ (∀ c ∈ ns, okT c = true) ∧ ∀ m ∈ ms, okT m = true := by
  rw [okT_node, okL_iff, okL_iff] at h
  exact ⟨fun x hx y hy => h.2.2.2.2.2 y (mem_objsL_iff.2 ⟨x, hx, hy⟩), fun c hc => (h.2.2.1 c hc).2.2, fun c hc => (h.2.2.2.1 c hc).2.2⟩

theorem okL_filterMap {par : RObj} {l : List Tree} (h : okL par l = true)
    (ih : ∀ c ∈ l, ∀ c', removeEmpty c = some c' → okT c = true → okT c' = true) : okL par (l.filterMap removeEmpty) = true := by
  rw [okL_iff] at h ⊢
  intro c' hc'
  obtain ⟨c, hc, e⟩ := List.mem_filterMap.1 hc'
  rw [(removeEmpty_some e).2.2.1]
  exact ⟨(h c hc).1, (h c hc).2.1, ih c hc c' e (h c hc).2.2⟩

theorem removeEmpty_ok : ∀ t t', removeEmpty t = some t' → okT t = true → okT t' = true := by
  apply removeEmpty_ind
  intro o ns ms ios mis ihn ihm _ h
  have hl := (lifted_all (I := fun t => okT t = true) ok_descends _ h).1
  rw [okT_node] at h ⊢
  exact ⟨h.1, h.2.1, okL_filterMap h.2.2.1 ihn, okL_filterMap h.2.2.2.1 ihm, h.2.2.2.2.1,
    fun y hy => (mem_objsL_iff.1 hy).elim fun x hx => hl x hx.1 y hx.2⟩

theorem removeEmptyL_ok (par : RObj) : ∀ l : List Tree, okL par l = true →
    okL par (removeEmptyL l).kept = true ∧ (∀ x ∈ objsL (removeEmptyL l).misc, zeroSets x = true) := by
  intro l h
  rw [removeEmptyL_kept, removeEmptyL_misc]
  refine ⟨okL_filterMap h fun c _ => removeEmpty_ok c, fun y hy => ?_⟩
  obtain ⟨x, hx, hy⟩ := mem_objsL_iff.1 hy
  obtain ⟨c, hc, hx⟩ := List.mem_flatMap.1 hx
  exact (lifted_all (I := fun t => okT t = true) ok_descends c ((okL_iff _ _).1 h c hc).2.2).2 x hx y hy

end Hw.Topo.Restrict.Stage
