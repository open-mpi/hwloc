/-
  Hw.Topo.WFLemmas0 — how a clause of `WF` is reached, facts about the type classes, and the clauses most often used read as propositions.

  A clause is reached in two ways: by its position in `objClauses` / `topClauses` (`WF.obj_clause`, `WF.top_clause`: the
  clause body appears by unfolding the list, no string is compared) and by its name (`objClause`, `topClause`, the form in
  which other modules state that a clause holds).
-/
import Hw.Topo.WF
import Hw.Base.Cases
import Hw.Base.ListLemmas
namespace Hw.Topo

/-- clause lookup by name (all `true` for an unknown name) -/
def objClause (name : String) : Dump → Aux → Obj → Bool :=
  match objClauses.find? (fun c => c.1 == name) with
  | some c => c.2
  | none => fun _ _ _ => true

def topClause (name : String) : Dump → Aux → Bool :=
  match topClauses.find? (fun c => c.1 == name) with
  | some c => c.2
  | none => fun _ _ => true

theorem WF.obj_by_name {d : Dump} (h : WF d) (name : String) (o : Obj) (ho : o ∈ d.objs) :
    objClause name d (mkAux d) o = true := by
  unfold objClause
  cases hf : objClauses.find? (fun c => c.1 == name) with
  | none => rfl
  | some c => exact h.2 c (List.mem_of_find?_eq_some hf) o ho

theorem WF.top_by_name {d : Dump} (h : WF d) (name : String) : topClause name d (mkAux d) = true := by
  unfold topClause
  cases hf : topClauses.find? (fun c => c.1 == name) with
  | none => rfl
  | some c => exact h.1 c (List.mem_of_find?_eq_some hf)

theorem WF.obj_clause {d : Dump} (h : WF d) (k : Nat) {c : String × (Dump → Aux → Obj → Bool)}
    (hk : objClauses[k]? = some c) {o : Obj} (ho : o ∈ d.objs) : c.2 d (mkAux d) o = true :=
  h.2 c (List.mem_of_getElem? hk) o ho

theorem WF.top_clause {d : Dump} (h : WF d) (k : Nat) {c : String × (Dump → Aux → Bool)}
    (hk : topClauses[k]? = some c) : c.2 d (mkAux d) = true :=
  h.1 c (List.mem_of_getElem? hk)

theorem objClauses_names_nodup : (objClauses.map (·.1)).Nodup := by decide +kernel
theorem topClauses_names_nodup : (topClauses.map (·.1)).Nodup := by decide +kernel

/-- `name` and `f` are variables of their own, not projections of one pair: the goal `objClause "…" = fun …` then fixes both by
    plain matching, and the unifier is not led into evaluating the lookup -/
theorem objClause_of_getElem? {k : Nat} {name : String} {f : Dump → Aux → Obj → Bool} (hk : objClauses[k]? = some (name, f)) :
    objClause name = f := by
  unfold objClause
  rw [find?_key_of_mem (·.1) objClauses_names_nodup (List.mem_of_getElem? hk)]

theorem topClause_of_getElem? {k : Nat} {name : String} {f : Dump → Aux → Bool} (hk : topClauses[k]? = some (name, f)) :
    topClause name = f := by
  unfold topClause
  rw [find?_key_of_mem (·.1) topClauses_names_nodup (List.mem_of_getElem? hk)]

theorem objClause_of_mem (c : String × (Dump → Aux → Obj → Bool)) (hc : c ∈ objClauses) : objClause c.1 = c.2 :=
  (List.getElem?_of_mem hc).elim fun _ hk => objClause_of_getElem? hk

theorem topClause_of_mem (c : String × (Dump → Aux → Bool)) (hc : c ∈ topClauses) : topClause c.1 = c.2 :=
  (List.getElem?_of_mem hc).elim fun _ hk => topClause_of_getElem? hk

/-- a clause is proved under its name by proving the body that stands at its position: `objClause_intro (k := 11) rfl` turns the
    goal `objClause "depth-by-type" d a o = true` into the body of clause 11 applied to `d a o`, without copying the body -/
theorem objClause_intro {k : Nat} {name : String} {f : Dump → Aux → Obj → Bool} (hk : objClauses[k]? = some (name, f))
    {d : Dump} {a : Aux} {o : Obj} (h : f d a o = true) : objClause name d a o = true :=
  objClause_of_getElem? hk ▸ h

theorem topClause_intro {k : Nat} {name : String} {f : Dump → Aux → Bool} (hk : topClauses[k]? = some (name, f))
    {d : Dump} {a : Aux} (h : f d a = true) : topClause name d a = true :=
  topClause_of_getElem? hk ▸ h

/-! ### `Dump.obj?`: the object behind a link (`-1` = NULL) -/

theorem Dump.obj?_neg_one (d : Dump) : d.obj? (-1) = none := rfl

theorem Dump.obj?_natCast (d : Dump) (n : Nat) : d.obj? (n : Int) = d.objs[n]? := by
  unfold Dump.obj?
  rw [if_neg (Int.not_lt.2 (Int.natCast_nonneg n)), Int.toNat_natCast]

theorem Dump.mem_of_obj? {d : Dump} {i : Int} {p : Obj} (hp : d.obj? i = some p) : p ∈ d.objs := by
  unfold Dump.obj? at hp
  split at hp
  · cases hp
  · exact List.mem_of_getElem? hp

theorem levelOf_some {d : Dump} {k : Int} {l : Level} (hf : levelOf d k = some l) : l ∈ d.levels ∧ l.depth = k := by
  unfold levelOf at hf
  exact ⟨List.mem_of_find?_eq_some hf, beq_iff_eq.1 (List.find?_some (p := fun l : Level => l.depth == k) hf)⟩

/-! ### facts about the type classes (finite case analysis over the 20 types) -/

theorem lt14_of_normal {t : Nat} (ht : isNormal t = true) : t < 14 := by
  have : t ≤ tGROUP := of_decide_eq_true ht
  unfold tGROUP at this
  omega

theorem specialDepth_of_normal {t : Nat} (ht : isNormal t = true) : specialDepth t = none := by
  have key : ∀ t, t < 14 → specialDepth t = none := by decide
  exact key t (lt14_of_normal ht)

theorem not_special_of_normal {t : Nat} (ht : isNormal t = true) : isSpecial t = false := by
  have key : ∀ t, t < 14 → isSpecial t = false := by decide
  exact key t (lt14_of_normal ht)

theorem not_special_of_memory {t : Nat} (ht : isMemory t = true) : isSpecial t = false := by
  simp only [isMemory, Bool.or_eq_true, beq_iff_eq] at ht
  rcases ht with rfl | rfl <;> decide

theorem not_normal_of_memory {t : Nat} (ht : isMemory t = true) : isNormal t = false := by
  simp only [isMemory, Bool.or_eq_true, beq_iff_eq] at ht
  rcases ht with rfl | rfl <;> decide

theorem special_of_not_normal_not_memory {t : Nat} (hlt : t < tMAX) (hn : isNormal t = false)
    (hm : isMemory t = false) : isSpecial t = true := by
  have key : ∀ t, t < 20 → isNormal t = false → isMemory t = false → isSpecial t = true := by decide
  exact key t hlt hn hm

theorem specialDepth_cases {t : Nat} {sd : Int} (h : specialDepth t = some sd) :
    (t = tNUMA ∧ sd = -3) ∨ (t = tBRIDGE ∧ sd = -4) ∨ (t = tPCI ∧ sd = -5) ∨ (t = tOSDEV ∧ sd = -6) ∨
    (t = tMISC ∧ sd = -7) ∨ (t = tMEMCACHE ∧ sd = -8) := by
  have row : ∀ {t0 : Nat} {v : Int}, (t == t0) = true → some v = some sd → t = t0 ∧ sd = v :=
    fun ht e => ⟨eq_of_beq ht, (Option.some.inj e).symm⟩
  revert h
  unfold specialDepth
  refine Hw.ite_pred (· = some sd → _) (fun c e => .inl (row c e)) fun _ => ?_
  refine Hw.ite_pred (· = some sd → _) (fun c e => .inr (.inl (row c e))) fun _ => ?_
  refine Hw.ite_pred (· = some sd → _) (fun c e => .inr (.inr (.inl (row c e)))) fun _ => ?_
  refine Hw.ite_pred (· = some sd → _) (fun c e => .inr (.inr (.inr (.inl (row c e))))) fun _ => ?_
  refine Hw.ite_pred (· = some sd → _) (fun c e => .inr (.inr (.inr (.inr (.inl (row c e)))))) fun _ => ?_
  exact Hw.ite_pred (· = some sd → _) (fun c e => .inr (.inr (.inr (.inr (.inr (row c e)))))) fun _ e => nomatch e

theorem specialDepth_neg {t : Nat} {sd : Int} (hs : specialDepth t = some sd) : sd < 0 := by
  rcases specialDepth_cases hs with ⟨_, rfl⟩ | ⟨_, rfl⟩ | ⟨_, rfl⟩ | ⟨_, rfl⟩ | ⟨_, rfl⟩ | ⟨_, rfl⟩ <;> decide

theorem specialDepth_of_not_normal {t : Nat} (hlt : t < tMAX) (ht : isNormal t = false) :
    ∃ sd, specialDepth t = some sd ∧ sd < 0 := by
  have key : ∀ t, t < 20 → isNormal t = false → (specialDepth t).isSome = true := by decide
  obtain ⟨sd, hs⟩ := Option.isSome_iff_exists.1 (key t hlt ht)
  exact ⟨sd, hs, specialDepth_neg hs⟩

theorem specialDepth_numa {t : Nat} (h : specialDepth t = some (-3)) : t = tNUMA := by
  rcases specialDepth_cases h with ⟨ht, _⟩ | ⟨_, e⟩ | ⟨_, e⟩ | ⟨_, e⟩ | ⟨_, e⟩ | ⟨_, e⟩
  all_goals first | exact ht | cases e

theorem specialDepth_misc {t : Nat} (h : specialDepth t = some (-7)) : t = tMISC := by
  rcases specialDepth_cases h with ⟨_, e⟩ | ⟨_, e⟩ | ⟨_, e⟩ | ⟨_, e⟩ | ⟨ht, _⟩ | ⟨_, e⟩
  all_goals first | exact ht | cases e

/-- what the clause levels-in-tree-order asks of a level -/
theorem increasing_iff (l : List Int) : increasing l = true ↔ l.Pairwise (· < ·) := by
  induction l with
  | nil => simp [increasing]
  | cons a t ih =>
    cases t with
    | nil => simp [increasing]
    | cons b rest =>
      rw [increasing, Bool.and_eq_true, decide_eq_true_eq, ih, List.pairwise_cons (a := a)]
      constructor
      · rintro ⟨hab, hp⟩
        refine ⟨?_, hp⟩
        intro x hx
        rcases List.mem_cons.1 hx with rfl | hm
        · exact hab
        · have := (List.pairwise_cons.1 hp).1 x hm
          omega
      · rintro ⟨hall, hp⟩
        exact ⟨hall b List.mem_cons_self, hp⟩

theorem rootOrParent_iff (d : Dump) (a : Aux) (o : Obj) : objClause "root-or-parent" d a o = true ↔
    if o.id = 0 then o.parent = -1 else 0 ≤ o.parent ∧ o.parent.toNat < d.objs.length ∧ o.parent ≠ (o.id : Int) := by
  rw [objClause_of_getElem? (k := 3) rfl]
  dsimp only
  by_cases h0 : o.id = 0
  · rw [if_pos h0, if_pos (beq_iff_eq.2 h0), beq_iff_eq]
  · rw [if_neg h0, if_neg (by rwa [beq_iff_eq])]
    simp only [idOk, Bool.and_eq_true, Bool.or_eq_true, decide_eq_true_eq, beq_iff_eq, bne_iff_ne, ne_eq]
    exact ⟨fun ⟨⟨a, b⟩, c⟩ => ⟨a, b.elim (fun e => by omega) (·.2), c⟩, fun ⟨a, b, c⟩ => ⟨⟨a, .inr ⟨a, b⟩⟩, c⟩⟩

/-- what the clause level-entries-valid asks: an entry of a level is given as `l.objs[i]? = some e`, which carries its bound -/
theorem levelEntriesValid_iff (d : Dump) (a : Aux) : topClause "level-entries-valid" d a = true ↔
    ∀ l ∈ d.levels, ∀ i e, l.objs[i]? = some e → ∃ o, d.obj? e = some o ∧ o.lidx = i ∧ o.depth = l.depth := by
  rw [topClause_of_getElem? (k := 8) rfl]
  simp only [List.all_eq_true, List.mem_range]
  refine forall₂_congr fun l _ => ⟨fun H i e he => ?_, fun H i hi => ?_⟩
  · have c := H i (List.getElem?_eq_some_iff.1 he).1
    rw [he, Option.getD_some] at c
    cases ho : d.obj? e with
    | none => rw [ho] at c; cases c
    | some o =>
      rw [ho] at c
      simp only [Bool.and_eq_true, beq_iff_eq] at c
      exact ⟨o, rfl, c.2, c.1⟩
  · obtain ⟨o, ho, h1, h2⟩ := H i _ (List.getElem?_eq_getElem hi)
    rw [List.getElem?_eq_getElem hi, Option.getD_some, ho]
    simp only [h1, h2, beq_self_eq_true, Bool.and_self]

/-- what the clause type-depth-inverse asks: the table is a function of the depths of the normal levels of each type -/
theorem typeDepthInverse_iff (d : Dump) (a : Aux) : topClause "type-depth-inverse" d a = true ↔
    d.typeDepths.length = tMAX ∧ ∀ t, t < tMAX → (d.typeDepths[t]?).getD 0 =
      match specialDepth t with
      | some sd => sd
      | none =>
        match (d.levels.filter (fun l => decide (0 ≤ l.depth) && l.type == (t : Int))).map (·.depth) with
        | [] => -1
        | [k] => k
        | _ => -2 := by
  rw [topClause_of_getElem? (k := 10) rfl]
  simp only [Bool.and_eq_true, beq_iff_eq, List.all_eq_true, List.mem_range]
  refine and_congr_right fun _ => forall₂_congr fun t _ => ?_
  cases specialDepth t with
  | some sd => exact beq_iff_eq
  | none =>
    generalize d.levels.filter (fun l => decide (0 ≤ l.depth) && l.type == (t : Int)) = ls
    match ls with
    | [] | [_] | _ :: _ :: _ => exact beq_iff_eq

theorem inItsLevel_iff (d : Dump) (a : Aux) (o : Obj) : objClause "in-its-level" d a o = true ↔
    ∃ l, levelOf d o.depth = some l ∧ l.objs[o.lidx]? = some (o.id : Int) ∧ l.type = (o.type : Int) ∧
      o.prevCousin = (if o.lidx = 0 then -1 else (l.objs[o.lidx - 1]?).getD (-2)) ∧ o.nextCousin = (l.objs[o.lidx + 1]?).getD (-1) := by
  rw [objClause_of_getElem? (k := 13) rfl]
  dsimp only
  cases levelOf d o.depth with
  | none => exact ⟨nofun, fun ⟨_, c, _⟩ => nomatch c⟩
  | some l =>
    simp only [Bool.and_eq_true, beq_iff_eq, and_assoc]
    exact ⟨fun c => ⟨l, rfl, c⟩, fun ⟨_, e, c⟩ => Option.some.inj e ▸ c⟩

theorem WF.gp_nodup {d : Dump} (h : WF d) : (d.objs.map (·.gp)).Nodup :=
  of_decide_eq_true (h.top_clause 14 rfl)

theorem WF.pu_osidx_unique {d : Dump} (h : WF d) : ((d.objs.filter (fun o => o.type == tPU)).map (·.osidx)).Nodup :=
  of_decide_eq_true (h.top_clause 12 rfl)

theorem WF.numa_osidx_unique {d : Dump} (h : WF d) : ((d.objs.filter (fun o => o.type == tNUMA)).map (·.osidx)).Nodup :=
  of_decide_eq_true (h.top_clause 13 rfl)

theorem WF.machine_is_root {d : Dump} (h : WF d) (o : Obj) (ho : o ∈ d.objs) (ht : o.type = tMACHINE) : o.id = 0 := by
  have h1 : d.objs.all (fun o => o.type != tMACHINE || o.id == 0) = true := h.top_clause 2 rfl
  have h2 := List.all_eq_true.1 h1 o ho
  rw [ht, bne_self_eq_false, Bool.false_or, beq_iff_eq] at h2
  exact h2

/-- no object of a type whose filter is KEEP_NONE is present -/
theorem WF.not_filtered {d : Dump} (h : WF d) (o : Obj) (ho : o ∈ d.objs) : (d.filters[o.type]?).getD 0 ≠ 1 := by
  have h1 : ((d.filters[o.type]?).getD 0 != 1) = true := h.obj_clause 2 rfl ho
  exact bne_iff_ne.1 h1

theorem WF.set_in_complete {d : Dump} (h : WF d) (o : Obj) (ho : o ∈ d.objs) :
    subset (o.cpuset.getD 0) (o.ccpuset.getD 0) = true ∧ subset (o.nodeset.getD 0) (o.cnodeset.getD 0) = true := by
  have h1 : (subset (o.cpuset.getD 0) (o.ccpuset.getD 0) && subset (o.nodeset.getD 0) (o.cnodeset.getD 0)) = true :=
    h.obj_clause 15 rfl ho
  exact Bool.and_eq_true_iff.1 h1

theorem WF.pu_cpuset {d : Dump} (h : WF d) (o : Obj) (ho : o ∈ d.objs) (ht : o.type = tPU) :
    0 ≤ o.osidx ∧ o.cpuset = some (single o.osidx.toNat) ∧ o.ccpuset = some (single o.osidx.toNat) := by
  have h1 : (if o.type == tPU then
      decide (0 ≤ o.osidx) && o.cpuset == some (single o.osidx.toNat) && o.ccpuset == some (single o.osidx.toNat)
    else true) = true := h.obj_clause 17 rfl ho
  rw [ht, beq_self_eq_true, if_pos rfl] at h1
  simp only [Bool.and_eq_true, decide_eq_true_eq, beq_iff_eq] at h1
  exact ⟨h1.1.1, h1.1.2, h1.2⟩

theorem WF.numa_nodeset {d : Dump} (h : WF d) (o : Obj) (ho : o ∈ d.objs) (ht : o.type = tNUMA) :
    0 ≤ o.osidx ∧ o.nodeset = some (single o.osidx.toNat) ∧ o.cnodeset = some (single o.osidx.toNat) := by
  have h1 : (if o.type == tNUMA then
      decide (0 ≤ o.osidx) && o.nodeset == some (single o.osidx.toNat) && o.cnodeset == some (single o.osidx.toNat)
    else true) = true := h.obj_clause 18 rfl ho
  rw [ht, beq_self_eq_true, if_pos rfl] at h1
  simp only [Bool.and_eq_true, decide_eq_true_eq, beq_iff_eq] at h1
  exact ⟨h1.1.1, h1.1.2, h1.2⟩

theorem WF.allowed {d : Dump} (h : WF d) : ∃ r, d.objs[0]? = some r ∧
    subset (d.allowedCpuset.getD 0) (r.cpuset.getD 0) = true ∧ subset (d.allowedNodeset.getD 0) (r.nodeset.getD 0) = true ∧
    (flagIncludeDisallowed d = false → d.allowedCpuset = r.cpuset ∧ d.allowedNodeset = r.nodeset) := by
  have h1 := h.top_clause 11 rfl
  dsimp only at h1
  cases hr : d.objs[0]? with
  | none => rw [hr] at h1; cases h1
  | some r =>
    rw [hr] at h1
    simp only [Bool.and_eq_true, Bool.or_eq_true, beq_iff_eq] at h1
    refine ⟨r, rfl, h1.1.1.2, h1.1.2, fun hf => ?_⟩
    rcases h1.2 with h2 | h2
    · rw [hf] at h2; cases h2
    · exact h2

end Hw.Topo
