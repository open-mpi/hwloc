/-
  Hw.Topo.Render — what hwloc_connect_children + hwloc_connect_levels + hwloc_connect_special_levels compute for ANY
  four-list tree: the complete link / level content of a topology dump (harness/dump.h).

    * ids in DFS order exactly as dump.h numbers them (the object, then its normal, memory, I/O, Misc children lists)
    * parent, sibling_rank, arity / memory_arity / io_arity / misc_arity, children[], first_child / last_child,
      next_sibling / prev_sibling, memory_first_child / io_first_child / misc_first_child   (hwloc_connect_children)
    * depth, logical_index, next_cousin / prev_cousin, the normal levels (connectLevels) and type depths (hwloc_connect_levels)
    * the six special levels in the order of hwloc_list_special_objects, which is the DFS order (hwloc_connect_special_levels)

  Everything that is not a link (sets, type, os_index, gp_index) comes from the tree objects; what restrict never touches
  (attributes, names, infos) or what other code recomputes (symmetric_subtree, total_memory) is carried by `Extra`.
-/
import Hw.Topo.Restrict
namespace Hw.Topo.Restrict
open Hw.Topo

/-! ### sizes and occurrences -/

mutual
def sizeT : Tree → Nat
  | .node _ ns ms ios mis => 1 + (sizeL ns + sizeL ms + sizeL ios + sizeL mis)
def sizeL : List Tree → Nat
  | [] => 0
  | t :: ts => sizeT t + sizeL ts
end

/-- one object of the tree with everything hwloc_connect_children derives from its position -/
structure Occ where
  id : Nat
  parent : Int
  rank : Nat
  prev : Int
  next : Int
  t : Tree
deriving Inhabited

mutual
/-- occurrences in DFS order; `s` = id of the subtree root, `par rk pv nx` = its parent id, sibling rank, prev / next sibling -/
def occsT (s : Nat) (par : Int) (rk : Nat) (pv nx : Int) : Tree → List Occ
  | .node o ns ms ios mis =>
    ⟨s, par, rk, pv, nx, .node o ns ms ios mis⟩ ::
      (occsL (s + 1) s 0 (-1) ns ++ occsL (s + 1 + sizeL ns) s 0 (-1) ms ++
       occsL (s + 1 + sizeL ns + sizeL ms) s 0 (-1) ios ++ occsL (s + 1 + sizeL ns + sizeL ms + sizeL ios) s 0 (-1) mis)
/-- the siblings of one children list, starting at id `s`, rank `rk`, previous sibling `pv` -/
def occsL (s : Nat) (par : Int) (rk : Nat) (pv : Int) : List Tree → List Occ
  | [] => []
  | t :: ts =>
    occsT s par rk pv (if ts.isEmpty then -1 else ((s + sizeT t : Nat) : Int)) t ++ occsL (s + sizeT t) par (rk + 1) s ts
end

def occs (t : Tree) : List Occ := occsT 0 (-1) 0 (-1) (-1) t

/-- the ids of the siblings of a children list that starts at id `s` -/
def startsL (s : Nat) : List Tree → List Int
  | [] => []
  | t :: ts => (s : Int) :: startsL (s + sizeT t) ts

/-! ### levels -/

mutual
/-- the tree with gp replaced by the DFS id, so that connectLevels (which never reads gp) yields levels of ids -/
def relabelT (s : Nat) : Tree → Tree
  | .node o ns ms ios mis =>
    .node { o with gp := s } (relabelL (s + 1) ns) (relabelL (s + 1 + sizeL ns) ms)
      (relabelL (s + 1 + sizeL ns + sizeL ms) ios) (relabelL (s + 1 + sizeL ns + sizeL ms + sizeL ios) mis)
def relabelL (s : Nat) : List Tree → List Tree
  | [] => []
  | t :: ts => relabelT s t :: relabelL (s + sizeT t) ts
end

/-- normal levels as (type, ids), root level first -/
def normalLevels (t : Tree) : List (Nat × List Nat) :=
  (connectLevels (relabelT 0 t)).map (fun l => (((l.head?).map (·.type)).getD 0, l.map (·.gp)))

/-- the special levels in the order dump.h prints them: NUMANODE, BRIDGE, PCI_DEVICE, OS_DEVICE, MISC, MEMCACHE -/
def specialTypes : List Nat := [tNUMA, tBRIDGE, tPCI, tOSDEV, tMISC, tMEMCACHE]

def specialLevel (os : List Occ) (ty : Nat) : List Nat := (os.filter (fun oc => oc.t.obj.type == ty)).map (·.id)

def renderLevels (t : Tree) : List Level :=
  let nl := normalLevels t
  let os := occs t
  ((List.range nl.length).zip nl).map (fun (k, l) => (⟨(k : Int), (l.1 : Int), l.2.map (fun (i : Nat) => (i : Int))⟩ : Level)) ++
  specialTypes.map (fun ty => (⟨(specialDepth ty).getD 0, (ty : Int), (specialLevel os ty).map (fun (i : Nat) => (i : Int))⟩ : Level))

/-- depth and level members of an object -/
def placeOf (nl : List (Nat × List Nat)) (os : List Occ) (id ty : Nat) : Int × List Nat :=
  match specialDepth ty with
  | some sd => (sd, specialLevel os ty)
  | none =>
    match ((List.range nl.length).zip nl).find? (fun (_, l) => l.2.contains id) with
    | some (k, l) => ((k : Int), l.2)
    | none => (-1, [])

def typeDepthOf (nl : List (Nat × List Nat)) (ty : Nat) : Int :=
  match specialDepth ty with
  | some sd => sd
  | none =>
    match ((List.range nl.length).zip nl).filter (fun (_, l) => l.1 == ty) with
    | [] => -1
    | [(k, _)] => (k : Int)
    | _ => -2

/-! ### objects -/

/-- fields that are not links and that restrict does not define -/
structure Extra where
  symm : Int := 0
  totalMem : Nat := 0
  attrs : List Int := []
  subtype : Option String := none
  name : Option String := none
  infos : List (String × String) := []
deriving Inhabited

def optSet (o : RObj) (s : Nat) : Option Nat := if o.hasSets then some s else none

def idxOf (l : List Nat) (x : Nat) : Nat := (l.findIdx? (· == x)).getD 0

def renderObj (nl : List (Nat × List Nat)) (os : List Occ) (ex : RObj → Extra) (oc : Occ) : Obj :=
  match oc.t with
  | .node o ns ms ios mis =>
    let s := oc.id
    let place := placeOf nl os s o.type
    let lidx := idxOf place.2 s
    let e := ex o
    let kids := startsL (s + 1) ns
    { id := s, type := o.type, depth := place.1, lidx := lidx, osidx := o.osidx, gp := o.gp, parent := oc.parent, rank := oc.rank,
      arity := ns.length, marity := ms.length, ioarity := ios.length, miscarity := mis.length,
      nextSib := oc.next, prevSib := oc.prev,
      nextCousin := ((place.2[lidx + 1]?).map (fun (i : Nat) => (i : Int))).getD (-1),
      prevCousin := if lidx = 0 then -1 else ((place.2[lidx - 1]?).map (fun (i : Nat) => (i : Int))).getD (-2),
      firstChild := (kids.head?).getD (-1), lastChild := (kids.getLast?).getD (-1),
      memFirst := if ms.isEmpty then -1 else ((s + 1 + sizeL ns : Nat) : Int),
      ioFirst := if ios.isEmpty then -1 else ((s + 1 + sizeL ns + sizeL ms : Nat) : Int),
      miscFirst := if mis.isEmpty then -1 else ((s + 1 + sizeL ns + sizeL ms + sizeL ios : Nat) : Int),
      symm := e.symm,
      cpuset := optSet o o.cpuset, ccpuset := optSet o o.ccpuset, nodeset := optSet o o.nodeset, cnodeset := optSet o o.cnodeset,
      totalMem := e.totalMem, attrs := e.attrs, children := kids, subtype := e.subtype, name := e.name, infos := e.infos }

/-- the topology header that restrict does not derive from the tree -/
structure Hdr where
  flags : Nat
  filters : List Nat
  allowedCpu : Option Nat
  allowedNode : Option Nat

/-- **render**: the dump of the topology whose object tree is `t` -/
def render (t : Tree) (h : Hdr) (ex : RObj → Extra) : Dump :=
  let nl := normalLevels t
  let os := occs t
  { flags := h.flags, depth := nl.length, root := 0, nobjs := os.length, allowedCpuset := h.allowedCpu, allowedNodeset := h.allowedNode,
    filters := h.filters, objs := os.map (renderObj nl os ex), levels := renderLevels t,
    typeDepths := (List.range tMAX).map (typeDepthOf nl) }

/-! ### tree typing (hypothesis of the link theorems, evaluated by the driver on every tree) -/

mutual
/-- which objects may carry which children (hwloc's object-kind discipline): normal children only below normal objects,
    memory children below normal objects or memory-side caches, I/O children below normal or I/O objects (Misc children
    anywhere); each list holds objects of its own kind.  Preserved by the whole restrict model (`typed_restrict`). -/
def typedT : Tree → Bool
  | .node o ns ms ios mis =>
    (isNormal o.type || ns.isEmpty) && (isNormal o.type || o.type == tMEMCACHE || ms.isEmpty) &&
    (isNormal o.type || isIO o.type || ios.isEmpty) && decide (o.type < tMAX) &&
    typedL isNormal ns && typedL isMemory ms && typedL isIO ios && typedL isMisc mis
def typedL (k : Nat → Bool) : List Tree → Bool
  | [] => true
  | t :: ts => k t.obj.type && typedT t && typedL k ts
end

mutual
/-- PUs have no normal and no memory children (used for the PU part of no-children-where-forbidden and for the PU level being
    the last one; level merging preserves it because hwloc_compare_levels_structure refuses to merge a level with memory
    children into the PU level) -/
def puLeafT : Tree → Bool
  | .node o ns ms ios mis =>
    (o.type != tPU || (ns.isEmpty && ms.isEmpty)) && puLeafL ns && puLeafL ms && puLeafL ios && puLeafL mis
def puLeafL : List Tree → Bool
  | [] => true
  | t :: ts => puLeafT t && puLeafL ts
end

end Hw.Topo.Restrict
