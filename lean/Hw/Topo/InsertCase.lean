/-
  Hw.Topo.InsertCase — the loop of `hwloc___insert_object_by_cpuset` in closed form.

  The loop goes past the children of CUR that are disjoint from OBJ (they stay) and those inside OBJ (they move below it), and
  ends at the first child that decides anything else, or behind the last one.  So its state after a prefix `pre` of such
  children is a function of `pre` (`insLoop_pass`): kept = `pre` filtered by `differs`, taken = the others, the remembered
  position = the first kept child that starts above OBJ.  `InsCase` lists the five ways the loop can end in these terms and
  `ins_case` says that `ins` is one of them; what is proved about `ins` is proved by cases on it, from facts about two
  complementary filters of the children list, without an induction over the loop.
-/
import Hw.Topo.Insert
namespace Hw.Topo.Ins

/-- the loop goes past child `c`: it stays in CUR (`differ`) or moves below OBJ (`contain`) -/
def passes (obj : IObj) (c : T) : Bool := match decide1 obj c.o with | .differ | .contain _ => true | _ => false
def differs (obj : IObj) (c : T) : Bool := decide1 obj c.o == .differ
/-- a child moved below OBJ; when the sets are equal its memory children have gone to OBJ -/
def strip (obj : IObj) (c : T) : T := if decide1 obj c.o = .contain true then .node { c.o with mem := [] } c.kids else c
/-- … which has them from the last such child -/
def memAfter (obj : IObj) (m : List Nat) (l : List T) : List Nat :=
  l.foldl (fun m c => if decide1 obj c.o = .contain true then c.o.mem else m) m
/-- the position remembered for OBJ: the first kept child that starts above it -/
def firstAbove (k0 : Nat) (B : List T) : Option Nat := B.findIdx? (fun c => firstLt k0 c.o.key)

theorem Res.wrap_failed {r : Res} {co : IObj} {before rest : List T} {t' : T} (h : r.wrap co before rest = .failed t') :
    ∃ c', r = .failed c' ∧ t' = .node co (before ++ c' :: rest) := by
  cases r <;> cases h
  exact ⟨_, rfl, rfl⟩

theorem decide1_mem (obj ko : IObj) (m : List Nat) : decide1 { obj with mem := m } ko = decide1 obj ko := rfl

theorem strip_eq (obj : IObj) (c : T) :
    ∃ o', strip obj c = .node o' c.kids ∧ o'.key = c.o.key ∧ o'.ckey = c.o.ckey ∧ o'.gp = c.o.gp := by
  unfold strip; split
  · exact ⟨_, rfl, rfl, rfl, rfl⟩
  · obtain ⟨o, k⟩ := c; exact ⟨o, rfl, rfl, rfl, rfl⟩

/-- the remembered position splits the kept children as an insertion sort does (`Hw.Base.InsertSort`): OBJ goes behind the
longest prefix of children that do not start above it -/
theorem take_firstAbove (k0 : Nat) (B : List T) :
    B.take ((firstAbove k0 B).getD B.length) = B.takeWhile (fun c => !firstLt k0 c.o.key) := by
  rw [List.takeWhile_eq_take_findIdx_not, List.findIdx_eq_getD_findIdx?]; simp only [Bool.not_not, firstAbove]

theorem drop_firstAbove (k0 : Nat) (B : List T) :
    B.drop ((firstAbove k0 B).getD B.length) = B.dropWhile (fun c => !firstLt k0 c.o.key) := by
  rw [List.dropWhile_eq_drop_findIdx_not, List.findIdx_eq_getD_findIdx?]; simp only [Bool.not_not, firstAbove]

/-- what stands before the remembered position, whatever follows the kept children: kept children that do not start above OBJ -/
theorem firstAbove_before {k0 : Nat} {B : List T} {i : Nat} (h : firstAbove k0 B = some i) (suf : List T) :
    ∀ a ∈ (B ++ suf).take i, a ∈ B ∧ firstLt k0 a.o.key = false := by
  obtain ⟨hi, _, hb⟩ := List.findIdx?_eq_some_iff_getElem.mp h
  rw [List.take_append_of_le_length (Nat.le_of_lt hi)]
  intro a ha
  obtain ⟨j, hj, rfl⟩ := List.mem_take_iff_getElem.mp ha
  exact ⟨List.getElem_mem _, Bool.eq_false_iff.mpr (hb j (Nat.lt_of_lt_of_le hj (Nat.min_le_left _ _)))⟩

/-- one more kept child: its position is remembered if none was and it starts above OBJ -/
theorem firstAbove_snoc (k0 : Nat) (B : List T) (ko : IObj) (kk : List T) :
    firstAbove k0 (B ++ [.node ko kk]) =
      if (firstAbove k0 B).isNone && firstLt k0 ko.key then some B.length else firstAbove k0 B := by
  unfold firstAbove
  rw [List.findIdx?_append, List.findIdx?_cons, List.findIdx?_nil]
  generalize List.findIdx? (fun c : T => firstLt k0 c.o.key) B = x
  cases x <;> cases h : firstLt k0 ko.key <;> simp [T.o, h]

theorem insLoop_pass (obj co : IObj) : ∀ (pre suf before taken : List T) (m : List Nat),
    (∀ c ∈ pre, passes obj c = true) →
    insLoop { obj with mem := m } co before taken (firstAbove obj.key before) (pre ++ suf) =
      insLoop { obj with mem := memAfter obj m pre } co (before ++ pre.filter (differs obj))
        (taken ++ (pre.filter (fun c => !differs obj c)).map (strip obj))
        (firstAbove obj.key (before ++ pre.filter (differs obj))) suf := by
  intro pre
  induction pre with
  | nil => intro suf before taken m _; simp [memAfter]
  | cons c pre ih =>
    intro suf before taken m hp
    obtain ⟨ko, kk⟩ := c
    have hc := hp (.node ko kk) (by simp)
    have hp' : ∀ c ∈ pre, passes obj c = true := fun c h => hp c (by simp [h])
    simp only [List.cons_append, insLoop, decide1_mem]
    unfold passes at hc
    cases hd : decide1 obj ko with
    | merge o' => simp [T.o, hd] at hc
    | recurse => simp [T.o, hd] at hc
    | fail => simp [T.o, hd] at hc
    | differ =>
      have e1 : differs obj (.node ko kk) = true := by simp [differs, T.o, hd]
      have e2 : memAfter obj m (.node ko kk :: pre) = memAfter obj m pre := by simp [memAfter, T.o, hd]
      simp only [List.filter_cons, e1, if_true, Bool.not_true, Bool.false_eq_true, if_false]
      rw [← firstAbove_snoc, ih suf _ _ m hp', e2, List.append_assoc, List.singleton_append]
    | contain eq =>
      have e1 : differs obj (.node ko kk) = false := by simp [differs, T.o, hd]
      have e2 : memAfter obj m (.node ko kk :: pre) = memAfter obj (if eq then ko.mem else m) pre := by
        simp [memAfter, T.o, hd]
      have e3 : strip obj (.node ko kk) = if eq then .node { ko with mem := [] } kk else .node ko kk := by
        simp [strip, T.o, T.kids, hd]
      simp only [List.filter_cons, e1, Bool.false_eq_true, if_false, Bool.not_false, if_true, List.map_cons]
      rw [e2, e3, List.append_cons taken _ (List.map _ _), ← ih suf _ _ _ hp']
      -- the loop has its `if eq` around OBJ, `memAfter` inside the field
      cases eq <;> rfl

/-- the children gone past that stay in CUR, and those that moved below OBJ -/
abbrev keptOf (obj : IObj) (pre : List T) : List T := pre.filter (differs obj)
abbrev takenOf (obj : IObj) (pre : List T) : List T := (pre.filter (fun c => !differs obj c)).map (strip obj)

theorem takenOf_eq_filter {obj : IObj} {pre : List T} (h : ∀ c ∈ pre, decide1 obj c.o ≠ .contain true) :
    takenOf obj pre = pre.filter (fun c => !differs obj c) :=
  (List.map_congr_left fun c hc => if_neg (h c (List.mem_filter.mp hc).1)).trans (List.map_id _)

theorem keptOf_eq_of_taken {obj : IObj} {pre : List T} (h : takenOf obj pre = []) : keptOf obj pre = pre :=
  List.filter_eq_self.2 fun a ha => by simpa using List.filter_eq_nil_iff.mp (List.map_eq_nil_iff.mp h) a ha

def putbackAt (cur taken : List T) : Option Nat → List T
  | some i => cur.take i ++ putback (cur.drop i) taken
  | none => putback cur taken

/-- The five ways the loop over the children of CUR ends; `pre` are the children it has gone past.  Behind the last child OBJ
goes in front of the first kept child that starts above it and adopts the taken ones.  Through a child (merge, recursion) the
C code returns at once: with nothing taken, all of `pre` is still in place; with some child already below the unlinked OBJ, that
child is lost (`stuck`). -/
inductive InsCase (obj co : IObj) : List T → Res → Prop
  | inserted (pre : List T) (hp : ∀ c ∈ pre, passes obj c = true) :
      InsCase obj co pre (.inserted (.node co
        ((keptOf obj pre).takeWhile (fun c => !firstLt obj.key c.o.key) ++
         T.node { obj with mem := memAfter obj obj.mem pre } (takenOf obj pre) ::
         (keptOf obj pre).dropWhile (fun c => !firstLt obj.key c.o.key))))
  | merged (pre : List T) (ko : IObj) (kk rest : List T) (o' : IObj) (hd : decide1 obj ko = .merge o') :
      InsCase obj co (pre ++ .node ko kk :: rest) (.merged (.node co (pre ++ .node o' kk :: rest)) ko.gp)
  | recursed (pre : List T) (ko : IObj) (kk rest : List T) (hd : decide1 obj ko = .recurse) :
      InsCase obj co (pre ++ .node ko kk :: rest)
        ((ins { obj with mem := memAfter obj obj.mem pre } (.node ko kk)).wrap co pre rest)
  | failed (pre : List T) (ko : IObj) (kk rest : List T) (hp : ∀ c ∈ pre, passes obj c = true) (hd : decide1 obj ko = .fail) :
      InsCase obj co (pre ++ .node ko kk :: rest) (.failed (.node co
        (putbackAt (keptOf obj pre ++ .node ko kk :: rest) (takenOf obj pre) (firstAbove obj.key (keptOf obj pre)))))
  | stuck (pre : List T) (ko : IObj) (kk rest : List T) (hp : ∀ c ∈ pre, passes obj c = true) (ht : takenOf obj pre ≠ [])
      (hstop : (∃ o', decide1 obj ko = .merge o') ∨ decide1 obj ko = .recurse) :
      InsCase obj co (pre ++ .node ko kk :: rest) .stuck

theorem ins_case (obj co : IObj) (kids : List T) : InsCase obj co kids (ins obj (.node co kids)) := by
  have hpass : ∀ c ∈ kids.takeWhile (passes obj), passes obj c = true :=
    fun c hc => List.all_eq_true.mp List.all_takeWhile c hc
  have hstop := List.head?_dropWhile_not (passes obj) kids
  have hkids := List.takeWhile_append_dropWhile (p := passes obj) (l := kids)
  generalize kids.takeWhile (passes obj) = pre at hpass hkids
  generalize kids.dropWhile (passes obj) = suf at hstop hkids
  subst hkids
  show InsCase obj co (pre ++ suf) (insLoop { obj with mem := obj.mem } co [] [] (firstAbove obj.key []) (pre ++ suf))
  rw [insLoop_pass obj co pre suf [] [] obj.mem hpass, List.nil_append, List.nil_append]
  cases suf with
  | nil =>
    rw [List.append_nil]
    show InsCase obj co pre (.inserted (.node co (List.take _ _ ++ _ :: List.drop _ _)))
    rw [take_firstAbove, drop_firstAbove]
    exact .inserted pre hpass
  | cons c rest =>
    obtain ⟨ko, kk⟩ := c
    have hst : passes obj (.node ko kk) = false := hstop
    simp only [insLoop, decide1_mem]
    unfold passes at hst
    cases hd : decide1 obj ko with
    | differ => simp [T.o, hd] at hst
    | contain eq => simp [T.o, hd] at hst
    | fail => exact .failed pre ko kk rest hpass hd
    | merge o' =>
      by_cases ht : takenOf obj pre = []
      · simp only [ht, keptOf_eq_of_taken ht, List.isEmpty_nil, if_true]
        exact .merged pre ko kk rest o' hd
      · simp only [List.isEmpty_iff, ht, if_false]
        exact .stuck pre ko kk rest hpass ht (Or.inl ⟨o', hd⟩)
    | recurse =>
      by_cases ht : takenOf obj pre = []
      · simp only [ht, keptOf_eq_of_taken ht, List.isEmpty_nil, if_true]
        exact .recursed pre ko kk rest hd
      · simp only [List.isEmpty_iff, ht, if_false]
        exact .stuck pre ko kk rest hpass ht (Or.inr hd)

end Hw.Topo.Ins
