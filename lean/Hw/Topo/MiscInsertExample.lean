/-
  Hw.Topo.MiscInsertExample — a concrete well-formed dump (synthetic `core:2 pu:1`, Misc objects kept) for the non-vacuity
  examples of the C02 Misc-insertion theorems.
-/
import Hw.Topo.MiscInsertThm
namespace Hw.Topo.MiscIns
open Hw.Topo

/-- the dump of the synthetic topology `core:2 pu:1` loaded with the Misc filter KEEP_ALL, as printed by harness/dump.h -/
def exD : Dump :=
  { flags := 0, depth := 3, root := 0, nobjs := 6, allowedCpuset := some 0x3, allowedNodeset := some 0x1,
    filters := [0, 0, 0, 0, 0, 0, 0, 0, 0, 0, 1, 1, 1, 2, 0, 1, 1, 1, 1, 0],
    objs := [
    { id := 0, type := 0, depth := 0, lidx := 0, osidx := 0, gp := 1, parent := (-1), rank := 0, arity := 2, marity := 1, ioarity := 0, miscarity := 0,
      nextSib := (-1), prevSib := (-1), nextCousin := (-1), prevCousin := (-1), firstChild := 1, lastChild := 3, memFirst := 5, ioFirst := (-1), miscFirst := (-1), symm := 1,
      cpuset := some 0x3, ccpuset := some 0x3, nodeset := some 0x1, cnodeset := some 0x1, totalMem := 1073741824, attrs := [0, 0, 0, 0, 0, 0], children := [1, 3], subtype := none, name := none, infos := [] },
    { id := 1, type := 3, depth := 1, lidx := 0, osidx := 0, gp := 3, parent := 0, rank := 0, arity := 1, marity := 0, ioarity := 0, miscarity := 0,
      nextSib := 3, prevSib := (-1), nextCousin := 3, prevCousin := (-1), firstChild := 2, lastChild := 2, memFirst := (-1), ioFirst := (-1), miscFirst := (-1), symm := 1,
      cpuset := some 0x1, ccpuset := some 0x1, nodeset := some 0x1, cnodeset := some 0x1, totalMem := 0, attrs := [0, 0, 0, 0, 0, 0], children := [2], subtype := none, name := none, infos := [] },
    { id := 2, type := 4, depth := 2, lidx := 0, osidx := 0, gp := 2, parent := 1, rank := 0, arity := 0, marity := 0, ioarity := 0, miscarity := 0,
      nextSib := (-1), prevSib := (-1), nextCousin := 4, prevCousin := (-1), firstChild := (-1), lastChild := (-1), memFirst := (-1), ioFirst := (-1), miscFirst := (-1), symm := 1,
      cpuset := some 0x1, ccpuset := some 0x1, nodeset := some 0x1, cnodeset := some 0x1, totalMem := 0, attrs := [0, 0, 0, 0, 0, 0], children := [], subtype := none, name := none, infos := [] },
    { id := 3, type := 3, depth := 1, lidx := 1, osidx := 1, gp := 5, parent := 0, rank := 1, arity := 1, marity := 0, ioarity := 0, miscarity := 0,
      nextSib := (-1), prevSib := 1, nextCousin := (-1), prevCousin := 1, firstChild := 4, lastChild := 4, memFirst := (-1), ioFirst := (-1), miscFirst := (-1), symm := 1,
      cpuset := some 0x2, ccpuset := some 0x2, nodeset := some 0x1, cnodeset := some 0x1, totalMem := 0, attrs := [0, 0, 0, 0, 0, 0], children := [4], subtype := none, name := none, infos := [] },
    { id := 4, type := 4, depth := 2, lidx := 1, osidx := 1, gp := 4, parent := 3, rank := 0, arity := 0, marity := 0, ioarity := 0, miscarity := 0,
      nextSib := (-1), prevSib := (-1), nextCousin := (-1), prevCousin := 2, firstChild := (-1), lastChild := (-1), memFirst := (-1), ioFirst := (-1), miscFirst := (-1), symm := 1,
      cpuset := some 0x2, ccpuset := some 0x2, nodeset := some 0x1, cnodeset := some 0x1, totalMem := 0, attrs := [0, 0, 0, 0, 0, 0], children := [], subtype := none, name := none, infos := [] },
    { id := 5, type := 14, depth := (-3), lidx := 0, osidx := 0, gp := 6, parent := 0, rank := 0, arity := 0, marity := 0, ioarity := 0, miscarity := 0,
      nextSib := (-1), prevSib := (-1), nextCousin := (-1), prevCousin := (-1), firstChild := (-1), lastChild := (-1), memFirst := (-1), ioFirst := (-1), miscFirst := (-1), symm := 0,
      cpuset := some 0x3, ccpuset := some 0x3, nodeset := some 0x1, cnodeset := some 0x1, totalMem := 1073741824, attrs := [1073741824, 1, 0, 0, 0, 0], children := [], subtype := none, name := none, infos := [] }],
    levels := [⟨0, 0, [0]⟩, ⟨1, 3, [1, 3]⟩, ⟨2, 4, [2, 4]⟩, ⟨(-3), 14, [5]⟩, ⟨(-4), 16, []⟩, ⟨(-5), 17, []⟩, ⟨(-6), 18, []⟩, ⟨(-7), 19, []⟩, ⟨(-8), 15, []⟩],
    typeDepths := [0, (-1), (-1), 1, 2, (-1), (-1), (-1), (-1), (-1), (-1), (-1), (-1), (-1), (-3), (-8), (-4), (-5), (-6), (-7)] }

theorem exD_wf : WF exD := by decide +kernel

/-- the same topology with Misc objects filtered out (KEEP_NONE) -/
def exDnone : Dump := { exD with filters := [0, 0, 0, 0, 0, 0, 0, 0, 0, 0, 1, 1, 1, 2, 0, 1, 1, 1, 1, 1] }

end Hw.Topo.MiscIns
