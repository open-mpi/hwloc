/-
  Hw.Topo.MiscInsertBase — basic facts about the dump-level model of hwloc_topology_insert_misc_object
  (Hw.Topo.MiscInsert): the id renaming, the position of every object after the call, lookups in the new dump.
-/
import Hw.Topo.MiscInsert
import Hw.Topo.HistoryLemmas
import Hw.Topo.WFTree
namespace Hw.Topo.MiscIns
open Hw.Topo Hw.Topo.Hist

/-! ### the renaming -/

theorem shI_neg (pos : Nat) (i : Int) (h : i < 0) : shI pos i = i := by
  unfold shI; split <;> omega
theorem shI_m1 (pos : Nat) : shI pos (-1) = -1 := shI_neg pos _ (by omega)
theorem shI_m2 (pos : Nat) : shI pos (-2) = -2 := shI_neg pos _ (by omega)
theorem shI_nat (pos i : Nat) : shI pos (i : Int) = (shN pos i : Int) := by
  unfold shI shN; split <;> split <;> omega
theorem shI_inj (pos : Nat) (a b : Int) (h : shI pos a = shI pos b) : a = b := by
  unfold shI at h; split at h <;> split at h <;> omega
theorem shI_ne_pos (pos : Nat) (a : Int) : shI pos a ≠ (pos : Int) := by
  unfold shI; split <;> omega
theorem shN_ne_pos (pos a : Nat) : shN pos a ≠ pos := by
  unfold shN; split <;> omega
theorem shN_inj (pos a b : Nat) (h : shN pos a = shN pos b) : a = b := by
  unfold shN at h; split at h <;> split at h <;> omega
theorem shI_lt (pos : Nat) (a b : Int) : shI pos a < shI pos b ↔ a < b := by
  unfold shI; split <;> split <;> omega
theorem shI_nonneg (pos : Nat) (a : Int) : 0 ≤ shI pos a ↔ 0 ≤ a := by
  unfold shI; split <;> omega
theorem shI_eq_m1 (pos : Nat) (a : Int) : shI pos a = -1 ↔ a = -1 := by
  unfold shI; split <;> omega
theorem shN_of_lt (pos a : Nat) (h : a < pos) : shN pos a = a := by
  unfold shN; split <;> omega
theorem shN_cases (pos i : Nat) : i = pos ∨ ∃ j, i = shN pos j := by
  rcases Nat.lt_trichotomy i pos with h | h | h
  · exact .inr ⟨i, (shN_of_lt pos i h).symm⟩
  · exact .inl h
  · exact .inr ⟨i - 1, by rw [shN, if_pos (Nat.le_sub_one_of_lt h), Nat.sub_add_cancel (Nat.one_le_of_lt h)]⟩
theorem shN_succ_succ (k i : Nat) : shN (k + 1) (i + 1) = shN k i + 1 := by
  unfold shN
  by_cases c : k ≤ i
  · rw [if_pos c, if_pos (Nat.succ_le_succ c)]
  · rw [if_neg c, if_neg fun c' => c (Nat.le_of_succ_le_succ c')]
theorem shN_succ (k i : Nat) (h : i ≠ k) : shN (k + 1) i = shN k i := by
  unfold shN
  by_cases c : k ≤ i
  · rw [if_pos c, if_pos (show k + 1 ≤ i from Nat.lt_of_le_of_ne c (Ne.symm h))]
  · rw [if_neg c, if_neg fun c' => c (Nat.le_of_succ_le c')]
theorem shI_of_lt (pos : Nat) (a : Int) (h : a < (pos : Int)) : shI pos a = a := by
  unfold shI; split <;> omega
theorem shI_toNat (pos : Nat) (a : Int) (h : 0 ≤ a) : (shI pos a).toNat = shN pos a.toNat := by
  unfold shI shN; split <;> split <;> omega
theorem shI_getD (pos : Nat) (x : Option Int) (dflt : Int) (hd : dflt < 0) :
    shI pos (x.getD dflt) = (x.map (shI pos)).getD dflt := by
  cases x with
  | none => exact shI_neg pos dflt hd
  | some v => rfl

/-! ### the six fields of an old object that change beyond the renaming, their conditions as propositions -/

theorem updMiscarity_eq (p : Nat) (o : Obj) : updMiscarity p o = if o.id = p then o.miscarity + 1 else o.miscarity := by
  simp only [updMiscarity, beq_iff_eq]
theorem updMiscFirst_eq (p pos : Nat) (o : Obj) :
    updMiscFirst p pos o = if o.id = p ∧ o.miscarity = 0 then (pos : Int) else shI pos o.miscFirst := by
  simp only [updMiscFirst, Bool.and_eq_true, beq_iff_eq]
theorem updNextSib_eq (last : Int) (pos : Nat) (o : Obj) :
    updNextSib last pos o = if (o.id : Int) = last then (pos : Int) else shI pos o.nextSib := by
  simp only [updNextSib, beq_iff_eq]
theorem updLidx_eq (k : Nat) (o : Obj) : updLidx k o = if o.type = tMISC ∧ k ≤ o.lidx then o.lidx + 1 else o.lidx := by
  simp only [updLidx, Bool.and_eq_true, beq_iff_eq, decide_eq_true_eq]
theorem updPrevCousin_eq (pos k : Nat) (o : Obj) :
    updPrevCousin pos k o = if o.type = tMISC ∧ o.lidx = k then (pos : Int) else shI pos o.prevCousin := by
  simp only [updPrevCousin, Bool.and_eq_true, beq_iff_eq]
theorem updNextCousin_eq (pos k : Nat) (o : Obj) :
    updNextCousin pos k o = if o.type = tMISC ∧ o.lidx + 1 = k then (pos : Int) else shI pos o.nextCousin := by
  simp only [updNextCousin, Bool.and_eq_true, beq_iff_eq]

/-! ### insertion into a list -/

theorem insAt_length {α : Type} (l : List α) (pos : Nat) (x : α) : (insAt l pos x).length = l.length + 1 :=
  match pos, l with
  | 0, _ | _ + 1, [] => rfl
  | pos + 1, _ :: l => congrArg (· + 1) (insAt_length l pos x)

-- `insAt` and `shN` along the list: `insAt (a :: l) (pos + 1) x = a :: insAt l pos x` and `shN_succ_succ`
theorem insAt_get_sh {α : Type} (l : List α) (pos : Nat) (x : α) (hp : pos ≤ l.length) (i : Nat) :
    (insAt l pos x)[shN pos i]? = l[i]? :=
  match pos, l, i, hp with
  | 0, _, _, _ => rfl
  | _ + 1, _ :: _, 0, _ => rfl
  | pos + 1, _ :: l, i + 1, hp => by
    rw [shN_succ_succ]; exact insAt_get_sh l pos x (Nat.le_of_succ_le_succ hp) i

theorem insAt_get_pos {α : Type} (l : List α) (pos : Nat) (x : α) (hp : pos ≤ l.length) :
    (insAt l pos x)[pos]? = some x :=
  match pos, l, hp with
  | 0, _, _ => rfl
  | pos + 1, _ :: l, hp => insAt_get_pos l pos x (Nat.le_of_succ_le_succ hp)

theorem insAt_perm {α : Type} (l : List α) (pos : Nat) (x : α) : (insAt l pos x).Perm (x :: l) := by
  unfold insAt
  have h1 : (l.take pos ++ x :: l.drop pos).Perm (x :: (l.take pos ++ l.drop pos)) := List.perm_middle
  rw [List.take_append_drop] at h1
  exact h1

theorem mem_insAt {α : Type} (l : List α) (pos : Nat) (x y : α) : y ∈ insAt l pos x ↔ y = x ∨ y ∈ l :=
  (insAt_perm l pos x).mem_iff.trans List.mem_cons

theorem insAt_map {α β : Type} (f : α → β) (l : List α) (pos : Nat) (x : α) :
    (insAt l pos x).map f = insAt (l.map f) pos (f x) := by
  unfold insAt
  simp only [List.map_append, List.map_cons, List.map_take, List.map_drop]

theorem insAt_filter_neg {α : Type} (q : α → Bool) (l : List α) (pos : Nat) (x : α) (hx : q x = false) :
    (insAt l pos x).filter q = l.filter q := by
  unfold insAt
  rw [List.filter_append, List.filter_cons, hx]
  simp only [Bool.false_eq_true, if_false]
  rw [← List.filter_append, List.take_append_drop]

/-! ### neighbours in a level or children array -/

theorem map_sh_getD (pos : Nat) (l : List Int) (i : Nat) (dflt : Int) (hd : dflt < 0) :
    ((l.map (shI pos))[i]?).getD dflt = shI pos ((l[i]?).getD dflt) := by
  rw [List.getElem?_map, shI_getD pos _ _ hd]

/-- the entries before and after position `i`, as in-its-level and children-array spell the cousin and sibling links -/
def prevAt (l : List Int) (i : Nat) : Int := if i = 0 then -1 else (l[i - 1]?).getD (-2)
def nextAt (l : List Int) (i : Nat) : Int := (l[i + 1]?).getD (-1)

theorem prevAt_map (pos : Nat) (l : List Int) (i : Nat) : prevAt (l.map (shI pos)) i = shI pos (prevAt l i) := by
  unfold prevAt; split
  · exact (shI_m1 pos).symm
  · exact map_sh_getD pos _ _ _ (by omega)

theorem nextAt_map (pos : Nat) (l : List Int) (i : Nat) : nextAt (l.map (shI pos)) i = shI pos (nextAt l i) :=
  map_sh_getD pos _ _ _ (by omega)

theorem prevAt_eq_cons (l : List Int) (i : Nat) : prevAt l i = ((-1 :: l)[i]?).getD (-2) := by
  cases i <;> rfl

theorem prevAt_insAt (k : Nat) (x : Int) (l : List Int) (hk : k ≤ l.length) (i : Nat) :
    prevAt (insAt l k x) (shN k i) = if i = k then x else prevAt l i := by
  -- the entry before `i` in `l` is entry `i` of `-1 :: l`, and inserting at `k` in `l` is inserting at `k + 1` there
  rw [prevAt_eq_cons, prevAt_eq_cons, show -1 :: insAt l k x = insAt (-1 :: l) (k + 1) x from rfl]
  by_cases c : i = k
  · rw [if_pos c, c, shN, if_pos (Nat.le_refl k), insAt_get_pos _ _ _ (Nat.succ_le_succ hk)]; rfl
  · rw [if_neg c, ← shN_succ k i c, insAt_get_sh _ _ _ (Nat.succ_le_succ hk)]

theorem nextAt_insAt (k : Nat) (x : Int) (l : List Int) (hk : k ≤ l.length) (i : Nat) :
    nextAt (insAt l k x) (shN k i) = if i + 1 = k then x else nextAt l i := by
  unfold nextAt
  by_cases c : i + 1 = k
  · rw [if_pos c, ← c, shN, if_neg (Nat.not_succ_le_self i), insAt_get_pos _ _ _ (c ▸ hk)]; rfl
  · rw [if_neg c, ← shN_succ_succ, shN_succ k _ c, insAt_get_sh _ _ _ hk]

/-! ### the position of the insertion -/

theorem subEnd_le (d : Dump) (p : Nat) : subEnd d p ≤ d.objs.length := by
  unfold subEnd
  cases hf : (List.range d.objs.length).find? _ with
  | none => exact Nat.le_refl _
  | some j =>
    have := List.mem_of_find?_eq_some hf
    rw [List.mem_range] at this
    exact Nat.le_of_lt this

theorem subEnd_gt (d : Dump) (p : Nat) (hp : p < d.objs.length) : p < subEnd d p := by
  unfold subEnd
  cases hf : (List.range d.objs.length).find? _ with
  | none => exact hp
  | some j =>
    have := List.find?_some hf
    simp only [Bool.and_eq_true, decide_eq_true_eq] at this
    exact this.1

/-! ### the new dump -/

/-! `DN`, `NEW` and `U o` stand for the dump after the call, the new object and the old object `o` as the call leaves it, for
the `d p pos k name skip` in scope at the place of use. -/
section
set_option hygiene false
scoped notation "DN" => after d p pos k name skip
scoped notation "NEW" => newObj d p pos k name skip
scoped notation "U" => upd p pos k (lastId d p)
end

section
variable (d : Dump) (p pos k : Nat) (name : Option String) (skip : Nat)

theorem after_length : (DN).objs.length = d.objs.length + 1 := by
  simp only [after, insObjs, insAt_length, List.length_map]

theorem after_get_sh (hpos : pos ≤ d.objs.length) (i : Nat) :
    (DN).objs[shN pos i]? = (d.objs[i]?).map U := by
  simp only [after, insObjs]
  rw [insAt_get_sh _ _ _ (by simpa using hpos), List.getElem?_map]

theorem after_get_pos (hpos : pos ≤ d.objs.length) :
    (DN).objs[pos]? = some NEW := by
  simp only [after, insObjs]
  exact insAt_get_pos _ _ _ (by simpa using hpos)

theorem after_obj?_sh (hpos : pos ≤ d.objs.length) (i : Int) :
    (DN).obj? (shI pos i) = (d.obj? i).map U := by
  unfold Dump.obj?
  by_cases hi : i < 0
  · rw [shI_neg pos i hi]; simp only [hi, if_true]; rfl
  · have h2 : ¬ (shI pos i < 0) := by have := shI_nonneg pos i; omega
    simp only [hi, h2, if_false]
    rw [shI_toNat pos i (by omega)]
    exact after_get_sh d p pos k name skip hpos _

/-- following a link after the call: the renamed link leads to the old target as the call leaves it -/
theorem lookup_after (hpos : pos ≤ d.objs.length) (i : Int) {n n' : Bool} {s s' : Obj → Bool}
    (hn : n = true → n' = true) (hs : ∀ q, d.obj? i = some q → s q = true → s' (U q) = true)
    (hold : (match d.obj? i with | none => n | some q => s q) = true) :
    (match (DN).obj? (shI pos i) with | none => n' | some q => s' q) = true := by
  rw [after_obj?_sh d p pos k name skip hpos]
  cases hq : d.obj? i with
  | none => rw [hq] at hold; exact hn hold
  | some q => rw [hq] at hold; exact hs q hq hold

theorem after_obj?_pos (hpos : pos ≤ d.objs.length) :
    (DN).obj? (pos : Int) = some NEW := by
  rw [Dump.obj?_natCast]
  exact after_get_pos d p pos k name skip hpos

theorem new_rank {q : Obj} (hq : d.obj? (p : Int) = some q) : (NEW).rank = q.miscarity := by
  show ((d.objs[p]?).map (·.miscarity)).getD 0 = _
  rw [← Dump.obj?_natCast, hq]; rfl

theorem mem_after (o' : Obj) :
    o' ∈ (after d p pos k name skip).objs ↔ o' = newObj d p pos k name skip ∨ ∃ o ∈ d.objs, o' = upd p pos k (lastId d p) o := by
  simp only [after, insObjs]
  rw [mem_insAt, List.mem_map]
  constructor
  · rintro (h | ⟨o, ho, rfl⟩)
    · exact Or.inl h
    · exact Or.inr ⟨o, ho, rfl⟩
  · rintro (h | ⟨o, ho, rfl⟩)
    · exact Or.inl h
    · exact Or.inr ⟨o, ho, rfl⟩

theorem forall_after {P : Obj → Prop} (hN : P NEW) (hU : ∀ o ∈ d.objs, P (U o)) :
    ∀ o' ∈ (DN).objs, P o' := by
  intro o' ho'
  rcases (mem_after d p pos k name skip o').1 ho' with rfl | ⟨o, ho, rfl⟩
  · exact hN
  · exact hU o ho

theorem after_obj?_lt (hpos : pos ≤ d.objs.length) (i : Nat) (hi : i < pos) :
    (DN).obj? (i : Int) = (d.obj? (i : Int)).map U := by
  have e : (i : Int) = shI pos (i : Int) := (shI_of_lt pos _ (by omega)).symm
  rw [e, after_obj?_sh d p pos k name skip hpos, ← e]

end

/-! ### consequences of well-formedness used throughout (see also `WF.id_eq_pos`, `WF.obj?_id`, `WF.id_lt` in WFTree) -/

theorem WF.get_id {d : Dump} (h : WF d) {o : Obj} (ho : o ∈ d.objs) : d.objs[o.id]? = some o :=
  Dump.obj?_natCast d o.id ▸ h.obj?_id ho

end Hw.Topo.MiscIns
