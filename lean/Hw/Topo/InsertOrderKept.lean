/-
  Hw.Topo.InsertOrderKept — an insertion (or merge) keeps the children lists ordered.

  On an ordered tree without offline / disallowed bits (laminar or not), inserting an object whose complete cpuset equals its cpuset
  yields an ordered tree again: the new object lands between the siblings that start below it and those that start above it,
  the children it adopts keep their order, and so on recursively.
-/
import Hw.Topo.InsertOrder
namespace Hw.Topo.Ins

theorem Ord.sublist {o o' : IObj} {l l' : List T} (h : Ord (.node o l)) (hs : l'.Sublist l) : Ord (.node o' l') :=
  .mk (h.pw.sublist hs) (fun c hc => h.keq c (hs.subset hc)) fun c hc => h.kids c (hs.subset hc)

theorem Ord.congr_obj {o o' : IObj} {kids : List T} (h : Ord (.node o kids)) : Ord (.node o' kids) := h.sublist (.refl _)

theorem Ord.congr_kids {co : IObj} {l l' : List T} (h : Ord (.node co l)) (hk : l'.map (·.o.key) = l.map (·.o.key))
    (hck : l'.map (·.o.ckey) = l.map (·.o.ckey)) (hl : ∀ c ∈ l', Ord c) : Ord (.node co l') := by
  refine .mk ?_ (List.map_inj_left.mp (hk.trans ((List.map_inj_left.mpr h.keq).trans hck.symm))) hl
  have hp : (l.map (fun c : T => c.o.ckey)).Pairwise (firstLt · · = true) := List.pairwise_map.mpr h.pw
  rw [← hck] at hp
  exact (List.pairwise_map (f := fun c : T => c.o.ckey) (R := (firstLt · · = true))).mp hp

theorem firstLt_key_of {k0 : Nat} {x : T} (hf : firstLt k0 x.o.key = true) (hx : x.o.key = x.o.ckey) (c0 : Nat) (hc : c0 = k0) :
    firstLt c0 x.o.ckey = true := by rw [hc, ← hx]; exact hf

def GoodO (orig : T) : Res → Prop
  | .stuck => True
  | .inserted t' => Ord t' ∧ t'.o.ckey = orig.o.ckey ∧ t'.o.key = orig.o.key
  | .merged t' _ => Ord t' ∧ t'.o.ckey = orig.o.ckey ∧ t'.o.key = orig.o.key
  | .failed _ => True

theorem GoodO.wrap {co : IObj} {before rest : List T} {c : T} {r : Res}
    (h : GoodO c r) (hO : Ord (.node co (before ++ c :: rest))) :
    GoodO (.node co (before ++ c :: rest)) (r.wrap co before rest) := by
  have key : ∀ c' : T, Ord c' → c'.o.ckey = c.o.ckey → c'.o.key = c.o.key → Ord (.node co (before ++ c' :: rest)) := by
    intro c' ho' hck hk
    refine hO.congr_kids (by simp [hk]) (by simp [hck]) ?_
    simp only [List.forall_mem_append, List.forall_mem_cons]
    exact ⟨fun x hx => hO.kids x (by simp [hx]), ho', fun x hx => hO.kids x (by simp [hx])⟩
  cases r with
  | stuck => trivial
  | failed c' => trivial
  | inserted c' => exact ⟨key c' h.1 h.2.1 h.2.2, rfl, rfl⟩
  | merged c' m => exact ⟨key c' h.1 h.2.1 h.2.2, rfl, rfl⟩


theorem forall_mem_insert {P : T → Prop} {l : List T} {x : T} (p : T → Bool) (hx : P x) (hl : ∀ c ∈ l, P c) :
    ∀ c ∈ l.takeWhile p ++ x :: l.dropWhile p, P c :=
  fun c hc => List.forall_mem_cons.2 ⟨hx, hl⟩ c ((Hw.InsertSort.split_perm p x l).mem_iff.1 hc)

theorem strip_ckey (obj : IObj) (c : T) : (strip obj c).o.ckey = c.o.ckey := by
  obtain ⟨o', e, _, h, _⟩ := strip_eq obj c; rw [e]; exact h

theorem Ord.strip {obj : IObj} {c : T} (h : Ord c) : Ord (strip obj c) := by
  obtain ⟨o', e, _⟩ := strip_eq obj c; rw [e]; obtain ⟨o, k⟩ := c; exact h.congr_obj

theorem ins_ord (t : T) (obj : IObj) (hO : Ord t) (hkc : obj.key = obj.ckey) (hne : obj.key ≠ 0) : GoodO t (ins obj t) := by
  induction t using T.ind generalizing obj with
  | h co kids IH =>
    have hcase := ins_case obj co kids
    generalize ins obj (.node co kids) = r at hcase
    cases hcase with
    | stuck => trivial
    | failed => trivial
    | merged pre ko kk rest o' hd =>
      have hm := decide1_merge hd
      exact GoodO.wrap (c := T.node ko kk) (r := .merged (T.node o' kk) ko.gp)
        ⟨(hO.kids (T.node ko kk) (by simp)).congr_obj, hm.2.2.2.2.2, hm.2.2.2.1⟩ hO
    | recursed pre ko kk rest hd =>
      exact GoodO.wrap (IH _ (by simp) _ (hO.kids _ (by simp)) hkc hne) hO
    | inserted _ hp =>
      -- the kept children and, up to their memory children, the taken ones are sublists of the ordered list
      have hK : Ord (.node co (keptOf obj kids)) := hO.sublist List.filter_sublist
      have hnew : Ord (T.node { obj with mem := memAfter obj obj.mem kids } (takenOf obj kids)) :=
        (hO.sublist (l' := kids.filter (fun c => !differs obj c)) List.filter_sublist).congr_kids
          (by simp [Function.comp_def, strip_key]) (by simp [Function.comp_def, strip_ckey]) fun d hd => by
          obtain ⟨c, hc, rfl⟩ := List.mem_map.mp hd
          exact (hO.kids c (List.mem_filter.mp hc).1).strip
      refine ⟨.mk ?_ (forall_mem_insert _ hkc hK.keq) (forall_mem_insert _ hnew hK.kids), rfl, rfl⟩
      refine Hw.InsertSort.split_pairwise (R := lt) _ _ (fun _ _ _ => lt_trans) _ hK.pw (fun a ha hp => ?_) fun b hb hp => ?_
      · show firstLt a.o.ckey obj.ckey = true
        rw [← hkc]
        exact lt_obj_of_before hne (by simpa using hp) (differs_dj (List.mem_filter.mp ha).2) (hK.keq a ha)
      · show firstLt obj.ckey b.o.ckey = true
        rw [← hkc, ← hK.keq b hb]
        simpa using hp

end Hw.Topo.Ins
