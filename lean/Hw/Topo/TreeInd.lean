/-
  Hw.Topo.TreeInd — induction over the four-list object tree of Hw.Topo.Restrict: over trees and children lists at once
  (`tree_ind4`, and `tree_ind` for recursions that descend through normal and memory children only), and over trees alone with
  the hypothesis stated for the members of the children lists (`Tree.ind4`, `Tree.indNM`).
-/
import Hw.Topo.Restrict
namespace Hw.Topo.Restrict
open Hw.Topo

mutual
theorem tree_ind4T {P : Tree → Prop} {Q : List Tree → Prop}
    (hnode : ∀ o ns ms ios mis, Q ns → Q ms → Q ios → Q mis → P (.node o ns ms ios mis))
    (hnil : Q []) (hcons : ∀ t ts, P t → Q ts → Q (t :: ts)) : ∀ t, P t
  | .node o ns ms ios mis => hnode o ns ms ios mis (tree_ind4L hnode hnil hcons ns) (tree_ind4L hnode hnil hcons ms)
      (tree_ind4L hnode hnil hcons ios) (tree_ind4L hnode hnil hcons mis)
theorem tree_ind4L {P : Tree → Prop} {Q : List Tree → Prop}
    (hnode : ∀ o ns ms ios mis, Q ns → Q ms → Q ios → Q mis → P (.node o ns ms ios mis))
    (hnil : Q []) (hcons : ∀ t ts, P t → Q ts → Q (t :: ts)) : ∀ l, Q l
  | [] => hnil
  | t :: ts => hcons t ts (tree_ind4T hnode hnil hcons t) (tree_ind4L hnode hnil hcons ts)
end

/-- both at once, so that `apply tree_ind4` reads the two motives off a goal `(∀ t, _) ∧ (∀ l, _)` -/
theorem tree_ind4 {P : Tree → Prop} {Q : List Tree → Prop}
    (hnode : ∀ o ns ms ios mis, Q ns → Q ms → Q ios → Q mis → P (.node o ns ms ios mis))
    (hnil : Q []) (hcons : ∀ t ts, P t → Q ts → Q (t :: ts)) : (∀ t, P t) ∧ (∀ l, Q l) :=
  ⟨tree_ind4T hnode hnil hcons, tree_ind4L hnode hnil hcons⟩

/-- induction for a statement about trees alone: the hypothesis is stated for the members of the children lists, so nothing
has to be said about lists.  (`tree_ind4` / `tree_ind` are for when the list statement is wanted for its own sake or threads
a state along the siblings.) -/
theorem Tree.ind4 {P : Tree → Prop}
    (h : ∀ o ns ms ios mis, (∀ c ∈ ns, P c) → (∀ c ∈ ms, P c) → (∀ c ∈ ios, P c) → (∀ c ∈ mis, P c) → P (.node o ns ms ios mis)) :
    ∀ t, P t :=
  tree_ind4T (Q := fun l => ∀ c ∈ l, P c) h (fun _ hc => nomatch hc)
    (fun _ _ ht hts c hc => (List.mem_cons.1 hc).elim (fun e => e ▸ ht) (hts c))

theorem Tree.indNM {P : Tree → Prop}
    (h : ∀ o ns ms ios mis, (∀ c ∈ ns, P c) → (∀ m ∈ ms, P m) → P (.node o ns ms ios mis)) : ∀ t, P t :=
  Tree.ind4 fun o ns ms ios mis hn hm _ _ => h o ns ms ios mis hn hm

/-- the recursions of restrict and level merging descend through the normal and memory children only -/
theorem tree_ind {P : Tree → Prop} {Q : List Tree → Prop}
    (hnode : ∀ o ns ms ios mis, Q ns → Q ms → P (.node o ns ms ios mis))
    (hnil : Q []) (hcons : ∀ t ts, P t → Q ts → Q (t :: ts)) : (∀ t, P t) ∧ (∀ l, Q l) :=
  tree_ind4 (fun o ns ms ios mis hn hm _ _ => hnode o ns ms ios mis hn hm) hnil hcons

end Hw.Topo.Restrict
