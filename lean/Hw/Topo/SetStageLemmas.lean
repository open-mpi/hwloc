/-
  Hw.Topo.SetStageLemmas — what the set pipeline establishes at every node of its output: every set inside its complete
  counterpart, every set inside the parent's, memory children carrying the parent's cpusets, siblings staying disjoint.
-/
import Hw.Topo.SetStageBasic
namespace Hw.Topo.SetStage
open Hw.Topo

/-! ### OR folds -/

@[simp] theorem orL_nil : orL [] = 0 := rfl
@[simp] theorem orL_cons (a : Nat) (l : List Nat) : orL (a :: l) = a ||| orL l := rfl

theorem foldl_or_eq {α : Type} (f : α → Nat) (l : List α) : ∀ acc, l.foldl (fun a c => a ||| f c) acc = acc ||| orL (l.map f) := by
  induction l with
  | nil => intro acc; exact (Nat.or_zero acc).symm
  | cons c cs ih => intro acc; rw [List.foldl_cons, ih, List.map_cons, orL_cons, Nat.or_assoc]

theorem orNs_eq (acc : Nat) (l : List ST) : orNs acc l = acc ||| orL (l.map (·.o.nodeset)) := foldl_or_eq _ l acc

theorem orCns_eq (acc : Nat) (l : List ST) : orCns acc l = acc ||| orL (l.map fun c => c.o.cnodeset.getD 0) := foldl_or_eq _ l acc

theorem below_node (o : SObj) (kids mem : List ST) : below (.node o kids mem) = orL (mem.map (·.o.nodeset)) ||| orL (kids.map below) := by
  rw [below, orNs_eq, belowL_eq]; simp [orL]

theorem testBit_orL (l : List Nat) (i : Nat) : (orL l).testBit i = l.any (·.testBit i) :=
  (Bits.testBit_foldr_or id l 0 i).trans (by rw [Nat.zero_testBit, Bool.false_or]; rfl)

theorem sub_orL {l : List Nat} {x : Nat} (h : x ∈ l) : Sub x (orL l) :=
  sub_iff.2 fun i hi => by rw [testBit_orL]; exact List.any_eq_true.2 ⟨x, h, hi⟩

theorem orL_sub {l : List Nat} {b : Nat} (h : ∀ x ∈ l, Sub x b) : Sub (orL l) b :=
  sub_iff.2 fun i hi => by
    rw [testBit_orL] at hi
    obtain ⟨x, hx, hxi⟩ := List.any_eq_true.1 hi
    exact sub_iff.1 (h x hx) i hxi

theorem orL_mono {α : Type} {f g : α → Nat} {l : List α} (h : ∀ x ∈ l, Sub (f x) (g x)) : Sub (orL (l.map f)) (orL (l.map g)) :=
  orL_sub fun y hy => by
    obtain ⟨x, hx, rfl⟩ := List.mem_map.1 hy
    exact (h x hx).trans (sub_orL (List.mem_map_of_mem hx))

theorem orL_absorb (a : Nat) (l : List Nat) : a ||| orL (l.map (fun x => a ||| x)) = a ||| orL l :=
  Nat.eq_of_testBit_eq fun i => by
    rw [Nat.testBit_or, Nat.testBit_or, testBit_orL, testBit_orL, List.any_map]
    cases h : a.testBit i
    · have e : ((·.testBit i) ∘ fun x => a ||| x) = (·.testBit i) := funext fun x => by
        show (a ||| x).testBit i = _
        rw [Nat.testBit_or, h, Bool.false_or]
      rw [e]
    · rfl

theorem orL_perm {l₁ l₂ : List Nat} (p : l₁.Perm l₂) : orL l₁ = orL l₂ :=
  Nat.eq_of_testBit_eq fun i => by rw [testBit_orL, testBit_orL, p.any_eq]

theorem orL_map_shrink {φ : Nat → Nat} (h : Shrink φ) (l : List Nat) : orL (l.map φ) = φ (orL l) := by
  induction l with
  | nil => simp [h.zero]
  | cons a r ih => simp [ih, h.or]

/-! ### `propagate_nodeset` -/

theorem propagate_node (inh : Nat) (o : SObj) (kids mem : List ST) :
    propagate inh (.node o kids mem) =
      .node { o with nodeset := orNs (orNs inh mem) (kids.map (propagate (orNs inh mem))),
                     cnodeset := some (orCns (orCns (match o.cnodeset with | none => inh | some c => c ||| inh) mem)
                                         (kids.map (propagate (orNs inh mem)))) }
        (kids.map (propagate (orNs inh mem))) mem := by
  rw [propagate, propagateL_eq]
  rfl

theorem propagate_nodeset : ∀ (t : ST) (inh : Nat), (propagate inh t).o.nodeset = inh ||| below t := by
  apply ST.ind
  intro o kids mem ihk _ inh
  rw [propagate_node]
  simp only [ST.o]
  rw [orNs_eq, List.map_map, below_node]
  have : (kids.map ((fun x => x.o.nodeset) ∘ propagate (orNs inh mem))) = (kids.map below).map (fun x => orNs inh mem ||| x) := by
    rw [List.map_map]
    apply List.map_congr_left
    intro k hk
    simp only [Function.comp]
    exact ihk k hk _
  rw [this, orL_absorb, orNs_eq, Nat.or_assoc]

theorem propagate_fields (inh : Nat) (t : ST) :
    (propagate inh t).o.gp = t.o.gp ∧ (propagate inh t).o.type = t.o.type ∧ (propagate inh t).o.os = t.o.os ∧
    (propagate inh t).o.cpuset = t.o.cpuset ∧ (propagate inh t).o.ccpuset = t.o.ccpuset := by
  cases t with
  | node o kids mem => rw [propagate_node]; simp [ST.o]

/-- every memory object has a complete_nodeset that contains its nodeset (what `hwloc__attach_memory_object` checks) -/
def MemOK (mem : List ST) : Prop := ∀ m ∈ mem, ∃ x, m.o.cnodeset = some x ∧ Sub m.o.nodeset x

theorem propagate_cnodeset : ∀ (t : ST), AllN (fun _ _ mem => MemOK mem) t → ∀ inh : Nat,
    ∃ cn, (propagate inh t).o.cnodeset = some cn ∧ Sub (propagate inh t).o.nodeset cn := by
  apply ST.ind
  intro o kids mem ihk _ hpre inh
  rw [propagate_node]
  refine ⟨_, rfl, ?_⟩
  simp only [ST.o]
  -- both sets are the same fold, over `nodeset` and over `complete_nodeset`: compare them term by term
  rw [orNs_eq, orNs_eq, orCns_eq, orCns_eq]
  refine Sub.or_mono (Sub.or_mono ?_ (orL_mono ?_)) (orL_mono ?_)
  · cases o.cnodeset with
    | none => exact Sub.refl _
    | some c => exact Sub.or_right' _ (Sub.refl _)
  · intro m hm
    obtain ⟨c, hc, hs⟩ := hpre.here m hm
    rw [hc]; exact hs
  · intro k' hk'
    obtain ⟨k, hk, rfl⟩ := List.mem_map.1 hk'
    obtain ⟨cn, hcn, hs⟩ := ihk k hk (hpre.kids k hk) _
    rw [hcn]; exact hs

/-! ### object maps -/

mutual
def mapObjs (g : SObj → SObj) : ST → ST
  | .node o kids mem => .node (g o) (mapObjsL g kids) (mapObjsL g mem)
def mapObjsL (g : SObj → SObj) : List ST → List ST
  | [] => []
  | c :: cs => mapObjs g c :: mapObjsL g cs
end

theorem mapObjsL_eq (g : SObj → SObj) (l : List ST) : mapObjsL g l = l.map (mapObjs g) := by
  induction l with
  | nil => rfl
  | cons c cs ih => simp [mapObjsL, ih]

theorem mapObjs_node (g : SObj → SObj) (o : SObj) (kids mem : List ST) :
    mapObjs g (.node o kids mem) = .node (g o) (kids.map (mapObjs g)) (mem.map (mapObjs g)) := by
  rw [mapObjs, mapObjsL_eq, mapObjsL_eq]

theorem mapObjs_o (g : SObj → SObj) (t : ST) : (mapObjs g t).o = g t.o := by
  cases t; rw [mapObjs_node]; rfl

theorem mapObjs_id : ∀ t : ST, mapObjs (fun o => o) t = t := by
  apply ST.ind
  intro o kids mem ihk ihm
  rw [mapObjs_node]
  congr 1
  · conv => rhs; rw [← List.map_id kids]
    exact List.map_congr_left ihk
  · conv => rhs; rw [← List.map_id mem]
    exact List.map_congr_left ihm

def shrinkObj (φ ψ : Nat → Nat) (o : SObj) : SObj := { o with cpuset := φ o.cpuset, nodeset := ψ o.nodeset }

theorem removeUnused_eq (ac an : Nat) : ∀ t : ST, removeUnused ac an t = mapObjs (shrinkObj (· &&& ac) (· &&& an)) t := by
  apply ST.ind
  intro o kids mem ihk ihm
  rw [removeUnused, removeUnusedL_eq, removeUnusedL_eq, mapObjs_node]
  congr 1
  · exact List.map_congr_left ihk
  · exact List.map_congr_left ihm

/-- the tree after "Fixup root sets", `propagate_nodeset`, `fixup_sets`, and the shrinking of the sets by `φ`, `ψ` -/
def core (φ ψ : Nat → Nat) (r : ST) : ST := mapObjs (shrinkObj φ ψ) (fixupSets (propagate 0 (fixupRoot r)))

theorem stage_root_incl (i : In) (h : i.includeDisallowed = true) : (stage i).root = core (fun a => a) (fun a => a) i.root := by
  unfold stage core
  simp only [h, if_true]
  exact (mapObjs_id _).symm

theorem stage_root_excl (i : In) (h : i.includeDisallowed = false) :
    (stage i).root = core (· &&& (stage i).allowedC) (· &&& (stage i).allowedN) i.root := by
  unfold stage core
  simp only [h]
  exact removeUnused_eq _ _ _

/-! ### per-object facts -/

def SubOpt (a : Nat) (b : Option Nat) : Prop := ∀ x, b = some x → Sub a x

theorem SubOpt.of_some {a x : Nat} {b : Option Nat} (hx : b = some x) (hs : Sub a x) : SubOpt a b :=
  fun y hy => by rw [hx] at hy; cases hy; exact hs

/-- the four sets exist where the C code needs them, and each set lies in its complete counterpart -/
def Good (o : SObj) : Prop := ∃ cc cn, o.ccpuset = some cc ∧ o.cnodeset = some cn ∧ Sub o.cpuset cc ∧ Sub o.nodeset cn

def Sub4 (c p : SObj) : Prop :=
  Sub c.cpuset p.cpuset ∧ Sub (c.ccpuset.getD 0) (p.ccpuset.getD 0) ∧ Sub c.nodeset p.nodeset ∧ Sub (c.cnodeset.getD 0) (p.cnodeset.getD 0)

theorem fixChild_fields (p c : SObj) : (fixChild p c).gp = c.gp ∧ (fixChild p c).type = c.type ∧ (fixChild p c).os = c.os ∧
    (fixChild p c).nodeset = c.nodeset &&& p.nodeset := by
  unfold fixChild; by_cases h : isMemory c.type = true <;> simp [h]

theorem fixChild_cpuset_normal (p c : SObj) (h : isMemory c.type = false) : (fixChild p c).cpuset = c.cpuset &&& p.cpuset := by
  unfold fixChild; simp [h]

theorem fixChild_memory (p c : SObj) (h : isMemory c.type = true) :
    (fixChild p c).cpuset = p.cpuset ∧ (fixChild p c).ccpuset = some (p.ccpuset.getD 0) := by
  unfold fixChild; simp [h]

theorem clipOpt_facts {a pa pc : Nat} {x : Option Nat} (h : SubOpt a x) (hp : Sub pa pc) :
    Sub (a &&& pa) (clipOpt x pc (a &&& pa)) ∧ Sub (clipOpt x pc (a &&& pa)) pc := by
  unfold clipOpt
  cases hx : x with
  | none => exact ⟨Sub.refl _, (Sub.and_right _ _).trans hp⟩
  | some y => exact ⟨Sub.and_mono (h y hx) hp, Sub.and_right _ _⟩

theorem fixChild_good {p c : SObj} (hp : Good p) (h1 : SubOpt c.cpuset c.ccpuset) (h2 : SubOpt c.nodeset c.cnodeset) :
    Good (fixChild p c) ∧ Sub4 (fixChild p c) p := by
  obtain ⟨pcc, pcn, hpcc, hpcn, hpc, hpn⟩ := hp
  have hn := clipOpt_facts (pc := pcn) h2 hpn
  have hc := clipOpt_facts (pc := pcc) h1 hpc
  by_cases hm : isMemory c.type = true
  · have e : fixChild p c = { c with cpuset := p.cpuset, ccpuset := some pcc, nodeset := c.nodeset &&& p.nodeset,
                                     cnodeset := some (clipOpt c.cnodeset pcn (c.nodeset &&& p.nodeset)) } := by
      unfold fixChild; simp only [hm, if_true, hpcc, hpcn, Option.getD_some]
    rw [e]
    refine ⟨⟨pcc, _, rfl, rfl, hpc, hn.1⟩, Sub.refl _, ?_, Sub.and_right _ _, ?_⟩
    · simp [hpcc, Sub.refl]
    · simp [hpcn, hn.2]
  · have e : fixChild p c = { c with cpuset := c.cpuset &&& p.cpuset, ccpuset := some (clipOpt c.ccpuset pcc (c.cpuset &&& p.cpuset)),
                                     nodeset := c.nodeset &&& p.nodeset,
                                     cnodeset := some (clipOpt c.cnodeset pcn (c.nodeset &&& p.nodeset)) } := by
      unfold fixChild; simp only [hm, hpcc, hpcn, Option.getD_some]; rfl
    rw [e]
    refine ⟨⟨_, _, rfl, rfl, hc.1, hn.1⟩, Sub.and_right _ _, ?_, Sub.and_right _ _, ?_⟩
    · simp [hpcc, hc.2]
    · simp [hpcn, hn.2]

theorem shrinkObj_good {φ ψ : Nat → Nat} (hφ : Shrink φ) (hψ : Shrink ψ) {o : SObj} (h : Good o) : Good (shrinkObj φ ψ o) := by
  obtain ⟨cc, cn, h1, h2, h3, h4⟩ := h
  exact ⟨cc, cn, h1, h2, (hφ.sub _).trans h3, (hψ.sub _).trans h4⟩

theorem shrinkObj_sub4 {φ ψ : Nat → Nat} (hφ : Shrink φ) (hψ : Shrink ψ) {c p : SObj} (h : Sub4 c p) :
    Sub4 (shrinkObj φ ψ c) (shrinkObj φ ψ p) := ⟨hφ.mono h.1, h.2.1, hψ.mono h.2.2.1, h.2.2.2⟩

/-! ### the postcondition at every node -/

structure Post (o : SObj) (kids mem : List ST) : Prop where
  good : Good o
  inKids : ∀ c ∈ kids, Sub4 c.o o
  inMem : ∀ m ∈ mem, Sub4 m.o o ∧ m.o.cpuset = o.cpuset ∧ m.o.ccpuset = o.ccpuset
  dj : (kids.map (·.o.cpuset)).Pairwise Dj

def PreN (o : SObj) (kids mem : List ST) : Prop :=
  SubOpt o.cpuset o.ccpuset ∧
  (∀ k ∈ kids, isMemory k.o.type = false) ∧ (∀ m ∈ mem, isMemory m.o.type = true) ∧ (isMemory o.type = true → kids = []) ∧
  MemOK mem ∧ (kids.map (·.o.cpuset)).Pairwise Dj

theorem AllN.memOK {t : ST} (h : AllN PreN t) : AllN (fun _ _ mem => MemOK mem) t := AllN.imp (fun _ _ _ h => h.2.2.2.2.1) t h

theorem fixupChild_node (p c : SObj) (kids mem : List ST) :
    fixupChild p (.node c kids mem) =
      .node (fixChild p c) (reorderIfNeeded (kids.map (fixupChild (fixChild p c)))) (mem.map (fixupChild (fixChild p c))) := by
  rw [fixupChild, fixupChildren_eq, fixupChildren_eq]

theorem fixupSets_node (o : SObj) (kids mem : List ST) :
    fixupSets (.node o kids mem) = .node o (reorderIfNeeded (kids.map (fixupChild o))) (mem.map (fixupChild o)) := by
  rw [fixupSets, fixupChildren_eq, fixupChildren_eq]

theorem fixupChild_o (p : SObj) (t : ST) : (fixupChild p t).o = fixChild p t.o := by
  cases t; rw [fixupChild_node]; rfl

/-- one node after `fixup_sets`: `c'` is final, `K` / `M` are its processed normal / memory children before the reordering -/
theorem post_step (c' : SObj) (K M : List ST) (hg : Good c') (hK : ∀ y ∈ K, AllN Post y ∧ Sub4 y.o c')
    (hM : ∀ y ∈ M, AllN Post y ∧ Sub4 y.o c' ∧ y.o.cpuset = c'.cpuset ∧ y.o.ccpuset = c'.ccpuset)
    (hd : (K.map (·.o.cpuset)).Pairwise Dj) : AllN Post (.node c' (reorderIfNeeded K) M) :=
  .node ⟨hg, fun y hy => (hK y (mem_reorderIfNeeded.1 hy)).2, fun y hy => (hM y hy).2,
      Dj.pairwise_perm ((reorderIfNeeded_perm K).map _) hd⟩
    (fun y hy => (hK y (mem_reorderIfNeeded.1 hy)).1) (fun y hy => (hM y hy).1)

theorem post_shrink {φ ψ : Nat → Nat} (hφ : Shrink φ) (hψ : Shrink ψ) : ∀ t : ST, AllN Post t → AllN Post (mapObjs (shrinkObj φ ψ) t) := by
  apply ST.ind
  intro o kids mem ihk ihm h
  obtain ⟨hg, hK, hM, hd⟩ := h.here
  rw [mapObjs_node]
  refine .node ⟨shrinkObj_good hφ hψ hg, ?_, ?_, ?_⟩ ?_ ?_
  · simp only [List.forall_mem_map, mapObjs_o]
    exact fun y hy => shrinkObj_sub4 hφ hψ (hK y hy)
  · simp only [List.forall_mem_map, mapObjs_o]
    exact fun y hy => ⟨shrinkObj_sub4 hφ hψ (hM y hy).1, congrArg φ (hM y hy).2.1, (hM y hy).2.2⟩
  · have hp : (kids.map (mapObjs (shrinkObj φ ψ))).map (·.o.cpuset) = (kids.map (·.o.cpuset)).map φ := by
      simp [mapObjs_o, shrinkObj]
    rw [hp]
    exact hφ.pairwise hd
  · simp only [List.forall_mem_map]
    exact fun y hy => ihk y hy (h.kids y hy)
  · simp only [List.forall_mem_map]
    exact fun y hy => ihm y hy (h.mem y hy)

theorem propagate_subOpt (t : ST) (hpre : AllN PreN t) (inh : Nat) :
    SubOpt (propagate inh t).o.cpuset (propagate inh t).o.ccpuset ∧ SubOpt (propagate inh t).o.nodeset (propagate inh t).o.cnodeset := by
  have hf := propagate_fields inh t
  obtain ⟨cn, hcn, hs⟩ := propagate_cnodeset t hpre.memOK inh
  refine ⟨?_, .of_some hcn hs⟩
  rw [hf.2.2.2.1, hf.2.2.2.2]
  cases t; exact hpre.here.1

theorem fixChild_memChild {c' : SObj} (hg : Good c') {m : ST} (hpre : AllN PreN m) (hty : isMemory m.o.type = true)
    (hcn : ∃ x, m.o.cnodeset = some x ∧ Sub m.o.nodeset x) :
    Sub4 (fixChild c' m.o) c' ∧ (fixChild c' m.o).cpuset = c'.cpuset ∧ (fixChild c' m.o).ccpuset = c'.ccpuset := by
  obtain ⟨x, hx, hs⟩ := hcn
  have hmn : SubOpt m.o.nodeset m.o.cnodeset := .of_some hx hs
  have hm1 : SubOpt m.o.cpuset m.o.ccpuset := by
    cases m; exact hpre.here.1
  have := fixChild_memory c' m.o hty
  have h4 := (fixChild_good hg hm1 hmn).2
  obtain ⟨cc, _, hcc, _⟩ := hg
  exact ⟨h4, this.1, by rw [this.2, hcc]; rfl⟩

/-- a memory subtree handed to the loop of `fixup_sets`: the postcondition inside it, and what the parent's node needs of its root -/
theorem post_memory : ∀ (m : ST) (p : SObj), Good p → AllN PreN m →
    isMemory m.o.type = true → (∃ x, m.o.cnodeset = some x ∧ Sub m.o.nodeset x) →
    AllN Post (fixupChild p m) ∧
      Sub4 (fixupChild p m).o p ∧ (fixupChild p m).o.cpuset = p.cpuset ∧ (fixupChild p m).o.ccpuset = p.ccpuset := by
  apply ST.ind
  intro c kids mem _ ihm p hp hpre hty hcn
  refine ⟨?_, by rw [fixupChild_o]; exact fixChild_memChild hp hpre hty hcn⟩
  obtain ⟨h1, _, hmt, hk, hmo, _⟩ := hpre.here
  have hkids : kids = [] := hk hty
  subst hkids
  rw [fixupChild_node]
  have hn : SubOpt c.nodeset c.cnodeset := by
    obtain ⟨x, hx, hs⟩ := hcn
    exact .of_some hx hs
  have hg := (fixChild_good hp h1 hn).1
  refine post_step _ _ _ hg (by simp) ?_ (by simp)
  intro y hy
  obtain ⟨m, hm, rfl⟩ := List.mem_map.1 hy
  exact ihm m hm _ hg (hpre.mem m hm) (hmt m hm) (hmo m hm)

/-- the children of a node whose own object `c'` is final: normal children come out of `propagate_nodeset` -/
theorem post_children (o c' : SObj) (kids mem : List ST) (ns1 : Nat)
    (hpre : AllN PreN (.node o kids mem)) (hg : Good c')
    (ih : ∀ k ∈ kids, ∀ (p : SObj) (inh : Nat), Good p → AllN PreN k →
          AllN Post (fixupChild p (propagate inh k)) ∧ Sub4 (fixupChild p (propagate inh k)).o p) :
    AllN Post (.node c' (reorderIfNeeded ((kids.map (propagate ns1)).map (fixupChild c'))) (mem.map (fixupChild c'))) := by
  obtain ⟨_, hkt, hmt, _, hmo, hdj⟩ := hpre.here
  refine post_step _ _ _ hg ?_ ?_ ?_
  · intro y hy
    rw [List.map_map] at hy
    obtain ⟨k, hk, rfl⟩ := List.mem_map.1 hy
    exact ih k hk _ _ hg (hpre.kids k hk)
  · intro y hy
    obtain ⟨m, hm, rfl⟩ := List.mem_map.1 hy
    exact post_memory m _ hg (hpre.mem m hm) (hmt m hm) (hmo m hm)
  · rw [List.map_map, List.map_map, List.pairwise_map]
    rw [List.pairwise_map] at hdj
    refine hdj.imp_of_mem ?_
    intro a b ha hb hab
    simp only [Function.comp]
    rw [fixupChild_o, fixupChild_o, fixChild_cpuset_normal _ _ (by rw [(propagate_fields ns1 a).2.1]; exact hkt a ha),
      fixChild_cpuset_normal _ _ (by rw [(propagate_fields ns1 b).2.1]; exact hkt b hb),
      (propagate_fields ns1 a).2.2.2.1, (propagate_fields ns1 b).2.2.2.1]
    exact hab.mono (Sub.and_left _ _) (Sub.and_left _ _)

/-- a subtree on which `propagate_nodeset` has run, handed to the loop of `fixup_sets`: the postcondition inside it, and its root inside `p` -/
theorem post_normal : ∀ (t : ST) (p : SObj) (inh : Nat), Good p → AllN PreN t →
    AllN Post (fixupChild p (propagate inh t)) ∧ Sub4 (fixupChild p (propagate inh t)).o p := by
  apply ST.ind
  intro o kids mem ihk _ p inh hp hpre
  have hs := propagate_subOpt (.node o kids mem) hpre inh
  rw [propagate_node] at hs ⊢
  rw [fixupChild_node]
  have hg := fixChild_good hp hs.1 hs.2
  exact ⟨post_children o _ kids mem _ hpre hg.1 ihk, hg.2⟩

theorem root_good (r : ST) (hcc : r.o.ccpuset.isSome = true) (hpre : AllN PreN (fixupRoot r)) : Good (propagate 0 (fixupRoot r)).o := by
  obtain ⟨cn, hcn, hs⟩ := propagate_cnodeset _ hpre.memOK 0
  have hf := propagate_fields 0 (fixupRoot r)
  cases r with
  | node o kids mem =>
    obtain ⟨cc, hcc'⟩ := Option.isSome_iff_exists.1 hcc
    simp only [ST.o] at hcc'
    refine ⟨cc, cn, ?_, hcn, ?_, ?_⟩
    · rw [hf.2.2.2.2]; exact hcc'
    · rw [hf.2.2.2.1]; simp only [fixupRoot, ST.o, hcc', Option.getD_some]; exact Sub.and_right _ _
    · exact hs

theorem core_post {φ ψ : Nat → Nat} (hφ : Shrink φ) (hψ : Shrink ψ) (r : ST) (hcc : r.o.ccpuset.isSome = true)
    (hpre : AllN PreN (fixupRoot r)) : AllN Post (core φ ψ r) := by
  have hg := root_good r hcc hpre
  unfold core
  cases r with
  | node o kids mem =>
    simp only [fixupRoot] at hg hpre ⊢
    rw [propagate_node] at hg ⊢
    rw [fixupSets_node]
    exact post_shrink hφ hψ _ (post_children _ _ kids mem _ hpre hg (fun k _ => post_normal k))

end Hw.Topo.SetStage
