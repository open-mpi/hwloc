/-
  Hw.Topo.RestrictSurvive — who survives a restrict, exactly.  Level merging (hwloc_filter_levels_keep_structure) conserves
  every value that the dropped object of no merged pair takes; in a typed tree both objects of a merged pair are normal, so the
  non-normal objects (NUMA nodes, memory-side caches, I/O, Misc) are exactly conserved.  The tree recursion keeps every
  "protected" object — a PU whose os_index is in S, a NUMA node unless REMOVE_CPULESS is given and it is CPU-less afterwards,
  and the BYNODESET mirror — and a surviving object of the primary leaf type (PU by cpuset, NUMA node by nodeset) still has a
  non-empty primary set, hence still its singleton.
-/
import Hw.Topo.RestrictTyping
namespace Hw.Topo.Restrict
open Hw.Topo Hw.Gen.Restrict

/-! ### what level merging conserves -/

/-- `t'` holds exactly the objects of `t` whose type satisfies `q`, each as it is: every count over them agrees -/
structure SameObjs (q : Nat → Prop) (t t' : Tree) : Prop where
  cnt_eq : ∀ {α : Type} [DecidableEq α] (f : RObj → α) (a : α), (∀ x, f x = a → q x.type) →
    cnt f a (objsT t') = cnt f a (objsT t)

theorem SameObjs.refl (q : Nat → Prop) (t : Tree) : SameObjs q t t := ⟨fun _ _ _ => rfl⟩

theorem SameObjs.trans {q : Nat → Prop} {t t' t'' : Tree} (h1 : SameObjs q t t') (h2 : SameObjs q t' t'') : SameObjs q t t'' :=
  ⟨fun f a hfa => (h2.cnt_eq f a hfa).trans (h1.cnt_eq f a hfa)⟩

theorem SameObjs.of_perm {q : Nat → Prop} {t t' : Tree} (h : (objsT t').Perm (objsT t)) : SameObjs q t t' :=
  ⟨fun f a _ => cnt_perm f a h⟩

theorem SameObjs.mem {q : Nat → Prop} {t t' : Tree} (h : SameObjs q t t') {x : RObj} (hx : q x.type) :
    x ∈ objsT t' ↔ x ∈ objsT t := by
  have key : ∀ l : List RObj, x ∈ l ↔ 0 < cnt id x l := fun l => by
    rw [cnt_pos_iff]; exact ⟨fun h => ⟨x, h, rfl⟩, fun ⟨y, hy, e⟩ => e ▸ hy⟩
  rw [key, key, h.cnt_eq id x fun y e => by rw [show y = x from e]; exact hx]

theorem SameObjs.ident {q : Nat → Prop} {t t' : Tree} (h : SameObjs q t t') {a : RObj} (ha : q a.type) :
    cnt ident (ident a) (objsT t') = cnt ident (ident a) (objsT t) :=
  h.cnt_eq _ _ fun y hy => by rw [← ident_type y, hy, ident_type]; exact ha

section exactmerge
variable {α : Type} [DecidableEq α] (f : RObj → α) (a : α)

/-- at a merged node with single normal child `C`: the object that goes (the child with `rc`, the parent otherwise) does not
    take the value `a`, and the child that replaces its parent takes it after the merge iff it took it before -/
def Keeps (rc : Bool) (N : Tree) : Prop :=
  ∀ C, N.ns = [C] → f (if rc then C.obj else N.obj) ≠ a ∧ cnt1 f a (absorbIf N.ms N.obj C.obj) = cnt1 f a C.obj

/-- what hwloc_filter_levels_keep_structure conserves: a value that the dropped object of no merged pair takes -/
theorem cntEq_mergeT_of (ps : List Nat) (rc : Bool) :
    ∀ t, (∀ N ∈ nsubT t, ps.contains N.obj.gp = true → Keeps f a rc N) →
      cnt f a (objsT (mergeT ps rc t)) = cnt f a (objsT t) :=
  mergeT_ind ps rc (P := fun t t' => (∀ N ∈ nsubT t, ps.contains N.obj.gp = true → Keeps f a rc N) →
      cnt f a (objsT t') = cnt f a (objsT t))
    (fun o co cns cms cios cmis ms ios mis mm hc hmm hq => by
      obtain ⟨h1, h2⟩ := hq _ (nsubT_self _) hc _ rfl
      simp only [Tree.obj, Tree.ms] at h1 h2
      have e := cnt_merged f a (if rc then o else absorbIf ms o co) o co cns cms cios cmis ms ios mis mm hmm
      have z := cnt1_zero f a h1
      cases rc
      · rw [if_neg Bool.false_ne_true] at e z ⊢
        rw [h2] at e
        omega
      · rw [if_pos rfl] at e z ⊢
        omega)
    (fun _ _ => rfl)
    fun o ns ms ios mis hn hq => by
      have := cnt_objsL_map_eq f a (g := mergeT ps rc) (l := ns) fun c hc =>
        hn c hc fun N hN => hq N (mem_nsubT.2 (.inr ⟨c, hc, hN⟩))
      simp only [objsT, cnt_cons1, cnt_append]
      omega

end exactmerge

theorem nsub_of {P : Tree → Prop} (h : ∀ o ns ms ios mis, P (.node o ns ms ios mis) → ∀ c ∈ ns, P c) :
    ∀ t, P t → ∀ N ∈ nsubT t, P N :=
  Tree.ind4 fun o ns ms ios mis hn _ _ _ ht N hN => by
    rcases mem_nsubT.1 hN with rfl | ⟨c, hc, hNc⟩
    · exact ht
    · exact hn c hc (h o ns ms ios mis ht c hc) N hNc

theorem nsub_typed : ∀ t, typedT t = true → ∀ N ∈ nsubT t, typedT N = true :=
  nsub_of fun o ns ms ios mis ht c hc => ((typedL_iff _ _).1 (typedT_node o ns ms ios mis ht).2.2.2.2.1 c hc).2

/-- in a typed tree a merge drops a normal object (both objects of a merged pair are normal): the non-normal ones stay -/
theorem sameObjs_mergeT_nonnormal (ps : List Nat) (rc : Bool) (t : Tree) (ht : typedT t = true) :
    SameObjs (fun ty => isNormal ty = false) t (mergeT ps rc t) := ⟨fun f a hfa => by
  refine cntEq_mergeT_of f a ps rc t fun N hN _ C hC => ?_
  have htN := nsub_typed t ht N hN
  cases N with
  | node o ns ms ios mis =>
    simp only [Tree.ns] at hC
    subst hC
    obtain ⟨ha, _, _, _, t1, _, _, _⟩ := typedT_node _ _ _ _ _ htN
    have hon : isNormal o.type = true := (isNormal_iff _).2 (ha.resolve_right (by simp))
    have hcn : isNormal C.obj.type = true := ((typedL_iff _ _).1 t1 C List.mem_cons_self).1
    have z : ∀ x, isNormal x.type = true → f x ≠ a := fun x hx h => by rw [hfa x h] at hx; cases hx
    refine ⟨?_, ?_⟩
    · cases rc
      · exact z o hon
      · exact z C.obj hcn
    · rw [cnt1_zero f a (z _ (by rw [absorbIf_type]; exact hcn)), cnt1_zero f a (z _ hcn)]⟩

/-- hwloc_filter_levels_keep_structure never removes (or duplicates, or changes) a non-normal object of a typed tree (NUMA
    nodes, memory-side caches, I/O, Misc), complete sets included -/
theorem sameObjs_keepStructure_nonnormal (filters : List Nat) (t : Tree) (h : typedT t = true) :
    SameObjs (fun ty => isNormal ty = false) t (keepStructure filters t) :=
  (keepStructure_ind (P := fun t' => typedT t' = true ∧ SameObjs (fun ty => isNormal ty = false) t t')
    (fun ps rc t' h' => ⟨(typed_mergeT ps rc t' h'.1).1, h'.2.trans (sameObjs_mergeT_nonnormal ps rc t' h'.1)⟩)
    (fun t' h' => ⟨typed_reorderAllT t' h'.1, h'.2.trans (.of_perm (objsT_reorderAllT_perm t'))⟩) filters t ⟨h, .refl _ t⟩).2

section exactmerge
variable {α : Type} [DecidableEq α] (f : RObj → α) (a : α)

theorem cntEq_mergeL (hm : ∀ o co, isNormal co.type = true → f (absorb o co) = f co) (hN : ∀ x, f x = a → isNormal x.type = false)
    (ps : List Nat) (rc : Bool) : ∀ l, typedL isNormal l = true → cnt f a (objsL (mergeL ps rc l)) = cnt f a (objsL l) :=
  fun l hl => by
    rw [mergeL_eq_map]
    exact cnt_objsL_map_eq f a fun c hc => (sameObjs_mergeT_nonnormal ps rc c ((typedL_iff _ _).1 hl c hc).2).cnt_eq f a hN

theorem cntEq_keepStructure (hm : ∀ o co, isNormal co.type = true → f (absorb o co) = f co) (hN : ∀ x, f x = a → isNormal x.type = false)
    (filters : List Nat) (t : Tree) (h : typedT t = true) (hr : isNormal t.obj.type = true) :
    cnt f a (objsT (keepStructure filters t)) = cnt f a (objsT t) :=
  (sameObjs_keepStructure_nonnormal filters t h).cnt_eq f a hN

end exactmerge

/-! ### special subtrees contain only special objects -/

theorem special_objs : ∀ t, typedT t = true → notNM t.obj.type → ∀ x ∈ objsT t, notNM x.type :=
  Tree.ind4 fun o ns ms ios mis _ _ h3 h4 ht hs x hx => by
    obtain ⟨ha, hb, _, _, _, _, t3, t4⟩ := typedT_node o ns ms ios mis ht
    have h1 : ¬ o.type ≤ 13 := Nat.not_le.2 ((isNormal_false_iff _).1 hs.1)
    rw [ha.resolve_left h1, (hb.resolve_left h1).resolve_left ((isMemory_false_iff _).1 hs.2).2] at hx
    simp only [objsT, objsL, List.nil_append, List.mem_cons, List.mem_append, mem_objsL_iff] at hx
    rcases hx with rfl | ⟨c, hc, hx⟩ | ⟨c, hc, hx⟩
    · exact hs
    · have := (typedL_iff _ _).1 t3 c hc
      exact h3 c hc this.2 (notNM_of_special (.inl this.1)) x hx
    · have := (typedL_iff _ _).1 t4 c hc
      exact h4 c hc this.2 (notNM_of_special (.inr this.1)) x hx

theorem filter_special_nil (prot : RObj → Bool) (hkind : ∀ o, prot o = true → isNormal o.type = true ∨ isMemory o.type = true)
    (l : List Tree) (h : typedL isIO l = true ∨ typedL isMisc l = true) : (objsL l).filter prot = [] := by
  rw [List.filter_eq_nil_iff]
  intro x hx hp
  obtain ⟨c, hc, hxc⟩ := mem_objsL_iff.1 hx
  have hc' : typedT c = true ∧ notNM c.obj.type := h.elim
    (fun h => have := (typedL_iff _ _).1 h c hc; ⟨this.2, notNM_of_special (.inl this.1)⟩)
    (fun h => have := (typedL_iff _ _).1 h c hc; ⟨this.2, notNM_of_special (.inr this.1)⟩)
  have := special_objs c hc'.1 hc'.2 x hxc
  rcases hkind x hp with h1 | h1
  · rw [this.1] at h1; cases h1
  · rw [this.2] at h1; cases h1

theorem typedL_of_either {l : List Tree} (h : typedL isNormal l = true ∨ typedL isMemory l = true) :
    ∀ t ∈ l, typedT t = true := by
  intro t ht
  rcases h with h | h
  · exact ((typedL_iff _ _).1 h t ht).2
  · exact ((typedL_iff _ _).1 h t ht).2

/-! ### protected objects survive the tree recursion -/

section survive
variable {α : Type} [DecidableEq α] (f : RObj → α) (a : α)

/-- protected objects survive: if `prot o` excludes the removal condition of `o` itself (its primary set stays non-empty,
    or its type is exempt), then every protected object of a typed subtree is among the survivors kept in place — an ancestor
    of a survivor is never removed -/
theorem survive_restrictW {ro : List Tree → List Tree} (hro : ∀ l, (ro l).Perm l) (p : Params) (prot : RObj → Bool)
    (hf : ∀ o, f (shrinkG p o) = f o)
    (hprot : ∀ o, prot o = true → (emptyAfter p (shrinkG p o) && removable p o.type) = false)
    (hkind : ∀ o, prot o = true → isNormal o.type = true ∨ isMemory o.type = true) :
    (∀ t, typedT t = true → cnt f a ((objsT t).filter prot) ≤ cnt f a (objsL (restrictTW ro p t).kept)) ∧
    (∀ l, cnt f a ((objsL l).filter prot) ≤ cnt f a (objsL (restrictLW ro p l).kept) ∨
          ¬ (typedL isNormal l = true ∨ typedL isMemory l = true)) := by
  have h := restrictW_ind hro p
    (P := fun t r => typedT t = true → cnt f a ((objsT t).filter prot) ≤ cnt f a (objsL r.kept))
    (Q := fun _ l r => (∀ t ∈ l, typedT t = true) → cnt f a ((objsL l).filter prot) ≤ cnt f a (objsL r.kept)) ?_
    (fun _ l _ _ => cnt_filter_le f a prot _) (fun _ _ => Nat.le_refl _) ?_
  · exact ⟨h.1, fun l => Decidable.or_iff_not_imp_right.2 fun hn => h.2 l default (typedL_of_either (Decidable.not_not.1 hn))⟩
  · intro o ns ms ios mis rn rm r qn qm hr ht
    obtain ⟨_, _, _, _, t1, t2, t3, t4⟩ := typedT_node o ns ms ios mis ht
    have qn := qn (typedL_of_either (Or.inl t1))
    have qm := qm (typedL_of_either (Or.inr t2))
    -- only the object itself and its normal and memory children can be protected
    rw [objsT, ← List.singleton_append]
    simp only [List.filter_append, filter_special_nil prot hkind ios (Or.inl t3), filter_special_nil prot hkind mis (Or.inr t4),
      List.append_nil, cnt_append]
    rcases hr with ⟨⟨h1, h2, h3, h4⟩, rfl⟩ | ⟨_, ns', hperm, rfl⟩
    · have hpo : prot o = false := eq_false_of_ne_true fun hpo => by
        have := hprot o hpo; rw [h3, h4] at this; cases this
      rw [h1] at qn
      rw [h2] at qm
      simp only [List.filter_cons, hpo, Bool.false_eq_true, if_false, List.filter_nil, objsL, cnt_nil] at qn qm ⊢
      omega
    · have ho : cnt f a ([o].filter prot) ≤ cnt1 f a o := cnt_filter_le f a prot [o]
      simp only [objsL, objsT, List.append_nil, cnt_cons1, cnt_append, cnt_perm f a (objsL_perm hperm), cnt1_congr f a (hf o)]
      omega
  · intro _ t ts r rs ht hts hty
    have := ht (hty t List.mem_cons_self)
    have := hts fun c hc => hty c (List.mem_cons_of_mem _ hc)
    simp only [objsL, objsL_append, List.filter_append, cnt_append]
    omega

theorem survive_core (t : Topo) (p : Params) (t' : Topo) (hc : restrictCore t p = some t') (hty : typedT t.tree = true)
    (prot : RObj → Bool) (hf : ∀ o, f (shrinkG p o) = f o)
    (hprot : ∀ o, prot o = true → (emptyAfter p (shrinkG p o) && removable p o.type) = false)
    (hkind : ∀ o, prot o = true → isNormal o.type = true ∨ isMemory o.type = true) :
    cnt f a ((objsT t.tree).filter prot) ≤ cnt f a (objsT t'.tree) := by
  have hsv := (survive_restrictW f a reorder_perm p prot hf hprot hkind).1 t.tree hty
  rw [restrictCore_kept hc, objsL, objsL, List.append_nil] at hsv
  exact hsv

end survive

/-! ### the primary leaf type keeps a non-empty primary set -/

mutual
/-- objects of type `ty` have no normal and no memory children (looked for below normal and memory children only: in a typed
    tree no PU / NUMA node sits anywhere else) -/
def leafTyT (ty : Nat) : Tree → Bool
  | .node o ns ms _ _ => (o.type != ty || (ns.isEmpty && ms.isEmpty)) && leafTyL ty ns && leafTyL ty ms
def leafTyL (ty : Nat) : List Tree → Bool
  | [] => true
  | t :: ts => leafTyT ty t && leafTyL ty ts
end

/-- the set that decides removal -/
def prim (p : Params) (o : RObj) : Nat := if p.byNode then o.nodeset else o.cpuset

theorem emptyAfter_prim (p : Params) (o : RObj) : emptyAfter p o = (prim p o == 0) := by
  unfold emptyAfter prim; split <;> rfl

theorem leafTyL_iff (ty : Nat) (l : List Tree) : leafTyL ty l = true ↔ ∀ t ∈ l, leafTyT ty t = true := by
  induction l with
  | nil => simp [leafTyL]
  | cons a as ih => rw [leafTyL]; simp only [Bool.and_eq_true, ih, List.mem_cons, forall_eq_or_imp]

theorem leafTyT_iff (ty : Nat) (o : RObj) (ns ms ios mis : List Tree) : leafTyT ty (.node o ns ms ios mis) = true ↔
    ((o.type = ty → ns = [] ∧ ms = []) ∧ (∀ c ∈ ns, leafTyT ty c = true) ∧ ∀ c ∈ ms, leafTyT ty c = true) := by
  rw [leafTyT]
  simp only [Bool.and_eq_true, Bool.or_eq_true, bne_iff_ne, ne_eq, List.isEmpty_iff, leafTyL_iff, and_assoc, ← Decidable.imp_iff_not_or]

/-- a leaf of a removable type that comes back is alive: a leaf whose primary set became empty is removed, and no other object
    of that type is changed.  Said of everything handed back — kept in place, or inside an I/O or Misc subtree on its way up —
    so that no typing is needed to know where an object of type `ty` can sit -/
theorem leaf_alive_resObjs {ro : List Tree → List Tree} (hro : ∀ l, (ro l).Perm l) (p : Params) (ty : Nat)
    (hrem : removable p ty = true) :
    (∀ t, leafTyT ty t = true → (∀ x ∈ objsT t, x.type = ty → prim p x ≠ 0) →
        ∀ x ∈ resObjs (restrictTW ro p t), x.type = ty → prim p x ≠ 0) ∧
    (∀ l, leafTyL ty l = true → (∀ x ∈ objsL l, x.type = ty → prim p x ≠ 0) →
        ∀ x ∈ resObjs (restrictLW ro p l), x.type = ty → prim p x ≠ 0) := by
  have h := restrictW_ind hro p
    (P := fun t r => leafTyT ty t = true → (∀ x ∈ objsT t, x.type = ty → prim p x ≠ 0) →
      ∀ x ∈ resObjs r, x.type = ty → prim p x ≠ 0)
    (Q := fun _ l r => (∀ c ∈ l, leafTyT ty c = true) → (∀ x ∈ objsL l, x.type = ty → prim p x ≠ 0) →
      (∀ x ∈ resObjs r, x.type = ty → prim p x ≠ 0) ∧ (l = [] → r.kept = [])) ?_
    (fun _ l _ _ hall => ⟨by rw [resObjs_idRes]; exact hall, id⟩)
    (fun _ _ _ => ⟨fun x hx => (nomatch hx), fun _ => rfl⟩) ?_
  · exact ⟨h.1, fun l hl hall => (h.2 l default ((leafTyL_iff _ _).1 hl) hall).1⟩
  · intro o ns ms ios mis rn rm r Qn Qm hr hl hall
    obtain ⟨hleaf, ln, lm⟩ := (leafTyT_iff ..).1 hl
    simp only [objsT, List.forall_mem_cons, List.forall_mem_append] at hall
    obtain ⟨_, ⟨⟨hn, hm⟩, hi⟩, hmi⟩ := hall
    obtain ⟨qn, en⟩ := Qn ln hn
    obtain ⟨qm, em⟩ := Qm lm hm
    -- `∀ x ∈ a ++ b` read as a conjunction: each list handed back is covered by one hypothesis, no membership is split
    rcases hr with ⟨_, rfl⟩ | ⟨hnot, ns', hperm, rfl⟩
    · simp only [resObjs, objsL, List.nil_append, objsL_append, List.forall_mem_append, forall_objsL_ite] at qn qm ⊢
      exact ⟨fun _ => ⟨⟨hi, qn.1.2⟩, qm.1.2⟩, fun _ => ⟨⟨hmi, qn.2⟩, qm.2⟩⟩
    · simp only [resObjs, objsL, objsT, List.append_nil, objsL_append, List.forall_mem_cons, List.forall_mem_append,
        (objsL_perm hperm).mem_iff] at qn qm ⊢
      refine ⟨fun hxt h0 => ?_, ⟨⟨⟨qn.1.1, qm.1.1⟩, ⟨hi, qn.1.2⟩, qm.1.2⟩, ⟨hmi, qn.2⟩, qm.2⟩⟩
      -- the object itself: a leaf of a removable type that was not removed
      rw [type_shrinkG] at hxt
      obtain ⟨h1, h2⟩ := hleaf hxt
      exact hnot ⟨en h1, em h2, by rw [emptyAfter_prim, h0]; rfl, by rw [hxt]; exact hrem⟩
  · intro _ t ts r rs ht hts hl hall
    simp only [objsL, List.forall_mem_append] at hall
    have a := ht (hl t List.mem_cons_self) hall.1
    have b := (hts (fun c hc => hl c (List.mem_cons_of_mem _ hc)) hall.2).1
    simp only [resObjs, objsL_append, List.forall_mem_append] at a b ⊢
    exact ⟨⟨⟨⟨a.1.1, b.1.1⟩, a.1.2, b.1.2⟩, a.2, b.2⟩, fun e => nomatch e⟩

theorem leaf_alive_restrictW {ro : List Tree → List Tree} (hro : ∀ l, (ro l).Perm l) (p : Params) (ty : Nat)
    (hty : isNormal ty = true ∨ isMemory ty = true) (hrem : removable p ty = true) :
    (∀ t, typedT t = true → leafTyT ty t = true → (∀ x ∈ objsT t, x.type = ty → prim p x ≠ 0) →
        ∀ x ∈ objsL (restrictTW ro p t).kept, x.type = ty → prim p x ≠ 0) ∧
    (∀ l, (typedL isNormal l = true ∨ typedL isMemory l = true) → leafTyL ty l = true →
        (∀ x ∈ objsL l, x.type = ty → prim p x ≠ 0) →
        ∀ x ∈ objsL (restrictLW ro p l).kept, x.type = ty → prim p x ≠ 0) :=
  have h := leaf_alive_resObjs hro p ty hrem
  have sub : ∀ (r : Res) x, x ∈ objsL r.kept → x ∈ resObjs r := fun _ _ hx =>
    List.mem_append_left _ (List.mem_append_left _ hx)
  ⟨fun t _ hl hall x hx => h.1 t hl hall x (sub _ x hx), fun l _ hl hall x hx => h.2 l hl hall x (sub _ x hx)⟩

/-! ### the four rules as protection predicates -/

theorem ccpuset_shrinkG (p : Params) (o : RObj) :
    (shrinkG p o).ccpuset = if meets o.ccpuset p.dc = true then minus o.ccpuset p.dc else o.ccpuset := by
  rw [shrinkG_eq]

theorem minus_bit_of_not_mem (k : Nat) (d : CSet) (h : d.mem k = false) : minus (1 <<< k) d = 1 <<< k :=
  minus_of_not_meets (by rw [meets_bit]; exact h)

/-- a PU (cpuset = {os_index}) whose os_index is in `S`: protected under a restrict by cpuset to `S` -/
def protPU (s : CSet) (o : RObj) : Bool := o.type == tPU && o.cpuset == osBit o && s.mem o.osidx.toNat
/-- a NUMA node unless REMOVE_CPULESS is given and it is CPU-less afterwards: protected under a restrict by cpuset -/
def protNUMA (p : Params) (o : RObj) : Bool := o.type == tNUMA && !(p.rmExempt && (shrinkG p o).cpuset == 0)
/-- the BYNODESET mirrors -/
def protNUMAn (s : CSet) (o : RObj) : Bool := o.type == tNUMA && o.nodeset == osBit o && s.mem o.osidx.toNat
def protPUn (p : Params) (o : RObj) : Bool := o.type == tPU && !(p.rmExempt && (shrinkG p o).nodeset == 0)

theorem guarded_bit_ne_zero (c : Bool) (k : Nat) (s : CSet) (hs : s.mem k = true) :
    (if c then minus (1 <<< k) s.compl else 1 <<< k) ≠ 0 :=
  guarded_minus_compl_ne_zero c (by rw [meets_bit]; exact hs) (subset_refl _)

theorem protPU_ok (p : Params) (s : CSet) (hb : p.byNode = false) (hdc : p.dc = s.compl) (o : RObj) (h : protPU s o = true) :
    (emptyAfter p (shrinkG p o) && removable p o.type) = false := by
  simp only [protPU, Bool.and_eq_true, beq_iff_eq] at h
  have : emptyAfter p (shrinkG p o) = false := by
    simp only [emptyAfter, hb, Bool.false_eq_true, if_false, shrinkG_cpuset, h.1.2, hdc, osBit]
    exact beq_eq_false_iff_ne.2 (guarded_bit_ne_zero _ _ s h.2)
  rw [this]; rfl

theorem protNUMAn_ok (p : Params) (s : CSet) (hb : p.byNode = true) (hdn : p.dn = s.compl) (o : RObj) (h : protNUMAn s o = true) :
    (emptyAfter p (shrinkG p o) && removable p o.type) = false := by
  simp only [protNUMAn, Bool.and_eq_true, beq_iff_eq] at h
  have : emptyAfter p (shrinkG p o) = false := by
    simp only [emptyAfter, hb, if_true, shrinkG_nodeset, h.1.2, hdn, osBit]
    exact beq_eq_false_iff_ne.2 (guarded_bit_ne_zero _ _ s h.2)
  rw [this]; rfl

theorem exempt_ok (p : Params) (o : RObj) (hrem : removable p o.type = p.rmExempt)
    (h : (p.rmExempt && emptyAfter p (shrinkG p o)) = false) :
    (emptyAfter p (shrinkG p o) && removable p o.type) = false := by
  rw [hrem, Bool.and_comm]; exact h

theorem protNUMA_ok (p : Params) (hb : p.byNode = false) (o : RObj) (h : protNUMA p o = true) :
    (emptyAfter p (shrinkG p o) && removable p o.type) = false := by
  simp only [protNUMA, Bool.and_eq_true, beq_iff_eq, Bool.not_eq_true'] at h
  refine exempt_ok p o (by simp only [removable, hb, h.1, Bool.false_eq_true, if_false, bne_self_eq_false, Bool.false_or]) ?_
  simp only [emptyAfter, hb, Bool.false_eq_true, if_false]
  exact h.2

theorem protPUn_ok (p : Params) (hb : p.byNode = true) (o : RObj) (h : protPUn p o = true) :
    (emptyAfter p (shrinkG p o) && removable p o.type) = false := by
  simp only [protPUn, Bool.and_eq_true, beq_iff_eq, Bool.not_eq_true'] at h
  refine exempt_ok p o (by simp only [removable, hb, h.1, if_true, bne_self_eq_false, Bool.false_or]) ?_
  simp only [emptyAfter, hb, if_true]
  exact h.2

theorem prot_kind_pu {P : RObj → Bool} (h : ∀ o, P o = true → o.type = tPU) :
    ∀ o, P o = true → isNormal o.type = true ∨ isMemory o.type = true := fun o ho => Or.inl (by rw [h o ho]; decide)
theorem prot_kind_numa {P : RObj → Bool} (h : ∀ o, P o = true → o.type = tNUMA) :
    ∀ o, P o = true → isNormal o.type = true ∨ isMemory o.type = true := fun o ho => Or.inr (by rw [h o ho]; decide)

theorem protPU_type (s : CSet) (o : RObj) (h : protPU s o = true) : o.type = tPU := by
  unfold protPU at h; simp only [Bool.and_eq_true, beq_iff_eq] at h; exact h.1.1
theorem protNUMAn_type (s : CSet) (o : RObj) (h : protNUMAn s o = true) : o.type = tNUMA := by
  unfold protNUMAn at h; simp only [Bool.and_eq_true, beq_iff_eq] at h; exact h.1.1
theorem protNUMA_type (p : Params) (o : RObj) (h : protNUMA p o = true) : o.type = tNUMA := by
  unfold protNUMA at h; simp only [Bool.and_eq_true, beq_iff_eq] at h; exact h.1
theorem protPUn_type (p : Params) (o : RObj) (h : protPUn p o = true) : o.type = tPU := by
  unfold protPUn at h; simp only [Bool.and_eq_true, beq_iff_eq] at h; exact h.1

/-! ### leaf hypotheses from the typing -/

theorem leafTyT_of_puLeaf : ∀ t, puLeafT t = true → leafTyT tPU t = true :=
  Tree.indNM fun o ns ms ios mis hn hm h => by
    obtain ⟨l0, l1, l2, _⟩ := (puLeafT_node o ns ms ios mis).1 h
    exact (leafTyT_iff ..).2 ⟨l0, fun c hc => hn c hc ((puLeafL_iff _).1 l1 c hc), fun c hc => hm c hc ((puLeafL_iff _).1 l2 c hc)⟩

theorem leafTyT_numa_of_typed : ∀ t, typedT t = true → leafTyT tNUMA t = true :=
  Tree.indNM fun o ns ms ios mis hn hm h => by
    obtain ⟨ha, hb, _, _, t1, t2, _, _⟩ := typedT_node o ns ms ios mis h
    refine (leafTyT_iff ..).2 ⟨fun e => ?_, fun c hc => hn c hc ((typedL_iff _ _).1 t1 c hc).2,
      fun c hc => hm c hc ((typedL_iff _ _).1 t2 c hc).2⟩
    have e : o.type = 14 := e
    exact ⟨ha.resolve_left (by rw [e]; decide), (hb.resolve_left (by rw [e]; decide)).resolve_left (by rw [e]; decide)⟩

/-! ### PU / NUMA singletons as tree hypotheses (C01 clauses pu-cpuset / numa-nodeset) -/

def puSetsT (t : Tree) : Bool := (objsT t).all (fun x => x.type != tPU || (x.cpuset == osBit x && x.ccpuset == osBit x))
def numaSetsT (t : Tree) : Bool := (objsT t).all (fun x => x.type != tNUMA || (x.nodeset == osBit x && x.cnodeset == osBit x))

theorem all_type_iff (l : List RObj) (ty : Nat) (q : RObj → Bool) :
    (l.all fun x => x.type != ty || q x) = true ↔ ∀ x ∈ l, x.type = ty → q x = true := by
  simp only [List.all_eq_true, Bool.or_eq_true, bne_iff_ne, ne_eq, ← Decidable.imp_iff_not_or]

theorem puSetsT_iff (t : Tree) : puSetsT t = true ↔ ∀ x ∈ objsT t, x.type = tPU → x.cpuset = osBit x ∧ x.ccpuset = osBit x := by
  unfold puSetsT
  rw [all_type_iff]
  simp only [Bool.and_eq_true, beq_iff_eq]

theorem numaSetsT_iff (t : Tree) : numaSetsT t = true ↔ ∀ x ∈ objsT t, x.type = tNUMA → x.nodeset = osBit x ∧ x.cnodeset = osBit x := by
  unfold numaSetsT
  rw [all_type_iff]
  simp only [Bool.and_eq_true, beq_iff_eq]

/-! ### exact survivors of the tree recursion for the primary leaf type -/

theorem cnt_filter_ident (P : RObj → Bool) (hP : ∀ x y, ident x = ident y → P x = P y) (a : RObj) (l : List RObj) :
    cnt ident (ident a) (l.filter P) = if P a = true then cnt ident (ident a) l else 0 := by
  -- among the objects with the identity of `a` the filter keeps all or none
  split
  · rename_i hpa
    exact cnt_filter_of_all ident (ident a) P l fun x _ e => (hP x a e).trans hpa
  · rename_i hpa
    exact cnt_eq_zero_of ident (ident a) _ fun x hx e => hpa ((hP x a e).symm.trans (List.mem_filter.1 hx).2)

/-- the primary leaf type after the tree recursion (PUs by cpuset, NUMA nodes by nodeset; `ps` / `cs` = its primary set and
    complete set, `d` = the primary dropped set): every such object of the result still has both sets = {os_index} with
    os_index ∈ S, and those of the result are EXACTLY the previous ones whose os_index is in S (as multisets of identities) -/
theorem leaf_exact_core (t : Topo) (s : CSet) (p : Params) (t' : Topo) (hc : restrictCore t p = some t') (hok : okT t.tree = true)
    (hty : typedT t.tree = true) (ty : Nat) (hkind : isNormal ty = true ∨ isMemory ty = true) (hrem : removable p ty = true)
    (hleaf : leafTyT ty t.tree = true) (ps cs : RObj → Nat) (d : CSet) (hd : d = s.compl) (hprim : ∀ o, prim p o = ps o)
    (hU : ∀ o, ps (shrinkU p o) = minus (ps o) d ∧ cs (shrinkU p o) = minus (cs o) d)
    (hsets : ∀ x ∈ objsT t.tree, x.type = ty → ps x = osBit x ∧ cs x = osBit x)
    (prot : RObj → Bool) (hprot : ∀ o, prot o = true → (emptyAfter p (shrinkG p o) && removable p o.type) = false)
    (hprot_iff : ∀ o, prot o = true ↔ (o.type = ty ∧ ps o = osBit o ∧ s.mem o.osidx.toNat = true)) :
    (∀ x ∈ objsT t'.tree, x.type = ty → ps x = osBit x ∧ cs x = osBit x ∧ s.mem x.osidx.toNat = true) ∧
    (∀ a : RObj, a.type = ty → cnt ident (ident a) (objsT t'.tree) =
        if s.mem a.osidx.toNat = true then cnt ident (ident a) (objsT t.tree) else 0) := by
  have halive := (leaf_alive_restrictW reorder_perm p ty hkind hrem).1 t.tree hty hleaf
    (fun x hx hxt => by rw [hprim, (hsets x hx hxt).1]; exact Hw.Bits.one_shl_ne_zero _)
  rw [restrictCore_kept hc] at halive
  simp only [objsL, List.append_nil] at halive
  have part1 : ∀ x ∈ objsT t'.tree, x.type = ty → ps x = osBit x ∧ cs x = osBit x ∧ s.mem x.osidx.toNat = true := by
    intro x hx hxt
    have hne := halive x hx hxt
    -- `x` is an old object `x0` with every set minus the dropped resources: same type, same os_index
    obtain ⟨x0, hx0, rfl⟩ := mem_of_cnt_le (f := id) (fun a => (restrictCore_exact t p t' hc hok a).2) hx
    obtain ⟨h1, h2⟩ := hsets x0 hx0 hxt
    rw [hprim, (hU x0).1, h1] at hne
    have hmem : d.mem x0.osidx.toNat = false := eq_false_of_ne_true fun hm => hne (minus_bit_of_mem _ d hm)
    rw [(hU x0).1, (hU x0).2, h1, h2]
    refine ⟨minus_bit_of_not_mem _ d hmem, minus_bit_of_not_mem _ d hmem, ?_⟩
    rw [hd, CSet.mem_compl] at hmem
    show s.mem x0.osidx.toNat = true
    simpa using hmem
  refine ⟨part1, ?_⟩
  intro a hat
  have hid : ∀ x, ident x = ident a → x.type = ty ∧ x.osidx = a.osidx := fun x e =>
    ⟨(show (ident x).type = (ident a).type from congrArg RObj.type e).trans hat,
      show (ident x).osidx = (ident a).osidx from congrArg RObj.osidx e⟩
  by_cases hsa : s.mem a.osidx.toNat = true
  · rw [if_pos hsa]
    apply Nat.le_antisymm
    · exact cnt_restrictCore ident (ident a) t p t' hc (fun o => ident_shrinkG p o)
    · have hsv := survive_core ident (ident a) t p t' hc hty prot (fun o => ident_shrinkG p o) hprot
        (fun o ho => by rw [((hprot_iff o).1 ho).1]; exact hkind)
      -- every old object with this identity is protected
      rw [cnt_filter_of_all ident (ident a) prot _ fun x hx h =>
        (hprot_iff x).2 ⟨(hid x h).1, (hsets x hx (hid x h).1).1, by rw [(hid x h).2]; exact hsa⟩] at hsv
      exact hsv
  · rw [if_neg hsa]
    apply cnt_eq_zero_of
    intro x hx e
    have := (part1 x hx (hid x e).1).2.2
    rw [(hid x e).2] at this
    exact hsa this

/-- PUs after a restrict by cpuset (before level merging): every PU of the result still has cpuset = complete cpuset =
    {os_index} with os_index ∈ S, and the PUs of the result are EXACTLY the previous PUs whose os_index is in S (as multisets of
    identities: gp_index, type, os_index, attributes) -/
theorem pus_exact_core (t : Topo) (s : CSet) (flags : Nat) (p : Params) (hp : plan t s flags = some p) (hb : p.byNode = false)
    (t' : Topo) (hc : restrictCore t p = some t') (hok : okT t.tree = true) (hty : typedT t.tree = true)
    (hleaf : puLeafT t.tree = true) (hsets : puSetsT t.tree = true) :
    (∀ x ∈ objsT t'.tree, x.type = tPU → x.cpuset = osBit x ∧ x.ccpuset = osBit x ∧ s.mem x.osidx.toNat = true) ∧
    (∀ a : RObj, a.type = tPU → cnt ident (ident a) (objsT t'.tree) =
        if s.mem a.osidx.toNat = true then cnt ident (ident a) (objsT t.tree) else 0) :=
  have hdc : p.dc = s.compl := plan_dc hp hb
  leaf_exact_core t s p t' hc hok hty tPU (Or.inl (by decide)) (by unfold removable; rw [hb]; rfl) (leafTyT_of_puLeaf _ hleaf)
    (·.cpuset) (·.ccpuset) p.dc hdc (fun o => by simp only [prim, hb, Bool.false_eq_true, if_false]) (fun _ => ⟨rfl, rfl⟩)
    ((puSetsT_iff _).1 hsets) (protPU s) (protPU_ok p s hb hdc)
    (fun o => by simp only [protPU, Bool.and_eq_true, beq_iff_eq, and_assoc])

/-- the BYNODESET mirror: NUMA nodes after a restrict by nodeset (before level merging) keep nodeset = complete nodeset =
    {os_index} with os_index ∈ S, and are EXACTLY the previous NUMA nodes whose os_index is in S -/
theorem numas_exact_core (t : Topo) (s : CSet) (flags : Nat) (p : Params) (hp : plan t s flags = some p) (hb : p.byNode = true)
    (t' : Topo) (hc : restrictCore t p = some t') (hok : okT t.tree = true) (hty : typedT t.tree = true)
    (hsets : numaSetsT t.tree = true) :
    (∀ x ∈ objsT t'.tree, x.type = tNUMA → x.nodeset = osBit x ∧ x.cnodeset = osBit x ∧ s.mem x.osidx.toNat = true) ∧
    (∀ a : RObj, a.type = tNUMA → cnt ident (ident a) (objsT t'.tree) =
        if s.mem a.osidx.toNat = true then cnt ident (ident a) (objsT t.tree) else 0) :=
  have hdn : p.dn = s.compl := plan_dn hp hb
  leaf_exact_core t s p t' hc hok hty tNUMA (Or.inr (by decide)) (by unfold removable; rw [hb]; rfl) (leafTyT_numa_of_typed _ hty)
    (·.nodeset) (·.cnodeset) p.dn hdn (fun o => by simp only [prim, hb, if_true]) (fun _ => ⟨rfl, rfl⟩)
    ((numaSetsT_iff _).1 hsets) (protNUMAn s) (protNUMAn_ok p s hb hdn)
    (fun o => by simp only [protNUMAn, Bool.and_eq_true, beq_iff_eq, and_assoc])

/-! ### the whole call (level merging included) for NUMA nodes -/

theorem keepStructure_nonnormal_mem (filters : List Nat) (t : Tree) (h : typedT t = true)
    (x : RObj) (hx : isNormal x.type = false) : x ∈ objsT (keepStructure filters t) ↔ x ∈ objsT t :=
  (sameObjs_keepStructure_nonnormal filters t h).mem hx

/-- protected non-normal objects survive the whole call (level merging never removes one).  With `protNUMA`: under a restrict
    by cpuset a NUMA node disappears ONLY IF REMOVE_CPULESS is given and it is CPU-less afterwards; with `protNUMAn`: under a restrict
    by nodeset to S a NUMA node with nodeset {os_index}, os_index ∈ S, stays -/
theorem survive_whole_nonnormal (t : Topo) (s : CSet) (flags : Nat) (p : Params) (hp : plan t s flags = some p)
    (hret : (restrict t s flags).2 = .ok) (hty : typedT t.tree = true) (prot : RObj → Bool)
    (hprot : ∀ o, prot o = true → (emptyAfter p (shrinkG p o) && removable p o.type) = false)
    (hkind : ∀ o, prot o = true → isNormal o.type = true ∨ isMemory o.type = true) (a : RObj) (ha : isNormal a.type = false) :
    cnt ident (ident a) ((objsT t.tree).filter prot) ≤ cnt ident (ident a) (objsT (restrict t s flags).1.tree) := by
  obtain ⟨t', hc, hres⟩ := restrict_ok_core t s flags p hp hret
  rw [hres, (sameObjs_keepStructure_nonnormal _ _ (restrictCore_typed t p t' hc hty).1).ident ha]
  exact survive_core ident (ident a) t p t' hc hty prot (fun o => ident_shrinkG p o) hprot hkind

/-- the BYNODESET mirror for PUs, up to level merging: a PU disappears from the tree recursion only if REMOVE_MEMLESS is given and
    its nodeset is empty afterwards -/
theorem pu_survive_core (t : Topo) (p : Params) (hb : p.byNode = true) (t' : Topo) (hc : restrictCore t p = some t')
    (hty : typedT t.tree = true) (a : RObj) :
    cnt ident (ident a) ((objsT t.tree).filter (protPUn p)) ≤ cnt ident (ident a) (objsT t'.tree) :=
  survive_core ident (ident a) t p t' hc hty (protPUn p) (fun o => ident_shrinkG p o) (protPUn_ok p hb)
    (prot_kind_pu (protPUn_type p))

/-- NUMA nodes under a restrict by nodeset, whole call: the NUMA nodes of the result are exactly the previous NUMA nodes
    whose os_index is in S, each still with nodeset = complete nodeset = {os_index} (level merging included) -/
theorem numas_exact_whole (t : Topo) (s : CSet) (flags : Nat) (p : Params) (hp : plan t s flags = some p) (hb : p.byNode = true)
    (hret : (restrict t s flags).2 = .ok) (hok : okT t.tree = true) (hty : typedT t.tree = true)
    (hsets : numaSetsT t.tree = true) :
    (∀ x ∈ objsT (restrict t s flags).1.tree, x.type = tNUMA →
        x.nodeset = osBit x ∧ x.cnodeset = osBit x ∧ s.mem x.osidx.toNat = true) ∧
    (∀ a : RObj, a.type = tNUMA → cnt ident (ident a) (objsT (restrict t s flags).1.tree) =
        if s.mem a.osidx.toNat = true then cnt ident (ident a) (objsT t.tree) else 0) := by
  obtain ⟨t', hc, hres⟩ := restrict_ok_core t s flags p hp hret
  have same := sameObjs_keepStructure_nonnormal t'.filters t'.tree (restrictCore_typed t p t' hc hty).1
  have core := numas_exact_core t s flags p hp hb t' hc hok hty hsets
  rw [hres]
  exact ⟨fun x hx hxt => core.1 x ((same.mem (by rw [hxt]; rfl)).1 hx) hxt,
    fun a ha => (same.ident (by rw [ha]; rfl)).trans (core.2 a ha)⟩

end Hw.Topo.Restrict
