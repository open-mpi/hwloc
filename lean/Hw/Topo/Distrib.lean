/-
  Hw.Topo.Distrib — model of hwloc_distrib (include/hwloc/helper.h 955-1015).

  The output array `set[0..n)` is the returned list; the pointer `cpusetp` is the end of the list written so
  far, so `cpusetp[-1]` is its last element (the C asserts `given > 0` before using it, and `given` counts
  exactly the entries written by the current call).  Arithmetic is in `Nat`: the C computes in `unsigned`,
  the theorems and the generator stay below `n * totalWeight + totalWeight < 2^32` where both agree.
-/
import Hw.Topo.Helpers
namespace Hw.Topo

def ceilDiv (a b : Nat) : Nat := (a + b - 1) / b

/-- `(((givenweight+weight) * n + tot_weight-1) / tot_weight) - ((givenweight * n + tot_weight-1) / tot_weight)` -/
def chunkOf (given w n tot : Nat) : Nat := ceilDiv ((given + w) * n) tot - ceilDiv (given * n) tot

/-- `hwloc_bitmap_or(cpusetp[-1], cpusetp[-1], cpuset)` -/
def orIntoLast (l : List Nat) (s : Nat) : List Nat :=
  match l.reverse with
  | [] => []
  | x :: r => ((x ||| s) :: r).reverse

/-- `while (!hwloc_obj_type_is_normal(root->type)) root = root->parent;` -/
def normalAncestor (d : Dump) (o : Obj) : Obj :=
  (climbWhile d (fun a => !isNormal a.type) d.fuel (some o)).getD o

def totWeight (roots : List Obj) : Nat := (roots.map (fun r => weight (cs r))).sum

/-- one iteration of the `for` loop over the roots; state = (sets written so far, givenweight) -/
def distribStep (d : Dump) (untl : Int) (n tot : Nat) (recurse : List Obj → Nat → List Nat)
    (st : List Nat × Nat) (r : Obj) : List Nat × Nat :=
  let cpuset := cs r
  let root := normalAncestor d r
  let w := weight cpuset
  if w = 0 then st else
  let chunk := chunkOf st.2 w n tot
  let out :=
    if root.arity = 0 || chunk ≤ 1 || root.depth ≥ untl then
      (if chunk ≠ 0 then st.1 ++ List.replicate chunk cpuset else orIntoLast st.1 cpuset)
    else st.1 ++ recurse (childObjs d root) chunk
  (out, st.2 + w)

/-- the sets written by `hwloc_distrib(topology, roots, n_roots, set, n, until, flags)` for `n > 0` -/
def distribRec (d : Dump) (untl : Int) (rev : Bool) : Nat → List Obj → Nat → List Nat
  | 0, _, _ => []
  | f+1, roots, n =>
    let order := if rev then roots.reverse else roots
    (order.foldl (distribStep d untl n (totWeight roots) (distribRec d untl rev f)) ([], 0)).1

/-- hwloc_distrib: `none` = -1/EINVAL, `some sets` = 0 with the sets written (possibly none at all when every
    root has an empty cpuset) -/
def distrib (d : Dump) (roots : List Obj) (n : Nat) (untl : Int) (flags : Nat) : Option (List Nat) :=
  if n = 0 || (flags != 0 && flags != 1) then none
  else some (distribRec d untl (flags == 1) (d.depth + 1) roots n)

end Hw.Topo
