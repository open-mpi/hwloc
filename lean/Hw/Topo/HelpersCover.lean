/-
  Hw.Topo.HelpersCover — hwloc_get_obj_covering_cpuset and hwloc_get_largest_objs_inside_cpuset on a dump satisfying
  `Tree`.  The traversal with `max` slots is a prefix of the one without (`largestAll`, `largestRec_eq_take`), and the
  properties are proved of the latter.
-/
import Hw.Topo.HelpersAnc
import Hw.Base.ListLemmas
namespace Hw.Topo

/-! ### covering -/

theorem Tree.childCovering_eq {d : Dump} (ht : Tree d) {S : Nat} {cur : Obj} (hcur : cur ∈ d.objs) (hS : S ≠ 0) :
    childCovering d S cur = (childObjs d cur).find? (fun c => subset S (cs c)) := by
  unfold childCovering
  rw [if_neg (by simpa using hS), ht.childChain_eq hcur]
  apply find?_congr
  intro c hc
  rw [(ht.child_facts hcur hc).2.2.2.2.2.2, Bool.true_and]

theorem Tree.coveringFrom_spec {d : Dump} (ht : Tree d) {S : Nat} (hS : S ≠ 0) :
    ∀ (f : Nat) (cur : Obj), cur ∈ d.objs → isNormal cur.type = true → (d.depth : Int) ≤ cur.depth + (f : Int) →
      subset S (cs cur) = true →
      coveringFrom d S f cur ∈ d.objs ∧ isNormal (coveringFrom d S f cur).type = true ∧
        subset S (cs (coveringFrom d S f cur)) = true ∧ AncSelf d cur (coveringFrom d S f cur) ∧
        ∀ ch ∈ childObjs d (coveringFrom d S f cur), subset S (cs ch) = false := by
  refine ht.down_ind _ fun f cur hcur hn ih hsub => ?_
  rw [coveringFrom, ht.childCovering_eq hcur hS]
  cases hcc : (childObjs d cur).find? (fun c => subset S (cs c)) with
  | none => exact ⟨hcur, hn, hsub, .refl _, fun c hc => by simpa using List.find?_eq_none.1 hcc c hc⟩
  | some c =>
    have hc := List.mem_of_find?_eq_some hcc
    obtain ⟨c1, c2, c3, _⟩ := ht.child_facts hcur hc
    obtain ⟨i1, i2, i3, i4, i5⟩ := ih c hc c1 c2 (List.find?_some (p := fun c => subset S (cs c)) hcc)
    exact ⟨i1, i2, i3, (AncSelf.up c3 (.refl _)).trans i4, i5⟩

theorem covering_none {d : Dump} {S : Nat} {r : Obj} (hr : d.rootObj? = some r)
    (h : S = 0 ∨ subset S (cs r) = false) : objCovering d S = none := by
  unfold objCovering; rw [hr]
  rcases h with h | h <;> simp [h]

theorem covering_deepest {d : Dump} (ht : Tree d) {S : Nat} {r : Obj} (hS : S ≠ 0) (hr : d.rootObj? = some r)
    (hsub : subset S (cs r) = true) :
    ∃ c, objCovering d S = some c ∧ c ∈ d.objs ∧ isNormal c.type = true ∧ subset S (cs c) = true ∧
      ∀ o ∈ d.objs, isNormal o.type = true → subset S (cs o) = true → AncSelf d o c := by
  obtain ⟨r', hr', hrm, _, _, hrn, hrd⟩ := ht.rootObj
  rw [hr] at hr'; cases hr'
  obtain ⟨h1, h2, h3, _, h4⟩ := ht.coveringFrom_spec hS d.fuel r hrm hrn (ht.root_fuel hrd) hsub
  refine ⟨coveringFrom d S d.fuel r, ?_, h1, h2, h3, fun o ho hno hso => ?_⟩
  · unfold objCovering; rw [hr]; simp [hS, hsub]
  -- `o` and the result share the bits of `S`, so they are comparable; a child of the result on the way down
  -- to `o` would include `S`
  obtain ⟨i, hi⟩ := Bits.ne_zero_iff.1 hS
  rcases ht.comparable_of_bit ho h1 hno h2 (subset_iff_bits.1 hso i hi) (subset_iff_bits.1 h3 i hi) with h | h
  · exact h
  · rcases h.top_cases with e | ⟨c, hc, hco⟩
    · rw [e]; exact .refl _
    · obtain ⟨c1, c2, _, _, c4⟩ := ht.ancSelf_normal hco ho hno
      have := h4 c (ht.mem_childObjs_of_parent c1 c2 hc)
      rw [subset_trans hso c4] at this
      cases this

/-! ### largest objects inside -/

theorem largest_not_included {d : Dump} {S : Nat} {r : Obj} (max : Int) (hr : d.rootObj? = some r)
    (h : subset S (cs r) = false) : (largestObjs d S max).1 = -1 := by
  unfold largestObjs; rw [hr]; simp [h]

theorem largest_max_nonpos {d : Dump} {S : Nat} {r : Obj} {max : Int} (hr : d.rootObj? = some r)
    (h : subset S (cs r) = true) (hm : max ≤ 0) : largestObjs d S max = (0, []) := by
  unfold largestObjs; rw [hr]; simp [h, hm]

/-- unbounded variant of `largestRec`: all the maximal objects, without the `max` slots limit -/
def largestAll (d : Dump) : Nat → Obj → Nat → List Obj
  | 0, _, _ => []
  | f+1, cur, S =>
    if cs cur == S then [cur] else
    (childObjs d cur).flatMap (fun c => if intersects S (cs c) then largestAll d f c (S &&& cs c) else [])

theorem largest_fold_aux (d : Dump) (f S M : Nat)
    (ih : ∀ c S' m, largestRec d f c S' m = (largestAll d f c S').take m) :
    ∀ (l acc : List Obj),
      l.foldl (fun (acc : List Obj) c =>
          if acc.length ≥ M then acc
          else if !intersects S (cs c) then acc
          else acc ++ largestRec d f c (S &&& cs c) (M - acc.length)) (acc.take M)
      = (acc ++ l.flatMap (fun c => if intersects S (cs c) then largestAll d f c (S &&& cs c) else [])).take M := by
  intro l
  induction l with
  | nil => intro acc; simp
  | cons c l ihl =>
    intro acc
    simp only [List.foldl_cons, List.flatMap_cons]
    rw [← List.append_assoc, ← ihl]
    congr 1
    by_cases hlen : M ≤ acc.length
    · rw [if_pos (by rw [List.length_take]; omega), List.take_append_of_le_length hlen]
    · rw [show acc.take M = acc from List.take_of_length_le (by omega), if_neg hlen]
      by_cases hint : intersects S (cs c) = true
      · simp only [hint, Bool.not_true, Bool.false_eq_true, if_false, if_true]
        rw [ih, List.take_append, List.take_of_length_le (Nat.le_of_not_le hlen)]
      · simp only [Bool.not_eq_true] at hint
        simp only [hint, Bool.not_false, if_true, Bool.false_eq_true, if_false]
        rw [List.append_nil, List.take_of_length_le (Nat.le_of_not_le hlen)]

theorem largestRec_eq_take (d : Dump) : ∀ (f : Nat) (cur : Obj) (S M : Nat),
    largestRec d f cur S M = (largestAll d f cur S).take M := by
  intro f
  induction f with
  | zero => intro cur S M; simp [largestRec, largestAll]
  | succ f ih =>
    intro cur S M
    simp only [largestRec, largestAll]
    by_cases hM : M = 0
    · simp [hM]
    · rw [if_neg hM]
      by_cases hcs : (cs cur == S) = true
      · rw [if_pos hcs, if_pos hcs, List.take_of_length_le]
        simp; omega
      · rw [if_neg hcs, if_neg hcs]
        have := largest_fold_aux d f S M ih (childObjs d cur) []
        rw [List.take_nil, List.nil_append] at this
        exact this

theorem largest_max (d : Dump) (f : Nat) (cur : Obj) (S : Nat) {m M : Nat} (hmM : m ≤ M) :
    largestRec d f cur S m = (largestRec d f cur S M).take m := by
  rw [largestRec_eq_take, largestRec_eq_take, List.take_take, Nat.min_eq_left hmM]

theorem largestObjs_pos {d : Dump} {S : Nat} {r : Obj} {max : Int} (hr : d.rootObj? = some r)
    (h : subset S (cs r) = true) (hm : 0 < max) :
    largestObjs d S max = (((largestRec d d.fuel r S max.toNat).length : Int), largestRec d d.fuel r S max.toNat) := by
  unfold largestObjs; rw [hr]; simp [h, Int.not_le.2 hm]

theorem largestObjs_max (d : Dump) (S : Nat) {m M : Int} (hm : 0 < m) (hmM : m ≤ M) :
    (largestObjs d S m).2 = ((largestObjs d S M).2).take m.toNat ∧
    (largestObjs d S m).1 = min m (largestObjs d S M).1 := by
  cases hr : d.rootObj? with
  | none => unfold largestObjs; rw [hr]; simp; omega
  | some r =>
    by_cases hs : subset S (cs r) = true
    · rw [largestObjs_pos hr hs hm, largestObjs_pos hr hs (Int.lt_of_lt_of_le hm hmM),
        largest_max d _ r S (m := m.toNat) (M := M.toNat) (by omega)]
      refine ⟨rfl, ?_⟩
      rw [List.length_take]; omega
    · unfold largestObjs; rw [hr]; simp [hs]; omega

/-! ### the partition theorem -/

theorem and_and_of_subset {S p c : Nat} (h : subset c p = true) : S &&& p &&& c = S &&& c := by
  rw [Nat.and_assoc, Nat.and_comm p c, beq_iff_eq.1 h]

/-- the test `cs cur == S` of the traversal, on the restricted set -/
theorem beq_and_self (a S : Nat) : (a == S &&& a) = subset a S := by
  rw [subset, Nat.and_comm, BEq.comm]

theorem nodup_of_disjoint {l : List Obj} (hp : l.Pairwise (fun a b => Hw.Topo.disjoint (cs a) (cs b) = true))
    (hne : ∀ o ∈ l, cs o ≠ 0) : l.Nodup := by
  rw [List.nodup_iff_pairwise_ne]
  refine hp.imp_of_mem fun {a b} ha _ hab heq => ?_
  obtain ⟨i, hi⟩ := Bits.ne_zero_iff.1 (hne a ha)
  rw [← heq, disjoint_iff] at hab
  exact hab i ⟨hi, hi⟩

theorem Tree.leaf_subset {d : Dump} (ht : Tree d) {S : Nat} {o : Obj} (ho : o ∈ d.objs) (hn : isNormal o.type = true)
    (har : o.arity = 0) (h : intersects (cs o) S = true) : subset (cs o) S = true := by
  obtain ⟨i, hi1, hi2⟩ := (intersects_iff _ _).1 h
  have hsing := ht.leaf_single ho hn har (Bits.ne_zero_iff.2 ⟨i, hi1⟩)
  rw [hsing, testBit_single] at hi1
  rw [hsing, of_decide_eq_true hi1]
  exact single_subset hi2

theorem orAll_flatMap_aux (L : List Obj) (G : Obj → List Obj) (S : Nat)
    (h : ∀ c ∈ L, orAll ((G c).map cs) = S &&& cs c) :
    orAll ((L.flatMap G).map cs) = S &&& orAll (L.map cs) := by
  induction L with
  | nil => exact (Nat.and_zero S).symm
  | cons c L ih =>
    rw [List.flatMap_cons, List.map_append, orAll_append, h c List.mem_cons_self,
      ih fun x hx => h x (List.mem_cons_of_mem _ hx), List.map_cons, orAll_cons, Nat.and_or_distrib_left]

/-- the properties of one result object (relative to the requested set `S`) -/
def LargestOk (d : Dump) (S : Nat) (o : Obj) : Prop :=
  o ∈ d.objs ∧ isNormal o.type = true ∧ subset (cs o) S = true ∧
    (∀ p, d.obj? o.parent = some p → subset (cs p) S = false)

theorem Tree.largestAll_spec {d : Dump} (ht : Tree d) (S : Nat) :
    ∀ (f : Nat) (cur : Obj), cur ∈ d.objs → isNormal cur.type = true →
      (d.depth : Int) ≤ cur.depth + (f : Int) →
      (∀ p, d.obj? cur.parent = some p → subset (cs p) S = false) →
      (largestAll d f cur (S &&& cs cur)).Pairwise (fun a b => Hw.Topo.disjoint (cs a) (cs b) = true) ∧
      (largestAll d f cur (S &&& cs cur)).Nodup ∧
      (∀ o ∈ largestAll d f cur (S &&& cs cur), LargestOk d S o ∧ (cs cur ≠ 0 → cs o ≠ 0)) ∧
      orAll ((largestAll d f cur (S &&& cs cur)).map cs) = S &&& cs cur := by
  refine ht.down_ind _ fun f cur hcur hn ih hpar => ?_
  simp only [largestAll]
  by_cases hcs : (cs cur == S &&& cs cur) = true
  · rw [if_pos hcs]
    have hsub : subset (cs cur) S = true := by rw [← beq_and_self]; exact hcs
    refine ⟨List.pairwise_singleton _ _, by simp, ?_, ?_⟩
    · intro o ho
      rw [List.mem_singleton] at ho; subst ho
      exact ⟨⟨hcur, hn, hsub, hpar⟩, fun h => h⟩
    · exact (orAll_singleton _).trans (beq_iff_eq.1 hcs)
  · rw [if_neg hcs]
    have hns : subset (cs cur) S = false := by rw [← beq_and_self]; exact Bool.eq_false_iff.2 hcs
    generalize hG :
      (fun c => if intersects (S &&& cs cur) (cs c) then largestAll d f c (S &&& cs cur &&& cs c) else []) = G
    have hchild : ∀ c ∈ childObjs d cur, (G c).Pairwise (fun a b => Hw.Topo.disjoint (cs a) (cs b) = true) ∧
        (∀ o ∈ G c, LargestOk d S o ∧ cs o ≠ 0) ∧ orAll ((G c).map cs) = S &&& cs c := by
      intro c hc
      obtain ⟨c1, c2, c3, _, c5, _⟩ := ht.child_facts hcur hc
      simp only [← hG]
      unfold intersects
      rw [and_and_of_subset c5]
      by_cases h0 : S &&& cs c = 0
      · rw [h0, if_neg (by decide)]
        exact ⟨.nil, fun o ho => (by cases ho), rfl⟩
      · rw [if_pos (by simpa using h0)]
        have hparc : ∀ p, d.obj? c.parent = some p → subset (cs p) S = false := by
          intro p hp; rw [c3] at hp; cases hp; exact hns
        obtain ⟨i1, _, i3, i4⟩ := ih c hc c1 c2 hparc
        have hc0 : cs c ≠ 0 := by intro h; apply h0; rw [h, Nat.and_zero]
        exact ⟨i1, fun o ho => ⟨(i3 o ho).1, (i3 o ho).2 hc0⟩, i4⟩
    -- a member of the part of `c` lies inside `cs c`, since the part's union does
    have hin : ∀ {c o : Obj} (hc : c ∈ childObjs d cur), o ∈ G c → subset (cs o) (cs c) = true := fun hc ho =>
      subset_trans ((hchild _ hc).2.2 ▸ subset_orAll (List.mem_map_of_mem ho)) (and_subset_right _ _)
    have hpw : ((childObjs d cur).flatMap G).Pairwise (fun a b => Hw.Topo.disjoint (cs a) (cs b) = true) := by
      rw [List.pairwise_flatMap]
      refine ⟨fun c hc => (hchild c hc).1, (ht.disjoint cur hcur).imp_of_mem ?_⟩
      intro a b ha hb hab x hx y hy
      exact disjoint_mono (hin ha hx) (hin hb hy) hab
    have hmem : ∀ o ∈ (childObjs d cur).flatMap G, LargestOk d S o ∧ cs o ≠ 0 := by
      intro o ho
      obtain ⟨c, hc, hoc⟩ := List.mem_flatMap.1 ho
      exact (hchild c hc).2.1 o hoc
    refine ⟨hpw, nodup_of_disjoint hpw fun o ho => (hmem o ho).2, ?_, ?_⟩
    · exact fun o ho => ⟨(hmem o ho).1, fun _ => (hmem o ho).2⟩
    · rw [orAll_flatMap_aux _ _ S (fun c hc => (hchild c hc).2.2)]
      by_cases har : cur.arity = 0
      · have hnil : childObjs d cur = [] :=
          List.eq_nil_of_length_eq_zero (by rw [(ht.children cur hcur).2.1, (ht.children cur hcur).2.2.1, har])
        -- a leaf that meets `S` is a PU inside `S`
        have : intersects (cs cur) S = false :=
          Bool.eq_false_iff.2 fun hi => Bool.eq_false_iff.1 hns (ht.leaf_subset hcur hn har hi)
        rw [hnil, (by simpa [intersects, Nat.and_comm] using this : S &&& cs cur = 0)]
        exact Nat.and_zero S
      · rw [← ((ht.union cur hcur).1 har).2.2]

theorem Tree.largestObjs_all {d : Dump} (ht : Tree d) {S : Nat} {r : Obj} (hr : d.rootObj? = some r)
    (hsub : subset S (cs r) = true) (max : Int) (hmax : max ≥ d.objs.length) (hpos : 0 < max) :
    largestObjs d S max = (((largestAll d d.fuel r S).length : Int), largestAll d d.fuel r S) ∧
    (largestAll d d.fuel r S).Pairwise (fun a b => Hw.Topo.disjoint (cs a) (cs b) = true) ∧
    (largestAll d d.fuel r S).Nodup ∧
    (∀ o ∈ largestAll d d.fuel r S, LargestOk d S o ∧ (cs r ≠ 0 → cs o ≠ 0)) ∧
    orAll ((largestAll d d.fuel r S).map cs) = S := by
  obtain ⟨r', hr', hrm, hr0, hrp, hrn, hrd⟩ := ht.rootObj
  rw [hr] at hr'; cases hr'
  have hSr : S &&& cs r = S := by unfold subset at hsub; simpa using hsub
  have hpar : ∀ p, d.obj? r.parent = some p → subset (cs p) S = false := by
    intro p hp; rw [hrp] at hp; simp [Dump.obj?] at hp
  obtain ⟨s1, s2, s3, s4⟩ := ht.largestAll_spec S d.fuel r hrm hrn (ht.root_fuel hrd) hpar
  rw [hSr] at s1 s2 s3 s4
  have hlen : (largestAll d d.fuel r S).length ≤ d.objs.length :=
    s2.length_le_of_subset (fun o ho => (s3 o ho).1.1)
  refine ⟨?_, s1, s2, s3, s4⟩
  rw [largestObjs_pos hr hsub hpos, largestRec_eq_take, List.take_of_length_le (by omega)]

theorem largest_partition {d : Dump} (ht : Tree d) {S : Nat} {r : Obj} (hr : d.rootObj? = some r)
    (hsub : subset S (cs r) = true) (max : Int) (hmax : max ≥ d.objs.length) (hpos : 0 < max) :
    (largestObjs d S max).1 = ((largestObjs d S max).2.length : Int) ∧
    (largestObjs d S max).2.Pairwise (fun a b => disjoint (cs a) (cs b) = true) ∧
    (∀ o ∈ (largestObjs d S max).2, o ∈ d.objs ∧ isNormal o.type = true ∧ subset (cs o) S = true ∧
      (∀ p, d.obj? o.parent = some p → subset (cs p) S = false)) ∧
    orAll ((largestObjs d S max).2.map cs) = S := by
  obtain ⟨hl, s1, _, s3, s4⟩ := ht.largestObjs_all hr hsub max hmax hpos
  rw [hl]
  exact ⟨rfl, s1, fun o ho => (s3 o ho).1, s4⟩

/-! ### comparison with the brute-force definition -/

theorem mem_bruteLargest {d : Dump} {S : Nat} {o : Obj} : o ∈ bruteLargest d S ↔
    o ∈ d.objs ∧ isNormal o.type = true ∧ cs o ≠ 0 ∧ subset (cs o) S = true ∧
      (∀ p, d.obj? o.parent = some p → subset (cs p) S = false) := by
  unfold bruteLargest
  rw [List.mem_filter]
  cases hp : d.obj? o.parent with
  | none => simp [and_assoc]
  | some p => simp [and_assoc]

theorem Tree.maximal_top {d : Dump} (ht : Tree d) {S : Nat} {a o : Obj} (h : AncSelf d a o) (ho : o ∈ d.objs)
    (hn : isNormal o.type = true) (ha : subset (cs a) S = true)
    (hmax : ∀ p, d.obj? o.parent = some p → subset (cs p) S = false) : a = o := by
  rcases h.bot_cases with heq | ⟨p, hp, hap⟩
  · exact heq
  · obtain ⟨p1, p2, _⟩ := ht.parent_normal ho hn hp
    have := subset_trans (ht.ancSelf_normal hap p1 p2).2.2.2.2 ha
    rw [hmax p hp] at this; cases this

theorem largest_eq_brute {d : Dump} (ht : Tree d) {S : Nat} {r : Obj} (hr : d.rootObj? = some r)
    (hsub : subset S (cs r) = true) (max : Int) (hmax : max ≥ d.objs.length) (hpos : 0 < max) (hr0 : cs r ≠ 0) :
    (∀ o, o ∈ (largestObjs d S max).2 ↔ o ∈ bruteLargest d S) ∧
    (largestObjs d S max).2.Perm (bruteLargest d S) := by
  obtain ⟨hl, s1, s2, s3, s4⟩ := ht.largestObjs_all hr hsub max hmax hpos
  rw [hl]
  have hmem : ∀ o, o ∈ largestAll d d.fuel r S ↔ o ∈ bruteLargest d S := by
    intro o
    rw [mem_bruteLargest]
    constructor
    · intro ho
      obtain ⟨⟨q1, q2, q3, q4⟩, q5⟩ := s3 o ho
      exact ⟨q1, q2, q5 hr0, q3, q4⟩
    · rintro ⟨b1, b2, b3, b4, b5⟩
      -- a bit `i` of `o` is a bit of some `o'` of the result; they are comparable, and both are maximal inside `S`
      obtain ⟨i, hi⟩ := Bits.ne_zero_iff.1 b3
      have hiS : S.testBit i = true := subset_iff_bits.1 b4 i hi
      rw [← s4] at hiS
      obtain ⟨o', ho', hi'⟩ := (testBit_orAll_map _ _ _).1 hiS
      obtain ⟨⟨q1, q2, q3, q4⟩, _⟩ := s3 o' ho'
      rcases ht.comparable_of_bit b1 q1 b2 q2 hi hi' with h | h
      · rw [ht.maximal_top h q1 q2 b4 q4]; exact ho'
      · rw [← ht.maximal_top h b1 b2 q3 b5]; exact ho'
  refine ⟨hmem, ?_⟩
  have hbn : (bruteLargest d S).Nodup := by
    unfold bruteLargest; rw [List.nodup_iff_pairwise_ne]; exact List.Pairwise.filter _ (ht.objs_sorted.imp fun h e => by rw [e] at h; omega)
  exact (List.perm_ext_iff_of_nodup s2 hbn).2 hmem

/-! ### covering versus the brute-force definition -/

theorem brute_fold_aux (c : Obj) (L : List Obj) (hall : ∀ o ∈ L, o = c ∨ o.depth < c.depth) (hc : c ∈ L) :
    L.foldl (fun (best : Option Obj) o => match best with
      | none => some o
      | some b => if b.depth < o.depth then some o else best) none = some c := by
  -- up to `c` the best is `c` or shallower, so the step on `c` makes it `c`; after that no member is deeper
  obtain ⟨L1, L2, rfl⟩ := List.append_of_mem hc
  have h2 : ∀ best : Option Obj, (∀ b, best = some b → b = c ∨ b.depth < c.depth) →
      (match best with | none => some c | some b => if b.depth < c.depth then some c else best) = some c := by
    intro best h
    cases best with
    | none => rfl
    | some b =>
      rcases h b rfl with rfl | h
      · exact if_neg (Int.lt_irrefl _)
      · exact if_pos h
  rw [List.foldl_append, List.foldl_cons, h2]
  · exact List.foldlRecOn L2 _ (motive := (· = some c)) rfl fun best ih x hx => by
      rw [ih]
      exact if_neg (by rcases hall x (List.mem_append_right _ (List.mem_cons_of_mem _ hx)) with rfl | hx <;> omega)
  · refine List.foldlRecOn L1 _ (motive := fun best => ∀ b, best = some b → b = c ∨ b.depth < c.depth)
      (fun _ h => nomatch h) fun best ih x hx b hb => ?_
    have hx := hall x (List.mem_append_left _ hx)
    cases best with
    | none => cases hb; exact hx
    | some b0 =>
      simp only at hb
      split at hb
      · cases hb; exact hx
      · cases hb; exact ih _ rfl

theorem covering_eq_brute {d : Dump} (ht : Tree d) (S : Nat) : objCovering d S = bruteObjCovering d S := by
  obtain ⟨r, hr, hrm, hrid, _, hrn, _⟩ := ht.rootObj
  by_cases hS : S = 0
  · rw [covering_none hr (Or.inl hS)]; simp [bruteObjCovering, hS]
  unfold bruteObjCovering
  rw [if_neg (by simpa using hS)]
  cases hsub : subset S (cs r) with
  | false =>
    -- every normal object is below the root, so none includes `S`
    have : d.objs.filter (fun o => isNormal o.type && subset S (cs o)) = [] := by
      rw [List.filter_eq_nil_iff]
      intro o ho h
      rw [Bool.and_eq_true] at h
      have := subset_trans h.2 (ht.ancSelf_normal (root_ancSelf ht hrm hrid ho h.1) ho h.1).2.2.2.2
      rw [hsub] at this; cases this
    rw [covering_none hr (Or.inr hsub), this]; rfl
  | true =>
    obtain ⟨c, h1, h2, h3, h4, h5⟩ := covering_deepest ht hS hr hsub
    rw [h1]
    symm
    apply brute_fold_aux c
    · intro o ho
      rw [List.mem_filter, Bool.and_eq_true] at ho
      obtain ⟨ho, hn, hs⟩ := ho
      obtain ⟨_, _, hle, heq, _⟩ := ht.ancSelf_normal (h5 o ho hn hs) h2 h3
      by_cases hd : o.depth = c.depth
      · exact .inl (heq hd)
      · exact .inr (by omega)
    · exact List.mem_filter.2 ⟨h2, by simp [h3, h4]⟩

end Hw.Topo
