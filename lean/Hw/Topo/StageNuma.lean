/-
  Hw.Topo.StageNuma — a non-normal object that `remove_empty` visits (a member of `objsNM`: reached from the root through normal
  and memory children lists only; I/O and Misc subtrees are not covered) and whose nodeset is not empty survives `remove_empty` and
  level merging; with a NUMA node as that object the final render satisfies the WF clause numa-exists.
-/
import Hw.Topo.StageRemoveEmptyKept
import Hw.Topo.RestrictSurvive
import Hw.Topo.RenderTop
namespace Hw.Topo.Restrict.Stage
open Hw.Topo Hw.Topo.Restrict

theorem objsNM_sub : ∀ t, ∀ x ∈ objsNM t, x ∈ objsT t := by
  apply Tree.indNM
  intro o ns ms ios mis ihn ihm x hx
  rw [objsNM] at hx
  rw [objsT]
  simp only [List.mem_cons, List.mem_append, mem_objsNML, mem_objsL_iff] at hx ⊢
  rcases hx with hx | ⟨c, hc, hx⟩ | ⟨c, hc, hx⟩
  · exact Or.inl hx
  · exact Or.inr (Or.inl (Or.inl (Or.inl ⟨c, hc, ihn c hc x hx⟩)))
  · exact Or.inr (Or.inl (Or.inl (Or.inr ⟨c, hc, ihm c hc x hx⟩)))

/-- level merging leaves every non-normal object as it is, so only `remove_empty` has to be survived -/
theorem pipeline_keeps_nonnormal (filters : List Nat) (t0 t1 : Tree) (hty : typedT t0 = true) (h1 : removeEmpty t0 = some t1)
    (x : RObj) (hx : x ∈ objsNM t0) (hk : isNormal x.type = false) (he : emptySet x = false) :
    x ∈ objsT (keepStructure filters t1) :=
  (keepStructure_nonnormal_mem filters t1 (removeEmpty_typed _ t1 h1 hty).1 x hk).2
    (objsNM_sub t1 x ((removeEmpty_objs t0 t1 h1).1 x hx he))

/-- **numa-exists for the composed pipeline**: a visited NUMA node with a non-empty nodeset survives, so the dump rendered from the
    final tree has a non-empty NUMA level -/
theorem pipeline_numa_exists (filters : List Nat) (hdr : Hdr) (ex : RObj → Extra) (t0 t1 : Tree) (hty : typedT t0 = true)
    (h1 : removeEmpty t0 = some t1) (hn : ∃ x ∈ objsNM t0, x.type = tNUMA ∧ x.nodeset ≠ 0) :
    topClause "numa-exists" (render (keepStructure filters t1) hdr ex) (mkAux (render (keepStructure filters t1) hdr ex)) = true := by
  obtain ⟨x, hx, hxt, hne⟩ := hn
  have hk : isNormal x.type = false := by rw [hxt]; decide
  exact render_numa_exists _ ⟨x, pipeline_keeps_nonnormal filters t0 t1 hty h1 x hx hk
    (by unfold emptySet; rw [hk]; simpa using hne), hxt⟩ hdr ex

end Hw.Topo.Restrict.Stage
