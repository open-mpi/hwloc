/-
  Hw.Topo.RestrictExists — a successful restrict leaves a PU and a NUMA node.  Every well-formed dump has both; a call that
  protects one PU (one NUMA node) of its input leaves one in its result, through level merging; and the protected object exists
  whenever the allowed set of its kind is covered by the objects of that kind (`coverT`, an executable predicate the driver
  evaluates on every BEFORE tree): for the call's own kind because a call whose set does not meet the allowed set is refused
  (hwloc_topology_restrict pre-check), for the other kind because every object is protected without the REMOVE_* flag and with
  it the call is refused when every allowed index would be dropped.
-/
import Hw.Topo.RestrictWF
import Hw.Topo.RestrictMerge
import Hw.Topo.RenderPU
namespace Hw.Topo.Restrict
open Hw.Topo Hw.Gen.Restrict

/-! ### a well-formed dump has a PU and a NUMA node -/

theorem wf_level_has {d : Dump} (h : WF d) {dep : Int} {l : Level} (hf : levelOf d dep = some l) (hne : l.objs ≠ []) :
    ∃ o ∈ d.objs, o.depth = dep ∧ (o.type : Int) = l.type := by
  have hl := levelOf_some hf
  obtain ⟨o, ho, _, hod⟩ := h.level_entries hl.1 0 (List.length_pos_iff.2 hne)
  have hom := Dump.mem_of_obj? ho
  obtain ⟨l', hl', _, _, _, hty, _⟩ := h.in_its_level hom
  rw [hod, hl.2, hf] at hl'
  rw [(Option.some.inj hl').symm] at hty
  exact ⟨o, hom, hod.trans hl.2, hty.symm⟩

theorem wf_dump_has_pu {d : Dump} (h : WF d) : ∃ o ∈ d.objs, o.type = tPU := by
  have h1 := h.top_pu_level_deepest
  simp only [Bool.and_eq_true, decide_eq_true_eq] at h1
  cases hf : levelOf d ((d.depth : Int) - 1) with
  | none => rw [hf] at h1; exact absurd h1.1.2 (by simp)
  | some l =>
    rw [hf] at h1
    have h2 := h1.1.2
    simp only [Bool.and_eq_true, beq_iff_eq, Bool.not_eq_true', List.isEmpty_eq_false_iff] at h2
    obtain ⟨o, hom, _, hty⟩ := wf_level_has h hf h2.2
    exact ⟨o, hom, Int.ofNat.inj (hty.trans h2.1)⟩

theorem wf_dump_has_numa {d : Dump} (h : WF d) : ∃ o ∈ d.objs, o.type = tNUMA := by
  have h1 := h.top_clause 5 rfl
  simp only at h1
  cases hf : levelOf d (-3) with
  | none => rw [hf] at h1; exact absurd h1 (by simp)
  | some l =>
    rw [hf] at h1
    simp only [Bool.not_eq_true', List.isEmpty_eq_false_iff] at h1
    obtain ⟨o, hom, hod, _⟩ := wf_level_has h hf h1
    refine ⟨o, hom, ?_⟩
    have hd := h.obj_depth_by_type hom
    cases hs : specialDepth o.type with
    | none =>
      rw [hs] at hd
      simp only [Bool.and_eq_true, decide_eq_true_eq] at hd
      omega
    | some sd =>
      rw [hs] at hd
      simp only [beq_iff_eq] at hd
      exact specialDepth_numa (by rw [hs, ← hd, hod])

theorem wf_tree_has {d : Dump} (h : WF d) (t : Tree) (ht : treeOf d = .ok t) :
    (∃ x ∈ objsT t, x.type = tPU) ∧ (∃ x ∈ objsT t, x.type = tNUMA) := by
  have hp := treeOf_perm h t ht
  obtain ⟨o, ho, hot⟩ := wf_dump_has_pu h
  obtain ⟨n, hn, hnt⟩ := wf_dump_has_numa h
  exact ⟨⟨robjOf o, hp.mem_iff.2 (List.mem_map_of_mem ho), hot⟩, ⟨robjOf n, hp.mem_iff.2 (List.mem_map_of_mem hn), hnt⟩⟩

/-! ### a protected PU / NUMA node of the input is a PU / NUMA node of the result -/

theorem exists_of_protected {prot : RObj → Bool} {x : RObj} {ty : Nat} {l l' : List RObj}
    (h : cnt ident (ident x) (l.filter prot) ≤ cnt ident (ident x) l') (hx : x ∈ l) (hp : prot x = true) (hxt : x.type = ty) :
    ∃ y ∈ l', y.type = ty := by
  obtain ⟨y, hy, e⟩ := (cnt_pos_iff ident (ident x) l').1
    (Nat.lt_of_lt_of_le ((cnt_pos_iff ident (ident x) _).2 ⟨x, List.mem_filter.2 ⟨hx, hp⟩, rfl⟩) h)
  exact ⟨y, hy, (show (ident y).type = (ident x).type from congrArg RObj.type e).trans hxt⟩

/-- a successful call that protects a PU (by cpuset: os_index in S; by nodeset: not (REMOVE_MEMLESS and memory-less afterwards))
    leaves a PU -/
theorem restrict_pu_exists (t : Topo) (s : CSet) (flags : Nat) (p : Params) (hp : plan t s flags = some p)
    (hret : (restrict t s flags).2 = .ok) (hok : okT t.tree = true) (hty : typedT t.tree = true)
    (hr : isNormal t.tree.obj.type = true) (hleaf : puLeafT t.tree = true) (hsets : puSetsT t.tree = true) (hs : mergeSafe t)
    (hex : ∃ x ∈ objsT t.tree, x.type = tPU ∧ (if p.byNode = true then protPUn p x = true else s.mem x.osidx.toNat = true)) :
    ∃ y ∈ objsT (restrict t s flags).1.tree, y.type = tPU := by
  obtain ⟨x, hx, hxt, hcond⟩ := hex
  cases hb : p.byNode <;> rw [hb] at hcond
  · -- the PU has cpuset {os_index} with os_index in S: protected by cpuset
    simp only [Bool.false_eq_true, if_false] at hcond
    exact exists_of_protected (survive_whole_pu t s flags p hp hret hty hleaf hs (protPU s)
      (protPU_ok p s hb (plan_dc hp hb)) (prot_kind_pu (protPU_type s)) x hxt) hx
      (by simp only [protPU, hxt, ((puSetsT_iff _).1 hsets x hx hxt).1, hcond, beq_self_eq_true, Bool.and_self]) hxt
  · exact exists_of_protected (survive_whole_pu t s flags p hp hret hty hleaf hs (protPUn p) (protPUn_ok p hb)
      (prot_kind_pu (protPUn_type p)) x hxt) hx hcond hxt

/-- the mirror: a successful call that protects a NUMA node (by nodeset: os_index in S; by cpuset: not (REMOVE_CPULESS and CPU-less
    afterwards)) leaves a NUMA node -/
theorem restrict_numa_exists_tree (t : Topo) (s : CSet) (flags : Nat) (p : Params) (hp : plan t s flags = some p)
    (hret : (restrict t s flags).2 = .ok) (hok : okT t.tree = true) (hty : typedT t.tree = true)
    (hr : isNormal t.tree.obj.type = true) (hsets : numaSetsT t.tree = true)
    (hex : ∃ x ∈ objsT t.tree, x.type = tNUMA ∧ (if p.byNode = true then s.mem x.osidx.toNat = true else protNUMA p x = true)) :
    ∃ y ∈ objsT (restrict t s flags).1.tree, y.type = tNUMA := by
  obtain ⟨x, hx, hxt, hcond⟩ := hex
  have hn : isNormal x.type = false := by rw [hxt]; rfl
  cases hb : p.byNode <;> rw [hb] at hcond
  · exact exists_of_protected (survive_whole_nonnormal t s flags p hp hret hty (protNUMA p) (protNUMA_ok p hb)
      (prot_kind_numa (protNUMA_type p)) x hn) hx hcond hxt
  · simp only [if_true] at hcond
    exact exists_of_protected (survive_whole_nonnormal t s flags p hp hret hty (protNUMAn s)
      (protNUMAn_ok p s hb (plan_dn hp hb)) (prot_kind_numa (protNUMAn_type s)) x hn) hx
      (by simp only [protNUMAn, hxt, ((numaSetsT_iff _).1 hsets x hx hxt).1, hcond, beq_self_eq_true, Bool.and_self]) hxt

/-! ### where the protected object comes from -/

/-- every index of `mask` is the os_index of an object of type `ty` (executable; evaluated by the driver with the allowed cpuset /
    PU and the allowed nodeset / NUMANODE on every well-formed BEFORE dump: C01 clauses allowed-sets +
    cpuset-is-disjoint-union-of-children + pu-cpuset resp. nodeset-decomposition + numa-nodeset) -/
def coverT (mask ty : Nat) (t : Tree) : Bool :=
  (List.range (mask.log2 + 1)).all (fun i => !mask.testBit i || (objsT t).any (fun x => x.type == ty && x.osidx.toNat == i))

theorem coverT_iff (mask ty : Nat) (t : Tree) :
    coverT mask ty t = true ↔ ∀ i, mask.testBit i = true → ∃ x ∈ objsT t, x.type = ty ∧ x.osidx.toNat = i := by
  unfold coverT
  simp only [List.all_eq_true, List.mem_range, Bool.or_eq_true, Bool.not_eq_true', List.any_eq_true, Bool.and_eq_true, beq_iff_eq]
  constructor
  · intro h i hi
    -- a set bit lies below the bound of the scan
    have hlog : i ≤ mask.log2 := (Nat.le_log2 (Hw.Bits.ne_zero_iff.2 ⟨i, hi⟩)).2 (Nat.ge_two_pow_of_testBit hi)
    exact (h i (by omega)).resolve_left (by rw [hi]; exact Bool.noConfusion)
  · intro h i _
    cases hb : mask.testBit i with
    | false => exact Or.inl rfl
    | true => exact Or.inr (h i hb)

/-- without REMOVE_MEMLESS every PU is protected under a restrict by nodeset; without REMOVE_CPULESS every NUMA node under a
    restrict by cpuset -/
theorem prot_of_not_exempt (p : Params) (hx : p.rmExempt = false) (x : RObj) :
    (x.type = tPU → protPUn p x = true) ∧ (x.type = tNUMA → protNUMA p x = true) := by
  unfold protPUn protNUMA
  rw [hx]
  constructor <;> intro e <;> simp [e]

/-- the protected object of the call's own kind: the call is refused unless S meets the allowed set -/
theorem own_kind_protected (t : Topo) (s : CSet) (flags : Nat) (p : Params) (hp : plan t s flags = some p) :
    (p.byNode = false → coverT t.allowedCpu tPU t.tree = true → ∃ x ∈ objsT t.tree, x.type = tPU ∧ s.mem x.osidx.toNat = true) ∧
    (p.byNode = true → coverT t.allowedNode tNUMA t.tree = true → ∃ x ∈ objsT t.tree, x.type = tNUMA ∧ s.mem x.osidx.toNat = true) := by
  have hm := plan_some_meets t s flags p hp
  -- an index of the allowed set in S is the os_index of an object that covers it
  have key : ∀ mask ty, meets mask s = true → coverT mask ty t.tree = true →
      ∃ x ∈ objsT t.tree, x.type = ty ∧ s.mem x.osidx.toNat = true := fun mask ty hms hc =>
    let ⟨i, hi, hsi⟩ := meets_true_exists hms
    let ⟨x, hx, hxt, hxi⟩ := (coverT_iff _ _ _).1 hc i hi
    ⟨x, hx, hxt, by rw [hxi]; exact hsi⟩
  exact ⟨fun hb => key _ _ (hm.1 hb), fun hb => key _ _ (hm.2 hb)⟩

/-! ### the protected object of the OTHER kind under REMOVE_CPULESS / REMOVE_MEMLESS -/

theorem osBit_testBit (x : RObj) : (osBit x).testBit x.osidx.toNat = true := by
  unfold osBit
  rw [Nat.testBit_shiftLeft]
  simp

theorem foldl_or_bit (c : RObj → Bool) (l : List RObj) (init : Nat) (x : RObj) (hx : x ∈ l) (hc : c x = true) :
    (l.foldl (fun acc o => if c o = true then acc ||| osBit o else acc) init).testBit x.osidx.toNat = true := by
  have e : (fun acc o => if c o = true then acc ||| osBit o else acc) =
      fun (acc : Nat) (o : RObj) => acc ||| (if c o = true then osBit o else 0) := by
    funext acc o; split <;> simp
  rw [e, Hw.Bits.testBit_foldl_or, List.any_eq_true.2 ⟨x, hx, by rw [if_pos hc]; exact osBit_testBit x⟩, Bool.or_true]

theorem not_inside_exists {x : Nat} {d : CSet} (h : inside x d = false) : ∃ i, x.testBit i = true ∧ d.mem i = false := by
  obtain ⟨i, hi⟩ := Nat.exists_testBit_of_ne_zero (beq_eq_false_iff_ne.1 h)
  rw [testBit_minus] at hi
  simp only [Bool.and_eq_true, Bool.not_eq_true'] at hi
  exact ⟨i, hi.1, hi.2⟩

theorem ofMask_mem (m i : Nat) : (CSet.ofMask m).mem i = m.testBit i := by
  unfold CSet.ofMask CSet.mem
  simp

/-- when not every index of a mask covered by the objects of type `ty` is the os_index of an object of that type that meets
    `c`, some object of type `ty` does not meet `c` (the dropped sets of REMOVE_CPULESS / REMOVE_MEMLESS are such folds) -/
theorem exists_not_dropped (c : RObj → Bool) (ty mask : Nat) (T : Tree) (hc : coverT mask ty T = true)
    (hin : inside mask (CSet.ofMask (((objsT T).filter (fun o => o.type == ty)).foldl
      (fun acc o => if c o = true then acc ||| osBit o else acc) 0)) = false) :
    ∃ x ∈ objsT T, x.type = ty ∧ c x = false := by
  obtain ⟨i, hi, hni⟩ := not_inside_exists hin
  obtain ⟨x, hxm, hxt, hxi⟩ := (coverT_iff _ _ _).1 hc i hi
  refine ⟨x, hxm, hxt, ?_⟩
  rw [ofMask_mem] at hni
  cases hcx : c x with
  | false => rfl
  | true =>
    have := foldl_or_bit c ((objsT T).filter (fun o => o.type == ty)) 0 x (List.mem_filter.2 ⟨hxm, by rw [hxt]; exact beq_self_eq_true ty⟩) hcx
    rw [hxi, hni] at this
    cases this

/-- under REMOVE_CPULESS (by cpuset) a call is refused when every allowed node would be dropped; so some allowed index is not the
    os_index of a dropped node, and when the allowed nodeset is covered, the NUMA node that carries it is protected; the mirror under
    REMOVE_MEMLESS (by nodeset) -/
theorem other_kind_protected (t : Topo) (s : CSet) (flags : Nat) (p : Params) (hp : plan t s flags = some p)
    (hx : p.rmExempt = true) :
    (p.byNode = false → coverT t.allowedNode tNUMA t.tree = true → ∃ x ∈ objsT t.tree, x.type = tNUMA ∧ protNUMA p x = true) ∧
    (p.byNode = true → coverT t.allowedCpu tPU t.tree = true → ∃ x ∈ objsT t.tree, x.type = tPU ∧ protPUn p x = true) := by
  have hs := plan_some t s flags p hp
  constructor
  · intro hb hc
    obtain ⟨hdc, _, _, hrm⟩ := hs.2.2.2.1 hb
    obtain ⟨hdn, hin⟩ := hrm hx
    rw [hdn] at hin
    obtain ⟨x, hxm, hxt, hcond⟩ := exists_not_dropped (fun o => o.cpuset == 0 || inside o.cpuset s.compl) tNUMA _ _ hc hin
    -- not dropped: the cpuset is not inside the dropped cpuset, so what the guarded subtraction leaves is not empty
    have hne : (shrinkG p x).cpuset ≠ 0 := by
      rw [shrinkG_cpuset, hdc]; exact guarded_ne_zero_of_not_inside _ (Bool.or_eq_false_iff.1 hcond).2
    exact ⟨x, hxm, hxt, by simp [protNUMA, hxt, hne]⟩
  · intro hb hc
    obtain ⟨hdn, _, _, hrm⟩ := hs.2.2.2.2 hb
    obtain ⟨hdc, hin⟩ := hrm hx
    rw [hdc] at hin
    obtain ⟨x, hxm, hxt, hcond⟩ := exists_not_dropped (fun o => o.cpuset == 0 || inside o.nodeset s.compl) tPU _ _ hc hin
    have hne : (shrinkG p x).nodeset ≠ 0 := by
      rw [shrinkG_nodeset, hdn]; exact guarded_ne_zero_of_not_inside _ (Bool.or_eq_false_iff.1 hcond).2
    exact ⟨x, hxm, hxt, by simp [protPUn, hxt, hne]⟩

end Hw.Topo.Restrict
