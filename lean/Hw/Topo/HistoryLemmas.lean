/-
  Hw.Topo.HistoryLemmas — the modelled calls preserve well-formedness: hwloc_topology_allow (which leaves the topology
  untouched on EINVAL) changes only the allowed sets, which three clauses read; the info / subtype edits change what no
  clause reads.
-/
import Hw.Topo.History
import Hw.Topo.WFTree
import Hw.Topo.Sets
namespace Hw.Topo.Hist
open Hw.Topo

theorem allow_cases (d : Dump) (f : Nat) (c n : Option Nat) :
    allow d f c n = (d, .einval) ∨ ∃ root x y, d.objs[0]? = some root ∧ allowSets d root f c n = some (x, y) ∧
      allow d f c n = ({ d with allowedCpuset := x, allowedNodeset := y }, .ok 0) := by
  unfold allow
  cases hr : d.objs[0]? with
  | none => exact .inl rfl
  | some root =>
    simp only
    cases ha : allowSets d root f c n with
    | none => exact .inl rfl
    | some p => exact .inr ⟨root, p.1, p.2, rfl, ha, rfl⟩

theorem allow_einval_unchanged (d : Dump) (f : Nat) (c n : Option Nat) (h : (allow d f c n).2 = .einval) :
    (allow d f c n).1 = d := by
  rcases allow_cases d f c n with e | ⟨_, _, _, _, _, e⟩
  · rw [e]
  · rw [e] at h; cases h

theorem pick_inside {r : Nat} {old : Option Nat} (ho : old.isSome = true) (hs : subset (old.getD 0) r = true) (s : Option Nat) :
    (pick r s old).isSome = true ∧ subset ((pick r s old).getD 0) r = true := by
  cases s with
  | none => exact ⟨ho, hs⟩
  | some c => exact ⟨rfl, and_subset_left r c⟩

theorem allowSets_some {d : Dump} {root : Obj} {f : Nat} {c n x y : Option Nat} (h : allowSets d root f c n = some (x, y)) :
    flagIncludeDisallowed d = true ∧
    (x = root.cpuset ∧ y = root.nodeset ∨
      x = pick (root.cpuset.getD 0) c d.allowedCpuset ∧ y = pick (root.nodeset.getD 0) n d.allowedNodeset) := by
  revert h
  unfold allowSets
  refine Hw.ite_pred (· = some (x, y) → _) (fun _ e => nomatch e) fun hf => ?_
  have hf : flagIncludeDisallowed d = true := by simpa using hf
  refine Hw.ite_pred (· = some (x, y) → _) (fun _ e => nomatch e) fun _ => ?_
  refine Hw.ite_pred (· = some (x, y) → _) (fun _ => ?_) fun _ => ?_
  · exact Hw.ite_pred (· = some (x, y) → _) (fun _ e => nomatch e) fun _ e => by cases e; exact ⟨hf, .inl ⟨rfl, rfl⟩⟩
  refine Hw.ite_pred (· = some (x, y) → _) (fun _ => ?_) fun _ e => nomatch e
  exact Hw.ite_pred (· = some (x, y) → _) (fun _ e => nomatch e) fun _ e => by cases e; exact ⟨hf, .inr ⟨rfl, rfl⟩⟩

theorem mkAux_allow (d : Dump) (x y : Option Nat) :
    mkAux { d with allowedCpuset := x, allowedNodeset := y } = mkAux d := rfl

/-- object-level clauses do not look at the allowed sets, except the two that INCLUDE_DISALLOWED switches off -/
theorem allow_obj_irrel (d : Dump) (x y : Option Nat) :
    ∀ c ∈ objClauses, c.1 ≠ "pu-allowed" → c.1 ≠ "numa-allowed" →
      ∀ a o, c.2 { d with allowedCpuset := x, allowedNodeset := y } a o = c.2 d a o := by
  unfold objClauses
  exact AllP.forall_mem ⟨fun _ _ _ _ => rfl, fun _ _ _ _ => rfl, fun _ _ _ _ => rfl, fun _ _ _ _ => rfl, fun _ _ _ _ => rfl, fun _ _ _ _ => rfl,
    fun _ _ _ _ => rfl, fun _ _ _ _ => rfl, fun _ _ _ _ => rfl, fun _ _ _ _ => rfl, fun _ _ _ _ => rfl, fun _ _ _ _ => rfl, fun _ _ _ _ => rfl,
    fun _ _ _ _ => rfl, fun _ _ _ _ => rfl, fun _ _ _ _ => rfl, fun _ _ _ _ => rfl, fun _ _ _ _ => rfl, fun _ _ _ _ => rfl, fun _ _ _ _ => rfl,
    fun _ _ _ _ => rfl, fun _ _ _ _ => rfl, fun _ _ _ _ => rfl, fun h => absurd rfl h, fun _ h => absurd rfl h, fun _ _ _ _ => rfl,
    fun _ _ _ _ => rfl, fun _ _ _ _ => rfl, fun _ _ _ _ => rfl, trivial⟩

theorem allow_top_irrel (d : Dump) (x y : Option Nat) :
    ∀ c ∈ topClauses, c.1 ≠ "allowed-sets" →
      ∀ a, c.2 { d with allowedCpuset := x, allowedNodeset := y } a = c.2 d a := by
  unfold topClauses
  exact AllP.forall_mem ⟨fun _ _ => rfl, fun _ _ => rfl, fun _ _ => rfl, fun _ _ => rfl, fun _ _ => rfl, fun _ _ => rfl, fun _ _ => rfl,
    fun _ _ => rfl, fun _ _ => rfl, fun _ _ => rfl, fun _ _ => rfl, fun h => absurd rfl h, fun _ _ => rfl, fun _ _ => rfl, fun _ _ => rfl,
    fun _ _ => rfl, fun _ _ => rfl, fun _ _ => rfl, trivial⟩

theorem allow_wf (d : Dump) (f : Nat) (c n : Option Nat) (h : WF d) : WF (allow d f c n).1 := by
  rcases allow_cases d f c n with e | ⟨root, x, y, hr, ha, e⟩ <;> rw [e]
  · exact h
  have h11 := h.top_clause 11 rfl
  simp only [hr, Bool.and_eq_true] at h11
  obtain ⟨⟨⟨⟨hsc, hsn⟩, hoc⟩, hon⟩, _⟩ := h11
  obtain ⟨hrc, _, hrn, _⟩ := h.sets_present (List.mem_of_getElem? hr) (.inl (by rw [(h.root_machine hr).1]; decide))
  obtain ⟨hincl, hxy⟩ := allowSets_some ha
  have hflag : flagIncludeDisallowed { d with allowedCpuset := x, allowedNodeset := y } = true := hincl
  obtain ⟨⟨hx, hsx⟩, hy, hsy⟩ : (x.isSome = true ∧ subset (x.getD 0) (root.cpuset.getD 0) = true) ∧
      y.isSome = true ∧ subset (y.getD 0) (root.nodeset.getD 0) = true := by
    rcases hxy with ⟨rfl, rfl⟩ | ⟨rfl, rfl⟩
    · exact ⟨⟨hrc, subset_refl _⟩, hrn, subset_refl _⟩
    · exact ⟨pick_inside hsc hoc c, pick_inside hsn hon n⟩
  -- every clause but three does not read the allowed sets; allowed-sets holds of the new ones, the flag switches the other two off
  constructor
  · intro cl hcl
    by_cases hname : cl.1 = "allowed-sets"
    · rw [← topClause_of_mem cl hcl, hname, topClause_of_getElem? (k := 11) rfl]
      simp only [hr, hx, hy, hsx, hsy, hflag, Bool.true_or, Bool.and_self]
    · rw [mkAux_allow, allow_top_irrel d x y cl hcl hname]
      exact h.1 cl hcl
  · intro cl hcl o ho
    by_cases h1 : cl.1 = "pu-allowed"
    · rw [← objClause_of_mem cl hcl, h1, objClause_of_getElem? (k := 23) rfl]
      simp only [hflag, Bool.not_true, Bool.and_false, Bool.false_eq_true, if_false]
    · by_cases h2 : cl.1 = "numa-allowed"
      · rw [← objClause_of_mem cl hcl, h2, objClause_of_getElem? (k := 24) rfl]
        simp only [hflag, Bool.not_true, Bool.and_false, Bool.false_eq_true, if_false]
      · rw [mkAux_allow, allow_obj_irrel d x y cl hcl h1 h2]
        exact h.2 cl hcl o ho

/-! ### editing infos / subtype: `WF` sees only the bare dump -/

/-- an object without what no clause of `WF` reads -/
def bare (o : Obj) : Obj := { o with infos := [], subtype := none }
def bareD (d : Dump) : Dump := { d with objs := d.objs.map bare }

theorem obj?_bareD (d : Dump) (i : Int) : (bareD d).obj? i = (d.obj? i).map bare := by
  unfold Dump.obj? bareD
  split
  · rfl
  · simp [List.getElem?_map]

theorem idOk_bareD (d : Dump) (i : Int) : idOk (bareD d) i = idOk d i := by
  simp [idOk, bareD]

theorem match_obj?_bareD (d : Dump) {β : Type} (i : Int) (n : β) (s s' : Obj → β) (h : ∀ p, s' (bare p) = s p) :
    (match (bareD d).obj? i with | none => n | some p => s' p) = match d.obj? i with | none => n | some p => s p := by
  rw [obj?_bareD]
  cases d.obj? i with
  | none => rfl
  | some p => exact h p

theorem clause_bare (d : Dump) : ∀ c ∈ objClauses, ∀ a o, c.2 (bareD d) a (bare o) = c.2 d a o := by
  have par := @match_obj?_bareD d
  unfold objClauses
  -- in the order of `objClauses`; `par` where the clause looks up the parent or the next sibling
  refine AllP.forall_mem ⟨fun _ o => ?_, fun _ _ => rfl, fun _ _ => rfl, fun _ o => ?_, fun _ o => par _ _ _ _ fun _ => rfl,
    fun _ o => par _ _ _ _ fun _ => rfl, fun _ o => ?_, fun _ _ => rfl, fun _ o => ?_, fun _ o => ?_, fun _ _ => rfl, fun _ _ => rfl,
    fun _ o => par _ _ _ _ fun _ => rfl, fun _ _ => rfl, fun _ _ => rfl, fun _ _ => rfl, fun _ o => par _ _ _ _ fun _ => rfl,
    fun _ _ => rfl, fun _ _ => rfl, fun _ _ => rfl, fun _ o => par _ _ _ _ fun _ => rfl, fun _ _ => rfl, fun _ _ => rfl,
    fun _ _ => rfl, fun _ _ => rfl, fun _ _ => rfl, fun _ _ => rfl, fun _ _ => rfl, fun _ o => par _ _ _ _ fun _ => rfl, trivial⟩
  · simp only [bareD, List.getElem?_map, Option.map_map]; rfl
  · simp only [idOk_bareD]; rfl
  · exact congrArg (_ && List.all _ ·) (funext fun i => par _ _ _ _ fun _ => rfl)
  · simp only [obj?_bareD, bare]
    cases d.obj? o.memFirst <;> cases d.obj? o.ioFirst <;> cases d.obj? o.miscFirst <;> rfl
  · simp only [obj?_bareD, bare]
    cases d.obj? o.parent <;> cases d.obj? o.nextSib <;> cases d.obj? o.prevSib <;> rfl

theorem mkAux_bareD (d : Dump) : mkAux (bareD d) = mkAux d := by
  unfold mkAux bareD
  simp only [List.foldl_map, List.foldr_map, List.length_map]
  rfl

theorem top_bare (d : Dump) : ∀ c ∈ topClauses, ∀ a, c.2 (bareD d) a = c.2 d a := by
  have len : (bareD d).objs.length = d.objs.length := List.length_map ..
  have e0 : (bareD d).objs[0]? = (d.objs[0]?).map bare := List.getElem?_map ..
  have all : ∀ f : Obj → Bool, (∀ o, f (bare o) = f o) → (bareD d).objs.all f = d.objs.all f := fun f hf => by
    simp only [bareD, List.all_map]; exact congrArg _ (funext hf)
  have flt : ∀ (f : Obj → Bool) (g : Obj → Int), (∀ o, f (bare o) = f o) → (∀ o, g (bare o) = g o) →
      ((bareD d).objs.filter f).map g = (d.objs.filter f).map g := fun f g hf hg => by
    simp only [bareD, List.filter_map, List.map_map]
    rw [show f ∘ bare = f from funext hf, show g ∘ bare = g from funext hg]
  unfold topClauses
  -- in the order of `topClauses`; `rfl` where the clause reads the levels and the header only
  refine AllP.forall_mem ⟨fun _ => congrArg (· == _ && _) len, fun _ => ?_, fun _ => all _ fun _ => rfl, fun _ => rfl,
    fun _ => congrArg (_ && ·) (all _ fun _ => rfl), fun _ => rfl, fun _ => rfl, fun _ => congrArg (_ == ·) len, fun _ => ?_,
    fun _ => rfl, fun _ => rfl, fun _ => ?_, fun _ => congrArg (decide <| List.Nodup ·) (flt _ _ (fun _ => rfl) fun _ => rfl),
    fun _ => congrArg (decide <| List.Nodup ·) (flt _ _ (fun _ => rfl) fun _ => rfl), fun _ => ?_, fun _ => rfl,
    fun _ => congrArg (decide <| _ ≤ ·) len, fun _ => rfl, trivial⟩
  · simp only [e0]; cases d.objs[0]? <;> rfl
  · simp only [obj?_bareD]
    exact congrArg _ (funext fun l => congrArg _ (funext fun i => by cases d.obj? (l.objs[i]?.getD (-2)) <;> rfl))
  · simp only [e0]; cases d.objs[0]? <;> rfl
  · simp only [bareD, List.map_map]; rfl
theorem wf_bareD (d : Dump) : WF (bareD d) ↔ WF d := by
  unfold WF
  rw [mkAux_bareD]
  refine and_congr (forall₂_congr fun c hc => by rw [top_bare d c hc]) (forall₂_congr fun c hc => ?_)
  show (∀ o' ∈ d.objs.map bare, _) ↔ _
  rw [List.forall_mem_map]
  exact forall₂_congr fun o _ => by rw [clause_bare d c hc]

theorem modifyObj_wf (d : Dump) (h : WF d) (i : Nat) (f : Obj → Obj) (hf : ∀ o, bare (f o) = bare o) : WF (modifyObj d i f) := by
  have e : bareD (modifyObj d i f) = bareD d := by
    unfold bareD modifyObj
    rw [map_modify_of_inv _ _ _ _ hf]
  exact (wf_bareD _).1 (e ▸ (wf_bareD d).2 h)

theorem step_cases (d : Dump) (op : HOp) :
    (∃ f c n, step d op = allow d f c n) ∨ ∃ i f, (step d op).1 = modifyObj d i f ∧ ∀ o, bare (f o) = bare o := by
  have none : ∀ i, ∃ i f, d = modifyObj d i f ∧ ∀ o, bare (f o) = bare o :=
    fun i => ⟨i, id, by rw [modifyObj, List.modify_id], fun _ => rfl⟩
  cases op with
  | allow f c n => exact .inl ⟨f, c, n, rfl⟩
  | addInfo i n v => simp only [step]; cases d.objs[i]? with
    | none => exact .inr (none i)
    | some o => exact .inr ⟨i, _, rfl, fun _ => rfl⟩
  | modifyInfos i op n v => simp only [step]; cases d.objs[i]? with
    | none => exact .inr (none i)
    | some o => exact .inr ⟨i, _, rfl, fun _ => rfl⟩
  | setSubtype i s => simp only [step]; cases d.objs[i]? with
    | none => exact .inr (none i)
    | some o => exact .inr ⟨i, _, rfl, fun _ => rfl⟩

theorem step_wf (d : Dump) (op : HOp) (h : WF d) : WF (step d op).1 := by
  rcases step_cases d op with ⟨f, c, n, e⟩ | ⟨i, f, e, hf⟩ <;> rw [e]
  · exact allow_wf d f c n h
  · exact modifyObj_wf d h i f hf

theorem history_wf (d : Dump) (ops : List HOp) (h : WF d) : WF (ops.foldl (fun d op => (step d op).1) d) :=
  List.foldlRecOn ops _ h fun d h op _ => step_wf d op h

theorem step_einval_unchanged_allow (d : Dump) (f : Nat) (c n : Option Nat) (h : (step d (.allow f c n)).2 = .einval) :
    (step d (.allow f c n)).1 = d := allow_einval_unchanged d f c n h

end Hw.Topo.Hist
