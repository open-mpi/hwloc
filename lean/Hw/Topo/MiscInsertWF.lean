/-
  Hw.Topo.MiscInsertWF — hwloc_topology_insert_misc_object (dump-level model `Hw.Topo.MiscIns.after`) preserves the clauses
  of well-formedness, for EVERY well-formed dump, every parent `p`, every insertion point `p < pos ≤ #objects` and every
  logical index `k` (the theorems do not depend on the dump being numbered depth-first).
-/
import Hw.Topo.MiscInsertAux
namespace Hw.Topo.MiscIns
open Hw.Topo Hw.Topo.Hist

section
variable {d : Dump} (h : WF d) (p pos k : Nat) (name : Option String) (skip : Nat)
  (hp : p < pos) (hpos : pos ≤ d.objs.length)


include h in
/-- the clause is given by its position in `objClauses` (`hi` by `rfl`) -/
theorem clause_after (i : Nat) {nm : String} {f : Dump → Aux → Obj → Bool} (hi : objClauses[i]? = some (nm, f))
    (hN : f DN (mkAux DN) NEW = true)
    (hU : ∀ o ∈ d.objs, f d (mkAux d) o = true → f DN (mkAux DN) (U o) = true) :
    ∀ o' ∈ Dump.objs DN, objClause nm DN (mkAux DN) o' = true := by
  rw [objClause_of_getElem? hi]
  exact forall_after d p pos k name skip hN fun o ho => hU o ho (h.obj_clause i hi ho)

/-! ### clauses that look up the parent -/

theorem upd_parent (o : Obj) : (U o).parent = shI pos o.parent := rfl
theorem upd_id (o : Obj) : (U o).id = shN pos o.id := rfl

include hp hpos in
theorem obj?_p : (DN).obj? (p : Int) = (d.obj? (p : Int)).map U :=
  after_obj?_lt d p pos k name skip hpos p hp

include h hp hpos in
theorem parent_some : ∃ q, d.obj? (p : Int) = some q ∧ q.id = p ∧ q ∈ d.objs := by
  have hlt : p < d.objs.length := by omega
  refine ⟨d.objs[p], ?_, ?_, List.getElem_mem _⟩
  · rw [Dump.obj?_natCast]; exact List.getElem?_eq_getElem hlt
  · exact h.id_eq_pos (List.getElem?_eq_getElem hlt)

include h hp hpos in
/-- a clause that says `N` of an object without parent and `S` of an object and its parent (`hc` by `rfl`): the parent of an
old object is its old parent as the call leaves it, the parent of the new object is `p` as the call leaves it -/
theorem parent_clause_after (i : Nat) {nm : String} {f : Dump → Aux → Obj → Bool} (hi : objClauses[i]? = some (nm, f))
    {N : Obj → Bool} {S : Dump → Obj → Obj → Bool}
    (hc : ∀ x a o, f x a o = match x.obj? o.parent with | none => N o | some q => S x o q)
    (hNU : ∀ o ∈ d.objs, N o = true → N (U o) = true)
    (hSU : ∀ o ∈ d.objs, ∀ q, d.obj? o.parent = some q → S d o q = true → S DN (U o) (U q) = true)
    (hSN : ∀ q, d.obj? (p : Int) = some q → q.id = p → S DN NEW (U q) = true) :
    ∀ o' ∈ Dump.objs DN, objClause nm DN (mkAux DN) o' = true := by
  refine clause_after h p pos k name skip i hi ?_ fun o ho hold => ?_
  · obtain ⟨q, hq, hqid, _⟩ := parent_some h p pos hp hpos
    rw [hc]
    show (match (DN).obj? (p : Int) with | none => _ | some q => _) = true
    rw [obj?_p p pos k name skip hp hpos, hq]
    exact hSN q hq hqid
  · rw [hc] at hold ⊢
    exact lookup_after d p pos k name skip hpos o.parent (hNU o ho) (hSU o ho) hold

include h hp hpos in
/-- … when `S` reads only fields of the two objects that the call leaves alone -/
theorem parent_clause_same (i : Nat) {nm : String} {f : Dump → Aux → Obj → Bool} (hi : objClauses[i]? = some (nm, f))
    {S : Obj → Obj → Bool} (hc : ∀ x a o, f x a o = match x.obj? o.parent with | none => true | some q => S o q)
    (hSU : ∀ o q, S (U o) (U q) = S o q) (hSN : ∀ q, S NEW (U q) = true) :
    ∀ o' ∈ Dump.objs DN, objClause nm DN (mkAux DN) o' = true :=
  parent_clause_after h p pos k name skip hp hpos i hi (S := fun _ => S) hc (fun _ _ hold => hold)
    (fun o _ q _ hold => (hSU o q).trans hold) (fun q _ _ => hSN q)

include h hp hpos in
theorem c_parent_kind : ∀ o' ∈ Dump.objs DN, objClause "parent-kind" DN (mkAux DN) o' = true := by
  refine parent_clause_after h p pos k name skip hp hpos 4 rfl (fun _ _ _ => rfl) (fun o _ hold => ?_)
    (fun _ _ _ _ hold => hold) (fun _ _ _ => rfl)
  rw [beq_iff_eq] at hold ⊢
  rw [upd_id, hold]; exact shN_of_lt pos 0 (by omega)

include h hp hpos in
theorem c_normal_child_slot : ∀ o' ∈ Dump.objs DN, objClause "normal-child-slot" DN (mkAux DN) o' = true := by
  refine parent_clause_after h p pos k name skip hp hpos 5 rfl (fun _ _ _ => rfl) (fun _ _ hold => hold)
    (fun o _ q _ hold => ?_) (fun _ _ _ => rfl)
  show (if isNormal o.type = true then ((q.children.map (shI pos))[o.rank]? == some ((shN pos o.id : Nat) : Int)) else true) = true
  split
  · rename_i hn
    simp only [hn, if_true, beq_iff_eq] at hold
    rw [List.getElem?_map, hold, ← shI_nat]; simp
  · rfl

include h hpos in
theorem c_id_is_position : ∀ o' ∈ Dump.objs DN, objClause "id-is-position" DN (mkAux DN) o' = true := by
  refine clause_after h p pos k name skip 0 rfl ?_ fun o ho _ => ?_
  · show (((DN).objs[pos]?).map (·.id) == some pos) = true
    rw [after_get_pos d p pos k name skip hpos]; simp [newObj]
  · show (((DN).objs[shN pos o.id]?).map (·.id) == some (shN pos o.id)) = true
    rw [after_get_sh d p pos k name skip hpos, WF.get_id h ho]
    simp [upd]

include h hp hpos in
theorem c_root_or_parent : ∀ o' ∈ Dump.objs DN, objClause "root-or-parent" DN (mkAux DN) o' = true := by
  refine forall_after d p pos k name skip ?_ fun o ho => ?_
  · refine (rootOrParent_iff _ _ _).2 ?_
    show if pos = 0 then (p : Int) = -1 else 0 ≤ (p : Int) ∧ (p : Int).toNat < (DN).objs.length ∧ (p : Int) ≠ (pos : Int)
    rw [if_neg (by omega), after_length]; omega
  · have hold := (rootOrParent_iff d _ o).1 (h.obj_by_name _ o ho)
    refine (rootOrParent_iff _ _ _).2 ?_
    rw [upd_parent, upd_id, after_length]
    by_cases h0 : o.id = 0
    · rw [if_pos h0] at hold
      rw [h0, shN_of_lt pos 0 (by omega), if_pos rfl, hold]; exact shI_m1 pos
    · rw [if_neg h0] at hold
      obtain ⟨h1, h2, h3⟩ := hold
      rw [if_neg (by unfold shN; split <;> omega), shI_toNat pos _ h1, ← shI_nat]
      exact ⟨(shI_nonneg pos _).2 h1, by unfold shN; split <;> omega, fun e => h3 (shI_inj pos _ _ e)⟩

theorem upd_nextSib (o : Obj) : (U o).nextSib = if (o.id : Int) = lastId d p then (pos : Int) else shI pos o.nextSib :=
  updNextSib_eq _ pos o

include h hpos in
theorem c_siblings_ordered : ∀ o' ∈ Dump.objs DN, objClause "siblings-ordered" DN (mkAux DN) o' = true := by
  refine clause_after h p pos k name skip 28 rfl rfl fun o ho hold => ?_
  · rw [upd_nextSib]
    by_cases hc : (o.id : Int) = lastId d p
    · rw [if_pos hc, after_obj?_pos d p pos k name skip hpos]
      show (if (isNormal o.type && isNormal tMISC) = true then _ else if (isMemory o.type && isMemory tMISC) = true then _ else true) = true
      have e1 : isNormal tMISC = false := by decide
      have e2 : isMemory tMISC = false := by decide
      simp only [e1, e2, Bool.and_false, Bool.false_eq_true, if_false]
    · rw [if_neg hc]
      exact lookup_after d p pos k name skip hpos o.nextSib id (fun _ _ hq => hq) hold

/-! ### the previous last Misc child -/

theorem lastId_cases (d : Dump) (p : Nat) : (lastMisc d p = none ∧ lastId d p = -1) ∨
    ∃ L, lastMisc d p = some L ∧ L ∈ d.objs ∧ lastId d p = (L.id : Int) ∧ L.parent = (p : Int) ∧ L.type = tMISC ∧ L.nextSib = -1 := by
  unfold lastId
  cases hL : lastMisc d p with
  | none => exact Or.inl ⟨rfl, rfl⟩
  | some L =>
    refine Or.inr ⟨L, rfl, ?_, rfl, ?_⟩
    · exact List.mem_of_find?_eq_some hL
    · have := List.find?_some hL
      simp only [Bool.and_eq_true, beq_iff_eq] at this
      exact ⟨this.1.1, this.1.2, this.2⟩

include h in
theorem eq_of_id (A B : Obj) (hA : A ∈ d.objs) (hB : B ∈ d.objs) (e : A.id = B.id) : A = B := by
  have a := WF.get_id h hA
  have b := WF.get_id h hB
  rw [e, b] at a; exact (Option.some.inj a).symm

include h in
theorem lastId_obj (c : Obj) (hc : c ∈ d.objs) (e : (c.id : Int) = lastId d p) :
    lastMisc d p = some c ∧ c.parent = (p : Int) ∧ c.type = tMISC ∧ c.nextSib = -1 := by
  rcases lastId_cases d p with ⟨_, h2⟩ | ⟨L, h1, h2, h3, h4, h5, h6⟩
  · omega
  · have : c = L := eq_of_id h c L hc h2 (by omega)
    subst this
    exact ⟨h1, h4, h5, h6⟩

include h in
theorem not_last_of_normal (c : Obj) (hc : c ∈ d.objs) (hn : c.type ≠ tMISC) : (c.id : Int) ≠ lastId d p :=
  fun e => hn (lastId_obj h p c hc e).2.2.1

/-! ### children arrays -/

theorem upd_children (o : Obj) : (U o).children = o.children.map (shI pos) := rfl
theorem upd_prevSib (o : Obj) : (U o).prevSib = shI pos o.prevSib := rfl

include h hpos in
theorem c_children_array : ∀ o' ∈ Dump.objs DN, objClause "children-array" DN (mkAux DN) o' = true := by
  refine clause_after h p pos k name skip 6 rfl rfl fun o ho hold => ?_
  · simp only [Bool.and_eq_true, beq_iff_eq, List.all_eq_true, List.mem_range] at hold ⊢
    obtain ⟨⟨⟨h1, h2⟩, h3⟩, h4⟩ := hold
    refine ⟨⟨⟨?_, ?_⟩, ?_⟩, ?_⟩
    · rw [upd_children, List.length_map]; exact h1
    · show shI pos o.firstChild = ((o.children.map (shI pos)).head?).getD (-1)
      rw [h2, List.head?_map, shI_getD pos _ _ (by omega)]
    · show shI pos o.lastChild = ((o.children.map (shI pos)).getLast?).getD (-1)
      rw [h3, List.getLast?_map, shI_getD pos _ _ (by omega)]
    · intro i hi
      have hc := h4 i hi
      rw [upd_children, map_sh_getD pos _ _ _ (by omega)]
      refine lookup_after d p pos k name skip hpos _ id (fun c hq hc => ?_) hc
      simp only [Bool.and_eq_true, beq_iff_eq] at hc ⊢
      obtain ⟨⟨⟨⟨c1, c2⟩, c3⟩, c4⟩, c5⟩ := hc
      refine ⟨⟨⟨⟨?_, c2⟩, c3⟩, ?_⟩, ?_⟩
      · rw [upd_parent, c1, upd_id, shI_nat]
      · rw [upd_prevSib, c4]; exact (prevAt_map pos o.children i).symm
      · have hn : c.type ≠ tMISC := by
          intro e; rw [e] at c3; exact absurd c3 (by decide)
        rw [upd_nextSib, if_neg (not_last_of_normal h p c (Dump.mem_of_obj? hq) hn), c5, map_sh_getD pos _ _ _ (by omega)]

/-! ### special lists -/

theorem misc_kinds : isNormal tMISC = false ∧ isMemory tMISC = false ∧ isIO tMISC = false ∧ isMisc tMISC = true := by decide

/-- one list head of the clause special-list-heads: the list of `ar` children of kind `kind` of object `oid` starts at `first` -/
def headOk (x : Dump) (oid : Nat) (first : Int) (ar : Nat) (kind : Nat → Bool) : Bool :=
  if ar == 0 then first == -1 else match x.obj? first with
    | none => false
    | some c => c.parent == (oid : Int) && c.rank == 0 && kind c.type && c.prevSib == -1

theorem headOk_iff {x : Dump} {oid : Nat} {first : Int} {ar : Nat} {kind : Nat → Bool} : headOk x oid first ar kind = true ↔
    if ar = 0 then first = -1 else
      ∃ C, x.obj? first = some C ∧ C.parent = (oid : Int) ∧ C.rank = 0 ∧ kind C.type = true ∧ C.prevSib = -1 := by
  unfold headOk
  by_cases ha : ar = 0
  · rw [if_pos ha, if_pos (beq_iff_eq.2 ha), beq_iff_eq]
  · rw [if_neg ha, if_neg (by rwa [beq_iff_eq])]
    cases x.obj? first with
    | none => exact ⟨nofun, fun ⟨_, c, _⟩ => nomatch c⟩
    | some C =>
      simp only [Bool.and_eq_true, beq_iff_eq, and_assoc]
      exact ⟨fun c => ⟨C, rfl, c⟩, fun ⟨_, e, c⟩ => Option.some.inj e ▸ c⟩

/-- … for a list the call does not change -/
theorem headOk_sh (hpos : pos ≤ d.objs.length) (oid : Nat) (first : Int) (ar : Nat) (kind : Nat → Bool)
    (hold : headOk d oid first ar kind = true) : headOk DN (shN pos oid) (shI pos first) ar kind = true := by
  rw [headOk_iff] at hold ⊢
  by_cases ha : ar = 0
  · rw [if_pos ha] at hold ⊢
    rw [hold]; exact shI_m1 pos
  · rw [if_neg ha] at hold ⊢
    obtain ⟨C, hC, c1, c2, c3, c4⟩ := hold
    exact ⟨U C, by rw [after_obj?_sh d p pos k name skip hpos, hC]; rfl, by rw [upd_parent, c1, shI_nat], c2, c3,
      by rw [upd_prevSib, c4]; exact shI_m1 pos⟩

/-! ### special-list-links read as propositions; uniqueness and existence of the last Misc child -/

theorem sameKind_misc (t : Nat) : sameKind t tMISC = isMisc t := by
  simp [sameKind, misc_kinds.1, misc_kinds.2.1, misc_kinds.2.2.1, misc_kinds.2.2.2]

theorem isMisc_eq (t : Nat) (ht : isMisc t = true) : t = tMISC := by
  simpa [isMisc] using ht

include h in
theorem parent_of_misc (A : Obj) (hA : A ∈ d.objs) (hT : A.type = tMISC) : ∃ q, d.obj? A.parent = some q := by
  obtain ⟨q, hq, _⟩ := h.parent_exists hA fun h0 => by
    -- object 0 is the Machine
    have := (h.root_machine (h0 ▸ WF.get_id h hA)).1
    rw [hT] at this; cases this
  exact ⟨q, hq⟩

def arOf (t : Nat) (q : Obj) : Nat := if isMemory t then q.marity else if isIO t then q.ioarity else q.miscarity
def firstOf (t : Nat) (q : Obj) : Int := if isMemory t then q.memFirst else if isIO t then q.ioFirst else q.miscFirst

/-- the body of special-list-links below a known parent -/
def sllBody (x : Dump) (o q : Obj) : Bool :=
  if isNormal o.type then true else
  decide (o.rank < arOf o.type q) && ((o.rank == 0) == (firstOf o.type q == (o.id : Int))) && ((o.rank == 0) == (o.prevSib == -1)) &&
  (match x.obj? o.nextSib with
    | none => o.nextSib == -1 && o.rank + 1 == arOf o.type q
    | some nx => nx.parent == o.parent && sameKind nx.type o.type && nx.rank == o.rank + 1 && nx.prevSib == (o.id : Int)) &&
  (match x.obj? o.prevSib with
    | none => o.prevSib == -1
    | some pv => pv.parent == o.parent && sameKind pv.type o.type && pv.rank + 1 == o.rank && pv.nextSib == (o.id : Int))

/-- … read as propositions: where the two sibling links of `o` lead, in a list of `ar` members that starts at `first` -/
structure Links (x : Dump) (o : Obj) (ar : Nat) (first : Int) : Prop where
  lt : o.rank < ar
  first : o.rank = 0 ↔ first = (o.id : Int)
  next : (o.nextSib = -1 ∧ o.rank + 1 = ar) ∨ ∃ N, x.obj? o.nextSib = some N ∧
    N.parent = o.parent ∧ sameKind N.type o.type = true ∧ N.rank = o.rank + 1 ∧ N.prevSib = (o.id : Int)
  prev : (o.prevSib = -1 ∧ o.rank = 0) ∨ ∃ P, x.obj? o.prevSib = some P ∧
    P.parent = o.parent ∧ sameKind P.type o.type = true ∧ P.rank + 1 = o.rank ∧ P.nextSib = (o.id : Int)

theorem sllBody_iff {x : Dump} {o q : Obj} (hn : isNormal o.type = false) :
    sllBody x o q = true ↔ Links x o (arOf o.type q) (firstOf o.type q) := by
  unfold sllBody
  simp only [hn, Bool.false_eq_true, if_false, Bool.and_eq_true, decide_eq_true_eq]
  constructor
  · rintro ⟨⟨⟨⟨c1, c2⟩, c3⟩, c4⟩, c5⟩
    rw [beq_iff_eq, Bool.eq_iff_iff, beq_iff_eq, beq_iff_eq] at c2 c3
    refine ⟨c1, c2, ?_, ?_⟩
    · split at c4
      next => simp only [Bool.and_eq_true, beq_iff_eq] at c4; exact .inl c4
      next N hN => simp only [Bool.and_eq_true, beq_iff_eq] at c4; exact .inr ⟨N, hN, c4.1.1.1, c4.1.1.2, c4.1.2, c4.2⟩
    · split at c5
      next => rw [beq_iff_eq] at c5; exact .inl ⟨c5, c3.2 c5⟩
      next P hP => simp only [Bool.and_eq_true, beq_iff_eq] at c5; exact .inr ⟨P, hP, c5.1.1.1, c5.1.1.2, c5.1.2, c5.2⟩
  · rintro ⟨c1, c2, c4, c5⟩
    refine ⟨⟨⟨⟨c1, ?_⟩, ?_⟩, ?_⟩, ?_⟩
    · rw [beq_iff_eq, Bool.eq_iff_iff, beq_iff_eq, beq_iff_eq]; exact c2
    · rw [beq_iff_eq, Bool.eq_iff_iff, beq_iff_eq, beq_iff_eq]
      rcases c5 with ⟨e, r⟩ | ⟨P, hP, _, _, r, _⟩
      · exact ⟨fun _ => e, fun _ => r⟩
      · exact ⟨fun z => by omega, fun e => by rw [e, Dump.obj?_neg_one] at hP; cases hP⟩
    · rcases c4 with ⟨e, r⟩ | ⟨N, hN, a, b, c, v⟩
      · rw [e, Dump.obj?_neg_one]; simp [r]
      · rw [hN]; simp only [Bool.and_eq_true, beq_iff_eq]; exact ⟨⟨⟨a, b⟩, c⟩, v⟩
    · rcases c5 with ⟨e, _⟩ | ⟨P, hP, a, b, c, v⟩
      · rw [e, Dump.obj?_neg_one]; rfl
      · rw [hP]; simp only [Bool.and_eq_true, beq_iff_eq]; exact ⟨⟨⟨a, b⟩, c⟩, v⟩

theorem misc_of_sameKind {t t' : Nat} (hs : sameKind t t' = true) (ht : t' = tMISC) : t = tMISC :=
  isMisc_eq t (sameKind_misc t ▸ ht ▸ hs)

include h in
theorem misc_links (A q : Obj) (hA : A ∈ d.objs) (hT : A.type = tMISC) (hq : d.obj? A.parent = some q) :
    Links d A q.miscarity q.miscFirst := by
  have c : (match d.obj? A.parent with | none => true | some q => sllBody d A q) = true := h.obj_clause 9 rfl hA
  rw [hq] at c
  have := (sllBody_iff (by rw [hT]; exact misc_kinds.1)).1 c
  rwa [hT] at this

include h in
theorem last_rank (L q : Obj) (hL : lastMisc d p = some L) (hq : d.obj? (p : Int) = some q) : L.rank + 1 = q.miscarity := by
  rcases lastId_cases d p with ⟨h1, _⟩ | ⟨L', h1, h2, _, h4, h5, h6⟩
  · rw [h1] at hL; cases hL
  · rw [h1] at hL; cases hL
    rcases (misc_links h L q h2 h5 (h4 ▸ hq)).next with e | ⟨N, hN, _⟩
    · exact e.2
    · rw [h6, Dump.obj?_neg_one] at hN; cases hN

include h in
theorem misc_rank_inj : ∀ (r : Nat) (A B : Obj), A ∈ d.objs → B ∈ d.objs → A.type = tMISC → B.type = tMISC →
    A.parent = B.parent → A.rank = r → B.rank = r → A = B := by
  intro r
  induction r with
  | zero =>
    intro A B hA hB tA tB hpar rA rB
    obtain ⟨q, hq⟩ := parent_of_misc h A hA tA
    have ea := (misc_links h A q hA tA hq).first.1 rA
    have eb := (misc_links h B q hB tB (hpar ▸ hq)).first.1 rB
    exact eq_of_id h A B hA hB (by omega)
  | succ r ih =>
    intro A B hA hB tA tB hpar rA rB
    obtain ⟨q, hq⟩ := parent_of_misc h A hA tA
    rcases (misc_links h A q hA tA hq).prev with z | ⟨PA, hpa, pa, ta, ra, na⟩
    · omega
    rcases (misc_links h B q hB tB (hpar ▸ hq)).prev with z | ⟨PB, hpb, pb, tb, rb, nb⟩
    · omega
    -- the two predecessors have rank `r`: they are one object, whose next sibling is both `A` and `B`
    have e : PA = PB := ih PA PB (Dump.mem_of_obj? hpa) (Dump.mem_of_obj? hpb) (misc_of_sameKind ta tA) (misc_of_sameKind tb tB)
      (by rw [pa, pb, hpar]) (by omega) (by omega)
    subst e
    exact eq_of_id h A B hA hB (by omega)

include h in
/-- conversely to `lastId_obj`: a Misc child of `p` without next sibling is the one `lastId` finds (ranks are injective) -/
theorem lastId_of_last (o q : Obj) (ho : o ∈ d.objs) (hT : o.type = tMISC) (hpar : o.parent = (p : Int))
    (hq : d.obj? (p : Int) = some q) (hn : o.nextSib = -1) : (o.id : Int) = lastId d p := by
  rcases lastId_cases d p with ⟨g1, _⟩ | ⟨L, g1, g2, g3, g4, g5, g6⟩
  · have := List.find?_eq_none.1 g1 o ho
    simp [hpar, hT, hn] at this
  · rcases (misc_links h o q ho hT (hpar ▸ hq)).next with lo | ⟨N, hN, _⟩
    · have lr := last_rank h p L q g1 hq
      rw [misc_rank_inj h o.rank o L ho g2 hT g5 (by rw [hpar, g4]) rfl (by omega), g3]
    · rw [hn, Dump.obj?_neg_one] at hN; cases hN

include h in
/-- walking the next_sibling links from a Misc child of `q` reaches one without next sibling -/
theorem last_exists (q : Obj) : ∀ (n : Nat) (A : Obj), A ∈ d.objs → A.type = tMISC → d.obj? A.parent = some q → A.rank + n + 1 = q.miscarity →
    ∃ L, L ∈ d.objs ∧ L.parent = A.parent ∧ L.type = tMISC ∧ L.nextSib = -1 := by
  intro n
  induction n with
  | zero =>
    intro A hA tA hq hr
    rcases (misc_links h A q hA tA hq).next with e | ⟨N, hN, pN, tN, rN, _⟩
    · exact ⟨A, hA, rfl, tA, e.1⟩
    · have := (misc_links h N q (Dump.mem_of_obj? hN) (misc_of_sameKind tN tA) (pN ▸ hq)).lt; omega
  | succ n ih =>
    intro A hA tA hq hr
    rcases (misc_links h A q hA tA hq).next with e | ⟨N, hN, pN, tN, rN, _⟩
    · exact ⟨A, hA, rfl, tA, e.1⟩
    · obtain ⟨L, h1, h2, h3, h4⟩ := ih N (Dump.mem_of_obj? hN) (misc_of_sameKind tN tA) (pN ▸ hq) (by omega)
      exact ⟨L, h1, h2.trans pN, h3, h4⟩

include h in
theorem lastId_none_iff (q : Obj) (hq : d.obj? (p : Int) = some q) : lastId d p = -1 ↔ q.miscarity = 0 := by
  refine ⟨fun e => Decidable.by_contra fun h0 => ?_, fun h0 => ?_⟩
  · have hqid : (q.id : Int) = p := h.id_of_obj? hq
    have c : (headOk d q.id q.memFirst q.marity isMemory && headOk d q.id q.ioFirst q.ioarity isIO &&
      headOk d q.id q.miscFirst q.miscarity isMisc) = true := h.obj_clause 8 rfl (Dump.mem_of_obj? hq)
    rw [Bool.and_eq_true, headOk_iff, if_neg h0] at c
    -- from the first Misc child of `q` along the list to the last one
    obtain ⟨_, C, hc, c1, c2, c3, _⟩ := c
    have hCq : d.obj? C.parent = some q := by rw [c1, hqid]; exact hq
    obtain ⟨L, h1, h2, h3, h4⟩ := last_exists h q (q.miscarity - 1) C (Dump.mem_of_obj? hc) (isMisc_eq _ c3) hCq (by omega)
    have := lastId_of_last h p L q h1 h3 (by rw [h2, c1, hqid]) hq h4
    omega
  · rcases lastId_cases d p with ⟨_, h2⟩ | ⟨L, h1, _⟩
    · exact h2
    · have := last_rank h p L q h1 hq; omega

/-! ### special-list-heads: the clause itself -/

include h hp hpos in
theorem c_special_list_heads : ∀ o' ∈ Dump.objs DN, objClause "special-list-heads" DN (mkAux DN) o' = true := by
  refine clause_after h p pos k name skip 8 rfl rfl fun o ho hold => ?_
  have hold : (headOk d o.id o.memFirst o.marity isMemory && headOk d o.id o.ioFirst o.ioarity isIO &&
    headOk d o.id o.miscFirst o.miscarity isMisc) = true := hold
  show (headOk DN (shN pos o.id) (shI pos o.memFirst) o.marity isMemory && headOk DN (shN pos o.id) (shI pos o.ioFirst) o.ioarity isIO &&
    headOk DN (shN pos o.id) (updMiscFirst p pos o) (updMiscarity p o) isMisc) = true
  simp only [Bool.and_eq_true] at hold ⊢
  obtain ⟨⟨h1, h2⟩, h3⟩ := hold
  have h3' := headOk_sh p pos k name skip hpos _ _ _ _ h3
  refine ⟨⟨headOk_sh p pos k name skip hpos _ _ _ _ h1, headOk_sh p pos k name skip hpos _ _ _ _ h2⟩, ?_⟩
  rw [updMiscarity_eq, updMiscFirst_eq]
  by_cases hop : o.id = p
  · -- the parent: one more Misc child, the new object its first one when it had none
    have hq : d.obj? (p : Int) = some o := hop ▸ h.obj?_id ho
    rw [headOk_iff, if_pos hop, if_neg (Nat.succ_ne_zero _)]
    by_cases hz : o.miscarity = 0
    · rw [if_pos ⟨hop, hz⟩]
      exact ⟨NEW, after_obj?_pos d p pos k name skip hpos, by rw [hop, shN_of_lt pos p hp]; rfl,
        (new_rank d p pos k name skip hq).trans hz, rfl, by
          show shI pos (lastId d p) = -1
          rw [(lastId_none_iff h p o hq).2 hz]; exact shI_m1 pos⟩
    · rw [headOk_iff, if_neg hz] at h3'
      rw [if_neg fun x => hz x.2]
      exact h3'
  · rw [if_neg hop, if_neg fun x => hop x.1]
    exact h3'

/-! ### special-list-links: the clause itself -/

theorem arOf_upd (t : Nat) (q : Obj) : arOf t (U q) = arOf t q ∨
    (arOf t (U q) = arOf t q + 1 ∧ isMemory t = false ∧ isIO t = false ∧ q.id = p) := by
  unfold arOf
  by_cases h1 : isMemory t = true
  · simp only [h1, if_true]; exact Or.inl rfl
  · by_cases h2 : isIO t = true
    · simp only [h1, h2, if_true]; exact Or.inl rfl
    · simp only [h1, h2]
      by_cases h3 : q.id = p
      · right
        exact ⟨(updMiscarity_eq p q).trans (if_pos h3), by simpa using h1, by simpa using h2, h3⟩
      · exact .inl ((updMiscarity_eq p q).trans (if_neg h3))

theorem firstOf_upd (t : Nat) (q : Obj) (hne : arOf t q ≠ 0) : firstOf t (U q) = shI pos (firstOf t q) := by
  unfold firstOf
  unfold arOf at hne
  by_cases h1 : isMemory t = true
  · simp only [h1, if_true]; rfl
  · by_cases h2 : isIO t = true
    · simp only [h1, h2, if_true]; rfl
    · simp only [h1, h2] at hne ⊢
      exact (updMiscFirst_eq p pos q).trans (if_neg fun x => hne x.2)

theorem misc_of_kinds : ∀ t, t < 20 → isNormal t = false → isMemory t = false → isIO t = false → t = tMISC := by decide

theorem upd_type (o : Obj) : (U o).type = o.type := rfl
theorem upd_rank (o : Obj) : (U o).rank = o.rank := rfl

include h hp hpos in
theorem c_special_list_links : ∀ o' ∈ Dump.objs DN, objClause "special-list-links" DN (mkAux DN) o' = true := by
  refine parent_clause_after h p pos k name skip hp hpos 9 rfl (N := fun _ => true) (S := sllBody) (fun _ _ _ => rfl)
    (fun _ _ hold => hold) (fun o ho q hq hold => ?_) (fun q hq hqid => ?_)
  · -- an old object
    cases hn : isNormal o.type with
    | true => unfold sllBody; rw [upd_type, hn]; rfl
    | false =>
      obtain ⟨k1, k2, k4, k5⟩ := (sllBody_iff hn).1 hold
      have hne : arOf o.type q ≠ 0 := Nat.ne_zero_of_lt k1
      have hA := arOf_upd (d := d) p pos k o.type q
      refine (sllBody_iff (x := DN) (o := U o) hn).2 ⟨?_, ?_, ?_, ?_⟩
      · rw [upd_rank, upd_type]
        rcases hA with e | ⟨e, _⟩
        · rw [e]; exact k1
        · rw [e]; exact Nat.lt_succ_of_lt k1
      · show o.rank = 0 ↔ firstOf o.type (U q) = ((shN pos o.id : Nat) : Int)
        rw [firstOf_upd (d := d) p pos k o.type q hne, ← shI_nat]
        exact k2.trans ⟨congrArg _, shI_inj pos _ _⟩
      · -- next sibling
        rw [upd_nextSib]
        by_cases hc : (o.id : Int) = lastId d p
        · -- the old last Misc child of `p`: the new object
          obtain ⟨g1, g4, g5, g6⟩ := lastId_obj h p o ho hc
          have hqp : d.obj? (p : Int) = some q := g4 ▸ hq
          rw [if_pos hc]
          refine .inr ⟨NEW, after_obj?_pos d p pos k name skip hpos, ?_, ?_, ?_, ?_⟩
          · show (p : Int) = shI pos o.parent
            rw [g4, shI_of_lt pos (p : Int) (Int.ofNat_lt.2 hp)]
          · show sameKind tMISC o.type = true
            rw [g5]; rfl
          · rw [new_rank d p pos k name skip hqp]; exact (last_rank h p o q g1 hqp).symm
          · show shI pos (lastId d p) = ((shN pos o.id : Nat) : Int)
            rw [← hc, shI_nat]
        · rw [if_neg hc]
          rcases k4 with ⟨e, r⟩ | ⟨N, hN, a, b, c, v⟩
          · refine .inl ⟨by rw [e]; exact shI_m1 pos, ?_⟩
            rw [upd_rank, upd_type]
            rcases hA with e' | ⟨_, m1, m2, m3⟩
            · rw [e']; exact r
            · exfalso
              -- `o` would be a second Misc child of `p` without next sibling
              have hT : o.type = tMISC := misc_of_kinds o.type (h.obj_type_in_range ho) hn m1 m2
              have hpar : o.parent = (p : Int) := by rw [← h.id_of_obj? hq, m3]
              exact hc (lastId_of_last h p o q ho hT hpar (hpar ▸ hq) e)
          · exact .inr ⟨U N, by rw [after_obj?_sh d p pos k name skip hpos, hN]; rfl, congrArg (shI pos) a, b, c,
              by rw [upd_prevSib, v, upd_id, shI_nat]⟩
      · -- previous sibling
        rcases k5 with ⟨e, r⟩ | ⟨P, hP, a, b, c, v⟩
        · exact .inl ⟨by rw [upd_prevSib, e]; exact shI_m1 pos, r⟩
        · have hnl : (P.id : Int) ≠ lastId d p := fun hc => by
            have := (lastId_obj h p P (Dump.mem_of_obj? hP) hc).2.2.2; omega
          exact .inr ⟨U P, by rw [upd_prevSib, after_obj?_sh d p pos k name skip hpos, hP]; rfl, congrArg (shI pos) a, b, c,
            by rw [upd_nextSib, if_neg hnl, v, upd_id, shI_nat]⟩
  · -- the new object
    have hrank := new_rank d p pos k name skip hq
    have har : arOf tMISC (U q) = q.miscarity + 1 := (updMiscarity_eq p q).trans (if_pos hqid)
    refine (sllBody_iff (x := DN) (o := NEW) misc_kinds.1).2 ⟨?_, ?_, .inl ⟨rfl, ?_⟩, ?_⟩
    · show _ < arOf tMISC (U q)
      rw [hrank, har]; exact Nat.lt_succ_self _
    · rw [hrank]
      show q.miscarity = 0 ↔ updMiscFirst p pos q = (pos : Int)
      rw [updMiscFirst_eq]
      exact ⟨fun hz => if_pos ⟨hqid, hz⟩, fun e => Decidable.by_contra fun hz => shI_ne_pos pos _ ((if_neg fun x => hz x.2).symm.trans e)⟩
    · rw [hrank]; exact har.symm
    · show (shI pos (lastId d p) = -1 ∧ _) ∨ ∃ P, (DN).obj? (shI pos (lastId d p)) = some P ∧ _
      rcases lastId_cases d p with ⟨_, g2⟩ | ⟨L, g1, g2, g3, g4, g5, g6⟩
      · exact .inl ⟨by rw [g2]; exact shI_m1 pos, hrank.trans ((lastId_none_iff h p q hq).1 g2)⟩
      · refine .inr ⟨U L, by rw [after_obj?_sh d p pos k name skip hpos, g3, h.obj?_id g2]; rfl, ?_, ?_, ?_, ?_⟩
        · show shI pos L.parent = (p : Int)
          rw [g4, shI_of_lt pos (p : Int) (Int.ofNat_lt.2 hp)]
        · show sameKind L.type tMISC = true
          rw [g5]; rfl
        · rw [hrank]; exact last_rank h p L q g1 hq
        · rw [upd_nextSib, if_pos g3.symm]; rfl

/-! ### clauses that read the aggregates over the children, at the object's own number -/

include h hp hpos in
theorem c_children_counts : ∀ o' ∈ Dump.objs DN, objClause "children-counts" DN (mkAux DN) o' = true := by
  refine clause_after h p pos k name skip 7 rfl ?_ fun o _ hold => ?_
  · obtain ⟨_, e1, e2, e3, e4⟩ := mkAux_after_pos d p pos k name skip hp hpos
    show (getN (mkAux DN).nNormal pos == 0 && getN (mkAux DN).nMemory pos == 0 && getN (mkAux DN).nIO pos == 0 &&
      getN (mkAux DN).nMisc pos == 0) = true
    rw [e1, e2, e3, e4]; rfl
  · obtain ⟨r, em⟩ := mkAux_after_sh d p pos k name skip hp hpos o.id
    simp only [Bool.and_eq_true, beq_iff_eq] at hold ⊢
    rw [upd_id, r.nNormal, r.nMemory, r.nIO, em, hold.2]
    refine ⟨hold.1, ?_⟩
    exact (updMiscarity_eq p o).symm

include h hp hpos in
theorem c_aux :
    (∀ o' ∈ Dump.objs DN, objClause "cpuset-is-disjoint-union-of-children" DN (mkAux DN) o' = true) ∧
    (∀ o' ∈ Dump.objs DN, objClause "memcache-nodeset" DN (mkAux DN) o' = true) ∧
    (∀ o' ∈ Dump.objs DN, objClause "nodeset-decomposition" DN (mkAux DN) o' = true) ∧
    (∀ o' ∈ Dump.objs DN, objClause "total-memory" DN (mkAux DN) o' = true) := by
  have row := fun (o : Obj) => (mkAux_after_sh d p pos k name skip hp hpos o.id).1
  refine ⟨clause_after h p pos k name skip 19 rfl rfl fun o _ hold => ?_,
    clause_after h p pos k name skip 21 rfl rfl fun o _ hold => ?_,
    clause_after h p pos k name skip 22 rfl rfl fun o _ hold => ?_,
    clause_after h p pos k name skip 25 rfl ?_ fun o _ hold => ?_⟩
  · rw [upd_id, (row o).cpuOr, (row o).cpuDisj]; exact hold
  · rw [upd_id, (row o).memOr, (row o).memDisj]; exact hold
  · rw [upd_id, (row o).memDisj, (row o).belowDisj, (row o).inh, (row o).below]; exact hold
  · show ((NEW).totalMem == (if (NEW).type == tNUMA then _ else 0) + getN (mkAux DN).totSum pos) = true
    rw [(mkAux_after_pos d p pos k name skip hp hpos).1]; rfl
  · rw [upd_id, (row o).totSum]; exact hold

end
end Hw.Topo.MiscIns
