/-
  Hw.Topo.RenderCover — the WF clause levels-cover-objects for `render t` (typed tree, normal root): the lengths of the normal
  levels (a partition of the normal-reachable objects) and of the six special levels (one per non-normal type) add up to the
  number of objects; and the clause type-depth-inverse.
-/
import Hw.Topo.RenderTop
namespace Hw.Topo.Restrict
open Hw.Topo

theorem special_or_normal : ∀ ty, ty < 20 →
    (specialTypes.map (fun k => if ty == k then 1 else 0)).sum = if isNormal ty then 0 else 1 := by decide

theorem special_sum (l : List Occ) (hlt : ∀ oc ∈ l, oc.t.obj.type < 20) :
    (specialTypes.map (fun ty => (specialLevel l ty).length)).sum = l.countP (fun oc => !isNormal oc.t.obj.type) := by
  have e : ∀ l : List Occ, (fun ty => (specialLevel l ty).length) = fun ty => l.countP (fun oc => oc.t.obj.type == ty) := by
    intro l; funext ty; rw [specialLevel, List.length_map, List.countP_eq_length_filter]
  rw [e]
  induction l with
  | nil => rfl
  | cons oc rest ih =>
    rw [sum_countP_cons (fun ty (oc : Occ) => oc.t.obj.type == ty), ih (fun x hx => hlt x (List.mem_cons_of_mem _ hx)),
      special_or_normal _ (hlt oc List.mem_cons_self), List.countP_cons]
    cases isNormal oc.t.obj.type <;> simp only [Bool.not_true, Bool.not_false, Bool.false_eq_true, if_true, if_false] <;> omega

theorem render_levels_cover (t : Tree) (ht : typedT t = true) (hr : isNormal t.obj.type = true) (h : Hdr) (ex : RObj → Extra) :
    topClause "levels-cover-objects" (render t h ex) (mkAux (render t h ex)) = true := by
  refine topClause_intro (k := 7) rfl ?_
  simp only [beq_iff_eq]
  rw [render_levels, List.map_append, List.sum_append, render_objs, List.length_map]
  have hN : ((normalPart t).map (fun l => l.objs.length)).sum = (occs t).countP (fun oc => isNormal oc.t.obj.type) := by
    have e : (fun l : Level => l.objs.length) ∘ mkLevel = (fun l : Nat × List Nat => l.2.length) ∘ Prod.snd :=
      funext fun x => List.length_map _
    rw [normalPart, List.map_map, e, ← List.map_map, List.map_snd_zip (Nat.le_of_eq List.length_range.symm),
      normalLevels_count t ht hr]
  have hS : ((specialPart t).map (fun l => l.objs.length)).sum = (occs t).countP (fun oc => !isNormal oc.t.obj.type) := by
    rw [← special_sum (occs t) (fun oc hoc => (typedT_facts _ (occ_typed t ht oc hoc)).2.2.2), specialPart, List.map_map]
    exact congrArg (fun f => (List.map f specialTypes).sum) (funext fun ty => List.length_map _)
  have hA := List.length_eq_countP_add_countP (fun oc : Occ => isNormal oc.t.obj.type) (l := occs t)
  simp only [Bool.not_eq_true, Bool.decide_eq_false] at hA
  rw [hN, hS]
  exact hA.symm

/-! ### type-depth-inverse -/

theorem special_filter_nil (t : Tree) (ty : Nat) :
    (specialPart t).filter (fun l => decide (0 ≤ l.depth) && l.type == (ty : Int)) = [] := by
  rw [List.filter_eq_nil_iff]
  intro l hl
  unfold specialPart at hl
  obtain ⟨ty', hty', rfl⟩ := List.mem_map.1 hl
  have := (specialTypes_depth ty' hty').2
  simp only [Bool.and_eq_true, decide_eq_true_eq]
  omega

/-- the type → depth table is the inverse of the level list: −1 for an absent normal type, −2 for a type with several levels,
    the virtual depth for the special types -/
theorem render_type_depth_inverse (t : Tree) (h : Hdr) (ex : RObj → Extra) :
    topClause "type-depth-inverse" (render t h ex) (mkAux (render t h ex)) = true := by
  refine (typeDepthInverse_iff _ _).2 ⟨by show ((List.range tMAX).map (typeDepthOf (normalLevels t))).length = tMAX; simp, ?_⟩
  intro ty hty
  have htd : ((render t h ex).typeDepths[ty]?).getD 0 = typeDepthOf (normalLevels t) ty := by
    show (((List.range tMAX).map (typeDepthOf (normalLevels t)))[ty]?).getD 0 = _
    rw [List.getElem?_map, List.getElem?_range hty]
    rfl
  rw [htd]
  unfold typeDepthOf
  cases specialDepth ty with
  | some sd => rfl
  | none =>
    rw [render_levels, List.filter_append, special_filter_nil, List.append_nil, normalPart, List.filter_map]
    have hP : ((fun (l : Level) => decide (0 ≤ l.depth) && l.type == (ty : Int)) ∘ mkLevel) =
        (fun (x : Nat × (Nat × List Nat)) => x.2.1 == ty) := by
      funext x
      rw [Bool.eq_iff_iff]
      simp [mkLevel, Int.ofNat_inj]
    rw [hP]
    generalize ((List.range (normalLevels t).length).zip (normalLevels t)).filter (fun x => x.2.1 == ty) = L
    match L with
    | [] | [_] | _ :: _ :: _ => rfl

end Hw.Topo.Restrict
