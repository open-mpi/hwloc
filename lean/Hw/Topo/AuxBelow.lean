/-
  Hw.Topo.AuxBelow — the `below` / `belowDisj` aggregates of `Hw.Topo.mkAux` (bottom-up fold: nodes attached at or below a
  normal object) satisfy, for ANY dump whose ids are positions and whose parents come first, the recurrence
  "OR of the final values of the normal children (reverse list order), then the OR of the own memory children".
-/
import Hw.Topo.AuxInh
import Hw.Io.SyntheticBits
namespace Hw.Topo
open Hw.Syn

def belowStep (memOr : List Nat) (o : Obj) (acc : List Nat × List Bool) : List Nat × List Bool :=
  if isNormal o.type then
    let acc := orInto acc o.id (getN memOr o.id)
    if 0 ≤ o.parent then orInto acc o.parent.toNat (getN acc.1 o.id) else acc
  else acc

def belowFold (d : Dump) : List Nat × List Bool :=
  d.objs.foldr (belowStep (auxFold d).memOr) (List.replicate d.objs.length 0, List.replicate d.objs.length true)

theorem mkAux_below (d : Dump) : (mkAux d).below = (belowFold d).1 ∧ (mkAux d).belowDisj = (belowFold d).2 := ⟨rfl, rfl⟩

def normalKids (d : Dump) (i : Nat) : List Obj := d.objs.filter (fun c => isNormal c.type && parentIs i c)

/-! ### one cell of the pair of lists, and the per-cell step of `orInto` -/

def cstep (c : Nat × Bool) (x : Nat) : Nat × Bool := (c.1 ||| x, c.2 && disjoint c.1 x)

def cellB (acc : List Nat × List Bool) (j : Nat) : Nat × Bool := (getN acc.1 j, getB acc.2 j)

theorem foldl_cstep (xs : List Nat) : ∀ (s : Nat) (b : Bool),
    xs.foldl cstep (s, b) = (xs.foldl (· ||| ·) s, b && seqDisj s xs) := by
  induction xs with
  | nil => intro s b; simp [seqDisj]
  | cons x xs ih =>
    intro s b
    rw [List.foldl_cons, List.foldl_cons]
    show List.foldl cstep (s ||| x, b && disjoint s x) xs = _
    rw [ih]
    simp [seqDisj, Bool.and_assoc]

theorem cellB_orInto_self (acc : List Nat × List Bool) (p s : Nat) (h1 : p < acc.1.length) (h2 : p < acc.2.length) :
    cellB (orInto acc p s) p = cstep (cellB acc p) s := by
  unfold cellB cstep
  rw [orInto_eq, getN_set, getB_set, if_pos ⟨rfl, h1⟩, if_pos ⟨rfl, h2⟩]

theorem cellB_orInto_other (acc : List Nat × List Bool) (p s j : Nat) (h : p ≠ j) : cellB (orInto acc p s) j = cellB acc j := by
  unfold cellB
  rw [orInto_eq, getN_set, getB_set, if_neg (fun e => h e.1), if_neg (fun e => h e.1)]

theorem belowStep_len (M : List Nat) (o : Obj) (acc : List Nat × List Bool) :
    (belowStep M o acc).1.length = acc.1.length ∧ (belowStep M o acc).2.length = acc.2.length := by
  unfold belowStep
  split
  · simp only
    split
    · have a := orInto_length acc o.id (getN M o.id)
      have b := orInto_length (orInto acc o.id (getN M o.id)) o.parent.toNat (getN (orInto acc o.id (getN M o.id)).1 o.id)
      exact ⟨b.1.trans a.1, b.2.trans a.2⟩
    · exact orInto_length _ _ _
  · exact ⟨rfl, rfl⟩

theorem belowFoldr_len (M : List Nat) (n : Nat) (l : List Obj) :
    (l.foldr (belowStep M) (List.replicate n 0, List.replicate n true)).1.length = n ∧
    (l.foldr (belowStep M) (List.replicate n 0, List.replicate n true)).2.length = n :=
  List.foldrRecOn (motive := fun acc => acc.1.length = n ∧ acc.2.length = n) l _
    ⟨List.length_replicate .., List.length_replicate ..⟩
    fun acc h o _ => ⟨(belowStep_len M o acc).1.trans h.1, (belowStep_len M o acc).2.trans h.2⟩

theorem parentIs_of_le (o : Obj) (i : Nat) (hpar : 0 ≤ o.parent → o.parent.toNat < o.id) (hi : o.id ≤ i) :
    parentIs i o = false :=
  Bool.eq_false_iff.2 fun h => by
    obtain ⟨hp, rfl⟩ := (parentIs_iff i o).1 h
    exact Nat.not_le_of_lt (hpar hp) hi

/-! ### what one step does to one cell: the object's own, its parent's, any other -/

theorem belowStep_self (M : List Nat) (o : Obj) (acc : List Nat × List Bool) (n : Nat)
    (h1 : acc.1.length = n) (h2 : acc.2.length = n) (hn : isNormal o.type = true) (hid : o.id < n)
    (hpar : 0 ≤ o.parent → o.parent.toNat < o.id) :
    cellB (belowStep M o acc) o.id = cstep (cellB acc o.id) (getN M o.id) := by
  unfold belowStep
  rw [if_pos hn]
  dsimp only
  split
  · next hp => rw [cellB_orInto_other _ _ _ _ (Nat.ne_of_lt (hpar hp)), cellB_orInto_self _ _ _ (h1 ▸ hid) (h2 ▸ hid)]
  · exact cellB_orInto_self _ _ _ (h1 ▸ hid) (h2 ▸ hid)

theorem belowStep_parent (M : List Nat) (o : Obj) (acc : List Nat × List Bool) (n : Nat)
    (h1 : acc.1.length = n) (h2 : acc.2.length = n) (hn : isNormal o.type = true) (hid : o.id < n)
    (hpar : 0 ≤ o.parent → o.parent.toNat < o.id) (j : Nat) (hq : parentIs j o = true) :
    cellB (belowStep M o acc) j = cstep (cellB acc j) (getN (belowStep M o acc).1 o.id) := by
  obtain ⟨hp, rfl⟩ := (parentIs_iff j o).1 hq
  have hlt := hpar hp
  have hj := Nat.lt_trans hlt hid
  have l1 := orInto_length acc o.id (getN M o.id)
  rw [belowStep, if_pos hn]
  dsimp only
  rw [if_pos hp, cellB_orInto_self _ _ _ (l1.1 ▸ h1 ▸ hj) (l1.2 ▸ h2 ▸ hj), cellB_orInto_other _ _ _ _ (Nat.ne_of_gt hlt)]
  -- the second write leaves the object's own cell as the first write made it
  exact congrArg (cstep _) (congrArg Prod.fst (cellB_orInto_other _ _ _ _ (Nat.ne_of_lt hlt))).symm

theorem belowStep_other (M : List Nat) (o : Obj) (acc : List Nat × List Bool) (j : Nat)
    (h : isNormal o.type = true → o.id ≠ j ∧ parentIs j o = false) : cellB (belowStep M o acc) j = cellB acc j := by
  unfold belowStep
  split
  · next hn =>
    dsimp only
    split
    · next hp =>
      have : o.parent.toNat ≠ j := by simpa [parentIs, hp] using (h hn).2
      rw [cellB_orInto_other _ _ _ _ this, cellB_orInto_other _ _ _ _ (h hn).1]
    · exact cellB_orInto_other _ _ _ _ (h hn).1
  · rfl

/-! ### the invariant of the bottom-up fold over a suffix -/

def kidsOf (suf : List Obj) (j : Nat) : List Obj := suf.filter (fun c => isNormal c.type && parentIs j c)

def selfTail (M : List Nat) (suf : List Obj) (j : Nat) : List Nat :=
  if suf.any (fun c => isNormal c.type && c.id == j) then [getN M j] else []

theorem kidsOf_cons (o : Obj) (suf : List Obj) (j : Nat) :
    kidsOf (o :: suf) j = if (isNormal o.type && parentIs j o) = true then o :: kidsOf suf j else kidsOf suf j := by
  unfold kidsOf; rw [List.filter_cons]

theorem selfTail_cons (M : List Nat) (o : Obj) (suf : List Obj) (j : Nat) :
    selfTail M (o :: suf) j = if (isNormal o.type && o.id == j) = true then [getN M j] else selfTail M suf j := by
  unfold selfTail
  rw [List.any_cons]
  cases isNormal o.type && o.id == j <;> simp

theorem selfTail_nil (M : List Nat) (suf : List Obj) (j : Nat) (h : ∀ c ∈ suf, j < c.id) : selfTail M suf j = [] := by
  unfold selfTail
  rw [if_neg]
  intro ha
  rw [List.any_eq_true] at ha
  obtain ⟨c, hc, hcc⟩ := ha
  have := h c hc
  simp at hcc
  omega

theorem below_inv (M : List Nat) (n : Nat) : ∀ suf : List Obj,
    suf.Pairwise (fun a b => a.id < b.id) → (∀ o ∈ suf, o.id < n) →
    (∀ o ∈ suf, isNormal o.type = true → 0 ≤ o.parent → o.parent.toNat < o.id) →
    ∀ j, cellB (suf.foldr (belowStep M) (List.replicate n 0, List.replicate n true)) j =
      (selfTail M suf j ++ (kidsOf suf j).map
          (fun c => getN (suf.foldr (belowStep M) (List.replicate n 0, List.replicate n true)).1 c.id)).foldr
        (fun x c => cstep c x) (0, true) := by
  intro suf
  induction suf with
  | nil =>
    intro _ _ _ j
    exact Prod.ext (getD_replicate n j 0) (getD_replicate n j true)
  | cons o suf ih =>
    intro hpw hlt hpar j
    rw [List.pairwise_cons] at hpw
    have ih' := ih hpw.2 (fun c hc => hlt c (List.mem_cons_of_mem _ hc)) (fun c hc => hpar c (List.mem_cons_of_mem _ hc))
    have hlen := belowFoldr_len M n suf
    rw [List.foldr_cons]
    generalize suf.foldr (belowStep M) (List.replicate n 0, List.replicate n true) = G at ih' hlen
    have hon := hlt o List.mem_cons_self
    have hparo := hpar o List.mem_cons_self
    -- the step of `o` does not touch the cells of the objects after it
    have hmap : (kidsOf suf j).map (fun c => getN (belowStep M o G).1 c.id) = (kidsOf suf j).map (fun c => getN G.1 c.id) :=
      List.map_congr_left fun c hc => by
        have := hpw.1 c (List.mem_filter.mp hc).1
        exact congrArg Prod.fst (belowStep_other M o G c.id fun hn => ⟨by omega, parentIs_of_le o c.id (hparo hn) (by omega)⟩)
    by_cases hs : isNormal o.type = true ∧ o.id = j
    · obtain ⟨hn, rfl⟩ := hs
      rw [selfTail_cons, if_pos (by simp [hn]), kidsOf_cons, parentIs_of_le o o.id (hparo hn) (Nat.le_refl _), Bool.and_false,
        if_neg Bool.false_ne_true, hmap, belowStep_self M o G n hlen.1 hlen.2 hn hon (hparo hn), ih' o.id,
        selfTail_nil M suf o.id hpw.1]
      rfl
    · rw [selfTail_cons, if_neg (by simpa using hs)]
      by_cases hq : isNormal o.type = true ∧ parentIs j o = true
      · -- a parent's own turn comes after all its children
        have hnil : selfTail M suf j = [] := selfTail_nil M suf j fun c hc => by
          have := (parentIs_iff j o).1 hq.2
          have := hparo hq.1 this.1
          have := hpw.1 c hc
          omega
        rw [kidsOf_cons, if_pos (by simpa using hq), hnil, List.nil_append, List.map_cons, List.foldr_cons, hmap,
          belowStep_parent M o G n hlen.1 hlen.2 hq.1 hon (hparo hq.1) j hq.2, ih' j, hnil, List.nil_append]
      · rw [kidsOf_cons, if_neg (by simpa using hq), hmap, ← ih' j]
        exact belowStep_other M o G j fun hn => ⟨fun e => hs ⟨hn, e⟩, by simpa [hn] using hq⟩

theorem below_rec (d : Dump)
    (hid : ∀ i (h : i < d.objs.length), (d.objs[i]).id = i)
    (hpar : ∀ o ∈ d.objs, isNormal o.type = true → 0 ≤ o.parent → o.parent.toNat < o.id)
    (o : Obj) (ho : o ∈ d.objs) (hn : isNormal o.type = true) :
    let vals := ((normalKids d o.id).reverse.map (fun c => getN (belowFold d).1 c.id)) ++ [getN (auxFold d).memOr o.id]
    getN (belowFold d).1 o.id = vals.foldl (· ||| ·) 0 ∧
    getB (belowFold d).2 o.id = seqDisj 0 vals := by
  intro vals
  obtain ⟨hpw, hlt⟩ := ids_sorted d.objs hid
  have hinv := below_inv (auxFold d).memOr d.objs.length d.objs hpw hlt hpar o.id
  have ht : selfTail (auxFold d).memOr d.objs o.id = [getN (auxFold d).memOr o.id] := by
    unfold selfTail
    rw [if_pos]
    rw [List.any_eq_true]
    exact ⟨o, ho, by simp [hn]⟩
  rw [ht, ← List.foldl_reverse (f := cstep), List.reverse_append, List.reverse_cons, List.reverse_nil, List.nil_append,
    ← List.map_reverse, foldl_cstep] at hinv
  have h2 := congrArg Prod.snd hinv
  simp only [Bool.true_and] at h2
  exact ⟨congrArg Prod.fst hinv, h2⟩

end Hw.Topo
