/-
  Hw.Topo.RestrictNoOrder — `treeOf d = ok t` is NOT a consequence of `WF d`: a well-formed dump in which a Misc object is
  listed before its parent.  No WF clause orders the ids ("root-or-parent" only says parent ≠ id; the level / cousin clauses order
  the objects of one level), while `treeOf` folds the object list from the right and needs every parent before its children.
-/
import Hw.Topo.RestrictCover
namespace Hw.Topo.Restrict
open Hw.Topo Hw.Gen.Restrict

/-- rename the ids of a dump by `π` (a permutation of the ids, −1 stays −1) and list the objects in the new id order -/
def renumber (π : Nat → Nat) (n : Nat) (d : Dump) : Dump :=
  let f (i : Int) : Int := if i < 0 then i else ((π i.toNat : Nat) : Int)
  let objs := d.objs.map (fun o => { o with
    id := π o.id, parent := f o.parent, nextSib := f o.nextSib, prevSib := f o.prevSib, nextCousin := f o.nextCousin,
    prevCousin := f o.prevCousin, firstChild := f o.firstChild, lastChild := f o.lastChild, memFirst := f o.memFirst,
    ioFirst := f o.ioFirst, miscFirst := f o.miscFirst, children := o.children.map f })
  { d with objs := (List.range n).filterMap (fun k => objs.find? (fun o => o.id == k)),
           levels := d.levels.map (fun l => { l with objs := l.objs.map f }) }

/-- Machine [Core [PU 0] + NUMA 0 + Misc]: DFS ids 0 Machine, 1 Core, 2 PU, 3 NUMA, 4 Misc -/
def orderTree : Tree :=
  .node ⟨1, tMACHINE, 0, 1, 1, 1, 1, true, 0, 0, 0⟩
    [.node ⟨2, tCORE, 0, 1, 1, 1, 1, true, 0, 0, 0⟩
      [.node ⟨3, tPU, 0, 1, 1, 1, 1, true, 0, 0, 0⟩ [] [] [] []]
      [.node ⟨4, tNUMA, 0, 1, 1, 1, 1, true, 0, 0, 0⟩ [] [] [] []] []
      [.node ⟨5, tMISC, -1, 0, 0, 0, 0, false, 0, 0, 0⟩ [] [] [] []]] [] [] []

/-- the Misc object (DFS id 4) is listed first among the non-root objects: new ids 0 Machine, 1 Misc, 2 Core, 3 PU, 4 NUMA -/
def orderPerm (i : Nat) : Nat := match i with | 1 => 2 | 2 => 3 | 3 => 4 | 4 => 1 | k => k

def orderDump : Dump := renumber orderPerm 5 (render orderTree ⟨0, List.replicate 20 0, some 1, some 1⟩ (fun _ => {}))

end Hw.Topo.Restrict
