/-
  Hw.Topo.RenderPU — "the PU level is the last level".

  hwloc_connect_levels never takes PUs while another type is present (`top0` = the first non-PU object, and the
  find_same_type fold only moves `top` to an object that HAS normal children), so PUs wait in the frontier until the frontier
  consists of PUs only; PUs have no normal children, hence the level taken then is the last one.  Consequences for the
  rendering of every typed tree with PUs as leaves: WF clauses normal-level-types and pu-level-deepest (the latter needs one
  PU in the tree).
-/
import Hw.Topo.RenderTop
namespace Hw.Topo.Restrict
open Hw.Topo

/-! ### the invariant read by the level loop: along normal children, types are in range and PUs have no normal children -/

mutual
def puNsT : Tree → Bool
  | .node o ns _ _ _ => decide (o.type < 20) && (o.type != tPU || ns.isEmpty) && puNsL ns
def puNsL : List Tree → Bool
  | [] => true
  | t :: ts => puNsT t && puNsL ts
end

theorem puNsT_facts (t : Tree) (h : puNsT t = true) :
    t.obj.type < 20 ∧ (t.obj.type = tPU → t.ns = []) ∧ puNsL t.ns = true := by
  cases t with
  | node o ns ms ios mis =>
    rw [puNsT] at h
    simp only [Bool.and_eq_true, decide_eq_true_eq, Bool.or_eq_true, bne_iff_ne, ne_eq, List.isEmpty_iff,
      ← Decidable.imp_iff_not_or] at h
    exact ⟨h.1.1, h.1.2, h.2⟩

theorem puNsL_append (a b : List Tree) : puNsL (a ++ b) = (puNsL a && puNsL b) := by
  induction a with
  | nil => simp [puNsL]
  | cons x xs ih => simp only [List.cons_append, puNsL, ih, Bool.and_assoc]

theorem puNsL_mem (l : List Tree) (h : puNsL l = true) (t : Tree) (ht : t ∈ l) : puNsT t = true := by
  induction l with
  | nil => cases ht
  | cons x xs ih =>
    rw [puNsL, Bool.and_eq_true] at h
    rcases List.mem_cons.1 ht with rfl | ht
    · exact h.1
    · exact ih h.2 ht

theorem puNsL_next (c : Tree → Bool) (objs : List Tree) (h : puNsL objs = true) :
    puNsL (objs.flatMap (fun o => if c o then o.ns else [o])) = true := by
  induction objs with
  | nil => simp [puNsL]
  | cons x xs ih =>
    rw [puNsL, Bool.and_eq_true] at h
    rw [List.flatMap_cons, puNsL_append, Bool.and_eq_true]
    refine ⟨?_, ih h.2⟩
    by_cases hc : c x = true
    · simp only [hc, if_true]; exact (puNsT_facts x h.1).2.2
    · simp only [hc, Bool.false_eq_true, if_false, puNsL, h.1, Bool.and_self]

theorem puNs_of_typed :
    (∀ t, typedT t = true → puLeafT t = true → puNsT t = true) ∧
    (∀ l, (∀ t ∈ l, typedT t = true) → puLeafL l = true → puNsL l = true) := by
  apply tree_ind4
  · intro o ns ms ios mis h1 _ _ _ ht hl
    have hf := typedT_facts _ ht
    have hns : ∀ t ∈ ns, typedT t = true := fun t htm => (typedL_mem isNormal ns (typedT_lists _ ht).1 t htm).2
    obtain ⟨l0, l1, _⟩ := (puLeafT_node o ns ms ios mis).1 hl
    rw [puNsT]
    simp only [Bool.and_eq_true, decide_eq_true_eq, Bool.or_eq_true, bne_iff_ne, ne_eq, List.isEmpty_iff, ← Decidable.imp_iff_not_or]
    exact ⟨⟨hf.2.2.2, fun e => (l0 e).1⟩, h1 hns l1⟩
  · exact fun _ _ => rfl
  · intro t ts h1 h2 hty hl
    rw [puLeafL, Bool.and_eq_true] at hl
    rw [puNsL, Bool.and_eq_true]
    exact ⟨h1 (hty t List.mem_cons_self) hl.1, h2 (fun x hx => hty x (List.mem_cons_of_mem _ hx)) hl.2⟩

theorem puNs_relabel :
    (∀ t, ∀ s, puNsT (relabelT s t) = puNsT t) ∧ (∀ l, ∀ s, puNsL (relabelL s l) = puNsL l) := by
  apply tree_ind4
  · intro o ns ms ios mis h1 _ _ _ s
    rw [relabelT, puNsT, puNsT, h1]
    have : (relabelL (s + 1) ns).isEmpty = ns.isEmpty := by cases ns <;> rfl
    rw [this]
  · exact fun _ => rfl
  · intro t ts h1 h2 s
    rw [relabelL, puNsL, puNsL, h1, h2]

/-! ### the level loop -/

theorem levelsLoop_nil (fuel : Nat) : levelsLoop fuel [] = [] := by cases fuel <;> rfl

theorem findSameT_ns (x : RObj) (t : Tree) (h : findSameT x t = true) : t.ns ≠ [] := by
  cases t with
  | node o ns ms ios mis =>
    rw [findSameT] at h
    intro e
    have e' : ns = [] := e
    rw [e', findSameL] at h
    cases h

theorem typeEq_pu (a b : RObj) (ha : a.type < 20) (hb : b.type = tPU) (h : typeEq a b = true) : a.type = tPU := by
  unfold typeEq at h
  simp only [Bool.and_eq_true, beq_iff_eq] at h
  rw [hb] at h
  exact orderOf_inj _ ha _ (by decide) h.1

theorem typeEq_of_pu (a b : RObj) (ha : a.type = tPU) (hb : b.type = tPU) : typeEq a b = true := by
  unfold typeEq
  rw [ha, hb]
  have : (tPU == tGROUP) = false := by decide
  simp [this]

theorem top_not_pu (l objs : List Tree) (hl : ∀ o ∈ l, o ∈ objs) (hinv : puNsL objs = true) (init : Tree)
    (hi : init.obj.type ≠ tPU) :
    (l.foldl (fun top o => if (!typeEq top.obj o.obj && findSameT top.obj o) = true then o else top) init).obj.type ≠ tPU := by
  induction l generalizing init with
  | nil => exact hi
  | cons x xs ih =>
    rw [List.foldl_cons]
    apply ih (fun o ho => hl o (List.mem_cons_of_mem _ ho))
    by_cases hc : (!typeEq init.obj x.obj && findSameT init.obj x) = true
    · rw [if_pos hc]
      rw [Bool.and_eq_true] at hc
      intro e
      exact findSameT_ns _ _ hc.2 ((puNsT_facts x (puNsL_mem objs hinv x (hl x List.mem_cons_self))).2.1 e)
    · rw [if_neg hc]; exact hi

theorem topOf_pu (first : Tree) (rest : List Tree) (hinv : puNsL (first :: rest) = true)
    (h : (topOf first rest).obj.type = tPU) : ∀ o ∈ first :: rest, o.obj.type = tPU := by
  cases hf : List.find? (fun o => o.obj.type != tPU) (first :: rest) with
  | none =>
    intro o ho
    simpa using List.find?_eq_none.1 hf o ho
  | some y =>
    have hy : y.obj.type ≠ tPU := by simpa using List.find?_some hf
    unfold topOf at h
    rw [hf, Option.getD_some] at h
    exact absurd h (top_not_pu (first :: rest) (first :: rest) (fun o ho => ho) hinv y hy)

theorem levelsLoop_pu_last : ∀ (fuel : Nat) (objs : List Tree), puNsL objs = true →
    ∀ (i : Nat) (lv : List RObj), (levelsLoop fuel objs)[i]? = some lv → (∃ a ∈ lv, a.type = tPU) →
    i + 1 = (levelsLoop fuel objs).length := by
  intro fuel objs hinv i lv hlv ⟨a, ha, hat⟩
  obtain ⟨f, first, rest, hF, rfl, hd⟩ := levelsLoop_drop (I := fun _ F => puNsL F = true)
    (fun _ _ _ h => puNsL_next _ _ h) fuel objs hinv i lv hlv
  simp only [List.mem_map, List.mem_filter] at ha
  obtain ⟨x, ⟨hx, hxe⟩, rfl⟩ := ha
  have htoppu : (topOf first rest).obj.type = tPU :=
    typeEq_pu _ _ (puNsT_facts _ (puNsL_mem _ hF _ (topOf_mem first rest))).1 hat hxe
  have hall := topOf_pu first rest hF htoppu
  -- so everything is taken and nothing is left
  have hnext : (first :: rest).flatMap (fun o => if typeEq (topOf first rest).obj o.obj = true then o.ns else [o]) = [] := by
    rw [List.flatMap_eq_nil_iff]
    intro o ho
    rw [if_pos (typeEq_of_pu _ _ htoppu (hall o ho))]
    exact (puNsT_facts o (puNsL_mem _ hF o ho)).2.1 (hall o ho)
  rw [hnext, levelsLoop_nil, List.drop_eq_nil_iff] at hd
  have := getElem?_lt hlv
  omega

theorem connectLevels_pu_last (t : Tree) (h : puNsT t = true) (i : Nat) (lv : List RObj)
    (hlv : (connectLevels t)[i]? = some lv) (hpu : ∃ a ∈ lv, a.type = tPU) : i + 1 = (connectLevels t).length := by
  rw [connectLevels_eq_loop] at hlv ⊢
  exact levelsLoop_pu_last _ [t] (by rw [puNsL, puNsL, h]; rfl) i lv hlv hpu

theorem normalLevels_pu_last (t : Tree) (ht : typedT t = true) (hl : puLeafT t = true) (k : Nat)
    (hk : k < (normalLevels t).length) (hty : ((normalLevels t)[k]).1 = tPU) : k + 1 = (normalLevels t).length := by
  obtain ⟨lv, hlv, e⟩ := normalLevels_get t k hk
  have hlvm : lv ∈ connectLevels (relabelT 0 t) := List.mem_of_getElem? hlv
  have hne := connectLevels_nonempty _ lv hlvm
  rw [e] at hty
  rw [normalLevels_length]
  apply connectLevels_pu_last (relabelT 0 t) (by rw [puNs_relabel.1]; exact puNs_of_typed.1 t ht hl) k lv hlv
  cases hh : lv.head? with
  | none => rw [List.head?_eq_none_iff] at hh; exact absurd hh hne
  | some hd =>
    rw [hh] at hty
    exact ⟨hd, List.mem_of_head? hh, hty⟩

/-- executable form (evaluated by the driver on every tree): no level of PU type before the last one -/
def puLevelLast (t : Tree) : Bool :=
  let nl := normalLevels t
  (List.range nl.length).all (fun k => (nl[k]?).map (·.1) != some tPU || k + 1 == nl.length)

theorem puLevelLast_of_typed (t : Tree) (ht : typedT t = true) (hl : puLeafT t = true) : puLevelLast t = true := by
  unfold puLevelLast
  simp only [List.all_eq_true, List.mem_range, Bool.or_eq_true, bne_iff_ne, ne_eq, beq_iff_eq, ← Decidable.imp_iff_not_or]
  intro k hk hty
  rw [List.getElem?_eq_getElem hk, Option.map_some, Option.some.injEq] at hty
  exact normalLevels_pu_last t ht hl k hk hty

/-! ### the two WF clauses -/

theorem level_type_normal (t : Tree) (ht : typedT t = true) (hr : isNormal t.obj.type = true) (k : Nat)
    (hk : k < (normalLevels t).length) : isNormal ((normalLevels t)[k]).1 = true := by
  obtain ⟨id, hid⟩ := List.exists_mem_of_ne_nil _ (level_nonempty t k hk)
  obtain ⟨oc, _, _, hn, hty, _⟩ := level_member t ht hr k hk id hid
  rw [← hty]; exact hn

theorem level_machine_zero (t : Tree) (ht : typedT t = true) (hm : t.obj.type = tMACHINE) (h1 : machineOnce t) (k : Nat)
    (hk : k < (normalLevels t).length) (hty : ((normalLevels t)[k]).1 = tMACHINE) : k = 0 := by
  obtain ⟨id, hid⟩ := List.exists_mem_of_ne_nil _ (level_nonempty t k hk)
  obtain ⟨oc, hoc, rfl, _, hoty, _⟩ := level_member t ht (by rw [hm]; decide) k hk _ hid
  obtain ⟨h0, e0⟩ := normalLevels_zero t
  exact level_unique t k 0 hk h0 oc.id hid (by rw [e0, machine_occ_root t hm h1 oc hoc (hoty.trans hty)]; exact List.mem_cons_self)

theorem render_normal_level_types (t : Tree) (ht : typedT t = true) (hl : puLeafT t = true) (hm : t.obj.type = tMACHINE)
    (h1 : machineOnce t) (h : Hdr) (ex : RObj → Extra) :
    topClause "normal-level-types" (render t h ex) (mkAux (render t h ex)) = true := by
  have hr : isNormal t.obj.type = true := by rw [hm]; decide
  refine topClause_intro (k := 9) rfl ?_
  simp only [List.all_eq_true]
  intro l hlm
  rcases render_level_cases t h ex l hlm with ⟨k, hk, rfl⟩ | ⟨ty, hty, rfl⟩
  · have hpos : (0 : Int) ≤ (k : Int) := Int.natCast_nonneg k
    simp only [hpos, if_true, render_depth, Int.toNat_natCast, Bool.and_eq_true, decide_eq_true_eq, Bool.or_eq_true, bne_iff_ne,
      ne_eq, beq_iff_eq, ← Decidable.imp_iff_not_or, Int.natCast_inj]
    refine ⟨⟨⟨Int.natCast_nonneg _, level_type_normal t ht hr k hk⟩, fun hty => ?_⟩, fun hty => ?_⟩
    · have := normalLevels_pu_last t ht hl k hk hty
      omega
    · have := level_machine_zero t ht hm h1 k hk hty
      omega
  · obtain ⟨e, hneg⟩ := specialTypes_depth ty hty
    simp only [if_neg (Int.not_le.2 hneg), Int.toNat_natCast, ← e, BEq.rfl, Int.natCast_nonneg, decide_true, Bool.and_self]

theorem render_pu_level_deepest (t : Tree) (ht : typedT t = true) (hl : puLeafT t = true) (hr : isNormal t.obj.type = true)
    (hpu : ∃ x ∈ objsT t, x.type = tPU) (h : Hdr) (ex : RObj → Extra) :
    topClause "pu-level-deepest" (render t h ex) (mkAux (render t h ex)) = true := by
  refine topClause_intro (k := 4) rfl ?_
  have key : ∀ oc ∈ occs t, oc.t.obj.type = tPU → ∃ k, ∃ hk : k < (normalLevels t).length,
      k + 1 = (normalLevels t).length ∧ ((normalLevels t)[k]).1 = tPU ∧ oc.id ∈ ((normalLevels t)[k]).2 := by
    intro oc hoc hty
    obtain ⟨k, hk, hid⟩ := normal_level_index t ht oc hoc (by rw [hty]; decide)
    have hlt := (level_type_eq t ht oc hoc k hk hid).trans hty
    exact ⟨k, hk, normalLevels_pu_last t ht hl k hk hlt, hlt, hid⟩
  obtain ⟨x, hx, hxt⟩ := hpu
  obtain ⟨oc, hoc, rfl⟩ := occ_of_obj t x hx
  obtain ⟨k, hk, hlast, hkt, hkid⟩ := key oc hoc hxt
  have hdepth : ((render t h ex).depth : Int) - 1 = (k : Int) := by rw [render_depth]; omega
  simp only [hdepth, levelOf_normal t h ex k hk, Bool.and_eq_true, decide_eq_true_eq, beq_iff_eq, Bool.not_eq_true',
    List.isEmpty_eq_false_iff, ne_eq, List.map_eq_nil_iff, List.all_eq_true, Bool.or_eq_true, bne_iff_ne, ← Decidable.imp_iff_not_or]
  refine ⟨⟨by rw [render_depth]; omega, by rw [hkt], fun hnil => by rw [hnil] at hkid; cases hkid⟩, ?_⟩
  intro o ho
  obtain ⟨oc', hoc', rfl⟩ := render_mem t h ex o ho
  unfold rObj
  rw [ro_type, ro_depth]
  intro hty
  obtain ⟨k', hk', hlast', _, hkid'⟩ := key oc' hoc' hty
  obtain rfl : k' = k := by omega
  rw [placeOf_listed t k' hk' _ _ (by rw [hty]; decide) hkid']

end Hw.Topo.Restrict
