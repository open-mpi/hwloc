/-
  Hw.Topo.InsertLemmas — the insertion routine on LAMINAR trees (children pairwise disjoint and included in their
  parent, recursively): it never reaches the object-losing situation `stuck`, every outcome is again a laminar tree, and
  the objects are conserved (exactly one more after an insertion, the same ones after a merge or a refused insertion).
-/
import Hw.Topo.InsertCase
import Hw.Topo.SetStageBasic
import Hw.Base.Cases
import Hw.Base.InsertSort
namespace Hw.Topo.Ins

def sub (a b : Nat) : Prop := a &&& b = a
def dj (a b : Nat) : Prop := a &&& b = 0

theorem dj_comm {a b : Nat} : dj a b ↔ dj b a := ⟨SetStage.Dj.symm, SetStage.Dj.symm⟩

theorem not_dj_of_sub {d a b : Nat} (hd : d ≠ 0) (h1 : sub d a) (h2 : sub d b) : ¬ dj a b :=
  fun h => hd ((Nat.and_self d).symm.trans (SetStage.Dj.mono h h1 h2))

theorem dj_of_sub_left {d a b : Nat} (h1 : sub d a) (h : dj a b) : dj d b := SetStage.Dj.mono h h1 (SetStage.Sub.refl b)

/-! ### what `cmpSets` tells -/

theorem cmpSets_spec (a b : Nat) :
    match cmpSets a b with
    | .different => dj a b
    | .equal => a = b ∧ a ≠ 0
    | .included => sub a b ∧ a ≠ 0 ∧ b ≠ 0
    | .contains => sub b a ∧ a ≠ 0 ∧ b ≠ 0
    | .intersects => ¬ dj a b := by
  unfold cmpSets
  by_cases h0 : a = 0 ∨ b = 0
  · rw [if_pos h0]
    show a &&& b = 0
    rcases h0 with h0 | h0 <;> simp [h0]
  · have ha : a ≠ 0 := fun e => h0 (Or.inl e)
    have hb : b ≠ 0 := fun e => h0 (Or.inr e)
    rw [if_neg h0]
    by_cases he : a = b
    · rw [if_pos he]; exact ⟨he, ha⟩
    · rw [if_neg he]
      by_cases h1 : a &&& b = a
      · rw [if_pos h1]; exact ⟨h1, ha, hb⟩
      · rw [if_neg h1]
        by_cases h2 : a &&& b = b
        · rw [if_pos h2]; exact ⟨(Nat.and_comm b a).trans h2, ha, hb⟩
        · rw [if_neg h2]
          by_cases h3 : a &&& b = 0
          · rw [if_pos h3]; exact h3
          · rw [if_neg h3]; exact h3

theorem cmpSets_equal {a b : Nat} (h : cmpSets a b = .equal) : a = b ∧ a ≠ 0 := by
  have := cmpSets_spec a b; rw [h] at this; exact this
theorem cmpSets_included {a b : Nat} (h : cmpSets a b = .included) : sub a b ∧ a ≠ 0 ∧ b ≠ 0 := by
  have := cmpSets_spec a b; rw [h] at this; exact this
theorem cmpSets_contains {a b : Nat} (h : cmpSets a b = .contains) : sub b a ∧ a ≠ 0 ∧ b ≠ 0 := by
  have := cmpSets_spec a b; rw [h] at this; exact this
theorem cmpSets_different {a b : Nat} (h : cmpSets a b = .different) : dj a b := by
  have := cmpSets_spec a b; rw [h] at this; exact this
theorem cmpSets_intersects {a b : Nat} (h : cmpSets a b = .intersects) : ¬ dj a b := by
  have := cmpSets_spec a b; rw [h] at this; exact this


/-! ### what one loop iteration decides -/

theorem typeCmp_ne_intersects (a b : IObj) : typeCmp a b ≠ .intersects := by
  unfold typeCmp
  split <;> try (intro h; cases h)
  split <;> try (intro h; cases h)
  split <;> (intro h; cases h)

theorem tryMerge_some {old new o' : IObj} (h : tryMerge old new = some o') :
    o'.gp = old.gp ∧ o'.key = old.key ∧ o'.mem = old.mem ∧ o'.ckey = old.ckey := by
  let P : Option IObj → Prop := fun r => r = some o' → o'.gp = old.gp ∧ o'.key = old.key ∧ o'.mem = old.mem ∧ o'.ckey = old.ckey
  have hn : P none := fun e => by cases e
  have ho : P (some old) := fun e => by cases e; exact ⟨rfl, rfl, rfl, rfl⟩
  have hr : P (some (replaceBy old new)) := fun e => by cases e; exact ⟨rfl, rfl, rfl, rfl⟩
  -- every branch of `tryMerge` is one of the three
  have both : ∀ {c : Prop} [Decidable c] {a b : Option IObj}, P a → P b → P (if c then a else b) :=
    fun ha hb => Hw.ite_cases (fun _ => ha) fun _ => hb
  have : P (tryMerge old new) :=
    both (both (both hn hr) (both ho (both hr ho))) (both (both hn ho) (both (both hn hr) hn))
  exact this h

theorem decide1_spec (obj ko : IObj) :
    match decide1 obj ko with
    | .merge o' => obj.key = ko.key ∧ obj.key ≠ 0 ∧ o'.gp = ko.gp ∧ o'.key = ko.key ∧ o'.mem = ko.mem ∧ o'.ckey = ko.ckey
    | .recurse => sub obj.key ko.key ∧ obj.key ≠ 0
    | .fail => ¬ dj obj.key ko.key
    | .differ => dj obj.key ko.key
    | .contain eq => sub ko.key obj.key ∧ ko.key ≠ 0 ∧ (eq = true → obj.key = ko.key) := by
  have hc := cmpSets_spec obj.key ko.key
  unfold decide1
  cases h : cmpSets obj.key ko.key with
  | equal =>
    rw [h] at hc
    cases hm : tryMerge ko obj with
    | some o' => exact ⟨hc.1, hc.2, tryMerge_some hm⟩
    | none =>
      cases ht : typeCmp obj ko with
      | equal => exact ⟨hc.1, hc.2, rfl, rfl, rfl, rfl⟩
      | included => exact ⟨hc.1 ▸ SetStage.Sub.refl _, hc.2⟩
      | different => exact ⟨hc.1 ▸ SetStage.Sub.refl _, hc.2⟩
      | contains => exact ⟨hc.1 ▸ SetStage.Sub.refl _, hc.1 ▸ hc.2, fun _ => hc.1⟩
      | intersects => exact absurd ht (typeCmp_ne_intersects _ _)
  | included => rw [h] at hc; exact ⟨hc.1, hc.2.1⟩
  | intersects => rw [h] at hc; exact hc
  | different => rw [h] at hc; exact hc
  | contains => rw [h] at hc; exact ⟨hc.1, hc.2.2, fun e => by cases e⟩

theorem decide1_merge {obj ko o' : IObj} (h : decide1 obj ko = .merge o') :
    obj.key = ko.key ∧ obj.key ≠ 0 ∧ o'.gp = ko.gp ∧ o'.key = ko.key ∧ o'.mem = ko.mem ∧ o'.ckey = ko.ckey := by
  have := decide1_spec obj ko; rw [h] at this; exact this
theorem decide1_recurse {obj ko : IObj} (h : decide1 obj ko = .recurse) : sub obj.key ko.key ∧ obj.key ≠ 0 := by
  have := decide1_spec obj ko; rw [h] at this; exact this
theorem decide1_fail {obj ko : IObj} (h : decide1 obj ko = .fail) : ¬ dj obj.key ko.key := by
  have := decide1_spec obj ko; rw [h] at this; exact this
theorem decide1_differ {obj ko : IObj} (h : decide1 obj ko = .differ) : dj obj.key ko.key := by
  have := decide1_spec obj ko; rw [h] at this; exact this
theorem decide1_contain {obj ko : IObj} {eq : Bool} (h : decide1 obj ko = .contain eq) :
    sub ko.key obj.key ∧ ko.key ≠ 0 ∧ (eq = true → obj.key = ko.key) := by
  have := decide1_spec obj ko; rw [h] at this; exact this


/-! ### laminar trees, object counts, tree induction -/

abbrev DJ (a b : T) : Prop := dj a.o.key b.o.key

theorem DJ_symm {a b : T} (h : DJ a b) : DJ b a := dj_comm.mp h

inductive Lam : T → Prop
  | mk {o : IObj} {kids : List T} :
      (∀ c ∈ kids, sub c.o.key o.key) → kids.Pairwise DJ → (∀ c ∈ kids, Lam c) → Lam (.node o kids)

theorem Lam.kids_sub {o : IObj} {kids : List T} (h : Lam (.node o kids)) : ∀ c ∈ kids, sub c.o.key o.key := by
  cases h; assumption
theorem Lam.kids_pw {o : IObj} {kids : List T} (h : Lam (.node o kids)) : kids.Pairwise DJ := by
  cases h; assumption
theorem Lam.kids_lam {o : IObj} {kids : List T} (h : Lam (.node o kids)) : ∀ c ∈ kids, Lam c := by
  cases h; assumption

theorem Lam.congr_key {o o' : IObj} {kids : List T} (h : Lam (.node o kids)) (hk : o'.key = o.key) : Lam (.node o' kids) :=
  .mk (fun c hc => hk ▸ h.kids_sub c hc) h.kids_pw h.kids_lam

theorem Lam.congr_kids {co : IObj} {l l' : List T} (h : Lam (.node co l)) (hk : l'.map (·.o.key) = l.map (·.o.key))
    (hl : ∀ c ∈ l', Lam c) : Lam (.node co l') := by
  refine .mk (fun c hc => ?_) ?_ hl
  · obtain ⟨c0, h0, e⟩ := List.mem_map.mp (hk ▸ List.mem_map_of_mem (f := fun c : T => c.o.key) hc)
    have e : c0.o.key = c.o.key := e
    exact e ▸ h.kids_sub c0 h0
  · have hp : (l.map (fun c : T => c.o.key)).Pairwise dj := List.pairwise_map.mpr h.kids_pw
    rw [← hk] at hp
    exact (List.pairwise_map (f := fun c : T => c.o.key) (R := dj)).mp hp

def cntT (g : Nat) (t : T) : Nat := ((objsT t).map (·.gp)).count g
def cntL (g : Nat) (l : List T) : Nat := ((objsT.objsL l).map (·.gp)).count g

@[simp] theorem cntL_nil (g : Nat) : cntL g [] = 0 := by simp [cntL, objsT.objsL]
@[simp] theorem cntL_cons (g : Nat) (c : T) (cs : List T) : cntL g (c :: cs) = cntT g c + cntL g cs := by
  simp [cntL, cntT, objsT.objsL, List.count_append]
@[simp] theorem cntT_node (g : Nat) (o : IObj) (kids : List T) :
    cntT g (.node o kids) = (if o.gp = g then 1 else 0) + cntL g kids := by
  simp only [cntT, cntL, objsT, List.map_cons, List.count_cons]
  split <;> rename_i h <;> simp at h <;> simp [h] <;> omega
@[simp] theorem cntL_append (g : Nat) (a b : List T) : cntL g (a ++ b) = cntL g a + cntL g b := by
  induction a with
  | nil => simp
  | cons c cs ih => simp [ih]; omega

theorem T.ind {P : T → Prop} (h : ∀ o kids, (∀ c ∈ kids, P c) → P (.node o kids)) : ∀ t, P t
  | .node o kids => h o kids fun c _ => T.ind h c
termination_by t => sizeOf t
decreasing_by simp_wf; have := List.sizeOf_lt_of_mem ‹c ∈ kids›; omega


/-- what every outcome of an insertion below `orig` satisfies -/
def Good (g0 : Nat) (orig : T) : Res → Prop
  | .stuck => False
  | .inserted t' => Lam t' ∧ t'.o.key = orig.o.key ∧ ∀ g, cntT g t' = cntT g orig + (if g0 = g then 1 else 0)
  | .merged t' _ => Lam t' ∧ t'.o.key = orig.o.key ∧ ∀ g, cntT g t' = cntT g orig
  | .failed t' => Lam t' ∧ t'.o.key = orig.o.key ∧ ∀ g, cntT g t' = cntT g orig

theorem Good.wrap {g0 : Nat} {co : IObj} {before rest : List T} {c : T} {r : Res}
    (h : Good g0 c r) (hL : Lam (.node co (before ++ c :: rest))) :
    Good g0 (.node co (before ++ c :: rest)) (r.wrap co before rest) := by
  have key : ∀ c' : T, Lam c' → c'.o.key = c.o.key → Lam (.node co (before ++ c' :: rest)) := by
    intro c' hl' hk
    refine hL.congr_kids (by simp [hk]) ?_
    simp only [List.forall_mem_append, List.forall_mem_cons]
    exact ⟨fun x hx => hL.kids_lam x (by simp [hx]), hl', fun x hx => hL.kids_lam x (by simp [hx])⟩
  cases r with
  | stuck => exact h
  | inserted c' =>
    obtain ⟨hl', ho, hc⟩ := h
    refine ⟨key c' hl' ho, rfl, fun g => ?_⟩
    simp [hc g]; omega
  | merged c' m =>
    obtain ⟨hl', ho, hc⟩ := h
    refine ⟨key c' hl' ho, rfl, fun g => ?_⟩
    simp [hc g]
  | failed c' =>
    obtain ⟨hl', ho, hc⟩ := h
    refine ⟨key c' hl' ho, rfl, fun g => ?_⟩
    simp [hc g]


theorem putback_perm : ∀ (taken lst : List T), (putback lst taken).Perm (lst ++ taken)
  | [], lst => by simp [putback]
  | c :: cs, lst => by
    rw [putback]
    refine ((putback_perm cs _).append_left _).trans ?_
    rw [← List.append_assoc]
    exact ((Hw.InsertSort.split_perm _ c lst).append_right cs).trans List.perm_middle.symm

theorem putbackAt_perm (cur taken : List T) (putp : Option Nat) : (putbackAt cur taken putp).Perm (cur ++ taken) := by
  cases putp with
  | none => exact putback_perm taken _
  | some i =>
    have := List.Perm.append_left (cur.take i) (putback_perm taken (cur.drop i))
    rwa [← List.append_assoc, List.take_append_drop] at this

/-! ### the children the loop keeps, and those it takes -/

theorem differs_dj {obj : IObj} {c : T} (h : differs obj c = true) : dj obj.key c.o.key :=
  decide1_differ (by simpa [differs] using h)

theorem taken_sub {obj : IObj} {c : T} (hp : passes obj c = true) (hd : differs obj c = false) :
    sub c.o.key obj.key ∧ c.o.key ≠ 0 := by
  unfold passes at hp; unfold differs at hd
  cases h : decide1 obj c.o with
  | contain eq => exact ⟨(decide1_contain h).1, (decide1_contain h).2.1⟩
  | differ => simp [h] at hd
  | _ => simp [h] at hp

theorem strip_key (obj : IObj) (c : T) : (strip obj c).o.key = c.o.key := by
  obtain ⟨o', e, h, _⟩ := strip_eq obj c; rw [e]; exact h

theorem Lam.strip {obj : IObj} {c : T} (h : Lam c) : Lam (strip obj c) := by
  obtain ⟨o', e, hk, _⟩ := strip_eq obj c; rw [e]; obtain ⟨o, k⟩ := c; exact h.congr_key hk

theorem cntL_map_strip (g : Nat) (obj : IObj) (l : List T) : cntL g (l.map (strip obj)) = cntL g l := by
  induction l with
  | nil => rfl
  | cons c l ih =>
    obtain ⟨o', e, _, _, hg⟩ := strip_eq obj c
    obtain ⟨o, k⟩ := c
    simp only [List.map_cons, cntL_cons, ih, e, cntT_node, hg, T.o, T.kids]

theorem cntL_filter (g : Nat) (p : T → Bool) (l : List T) :
    cntL g (l.filter p) + cntL g (l.filter (fun c => !p c)) = cntL g l := by
  induction l with
  | nil => rfl
  | cons c l ih => by_cases h : p c <;> simp [h] <;> omega

theorem cntL_perm (g : Nat) {l l' : List T} (h : l.Perm l') : cntL g l = cntL g l' := by
  induction h with
  | nil => rfl
  | cons x _ ih => simp [ih]
  | swap x y l => simp; omega
  | trans _ _ ih1 ih2 => exact ih1.trans ih2

theorem Lam.of_perm {co : IObj} {l l' : List T} (hp : l'.Perm l) (h : Lam (.node co l)) : Lam (.node co l') :=
  .mk (fun c hc => h.kids_sub c (hp.mem_iff.mp hc)) ((hp.pairwise_iff (fun h => DJ_symm h)).mpr h.kids_pw)
    (fun c hc => h.kids_lam c (hp.mem_iff.mp hc))

theorem kept_taken_perm (obj : IObj) (pre suf : List T) :
    ((keptOf obj pre ++ suf) ++ pre.filter (fun c => !differs obj c)).Perm (pre ++ suf) := by
  rw [List.append_assoc]
  refine (List.Perm.append_left _ List.perm_append_comm).trans ?_
  rw [← List.append_assoc]
  exact (List.filter_append_perm _ pre).append_right suf

/-- `pre`: the children the loop has gone past, `suf`: the others (none when the loop ends behind the last child) -/
theorem kept_taken_lam {obj co : IObj} {pre suf : List T} (hL : Lam (.node co (pre ++ suf)))
    (hp : ∀ c ∈ pre, passes obj c = true) :
    Lam (.node co ((keptOf obj pre ++ suf) ++ takenOf obj pre)) ∧ (∀ c ∈ keptOf obj pre, dj obj.key c.o.key) ∧
    (∀ d ∈ takenOf obj pre, sub d.o.key obj.key ∧ d.o.key ≠ 0) ∧
    ∀ g, cntL g (keptOf obj pre) + cntL g (takenOf obj pre) = cntL g pre := by
  have h1 := hL.of_perm (kept_taken_perm obj pre suf)
  refine ⟨h1.congr_kids (by simp [takenOf, strip_key]) ?_, fun c hc => differs_dj (List.mem_filter.mp hc).2, ?_, ?_⟩
  · refine List.forall_mem_append.2 ⟨fun c hc => h1.kids_lam c (List.mem_append_left _ hc), List.forall_mem_map.2 fun c hc => ?_⟩
    exact (h1.kids_lam c (List.mem_append_right _ hc)).strip
  · intro d hd
    obtain ⟨c, hc, rfl⟩ := List.mem_map.mp hd
    have := List.mem_filter.mp hc
    rw [strip_key]
    exact taken_sub (hp c this.1) (by simpa using this.2)
  · intro g; rw [cntL_map_strip]; exact cntL_filter g _ pre

theorem ins_good (t : T) (obj : IObj) (hL : Lam t) (hs : sub obj.key t.o.key) : Good obj.gp t (ins obj t) := by
  induction t using T.ind generalizing obj with
  | h co kids IH =>
    have hcase := ins_case obj co kids
    generalize ins obj (.node co kids) = r at hcase
    cases hcase with
    | stuck pre ko kk rest hp ht hstop =>
      -- a child already below OBJ is disjoint from one that contains OBJ
      have hsub : sub obj.key ko.key := by
        rcases hstop with ⟨o', h⟩ | h
        · rw [(decide1_merge h).1]; exact SetStage.Sub.refl _
        · exact (decide1_recurse h).1
      obtain ⟨h1, _, hC, _⟩ := kept_taken_lam hL hp
      obtain ⟨d, hd⟩ := List.exists_mem_of_ne_nil _ ht
      exact absurd ((List.pairwise_append.mp h1.kids_pw).2.2 (.node ko kk) (by simp) d hd)
        (not_dj_of_sub (hC d hd).2 (SetStage.Sub.trans (hC d hd).1 hsub) (SetStage.Sub.refl _))
    | merged pre ko kk rest o' hd =>
      have hm := decide1_merge hd
      exact Good.wrap (c := T.node ko kk) (r := .merged (T.node o' kk) ko.gp)
        ⟨(hL.kids_lam (T.node ko kk) (by simp)).congr_key hm.2.2.2.1, hm.2.2.2.1, fun g => by simp [hm.2.2.1]⟩ hL
    | recursed pre ko kk rest hd =>
      exact Good.wrap (IH _ (by simp) _ (hL.kids_lam _ (by simp)) (decide1_recurse hd).1) hL
    | inserted _ hp =>
      obtain ⟨h1, hB, hC, hcnt⟩ := kept_taken_lam (suf := []) (by rwa [List.append_nil]) hp
      rw [List.append_nil] at h1
      have hpw := List.pairwise_append.mp h1.kids_pw
      -- neither laminarity nor the counts depend on where OBJ lands among the kept children
      have hperm := Hw.InsertSort.split_perm (fun c : T => !firstLt obj.key c.o.key)
        (T.node { obj with mem := memAfter obj obj.mem kids } (takenOf obj kids)) (keptOf obj kids)
      refine ⟨Lam.of_perm hperm (.mk (List.forall_mem_cons.2 ⟨hs, fun c hc => h1.kids_sub c (List.mem_append_left _ hc)⟩)
        (List.pairwise_cons.2 ⟨hB, hpw.1⟩) (List.forall_mem_cons.2
          ⟨.mk (fun d hd => (hC d hd).1) hpw.2.1 fun d hd => h1.kids_lam d (List.mem_append_right _ hd), fun c hc => h1.kids_lam c (List.mem_append_left _ hc)⟩)),
        rfl, fun g => ?_⟩
      have := hcnt g
      simp only [cntT_node, cntL_perm g hperm, cntL_cons]
      omega
    | failed pre ko kk rest hp hd =>
      -- the put-back permutes the kept children, what follows them, and the taken ones
      obtain ⟨h1, _, _, hcnt⟩ := kept_taken_lam hL hp
      have hp' := putbackAt_perm (keptOf obj pre ++ T.node ko kk :: rest) (takenOf obj pre) (firstAbove obj.key (keptOf obj pre))
      refine ⟨h1.of_perm hp', rfl, fun g => ?_⟩
      have := hcnt g
      rw [cntT_node, cntT_node, cntL_perm g hp']
      simp only [cntL_append, cntL_cons] at this ⊢
      omega


/-! ### executable laminarity check (evaluated by the driver on the tree of every real topology before a Group insertion) -/

def pwDJB : List T → Bool
  | [] => true
  | c :: cs => cs.all (fun x => c.o.key &&& x.o.key == 0) && pwDJB cs

mutual
def lamB : T → Bool
  | .node o kids => kids.all (fun c => c.o.key &&& o.key == c.o.key) && pwDJB kids && lamBL kids
def lamBL : List T → Bool
  | [] => true
  | c :: cs => lamB c && lamBL cs
end

theorem pwDJB_sound : ∀ l : List T, pwDJB l = true → l.Pairwise DJ := by
  intro l
  induction l with
  | nil => intro _; exact List.Pairwise.nil
  | cons c cs ih =>
    intro h
    simp only [pwDJB, Bool.and_eq_true, List.all_eq_true, beq_iff_eq] at h
    exact List.pairwise_cons.mpr ⟨fun x hx => h.1 x hx, ih h.2⟩

theorem lamBL_eq_all : ∀ l : List T, lamBL l = l.all lamB
  | [] => rfl
  | c :: cs => by rw [lamBL, List.all_cons, lamBL_eq_all cs]

theorem lamB_sound (t : T) (h : lamB t = true) : Lam t := by
  induction t using T.ind with
  | h o kids ih =>
    simp only [lamB, lamBL_eq_all, Bool.and_eq_true, List.all_eq_true, beq_iff_eq] at h
    exact .mk (fun c hc => h.1.1 c hc) (pwDJB_sound kids h.1.2) fun c hc => ih c hc (h.2 c hc)

/-! ### the Group insertion entry point -/

theorem insertGroup_good (filterGroup rootCpuset rootNodeset : Nat) (numas : List (Nat × Nat)) (root : T) (newGp : Nat) (a : GArgs)
    (hL : Lam root) (key : Nat) (r : Res)
    (h : insertGroup filterGroup rootCpuset rootNodeset numas root newGp a = .core key r) : Good newGp root r := by
  revert h
  fun_cases insertGroup filterGroup rootCpuset rootNodeset numas root newGp a <;> intro h <;> cases h
  rename_i hc
  exact ins_good root _ hL (cmpSets_included hc).1


/-! ### a whole discovery: any sequence of insertions -/

/-- insert the objects one after the other, as a discovery back end does; a refused object leaves the put-back tree;
`none` = an object was lost (`stuck`) -/
def insAll : T → List IObj → Option T
  | t, [] => some t
  | t, o :: os =>
    match ins o t with
    | .inserted t' => insAll t' os
    | .merged t' _ => insAll t' os
    | .failed t' => insAll t' os
    | .stuck => none

/-- the last conjunct: no object of the tree is ever lost, and every new gp_index appears at most as often as it was inserted
(a merged or refused object does not appear) -/
theorem insAll_good : ∀ (objs : List IObj) (t : T), Lam t → (∀ o ∈ objs, sub o.key t.o.key) →
    ∃ t', insAll t objs = some t' ∧ Lam t' ∧ t'.o.key = t.o.key ∧
      ∀ g, cntT g t ≤ cntT g t' ∧ cntT g t' ≤ cntT g t + (objs.map (·.gp)).count g := by
  intro objs
  induction objs with
  | nil => intro t hL _; exact ⟨t, rfl, hL, rfl, fun g => by simp⟩
  | cons o os ih =>
    intro t hL hs
    have h := ins_good t o hL (hs o (by simp))
    simp only [insAll]
    have next : ∀ t1 : T, Lam t1 → t1.o.key = t.o.key → (∀ g, cntT g t ≤ cntT g t1 ∧ cntT g t1 ≤ cntT g t + (if o.gp = g then 1 else 0)) →
        ∃ t', insAll t1 os = some t' ∧ Lam t' ∧ t'.o.key = t.o.key ∧
          ∀ g, cntT g t ≤ cntT g t' ∧ cntT g t' ≤ cntT g t + ((o :: os).map (·.gp)).count g := by
      intro t1 hL1 hk1 hc1
      obtain ⟨t', e, hL', hk', hc'⟩ := ih t1 hL1 (fun x hx => hk1 ▸ hs x (by simp [hx]))
      refine ⟨t', e, hL', hk'.trans hk1, fun g => ?_⟩
      have a := hc1 g; have b := hc' g
      simp only [List.map_cons, List.count_cons, beq_iff_eq]
      omega
    generalize ins o t = r at h ⊢
    cases r with
    | stuck => exact absurd h id
    | inserted t1 => exact next t1 h.1 h.2.1 fun g => by rw [h.2.2 g]; exact ⟨Nat.le_add_right _ _, Nat.le_refl _⟩
    | merged t1 m => exact next t1 h.1 h.2.1 fun g => by rw [h.2.2 g]; exact ⟨Nat.le_refl _, Nat.le_add_right _ _⟩
    | failed t1 => exact next t1 h.1 h.2.1 fun g => by rw [h.2.2 g]; exact ⟨Nat.le_refl _, Nat.le_add_right _ _⟩

end Hw.Topo.Ins
