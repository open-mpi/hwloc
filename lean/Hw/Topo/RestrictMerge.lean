/-
  Hw.Topo.RestrictMerge — hwloc_filter_levels_keep_structure never removes a PU, keeps "PUs are leaves" and never replaces
  the root, proved through the LEVEL-WIDE guards of the C code (hwloc_compare_levels_structure: same parent/child pairing,
  arity 1, no memory children above the PU level; the merge decision: only KEEP_STRUCTURE types or Die below Package).  The
  level-wide comparison gives a node-wise fact about every merged node (`QN`); the level loop keeps `Jinv`: distinct gp_index,
  and every tree object listed in a level (of stale copies) has the type of the level's first entry.
-/
import Hw.Topo.RestrictSurvive
import Hw.Base.ListLemmas
namespace Hw.Topo.Restrict
open Hw.Topo Hw.Gen.Restrict

/-! ### normal sub-trees, their objects, their links -/

theorem nsub_mem_objs (t N : Tree) (h : N ∈ nsubT t) : N.obj ∈ objsT t :=
  (ncl_sublist_objs.1 t).subset (ncl_map_nsub.1 t ▸ List.mem_map_of_mem h)

theorem nsub_inj (t : Tree) (hn : ((objsT t).map (·.gp)).Nodup) {A B : Tree} (hA : A ∈ nsubT t) (hB : B ∈ nsubT t)
    (e : A.obj.gp = B.obj.gp) : A = B := by
  have h1 : (((nsubT t).map (·.obj)).map (·.gp)).Nodup := ncl_map_nsub.1 t ▸ ((ncl_sublist_objs.1 t).map (·.gp)).nodup hn
  rw [List.map_map] at h1
  exact inj_of_nodup_map h1 hA hB e

theorem mem_linksL {par : Option Nat} {l : Link} {ts : List Tree} : l ∈ linksL par ts ↔ ∃ t ∈ ts, l ∈ linksT par t := by
  induction ts with
  | nil => simp [linksL]
  | cons t ts ih => rw [linksL, List.mem_append, ih]; simp only [List.mem_cons, exists_eq_or_imp]

/-- what a link says: every entry of `linksT par t` describes a normal sub-tree `M` of `t` (its gp_index, arity and
    memory arity), and its parent field is `par` for `t` itself and the gp_index of the sub-tree that has `M` as a child otherwise -/
theorem links_spec :
    (∀ t, ∀ par, ∀ l ∈ linksT par t, ∃ M ∈ nsubT t, l.gp = M.obj.gp ∧ l.arity = M.ns.length ∧ l.marity = M.ms.length ∧
        ((M = t ∧ l.parent = par) ∨ ∃ P ∈ nsubT t, M ∈ P.ns ∧ l.parent = some P.obj.gp)) ∧
    (∀ ts, ∀ par, ∀ l ∈ linksL par ts, ∃ M ∈ nsubL ts, l.gp = M.obj.gp ∧ l.arity = M.ns.length ∧ l.marity = M.ms.length ∧
        ((M ∈ ts ∧ l.parent = par) ∨ ∃ P ∈ nsubL ts, M ∈ P.ns ∧ l.parent = some P.obj.gp)) := by
  refine (fun tree => ⟨tree, fun ts par l hl => ?_⟩) (Tree.ind4 fun o ns ms ios mis ih _ _ _ par l hl => ?_)
  · rw [linksT, List.mem_cons] at hl
    rcases hl with rfl | hl
    · exact ⟨_, nsubT_self _, rfl, rfl, rfl, Or.inl ⟨rfl, rfl⟩⟩
    · obtain ⟨c, hc, hlc⟩ := mem_linksL.1 hl
      obtain ⟨M, hM, e1, e2, e3, h⟩ := ih c hc _ l hlc
      refine ⟨M, mem_nsubT.2 (.inr ⟨c, hc, hM⟩), e1, e2, e3, Or.inr ?_⟩
      rcases h with ⟨rfl, hp⟩ | ⟨P, hP, hMP, hp⟩
      · exact ⟨_, nsubT_self _, hc, hp⟩
      · exact ⟨P, mem_nsubT.2 (.inr ⟨c, hc, hP⟩), hMP, hp⟩
  · -- the list half is the tree half at the member the link comes from
    obtain ⟨c, hc, hlc⟩ := mem_linksL.1 hl
    obtain ⟨M, hM, e1, e2, e3, h⟩ := tree c par l hlc
    refine ⟨M, mem_nsubL.2 ⟨c, hc, hM⟩, e1, e2, e3, ?_⟩
    rcases h with ⟨rfl, hp⟩ | ⟨P, hP, hMP, hp⟩
    · exact Or.inl ⟨hc, hp⟩
    · exact Or.inr ⟨P, mem_nsubL.2 ⟨c, hc, hP⟩, hMP, hp⟩

theorem findLink_some {ls : List Link} {g : Nat} {l : Link} (h : findLink ls g = some l) : l ∈ ls ∧ l.gp = g := by
  unfold findLink at h
  exact ⟨List.mem_of_find?_eq_some h, by simpa using List.find?_some h⟩

/-! ### from the level-wide comparison to the merged nodes -/

/-- node-wise consequence of hwloc_compare_levels_structure: when the objects have distinct gp_index and levels `up` / `down`
    have the same structure, every sub-tree `N` whose root is listed in `up` and has a single normal child `C` has `C` listed in
    `down`, and no memory children when `down` is the PU level -/
theorem pair_of_same (T : Tree) (hn : ((objsT T).map (·.gp)).Nodup) (up down : List RObj)
    (hs : sameStructure (linksT none T) up down = true)
    (N : Tree) (hN : N ∈ nsubT T) (hps : (up.map (·.gp)).contains N.obj.gp = true) (C : Tree) (hC : N.ns = [C]) :
    ∃ d ∈ down, d.gp = C.obj.gp ∧ (((down.head?.map (·.type)) == some tPU) = true → N.ms = []) := by
  unfold sameStructure at hs
  simp only [Bool.and_eq_true, beq_iff_eq, List.all_eq_true] at hs
  obtain ⟨hlen, hall⟩ := hs
  -- `up` is the first projection of `up.zip down`: the listed root of `N` has a partner `d` in `down`
  have hmem := List.contains_iff_mem.1 hps
  rw [← List.map_fst_zip (Nat.le_of_eq hlen), List.map_map] at hmem
  obtain ⟨⟨u, d⟩, hud, (hug : u.gp = N.obj.gp)⟩ := List.mem_map.1 hmem
  have h := hall (u, d) hud
  split at h
  · rename_i lu ld hlu hld
    simp only [Bool.and_eq_true, beq_iff_eq, Bool.not_eq_true', Bool.and_eq_false_iff, bne_eq_false_iff_eq] at h
    obtain ⟨⟨hpar, _⟩, hmemo⟩ := h
    obtain ⟨hlum, hlug⟩ := findLink_some hlu
    obtain ⟨hldm, hldg⟩ := findLink_some hld
    -- the link of `u` is the link of `N`
    obtain ⟨Mu, hMu, eu1, _, eu3, _⟩ := links_spec.1 T none lu hlum
    obtain rfl : Mu = N := nsub_inj T hn hMu hN (by rw [← eu1, hlug, hug])
    -- the link of `d` is the link of a child of `N`
    obtain ⟨Md, hMd, ed1, _, _, hcase⟩ := links_spec.1 T none ld hldm
    obtain rfl : Md = C := by
      rcases hcase with ⟨_, hp⟩ | ⟨P, hP, hMP, hp⟩
      · rw [hp] at hpar; cases hpar
      · rw [hp] at hpar
        obtain rfl : P = Mu := nsub_inj T hn hP hN (by rw [← hug]; exact Option.some.inj hpar)
        rw [hC] at hMP
        exact List.mem_singleton.1 hMP
    refine ⟨d, (List.of_mem_zip hud).2, by rw [← hldg, ed1], fun hpu => ?_⟩
    rcases hmemo with h1 | h1
    · rw [hpu] at h1; cases h1
    · rw [eu3] at h1
      exact List.eq_nil_of_length_eq_zero h1
  · cases h

/-! ### the node-wise guard keeps the PUs and their leafness through `mergeT` -/

/-- the guard at a merged node with a single normal child `C`: a PU is never the child that is dropped, and a PU never replaces a
    parent that has memory children -/
def QN (rc : Bool) (N : Tree) : Prop :=
  ∀ C, N.ns = [C] → (rc = true → C.obj.type ≠ tPU) ∧ (rc = false → C.obj.type = tPU → N.ms = [])

theorem puLeafL_append {a b : List Tree} (ha : puLeafL a = true) (hb : puLeafL b = true) : puLeafL (a ++ b) = true := by
  rw [puLeafL_iff] at ha hb ⊢
  intro t ht
  rcases List.mem_append.1 ht with h | h
  · exact ha t h
  · exact hb t h

theorem puLeafL_perm {a b : List Tree} (h : a.Perm b) (ha : puLeafL a = true) : puLeafL b = true := by
  rw [puLeafL_iff] at ha ⊢
  exact fun t ht => ha t (h.mem_iff.2 ht)

theorem puLeafL_map {g : Tree → Tree} {l : List Tree} (h : ∀ c ∈ l, puLeafT c = true → puLeafT (g c) = true)
    (hl : puLeafL l = true) : puLeafL (l.map g) = true := by
  rw [puLeafL_iff] at hl ⊢
  intro t ht
  obtain ⟨c, hc, rfl⟩ := List.mem_map.1 ht
  exact h c hc (hl c hc)

theorem nsub_puLeaf : ∀ t, puLeafT t = true → ∀ N ∈ nsubT t, puLeafT N = true :=
  nsub_of fun o ns ms ios mis hl c hc => (puLeafL_iff _).1 ((puLeafT_node o ns ms ios mis).1 hl).2.1 c hc

theorem puLeaf_mergeT (ps : List Nat) (rc : Bool) :
    ∀ t, puLeafT t = true → (∀ N ∈ nsubT t, ps.contains N.obj.gp = true → QN rc N) → puLeafT (mergeT ps rc t) = true :=
  mergeT_ind ps rc (P := fun t t' => puLeafT t = true → (∀ N ∈ nsubT t, ps.contains N.obj.gp = true → QN rc N) →
      puLeafT t' = true)
    (fun o co cns cms cios cmis ms ios mis mm hc hmm hl hq => by
      obtain ⟨_, q2⟩ := hq _ (nsubT_self _) hc _ rfl
      simp only [Tree.obj, Tree.ms] at q2
      obtain ⟨l0, l1, l2, l3, l4⟩ := (puLeafT_node ..).1 hl
      obtain ⟨c0, c1, c2, c3, c4⟩ := (puLeafT_node ..).1 ((puLeafL_iff _).1 l1 _ List.mem_cons_self)
      refine (puLeafT_node ..).2 ⟨fun e => ?_, c1, puLeafL_perm hmm.symm (puLeafL_append l2 c2), puLeafL_append l3 c3,
        puLeafL_append l4 c4⟩
      cases rc with
      | true => exact nomatch (l0 e).1
      | false =>
        simp only [Bool.false_eq_true, if_false, absorbIf_type] at e
        rw [q2 rfl e, (c0 e).2] at hmm
        exact ⟨(c0 e).1, hmm.eq_nil⟩)
    (fun _ hl _ => hl)
    fun o ns ms ios mis hn hl hq => by
      have hl' := (puLeafT_node o ns ms ios mis).1 hl
      rw [puLeafT_node]
      exact ⟨fun e => ⟨by rw [(hl'.1 e).1]; rfl, (hl'.1 e).2⟩,
        puLeafL_map (fun c hc h => hn c hc h fun N hN => hq N (mem_nsubT.2 (.inr ⟨c, hc, hN⟩))) hl'.2.1, hl'.2.2⟩

/-- a PU is never the object that goes, and a PU that replaces its parent takes no sets over -/
theorem sameObjs_mergeT_pu (ps : List Nat) (rc : Bool) (t : Tree) (hl : puLeafT t = true)
    (hq : ∀ N ∈ nsubT t, ps.contains N.obj.gp = true → QN rc N) : SameObjs (· = tPU) t (mergeT ps rc t) := ⟨fun f a hfa => by
  refine cntEq_mergeT_of f a ps rc t fun N hN hc C hC => ?_
  obtain ⟨q1, q2⟩ := hq N hN hc C hC
  have hl' := nsub_puLeaf t hl N hN
  cases N with
  | node o ns ms ios mis =>
    simp only [Tree.ns, Tree.ms] at hC q2
    subst hC
    show f (if rc = true then C.obj else o) ≠ a ∧ cnt1 f a (absorbIf ms o C.obj) = cnt1 f a C.obj
    have hoty : o.type ≠ tPU := fun e => nomatch (((puLeafT_node _ _ _ _ _).1 hl').1 e).1
    constructor
    · cases rc
      · exact fun h => hoty (hfa _ h)
      · exact fun h => q1 rfl (hfa _ h)
    · by_cases hcpu : C.obj.type = tPU
      · cases rc
        · rw [q2 rfl hcpu]; rfl
        · exact absurd hcpu (q1 rfl)
      · rw [cnt1_zero f a (fun h => hcpu (hfa _ h)),
          cnt1_zero f a (fun h => hcpu (by rw [← absorbIf_type ms o C.obj]; exact hfa _ h))]⟩

section mergepu
variable {α : Type} [DecidableEq α] (f : RObj → α) (a : α)

theorem merge_puL (hfa : ∀ x, f x = a → x.type = tPU) (ps : List Nat) (rc : Bool) :
    ∀ l, typedL isNormal l = true → puLeafL l = true → (∀ N ∈ nsubL l, ps.contains N.obj.gp = true → QN rc N) →
      puLeafL (mergeL ps rc l) = true ∧ cnt f a (objsL (mergeL ps rc l)) = cnt f a (objsL l) := fun l _ hl hq => by
  have hq' : ∀ c ∈ l, ∀ N ∈ nsubT c, ps.contains N.obj.gp = true → QN rc N :=
    fun c hc N hN => hq N (mem_nsubL.2 ⟨c, hc, hN⟩)
  rw [mergeL_eq_map]
  exact ⟨puLeafL_map (fun c hc h => puLeaf_mergeT ps rc c h (hq' c hc)) hl, cnt_objsL_map_eq f a fun c hc =>
    (sameObjs_mergeT_pu ps rc c ((puLeafL_iff _).1 hl c hc) (hq' c hc)).cnt_eq f a hfa⟩

end mergepu

/-! ### the invariant of the level loop -/

structure Jinv (T : Tree) (Ls : List (List RObj)) : Prop where
  nod : ((objsT T).map (·.gp)).Nodup
  -- the levels hold stale copies; a tree object listed in one (by gp_index) still has the type of its first entry, which `mergeDecision` reads
  ty : ∀ lv ∈ Ls, ∀ o, lv.head? = some o → ∀ d ∈ lv, ∀ x ∈ objsT T, x.gp = d.gp → x.type = o.type
  leaf : puLeafT T = true

theorem mergeDecision_heads (filters : List Nat) (up down : List RObj) (rc : Bool) (h : mergeDecision filters up down = some rc) :
    ∃ o1 o2, up.head? = some o1 ∧ down.head? = some o2 := by
  unfold mergeDecision at h
  split at h
  · rename_i o1 o2 h1 h2; exact ⟨o1, o2, h1, h2⟩
  · cases h

/-- a merge of one level changes the root object only when the root itself is a parent that its child replaces -/
theorem obj_mergeT (ps : List Nat) (rc : Bool) :
    ∀ t, rc = true ∨ ps.contains t.obj.gp = false → (mergeT ps rc t).obj = t.obj :=
  mergeT_ind ps rc (P := fun t t' => rc = true ∨ ps.contains t.obj.gp = false → t'.obj = t.obj)
    (fun o _ _ _ _ _ ms _ _ _ hc _ h => by
      obtain rfl : rc = true := h.resolve_right (by rw [Tree.obj, hc]; exact Bool.noConfusion)
      rfl)
    (fun _ _ => rfl) fun _ _ _ _ _ _ _ => rfl

/-- one guarded merge keeps the invariant (for any level list `Ls'` taken from the old one), the root object and every PU; the root
    is not replaced because the level that goes has one type, filtered KEEP_STRUCTURE, and the root's type is not -/
theorem J_merge (filters : List Nat) (hPU : filterOf filters tPU ≠ filterKeepStructure) (T : Tree) (Ls Ls' : List (List RObj))
    (hJ : Jinv T Ls) (hRoot : filterOf filters T.obj.type ≠ filterKeepStructure) (hLs' : ∀ lv ∈ Ls', lv ∈ Ls) (up down : List RObj)
    (hup : up ∈ Ls) (hdown : down ∈ Ls) (rc : Bool) (hdec : mergeDecision filters up down = some rc)
    (hs : sameStructure (linksT none T) up down = true) :
    Jinv (mergeT (up.map (·.gp)) rc T) Ls' ∧ (mergeT (up.map (·.gp)) rc T).obj = T.obj ∧
    SameObjs (· = tPU) T (mergeT (up.map (·.gp)) rc T) := by
  obtain ⟨o1, o2, hh1, hh2⟩ := mergeDecision_heads filters up down rc hdec
  have hsound := mergeDecision_sound filters up down o1 o2 hh1 hh2
  have hQ : ∀ N ∈ nsubT T, (up.map (·.gp)).contains N.obj.gp = true → QN rc N := by
    intro N hN hc C hC
    obtain ⟨d, hd, hdg, hmem⟩ := pair_of_same T hJ.nod up down hs N hN hc C hC
    have hCobj : C.obj ∈ objsT T := nsub_mem_objs T C (nsubT_child T N C hN (by rw [hC]; exact List.mem_singleton.2 rfl))
    have hty : C.obj.type = o2.type := hJ.ty down hdown o2 hh2 d hd C.obj hCobj hdg.symm
    constructor
    · intro hrc hCpu
      subst hrc
      rcases hsound.1 hdec with h | ⟨_, h⟩
      · rw [← hty, hCpu] at h; exact hPU h
      · rw [← hty, hCpu] at h; revert h; decide
    · exact fun _ hCpu => hmem (by rw [hh2, Option.map_some, ← hty, hCpu, beq_self_eq_true])
  have hobj : (mergeT (up.map (·.gp)) rc T).obj = T.obj := by
    refine obj_mergeT _ rc T ?_
    cases rc
    · refine .inr (Bool.eq_false_iff.2 fun hc => hRoot ?_)
      obtain ⟨u, hu, hug⟩ := List.mem_map.1 (List.contains_iff_mem.1 hc)
      rw [hJ.ty up hup o1 hh1 u hu T.obj (nsub_mem_objs T T (nsubT_self T)) hug.symm]
      exact hsound.2 hdec
    · exact .inl rfl
  refine ⟨⟨?_, fun lv hlv o ho d hd x hx hg => ?_, puLeaf_mergeT _ rc T hJ.leaf hQ⟩, hobj, sameObjs_mergeT_pu _ rc T hJ.leaf hQ⟩
  · exact nodup_gp_of_cnt_le (fun g => cnt_mergeT (fun y => y.gp) g (fun _ _ => rfl) _ rc T) hJ.nod
  · -- `x` has the gp_index and the type of an object of the old tree
    obtain ⟨x0, hx0, e⟩ := mem_of_cnt_le (f := fun y => (y.gp, y.type))
      (fun a => cnt_mergeT _ a (fun _ _ => rfl) _ rc T) hx
    obtain ⟨e1, e2⟩ := Prod.mk.inj e
    rw [← e2]
    exact hJ.ty lv (hLs' lv hlv) o ho d hd x0 hx0 (e1.trans hg)

theorem J_init (t : Tree) (hn : ((objsT t).map (·.gp)).Nodup) (ht : typedT t = true) (hl : puLeafT t = true) :
    Jinv t (connectLevels t) := by
  have hmemobj : ∀ lv ∈ connectLevels t, ∀ d ∈ lv, d ∈ objsT t := fun lv hlv d hd =>
    (ncl_sublist_objs.1 t).subset ((connectLevels_sublist t lv hlv).subset hd)
  refine ⟨hn, fun lv hlv o ho d hd x hx hg => ?_, hl⟩
  have ho := List.mem_of_head? ho
  obtain rfl : x = d := inj_of_nodup_map hn hx (hmemobj lv hlv d hd) hg
  exact orderOf_inj _ (typed_types_lt t ht x hx) _ (typed_types_lt t ht o (hmemobj lv hlv o ho))
    (connectLevels_same_order t lv hlv x hd o ho)

theorem puLeaf_reorderAllT : ∀ t, puLeafT t = true → puLeafT (reorderAllT t) = true :=
  Tree.ind4 fun o ns ms ios mis hn _ _ _ hl => by
    rw [puLeafT_node] at hl
    rw [reorderAllT, reorderAllL_eq_map, puLeafT_node]
    exact ⟨fun e => ⟨by rw [(hl.1 e).1]; rfl, (hl.1 e).2⟩, puLeafL_perm (fixOrder_perm _).symm (puLeafL_map hn hl.2.1), hl.2.2⟩

/-- hwloc_filter_levels_keep_structure keeps every PU, keeps PUs leaves, and keeps the root, for every typed tree with
    distinct gp_index whose PU type and root type are not filtered KEEP_STRUCTURE (hwloc_topology_set_type_filter refuses any
    filter but KEEP_ALL for PU, NUMA node and Machine) -/
theorem keepStructure_pu (filters : List Nat) (hPU : filterOf filters tPU ≠ filterKeepStructure) (t : Tree)
    (hRoot : filterOf filters t.obj.type ≠ filterKeepStructure) (hn : ((objsT t).map (·.gp)).Nodup) (ht : typedT t = true)
    (hl : puLeafT t = true) :
    puLeafT (keepStructure filters t) = true ∧ (keepStructure filters t).obj = t.obj ∧
    ((objsT (keepStructure filters t)).map (·.gp)).Nodup ∧ SameObjs (· = tPU) t (keepStructure filters t) := by
  have h := ksLoop_ind (I := fun T Ls => Jinv T Ls ∧ T.obj = t.obj ∧ SameObjs (· = tPU) t T) filters
    (fun T Ls i up down rc hI _ hup hdown hdec hs =>
      have h := J_merge filters hPU T Ls _ hI.1 (by rw [hI.2.1]; exact hRoot)
        (by cases rc <;> exact fun lv h => List.mem_of_mem_eraseIdx h) up down (List.mem_of_getElem? hup)
        (List.mem_of_getElem? hdown) rc hdec hs
      ⟨h.1, h.2.1.trans hI.2.1, hI.2.2.trans h.2.2⟩)
    ((connectLevels t).length - 1) (t, connectLevels t, false) ⟨J_init t hn ht hl, rfl, .refl _ _⟩
  unfold keepStructure
  simp only []
  split
  · exact ⟨puLeaf_reorderAllT _ h.1.leaf, (obj_reorderAllT _).trans h.2.1,
      (((objsT_reorderAllT_perm _).map (·.gp)).nodup_iff).2 h.1.nod, h.2.2.trans (.of_perm (objsT_reorderAllT_perm _))⟩
  · exact ⟨h.1.leaf, h.2.1, h.1.nod, h.2.2⟩

/-! ### the tree recursion keeps PUs leaves -/

theorem puLeaf_restrictTW {ro : List Tree → List Tree} (hro : ∀ l, (ro l).Perm l) (p : Params) :
    ∀ t, puLeafT t = true → puLeafL (restrictTW ro p t).kept = true ∧ puLeafL (restrictTW ro p t).io = true ∧
      puLeafL (restrictTW ro p t).misc = true := by
  refine (restrictW_ind hro p
    (P := fun t r => puLeafT t = true → puLeafL r.kept = true ∧ puLeafL r.io = true ∧ puLeafL r.misc = true)
    (Q := fun _ l r => puLeafL l = true → puLeafL r.kept = true ∧ puLeafL r.io = true ∧ puLeafL r.misc = true ∧ (l = [] → r.kept = []))
    ?_ (fun _ l _ h => ⟨h, rfl, rfl, id⟩) (fun _ _ => ⟨rfl, rfl, rfl, fun _ => rfl⟩) ?_).1
  · intro o ns ms ios mis rn rm r qn qm hr hl
    obtain ⟨l0, l1, l2, l3, l4⟩ := (puLeafT_node o ns ms ios mis).1 hl
    have hio := puLeafL_append (puLeafL_append l3 (qn l1).2.1) (qm l2).2.1
    have hmisc := puLeafL_append (puLeafL_append l4 (qn l1).2.2.1) (qm l2).2.2.1
    rcases hr with ⟨_, rfl⟩ | ⟨_, ns', hperm, rfl⟩
    · exact ⟨rfl, ite_nil (P := (puLeafL · = true)) _ rfl hio, ite_nil (P := (puLeafL · = true)) _ rfl hmisc⟩
    · refine ⟨?_, rfl, rfl⟩
      rw [puLeafL, puLeafL, Bool.and_true, puLeafT_node]
      refine ⟨fun e => ?_, puLeafL_perm hperm.symm (qn l1).1, (qm l2).1, hio, hmisc⟩
      rw [type_shrinkG] at e
      exact ⟨((qn l1).2.2.2 (l0 e).1 ▸ hperm).eq_nil, (qm l2).2.2.2 (l0 e).2⟩
  · intro _ t ts r rs ht hts hl
    rw [puLeafL] at hl
    simp only [Bool.and_eq_true] at hl
    have a := ht hl.1
    have b := hts hl.2
    exact ⟨puLeafL_append a.1 b.1, puLeafL_append a.2.1 b.2.1, puLeafL_append a.2.2 b.2.2.1, fun h => (nomatch h)⟩

theorem restrictCore_puLeaf (t : Topo) (p : Params) (t' : Topo) (hc : restrictCore t p = some t') (hl : puLeafT t.tree = true) :
    puLeafT t'.tree = true :=
  (puLeafL_iff _).1 (puLeaf_restrictTW reorder_perm p t.tree hl).1 _ (restrictCore_mem hc)

theorem restrictCore_nodup (t : Topo) (p : Params) (t' : Topo) (hc : restrictCore t p = some t')
    (hn : ((objsT t.tree).map (·.gp)).Nodup) : ((objsT t'.tree).map (·.gp)).Nodup :=
  nodup_gp_of_cnt_le (fun g => cnt_restrictCore (fun y => y.gp) g t p t' hc (fun o => gp_shrinkG p o)) hn

/-! ### the whole call: PUs, leafness, root -/

/-- the hypotheses under which level merging is proved harmless for PUs and the root: distinct gp_index (C01 gp-index-unique)
    and no KEEP_STRUCTURE filter on PU and on the root's type (refused by hwloc_topology_set_type_filter) -/
def mergeSafe (t : Topo) : Prop :=
  ((objsT t.tree).map (·.gp)).Nodup ∧ filterOf t.filters tPU ≠ filterKeepStructure ∧
  filterOf t.filters t.tree.obj.type ≠ filterKeepStructure

instance (t : Topo) : Decidable (mergeSafe t) := by unfold mergeSafe; exact inferInstance

/-- the tree recursion hands level merging a tree that meets the hypotheses of `keepStructure_pu` again -/
theorem restrictCore_keepStructure_pu (t : Topo) (p : Params) (t' : Topo) (hc : restrictCore t p = some t') (hty : typedT t.tree = true)
    (hl : puLeafT t.tree = true) (hs : mergeSafe t) :
    mergeSafe t' ∧ puLeafT (keepStructure t'.filters t'.tree) = true ∧ (keepStructure t'.filters t'.tree).obj = t'.tree.obj ∧
    ((objsT (keepStructure t'.filters t'.tree)).map (·.gp)).Nodup ∧ SameObjs (· = tPU) t'.tree (keepStructure t'.filters t'.tree) := by
  have hroot := restrictCore_root t p t' hc
  have hs' : mergeSafe t' := ⟨restrictCore_nodup t p t' hc hs.1, by rw [hroot.2.2.2.1]; exact hs.2.1,
    by rw [hroot.2.2.2.1, hroot.1, type_shrinkG]; exact hs.2.2⟩
  exact ⟨hs', keepStructure_pu t'.filters hs'.2.1 t'.tree hs'.2.2 hs'.1 (restrictCore_typed t p t' hc hty).1
    (restrictCore_puLeaf t p t' hc hl)⟩

theorem restrict_leaf_root (t : Topo) (s : CSet) (flags : Nat) (hty : typedT t.tree = true) (hl : puLeafT t.tree = true)
    (hs : mergeSafe t) :
    puLeafT (restrict t s flags).1.tree = true ∧ ident (restrict t s flags).1.tree.obj = ident t.tree.obj ∧
    mergeSafe (restrict t s flags).1 := by
  refine restrict_ind (P := fun t' => puLeafT t'.tree = true ∧ ident t'.tree.obj = ident t.tree.obj ∧ mergeSafe t') t s flags
    ⟨hl, rfl, hs⟩ fun p t' _ hc => ?_
  · obtain ⟨hs', hk⟩ := restrictCore_keepStructure_pu t p t' hc hty hl hs
    refine ⟨hk.1, by rw [hk.2.1, (restrictCore_root t p t' hc).1, ident_shrinkG], hk.2.2.1, hs'.2.1, ?_⟩
    show filterOf t'.filters (keepStructure t'.filters t'.tree).obj.type ≠ filterKeepStructure
    rw [hk.2.1]
    exact hs'.2.2

/-- what the rendering theorems need of the result of a call on a tree with a Machine root -/
theorem restrict_machine_root (t : Topo) (s : CSet) (flags : Nat) (ht : typedT t.tree = true) (hm : t.tree.obj.type = tMACHINE)
    (hl : puLeafT t.tree = true) (hs : mergeSafe t) :
    typedT (restrict t s flags).1.tree = true ∧ isNormal (restrict t s flags).1.tree.obj.type = true ∧
    puLeafT (restrict t s flags).1.tree = true ∧ (restrict t s flags).1.tree.obj.type = tMACHINE ∧ mergeSafe (restrict t s flags).1 :=
  have hr : isNormal t.tree.obj.type = true := by rw [hm]; decide
  have h1 := typed_restrict t s flags ht
  have h2 := restrict_leaf_root t s flags ht hl hs
  ⟨h1.1, h1.2 hr, h2.1, (congrArg RObj.type h2.2.1).trans hm, h2.2.2⟩

/-- PUs after a successful restrict by cpuset S, whole call (level merging included): every PU of the result still has
    cpuset = complete cpuset = {os_index} with os_index ∈ S, and the PUs of the result are EXACTLY the previous PUs whose os_index
    is in S -/
theorem pus_exact_whole (t : Topo) (s : CSet) (flags : Nat) (p : Params) (hp : plan t s flags = some p) (hb : p.byNode = false)
    (hret : (restrict t s flags).2 = .ok) (hok : okT t.tree = true) (hty : typedT t.tree = true)
    (hleaf : puLeafT t.tree = true) (hsets : puSetsT t.tree = true) (hs : mergeSafe t) :
    (∀ x ∈ objsT (restrict t s flags).1.tree, x.type = tPU → x.cpuset = osBit x ∧ x.ccpuset = osBit x ∧ s.mem x.osidx.toNat = true) ∧
    (∀ a : RObj, a.type = tPU → cnt ident (ident a) (objsT (restrict t s flags).1.tree) =
        if s.mem a.osidx.toNat = true then cnt ident (ident a) (objsT t.tree) else 0) := by
  obtain ⟨t', hc, hres⟩ := restrict_ok_core t s flags p hp hret
  have same := (restrictCore_keepStructure_pu t p t' hc hty hleaf hs).2.2.2.2
  have core := pus_exact_core t s flags p hp hb t' hc hok hty hleaf hsets
  rw [hres]
  exact ⟨fun x hx hxt => core.1 x ((same.mem hxt).1 hx) hxt, fun a ha => (same.ident ha).trans (core.2 a ha)⟩

/-- protected PUs survive the whole call.  With `protPUn`: under a restrict by nodeset a PU disappears only if REMOVE_MEMLESS is
    given and its nodeset is empty afterwards; with `protPU`: under a restrict by cpuset to S a PU with cpuset {os_index}, os_index ∈ S, stays -/
theorem survive_whole_pu (t : Topo) (s : CSet) (flags : Nat) (p : Params) (hp : plan t s flags = some p)
    (hret : (restrict t s flags).2 = .ok) (hty : typedT t.tree = true) (hleaf : puLeafT t.tree = true) (hs : mergeSafe t)
    (prot : RObj → Bool) (hprot : ∀ o, prot o = true → (emptyAfter p (shrinkG p o) && removable p o.type) = false)
    (hkind : ∀ o, prot o = true → isNormal o.type = true ∨ isMemory o.type = true) (a : RObj) (ha : a.type = tPU) :
    cnt ident (ident a) ((objsT t.tree).filter prot) ≤ cnt ident (ident a) (objsT (restrict t s flags).1.tree) := by
  obtain ⟨t', hc, hres⟩ := restrict_ok_core t s flags p hp hret
  rw [hres, (restrictCore_keepStructure_pu t p t' hc hty hleaf hs).2.2.2.2.ident ha]
  exact survive_core ident (ident a) t p t' hc hty prot (fun o => ident_shrinkG p o) hprot hkind

end Hw.Topo.Restrict
