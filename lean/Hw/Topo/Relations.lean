/-
  Hw.Topo.Relations — relational specifications over topology dumps used by property C18:

    SameTopo a b           two loads are identical (the dumps are equal: every field of every object, the
                           levels, type depths, allowed sets, flags and filters)
    DisallowedView dD dI   dI (loaded with INCLUDE_DISALLOWED) contains every PU and NUMA node of dD (default
                           load) and its allowed sets are dD's root sets
    XmlEquiv a b           equal on what an XML export + reload must preserve here: the tree (parent, rank,
                           arities, children), types, depths, logical and OS indexes, the four sets of every
                           object, total memory, the levels, type depths and allowed sets (C05 covers the rest)

  Each relation comes with an executable checker returning the names of the violated clauses, proved
  to be empty exactly when the relation holds.
-/
import Hw.Topo.WFLemmas0
namespace Hw.Topo

/-! ### SameTopo -/

def SameTopo (a b : Dump) : Prop := a = b

instance (a b : Dump) : Decidable (SameTopo a b) := inferInstanceAs (Decidable (a = b))

/-- where two dumps differ (diagnostic; empty iff equal) -/
def sameCheck (a b : Dump) : List String :=
  if a = b then [] else
  (if a.flags = b.flags then [] else ["flags"]) ++
  (if a.depth = b.depth then [] else ["depth"]) ++
  (if a.nobjs = b.nobjs then [] else ["nobjs"]) ++
  (if a.allowedCpuset = b.allowedCpuset ∧ a.allowedNodeset = b.allowedNodeset then [] else ["allowed-sets"]) ++
  (if a.filters = b.filters then [] else ["filters"]) ++
  (if a.levels = b.levels then [] else ["levels"]) ++
  (if a.typeDepths = b.typeDepths then [] else ["type-depths"]) ++
  ((a.objs.zip b.objs).filter (fun p => p.1 ≠ p.2)).map (fun p => "object@" ++ toString p.1.id) ++
  ["differs"]

theorem sameCheck_iff (a b : Dump) : sameCheck a b = [] ↔ SameTopo a b := by
  unfold sameCheck SameTopo
  by_cases h : a = b
  · simp [h]
  · simp [h]

theorem SameTopo.refl (a : Dump) : SameTopo a a := rfl
theorem SameTopo.symm {a b : Dump} (h : SameTopo a b) : SameTopo b a := Eq.symm h
theorem SameTopo.trans {a b c : Dump} (h1 : SameTopo a b) (h2 : SameTopo b c) : SameTopo a c := Eq.trans h1 h2

/-! ### DisallowedView -/

def Dump.rootCpuset (d : Dump) : Option Nat := match d.objs[0]? with | some r => r.cpuset | none => none
def Dump.rootNodeset (d : Dump) : Option Nat := match d.objs[0]? with | some r => r.nodeset | none => none
def Dump.osIndexes (d : Dump) (t : Nat) : List Int := (d.objs.filter (fun o => o.type == t)).map (·.osidx)

structure DisallowedView (dD dI : Dump) : Prop where
  pus : ∀ i, i ∈ dD.osIndexes tPU → i ∈ dI.osIndexes tPU
  numas : ∀ i, i ∈ dD.osIndexes tNUMA → i ∈ dI.osIndexes tNUMA
  allowedCpu : dI.allowedCpuset = dD.rootCpuset
  allowedNode : dI.allowedNodeset = dD.rootNodeset

def disallowedCheck (dD dI : Dump) : List String :=
  (if (dD.osIndexes tPU).all (fun i => (dI.osIndexes tPU).contains i) then [] else ["pu-missing"]) ++
  (if (dD.osIndexes tNUMA).all (fun i => (dI.osIndexes tNUMA).contains i) then [] else ["numa-missing"]) ++
  (if dI.allowedCpuset = dD.rootCpuset then [] else ["allowed-cpuset-is-not-default-root-cpuset"]) ++
  (if dI.allowedNodeset = dD.rootNodeset then [] else ["allowed-nodeset-is-not-default-root-nodeset"])

theorem disallowedCheck_iff (dD dI : Dump) : disallowedCheck dD dI = [] ↔ DisallowedView dD dI := by
  unfold disallowedCheck
  constructor
  · intro h
    simp only [List.append_eq_nil_iff, ite_eq_left_iff, reduceCtorEq, imp_false, Decidable.not_not,
      List.all_eq_true, List.contains_iff_mem] at h
    exact ⟨h.1.1.1, h.1.1.2, h.1.2, h.2⟩
  · intro ⟨h1, h2, h3, h4⟩
    simp only [List.append_eq_nil_iff, ite_eq_left_iff, reduceCtorEq, imp_false, Decidable.not_not,
      List.all_eq_true, List.contains_iff_mem]
    exact ⟨⟨⟨h1, h2⟩, h3⟩, h4⟩

theorem DisallowedView.refl_of_wf (d : Dump) (h : WF d) (hf : flagIncludeDisallowed d = false) : DisallowedView d d := by
  obtain ⟨r, hr, _, _, hall⟩ := h.allowed
  have ⟨hc, hn⟩ := hall hf
  refine ⟨fun _ h => h, fun _ h => h, ?_, ?_⟩
  · unfold Dump.rootCpuset; rw [hr]; exact hc
  · unfold Dump.rootNodeset; rw [hr]; exact hn

theorem DisallowedView.congr {a a' b b' : Dump} (h : DisallowedView a b) (ha : SameTopo a a') (hb : SameTopo b b') :
    DisallowedView a' b' := by
  unfold SameTopo at ha hb; subst ha; subst hb; exact h

/-- the inclusion clauses of the property statement at the level of sets: the default load's root sets
are inside the INCLUDE_DISALLOWED load's root sets -/
theorem DisallowedView.root_subset {dD dI : Dump} (h : DisallowedView dD dI) (hw : WF dI) :
    subset (dD.rootCpuset.getD 0) (dI.rootCpuset.getD 0) = true ∧
    subset (dD.rootNodeset.getD 0) (dI.rootNodeset.getD 0) = true := by
  obtain ⟨r, hr, hc, hn, _⟩ := hw.allowed
  rw [h.allowedCpu] at hc
  rw [h.allowedNode] at hn
  constructor
  · unfold Dump.rootCpuset at *; rw [hr]; exact hc
  · unfold Dump.rootNodeset at *; rw [hr]; exact hn

theorem DisallowedView.objects_trans {a b c : Dump} (h1 : DisallowedView a b) (h2 : DisallowedView b c) :
    (∀ i, i ∈ a.osIndexes tPU → i ∈ c.osIndexes tPU) ∧ (∀ i, i ∈ a.osIndexes tNUMA → i ∈ c.osIndexes tNUMA) :=
  ⟨fun i hi => h2.pus i (h1.pus i hi), fun i hi => h2.numas i (h1.numas i hi)⟩

/-! ### XmlEquiv -/

structure XObj where
  type : Nat
  depth : Int
  lidx : Nat
  osidx : Int
  parent : Int
  rank : Nat
  arity : Nat
  marity : Nat
  ioarity : Nat
  miscarity : Nat
  children : List Int
  cpuset : Option Nat
  ccpuset : Option Nat
  nodeset : Option Nat
  cnodeset : Option Nat
  totalMem : Nat
deriving DecidableEq, Repr

def Obj.xview (o : Obj) : XObj :=
  { type := o.type, depth := o.depth, lidx := o.lidx, osidx := o.osidx, parent := o.parent, rank := o.rank,
    arity := o.arity, marity := o.marity, ioarity := o.ioarity, miscarity := o.miscarity, children := o.children,
    cpuset := o.cpuset, ccpuset := o.ccpuset, nodeset := o.nodeset, cnodeset := o.cnodeset, totalMem := o.totalMem }

structure XView where
  depth : Nat
  allowedCpuset : Option Nat
  allowedNodeset : Option Nat
  objs : List XObj
  levels : List Level
  typeDepths : List Int
deriving DecidableEq, Repr

def Dump.xview (d : Dump) : XView :=
  { depth := d.depth, allowedCpuset := d.allowedCpuset, allowedNodeset := d.allowedNodeset,
    objs := d.objs.map Obj.xview, levels := d.levels, typeDepths := d.typeDepths }

def XmlEquiv (a b : Dump) : Prop := a.xview = b.xview

instance (a b : Dump) : Decidable (XmlEquiv a b) := inferInstanceAs (Decidable (a.xview = b.xview))

/-- differ at most in the complete cpuset, on a memory object (finding C18-F2: named apart) -/
def onlyMemCcpuset (x y : Obj) : Bool :=
  isMemory x.type && decide ({ x.xview with ccpuset := none } = { y.xview with ccpuset := none })

def xmlCheck (a b : Dump) : List String :=
  if a.xview = b.xview then [] else
  let hard :=
    (if a.depth = b.depth then [] else ["depth"]) ++
    (if a.objs.length = b.objs.length then [] else ["nobjs"]) ++
    (if a.allowedCpuset = b.allowedCpuset ∧ a.allowedNodeset = b.allowedNodeset then [] else ["allowed-sets"]) ++
    (if a.levels = b.levels then [] else ["levels"]) ++
    (if a.typeDepths = b.typeDepths then [] else ["type-depths"]) ++
    ((a.objs.zip b.objs).filter (fun p => p.1.xview ≠ p.2.xview && !onlyMemCcpuset p.1 p.2)).map (fun p => "object@" ++ toString p.1.id)
  let soft := ((a.objs.zip b.objs).filter (fun p => p.1.xview ≠ p.2.xview && onlyMemCcpuset p.1 p.2)).map
    (fun p => "memory-object-complete-cpuset@" ++ toString p.1.id)
  hard ++ soft ++ (if hard.isEmpty ∧ soft.isEmpty then ["differs"] else [])

theorem xmlCheck_iff (a b : Dump) : xmlCheck a b = [] ↔ XmlEquiv a b := by
  unfold xmlCheck XmlEquiv
  by_cases h : a.xview = b.xview
  · simp [h]
  · simp only [h, if_false, iff_false]
    generalize ((if a.depth = b.depth then [] else ["depth"]) ++ _ ++ _ ++ _ ++ _ ++ _ : List String) = hard
    generalize (List.map _ _ : List String) = soft
    cases hard <;> cases soft <;> simp

theorem XmlEquiv.refl (a : Dump) : XmlEquiv a a := rfl
theorem XmlEquiv.symm {a b : Dump} (h : XmlEquiv a b) : XmlEquiv b a := Eq.symm h
theorem XmlEquiv.trans {a b c : Dump} (h1 : XmlEquiv a b) (h2 : XmlEquiv b c) : XmlEquiv a c := Eq.trans h1 h2
theorem XmlEquiv.of_same {a b : Dump} (h : SameTopo a b) : XmlEquiv a b := by
  unfold SameTopo at h; subst h; rfl

end Hw.Topo
