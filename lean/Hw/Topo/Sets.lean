/-
  Hw.Topo.Sets — the masks of the topology model (`subset`, `disjoint`, `single`) as sets of bits:
  the bit-level reading of each (from Hw.Base.Bits) and the order/lattice facts every proof about cpusets and nodesets uses.
-/
import Hw.Topo.Types
import Hw.Base.Bits
namespace Hw.Topo
open Hw.Bits

theorem subset_iff_and {a b : Nat} : subset a b = true ↔ a &&& b = a := by unfold subset; exact beq_iff_eq
theorem disjoint_iff_and {a b : Nat} : disjoint a b = true ↔ a &&& b = 0 := by unfold disjoint; exact beq_iff_eq

theorem subset_iff_bits {a b : Nat} : subset a b = true ↔ ∀ i, a.testBit i = true → b.testBit i = true :=
  subset_iff_and.trans and_eq_left_iff
theorem disjoint_iff_bits {a b : Nat} : disjoint a b = true ↔ ∀ i, a.testBit i = true → b.testBit i = false :=
  disjoint_iff_and.trans and_eq_zero_iff
theorem disjoint_iff (a b : Nat) : disjoint a b = true ↔ ∀ i, ¬ (a.testBit i = true ∧ b.testBit i = true) :=
  disjoint_iff_bits.trans (forall_congr' fun i => by rw [not_and, Bool.not_eq_true])

theorem subset_refl (a : Nat) : subset a a = true := subset_iff_bits.2 fun _ h => h
theorem subset_trans {a b c : Nat} (h1 : subset a b = true) (h2 : subset b c = true) : subset a c = true :=
  subset_iff_bits.2 fun i h => subset_iff_bits.1 h2 i (subset_iff_bits.1 h1 i h)
theorem zero_subset (a : Nat) : subset 0 a = true := subset_iff_bits.2 fun i h => by rw [Nat.zero_testBit] at h; cases h
theorem subset_or_left (a b : Nat) : subset a (a ||| b) = true :=
  subset_iff_bits.2 fun i h => by rw [Nat.testBit_or, h, Bool.true_or]
theorem subset_or_right (a b : Nat) : subset b (a ||| b) = true :=
  subset_iff_bits.2 fun i h => by rw [Nat.testBit_or, h, Bool.or_true]
theorem or_subset {a b c : Nat} (h1 : subset a c = true) (h2 : subset b c = true) : subset (a ||| b) c = true :=
  subset_iff_bits.2 fun i h => by
    rw [Nat.testBit_or, Bool.or_eq_true] at h
    exact h.elim (subset_iff_bits.1 h1 i) (subset_iff_bits.1 h2 i)
theorem and_subset_left (a b : Nat) : subset (a &&& b) a = true :=
  subset_iff_bits.2 fun i h => by rw [Nat.testBit_and, Bool.and_eq_true] at h; exact h.1
theorem and_subset_right (a b : Nat) : subset (a &&& b) b = true :=
  subset_iff_bits.2 fun i h => by rw [Nat.testBit_and, Bool.and_eq_true] at h; exact h.2
theorem testBit_single (i j : Nat) : (single i).testBit j = decide (i = j) := testBit_one_shl i j
theorem single_subset {x i : Nat} (h : x.testBit i = true) : subset (single i) x = true :=
  subset_iff_bits.2 fun j hj => by rw [testBit_single, decide_eq_true_eq] at hj; exact hj ▸ h
theorem eq_of_subset_single {a i : Nat} (h : subset a (single i) = true) (h0 : a ≠ 0) : a = single i := by
  have hb : ∀ j, a.testBit j = true → i = j := fun j hj => by
    have := subset_iff_bits.1 h j hj
    rw [testBit_single] at this
    exact of_decide_eq_true this
  obtain ⟨j, hj⟩ := ne_zero_iff.1 h0
  apply Nat.eq_of_testBit_eq
  intro k
  rw [testBit_single]
  by_cases hk : i = k
  · rw [decide_eq_true hk, ← hk, hb j hj, hj]
  · rw [decide_eq_false hk]
    exact Bool.eq_false_iff.2 fun hak => hk (hb k hak)

theorem disjoint_comm (a b : Nat) : disjoint a b = disjoint b a := by unfold disjoint; rw [Nat.and_comm]
theorem zero_disjoint (a : Nat) : disjoint 0 a = true := disjoint_iff_and.2 (Nat.zero_and a)
theorem single_disjoint {i j : Nat} (h : i ≠ j) : disjoint (single i) (single j) = true :=
  disjoint_iff_bits.2 fun b hb => by
    rw [testBit_single, decide_eq_true_eq] at hb
    rw [testBit_single, ← hb]; exact decide_eq_false h.symm
theorem disjoint_mono {a b a' b' : Nat} (ha : subset a a' = true) (hb : subset b b' = true)
    (h : disjoint a' b' = true) : disjoint a b = true :=
  disjoint_iff_bits.2 fun i hi => by
    cases hbi : b.testBit i with
    | false => rfl
    | true => rw [← disjoint_iff_bits.1 h i (subset_iff_bits.1 ha i hi), subset_iff_bits.1 hb i hbi]
theorem or_disjoint {a b c : Nat} : disjoint (a ||| b) c = true ↔ disjoint a c = true ∧ disjoint b c = true := by
  simp only [disjoint_iff_and, Nat.and_or_distrib_right, Nat.or_eq_zero_iff]

end Hw.Topo
