/-
  Hw.Topo.RenderLinks — hwloc_connect_children in the rendered dump: the projections of a rendered object (`ro_*`), lookups in
  `render t` (`render_mem`, `parent_lookup`, `child_lookup`: an occurrence is found under its id), and the clauses of `WF` about
  parents, children and siblings, for every typed four-list tree.  A rendered object is the root or the `j`-th entry of one of the
  four lists of an occurrence (`render_obj_cases`); each clause is read off the two records.  Every clause but root-or-parent
  (`rootOrParent_iff`) is proved by its position in `objClauses` (`objClause_intro (k := …) rfl`): its text stands in Hw/Topo/WF.lean
  under that number.
-/
import Hw.Topo.RenderOcc
import Hw.Topo.WFLemmas0
namespace Hw.Topo.Restrict
open Hw.Topo

/-! ### projections of a rendered object -/

section proj
variable (nl : List (Nat × List Nat)) (os : List Occ) (ex : RObj → Extra) (oc : Occ)
theorem renderObj_eta : renderObj nl os ex oc =
    renderObj nl os ex ⟨oc.id, oc.parent, oc.rank, oc.prev, oc.next, .node oc.t.obj oc.t.ns oc.t.ms oc.t.ios oc.t.mis⟩ := by
  cases oc with | mk a b c d e t => cases t; rfl
theorem ro_id : (renderObj nl os ex oc).id = oc.id := by rw [renderObj_eta]; rfl
theorem ro_type : (renderObj nl os ex oc).type = oc.t.obj.type := by rw [renderObj_eta]; rfl
theorem ro_parent : (renderObj nl os ex oc).parent = oc.parent := by rw [renderObj_eta]; rfl
theorem ro_gp : (renderObj nl os ex oc).gp = oc.t.obj.gp := by rw [renderObj_eta]; rfl
theorem ro_osidx : (renderObj nl os ex oc).osidx = oc.t.obj.osidx := by rw [renderObj_eta]; rfl
theorem ro_totalMem : (renderObj nl os ex oc).totalMem = (ex oc.t.obj).totalMem := by rw [renderObj_eta]; rfl
theorem ro_attrs : (renderObj nl os ex oc).attrs = (ex oc.t.obj).attrs := by rw [renderObj_eta]; rfl
theorem ro_rank : (renderObj nl os ex oc).rank = oc.rank := by rw [renderObj_eta]; rfl
theorem ro_prev : (renderObj nl os ex oc).prevSib = oc.prev := by rw [renderObj_eta]; rfl
theorem ro_next : (renderObj nl os ex oc).nextSib = oc.next := by rw [renderObj_eta]; rfl
theorem ro_arity : (renderObj nl os ex oc).arity = oc.t.ns.length := by rw [renderObj_eta]; rfl
theorem ro_marity : (renderObj nl os ex oc).marity = oc.t.ms.length := by rw [renderObj_eta]; rfl
theorem ro_ioarity : (renderObj nl os ex oc).ioarity = oc.t.ios.length := by rw [renderObj_eta]; rfl
theorem ro_miscarity : (renderObj nl os ex oc).miscarity = oc.t.mis.length := by rw [renderObj_eta]; rfl
theorem ro_children : (renderObj nl os ex oc).children = startsL (oc.id + 1) oc.t.ns := by
  rw [renderObj_eta]; rfl
theorem ro_firstChild : (renderObj nl os ex oc).firstChild = ((startsL (oc.id + 1) oc.t.ns).head?).getD (-1) := by
  rw [renderObj_eta]; rfl
theorem ro_lastChild : (renderObj nl os ex oc).lastChild = ((startsL (oc.id + 1) oc.t.ns).getLast?).getD (-1) := by
  rw [renderObj_eta]; rfl
theorem ro_memFirst : (renderObj nl os ex oc).memFirst = if oc.t.ms.isEmpty then -1 else ((oc.id + 1 + sizeL oc.t.ns : Nat) : Int) := by
  rw [renderObj_eta]; rfl
theorem ro_ioFirst : (renderObj nl os ex oc).ioFirst =
    if oc.t.ios.isEmpty then -1 else ((oc.id + 1 + sizeL oc.t.ns + sizeL oc.t.ms : Nat) : Int) := by
  rw [renderObj_eta]; rfl
theorem ro_miscFirst : (renderObj nl os ex oc).miscFirst =
    if oc.t.mis.isEmpty then -1 else ((oc.id + 1 + sizeL oc.t.ns + sizeL oc.t.ms + sizeL oc.t.ios : Nat) : Int) := by
  rw [renderObj_eta]; rfl
theorem ro_lidx : (renderObj nl os ex oc).lidx = idxOf (placeOf nl os oc.id oc.t.obj.type).2 oc.id := by
  rw [renderObj_eta]; rfl
theorem ro_nextCousin : (renderObj nl os ex oc).nextCousin =
    (((placeOf nl os oc.id oc.t.obj.type).2[idxOf (placeOf nl os oc.id oc.t.obj.type).2 oc.id + 1]?).map
      (fun (i : Nat) => (i : Int))).getD (-1) := by
  rw [renderObj_eta]; rfl
theorem ro_prevCousin : (renderObj nl os ex oc).prevCousin =
    if idxOf (placeOf nl os oc.id oc.t.obj.type).2 oc.id = 0 then -1 else
    (((placeOf nl os oc.id oc.t.obj.type).2[idxOf (placeOf nl os oc.id oc.t.obj.type).2 oc.id - 1]?).map
      (fun (i : Nat) => (i : Int))).getD (-2) := by
  rw [renderObj_eta]; rfl
theorem ro_depth : (renderObj nl os ex oc).depth = (placeOf nl os oc.id oc.t.obj.type).1 := by rw [renderObj_eta]; rfl
theorem ro_sets :
    (renderObj nl os ex oc).cpuset = optSet oc.t.obj oc.t.obj.cpuset ∧ (renderObj nl os ex oc).ccpuset = optSet oc.t.obj oc.t.obj.ccpuset ∧
    (renderObj nl os ex oc).nodeset = optSet oc.t.obj oc.t.obj.nodeset ∧ (renderObj nl os ex oc).cnodeset = optSet oc.t.obj oc.t.obj.cnodeset := by
  rw [renderObj_eta]; exact ⟨rfl, rfl, rfl, rfl⟩
end proj

/-! ### lookups in the rendered dump -/

section glue
variable (t : Tree) (h : Hdr) (ex : RObj → Extra)

def rObj (oc : Occ) : Obj := renderObj (normalLevels t) (occs t) ex oc

theorem render_objs : (render t h ex).objs = (occs t).map (rObj t ex) := rfl

theorem render_depth : (render t h ex).depth = (normalLevels t).length := rfl

theorem render_get (k : Nat) : (render t h ex).objs[k]? = ((occs t)[k]?).map (rObj t ex) := by
  rw [render_objs, List.getElem?_map]

theorem render_obj?_nat (k : Nat) : (render t h ex).obj? (k : Int) = ((occs t)[k]?).map (rObj t ex) := by
  unfold Dump.obj?
  rw [if_neg (by omega), Int.toNat_natCast, render_get]

theorem render_obj?_neg (i : Int) (hi : i < 0) : (render t h ex).obj? i = none := by
  unfold Dump.obj?; rw [if_pos hi]

theorem render_mem (o : Obj) (ho : o ∈ (render t h ex).objs) : ∃ oc ∈ occs t, o = rObj t ex oc := by
  rw [render_objs, List.mem_map] at ho
  obtain ⟨oc, h1, h2⟩ := ho
  exact ⟨oc, h1, h2.symm⟩

theorem parent_lookup (poc : Occ) (hp : poc ∈ occs t) : (render t h ex).obj? (poc.id : Int) = some (rObj t ex poc) := by
  rw [render_obj?_nat, occs_get_of_mem t poc hp]; rfl

theorem render_root : (render t h ex).objs[0]? = some (rObj t ex ⟨0, -1, 0, -1, -1, t⟩) := by
  rw [render_get, occs_get_of_mem t _ (occs_root_mem t)]; rfl

theorem render_id_lt (oc : Occ) (hoc : oc ∈ occs t) : oc.id < (render t h ex).objs.length := by
  rw [render_objs, List.length_map]; exact getElem?_lt (occs_get_of_mem t oc hoc)

theorem child_lookup (poc : Occ) (hp : poc ∈ occs t) (q : Nat) (hq : q < 4) (j : Nat) (c : Tree) (hj : (kids q poc.t)[j]? = some c) :
    (render t h ex).obj? ((startN (kstart q poc) (kids q poc.t) j : Nat) : Int) =
      some (rObj t ex (sibRecAt (kstart q poc) poc.id 0 (-1) (kids q poc.t) j c)) := by
  rw [render_obj?_nat]
  exact congrArg (Option.map (rObj t ex)) (occs_get_of_mem t _ (occ_child_mem t poc hp _ ⟨q, hq, j, c, hj, rfl⟩))

end glue

/-! ### the clauses about parent, children and sibling links -/

theorem render_id_is_position (t : Tree) (h : Hdr) (ex : RObj → Extra) (o : Obj) (ho : o ∈ (render t h ex).objs) :
    objClause "id-is-position" (render t h ex) (mkAux (render t h ex)) o = true := by
  refine objClause_intro (k := 0) rfl ?_
  obtain ⟨oc, hoc, rfl⟩ := render_mem t h ex o ho
  simp only [rObj, ro_id]
  rw [render_get, occs_get_of_mem t oc hoc]
  simp [rObj, ro_id]

theorem render_children_array (t : Tree) (ht : typedT t = true) (h : Hdr) (ex : RObj → Extra) (o : Obj)
    (ho : o ∈ (render t h ex).objs) :
    objClause "children-array" (render t h ex) (mkAux (render t h ex)) o = true := by
  refine objClause_intro (k := 6) rfl ?_
  obtain ⟨oc, hoc, rfl⟩ := render_mem t h ex o ho
  have htyp := typedT_lists oc.t (occ_typed t ht oc hoc)
  simp only [rObj, ro_children, ro_arity, ro_firstChild, ro_lastChild, ro_id, startsL_length, beq_self_eq_true, Bool.true_and,
    List.all_eq_true, List.mem_range]
  intro i hi
  obtain ⟨c, hc⟩ : ∃ c, oc.t.ns[i]? = some c := ⟨oc.t.ns[i], by simp [hi]⟩
  rw [startsL_get _ _ i hi]
  simp only [Option.getD_some]
  have hl : (render t h ex).obj? ((startN (oc.id + 1) oc.t.ns i : Nat) : Int) =
      some (renderObj (normalLevels t) (occs t) ex (sibRecAt (oc.id + 1) oc.id 0 (-1) oc.t.ns i c)) :=
    child_lookup t h ex oc hoc 0 (by omega) i c hc
  rw [hl]
  simp only [ro_parent, ro_rank, ro_type, ro_prev, ro_next, sibRecAt, Nat.zero_add, beq_self_eq_true, Bool.true_and,
    (typedL_get isNormal _ htyp.1 i c hc).1]
  simp only [Bool.and_eq_true, beq_iff_eq]
  constructor
  · by_cases h0 : i = 0
    · simp [h0]
    · rw [if_neg h0, if_neg h0, startsL_get _ _ (i - 1) (by omega)]; rfl
  · by_cases h1 : i + 1 < oc.t.ns.length
    · rw [if_pos h1, startsL_get _ _ (i + 1) h1]; rfl
    · rw [if_neg h1, startsL_get_none _ _ (i + 1) (by omega)]; rfl

/-- the check of special-list-heads for list `q` of an occurrence -/
theorem head_chk (t : Tree) (h : Hdr) (ex : RObj → Extra) (oc : Occ) (hoc : oc ∈ occs t) (q : Nat) (hq : q < 4)
    (hk : typedL (kkind q) (kids q oc.t) = true) :
    (if ((kids q oc.t).length == 0) = true then (if (kids q oc.t).isEmpty then (-1 : Int) else ((kstart q oc : Nat) : Int)) == -1
     else match (render t h ex).obj? (if (kids q oc.t).isEmpty then (-1 : Int) else ((kstart q oc : Nat) : Int)) with
       | none => false
       | some c => c.parent == (oc.id : Int) && c.rank == 0 && kkind q c.type && c.prevSib == -1) = true := by
  cases hl : kids q oc.t with
  | nil => simp
  | cons c cs =>
    have hlk := child_lookup t h ex oc hoc q hq 0 c (by rw [hl]; rfl)
    rw [startN_zero, hl] at hlk
    simp only [List.length_cons, List.isEmpty_cons, Bool.false_eq_true, if_false, Nat.succ_ne_zero, beq_iff_eq]
    rw [hlk]
    simp only [rObj, ro_parent, ro_rank, ro_type, ro_prev, sibRecAt, Nat.add_zero, if_true, beq_self_eq_true, Bool.and_true,
      (typedL_get (kkind q) _ (hl ▸ hk) 0 c rfl).1]

theorem render_special_list_heads (t : Tree) (ht : typedT t = true) (h : Hdr) (ex : RObj → Extra) (o : Obj)
    (ho : o ∈ (render t h ex).objs) :
    objClause "special-list-heads" (render t h ex) (mkAux (render t h ex)) o = true := by
  refine objClause_intro (k := 8) rfl ?_
  obtain ⟨oc, hoc, rfl⟩ := render_mem t h ex o ho
  have hty := typedT_kids oc.t (occ_typed t ht oc hoc)
  simp only [rObj, ro_memFirst, ro_ioFirst, ro_miscFirst, ro_marity, ro_ioarity, ro_miscarity, ro_id, Bool.and_eq_true]
  exact ⟨⟨head_chk t h ex oc hoc 1 (by omega) (hty 1 (by omega)), head_chk t h ex oc hoc 2 (by omega) (hty 2 (by omega))⟩,
    head_chk t h ex oc hoc 3 (by omega) (hty 3 (by omega))⟩

/-! ### root or listed child, with the kind of the list -/

theorem render_obj_cases (t : Tree) (ht : typedT t = true) (h : Hdr) (ex : RObj → Extra) (o : Obj)
    (ho : o ∈ (render t h ex).objs) :
    (o = rObj t ex ⟨0, -1, 0, -1, -1, t⟩ ∧ (render t h ex).obj? o.parent = none) ∨
    ∃ poc ∈ occs t, ∃ q, q < 4 ∧ ∃ j c, (kids q poc.t)[j]? = some c ∧
      o = rObj t ex (sibRecAt (kstart q poc) poc.id 0 (-1) (kids q poc.t) j c) ∧
      (render t h ex).obj? o.parent = some (rObj t ex poc) ∧ kkind q c.obj.type = true := by
  obtain ⟨oc, hoc, rfl⟩ := render_mem t h ex o ho
  rcases occ_up t oc hoc with rfl | ⟨poc, hp, q, hq, j, c, hj, rfl⟩
  · refine Or.inl ⟨rfl, ?_⟩
    rw [rObj, ro_parent]
    exact render_obj?_neg t h ex _ (by show (-1 : Int) < 0; omega)
  · refine Or.inr ⟨poc, hp, q, hq, j, c, hj, rfl, ?_, (typedL_get _ _ (typedT_kids _ (occ_typed t ht poc hp) q hq) j c hj).1⟩
    rw [rObj, ro_parent]
    exact parent_lookup t h ex poc hp

theorem render_root_or_parent (t : Tree) (ht : typedT t = true) (h : Hdr) (ex : RObj → Extra) (o : Obj)
    (ho : o ∈ (render t h ex).objs) :
    objClause "root-or-parent" (render t h ex) (mkAux (render t h ex)) o = true := by
  refine (rootOrParent_iff _ _ _).2 ?_
  rcases render_obj_cases t ht h ex o ho with ⟨rfl, _⟩ | ⟨poc, hp, q, _, j, c, _, rfl, _⟩
  · simp [rObj, ro_id, ro_parent]
  · simp only [rObj, ro_id, ro_parent, sibRecAt]
    have h1 := kstart_gt q poc
    have h2 := startN_mono (kstart q poc) (kids q poc.t) j
    rw [if_neg (by omega)]
    exact ⟨by omega, by rw [Int.toNat_natCast]; exact render_id_lt t h ex poc hp, by omega⟩

/-! ### no-children-where-forbidden -/

theorem occs_puLeaf (t : Tree) (ht : puLeafT t = true) (oc : Occ) (hoc : oc ∈ occs t) :
    oc.t.obj.type ≠ 4 ∨ (oc.t.ns.length = 0 ∧ oc.t.ms.length = 0) := by
  have h : puLeafT oc.t = true := by
    refine occ_all (P := fun t => puLeafT t = true) (fun T h q hq c hc => ?_) t ht oc hoc
    cases T with
    | node o ns ms ios mis =>
      obtain ⟨_, l0, l1, l2, l3⟩ := (puLeafT_node o ns ms ios mis).1 h
      match q, hq with
      | 0, _ => exact (puLeafL_iff _).1 l0 c hc
      | 1, _ => exact (puLeafL_iff _).1 l1 c hc
      | 2, _ => exact (puLeafL_iff _).1 l2 c hc
      | 3, _ => exact (puLeafL_iff _).1 l3 c hc
  cases hoct : oc.t with
  | node o ns ms ios mis =>
    rw [hoct] at h
    simp only [Tree.obj, Tree.ns, Tree.ms, List.length_eq_zero_iff]
    exact (Decidable.em (o.type = tPU)).elim (fun e => .inr (((puLeafT_node o ns ms ios mis).1 h).1 e)) .inl

theorem render_no_children_where_forbidden (t : Tree) (ht : typedT t = true) (hpu : puLeafT t = true) (h : Hdr) (ex : RObj → Extra)
    (o : Obj) (ho : o ∈ (render t h ex).objs) :
    objClause "no-children-where-forbidden" (render t h ex) (mkAux (render t h ex)) o = true := by
  refine objClause_intro (k := 10) rfl ?_
  obtain ⟨oc, hoc, rfl⟩ := render_mem t h ex o ho
  obtain ⟨h1, h2, h3, -⟩ := typedT_facts oc.t (occ_typed t ht oc hoc)
  have hd := occs_puLeaf t hpu oc hoc
  simp only [rObj, ro_type, ro_arity, ro_marity, ro_ioarity, isMemory_iff, isIO_iff, isMisc_iff, tPU, tNUMA, Bool.and_eq_true,
    beq_iff_eq, ite_eq_right_iff]
  -- each test on the type leaves one or two of the typing facts to look at
  refine ⟨⟨⟨⟨fun e => hd.resolve_left (fun h => h e), fun e => ?_⟩, fun e => ?_⟩, fun e => ?_⟩, fun e => ?_⟩
  · clear hd h3; omega
  · clear hd h2; omega
  · clear hd h3; omega
  · clear hd; omega

/-! ### parent-kind, normal-child-slot -/

theorem render_parent_kind (t : Tree) (ht : typedT t = true) (h : Hdr) (ex : RObj → Extra) (o : Obj)
    (ho : o ∈ (render t h ex).objs) :
    objClause "parent-kind" (render t h ex) (mkAux (render t h ex)) o = true := by
  refine objClause_intro (k := 4) rfl ?_
  rcases render_obj_cases t ht h ex o ho with ⟨rfl, hpar⟩ | ⟨poc, hp, q, hq, j, c, hj, rfl, hpar, hk⟩
  · simp only [hpar]
    simp [rObj, ro_id]
  · simp only [hpar]
    simp only [rObj, ro_type, sibRecAt]
    -- the child's list is not empty: what the clause asks of the parent is the conjunct of `typedT` for that list
    have hne : kids q poc.t ≠ [] := List.ne_nil_of_mem (List.mem_of_getElem? hj)
    obtain ⟨f0, f1, f2⟩ := typedT_parent poc.t (occ_typed t ht poc hp)
    rcases kkind_cases q hq _ hk with ⟨rfl, hN⟩ | ⟨rfl, hN, hM⟩ | ⟨rfl, hN, hM, hI⟩ | ⟨rfl, hN, hM, hI, _⟩
    · simp only [hN, if_true]; exact f0 hne
    · simp only [hN, hM, if_true, Bool.false_eq_true, if_false]; exact f1 hne
    · simp only [hN, hM, hI, if_true, Bool.false_eq_true, if_false]; exact f2 hne
    · simp only [hN, hM, hI, Bool.false_eq_true, if_false]

theorem render_normal_child_slot (t : Tree) (ht : typedT t = true) (h : Hdr) (ex : RObj → Extra) (o : Obj)
    (ho : o ∈ (render t h ex).objs) :
    objClause "normal-child-slot" (render t h ex) (mkAux (render t h ex)) o = true := by
  refine objClause_intro (k := 5) rfl ?_
  rcases render_obj_cases t ht h ex o ho with ⟨rfl, hpar⟩ | ⟨poc, hp, q, hq, j, c, hj, rfl, hpar, hk⟩
  · simp only [hpar]
  · simp only [hpar]
    simp only [rObj, ro_id, ro_type, ro_rank, ro_children, sibRecAt, Nat.zero_add]
    rcases kkind_cases q hq _ hk with ⟨rfl, hN⟩ | ⟨rfl, hN, _⟩ | ⟨rfl, hN, _⟩ | ⟨rfl, hN, _⟩
    · simp only [hN, if_true, kids, kstart] at hj ⊢
      rw [startsL_get _ _ j (getElem?_lt hj)]; simp
    all_goals simp only [hN, Bool.false_eq_true, if_false]

/-! ### special-list-links -/

theorem sameKind_of_kkind (q : Nat) (hq : q < 4) (a b : Nat) (ha : kkind q a = true) (hb : kkind q b = true) :
    sameKind a b = true := by
  unfold sameKind
  match q, hq, ha, hb with
  | 0, _, ha, hb => rw [show isNormal a = true from ha, show isNormal b = true from hb]; rfl
  | 1, _, ha, hb => rw [show isMemory a = true from ha, show isMemory b = true from hb]; simp
  | 2, _, ha, hb => rw [show isIO a = true from ha, show isIO b = true from hb]; simp
  | 3, _, ha, hb => rw [show isMisc a = true from ha, show isMisc b = true from hb]; simp

theorem links_generic (t : Tree) (h : Hdr) (ex : RObj → Extra) (pid : Nat) (s : Nat) (l : List Tree) (k : Nat → Bool)
    (hs : ∀ j c, l[j]? = some c → (render t h ex).obj? ((startN s l j : Nat) : Int) = some (rObj t ex (sibRecAt s pid 0 (-1) l j c)))
    (hk : typedL k l = true) (hsk : ∀ a b, k a = true → k b = true → sameKind a b = true) (j : Nat) (c : Tree) (hj : l[j]? = some c)
    (r : Occ) (hr : r = sibRecAt s pid 0 (-1) l j c) :
    (decide (r.rank < l.length) &&
     ((r.rank == 0) == ((if l.isEmpty then (-1 : Int) else ((s : Nat) : Int)) == (r.id : Int))) &&
     ((r.rank == 0) == (r.prev == -1)) &&
     (match (render t h ex).obj? r.next with
       | none => r.next == -1 && r.rank + 1 == l.length
       | some nx => nx.parent == r.parent && sameKind nx.type r.t.obj.type && nx.rank == r.rank + 1 && nx.prevSib == (r.id : Int)) &&
     (match (render t h ex).obj? r.prev with
       | none => r.prev == -1
       | some pv => pv.parent == r.parent && sameKind pv.type r.t.obj.type && pv.rank + 1 == r.rank &&
                    pv.nextSib == (r.id : Int))) = true := by
  subst hr
  have hlen := getElem?_lt hj
  have hkc := (typedL_get k l hk j c hj).1
  simp only [sibRecAt, Nat.zero_add, Bool.and_eq_true, decide_eq_true_eq]
  refine ⟨⟨⟨⟨hlen, ?_⟩, ?_⟩, ?_⟩, ?_⟩
  · rw [List.isEmpty_eq_false_iff.2 (List.ne_nil_of_length_pos (Nat.zero_lt_of_lt hlen))]
    cases j with
    | zero => simp [startN_zero]
    | succ j =>
      have := startN_pos_of_pos s l (j + 1) (by omega) (by omega)
      simp; omega
  · cases j with
    | zero => rfl
    | succ j => rfl
  · by_cases hn : j + 1 < l.length
    · obtain ⟨c', hc'⟩ : ∃ c', l[j + 1]? = some c' := ⟨l[j + 1], by simp [hn]⟩
      have hl := hs (j + 1) c' hc'
      rw [if_pos hn, hl]
      simp only [rObj, ro_parent, ro_type, ro_rank, ro_prev, sibRecAt, Nat.zero_add, beq_self_eq_true, Bool.true_and,
        hsk _ _ (typedL_get k l hk (j + 1) c' hc').1 hkc, Nat.add_sub_cancel]
      rw [if_neg (by omega)]; simp
    · rw [if_neg hn, render_obj?_neg _ _ _ _ (by omega)]
      simp; omega
  · cases j with
    | zero => rw [if_pos rfl, render_obj?_neg _ _ _ _ (by omega)]; rfl
    | succ j =>
      obtain ⟨c', hc'⟩ : ∃ c', l[j]? = some c' := ⟨l[j]'(by omega), by simp⟩
      have hl := hs j c' hc'
      rw [if_neg (by omega), Nat.add_sub_cancel, hl]
      simp only [rObj, ro_parent, ro_type, ro_rank, ro_next, sibRecAt, Nat.zero_add, beq_self_eq_true, Bool.true_and,
        hsk _ _ (typedL_get k l hk j c' hc').1 hkc]
      rw [if_pos hlen]; simp

theorem render_special_list_links (t : Tree) (ht : typedT t = true) (h : Hdr) (ex : RObj → Extra) (o : Obj)
    (ho : o ∈ (render t h ex).objs) :
    objClause "special-list-links" (render t h ex) (mkAux (render t h ex)) o = true := by
  refine objClause_intro (k := 9) rfl ?_
  rcases render_obj_cases t ht h ex o ho with ⟨rfl, hlook⟩ | ⟨poc, hp, q, hq, j, c, hj, rfl, hlook, hk⟩
  · simp only [hlook]
  · simp only [hlook]
    simp only [rObj, ro_parent, ro_rank, ro_id, ro_prev, ro_next, ro_type, ro_marity, ro_ioarity, ro_miscarity, ro_memFirst,
      ro_ioFirst, ro_miscFirst]
    have hgen := links_generic t h ex poc.id (kstart q poc) (kids q poc.t) (kkind q) (child_lookup t h ex poc hp q hq)
      (typedT_kids _ (occ_typed t ht poc hp) q hq) (fun a b => sameKind_of_kkind q hq a b) j c hj _ rfl
    -- the kind facts are stated of the record's type as the goal spells it, so that they rewrite the goal as it stands
    rcases kkind_cases q hq (sibRecAt (kstart q poc) poc.id 0 (-1) (kids q poc.t) j c).t.obj.type hk with
      ⟨rfl, hN⟩ | ⟨rfl, hN, hM⟩ | ⟨rfl, hN, hM, hI⟩ | ⟨rfl, hN, hM, hI, _⟩
    · simp only [hN, if_true]
    · simp only [hN, hM, Bool.false_eq_true, if_false, if_true]
      exact hgen
    · simp only [hN, hM, hI, Bool.false_eq_true, if_false, if_true]
      exact hgen
    · simp only [hN, hM, hI, Bool.false_eq_true, if_false]
      exact hgen

end Hw.Topo.Restrict
