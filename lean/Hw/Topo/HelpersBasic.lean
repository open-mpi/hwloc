/-
  Hw.Topo.HelpersBasic — foundation lemmas shared by all helper proofs (C09): mask-set algebra through
  `testBit`, object lookup, the ancestor relation `AncSelf` along the parent links, and the identification of
  the pointer chains (`next_sibling`, `next_cousin`, `prev_cousin`) with the children / level arrays on a dump
  satisfying `Tree`.
-/
import Hw.Topo.WFLemmas
import Hw.Topo.WFLemmas0
import Hw.Topo.Distrib
import Hw.Topo.Sets
namespace Hw.Topo

/-! ### sets: the masks of the helper model (`intersects`, `andnot`, `orAll`) read bit by bit -/
open Hw.Bits

theorem intersects_iff (a b : Nat) : intersects a b = true ↔ ∃ i, a.testBit i = true ∧ b.testBit i = true := by
  unfold intersects
  simp only [bne_iff_ne, ne_zero_iff, Nat.testBit_and, Bool.and_eq_true]
theorem testBit_andnot (a b i : Nat) : (andnot a b).testBit i = (a.testBit i && !b.testBit i) :=
  Bits.testBit_andnot a b i
theorem testBit_orAll (l : List Nat) (i : Nat) : (orAll l).testBit i = l.any (fun s => s.testBit i) :=
  (testBit_foldl_or id l 0 i).trans (by rw [Nat.zero_testBit, Bool.false_or]; rfl)
theorem orAll_append (a b : List Nat) : orAll (a ++ b) = orAll a ||| orAll b := by
  apply Nat.eq_of_testBit_eq; intro i
  simp [testBit_orAll, Nat.testBit_or, List.any_append]
theorem orAll_singleton (s : Nat) : orAll [s] = s := by
  apply Nat.eq_of_testBit_eq; intro i
  simp [testBit_orAll]
theorem orAll_cons (a : Nat) (l : List Nat) : orAll (a :: l) = a ||| orAll l := by
  rw [← List.singleton_append, orAll_append, orAll_singleton]
theorem subset_orAll {l : List Nat} {s : Nat} (h : s ∈ l) : subset s (orAll l) = true := by
  rw [subset_iff_bits]; intro i hi
  rw [testBit_orAll, List.any_eq_true]; exact ⟨s, h, hi⟩
theorem mem_bits (n i : Nat) : i ∈ bits n ↔ n.testBit i = true := by
  unfold bits
  rw [List.mem_filter, List.mem_range]
  constructor
  · intro h; exact h.2
  · intro h
    refine ⟨?_, h⟩
    have hge := Nat.ge_two_pow_of_testBit h
    have hn : n ≠ 0 := by
      intro h0; rw [h0] at h; simp at h
    have := (Nat.le_log2 hn).2 hge
    omega
theorem bits_sorted (n : Nat) : (bits n).Pairwise (· < ·) := by
  unfold bits
  exact List.Pairwise.filter _ List.pairwise_lt_range
theorem weight_eq_zero (n : Nat) : weight n = 0 ↔ n = 0 := by
  unfold weight
  rw [List.length_eq_zero_iff]
  constructor
  · intro h
    apply Classical.byContradiction
    intro hn
    obtain ⟨i, hi⟩ := ne_zero_iff.1 hn
    have := (mem_bits n i).2 hi
    rw [h] at this; simp at this
  · intro h
    rw [List.eq_nil_iff_forall_not_mem]
    intro i hi
    rw [mem_bits, h] at hi; simp at hi

theorem weight_le_one_of_all_eq {n pu : Nat} (h : ∀ i, n.testBit i = true → i = pu) : weight n ≤ 1 := by
  unfold weight
  have hs := bits_sorted n
  have hm : ∀ i ∈ bits n, i = pu := fun i hi => h i ((mem_bits _ _).1 hi)
  match hb : bits n with
  | [] => simp
  | [_] => simp
  | a :: b :: _ =>
    rw [hb] at hs hm
    have h1 := hm a (by simp)
    have h2 := hm b (by simp)
    have := (List.pairwise_cons.1 hs).1 b (by simp)
    omega

theorem not_subset_of_subset {x a b : Nat} (hab : subset a b = true) (h : subset x b = false) :
    subset x a = false := by
  cases hx : subset x a with
  | false => rfl
  | true => rw [subset_trans hx hab] at h; cases h

theorem testBit_orAll_map {α : Type} (l : List α) (f : α → Nat) (i : Nat) :
    (orAll (l.map f)).testBit i = true ↔ ∃ x ∈ l, (f x).testBit i = true := by
  rw [testBit_orAll]; simp

theorem orAll_nil : orAll [] = 0 := rfl

theorem orAll_replicate {k : Nat} (hk : k ≠ 0) (s : Nat) : orAll (List.replicate k s) = s := by
  apply Nat.eq_of_testBit_eq; intro i
  simp [testBit_orAll, List.any_replicate, hk]

theorem bits_nodup (n : Nat) : (bits n).Nodup := (bits_sorted n).imp Nat.ne_of_lt

theorem weight_or_disjoint {a b : Nat} (h : disjoint a b = true) : weight (a ||| b) = weight a + weight b := by
  unfold weight
  rw [← List.length_append]
  apply List.Perm.length_eq
  rw [List.perm_ext_iff_of_nodup (bits_nodup _)]
  · intro i
    rw [List.mem_append, mem_bits, mem_bits, mem_bits, Nat.testBit_or, Bool.or_eq_true]
  · rw [List.nodup_append]
    refine ⟨bits_nodup a, bits_nodup b, fun i hi j hj e => ?_⟩
    rw [mem_bits] at hi hj
    exact (disjoint_iff a b).1 h i ⟨hi, e ▸ hj⟩

theorem weight_andnot_lt {m x : Nat} (h : intersects x m = true) : weight (andnot m x) < weight m := by
  have hsplit : andnot m x ||| (m &&& x) = m := Nat.eq_of_testBit_eq fun i => by
    rw [Nat.testBit_or, testBit_andnot, Nat.testBit_and]
    cases m.testBit i <;> cases x.testBit i <;> rfl
  have hdis : disjoint (andnot m x) (m &&& x) = true := disjoint_iff_bits.2 fun i hi => by
    rw [testBit_andnot, Bool.and_eq_true, Bool.not_eq_true'] at hi
    rw [Nat.testBit_and, hi.2, Bool.and_false]
  have hne : weight (m &&& x) ≠ 0 := fun h0 => by
    obtain ⟨i, h1, h2⟩ := (intersects_iff _ _).1 h
    exact Bits.ne_zero_iff.2 ⟨i, by rw [Nat.testBit_and, h1, h2]; rfl⟩ ((weight_eq_zero _).1 h0)
  have hw := weight_or_disjoint hdis
  rw [hsplit] at hw
  omega

theorem weight_single_le (i : Nat) : weight (single i) ≤ 1 :=
  weight_le_one_of_all_eq (pu := i) fun j hj => by rw [testBit_single] at hj; exact (of_decide_eq_true hj).symm

theorem disjoint_or_right {a x y : Nat} (h1 : disjoint a x = true) (h2 : disjoint a y = true) :
    disjoint a (x ||| y) = true := by
  rw [disjoint_comm, or_disjoint, disjoint_comm x, disjoint_comm y]
  exact ⟨h1, h2⟩

theorem disjoint_orAll_right {a : Nat} {l : List Nat} (h : ∀ s ∈ l, disjoint a s = true) :
    disjoint a (orAll l) = true := by
  rw [disjoint_iff]
  intro i ⟨ha, hl⟩
  rw [testBit_orAll, List.any_eq_true] at hl
  obtain ⟨s, hs, hi⟩ := hl
  exact (disjoint_iff a s).1 (h s hs) i ⟨ha, hi⟩

theorem weight_orAll_disjoint {l : List Nat} (h : l.Pairwise (fun a b => disjoint a b = true)) :
    weight (orAll l) = (l.map weight).sum := by
  induction l with
  | nil => simp [orAll_nil, (weight_eq_zero 0).2 rfl]
  | cons a l ih =>
    rw [List.pairwise_cons] at h
    rw [orAll_cons, weight_or_disjoint (disjoint_orAll_right h.1), ih h.2]; simp

/-! ### objects -/
theorem Tree.obj?_id {d : Dump} (ht : Tree d) {o : Obj} (ho : o ∈ d.objs) : d.obj? (o.id : Int) = some o := by
  obtain ⟨i, hi⟩ := List.mem_iff_getElem?.1 ho
  have := ht.ids (o, i) (List.mem_zipIdx_iff_getElem?.2 hi)
  simp only at this
  rw [Dump.obj?_natCast, this, hi]
theorem Tree.obj?_some_id {d : Dump} (ht : Tree d) {i : Int} {o : Obj} (h : d.obj? i = some o) : (o.id : Int) = i := by
  unfold Dump.obj? at h
  split at h
  · cases h
  · have := ht.ids (o, i.toNat) (List.mem_zipIdx_iff_getElem?.2 h)
    simp only at this
    omega
theorem Tree.eq_of_id_eq {d : Dump} (ht : Tree d) {a b : Obj} (ha : a ∈ d.objs) (hb : b ∈ d.objs)
    (h : a.id = b.id) : a = b := by
  have h1 := ht.obj?_id ha
  have h2 := ht.obj?_id hb
  rw [h, h2] at h1
  exact (Option.some.inj h1).symm
theorem Tree.rootObj {d : Dump} (ht : Tree d) :
    ∃ r, d.rootObj? = some r ∧ r ∈ d.objs ∧ r.id = 0 ∧ r.parent = -1 ∧ isNormal r.type = true ∧ r.depth = 0 := by
  obtain ⟨r, hr, h1, h2, h3⟩ := ht.root
  refine ⟨r, ?_, List.mem_of_getElem? hr, ?_, h1, h2, h3⟩
  · unfold Dump.rootObj?
    exact (Dump.obj?_natCast d 0).trans hr
  · exact ht.ids (r, 0) (List.mem_zipIdx_iff_getElem?.2 hr)

/-- `a` is `o` or one of its ancestors along the `parent` links -/
inductive AncSelf (d : Dump) : Obj → Obj → Prop
  | refl (o : Obj) : AncSelf d o o
  | up {a o p : Obj} : d.obj? o.parent = some p → AncSelf d a p → AncSelf d a o

theorem AncSelf.trans {d : Dump} {a b c : Obj} (h1 : AncSelf d a b) (h2 : AncSelf d b c) : AncSelf d a c := by
  induction h2 with
  | refl => exact h1
  | up hp _ ih => exact .up hp ih

theorem AncSelf.up_top {d : Dump} {a a' o : Obj} (h : AncSelf d a o) (hp : d.obj? a.parent = some a') : AncSelf d a' o :=
  AncSelf.trans (AncSelf.up hp (AncSelf.refl a')) h

theorem AncSelf.bot_cases {d : Dump} {a o : Obj} (h : AncSelf d a o) :
    a = o ∨ ∃ p, d.obj? o.parent = some p ∧ AncSelf d a p := by
  cases h with
  | refl => exact Or.inl rfl
  | up hp h' => exact Or.inr ⟨_, hp, h'⟩

theorem AncSelf.top_cases {d : Dump} {a o : Obj} (h : AncSelf d a o) :
    a = o ∨ ∃ c, d.obj? c.parent = some a ∧ AncSelf d c o := by
  induction h with
  | refl => exact Or.inl rfl
  | up hp _ ih =>
    rcases ih with heq | ⟨c, hc, hco⟩
    · rw [← heq] at hp; exact Or.inr ⟨_, hp, AncSelf.refl _⟩
    · exact Or.inr ⟨c, hc, AncSelf.up hp hco⟩

theorem AncSelf.comparable {d : Dump} {a b c : Obj} (h1 : AncSelf d a c) (h2 : AncSelf d b c) :
    AncSelf d a b ∨ AncSelf d b a := by
  induction h1 with
  | refl => exact Or.inr h2
  | up hp h1' ih =>
    rcases h2.bot_cases with heq | ⟨p', hp', hbp⟩
    · rw [heq]; exact Or.inl (AncSelf.up hp h1')
    · rw [hp] at hp'; cases hp'; exact ih hbp

/-! ### chains are arrays -/

theorem chain_none (d : Dump) (next : Obj → Int) (f : Nat) : chain d next f none = [] := by cases f <;> rfl

theorem chain_eq_drop (d : Dump) (next : Obj → Int) (arr : List Obj)
    (h : ∀ p ∈ arr.zipIdx, d.obj? (next p.1) = arr[p.2 + 1]?) :
    ∀ fuel i, arr.length - i ≤ fuel → chain d next fuel (arr[i]?) = arr.drop i := by
  intro fuel
  induction fuel with
  | zero =>
    intro i hf
    have hle : arr.length ≤ i := by omega
    rw [List.getElem?_eq_none hle, List.drop_eq_nil_of_le hle]
    rfl
  | succ f ih =>
    intro i hf
    cases hi : arr[i]? with
    | none =>
      rw [List.drop_eq_nil_of_le (List.getElem?_eq_none_iff.1 hi)]
      rfl
    | some o =>
      obtain ⟨hlt, hget⟩ := List.getElem?_eq_some_iff.1 hi
      have hn := h (o, i) (List.mem_zipIdx_iff_getElem?.2 hi)
      simp only at hn
      rw [List.drop_eq_getElem_cons hlt, hget]
      show o :: chain d next f (d.obj? (next o)) = _
      rw [hn, ih (i + 1) (by omega)]

theorem chain_eq_take_reverse (d : Dump) (prev : Obj → Int) (arr : List Obj)
    (h : ∀ p ∈ arr.zipIdx, d.obj? (prev p.1) = (if p.2 = 0 then none else arr[p.2 - 1]?)) :
    ∀ i fuel, i < arr.length → i + 1 ≤ fuel → chain d prev fuel (arr[i]?) = (arr.take (i + 1)).reverse := by
  intro i
  induction i with
  | zero =>
    intro fuel hi hf
    obtain ⟨f, rfl⟩ : ∃ f, fuel = f + 1 := ⟨fuel - 1, by omega⟩
    have hget := List.getElem?_eq_getElem hi
    have hn : d.obj? (prev arr[0]) = none := h (arr[0], 0) (List.mem_zipIdx_iff_getElem?.2 hget)
    rw [hget, chain, hn, chain_none, List.take_succ_eq_append_getElem hi]
    rfl
  | succ i ih =>
    intro fuel hi hf
    obtain ⟨f, rfl⟩ : ∃ f, fuel = f + 1 := ⟨fuel - 1, by omega⟩
    have hget := List.getElem?_eq_getElem hi
    have hn : d.obj? (prev arr[i + 1]) = arr[i]? := h (arr[i + 1], i + 1) (List.mem_zipIdx_iff_getElem?.2 hget)
    rw [hget, chain, hn, ih f (by omega) (by omega), List.take_succ_eq_append_getElem hi, List.reverse_append]
    rfl

theorem Tree.childChain_eq {d : Dump} (ht : Tree d) {o : Obj} (ho : o ∈ d.objs) : childChain d o = childObjs d o := by
  obtain ⟨h0, hlen, _, hall⟩ := ht.children o ho
  unfold childChain siblingsFrom
  rw [h0, chain_eq_drop d (·.nextSib) (childObjs d o) (fun p hp => (hall p hp).2.2.2.2.2) d.fuel 0]
  · rfl
  · have := ht.sizes.2.2 o ho
    unfold Dump.fuel
    omega

theorem Tree.mem_childObjs {d : Dump} (ht : Tree d) {p c : Obj} (hp : p ∈ d.objs) :
    c ∈ childObjs d p ↔ (c ∈ d.objs ∧ isNormal c.type = true ∧ c.parent = (p.id : Int)) := by
  constructor
  · intro h
    obtain ⟨i, hi⟩ := List.mem_iff_getElem?.1 h
    have := (ht.children p hp).2.2.2 (c, i) (List.mem_zipIdx_iff_getElem?.2 hi)
    exact ⟨this.1, this.2.2.2.1, this.2.1⟩
  · intro ⟨hc, hn, hpar⟩
    rcases ht.parent c hc with ⟨_, h1⟩ | ⟨_, p', hp', _, hnorm, _⟩
    · omega
    · rw [hpar, ht.obj?_id hp] at hp'
      cases hp'
      have hslot := (hnorm hn).2.2.1
      unfold childObjs
      rw [List.mem_filterMap]
      exact ⟨(c.id : Int), List.mem_of_getElem? hslot, ht.obj?_id hc⟩

theorem Tree.normal_depth {d : Dump} (ht : Tree d) {o : Obj} (ho : o ∈ d.objs) (hn : isNormal o.type = true) :
    0 ≤ o.depth ∧ o.depth < (d.depth : Int) := (ht.depth o ho).1 hn

/-- memory, I/O and Misc objects live at the negative (virtual) depths -/
theorem Tree.normal_of_depth {d : Dump} (ht : Tree d) {o : Obj} (ho : o ∈ d.objs) (h : 0 ≤ o.depth) :
    isNormal o.type = true := by
  cases hn : isNormal o.type with
  | true => rfl
  | false => exact absurd ((ht.depth o ho).2.1 hn) (Int.not_lt.2 h)

theorem Tree.child_facts {d : Dump} (ht : Tree d) {p c : Obj} (hp : p ∈ d.objs) (hc : c ∈ childObjs d p) :
    c ∈ d.objs ∧ isNormal c.type = true ∧ d.obj? c.parent = some p ∧ p.depth < c.depth ∧
      subset (cs c) (cs p) = true ∧ isNormal p.type = true ∧ c.cpuset.isSome = true := by
  obtain ⟨h1, h2, h3⟩ := (ht.mem_childObjs hp).1 hc
  have h4 : d.obj? c.parent = some p := by rw [h3]; exact ht.obj?_id hp
  rcases ht.parent c h1 with ⟨_, hnone⟩ | ⟨_, p', hp', _, hnorm, _⟩
  · rw [hnone, Dump.obj?_neg_one] at h4; cases h4
  · rw [h4] at hp'; cases hp'
    exact ⟨h1, h2, h4, (hnorm h2).2.1, (hnorm h2).2.2.2.1, (hnorm h2).1, ((ht.depth c h1).2.2.1 (Or.inl h2)).1⟩

theorem Tree.mem_childObjs_of_parent {d : Dump} (ht : Tree d) {p c : Obj} (hc : c ∈ d.objs)
    (hn : isNormal c.type = true) (h : d.obj? c.parent = some p) : c ∈ childObjs d p :=
  (ht.mem_childObjs (Dump.mem_of_obj? h)).2 ⟨hc, hn, (ht.obj?_some_id h).symm⟩

theorem Tree.children_disjoint {d : Dump} (ht : Tree d) {p c c' : Obj} (hp : p ∈ d.objs)
    (hc : c ∈ childObjs d p) (hc' : c' ∈ childObjs d p) (hne : c ≠ c') :
    Hw.Topo.disjoint (cs c) (cs c') = true := by
  have hpw := ht.disjoint p hp
  let R := fun a b : Obj => a ≠ b → Hw.Topo.disjoint (cs a) (cs b) = true
  have h2 := hpw.imp (S := R) fun h _ => h
  have h3 := hpw.imp (S := flip R) fun h _ => (disjoint_comm _ _).trans h
  exact List.Pairwise.forall_of_forall_of_flip (fun _ _ h => absurd rfl h) h2 h3 hc hc' hne

/-- a normal object without children that has a bit is a PU: its cpuset is the singleton of its os_index -/
theorem Tree.leaf_single {d : Dump} (ht : Tree d) {o : Obj} (ho : o ∈ d.objs) (hn : isNormal o.type = true)
    (har : o.arity = 0) (h0 : cs o ≠ 0) : cs o = single o.osidx.toNat :=
  ((ht.depth o ho).2.2.2.2.1 ((ht.union o ho).2 hn har h0)).2.1

/-- every descent of the model through the children arrays (`coveringFrom`, `firstLargestFrom`, `largestAll`, `distribRec`)
    spends one unit of fuel per level; the hypothesis on `f` says that the fuel covers the levels below `cur` -/
theorem Tree.down_ind {d : Dump} (ht : Tree d) (P : Nat → Obj → Prop)
    (step : ∀ f cur, cur ∈ d.objs → isNormal cur.type = true →
      (∀ c ∈ childObjs d cur, c ∈ d.objs → isNormal c.type = true → P f c) → P (f + 1) cur) :
    ∀ (f : Nat) (cur : Obj), cur ∈ d.objs → isNormal cur.type = true → (d.depth : Int) ≤ cur.depth + (f : Int) →
      P f cur := by
  intro f
  induction f with
  | zero =>
    intro cur hcur hn hf
    have := (ht.normal_depth hcur hn).2
    omega
  | succ f ih =>
    intro cur hcur hn hf
    refine step f cur hcur hn fun c hc c1 c2 => ih c c1 c2 ?_
    have := (ht.child_facts hcur hc).2.2.2.1
    omega

theorem Tree.root_fuel {d : Dump} (ht : Tree d) {r : Obj} (hrd : r.depth = 0) :
    (d.depth : Int) ≤ r.depth + (d.fuel : Int) := by
  have := ht.sizes.1
  simp only [Dump.fuel]
  omega

theorem levelObjs_cases (d : Dump) (depth : Int) :
    levelObjs d depth = [] ∨ ∃ l ∈ d.levels, l.depth = depth := by
  cases h : levelOf d depth with
  | none => left; unfold levelObjs levelIds; rw [h]; rfl
  | some l => right; exact ⟨l, levelOf_some h⟩

/-- everything `T_levels` says about entry `i` of a level -/
theorem Tree.level_entry {d : Dump} (ht : Tree d) {l : Level} (hl : l ∈ d.levels) {depth : Int}
    (hd : l.depth = depth) {i : Nat} {o : Obj} (h : (levelObjs d depth)[i]? = some o) :
    o ∈ d.objs ∧ o.depth = depth ∧ o.lidx = i ∧ (o.type : Int) = l.type ∧
    d.obj? o.nextCousin = (levelObjs d depth)[i + 1]? ∧
    d.obj? o.prevCousin = (if i = 0 then none else (levelObjs d depth)[i - 1]?) := by
  subst hd
  exact (ht.levels.2 l hl).2 (o, i) (List.mem_zipIdx_iff_getElem?.2 h)

theorem Tree.level_length {d : Dump} (ht : Tree d) {l : Level} (hl : l ∈ d.levels) {depth : Int}
    (hd : l.depth = depth) : (levelObjs d depth).length = l.objs.length := by
  subst hd
  exact (ht.levels.2 l hl).1

theorem Tree.levelObjs_length_le {d : Dump} (ht : Tree d) (depth : Int) :
    (levelObjs d depth).length ≤ d.objs.length := by
  rcases levelObjs_cases d depth with h | ⟨l, hl, hd⟩
  · rw [h]; exact Nat.zero_le _
  · rw [ht.level_length hl hd]; exact ht.sizes.2.1 l hl

theorem Tree.levelObjs_lidx {d : Dump} (ht : Tree d) {o : Obj} {depth : Int} {i : Nat}
    (h : (levelObjs d depth)[i]? = some o) : o.lidx = i ∧ o.depth = depth ∧ o ∈ d.objs := by
  rcases levelObjs_cases d depth with h' | ⟨l, hl, hd⟩
  · rw [h'] at h; simp at h
  · have := ht.level_entry hl hd h
    exact ⟨this.2.2.1, this.2.1, this.1⟩
theorem Tree.levelObjs_next {d : Dump} (ht : Tree d) {o : Obj} {depth : Int} {i : Nat}
    (h : (levelObjs d depth)[i]? = some o) : d.obj? o.nextCousin = (levelObjs d depth)[i + 1]? := by
  rcases levelObjs_cases d depth with h' | ⟨l, hl, hd⟩
  · rw [h'] at h; simp at h
  · exact (ht.level_entry hl hd h).2.2.2.2.1
theorem Tree.levelObjs_prev {d : Dump} (ht : Tree d) {o : Obj} {depth : Int} {i : Nat}
    (h : (levelObjs d depth)[i]? = some o) :
    d.obj? o.prevCousin = (if i = 0 then none else (levelObjs d depth)[i - 1]?) := by
  rcases levelObjs_cases d depth with h' | ⟨l, hl, hd⟩
  · rw [h'] at h; simp at h
  · exact (ht.level_entry hl hd h).2.2.2.2.2
/-- also past the end of the level (NULL) and at a depth without level: both sides are empty -/
theorem Tree.cousinsFrom_levelObjs {d : Dump} (ht : Tree d) (depth : Int) (i : Nat) :
    cousinsFrom d ((levelObjs d depth)[i]?) = (levelObjs d depth).drop i := by
  apply chain_eq_drop d (·.nextCousin) (levelObjs d depth)
    (fun p hp => ht.levelObjs_next (List.mem_zipIdx_iff_getElem?.1 hp)) d.fuel i
  have := ht.levelObjs_length_le depth
  unfold Dump.fuel
  omega
theorem Tree.prevCousinsFrom_levelObjs {d : Dump} (ht : Tree d) (depth : Int) (i : Nat)
    (hi : i < (levelObjs d depth).length) :
    prevCousinsFrom d ((levelObjs d depth)[i]?) = ((levelObjs d depth).take (i + 1)).reverse := by
  apply chain_eq_take_reverse d (·.prevCousin) (levelObjs d depth)
    (fun p hp => ht.levelObjs_prev (List.mem_zipIdx_iff_getElem?.1 hp)) i d.fuel hi
  have := ht.levelObjs_length_le depth
  unfold Dump.fuel
  omega
theorem Tree.levelObjs_self {d : Dump} (ht : Tree d) {o : Obj} (ho : o ∈ d.objs) :
    (levelObjs d o.depth)[o.lidx]? = some o := (ht.inlevel o ho).2
theorem Tree.mem_levelObjs {d : Dump} (ht : Tree d) {o : Obj} {depth : Int} :
    o ∈ levelObjs d depth ↔ (o ∈ d.objs ∧ o.depth = depth) := by
  constructor
  · intro h
    obtain ⟨i, hi⟩ := List.mem_iff_getElem?.1 h
    have := ht.levelObjs_lidx hi
    exact ⟨this.2.2, this.2.1⟩
  · intro ⟨ho, hd⟩
    subst hd
    exact List.mem_of_getElem? (ht.levelObjs_self ho)

end Hw.Topo
