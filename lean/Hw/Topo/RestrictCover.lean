/-
  Hw.Topo.RestrictCover — the CPU half of `coverT` derived from well-formedness: in a well-formed dump every index of the
  cpuset of a normal object is the os_index of a PU (induction over the depth: cpuset-is-disjoint-union-of-children pushes a bit down
  to a child, depth-increases makes the descent finite, a childless normal object with a non-empty cpuset is a PU with cpuset
  {os_index}); the allowed cpuset is inside the root's cpuset (allowed-sets); the tree lists every dump object (`treeOf_perm`).
-/
import Hw.Topo.RestrictUnique
import Hw.Topo.HelpersBasic
namespace Hw.Topo.Restrict
open Hw.Topo Hw.Gen.Restrict

theorem wf_cpuset_bits {d : Dump} (h : WF d) : ∀ (n : Nat) (o : Obj), o ∈ d.objs → isNormal o.type = true →
    (d.depth : Int) - o.depth ≤ (n : Int) → ∀ i, (cs o).testBit i = true → ∃ pu ∈ d.objs, pu.type = tPU ∧ pu.osidx.toNat = i := by
  intro n
  induction n with
  | zero =>
    intro o ho hn hd
    have := ((T_depth_of_wf h) o ho).1 hn
    omega
  | succ n ih =>
    intro o ho hn hd i hi
    have hu := (T_union_of_wf h) o ho
    by_cases ha : o.arity = 0
    · have hne : cs o ≠ 0 := Hw.Bits.ne_zero_iff.2 ⟨_, hi⟩
      have hpu := hu.2 hn ha hne
      have hf := ((T_depth_of_wf h) o ho).2.2.2.2.1 hpu
      rw [hf.2.1, testBit_single] at hi
      exact ⟨o, ho, hpu, by simpa using hi⟩
    · have hun := (hu.1 ha).2.2
      rw [hun, testBit_orAll, List.any_eq_true] at hi
      obtain ⟨s, hs, hsi⟩ := hi
      obtain ⟨c, hc, rfl⟩ := List.mem_map.1 hs
      obtain ⟨hcm, hcn, hcp⟩ := h.child_parent ho hc
      have hinc := h.parent_depth_lt hcm hcp hcn
      exact ih c hcm hcn (by omega) i hsi

theorem wf_cover_pu {d : Dump} (h : WF d) (t : Tree) (ht : treeOf d = .ok t) : coverT (d.allowedCpuset.getD 0) tPU t = true := by
  refine (coverT_iff _ _ _).2 fun i hi => ?_
  obtain ⟨r, hr, s1, _, _⟩ := h.allowed
  have hrm : r ∈ d.objs := List.mem_of_getElem? hr
  have hrn : isNormal r.type = true := by rw [(h.root_machine hr).1]; decide
  have hbit : (cs r).testBit i = true := by
    have := subset_iff_bits.1 s1 i hi
    exact this
  obtain ⟨pu, hpm, hpt, hpi⟩ := wf_cpuset_bits h d.depth r hrm hrn (by
    have := ((T_depth_of_wf h) r hrm).1 hrn; omega) i hbit
  exact ⟨robjOf pu, (treeOf_perm h t ht).mem_iff.2 (List.mem_map_of_mem hpm), hpt, hpi⟩

end Hw.Topo.Restrict
