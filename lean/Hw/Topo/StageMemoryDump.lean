/-
  Hw.Topo.StageMemoryDump — the WF clause `total-memory` in DUMP form (through the `totSum` fold of `mkAux`) for the rendering of
  every typed tree whose carried fields hold what `propagate_total_memory` leaves:

      MemEx loc t ex :  for every object occurrence of `t`, `ex` carries total_memory = Stage.totalT loc (its subtree)
                        and, for a NUMA node, attrs[0] (numanode.local_memory) = loc

  `MemEx` is what the Stage2 tie checks on every load (block `mem_after`: every object's total_memory is `totalsT`).
-/
import Hw.Topo.RenderSums
import Hw.Topo.StageMemoryLemmas
import Hw.Topo.RenderLemmas
import Hw.Topo.RestrictTyping
namespace Hw.Topo.Restrict.Stage
open Hw.Topo Hw.Topo.Restrict

/-- the carried fields hold the result of propagate_total_memory (the total of a typed I/O or Misc subtree is 0: never visited) -/
def MemEx (loc : RObj → Nat) (t : Tree) (ex : RObj → Extra) : Prop :=
  ∀ oc ∈ occs t, (ex oc.t.obj).totalMem = totalT loc oc.t ∧
    (oc.t.obj.type = tNUMA → ((((ex oc.t.obj).attrs)[0]?).getD 0).toNat = loc oc.t.obj)

def nmType (ty : Nat) : Bool := isNormal ty || isMemory ty
/-- the weight of a child in the `totSum` fold, after `MemEx` -/
def totW (loc : RObj → Nat) (c : Tree) : Nat := if nmType c.obj.type then totalT loc c else 0

theorem wsum_totW_nm (loc : RObj → Nat) (l : List Tree) (h : ∀ c ∈ l, nmType c.obj.type = true) :
    wsum (totW loc) l = sumTotals loc l := by
  unfold wsum sumTotals
  congr 1
  apply List.map_congr_left
  intro c hc
  unfold totW; rw [h c hc]; rfl

theorem wsum_totW_zero (loc : RObj → Nat) (l : List Tree) (h : ∀ c ∈ l, nmType c.obj.type = false) :
    wsum (totW loc) l = 0 := by
  induction l with
  | nil => rfl
  | cons c cs ih =>
    rw [wsum_cons, ih (fun x hx => h x (List.mem_cons_of_mem _ hx))]
    unfold totW; rw [h c (List.mem_cons_self ..)]; rfl

theorem nm_of_normal {ty : Nat} (h : isNormal ty = true) : nmType ty = true := by unfold nmType; rw [h]; rfl
theorem nm_of_memory {ty : Nat} (h : isMemory ty = true) : nmType ty = true := by unfold nmType; rw [h]; simp
theorem nm_of_special {ty : Nat} (h : isIO ty = true ∨ isMisc ty = true) : nmType ty = false := by
  unfold nmType; rw [(notNM_of_special h).1, (notNM_of_special h).2]; rfl

/-- in a typed tree the `totSum` weights of the children of an object add up to the totals of its normal and memory children -/
theorem rootsW_totW (loc : RObj → Nat) (t : Tree) (ht : typedT t = true) :
    rootsW (totW loc) t = sumTotals loc t.ns + sumTotals loc t.ms := by
  cases t with
  | node o ns ms ios mis =>
    have hl := typedT_lists _ ht
    simp only [Tree.ns, Tree.ms, Tree.ios, Tree.mis, typedL_iff] at hl
    rw [rootsW, wsum_totW_nm loc ns (fun c hc => nm_of_normal (hl.1 c hc).1),
      wsum_totW_nm loc ms (fun c hc => nm_of_memory (hl.2.1 c hc).1),
      wsum_totW_zero loc ios (fun c hc => nm_of_special (.inl (hl.2.2.1 c hc).1)),
      wsum_totW_zero loc mis (fun c hc => nm_of_special (.inr (hl.2.2.2 c hc).1))]
    rfl

/-- a typed subtree whose root is neither normal nor memory (I/O, Misc) holds no NUMA node that the sums reach -/
theorem sumLocalT_special (loc : RObj → Nat) (t : Tree) (ht : typedT t = true) (hn : nmType t.obj.type = false) :
    sumLocalT loc t = 0 := by
  cases t with
  | node o ns ms ios mis =>
    obtain ⟨h1, h2⟩ : 13 < o.type ∧ o.type ≠ 14 ∧ o.type ≠ 15 := by
      rw [← isNormal_false_iff, ← isMemory_false_iff, ← Bool.or_eq_false_iff]; exact hn
    obtain ⟨a, b, _⟩ := typedT_node o ns ms ios mis ht
    rw [a.resolve_left (by omega), (b.resolve_left (by omega)).resolve_left h2.2, sumLocalT,
      if_neg (fun e : (o.type == tNUMA) = true => h2.1 (beq_iff_eq.1 e))]
    rfl

theorem sumLocalL_mem (loc : RObj → Nat) {c : Tree} {l : List Tree} (h : c ∈ l) : sumLocalT loc c ≤ sumLocalL loc l := by
  induction l with
  | nil => cases h
  | cons a as ih =>
    rw [sumLocalL]
    rcases List.mem_cons.1 h with rfl | h
    · omega
    · have := ih h; omega

/-- the local-memory sum below any object occurrence of a typed tree is at most the sum of the whole tree: a normal or memory
    child holds part of the sum of its parent, a typed I/O or Misc child nothing -/
theorem occs_sumLocal_le (loc : RObj → Nat) (t : Tree) (ht : typedT t = true) :
    ∀ oc ∈ occs t, sumLocalT loc oc.t ≤ sumLocalT loc t := fun oc hoc =>
  (occ_all (P := fun T => typedT T = true ∧ sumLocalT loc T ≤ sumLocalT loc t) (fun T hT q hq c hc => by
    obtain ⟨hk, hty⟩ := typedL_mem _ _ (typedT_kids T hT.1 q hq) c hc
    refine ⟨hty, Nat.le_trans ?_ hT.2⟩
    cases T with
    | node o ns ms ios mis =>
      rw [sumLocalT]
      match q, hq with
      | 0, _ => have := sumLocalL_mem loc (l := ns) hc; omega
      | 1, _ => have := sumLocalL_mem loc (l := ms) hc; omega
      | 2, _ => rw [sumLocalT_special loc c hty (nm_of_special (.inl hk))]; exact Nat.zero_le _
      | 3, _ => rw [sumLocalT_special loc c hty (nm_of_special (.inr hk))]; exact Nat.zero_le _) t ⟨ht, Nat.le_refl _⟩ oc hoc).2

theorem render_total_memory (loc : RObj → Nat) (t : Tree) (ht : typedT t = true) (hb : sumLocalT loc t < W64)
    (h : Hdr) (ex : RObj → Extra) (hex : MemEx loc t ex) (o : Obj) (ho : o ∈ (render t h ex).objs) :
    objClause "total-memory" (render t h ex) (mkAux (render t h ex)) o = true := by
  refine objClause_intro (k := 25) rfl ?_
  obtain ⟨oc, hoc, rfl⟩ := render_mem t h ex o ho
  -- the aggregate: the objects whose parent is `oc` are the renderings of the records of its children
  have hsum : getN (mkAux (render t h ex)).totSum oc.id = rootsW (totW loc) oc.t := by
    rw [mkAux_totSum _ _ (render_id_lt t h ex oc hoc), render_children t h ex oc hoc, List.map_map, ← occ_sum (totW loc) t oc hoc,
      occ_childRecs t oc hoc]
    refine congrArg List.sum (List.map_congr_left fun x hx => ?_)
    have hxm : x ∈ occs t := occ_child_mem t oc hoc x ((mem_childRecs oc x).1 hx)
    simp only [Function.comp, memW, rObj, ro_type, ro_totalMem, totW, nmType, (hex x hxm).1]
    rfl
  have hbo : sumLocalT loc oc.t < W64 := Nat.lt_of_le_of_lt (occs_sumLocal_le loc t ht oc hoc) hb
  simp only [beq_iff_eq]
  unfold rObj
  rw [ro_totalMem, ro_type, ro_attrs, ro_id, hsum, rootsW_totW loc oc.t (occ_typed t ht oc hoc), (hex oc hoc).1,
    totalT_clause loc oc.t hbo]
  by_cases hn : oc.t.obj.type = tNUMA
  · rw [if_pos hn, if_pos (beq_iff_eq.2 hn), (hex oc hoc).2 hn]
  · rw [if_neg hn, if_neg (mt beq_iff_eq.1 hn)]

/-! ### `MemEx` from the output of the stage, when gp_index values are distinct -/

/-- (gp_index, total_memory) of every object occurrence (I/O and Misc included: 0 in a typed tree) -/
def memTab (loc : RObj → Nat) (t : Tree) : List (Nat × Nat) := (occs t).map (fun oc => (oc.t.obj.gp, totalT loc oc.t))

/-- the carried fields from a table: total_memory by gp_index, local memory of NUMA nodes -/
def exOfTab (tab : List (Nat × Nat)) (loc : RObj → Nat) (base : RObj → Extra) (o : RObj) : Extra :=
  { base o with
    totalMem := ((tab.find? (fun p => p.1 == o.gp)).map (·.2)).getD 0,
    attrs := if o.type = tNUMA then [(loc o : Int)] else (base o).attrs }

/-- write the result of `propagate_total_memory` into the carried fields -/
def exOfMem (loc : RObj → Nat) (t : Tree) (base : RObj → Extra) : RObj → Extra := exOfTab (memTab loc t) loc base

theorem memEx_exOfMem (loc : RObj → Nat) (t : Tree) (base : RObj → Extra) (hu : ((occs t).map (fun oc => oc.t.obj.gp)).Nodup) :
    MemEx loc t (exOfMem loc t base) := by
  intro oc hoc
  constructor
  · show (((memTab loc t).find? (fun p => p.1 == oc.t.obj.gp)).map (·.2)).getD 0 = _
    unfold memTab
    rw [List.find?_map]
    have : ((fun (p : Nat × Nat) => p.1 == oc.t.obj.gp) ∘ fun (oc : Occ) => (oc.t.obj.gp, totalT loc oc.t)) =
        fun x : Occ => x.t.obj.gp == oc.t.obj.gp := rfl
    rw [this, find?_key_of_mem (fun x : Occ => x.t.obj.gp) hu hoc]
    rfl
  · intro hn
    show (((if oc.t.obj.type = tNUMA then [(loc oc.t.obj : Int)] else (base oc.t.obj).attrs)[0]?).getD 0).toNat = _
    rw [if_pos hn]; simp

end Hw.Topo.Restrict.Stage
