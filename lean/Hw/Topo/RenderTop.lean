/-
  Hw.Topo.RenderTop — three more topology-level WF clauses for `render t` (any tree, typed or not): root-is-machine, numa-exists
  and machine-only-at-root.
-/
import Hw.Topo.RenderLemmas
import Hw.Topo.RestrictLemmas
namespace Hw.Topo.Restrict
open Hw.Topo

theorem render_root_is_machine (t : Tree) (hm : t.obj.type = tMACHINE) (h : Hdr) (ex : RObj → Extra) :
    topClause "root-is-machine" (render t h ex) (mkAux (render t h ex)) = true := by
  refine topClause_intro (k := 1) rfl ?_
  obtain ⟨h0, e0⟩ := normalLevels_zero t
  simp only [render_root, Bool.and_eq_true, beq_iff_eq]
  refine ⟨rfl, ⟨?_, ?_⟩, ?_⟩
  · unfold rObj; rw [ro_type]; exact hm
  · -- the first level is (Machine, [0]) and contains id 0
    unfold rObj
    rw [ro_depth, placeOf_listed t 0 h0 0 _ (by rw [hm]; decide) (by rw [e0]; exact List.mem_cons_self)]
    rfl
  · unfold rObj; rw [ro_parent]

theorem render_numa_exists (t : Tree) (hn : ∃ x ∈ objsT t, x.type = tNUMA) (h : Hdr) (ex : RObj → Extra) :
    topClause "numa-exists" (render t h ex) (mkAux (render t h ex)) = true := by
  refine topClause_intro (k := 5) rfl ?_
  have hl := levelOf_special t h ex tNUMA (by simp [specialTypes])
  have hd : (specialDepth tNUMA).getD 0 = -3 := rfl
  rw [hd] at hl
  simp only [hl, Bool.not_eq_true', List.isEmpty_eq_false_iff, ne_eq, List.map_eq_nil_iff]
  obtain ⟨x, hx, hxt⟩ := hn
  obtain ⟨oc, hoc, rfl⟩ := occ_of_obj t x hx
  unfold specialLevel
  intro hnil
  rw [List.map_eq_nil_iff, List.filter_eq_nil_iff] at hnil
  exact hnil oc hoc (by rw [hxt]; rfl)

/-- at most one Machine object (C01 clause machine-only-at-root, on the tree) -/
def machineOnce (t : Tree) : Prop := cnt (fun x => x.type) tMACHINE (objsT t) ≤ 1

instance (t : Tree) : Decidable (machineOnce t) := by unfold machineOnce; exact inferInstance

theorem machineOnce_restrict (t : Topo) (s : CSet) (flags : Nat) (h : machineOnce t.tree) : machineOnce (restrict t s flags).1.tree :=
  Nat.le_trans (cnt_restrict (fun x => x.type) tMACHINE t s flags (fun p o => type_shrinkG p o) (fun _ _ => rfl)) h

theorem machine_occ_root (t : Tree) (hm : t.obj.type = tMACHINE) (h1 : machineOnce t) (oc : Occ) (hoc : oc ∈ occs t)
    (hty : oc.t.obj.type = tMACHINE) : oc.id = 0 := by
  obtain ⟨rest, hocc⟩ := occsT_head 0 (-1) 0 (-1) (-1) t
  have hobjs := occs_map_obj t
  unfold occs at hoc hobjs
  rw [hocc] at hoc hobjs
  rcases List.mem_cons.1 hoc with e | e
  · rw [e]
  · exfalso
    unfold machineOnce at h1
    rw [← hobjs, List.map_cons, cnt_cons] at h1
    have c1 : cnt (fun x => x.type) tMACHINE [t.obj] = 1 := by unfold cnt; simp [hm]
    have c2 : 0 < cnt (fun x => x.type) tMACHINE (rest.map (·.t.obj)) := by
      unfold cnt
      rw [List.count_pos_iff, List.mem_map]
      exact ⟨oc.t.obj, List.mem_map_of_mem e, hty⟩
    have : cnt (fun x => x.type) tMACHINE [(⟨0, -1, 0, -1, -1, t⟩ : Occ).t.obj] = 1 := c1
    omega

theorem render_machine_only_at_root (t : Tree) (hm : t.obj.type = tMACHINE) (h1 : machineOnce t) (h : Hdr) (ex : RObj → Extra) :
    topClause "machine-only-at-root" (render t h ex) (mkAux (render t h ex)) = true := by
  refine topClause_intro (k := 2) rfl ?_
  simp only [List.all_eq_true, Bool.or_eq_true, bne_iff_ne, ne_eq, beq_iff_eq, ← Decidable.imp_iff_not_or]
  intro o ho
  obtain ⟨oc, hoc, rfl⟩ := render_mem t h ex o ho
  unfold rObj
  rw [ro_type, ro_id]
  exact machine_occ_root t hm h1 oc hoc

end Hw.Topo.Restrict
