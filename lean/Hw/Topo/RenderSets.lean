/-
  Hw.Topo.RenderSets — two set clauses of WF for `render t`: sets-presence (from `setsPresT`: an object carries sets iff it is
  not an I/O or Misc object) and set-in-complete (from SetsOK `okT`); `setsPresT` is preserved by the whole restrict model.
-/
import Hw.Topo.RenderLinks
import Hw.Topo.RestrictSurvive
namespace Hw.Topo.Restrict
open Hw.Topo

/-- an object carries sets iff it is neither I/O nor Misc (C01 clause sets-presence, on the tree) -/
def setsPresT (t : Tree) : Bool := (objsT t).all (fun x => x.hasSets == !isSpecial x.type)

theorem render_sets_presence (t : Tree) (hs : setsPresT t = true) (h : Hdr) (ex : RObj → Extra) (o : Obj)
    (ho : o ∈ (render t h ex).objs) : objClause "sets-presence" (render t h ex) (mkAux (render t h ex)) o = true := by
  refine objClause_intro (k := 14) rfl ?_
  obtain ⟨oc, hoc, rfl⟩ := render_mem t h ex o ho
  unfold setsPresT at hs
  have hx := List.all_eq_true.1 hs _ (occ_obj_mem t oc hoc)
  simp only [beq_iff_eq] at hx
  unfold rObj
  obtain ⟨e1, e2, e3, e4⟩ := ro_sets (normalLevels t) (occs t) ex oc
  simp only [ro_type, e1, e2, e3, e4, optSet, hx]
  cases isSpecial oc.t.obj.type <;> simp

theorem ok_objs : ∀ t, okT t = true → ∀ x ∈ objsT t, subset x.cpuset x.ccpuset = true ∧ subset x.nodeset x.cnodeset = true := by
  have hz : ∀ x : RObj, zeroSets x = true → subset x.cpuset x.ccpuset = true ∧ subset x.nodeset x.cnodeset = true := by
    intro x hx
    unfold zeroSets at hx
    simp only [Bool.and_eq_true, beq_iff_eq] at hx
    obtain ⟨⟨⟨h1, h2⟩, h3⟩, h4⟩ := hx
    rw [h1, h2, h3, h4]
    exact ⟨rfl, rfl⟩
  refine Tree.ind4 fun o ns ms ios mis h1 h2 _ _ hok => ?_
  rw [okT_node] at hok
  -- the object itself; below a normal or memory child by induction; below an I/O or Misc child there are no sets
  have hl : ∀ l : List Tree, (∀ c ∈ l, okT c = true → ∀ x ∈ objsT c, subset x.cpuset x.ccpuset = true ∧ subset x.nodeset x.cnodeset = true) →
      okL o l = true → ∀ x ∈ objsL l, subset x.cpuset x.ccpuset = true ∧ subset x.nodeset x.cnodeset = true := fun l ih hl =>
    forall_objsL.2 fun c hc => ih c hc ((okL_iff o l).1 hl c hc).2.2
  simp only [objsT, List.forall_mem_cons, List.forall_mem_append]
  exact ⟨⟨hok.1, hok.2.1⟩, ⟨⟨hl ns h1 hok.2.2.1, hl ms h2 hok.2.2.2.1⟩, fun x hx => hz x (hok.2.2.2.2.1 x hx)⟩,
    fun x hx => hz x (hok.2.2.2.2.2 x hx)⟩

theorem render_set_in_complete (t : Tree) (hok : okT t = true) (h : Hdr) (ex : RObj → Extra) (o : Obj)
    (ho : o ∈ (render t h ex).objs) : objClause "set-in-complete" (render t h ex) (mkAux (render t h ex)) o = true := by
  refine objClause_intro (k := 15) rfl ?_
  obtain ⟨oc, hoc, rfl⟩ := render_mem t h ex o ho
  have hx := ok_objs t hok _ (occ_obj_mem t oc hoc)
  unfold rObj
  obtain ⟨e1, e2, e3, e4⟩ := ro_sets (normalLevels t) (occs t) ex oc
  simp only [e1, e2, e3, e4, optSet]
  cases oc.t.obj.hasSets
  · simp [subset]
  · simp [hx.1, hx.2]

/-- restrict creates and re-types no object and never touches `hasSets` -/
theorem setsPres_restrict (t : Topo) (s : CSet) (flags : Nat) (h : setsPresT t.tree = true) :
    setsPresT (restrict t s flags).1.tree = true := by
  unfold setsPresT at h ⊢
  rw [List.all_eq_true] at h ⊢
  exact all_ident_restrict (q := fun y => (y.hasSets == !isSpecial y.type) = true) t s flags h

end Hw.Topo.Restrict
