/-
  Hw.Topo.InsertSort — `hwloc__reorder_children` (an insertion sort on the first bit of the complete cpuset, the empty set last)
  really sorts: its result is a permutation of the list in which no element starts below an earlier one, and
  `hwloc__reorder_children_if_needed` returns such a list in both of its branches.
-/
import Hw.Topo.InsertOrder
import Hw.Base.InsertSort
namespace Hw.Topo.Ins

def le (a b : T) : Prop := ¬ lt b a

theorem firstLt_negtrans {a b c : Nat} (h1 : firstLt b a = false) (h2 : firstLt c b = false) : firstLt c a = false := by
  refine firstLt_eq_false_iff.2 ((firstLt_eq_false_iff.1 h2).imp_right fun ⟨hb, hbc⟩ => ?_)
  obtain ⟨ha, hab⟩ := (firstLt_eq_false_iff.1 h1).resolve_left hb
  exact ⟨ha, Nat.le_trans hab hbc⟩

theorem le_trans {a b c : T} (h1 : le a b) (h2 : le b c) : le a c := by
  unfold le lt at *
  simp only [Bool.not_eq_true] at *
  exact firstLt_negtrans h1 h2

theorem le_of_lt {a b : T} (h : lt a b) : le a b := fun h' => lt_asymm h h'

theorem insertOrdered_sorted {c : T} (acc : List T) (h : acc.Pairwise le) : (insertOrdered c acc).Pairwise le :=
  Hw.InsertSort.split_pairwise (R := le) (fun x => firstLt x.o.ckey c.o.ckey) c (fun _ _ _ => le_trans) acc h
    (fun _ _ hp => le_of_lt hp) (fun _ _ hp hlt => Bool.false_ne_true (hp.symm.trans hlt))

theorem insertOrdered_perm (c : T) (acc : List T) : (insertOrdered c acc).Perm (c :: acc) := Hw.InsertSort.split_perm _ c acc

theorem reorder_sorted (l : List T) : (reorder l).Pairwise le ∧ (reorder l).Perm l :=
  ⟨Hw.InsertSort.foldl_keeps (fun _ acc => insertOrdered_sorted acc) l [] List.Pairwise.nil,
    Hw.InsertSort.foldl_perm insertOrdered_perm l []⟩

theorem needsReorder_false : ∀ (l : List T), needsReorder l = false → l.Pairwise le := by
  intro l
  induction l with
  | nil => intro _; exact List.Pairwise.nil
  | cons a tl ih =>
    intro h
    cases tl with
    | nil => simp
    | cons b rest =>
      simp only [needsReorder, Bool.or_eq_false_iff] at h
      have hrest := ih h.2
      refine List.pairwise_cons.mpr ⟨?_, hrest⟩
      intro x hx
      have hab : le a b := by unfold le lt; simp [h.1]
      rcases List.mem_cons.mp hx with rfl | hx
      · exact hab
      · exact le_trans hab ((List.pairwise_cons.mp hrest).1 x hx)

theorem reorderIfNeeded_sorted (l : List T) : (reorderIfNeeded l).Pairwise le ∧ (reorderIfNeeded l).Perm l := by
  unfold reorderIfNeeded
  split
  · exact reorder_sorted l
  · rename_i h
    exact ⟨needsReorder_false l (by simpa using h), List.Perm.refl _⟩

/-! ## `fixOrder` keeps the tree laminar -/

theorem fixOrderL_eq_map (gp : Nat) : ∀ l : List T, fixOrderL gp l = l.map (fixOrder gp)
  | [] => by simp [fixOrderL]
  | c :: cs => by rw [fixOrderL, fixOrderL_eq_map gp cs]; rfl

theorem addChildrenSets_key (c : T) : (addChildrenSets c).o.key = c.o.key := by cases c; rfl

theorem addChildrenSets_lam (c : T) (h : Lam c) : Lam (addChildrenSets c) := by
  obtain ⟨o, kids⟩ := c; exact h.congr_key rfl

theorem fixOrder_key (gp : Nat) (t : T) : (fixOrder gp t).o.key = t.o.key := by
  cases t with
  | node o kids => unfold fixOrder; split <;> rfl

theorem lam_map_keys {o : IObj} {kids : List T} (g : T → T) (h : Lam (.node o kids))
    (hg : ∀ c ∈ kids, (g c).o.key = c.o.key ∧ Lam (g c)) : Lam (.node o (kids.map g)) :=
  h.congr_kids (by rw [List.map_map]; exact List.map_congr_left fun c hc => (hg c hc).1)
    (List.forall_mem_map.2 fun c hc => (hg c hc).2)

end Hw.Topo.Ins

namespace Hw.Grouping
open Hw.Topo.Ins

/-- `hwloc_obj_add_children_sets(res)` + `hwloc__reorder_children_if_needed(res->parent)` keep the tree laminar -/
theorem fixOrder_lam (gp : Nat) (t : T) (h : Lam t) : Lam (fixOrder gp t) := by
  induction t using T.ind with
  | h o kids ih =>
    unfold fixOrder
    split
    · apply Lam.of_perm (reorderIfNeeded_sorted _).2
      apply lam_map_keys _ h
      intro c hc
      split
      · exact ⟨addChildrenSets_key c, addChildrenSets_lam c (h.kids_lam c hc)⟩
      · exact ⟨rfl, h.kids_lam c hc⟩
    · rw [fixOrderL_eq_map]
      exact lam_map_keys _ h fun c hc => ⟨fixOrder_key gp c, ih c hc (h.kids_lam c hc)⟩

end Hw.Grouping
