/-
  Hw.Topo.Helpers — model of the traversal / locality helpers of include/hwloc/helper.h,
  include/hwloc/inlines.h and hwloc/traversal.c (172-264, 846-961) over a topology `Dump`.

  Conventions
  * objects are `Obj` records of the dump; a C pointer is `Option Obj` (`none` = NULL); pointer equality is
    equality of the DFS ids (`Obj.id`);
  * cpusets / nodesets are finite sets as `Nat` masks (`cs o`, `nsOf o`; a NULL set reads as 0, every function
    that dereferences a possibly-NULL set tests `isSome` exactly where the C does);
  * every C `while` loop that follows pointers (`next_cousin`, `prev_cousin`, `next_sibling`, `parent`) is a
    fuel-bounded pointer chase over the dump's link fields (`chain`, `climbWhile`, …): the fuel is the number
    of objects (+1), which the lemmas show to suffice on a well-formed dump;
  * `children[i]` array accesses read the dump's `children` list (`childObjs`).
-/
import Hw.Topo.Types
import Hw.Topo.WF
namespace Hw.Topo

/-! ### sets as masks -/

def cs (o : Obj) : Nat := o.cpuset.getD 0
def nsOf (o : Obj) : Nat := o.nodeset.getD 0
def intersects (a b : Nat) : Bool := a &&& b != 0
def andnot (a b : Nat) : Nat := a ^^^ (a &&& b)
/-- indexes of the set bits, ascending -/
def bits (n : Nat) : List Nat := (List.range (n.log2 + 1)).filter (fun i => n.testBit i)
/-- hwloc_bitmap_weight of a finite set -/
def weight (n : Nat) : Nat := (bits n).length
def orAll (l : List Nat) : Nat := l.foldl (· ||| ·) 0

/-! ### pointers, chains -/

def Dump.fuel (d : Dump) : Nat := d.objs.length + 1
def Dump.rootObj? (d : Dump) : Option Obj := d.obj? 0
def parentOf (d : Dump) (o : Obj) : Option Obj := d.obj? o.parent

/-- the objects reached from `start` by repeatedly following the link `next` (pointer chase with fuel) -/
def chain (d : Dump) (next : Obj → Int) : Nat → Option Obj → List Obj
  | _, none => []
  | 0, some _ => []
  | f+1, some o => o :: chain d next f (d.obj? (next o))

def cousinsFrom (d : Dump) (start : Option Obj) : List Obj := chain d (·.nextCousin) d.fuel start
def prevCousinsFrom (d : Dump) (start : Option Obj) : List Obj := chain d (·.prevCousin) d.fuel start
def siblingsFrom (d : Dump) (start : Option Obj) : List Obj := chain d (·.nextSib) d.fuel start
/-- `for (child = o->first_child; child; child = child->next_sibling)` -/
def childChain (d : Dump) (o : Obj) : List Obj := siblingsFrom d (d.obj? o.firstChild)
def ioChildChain (d : Dump) (o : Obj) : List Obj := siblingsFrom d (d.obj? o.ioFirst)
/-- `o->children[0..arity)` -/
def childObjs (d : Dump) (o : Obj) : List Obj := o.children.filterMap d.obj?
/-- `o, o->parent, o->parent->parent, …` -/
def ancestorsSelf (d : Dump) (o : Obj) : List Obj := chain d (·.parent) d.fuel (some o)

/-- `while (p && cond p) p = p->parent;` — result `none` = NULL (or fuel exhausted) -/
def climbWhile (d : Dump) (cond : Obj → Bool) : Nat → Option Obj → Option Obj
  | _, none => none
  | 0, some _ => none
  | f+1, some o => if cond o then climbWhile d cond f (d.obj? o.parent) else some o

/-! ### levels, type <-> depth (inlines.h, traversal.c 20-103) -/

def levelIds (d : Dump) (depth : Int) : List Int := match levelOf d depth with | some l => l.objs | none => []
def levelObjs (d : Dump) (depth : Int) : List Obj := (levelIds d depth).filterMap d.obj?
/-- hwloc_get_obj_by_depth -/
def objByDepth (d : Dump) (depth : Int) (idx : Nat) : Option Obj := (levelObjs d depth)[idx]?
def nbobjsByDepth (d : Dump) (depth : Int) : Nat := (levelObjs d depth).length

def depthUnknown : Int := -1
def depthMultiple : Int := -2
/-- hwloc_get_type_depth (any int as type) -/
def typeDepth (d : Dump) (t : Int) : Int :=
  if 0 ≤ t ∧ t < (tMAX : Int) then (d.typeDepths[t.toNat]?).getD depthUnknown else depthUnknown
/-- hwloc_get_depth_type; HWLOC_OBJ_TYPE_NONE = -1 -/
def depthType (d : Dump) (depth : Int) : Int :=
  if 0 ≤ depth ∧ depth < (d.depth : Int) then
    match (levelObjs d depth).head? with | some o => (o.type : Int) | none => -1
  else if depth == -3 then tNUMA else if depth == -4 then tBRIDGE else if depth == -5 then tPCI
  else if depth == -6 then tOSDEV else if depth == -7 then tMISC else if depth == -8 then tMEMCACHE else -1

def isSingleDepth (depth : Int) : Bool := depth != depthUnknown && depth != depthMultiple

/-- hwloc_get_nbobjs_by_type -/
def nbobjsByType (d : Dump) (t : Int) : Int :=
  let depth := typeDepth d t
  if depth == depthUnknown then 0 else if depth == depthMultiple then -1 else (nbobjsByDepth d depth : Int)
/-- hwloc_get_obj_by_type -/
def objByType (d : Dump) (t : Int) (idx : Nat) : Option Obj :=
  let depth := typeDepth d t
  if isSingleDepth depth then objByDepth d depth idx else none
/-- hwloc_get_next_obj_by_depth -/
def nextByDepth (d : Dump) (depth : Int) (prev : Option Obj) : Option Obj :=
  match prev with
  | none => objByDepth d depth 0
  | some p => if p.depth != depth then none else d.obj? p.nextCousin
/-- hwloc_get_next_obj_by_type -/
def nextByType (d : Dump) (t : Int) (prev : Option Obj) : Option Obj :=
  let depth := typeDepth d t
  if isSingleDepth depth then nextByDepth d depth prev else none

/-- `obj = NULL; while ((obj = next(obj)) != NULL) …` : the objects visited -/
def iterNext (next : Option Obj → Option Obj) : Nat → Option Obj → List Obj
  | 0, _ => []
  | f+1, prev => match next prev with
    | none => []
    | some o => o :: iterNext next f (some o)

/-- hwloc_get_pu_obj_by_os_index / hwloc_get_numanode_obj_by_os_index -/
def objByOsIndex (d : Dump) (t : Int) (os : Int) : Option Obj :=
  (iterNext (nextByType d t) d.fuel none).find? (fun o => o.osidx == os)

/-! ### covering (helper.h 374-412) -/

/-- hwloc_get_child_covering_cpuset -/
def childCovering (d : Dump) (S : Nat) (parent : Obj) : Option Obj :=
  if S == 0 then none else (childChain d parent).find? (fun c => c.cpuset.isSome && subset S (cs c))

def coveringFrom (d : Dump) (S : Nat) : Nat → Obj → Obj
  | 0, cur => cur
  | f+1, cur => match childCovering d S cur with
    | none => cur
    | some c => coveringFrom d S f c

/-- hwloc_get_obj_covering_cpuset -/
def objCovering (d : Dump) (S : Nat) : Option Obj :=
  match d.rootObj? with
  | none => none
  | some r => if S == 0 || !subset S (cs r) then none else some (coveringFrom d S d.fuel r)

/-! ### largest objects inside (helper.h 122-147, traversal.c 211-264) -/

def firstLargestFrom (d : Dump) (S : Nat) : Nat → Obj → Obj
  | 0, o => o
  | f+1, o =>
    if subset (cs o) S then o else
    match (childChain d o).find? (fun c => intersects (cs c) S) with
    | none => o
    | some c => firstLargestFrom d S f c

/-- hwloc_get_first_largest_obj_inside_cpuset -/
def firstLargest (d : Dump) (S : Nat) : Option Obj :=
  match d.rootObj? with
  | none => none
  | some r => if !intersects (cs r) S then none else some (firstLargestFrom d S d.fuel r)

/-- hwloc__get_largest_objs_inside_cpuset: the objects appended to `res`, in order, with `max > 0` slots left.
    The `break` when `*max` reaches 0 is the `acc.length ≥ max` guard. -/
def largestRec (d : Dump) : Nat → Obj → Nat → Nat → List Obj
  | 0, _, _, _ => []
  | f+1, cur, S, max =>
    if max = 0 then [] else
    if cs cur == S then [cur] else
    (childObjs d cur).foldl (fun (acc : List Obj) c =>
        if acc.length ≥ max then acc
        else if !intersects S (cs c) then acc
        else acc ++ largestRec d f c (S &&& cs c) (max - acc.length)) []

/-- hwloc_get_largest_objs_inside_cpuset: (return value, objects stored) -/
def largestObjs (d : Dump) (S : Nat) (max : Int) : Int × List Obj :=
  match d.rootObj? with
  | none => (-1, [])
  | some r =>
    if !subset S (cs r) then (-1, [])
    else if max ≤ 0 then (0, [])
    else let l := largestRec d d.fuel r S max.toNat; ((l.length : Int), l)

/-! ### iterators inside / covering a cpuset (helper.h 169-366, 427-470) -/

def insideOk (S : Nat) (o : Obj) : Bool := cs o != 0 && subset (cs o) S
def coverOk (S : Nat) (o : Obj) : Bool := intersects S (cs o)

/-- hwloc_get_next_obj_inside_cpuset_by_depth -/
def nextInsideByDepth (d : Dump) (S : Nat) (depth : Int) (prev : Option Obj) : Option Obj :=
  (cousinsFrom d (nextByDepth d depth prev)).find? (insideOk S)
/-- hwloc_get_next_obj_inside_cpuset_by_type -/
def nextInsideByType (d : Dump) (S : Nat) (t : Int) (prev : Option Obj) : Option Obj :=
  let depth := typeDepth d t
  if isSingleDepth depth then nextInsideByDepth d S depth prev else none
/-- hwloc_get_obj_inside_cpuset_by_depth -/
def objInsideByDepth (d : Dump) (S : Nat) (depth : Int) (idx : Nat) : Option Obj :=
  ((cousinsFrom d (objByDepth d depth 0)).filter (insideOk S))[idx]?
def objInsideByType (d : Dump) (S : Nat) (t : Int) (idx : Nat) : Option Obj :=
  let depth := typeDepth d t
  if isSingleDepth depth then objInsideByDepth d S depth idx else none
/-- hwloc_get_nbobjs_inside_cpuset_by_depth -/
def nbobjsInsideByDepth (d : Dump) (S : Nat) (depth : Int) : Nat :=
  (cousinsFrom d (objByDepth d depth 0)).countP (insideOk S)
def nbobjsInsideByType (d : Dump) (S : Nat) (t : Int) : Int :=
  let depth := typeDepth d t
  if depth == depthUnknown then 0 else if depth == depthMultiple then -1 else (nbobjsInsideByDepth d S depth : Int)
/-- hwloc_get_obj_index_inside_cpuset (no emptiness test on `obj` itself, as in the C) -/
def indexInside (d : Dump) (S : Nat) (obj : Obj) : Int :=
  if !subset (cs obj) S then -1
  else (((prevCousinsFrom d (d.obj? obj.prevCousin)).countP (insideOk S) : Nat) : Int)
/-- hwloc_get_next_obj_covering_cpuset_by_depth -/
def nextCoveringByDepth (d : Dump) (S : Nat) (depth : Int) (prev : Option Obj) : Option Obj :=
  (cousinsFrom d (nextByDepth d depth prev)).find? (coverOk S)
def nextCoveringByType (d : Dump) (S : Nat) (t : Int) (prev : Option Obj) : Option Obj :=
  let depth := typeDepth d t
  if isSingleDepth depth then nextCoveringByDepth d S depth prev else none

/-! ### ancestors (helper.h 488-575) -/

/-- hwloc_get_ancestor_obj_by_depth -/
def ancestorByDepth (d : Dump) (depth : Int) (obj : Obj) : Option Obj :=
  if obj.depth < depth then none else climbWhile d (fun a => decide (a.depth > depth)) d.fuel (some obj)
/-- hwloc_get_ancestor_obj_by_type -/
def ancestorByType (d : Dump) (t : Int) (obj : Obj) : Option Obj :=
  climbWhile d (fun a => (a.type : Int) != t) d.fuel (d.obj? obj.parent)

/-- `while (o->depth > target) o = o->parent;`  — `none` = NULL dereference (or fuel exhausted).
    (The climb of `ancestorByDepth` without the NULL test: `climbWhile_depth_eq`.) -/
def climbDeeper (d : Dump) : Nat → Obj → Int → Option Obj
  | 0, _, _ => none
  | f+1, o, t => if o.depth > t then (match d.obj? o.parent with
      | none => none
      | some p => climbDeeper d f p t) else some o

/-- hwloc_get_common_ancestor_obj (helper.h, after fix 82dfc45), the literal depth-free double loop
    `for (a = obj1; a; a = a->parent) for (b = obj2; b; b = b->parent) if (a == b) return a; return NULL;`
    — valid for any mix of normal / memory / I/O / Misc objects.  `none` = NULL. -/
def commonAncestor (d : Dump) (o1 o2 : Obj) : Option Obj :=
  (ancestorsSelf d o1).find? (fun a => (ancestorsSelf d o2).any (fun b => a.id == b.id))

/-- hwloc_obj_is_in_subtree -/
def isInSubtree (o root : Obj) : Bool := o.cpuset.isSome && root.cpuset.isSome && subset (cs o) (cs root)

/-! ### closest objects (traversal.c 172-209) -/

/-- the inner `while (1)`: climb while the parent's cpuset equals ours; `none` = reached the root (`goto out`) -/
def skipEqualParents (d : Dump) : Nat → Obj → Option (Obj × Obj)
  | 0, _ => none
  | f+1, p => match d.obj? p.parent with
    | none => none
    | some np => if cs p == cs np then skipEqualParents d f np else some (p, np)

def closestLoop (d : Dump) (lvl : List Obj) (max : Nat) : Nat → Obj → List Obj → List Obj
  | 0, _, acc => acc
  | f+1, parent, acc =>
    if acc.length ≥ max then acc else
    match skipEqualParents d d.fuel parent with
    | none => acc
    | some (p, np) =>
      let acc' := (acc ++ lvl.filter (fun o => subset (cs o) (cs np) && !subset (cs o) (cs p))).take max
      if acc'.length ≥ max then acc' else closestLoop d lvl max f np acc'

/-- hwloc_get_closest_objs (after fix 07339b9 the level of `src` is read with hwloc_get_obj_by_depth, so memory
    objects — negative depth, non-NULL cpuset — are valid sources) -/
def closestObjs (d : Dump) (src : Obj) (max : Nat) : List Obj :=
  if src.cpuset.isNone then [] else closestLoop d (levelObjs d src.depth) max d.fuel src []

/-! ### cpuset <-> nodeset (helper.h 1154-1195) -/

/-- hwloc_cpuset_to_nodeset -/
def cpusetToNodeset (d : Dump) (S : Nat) : Nat :=
  let depth := typeDepth d tNUMA
  (iterNext (nextCoveringByDepth d S depth) d.fuel none).foldl (fun acc o => acc ||| single o.osidx.toNat) 0
/-- hwloc_cpuset_from_nodeset -/
def cpusetFromNodeset (d : Dump) (N : Nat) : Nat :=
  let depth := typeDepth d tNUMA
  (iterNext (nextByDepth d depth) d.fuel none).foldl
    (fun acc o => if N.testBit o.osidx.toNat then acc ||| cs o else acc) 0

/-! ### same locality (traversal.c 877-961) -/

inductive Err | EINVAL | ENOENT
deriving Repr, DecidableEq

def lowerStr (s : String) : List Char := s.toList.map Char.toLower
/-- `subtype && (!x || strcasecmp(subtype, x))` is false -/
def subtypeOk (subtype : Option String) (x : Option String) : Bool :=
  match subtype with
  | none => true
  | some s => match x with | none => false | some y => lowerStr s == lowerStr y
/-- `nameprefix && (!x || strncasecmp(nameprefix, x, strlen(nameprefix)))` is false -/
def prefixOk (pre : Option String) (x : Option String) : Bool :=
  match pre with
  | none => true
  | some s => match x with | none => false | some y => (lowerStr s).isPrefixOf (lowerStr y)

def climbOsdev (d : Dump) : Nat → Obj → Option Obj
  | 0, _ => none
  | f+1, o => if o.type == tOSDEV then (match d.obj? o.parent with | none => none | some p => climbOsdev d f p) else some o

/-- hwloc_get_obj_with_same_locality -/
def sameLocality (d : Dump) (src : Obj) (t : Int) (subtype pre : Option String) (flags : Nat) : Except Err Obj :=
  let tNorm := decide (0 ≤ t) && isNormal t.toNat
  let tMem := decide (0 ≤ t) && isMemory t.toNat
  if flags != 0 then .error .EINVAL
  else if isNormal src.type || isMemory src.type then
    if !tNorm && !tMem then .error .EINVAL else
    match (iterNext (nextByType d t) d.fuel none).find? (fun o =>
        o.cpuset == src.cpuset && o.nodeset == src.nodeset && subtypeOk subtype o.subtype && prefixOk pre o.name) with
    | some o => .ok o
    | none => .error .ENOENT
  else if isIO src.type then
    if (src.type != tOSDEV && src.type != tPCI) || (t != (tOSDEV : Int) && t != (tPCI : Int)) then .error .EINVAL else
    match climbOsdev d d.fuel src with
    | none => .error .ENOENT          -- unreachable on a well-formed dump (would be a NULL dereference)
    | some pci =>
      if t == (tPCI : Int) then
        if pci.type != tPCI then .error .ENOENT
        else if !subtypeOk subtype pci.subtype then .error .ENOENT
        else if !prefixOk pre pci.name then .error .ENOENT
        else .ok pci
      else
        match (ioChildChain d pci).find? (fun c => c.type == tOSDEV && subtypeOk subtype c.subtype && prefixOk pre c.name) with
        | some c => .ok c
        | none => .error .ENOENT
  else .error .EINVAL

/-! ### singlify per core (traversal.c 846-875) -/

def singlifyLoop (d : Dump) (which : Nat) : Nat → Nat → Option Obj → Nat
  | 0, S, _ => S
  | f+1, S, prev => match nextCoveringByType d S tCORE prev with
    | none => S
    | some core =>
      let cand := (bits (cs core)).filter (fun i => S.testBit i)
      let S' := match cand[which]? with
        | none => andnot S (cs core)
        | some pu => andnot S (cs core) ||| single pu
      singlifyLoop d which f S' (some core)

/-- hwloc_bitmap_singlify_per_core -/
def singlifyPerCore (d : Dump) (S : Nat) (which : Nat) : Nat := singlifyLoop d which d.fuel S none

/-! ### caches (helper.h 641-712) -/

/-- hwloc_get_cache_type_depth; `ctype = -1` is "any" -/
def cacheTypeDepthLoop (d : Dump) (level : Int) (ctype : Int) : Nat → Int → Int → Int
  | 0, _, found => found
  | f+1, depth, found => match objByDepth d depth 0 with
    | none => found
    | some o =>
      if !isDCache o.type || (o.attrs[1]?).getD 0 != level then cacheTypeDepthLoop d level ctype f (depth + 1) found
      else if ctype == -1 then
        (if found != depthUnknown then depthMultiple else cacheTypeDepthLoop d level ctype f (depth + 1) depth)
      else if (o.attrs[4]?).getD 0 == ctype || (o.attrs[4]?).getD 0 == 0 then depth
      else cacheTypeDepthLoop d level ctype f (depth + 1) found

def cacheTypeDepth (d : Dump) (level : Int) (ctype : Int) : Int :=
  cacheTypeDepthLoop d level ctype (d.depth + 1) 0 depthUnknown

/-- hwloc_get_cache_covering_cpuset -/
def cacheCovering (d : Dump) (S : Nat) : Option Obj :=
  climbWhile d (fun o => !isDCache o.type) d.fuel (objCovering d S)
/-- hwloc_get_shared_cache_covering_obj -/
def sharedCacheCovering (d : Dump) (obj : Obj) : Option Obj :=
  if obj.cpuset.isNone then none
  else climbWhile d (fun c => !(c.cpuset != obj.cpuset && isDCache c.type)) d.fuel (d.obj? obj.parent)

/-! ### brute-force definitions: filters over ALL objects of the dump -/

/-- the objects of a depth in logical order, from the object list alone -/
def bruteLevel (d : Dump) (depth : Int) : List Obj :=
  (List.range d.objs.length).filterMap (fun i => d.objs.find? (fun o => o.depth == depth && o.lidx == i))
def bruteInside (d : Dump) (S : Nat) (depth : Int) : List Obj := (bruteLevel d depth).filter (insideOk S)
def bruteCovering (d : Dump) (S : Nat) (depth : Int) : List Obj := (bruteLevel d depth).filter (coverOk S)
/-- deepest normal object whose cpuset includes `S` -/
def bruteObjCovering (d : Dump) (S : Nat) : Option Obj :=
  if S == 0 then none else
  (d.objs.filter (fun o => isNormal o.type && subset S (cs o))).foldl
    (fun (best : Option Obj) o => match best with
      | none => some o
      | some b => if b.depth < o.depth then some o else best) none
def bruteCpusetToNodeset (d : Dump) (S : Nat) : Nat :=
  orAll ((d.objs.filter (fun o => o.type == tNUMA && intersects S (cs o))).map (fun o => single o.osidx.toNat))
def bruteCpusetFromNodeset (d : Dump) (N : Nat) : Nat :=
  orAll ((d.objs.filter (fun o => o.type == tNUMA && N.testBit o.osidx.toNat)).map cs)
/-- maximal normal objects inside `S`: non-empty cpuset ⊆ S, the parent's cpuset ⊄ S (or no parent); among objects of
    equal cpuset the shallowest; in DFS order -/
def bruteLargest (d : Dump) (S : Nat) : List Obj :=
  d.objs.filter (fun o => isNormal o.type && cs o != 0 && subset (cs o) S &&
    (match d.obj? o.parent with | none => true | some p => !subset (cs p) S))
/-- deepest common ancestor, as a filter over ALL objects: among the objects that are an ancestor-or-self of both
    (by parent links) the last one in DFS order (descendants come after their ancestors) -/
def bruteCommonAncestor (d : Dump) (o1 o2 : Obj) : Option Obj :=
  let a1 := (ancestorsSelf d o1).map (·.id)
  let a2 := (ancestorsSelf d o2).map (·.id)
  (d.objs.filter (fun c => a1.contains c.id && a2.contains c.id)).getLast?

end Hw.Topo
