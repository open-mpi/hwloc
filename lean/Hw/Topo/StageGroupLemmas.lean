/-
  Hw.Topo.StageGroupLemmas — `hwloc_set_group_depth` (model Hw.Topo.StageGroup) numbers the Group levels 0, 1, 2, … from the
  root level downwards and gives every object of the k-th Group level the depth k.
-/
import Hw.Topo.StageGroup
namespace Hw.Topo.Restrict.Stage
open Hw.Topo Hw.Topo.Restrict

theorem groupDepthsFrom_spec : ∀ (L : List (List RObj)) (gd : Nat),
    groupDepthsFrom gd L = ((L.filter isGroupLevel).zipIdx gd).flatMap (fun p => p.1.map (fun o => (o.gp, p.2)))
  | [], gd => by simp [groupDepthsFrom]
  | l :: ls, gd => by
    rw [groupDepthsFrom]
    by_cases h : isGroupLevel l = true
    · rw [if_pos h, List.filter_cons_of_pos h, List.zipIdx_cons, List.flatMap_cons, groupDepthsFrom_spec ls (gd + 1)]
    · rw [if_neg h, List.filter_cons_of_neg h, groupDepthsFrom_spec ls gd]

theorem groupDepthsFrom_range (L : List (List RObj)) (gd : Nat) (p : Nat × Nat) (hp : p ∈ groupDepthsFrom gd L) :
    gd ≤ p.2 ∧ p.2 < gd + (L.filter isGroupLevel).length := by
  rw [groupDepthsFrom_spec] at hp
  obtain ⟨q, hq, hp⟩ := List.mem_flatMap.1 hp
  obtain ⟨o, _, rfl⟩ := List.mem_map.1 hp
  exact ⟨(List.mem_zipIdx hq).1, (List.mem_zipIdx hq).2.1⟩

/-- the depths written are below the number of levels; in particular never `(unsigned) -1` (WF clause `group-depth`) when the
    topology has fewer than 2^32 - 1 levels (`nb_levels` is an `unsigned`) -/
theorem setGroupDepth_lt (t : Tree) : ∀ p ∈ setGroupDepth t, p.2 < (connectLevels t).length := by
  intro p hp
  have := (groupDepthsFrom_range (connectLevels t) 0 p hp).2
  have hl := List.length_filter_le isGroupLevel (connectLevels t)
  omega

end Hw.Topo.Restrict.Stage
