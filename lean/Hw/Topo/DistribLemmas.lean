/-
  Hw.Topo.DistribLemmas — the model of hwloc_distrib (Hw.Topo.Distrib) on a dump satisfying `Tree`, normal roots.
  What a call delivers is a `Spec` (so many non-empty sets of such a union, pairwise disjoint under a side condition); the
  loop over the roots builds one with `Spec.append`, `Spec.replicate`, `Spec.orIntoLast` (`distribStep_inv`,
  `distribLoop_spec`), and the recursion into the children is `Tree.down_ind` (`distribRec_children`).
-/
import Hw.Topo.HelpersBasic
import Hw.Base.ListLemmas
namespace Hw.Topo

/-! ### arithmetic of chunks -/

theorem ceilDiv_zero {tot : Nat} (h : 0 < tot) : ceilDiv 0 tot = 0 := by
  unfold ceilDiv
  rw [Nat.zero_add]
  exact Nat.div_eq_of_lt (by omega)

theorem ceilDiv_mul_self {tot : Nat} (h : 0 < tot) (n : Nat) : ceilDiv (tot * n) tot = n := by
  unfold ceilDiv
  have e : tot * n + tot - 1 = (tot - 1) + tot * n := by omega
  rw [e, Nat.add_mul_div_left _ _ h, Nat.div_eq_of_lt (by omega), Nat.zero_add]

theorem ceilDiv_pos {a tot : Nat} (ha : 0 < a) (h : 0 < tot) : 0 < ceilDiv a tot := by
  unfold ceilDiv
  exact Nat.div_pos (by omega) h

theorem ceilDiv_mono {a b : Nat} (h : a ≤ b) (tot : Nat) : ceilDiv a tot ≤ ceilDiv b tot := by
  unfold ceilDiv
  exact Nat.div_le_div_right (by omega)

theorem ceilDiv_le_self {tot : Nat} (h : 0 < tot) (a : Nat) : ceilDiv a tot ≤ a :=
  Nat.le_trans (ceilDiv_mono (Nat.le_mul_of_pos_left a h) tot) (Nat.le_of_eq (ceilDiv_mul_self h a))

/-- the subtraction in `chunkOf` never truncates -/
theorem chunkOf_mono (g w n tot : Nat) : ceilDiv (g * n) tot ≤ ceilDiv ((g + w) * n) tot :=
  ceilDiv_mono (Nat.mul_le_mul_right _ (Nat.le_add_right _ _)) _

theorem chunkOf_add (g w n tot : Nat) :
    ceilDiv (g * n) tot + chunkOf g w n tot = ceilDiv ((g + w) * n) tot := by
  have := chunkOf_mono g w n tot
  unfold chunkOf; omega

theorem chunkOf_first_pos {w n tot : Nat} (hw : 1 ≤ w) (hn : 1 ≤ n) (htot : 0 < tot) :
    1 ≤ chunkOf 0 w n tot := by
  unfold chunkOf
  rw [Nat.zero_mul, ceilDiv_zero htot, Nat.zero_add, Nat.sub_zero]
  exact ceilDiv_pos (Nat.mul_pos hw hn) htot

/-- a chunk of 0 sets is never the first one: something has been given before it -/
theorem chunkOf_zero_not_first {g w n tot : Nat} (hw : 1 ≤ w) (hn : 1 ≤ n) (htot : 0 < tot)
    (h : chunkOf g w n tot = 0) : ceilDiv (g * n) tot ≠ 0 := by
  rcases Nat.eq_zero_or_pos g with rfl | hg
  · have := chunkOf_first_pos hw hn htot; omega
  · exact Nat.ne_of_gt (ceilDiv_pos (Nat.mul_pos hg hn) htot)

/-- the loop over the weights: state = (number of sets given, givenweight) -/
def chunkFold (n tot : Nat) (ws : List Nat) (st : Nat × Nat) : Nat × Nat :=
  ws.foldl (fun acc w => (acc.1 + chunkOf acc.2 w n tot, acc.2 + w)) st

theorem chunkFold_spec (n tot : Nat) (ws : List Nat) (given g : Nat) :
    chunkFold n tot ws (given, g) =
      (given + (ceilDiv ((g + ws.sum) * n) tot - ceilDiv (g * n) tot), g + ws.sum) := by
  unfold chunkFold
  induction ws generalizing given g with
  | nil => simp
  | cons w ws ih =>
    rw [List.foldl_cons, ih]
    have h1 := chunkOf_mono g w n tot
    have h2 := chunkOf_mono (g + w) ws.sum n tot
    have h3 := chunkOf_add g w n tot
    simp only [List.sum_cons, Nat.add_assoc] at h2 ⊢
    refine Prod.ext ?_ rfl
    simp only
    omega

theorem chunk_telescope {n tot : Nat} {ws : List Nat} (htot : 0 < tot) (hs : ws.sum = tot) :
    (chunkFold n tot ws (0, 0)).1 = n := by
  rw [chunkFold_spec, hs]
  simp only [Nat.zero_add, Nat.zero_mul, ceilDiv_zero htot, Nat.sub_zero]
  exact ceilDiv_mul_self htot n

/-! ### unions of lists of sets -/

theorem orIntoLast_append (l : List Nat) (x s : Nat) : orIntoLast (l ++ [x]) s = l ++ [x ||| s] := by
  simp [orIntoLast]

theorem totWeight_eq_zero {l : List Obj} (h : totWeight l = 0) : ∀ r ∈ l, weight (cs r) = 0 :=
  fun _ hr => List.sum_eq_zero_iff_forall_eq_nat.1 h _ (List.mem_map_of_mem hr)

theorem orAll_cs_eq_zero {l : List Obj} (h : totWeight l = 0) : orAll (l.map cs) = 0 := by
  apply Nat.eq_of_testBit_eq; intro i
  rw [testBit_orAll, Nat.zero_testBit, List.any_map, List.any_eq_false]
  intro r hr
  rw [Function.comp_apply, (weight_eq_zero _).1 (totWeight_eq_zero h r hr), Nat.zero_testBit]
  exact Bool.false_ne_true

theorem normalAncestor_of_normal (d : Dump) {r : Obj} (h : isNormal r.type = true) :
    normalAncestor d r = r := by
  unfold normalAncestor Dump.fuel
  simp [climbWhile, h]

/-! ### error cases -/

theorem distrib_einval (d : Dump) (roots : List Obj) (n : Nat) (untl : Int) (flags : Nat)
    (h : n = 0 ∨ (flags ≠ 0 ∧ flags ≠ 1)) : distrib d roots n untl flags = none := by
  unfold distrib
  rcases h with h | ⟨h0, h1⟩
  · simp [h]
  · simp [h0, h1]

theorem distribStep_skip (d : Dump) (untl : Int) (n tot : Nat) (recurse : List Obj → Nat → List Nat)
    (st : List Nat × Nat) {r : Obj} (h : weight (cs r) = 0) : distribStep d untl n tot recurse st r = st := by
  unfold distribStep
  simp [h]

theorem foldl_distribStep_skip (d : Dump) (untl : Int) (n tot : Nat) (recurse : List Obj → Nat → List Nat)
    (l : List Obj) (st : List Nat × Nat) (h : ∀ r ∈ l, weight (cs r) = 0) :
    l.foldl (distribStep d untl n tot recurse) st = st := by
  induction l generalizing st with
  | nil => rfl
  | cons a l ih =>
    rw [List.foldl_cons, distribStep_skip d untl n tot recurse st (h a List.mem_cons_self)]
    exact ih st (fun r hr => h r (List.mem_cons_of_mem _ hr))

theorem distrib_ok (d : Dump) (roots : List Obj) {n : Nat} (untl : Int) {flags : Nat} (hn : 0 < n) (hf : flags ≤ 1) :
    distrib d roots n untl flags = some (distribRec d untl (flags == 1) (d.depth + 1) roots n) := by
  have hfl : (flags != 0 && flags != 1) = false := by
    have : flags = 0 ∨ flags = 1 := by omega
    rcases this with h | h <;> simp [h]
  simp only [distrib, Nat.ne_of_gt hn, hfl, decide_false, Bool.or_self, Bool.false_eq_true, if_false]

theorem distrib_all_empty (d : Dump) (roots : List Obj) (n : Nat) (untl : Int) (flags : Nat)
    (h0 : totWeight roots = 0) (hn : 0 < n) (hf : flags ≤ 1) :
    distrib d roots n untl flags = some [] := by
  rw [distrib_ok d roots untl hn hf, distribRec, foldl_distribStep_skip]
  intro r hr
  apply totWeight_eq_zero h0
  split at hr
  · exact List.mem_reverse.1 hr
  · exact hr

/-! ### weights of disjoint unions -/

theorem totWeight_eq_weight_orAll {l : List Obj}
    (h : l.Pairwise (fun a b => disjoint (cs a) (cs b) = true)) :
    totWeight l = weight (orAll (l.map cs)) := by
  rw [weight_orAll_disjoint (List.pairwise_map.2 h)]; simp [totWeight, Function.comp_def]

theorem chunkOf_le_weight {g w n tot : Nat} (htot : 0 < tot) (hn : n ≤ tot) : chunkOf g w n tot ≤ w := by
  unfold chunkOf ceilDiv
  have h1 : (g + w) * n = g * n + w * n := Nat.add_mul ..
  have h2 : w * n ≤ w * tot := Nat.mul_le_mul_left _ hn
  have h3 : ((g + w) * n + tot - 1) / tot ≤ ((g * n + tot - 1) + w * tot) / tot :=
    Nat.div_le_div_right (by omega)
  rw [Nat.add_mul_div_right _ _ htot] at h3
  omega

theorem leaf_weight_le {d : Dump} (ht : Tree d) {r : Obj} (hro : r ∈ d.objs) (hrn : isNormal r.type = true)
    (har : r.arity = 0) : weight (cs r) ≤ 1 := by
  by_cases hcs : cs r = 0
  · rw [(weight_eq_zero _).2 hcs]; omega
  · rw [ht.leaf_single hro hrn har hcs]
    exact weight_single_le _

/-! ### what a call delivers, and how the loop builds it -/

/-- What a (recursive) call must deliver: `k` non-empty sets of union `u`, pairwise disjoint under the side condition `D`
    (no depth limit above the PUs, no more sets than bits, disjoint roots). -/
structure Spec (D : Prop) (k u : Nat) (sets : List Nat) : Prop where
  len : sets.length = k
  nz : ∀ s ∈ sets, s ≠ 0
  un : orAll sets = u
  dj : D → sets.Pairwise (fun a b => disjoint a b = true)

theorem Spec.mono {D D' : Prop} {k u : Nat} {sets : List Nat} (h : Spec D k u sets) (hD : D' → D) : Spec D' k u sets :=
  ⟨h.len, h.nz, h.un, fun d => h.dj (hD d)⟩

theorem Spec.append {D : Prop} {k k' u u' : Nat} {a b : List Nat} (ha : Spec D k u a) (hb : Spec D k' u' b)
    (hd : D → disjoint u u' = true) : Spec D (k + k') (u ||| u') (a ++ b) := by
  refine ⟨by rw [List.length_append, ha.len, hb.len], fun s hs => ?_, by rw [orAll_append, ha.un, hb.un], fun d => ?_⟩
  · exact (List.mem_append.1 hs).elim (ha.nz s) (hb.nz s)
  · exact List.pairwise_append.2 ⟨ha.dj d, hb.dj d, fun x hx y hy =>
      disjoint_mono (ha.un ▸ subset_orAll hx) (hb.un ▸ subset_orAll hy) (hd d)⟩

/-- where the recursion stops: `k` copies of the root's cpuset — a single one when the sets are to be disjoint -/
theorem Spec.replicate {D : Prop} {k s : Nat} (hk : k ≠ 0) (hs : s ≠ 0) (h1 : D → k ≤ 1) :
    Spec D k s (List.replicate k s) :=
  ⟨List.length_replicate, fun _ hx => (List.mem_replicate.1 hx).2 ▸ hs, orAll_replicate hk s, fun d => by
    rw [show k = 1 from Nat.le_antisymm (h1 d) (Nat.pos_of_ne_zero hk)]
    exact List.pairwise_singleton _ _⟩

/-- a zero chunk: the root's cpuset is or-ed into the last set written, which exists -/
theorem Spec.orIntoLast {D : Prop} {k u s : Nat} {out : List Nat} (h : Spec D k u out) (hk : k ≠ 0)
    (hd : D → disjoint u s = true) : Spec D k (u ||| s) (orIntoLast out s) := by
  have hne : out ≠ [] := fun e => hk (by rw [← h.len, e]; rfl)
  obtain ⟨l, x, rfl⟩ : ∃ l x, out = l ++ [x] := ⟨_, _, (List.dropLast_concat_getLast hne).symm⟩
  rw [orIntoLast_append]
  refine ⟨by rw [← h.len, List.length_append, List.length_append]; rfl, fun t ht => ?_, ?_, fun d => ?_⟩
  · rcases List.mem_append.1 ht with ht | ht
    · exact h.nz t (List.mem_append_left _ ht)
    · rw [List.mem_singleton.1 ht]
      exact fun e => h.nz x (List.mem_append_right _ List.mem_cons_self) (Nat.or_eq_zero_iff.1 e).1
  · rw [← h.un, orAll_append, orAll_append, orAll_singleton, orAll_singleton, Nat.or_assoc]
  · obtain ⟨h1, _, h3⟩ := List.pairwise_append.1 (h.dj d)
    refine List.pairwise_append.2 ⟨h1, List.pairwise_singleton _ _, fun a ha b hb => ?_⟩
    rw [List.mem_singleton.1 hb]
    exact disjoint_or_right (h3 a ha x List.mem_cons_self)
      (disjoint_mono (h.un ▸ subset_orAll (List.mem_append_left _ ha)) (subset_refl _) (hd d))

/-- invariant of the loop over the roots after the roots `pre` have been processed: the weight given away, and the sets
    written for it -/
def StepInv (D : Prop) (n tot : Nat) (pre : List Obj) (st : List Nat × Nat) : Prop :=
  st.2 = totWeight pre ∧ Spec D (ceilDiv (st.2 * n) tot) (orAll (pre.map cs)) st.1

/-- the branches of `distribStep` are `Spec.replicate` (where the recursion stops), `Spec.orIntoLast` (a chunk of 0 sets,
    never the first) and `Spec.append` of the recursive call on the children -/
theorem distribStep_inv {D : Prop} {d : Dump} {untl : Int} {n tot : Nat} {recurse : List Obj → Nat → List Nat}
    (hn : 0 < n) (htot : 0 < tot) {pre : List Obj} {st : List Nat × Nat} {r : Obj}
    (hnorm : isNormal r.type = true) (hleafw : r.arity = 0 → weight (cs r) ≤ 1)
    (hD : D → n ≤ tot ∧ r.depth < untl ∧ disjoint (orAll (pre.map cs)) (cs r) = true)
    (hrec : r.arity ≠ 0 → cs r ≠ 0 → ∀ k, 0 < k →
      Spec (D ∧ k ≤ weight (cs r)) k (cs r) (recurse (childObjs d r) k))
    (h : StepInv D n tot pre st) :
    StepInv D n tot (pre ++ [r]) (distribStep d untl n tot recurse st r) := by
  obtain ⟨out, g⟩ := st
  obtain ⟨hg, hs⟩ := h
  simp only at hg hs
  have htw : g + weight (cs r) = totWeight (pre ++ [r]) := by rw [hg]; simp [totWeight]
  have hor : orAll ((pre ++ [r]).map cs) = orAll (pre.map cs) ||| cs r := by
    rw [List.map_append, orAll_append, List.map_singleton, orAll_singleton]
  unfold distribStep StepInv
  rw [normalAncestor_of_normal d hnorm, hor]
  simp only
  by_cases hw : weight (cs r) = 0
  · rw [if_pos hw, (weight_eq_zero _).1 hw, Nat.or_zero]
    exact ⟨by rw [← htw, hw]; rfl, hs⟩
  rw [if_neg hw]
  refine ⟨htw, ?_⟩
  simp only
  have hcs : cs r ≠ 0 := fun h0 => hw ((weight_eq_zero _).2 h0)
  rw [← chunkOf_add g (weight (cs r)) n tot]
  have hkw : D → chunkOf g (weight (cs r)) n tot ≤ weight (cs r) := fun hd => chunkOf_le_weight htot (hD hd).1
  have hfirst := chunkOf_zero_not_first (g := g) (Nat.pos_of_ne_zero hw) hn htot
  generalize chunkOf g (weight (cs r)) n tot = k at hkw hfirst ⊢
  have hdis := fun hd => (hD hd).2.2
  by_cases hleaf : (r.arity = 0 ∨ k ≤ 1) ∨ untl ≤ r.depth
  · rw [if_pos (by simpa using hleaf)]
    by_cases hk0 : k = 0
    · rw [if_neg (fun h => h hk0), hk0, Nat.add_zero]
      exact hs.orIntoLast (hfirst hk0) hdis
    · rw [if_pos hk0]
      refine hs.append (.replicate hk0 hcs fun hd => ?_) hdis
      rcases hleaf with (har | h1) | h2
      · exact Nat.le_trans (hkw hd) (hleafw har)
      · exact h1
      · exact absurd h2 (Int.not_le.2 (hD hd).2.1)
  · rw [if_neg (by simpa using hleaf)]
    have hl : r.arity ≠ 0 ∧ 1 < k := by omega
    exact hs.append ((hrec hl.1 hcs k (Nat.zero_lt_of_lt hl.2)).mono fun hd => ⟨hd, hkw hd⟩) hdis

/-- the side condition under which the sets of a call are pairwise disjoint -/
abbrev DisjCond (d : Dump) (untl : Int) (roots : List Obj) (n : Nat) : Prop :=
  (d.depth : Int) ≤ untl ∧ n ≤ totWeight roots ∧ roots.Pairwise (fun a b => disjoint (cs a) (cs b) = true)

theorem distribLoop_spec {d : Dump} (ht : Tree d) (untl : Int) (rev : Bool) {recurse : List Obj → Nat → List Nat}
    {roots : List Obj} {n : Nat} (hgood : ∀ r ∈ roots, r ∈ d.objs ∧ isNormal r.type = true) (hn : 0 < n)
    (htot : 0 < totWeight roots)
    (hrec : ∀ r ∈ roots, r.arity ≠ 0 → cs r ≠ 0 → ∀ k, 0 < k →
      Spec ((d.depth : Int) ≤ untl ∧ k ≤ weight (cs r)) k (cs r) (recurse (childObjs d r) k)) :
    Spec (DisjCond d untl roots n) n (orAll (roots.map cs))
      ((if rev = true then roots.reverse else roots).foldl (distribStep d untl n (totWeight roots) recurse) ([], 0)).1 := by
  generalize hord : (if rev = true then roots.reverse else roots) = order
  have hperm : order.Perm roots := by
    rw [← hord]; split
    · exact List.reverse_perm _
    · exact .refl _
  have htw : totWeight order = totWeight roots := (hperm.map _).sum_nat
  obtain ⟨kg, ks⟩ := foldl_inv (distribStep d untl n (totWeight roots) recurse)
    (StepInv (DisjCond d untl roots n) n (totWeight roots)) order
    (by
      intro pre r post st he hp
      have hr : r ∈ roots := hperm.mem_iff.1 (by rw [← he]; simp)
      obtain ⟨hro, hrn⟩ := hgood r hr
      have hrd := (ht.normal_depth hro hrn).2
      refine distribStep_inv hn htot hrn (leaf_weight_le ht hro hrn)
        (fun ⟨hu, hntot, hpw⟩ => ⟨hntot, by omega, ?_⟩)
        (fun har hcs k hk => (hrec r hr har hcs k hk).mono fun ⟨⟨hu, _, _⟩, hkw⟩ => ⟨hu, hkw⟩) hp
      have hpwo := (hperm.pairwise_iff (fun h => by rw [disjoint_comm]; exact h)).2 hpw
      rw [← he, List.pairwise_append] at hpwo
      rw [disjoint_comm]; apply disjoint_orAll_right
      intro s hs
      obtain ⟨p, hp, rfl⟩ := List.mem_map.1 hs
      rw [disjoint_comm]; exact hpwo.2.2 p hp r List.mem_cons_self)
    order [] ([], 0) rfl ⟨rfl, by simp [ceilDiv_zero htot], by simp, rfl, fun _ => .nil⟩
  have hun : orAll (order.map cs) = orAll (roots.map cs) := Bits.foldl_or_perm id (hperm.map cs) 0
  rw [kg, htw, ceilDiv_mul_self htot, hun] at ks
  exact ks

theorem distribRec_children {d : Dump} (ht : Tree d) (untl : Int) (rev : Bool) :
    ∀ (f : Nat) (r : Obj), r ∈ d.objs → isNormal r.type = true → (d.depth : Int) ≤ r.depth + (f : Int) →
      r.arity ≠ 0 → cs r ≠ 0 → ∀ k, 0 < k →
      Spec ((d.depth : Int) ≤ untl ∧ k ≤ weight (cs r)) k (cs r) (distribRec d untl rev f (childObjs d r) k) := by
  refine ht.down_ind _ fun f r hro hrn ih har hcs k hk => ?_
  have hch := fun c hc => ht.child_facts hro (c := c) hc
  have hu := ((ht.union r hro).1 har).2.2
  -- the children carry the whole cpuset of `r`, so one of them is non-empty
  have hpos : 0 < totWeight (childObjs d r) := by
    rcases Nat.eq_zero_or_pos (totWeight (childObjs d r)) with h0 | hp
    · exact absurd (hu.trans (orAll_cs_eq_zero h0)) hcs
    · exact hp
  have hc := distribLoop_spec ht untl rev (fun c hc => ⟨(hch c hc).1, (hch c hc).2.1⟩) hk hpos
    (fun c hc => ih c hc (hch c hc).1 (hch c hc).2.1)
  rw [← hu] at hc
  exact hc.mono fun ⟨hu', hkw⟩ =>
    ⟨hu', totWeight_eq_weight_orAll (ht.disjoint r hro) ▸ hu ▸ hkw, ht.disjoint r hro⟩

theorem distrib_spec {d : Dump} (ht : Tree d) (roots : List Obj) {n : Nat} (untl : Int) {flags : Nat}
    (hgood : ∀ r ∈ roots, r ∈ d.objs ∧ isNormal r.type = true)
    (hn : 0 < n) (hf : flags ≤ 1) (htot : 0 < totWeight roots) :
    ∃ sets, distrib d roots n untl flags = some sets ∧ Spec (DisjCond d untl roots n) n (orAll (roots.map cs)) sets := by
  refine ⟨_, distrib_ok d roots untl hn hf, distribLoop_spec ht untl (flags == 1) hgood hn htot fun r hr => ?_⟩
  refine distribRec_children ht untl _ d.depth r (hgood r hr).1 (hgood r hr).2 ?_
  have := (ht.normal_depth (hgood r hr).1 (hgood r hr).2).1
  omega

theorem distrib_count {d : Dump} (ht : Tree d) (roots : List Obj) (n : Nat) (untl : Int) (flags : Nat)
    (hgood : ∀ r ∈ roots, r ∈ d.objs ∧ isNormal r.type = true)
    (hn : 0 < n) (hf : flags ≤ 1) (htot : 0 < totWeight roots) :
    ∃ sets, distrib d roots n untl flags = some sets ∧ sets.length = n ∧
      (∀ s ∈ sets, s ≠ 0 ∧ subset s (orAll (roots.map cs)) = true) ∧
      orAll sets = orAll (roots.map cs) := by
  obtain ⟨sets, e, h⟩ := distrib_spec ht roots untl hgood hn hf htot
  exact ⟨sets, e, h.len, fun s hs => ⟨h.nz s hs, h.un ▸ subset_orAll hs⟩, h.un⟩

theorem distrib_disjoint {d : Dump} (ht : Tree d) (roots : List Obj) (n : Nat) (untl : Int) (flags : Nat)
    (hgood : ∀ r ∈ roots, r ∈ d.objs ∧ isNormal r.type = true)
    (hn : 0 < n) (hf : flags ≤ 1)
    (hpw : roots.Pairwise (fun a b => disjoint (cs a) (cs b) = true))
    (hu : (d.depth : Int) ≤ untl) (hntot : n ≤ totWeight roots) :
    ∃ sets, distrib d roots n untl flags = some sets ∧
      sets.Pairwise (fun a b => disjoint a b = true) := by
  obtain ⟨sets, e, h⟩ := distrib_spec ht roots untl hgood hn hf (by omega)
  exact ⟨sets, e, h.dj ⟨hu, hntot, hpw⟩⟩

end Hw.Topo
