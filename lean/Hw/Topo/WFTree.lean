/-
  Hw.Topo.WFTree — the clauses of `Tree d` (Hw.Topo.WFLemmas) derived from well-formedness `WF d` (Hw.Topo.WF): all of them
  except the DFS numbering `T_order` (`o.id ≠ 0 → o.parent < o.id`), which `WF` does not imply — no WF clause orders the ids,
  "root-or-parent" only says `o.parent ≠ o.id` — and which stays a hypothesis of `Tree_of_wf_partial`.
  Two counting arguments carry the clauses that are not a plain unfolding: the level depths are a permutation of the depths
  every dump has to list (`WF.level_depths_perm`), and the level arrays together are a permutation of the positions of the
  object list (`WF.levelEntries_perm`), which makes ids positions.  The cpuset clauses read the cell of `mkAux` at the object
  (`mkAux_kids`, over Hw.Topo.AuxCell).
-/
import Hw.Topo.WFLemmas
import Hw.Topo.WFLemmas0
import Hw.Topo.AuxCell
import Hw.Base.ListLemmas
namespace Hw.Topo

/-! ### clause extraction -/

section extraction
variable {d : Dump} (h : WF d) {o : Obj} (ho : o ∈ d.objs)
include h ho

theorem WF.obj_id_is_position : ((d.objs[o.id]?).map (·.id) == some o.id) = true :=
  h.obj_clause 0 rfl ho

theorem WF.obj_type_in_range : o.type < tMAX := by
  simpa using h.obj_clause 1 rfl ho

theorem WF.obj_parent_kind :
    (match d.obj? o.parent with
      | none => o.id == 0
      | some p =>
        if isNormal o.type then isNormal p.type
        else if isMemory o.type then (isNormal p.type || p.type == tMEMCACHE)
        else if isIO o.type then (isNormal p.type || isIO p.type)
        else true) = true :=
  h.obj_clause 4 rfl ho

theorem WF.obj_no_children_where_forbidden :
    ((if o.type == tPU then o.arity == 0 && o.marity == 0 else true) &&
      (if o.type == tNUMA then o.arity == 0 && o.marity == 0 else true) &&
      (if isMemory o.type then o.arity == 0 && o.ioarity == 0 else true) &&
      (if isIO o.type then o.arity == 0 && o.marity == 0 else true) &&
      (if isMisc o.type then o.arity == 0 && o.marity == 0 && o.ioarity == 0 else true)) = true :=
  h.obj_clause 10 rfl ho

theorem WF.obj_depth_by_type :
    (match specialDepth o.type with
      | some sd => o.depth == sd
      | none => decide (0 ≤ o.depth) && decide (o.depth.toNat < d.depth)) = true :=
  h.obj_clause 11 rfl ho

theorem WF.obj_depth_increases :
    (match d.obj? o.parent with
      | none => true
      | some p => if isNormal o.type then decide (p.depth < o.depth) else true) = true :=
  h.obj_clause 12 rfl ho

theorem WF.obj_sets_presence :
    (if isSpecial o.type then o.cpuset.isNone && o.ccpuset.isNone && o.nodeset.isNone && o.cnodeset.isNone
     else o.cpuset.isSome && o.ccpuset.isSome && o.nodeset.isSome && o.cnodeset.isSome) = true :=
  h.obj_clause 14 rfl ho

theorem WF.obj_set_in_complete :
    (subset (o.cpuset.getD 0) (o.ccpuset.getD 0) && subset (o.nodeset.getD 0) (o.cnodeset.getD 0)) = true :=
  h.obj_clause 15 rfl ho

end extraction

section topExtraction
variable {d : Dump} (h : WF d)
include h

theorem WF.objs_pos : 0 < d.objs.length := by
  have := h.top_clause 0 rfl
  simp only [Bool.and_eq_true, beq_iff_eq, decide_eq_true_eq] at this
  omega

theorem WF.top_root_is_machine :
    (d.root == 0 && (match d.objs[0]? with
      | some r => r.type == tMACHINE && r.depth == 0 && r.parent == -1
      | none => false)) = true :=
  h.top_clause 1 rfl

theorem WF.root_machine {r : Obj} (hr : d.objs[0]? = some r) : r.type = tMACHINE ∧ r.depth = 0 ∧ r.parent = -1 := by
  have h1 := h.top_root_is_machine
  simp only [hr, Bool.and_eq_true, beq_iff_eq] at h1
  exact ⟨h1.2.1.1, h1.2.1.2, h1.2.2⟩

theorem WF.top_machine_only_at_root : d.objs.all (fun o => o.type != tMACHINE || o.id == 0) = true :=
  h.top_clause 2 rfl

theorem WF.top_pu_level_deepest :
    (decide (0 < d.depth) && (match levelOf d ((d.depth : Int) - 1) with
      | some l => l.type == (tPU : Int) && !l.objs.isEmpty
      | none => false) &&
      d.objs.all (fun o => o.type != tPU || o.depth == (d.depth : Int) - 1)) = true :=
  h.top_clause 4 rfl

theorem WF.top_levels_listed :
    (∀ k, k < d.depth → (levelOf d (k : Int)).isSome = true) ∧
    (∀ k ∈ [(-3 : Int), -4, -5, -6, -7, -8], (levelOf d k).isSome = true) ∧ d.levels.length = d.depth + 6 := by
  have h1 := h.top_clause 6 rfl
  simpa only [Bool.and_eq_true, List.all_eq_true, List.mem_range, beq_iff_eq, and_assoc] using h1

theorem WF.top_typeDepths_length : d.typeDepths.length = tMAX :=
  ((typeDepthInverse_iff d _).1 (h.top_by_name _)).1

end topExtraction

theorem T_root_of_wf {d : Dump} (h : WF d) : T_root d := by
  have hr := List.getElem?_eq_getElem h.objs_pos
  obtain ⟨ht, hd, hp⟩ := h.root_machine hr
  exact ⟨_, hr, hp, by rw [ht]; decide, hd⟩

section depth
variable {d : Dump} (h : WF d) {o : Obj} (ho : o ∈ d.objs)
include h ho

theorem WF.normal_depth (hn : isNormal o.type = true) : 0 ≤ o.depth ∧ o.depth < (d.depth : Int) := by
  have h1 := h.obj_depth_by_type ho
  rw [specialDepth_of_normal hn] at h1
  simp only [Bool.and_eq_true, decide_eq_true_eq] at h1
  omega

theorem WF.special_depth (hn : isNormal o.type = false) : specialDepth o.type = some o.depth ∧ o.depth < 0 := by
  have h1 := h.obj_depth_by_type ho
  obtain ⟨sd, hs, hneg⟩ := specialDepth_of_not_normal (h.obj_type_in_range ho) hn
  rw [hs] at h1
  simp only [beq_iff_eq] at h1
  rw [h1]; exact ⟨hs, hneg⟩

theorem WF.sets_present (hk : isNormal o.type = true ∨ isMemory o.type = true) :
    o.cpuset.isSome = true ∧ o.ccpuset.isSome = true ∧ o.nodeset.isSome = true ∧ o.cnodeset.isSome = true := by
  have h1 := h.obj_sets_presence ho
  have hs : isSpecial o.type = false := by
    rcases hk with hk | hk
    · exact not_special_of_normal hk
    · exact not_special_of_memory hk
  rw [hs] at h1
  simp only [Bool.false_eq_true, if_false, Bool.and_eq_true] at h1
  exact ⟨h1.1.1.1, h1.1.1.2, h1.1.2, h1.2⟩

theorem WF.sets_absent (hn : isNormal o.type = false) (hm : isMemory o.type = false) :
    o.cpuset = none ∧ o.ccpuset = none ∧ o.nodeset = none ∧ o.cnodeset = none := by
  have h1 := h.obj_sets_presence ho
  rw [special_of_not_normal_not_memory (h.obj_type_in_range ho) hn hm] at h1
  simp only [if_true, Bool.and_eq_true, Option.isNone_iff_eq_none] at h1
  exact ⟨h1.1.1.1, h1.1.1.2, h1.1.2, h1.2⟩

theorem WF.pu_facts (ht : o.type = tPU) :
    0 ≤ o.osidx ∧ cs o = single o.osidx.toNat ∧ o.depth = (d.depth : Int) - 1 := by
  obtain ⟨h0, hc, _⟩ := h.pu_cpuset o ho ht
  have h2 := h.top_pu_level_deepest
  simp only [Bool.and_eq_true, List.all_eq_true] at h2
  have h3 := h2.2 o ho
  simp only [ht, bne_self_eq_false, Bool.false_or, beq_iff_eq] at h3
  refine ⟨h0, ?_, h3⟩
  unfold cs; rw [hc]; rfl

theorem WF.numa_facts (ht : o.type = tNUMA) :
    0 ≤ o.osidx ∧ nsOf o = single o.osidx.toNat ∧ o.depth = -3 := by
  obtain ⟨h0, hn, _⟩ := h.numa_nodeset o ho ht
  have h2 := h.obj_depth_by_type ho
  rw [ht, show specialDepth tNUMA = some (-3) from rfl] at h2
  simp only [beq_iff_eq] at h2
  refine ⟨h0, ?_, h2⟩
  unfold nsOf; rw [hn]; rfl

end depth

theorem T_depth_of_wf {d : Dump} (h : WF d) : T_depth d := by
  intro o ho
  refine ⟨h.normal_depth ho, fun hn => (h.special_depth ho hn).2, fun hk => ?_, fun hn hm => ?_,
    h.pu_facts ho, h.numa_facts ho⟩
  · have := h.sets_present ho hk; exact ⟨this.1, this.2.2.1⟩
  · have := h.sets_absent ho hn hm; exact ⟨this.1, this.2.2.1⟩

section parent
variable {d : Dump} (h : WF d) {o : Obj} (ho : o ∈ d.objs)
include h ho

theorem WF.root_parent (h0 : o.id = 0) : o.parent = -1 := by
  have h1 := (rootOrParent_iff d _ o).1 (h.obj_by_name _ o ho)
  rwa [if_pos h0] at h1

theorem WF.parent_exists (h0 : o.id ≠ 0) : ∃ p, d.obj? o.parent = some p ∧ p ∈ d.objs := by
  have h1 := (rootOrParent_iff d _ o).1 (h.obj_by_name _ o ho)
  rw [if_neg h0] at h1
  obtain ⟨hge, hlt, _⟩ := h1
  have hp : d.obj? o.parent = some d.objs[o.parent.toNat] := by
    unfold Dump.obj?
    rw [if_neg (by omega)]
    exact List.getElem?_eq_getElem hlt
  exact ⟨_, hp, Dump.mem_of_obj? hp⟩

variable {p : Obj} (hp : d.obj? o.parent = some p)
include hp

theorem WF.normal_parent_normal (hn : isNormal o.type = true) : isNormal p.type = true := by
  have h1 := h.obj_parent_kind ho
  rw [hp] at h1
  simpa [hn] using h1

theorem WF.memory_parent_kind (hm : isMemory o.type = true) : isNormal p.type = true ∨ p.type = tMEMCACHE := by
  have h1 := h.obj_parent_kind ho
  rw [hp] at h1
  simpa only [not_normal_of_memory hm, hm, Bool.false_eq_true, if_false, if_true, Bool.or_eq_true, beq_iff_eq] using h1

theorem WF.parent_depth_lt (hn : isNormal o.type = true) : p.depth < o.depth := by
  have h1 := h.obj_depth_increases ho
  rw [hp] at h1
  simpa [hn] using h1

/-- "normal-child-slot" -/
theorem WF.parent_child_slot (hn : isNormal o.type = true) : p.children[o.rank]? = some (o.id : Int) := by
  have h1 := h.obj_clause 5 rfl ho
  simp only [hp] at h1
  simpa [hn] using h1

/-- "set-in-parent" -/
theorem WF.sets_in_parent (hs : isSpecial o.type = false) :
    subset (cs o) (cs p) = true ∧ subset (o.ccpuset.getD 0) (p.ccpuset.getD 0) = true ∧
    subset (nsOf o) (nsOf p) = true ∧ subset (o.cnodeset.getD 0) (p.cnodeset.getD 0) = true := by
  have h1 := h.obj_clause 16 rfl ho
  simp only [hp] at h1
  simp only [hs, Bool.false_eq_true, if_false, Bool.and_eq_true] at h1
  exact ⟨h1.1.1.1, h1.1.1.2, h1.1.2, h1.2⟩

/-- "memory-child-shares-cpuset" -/
theorem WF.memory_shares_cpuset (hm : isMemory o.type = true) : o.cpuset = p.cpuset := by
  have h1 := h.obj_clause 20 rfl ho
  simp only [hp] at h1
  simpa [hm] using h1

end parent

theorem T_parent_of_wf {d : Dump} (h : WF d) : T_parent d := by
  intro o ho
  by_cases h0 : o.id = 0
  · exact Or.inl ⟨h0, h.root_parent ho h0⟩
  · obtain ⟨p, hp, hpm⟩ := h.parent_exists ho h0
    refine Or.inr ⟨h0, p, hp, hpm, fun hn => ?_, fun hm => ?_⟩
    · have hs := h.sets_in_parent ho hp (not_special_of_normal hn)
      exact ⟨h.normal_parent_normal ho hp hn, h.parent_depth_lt ho hp hn, h.parent_child_slot ho hp hn,
        hs.1, hs.2.2.1⟩
    · exact ⟨h.memory_shares_cpuset ho hp hm, (h.memory_parent_kind ho hp hm).imp_right fun e => by rw [e]; decide⟩

/-! ### the parts of `T_typedepth` that need no counting argument -/

section typedepth
variable {d : Dump} (h : WF d)
include h

theorem WF.top_normal_level_types {l : Level} (hl : l ∈ d.levels) :
    (if 0 ≤ l.depth then decide (0 ≤ l.type) && isNormal l.type.toNat &&
        (l.type != (tPU : Int) || l.depth == (d.depth : Int) - 1) &&
        (l.type != (tMACHINE : Int) || l.depth == 0)
      else (specialDepth l.type.toNat) == some l.depth && decide (0 ≤ l.type)) = true :=
  List.all_eq_true.1 (h.top_clause 9 rfl) l hl

omit h in
theorem levelOf_isSome {d : Dump} {k : Int} (h : (levelOf d k).isSome = true) : ∃ l ∈ d.levels, l.depth = k :=
  (Option.isSome_iff_exists.1 h).elim fun l hf => ⟨l, levelOf_some hf⟩

theorem WF.level_at_depth {k : Nat} (hk : k < d.depth) : ∃ l ∈ d.levels, l.depth = (k : Int) :=
  levelOf_isSome (h.top_levels_listed.1 k hk)

theorem WF.level_at_special_depth {k : Int} (hk : k ∈ [(-3 : Int), -4, -5, -6, -7, -8]) :
    ∃ l ∈ d.levels, l.depth = k :=
  levelOf_isSome (h.top_levels_listed.2.1 k hk)

theorem WF.levels_length : d.levels.length = d.depth + 6 :=
  h.top_levels_listed.2.2

theorem WF.special_level {l : Level} (hl : l ∈ d.levels) (hneg : l.depth < 0) :
    specialDepth l.type.toNat = some l.depth ∧ 0 ≤ l.type := by
  have h2 := h.top_normal_level_types hl
  rw [if_neg (by omega)] at h2
  simpa using h2

theorem WF.normal_level {l : Level} (hl : l ∈ d.levels) (hge : 0 ≤ l.depth) :
    0 ≤ l.type ∧ l.type < (tMAX : Int) ∧ isNormal l.type.toNat = true := by
  have h2 := h.top_normal_level_types hl
  rw [if_pos hge] at h2
  simp only [Bool.and_eq_true, decide_eq_true_eq] at h2
  have := lt14_of_normal h2.1.1.2
  exact ⟨h2.1.1.1, by unfold tMAX; omega, h2.1.1.2⟩

theorem WF.typeDepth_eq {t : Nat} (ht : t < tMAX) : typeDepth d (t : Int) =
    match specialDepth t with
    | some sd => sd
    | none =>
      match (d.levels.filter (fun l => decide (0 ≤ l.depth) && l.type == (t : Int))).map (·.depth) with
      | [] => -1
      | [k] => k
      | _ => -2 := by
  obtain ⟨hlen, hinv⟩ := (typeDepthInverse_iff d _).1 (h.top_by_name _)
  have hlt : t < d.typeDepths.length := by omega
  refine Eq.trans ?_ (hinv t ht)
  unfold typeDepth
  rw [if_pos ⟨by omega, by omega⟩]
  simp [List.getElem?_eq_getElem hlt]

theorem WF.typeDepth_special {t : Nat} (ht : t < tMAX) {sd : Int} (hs : specialDepth t = some sd) : typeDepth d (t : Int) = sd := by
  rw [h.typeDepth_eq ht, hs]

theorem WF.typeDepth_cases {t : Nat} (ht : t < tMAX) (hs : specialDepth t = none) :
    (d.levels.filter (fun l => decide (0 ≤ l.depth) && l.type == (t : Int)) = [] ∧ typeDepth d (t : Int) = -1) ∨
    (∃ l, d.levels.filter (fun l => decide (0 ≤ l.depth) && l.type == (t : Int)) = [l] ∧ typeDepth d (t : Int) = l.depth) ∨
    (2 ≤ (d.levels.filter (fun l => decide (0 ≤ l.depth) && l.type == (t : Int))).length ∧ typeDepth d (t : Int) = depthMultiple) := by
  rw [h.typeDepth_eq ht, hs]
  generalize d.levels.filter (fun l => decide (0 ≤ l.depth) && l.type == (t : Int)) = ls
  match ls with
  | [] => exact Or.inl ⟨rfl, rfl⟩
  | [l] => exact Or.inr (Or.inl ⟨l, rfl, rfl⟩)
  | _ :: _ :: _ => exact Or.inr (Or.inr ⟨Nat.le_add_left _ _, rfl⟩)

omit h in
theorem levels_filter_singleton {d : Dump} {t : Int} {l : Level}
    (he : d.levels.filter (fun l => decide (0 ≤ l.depth) && l.type == t) = [l]) : l ∈ d.levels ∧ 0 ≤ l.depth ∧ l.type = t := by
  have hm : l ∈ d.levels.filter (fun l => decide (0 ≤ l.depth) && l.type == t) := he ▸ List.mem_singleton.2 rfl
  simpa only [List.mem_filter, Bool.and_eq_true, decide_eq_true_eq, beq_iff_eq] using hm

theorem WF.typedepth_range {t : Nat} (ht : t < tMAX) :
    match specialDepth t with
    | some sd => typeDepth d (t : Int) = sd
    | none => typeDepth d (t : Int) ≥ -2 := by
  cases hs : specialDepth t with
  | some sd => exact h.typeDepth_special ht hs
  | none =>
    show typeDepth d (t : Int) ≥ -2
    rcases h.typeDepth_cases ht hs with ⟨_, e⟩ | ⟨l, he, e⟩ | ⟨_, e⟩
    · rw [e]; decide
    · rw [e]; have := (levels_filter_singleton he).2.1; omega
    · rw [e]; decide

theorem WF.typedepth_level {t : Nat} (ht : t < tMAX) (hge : 0 ≤ typeDepth d (t : Int)) :
    ∃ l ∈ d.levels, l.depth = typeDepth d (t : Int) ∧ l.type = (t : Int) := by
  cases hs : specialDepth t with
  | some sd =>
    rw [h.typeDepth_special ht hs] at hge
    have := specialDepth_neg hs
    omega
  | none =>
    rcases h.typeDepth_cases ht hs with ⟨_, e⟩ | ⟨l, he, e⟩ | ⟨_, e⟩
    · rw [e] at hge; exact absurd hge (by decide)
    · exact ⟨l, (levels_filter_singleton he).1, e.symm, (levels_filter_singleton he).2.2⟩
    · rw [e] at hge; exact absurd hge (by decide)

theorem WF.level_typedepth {l : Level} (hl : l ∈ d.levels) (hge : 0 ≤ l.depth) :
    typeDepth d l.type = l.depth ∨ typeDepth d l.type = depthMultiple := by
  obtain ⟨h0, hlt, hn⟩ := h.normal_level hl hge
  have ht : l.type.toNat < tMAX := by unfold tMAX at hlt ⊢; omega
  have hcast : ((l.type.toNat : Nat) : Int) = l.type := Int.toNat_of_nonneg h0
  have hm : l ∈ d.levels.filter (fun l' => decide (0 ≤ l'.depth) && l'.type == l.type) := by
    simp only [List.mem_filter, Bool.and_eq_true, decide_eq_true_eq, beq_iff_eq]
    exact ⟨hl, hge, trivial⟩
  have hc := h.typeDepth_cases ht (specialDepth_of_normal hn)
  rw [hcast] at hc
  rcases hc with ⟨he, _⟩ | ⟨l', he, e⟩ | ⟨_, e⟩
  · rw [he] at hm; cases hm
  · rw [he] at hm
    cases List.mem_singleton.1 hm
    exact Or.inl e
  · exact Or.inr e

theorem WF.normal_level_nonempty {l : Level} (hl : l ∈ d.levels) (hge : 0 ≤ l.depth) : l.objs ≠ [] := by
  have h1 := h.top_clause 15 rfl
  simp only [List.all_eq_true] at h1
  have h2 := h1 l hl
  simp only [Bool.or_eq_true, decide_eq_true_eq, Bool.not_eq_true', List.isEmpty_eq_false_iff] at h2
  rcases h2 with h2 | h2
  · omega
  · exact h2

theorem WF.depth_le_objs : d.depth ≤ d.objs.length := by
  have h1 := h.top_clause 16 rfl
  simpa using h1

theorem WF.typedepth_multiple_iff {t : Nat} (ht : t < tMAX) (hs : specialDepth t = none) :
    (typeDepth d (t : Int) = depthMultiple ↔
      2 ≤ (d.levels.filter (fun l => decide (0 ≤ l.depth) && l.type == (t : Int))).length) := by
  rcases h.typeDepth_cases ht hs with ⟨he, e⟩ | ⟨l, he, e⟩ | ⟨h2, e⟩
  · rw [he, e]; decide
  · have := (levels_filter_singleton he).2.1
    rw [he, e]
    exact ⟨fun e' => by unfold depthMultiple at e'; omega, fun h1 => absurd h1 (Nat.lt_irrefl 1)⟩
  · exact ⟨fun _ => h2, fun _ => e⟩

end typedepth


/-! ### the pigeonhole on level depths -/

def listedDepths (d : Dump) : List Int := (List.range d.depth).map Int.ofNat ++ [(-3 : Int), -4, -5, -6, -7, -8]

theorem listedDepths_nodup (d : Dump) : (listedDepths d).Nodup := by
  unfold listedDepths
  rw [List.nodup_append]
  refine ⟨?_, by decide, ?_⟩
  · rw [List.nodup_iff_pairwise_ne]
    exact List.Pairwise.map _ (fun a b hab e => hab (Int.ofNat.inj e)) (List.nodup_iff_pairwise_ne.mp List.nodup_range)
  · intro a ha b hb
    obtain ⟨k, _, rfl⟩ := List.mem_map.mp ha
    simp only [List.mem_cons, List.not_mem_nil, or_false] at hb
    have : (0 : Int) ≤ Int.ofNat k := Int.natCast_nonneg k
    omega

section pigeon
variable {d : Dump} (h : WF d)
include h

theorem WF.level_depths_perm : (listedDepths d).Perm (d.levels.map (·.depth)) := by
  apply perm_of_nodup_subset_length (listedDepths_nodup d)
  · intro k hk
    unfold listedDepths at hk
    rcases List.mem_append.mp hk with hk | hk
    · obtain ⟨n, hn, rfl⟩ := List.mem_map.mp hk
      obtain ⟨l, hl, e⟩ := h.level_at_depth (List.mem_range.mp hn)
      exact List.mem_map.mpr ⟨l, hl, e⟩
    · obtain ⟨l, hl, e⟩ := h.level_at_special_depth hk
      exact List.mem_map.mpr ⟨l, hl, e⟩
  · rw [List.length_map, h.levels_length]
    simp [listedDepths]

theorem WF.level_depths_nodup : (d.levels.map (·.depth)).Nodup :=
  (h.level_depths_perm.nodup_iff).mp (listedDepths_nodup d)

theorem WF.level_ext {l l' : Level} (hl : l ∈ d.levels) (hl' : l' ∈ d.levels) (e : l.depth = l'.depth) : l = l' :=
  inj_of_nodup_map h.level_depths_nodup hl hl' e

theorem WF.level_depth_lt {l : Level} (hl : l ∈ d.levels) (hge : 0 ≤ l.depth) : l.depth < (d.depth : Int) := by
  have hm : l.depth ∈ listedDepths d := (h.level_depths_perm.mem_iff).mpr (List.mem_map.mpr ⟨l, hl, rfl⟩)
  unfold listedDepths at hm
  rcases List.mem_append.mp hm with hm | hm
  · obtain ⟨n, hn, e⟩ := List.mem_map.mp hm
    have := List.mem_range.mp hn
    rw [← e]; exact Int.ofNat_lt.mpr this
  · simp only [List.mem_cons, List.not_mem_nil, or_false] at hm
    omega

theorem WF.levelOf_eq {l : Level} (hl : l ∈ d.levels) : levelOf d l.depth = some l :=
  find?_key_of_mem (fun l : Level => l.depth) h.level_depths_nodup hl

end pigeon

theorem T_typedepth_of_wf {d : Dump} (h : WF d) : T_typedepth d := by
  refine ⟨h.top_typeDepths_length, fun l hl hge => ?_, fun t ht hs => h.typedepth_multiple_iff (List.mem_range.mp ht) hs,
    fun t ht hge => h.typedepth_level (List.mem_range.mp ht) hge, fun t ht => h.typedepth_range (List.mem_range.mp ht),
    fun k hk => h.level_at_depth (List.mem_range.mp hk), fun l hl hneg => h.special_level hl hneg⟩
  obtain ⟨h0, hlt, _⟩ := h.normal_level hl hge
  exact ⟨h.level_depth_lt hl hge, h0, hlt, h.normal_level_nonempty hl hge, h.level_typedepth hl hge⟩


/-! ### arrays of ids whose entries resolve to objects that know their position -/

theorem Dump.obj?_some {d : Dump} {e : Int} {o : Obj} (ho : d.obj? e = some o) :
    0 ≤ e ∧ e.toNat < d.objs.length ∧ d.objs[e.toNat]? = some o := by
  unfold Dump.obj? at ho
  split at ho
  · cases ho
  · refine ⟨by omega, ?_, ho⟩
    exact (List.getElem?_eq_some_iff.mp ho).1

/-- an array of ids in which entry `i` resolves to an object whose `key` is `i`: the entries are distinct positions of the
    object list, hence the array is not longer than the object list -/
theorem resolve_array {d : Dump} {xs : List Int} {key : Obj → Nat}
    (hx : ∀ i (hi : i < xs.length), ∃ o, d.obj? xs[i] = some o ∧ key o = i) :
    (xs.map Int.toNat).Nodup ∧ (∀ e ∈ xs, 0 ≤ e ∧ e.toNat < d.objs.length) ∧ xs.length ≤ d.objs.length := by
  have hnd : (xs.map Int.toNat).Nodup := by
    rw [List.nodup_iff_pairwise_ne, List.pairwise_map, List.pairwise_iff_getElem]
    intro i j hi hj hij e
    obtain ⟨o1, h1, k1⟩ := hx i hi
    obtain ⟨o2, h2, k2⟩ := hx j hj
    have e1 := (Dump.obj?_some h1).2.2
    have e2 := (Dump.obj?_some h2).2.2
    rw [e] at e1
    have : o1 = o2 := Option.some.inj (e1.symm.trans e2)
    subst this; omega
  have hin : ∀ e ∈ xs, 0 ≤ e ∧ e.toNat < d.objs.length := by
    intro e he
    obtain ⟨i, hi, rfl⟩ := List.mem_iff_getElem.mp he
    obtain ⟨o, h1, _⟩ := hx i hi
    exact ⟨(Dump.obj?_some h1).1, (Dump.obj?_some h1).2.1⟩
  refine ⟨hnd, hin, ?_⟩
  · have := hnd.length_le_of_subset (l₂ := List.range d.objs.length) (by
      intro n hn
      obtain ⟨e, he, rfl⟩ := List.mem_map.mp hn
      exact List.mem_range.mpr (hin e he).2)
    simpa using this

section arrays
variable {d : Dump} (h : WF d)
include h

theorem WF.children_array {o : Obj} (ho : o ∈ d.objs) :
    o.children.length = o.arity ∧ o.firstChild = (o.children.head?).getD (-1) ∧
    ∀ i (hi : i < o.children.length), ∃ c, d.obj? o.children[i] = some c ∧ c.rank = i ∧ c.parent = (o.id : Int) ∧
      isNormal c.type = true ∧ c.nextSib = (o.children[i+1]?).getD (-1) := by
  have h1 := h.obj_clause 6 rfl ho
  simp only [Bool.and_eq_true, beq_iff_eq, List.all_eq_true, List.mem_range] at h1
  obtain ⟨⟨⟨h2, h3⟩, _⟩, h5⟩ := h1
  refine ⟨h2, h3, fun i hi => ?_⟩
  have h6 := h5 i (by omega)
  rw [List.getElem?_eq_getElem hi, Option.getD_some] at h6
  cases hc : d.obj? o.children[i] with
  | none => rw [hc] at h6; cases h6
  | some c =>
    rw [hc] at h6
    simp only [Bool.and_eq_true, beq_iff_eq] at h6
    exact ⟨c, rfl, h6.1.1.1.2, h6.1.1.1.1, h6.1.1.2, h6.2⟩

theorem WF.level_entries {l : Level} (hl : l ∈ d.levels) :
    ∀ i (hi : i < l.objs.length), ∃ o, d.obj? l.objs[i] = some o ∧ o.lidx = i ∧ o.depth = l.depth := fun i hi =>
  (levelEntriesValid_iff d _).1 (h.top_by_name _) l hl i _ (List.getElem?_eq_getElem hi)

theorem WF.in_its_level {o : Obj} (ho : o ∈ d.objs) :
    ∃ l, levelOf d o.depth = some l ∧ l ∈ d.levels ∧ l.depth = o.depth ∧ l.objs[o.lidx]? = some (o.id : Int) ∧
      l.type = (o.type : Int) ∧ o.prevCousin = (if o.lidx = 0 then -1 else (l.objs[o.lidx - 1]?).getD (-2)) ∧
      o.nextCousin = (l.objs[o.lidx + 1]?).getD (-1) :=
  ((inItsLevel_iff d _ o).1 (h.obj_by_name _ o ho)).imp fun _ ⟨hf, c⟩ => ⟨hf, (levelOf_some hf).1, (levelOf_some hf).2, c⟩

theorem WF.level_resolve {l : Level} (hl : l ∈ d.levels) :
    (l.objs.map Int.toNat).Nodup ∧ (∀ e ∈ l.objs, 0 ≤ e ∧ e.toNat < d.objs.length) ∧ l.objs.length ≤ d.objs.length :=
  resolve_array (key := (·.lidx)) (fun i hi => by
    obtain ⟨c, hc, hr, _⟩ := h.level_entries hl i hi; exact ⟨c, hc, hr⟩)

theorem WF.children_length_le {o : Obj} (ho : o ∈ d.objs) : o.children.length ≤ d.objs.length := by
  have h1 := (h.children_array ho).2.2
  exact (resolve_array (key := (·.rank)) (fun i hi => by
    obtain ⟨c, hc, hr, _⟩ := h1 i hi; exact ⟨c, hc, hr⟩)).2.2

end arrays

theorem T_sizes_of_wf {d : Dump} (h : WF d) : T_sizes d :=
  ⟨h.depth_le_objs, fun _ hl => (h.level_resolve hl).2.2, fun _ ho => h.children_length_le ho⟩


/-! ### ids are positions (counting over the level arrays) -/

def levelEntries (d : Dump) : List Int := d.levels.flatMap (·.objs)

section ids
variable {d : Dump} (h : WF d)
include h

/-- "levels-cover-objects" -/
theorem WF.levelEntries_length : (levelEntries d).length = d.objs.length := by
  unfold levelEntries
  rw [List.length_flatMap]
  exact beq_iff_eq.1 (h.top_clause 7 rfl)

theorem WF.level_entry_mem {l : Level} (hl : l ∈ d.levels) {e : Int} (he : e ∈ l.objs) :
    ∃ i o, l.objs[i]? = some e ∧ d.obj? e = some o ∧ o.lidx = i ∧ o.depth = l.depth := by
  obtain ⟨i, hi, rfl⟩ := List.mem_iff_getElem.mp he
  obtain ⟨o, h1, h2, h3⟩ := h.level_entries hl i hi
  exact ⟨i, o, List.getElem?_eq_getElem hi, h1, h2, h3⟩

theorem WF.levelEntries_nodup : ((levelEntries d).map Int.toNat).Nodup := by
  unfold levelEntries
  rw [List.nodup_iff_pairwise_ne, List.pairwise_map, List.pairwise_flatMap]
  constructor
  · intro l hl
    have := (h.level_resolve hl).1
    rw [List.nodup_iff_pairwise_ne, List.pairwise_map] at this
    exact this
  · have h1 := h.level_depths_nodup
    rw [List.nodup_iff_pairwise_ne, List.pairwise_map] at h1
    refine h1.imp_of_mem ?_
    intro l1 l2 hl1 hl2 hne x hx y hy e
    obtain ⟨_, o1, _, r1, _, d1⟩ := h.level_entry_mem hl1 hx
    obtain ⟨_, o2, _, r2, _, d2⟩ := h.level_entry_mem hl2 hy
    have e1 := (Dump.obj?_some r1).2.2
    have e2 := (Dump.obj?_some r2).2.2
    rw [e] at e1
    have : o1 = o2 := Option.some.inj (e1.symm.trans e2)
    subst this
    exact hne (d1.symm.trans d2)

theorem WF.levelEntries_perm : ((levelEntries d).map Int.toNat).Perm (List.range d.objs.length) := by
  apply perm_of_nodup_subset_length h.levelEntries_nodup
  · intro n hn
    obtain ⟨e, he, rfl⟩ := List.mem_map.mp hn
    unfold levelEntries at he
    obtain ⟨l, hl, hel⟩ := List.mem_flatMap.mp he
    exact List.mem_range.mpr ((h.level_resolve hl).2.1 e hel).2
  · rw [List.length_map, h.levelEntries_length, List.length_range]
    exact Nat.le_refl _

theorem WF.id_eq_pos {p : Nat} {o : Obj} (hp : d.objs[p]? = some o) : o.id = p := by
  have hlt : p < d.objs.length := (List.getElem?_eq_some_iff.mp hp).1
  have hm : p ∈ (levelEntries d).map Int.toNat := (h.levelEntries_perm.mem_iff).mpr (List.mem_range.mpr hlt)
  -- `p` is an entry `e` of some level; the object there finds its own id in that slot of its level ("in-its-level"), so `e` is its id
  obtain ⟨e, he, rfl⟩ := List.mem_map.mp hm
  unfold levelEntries at he
  obtain ⟨l, hl, hel⟩ := List.mem_flatMap.mp he
  obtain ⟨i, o', hi, r, hli, hd⟩ := h.level_entry_mem hl hel
  have : o' = o := Option.some.inj ((Dump.obj?_some r).2.2.symm.trans hp)
  subst this
  obtain ⟨l', _, hl', hd', hent, _⟩ := h.in_its_level (List.mem_of_getElem? hp)
  have : l' = l := h.level_ext hl' hl (hd'.trans hd)
  subst this
  rw [hli, hi] at hent
  have e1 : e = (o'.id : Int) := Option.some.inj hent
  rw [e1]; simp

theorem WF.obj?_id {o : Obj} (ho : o ∈ d.objs) : d.obj? (o.id : Int) = some o := by
  obtain ⟨p, hp⟩ := List.getElem?_of_mem ho
  rw [Dump.obj?_natCast, h.id_eq_pos hp]
  exact hp

theorem WF.id_of_obj? {e : Int} {o : Obj} (ho : d.obj? e = some o) : (o.id : Int) = e := by
  obtain ⟨h0, _, h2⟩ := Dump.obj?_some ho
  rw [h.id_eq_pos h2]; omega

end ids

theorem T_ids_of_wf {d : Dump} (h : WF d) : T_ids d := by
  intro p hp
  exact h.id_eq_pos (List.mem_zipIdx_iff_getElem?.mp hp)


/-! ### levels, cousins, children arrays -/

theorem Dump.obj?_getD (d : Dump) (x : Option Int) : d.obj? (x.getD (-1)) = x.bind d.obj? := by
  cases x with
  | none => rfl
  | some e => rfl

section levels
variable {d : Dump} (h : WF d)
include h

theorem WF.levelObjs_getElem? {l : Level} (hl : l ∈ d.levels) (i : Nat) :
    (levelObjs d l.depth)[i]? = (l.objs[i]?).bind d.obj? := by
  unfold levelObjs levelIds
  rw [h.levelOf_eq hl]
  exact filterMap_getElem?_of_total (fun e he => (h.level_entry_mem hl he).elim fun _ ⟨o, _, r, _⟩ => ⟨o, r⟩) i

theorem WF.levelObjs_length {l : Level} (hl : l ∈ d.levels) : (levelObjs d l.depth).length = l.objs.length := by
  unfold levelObjs levelIds
  rw [h.levelOf_eq hl]
  exact filterMap_length_of_total fun e he => (h.level_entry_mem hl he).elim fun _ ⟨o, _, r, _⟩ => ⟨o, r⟩

theorem T_inlevel_of_wf : T_inlevel d := by
  intro o ho
  obtain ⟨l, _, hl, hd, hent, _⟩ := h.in_its_level ho
  refine ⟨⟨l, hl, hd⟩, ?_⟩
  rw [← hd, h.levelObjs_getElem? hl, hent]
  exact h.obj?_id ho

theorem T_levels_of_wf : T_levels d := by
  refine ⟨h.level_depths_nodup, fun l hl => ⟨h.levelObjs_length hl, fun p hp => ?_⟩⟩
  have hp' := List.mem_zipIdx_iff_getElem?.mp hp
  obtain ⟨o, i⟩ := p
  simp only at hp' ⊢
  rw [h.levelObjs_getElem? hl] at hp'
  obtain ⟨hilt, hr⟩ := getElem?_bind_some hp'
  obtain ⟨o', r', hli, hd⟩ := h.level_entries hl i hilt
  rw [hr] at r'; cases r'
  have hom : o ∈ d.objs := Dump.mem_of_obj? hr
  obtain ⟨l', _, hl', hd', _, hty, hprev, hnext⟩ := h.in_its_level hom
  have : l' = l := h.level_ext hl' hl (hd'.trans hd)
  subst this
  refine ⟨hom, hd, hli, hty.symm, ?_, ?_⟩
  · rw [h.levelObjs_getElem? hl, hnext, hli, Dump.obj?_getD]
  · rw [hprev, hli]
    by_cases h0 : i = 0
    · simp [h0, Dump.obj?]
    · rw [if_neg h0, if_neg h0, h.levelObjs_getElem? hl]
      have : i - 1 < l'.objs.length := by omega
      rw [List.getElem?_eq_getElem this]; simp

theorem WF.children_total {o : Obj} (ho : o ∈ d.objs) : ∀ e ∈ o.children, ∃ c, d.obj? e = some c := by
  intro e he
  obtain ⟨i, hi, rfl⟩ := List.mem_iff_getElem.mp he
  obtain ⟨c, hc, _⟩ := (h.children_array ho).2.2 i hi
  exact ⟨c, hc⟩

theorem WF.childObjs_getElem? {o : Obj} (ho : o ∈ d.objs) (i : Nat) :
    (childObjs d o)[i]? = (o.children[i]?).bind d.obj? :=
  filterMap_getElem?_of_total (h.children_total ho) i

theorem WF.childObjs_length {o : Obj} (ho : o ∈ d.objs) : (childObjs d o).length = o.children.length :=
  filterMap_length_of_total (h.children_total ho)

theorem T_children_of_wf : T_children d := by
  intro o ho
  obtain ⟨hlen, hfirst, harr⟩ := h.children_array ho
  refine ⟨?_, h.childObjs_length ho, hlen, fun p hp => ?_⟩
  · rw [h.childObjs_getElem? ho, hfirst, List.head?_eq_getElem?, Dump.obj?_getD]
  · have hp' := List.mem_zipIdx_iff_getElem?.mp hp
    obtain ⟨c, i⟩ := p
    simp only at hp' ⊢
    rw [h.childObjs_getElem? ho] at hp'
    obtain ⟨hilt, hr⟩ := getElem?_bind_some hp'
    obtain ⟨c', r', hrank, hpar, hnorm, hnext⟩ := harr i hilt
    rw [hr] at r'; cases r'
    refine ⟨Dump.mem_of_obj? hr, hpar, hrank, hnorm, ?_, ?_⟩
    · rw [h.id_of_obj? hr, List.getElem?_eq_getElem hilt]
    · rw [h.childObjs_getElem? ho, hnext, Dump.obj?_getD]

/-- a member of the children array meets the hypotheses of the `parent` lemmas (`sets_in_parent`, `parent_depth_lt`, …) -/
theorem WF.child_parent {o x : Obj} (ho : o ∈ d.objs) (hx : x ∈ childObjs d o) :
    x ∈ d.objs ∧ isNormal x.type = true ∧ d.obj? x.parent = some o := by
  obtain ⟨i, hi⟩ := List.mem_iff_getElem?.1 hx
  obtain ⟨hxm, hpar, _, hn, _⟩ := (T_children_of_wf h o ho).2.2.2 (x, i) (List.mem_zipIdx_iff_getElem?.2 hi)
  exact ⟨hxm, hn, hpar ▸ h.obj?_id ho⟩

end levels


/-! ### the normal children of an object, and the `cpuOr` / `cpuDisj` / `nNormal` fields of its cell (Hw.Topo.AuxCell) -/

def kids (d : Dump) (q : Nat) : List Obj := (d.objs.filter (parentIs q)).filter (fun o => isNormal o.type)

theorem mkAux_kids (d : Dump) {q : Nat} (hq : q < d.objs.length) :
    getN (mkAux d).cpuOr q = orAll ((kids d q).map cs) ∧ getN (mkAux d).nNormal q = (kids d q).length ∧
    (getB (mkAux d).cpuDisj q = true → (kids d q).Pairwise fun a b => disjoint (cs a) (cs b) = true) := by
  rw [mkAux_cpuOr, mkAux_nNormal, mkAux_cpuDisj, auxFold_cell d q hq, foldl_cellStep, List.countP_eq_length_filter]
  refine ⟨rfl, Nat.zero_add _, fun hb => ?_⟩
  have hp := (Syn.seqDisj_iff_pairwise _ _).1 (hb : Syn.seqDisj 0 ((kids d q).map cs) = true)
  exact List.pairwise_map.1 (List.pairwise_cons.1 hp).2

theorem not_normal_nonpu_kind {t : Nat} (hlt : t < tMAX) (hn : ¬ (isNormal t = true ∧ t ≠ tPU)) :
    t = tPU ∨ isMemory t = true ∨ isIO t = true ∨ isMisc t = true := by
  have key : ∀ t, t < 20 → (isNormal t && t != tPU) = false → (t == tPU || isMemory t || isIO t || isMisc t) = true := by
    decide
  have := key t hlt (by
    cases h1 : isNormal t with
    | false => rfl
    | true =>
      simp only [Bool.true_and, bne_eq_false_iff_eq]
      exact Decidable.by_contra (fun h2 => hn ⟨h1, h2⟩))
  simpa [or_assoc] using this

section kids
variable {d : Dump} (h : WF d) {o : Obj} (ho : o ∈ d.objs)
include h ho

theorem WF.id_lt : o.id < d.objs.length := by
  have := Dump.obj?_some (h.obj?_id ho)
  simpa using this.2.1

theorem WF.arity_zero (hn : ¬ (isNormal o.type = true ∧ o.type ≠ tPU)) : o.arity = 0 := by
  have h1 := h.obj_no_children_where_forbidden ho
  simp only [Bool.and_eq_true] at h1
  obtain ⟨⟨⟨⟨a1, _⟩, a3⟩, a4⟩, a5⟩ := h1
  rcases not_normal_nonpu_kind (h.obj_type_in_range ho) hn with e | e | e | e
  · simp only [e, beq_self_eq_true, if_true, Bool.and_eq_true, beq_iff_eq] at a1; exact a1.1
  · simp only [e, if_true, Bool.and_eq_true, beq_iff_eq] at a3; exact a3.1
  · simp only [e, if_true, Bool.and_eq_true, beq_iff_eq] at a4; exact a4.1
  · simp only [e, if_true, Bool.and_eq_true, beq_iff_eq] at a5; exact a5.1.1

/-- "children-counts", normal part -/
theorem WF.kids_length : (kids d o.id).length = o.arity := by
  have h1 := h.obj_clause 7 rfl ho
  simp only [Bool.and_eq_true, beq_iff_eq] at h1
  rw [← (mkAux_kids d (h.id_lt ho)).2.1]
  exact h1.1.1.1

theorem WF.childObjs_perm_kids : (childObjs d o).Perm (kids d o.id) := by
  have hT := T_children_of_wf h o ho
  obtain ⟨_, hlen, har, hall⟩ := hT
  apply perm_of_nodup_subset_length
  · rw [List.nodup_iff_pairwise_ne, List.pairwise_iff_getElem]
    intro i j hi hj hij e
    have r1 := (hall (_, i) (List.mem_zipIdx_iff_getElem?.mpr (List.getElem?_eq_getElem hi))).2.2.1
    have r2 := (hall (_, j) (List.mem_zipIdx_iff_getElem?.mpr (List.getElem?_eq_getElem hj))).2.2.1
    simp only at r1 r2
    rw [e] at r1; omega
  · intro c hc
    obtain ⟨i, hi, rfl⟩ := List.mem_iff_getElem.mp hc
    obtain ⟨r1, r2, _, r4, _⟩ := hall (_, i) (List.mem_zipIdx_iff_getElem?.mpr (List.getElem?_eq_getElem hi))
    simp only at r1 r2 r4
    unfold kids
    rw [List.mem_filter, List.mem_filter]
    exact ⟨⟨r1, by simp [parentIs, r2]⟩, r4⟩
  · rw [h.kids_length ho, hlen, har]; exact Nat.le_refl _

/-- "cpuset-is-disjoint-union-of-children", in terms of `kids` -/
theorem WF.cpuset_kids (hn : isNormal o.type = true) (hpu : o.type ≠ tPU) :
    cs o = orAll ((kids d o.id).map cs) ∧ (kids d o.id).Pairwise fun a b => disjoint (cs a) (cs b) = true := by
  have h1 := h.obj_clause 19 rfl ho
  have hb : (o.type != tPU) = true := by simpa using hpu
  simp only [hn, hb, Bool.and_self, if_true, Bool.and_eq_true, beq_iff_eq] at h1
  obtain ⟨k1, _, k3⟩ := mkAux_kids d (h.id_lt ho)
  refine ⟨?_, k3 h1.2⟩
  show o.cpuset.getD 0 = _
  rw [h1.1, Option.getD_some, k1]

theorem WF.children_disjoint : (childObjs d o).Pairwise (fun a b => disjoint (cs a) (cs b) = true) := by
  by_cases hn : isNormal o.type = true ∧ o.type ≠ tPU
  · exact ((h.childObjs_perm_kids ho).pairwise_iff fun hd => disjoint_comm _ _ ▸ hd).mpr (h.cpuset_kids ho hn.1 hn.2).2
  · have h0 := h.arity_zero ho hn
    have hlen := (T_children_of_wf h o ho).2
    have : childObjs d o = [] := List.eq_nil_of_length_eq_zero (by omega)
    rw [this]; exact List.Pairwise.nil

theorem WF.children_union :
    (o.arity ≠ 0 → isNormal o.type = true ∧ o.type ≠ tPU ∧ cs o = orAll ((childObjs d o).map cs)) ∧
    (isNormal o.type = true → o.arity = 0 → cs o ≠ 0 → o.type = tPU) := by
  constructor
  · intro ha
    have hn : isNormal o.type = true ∧ o.type ≠ tPU := Decidable.by_contra (fun hn => ha (h.arity_zero ho hn))
    refine ⟨hn.1, hn.2, ?_⟩
    rw [(h.cpuset_kids ho hn.1 hn.2).1]
    unfold orAll
    exact (Bits.foldl_or_perm id ((h.childObjs_perm_kids ho).map cs) 0).symm
  · intro hn ha hne
    apply Decidable.by_contra
    intro hpu
    have h1 := (h.cpuset_kids ho hn hpu).1
    have : kids d o.id = [] := List.eq_nil_of_length_eq_zero (by rw [h.kids_length ho]; exact ha)
    rw [this] at h1
    exact hne h1

end kids

theorem T_disjoint_of_wf {d : Dump} (h : WF d) : T_disjoint d := fun _ ho => h.children_disjoint ho
theorem T_union_of_wf {d : Dump} (h : WF d) : T_union d := fun _ ho => h.children_union ho

theorem Tree_of_wf_partial {d : Dump} (h : WF d) (rest : T_order d) : Tree d :=
  { ids := T_ids_of_wf h, root := T_root_of_wf h, parent := T_parent_of_wf h, children := T_children_of_wf h,
    disjoint := T_disjoint_of_wf h, union := T_union_of_wf h, depth := T_depth_of_wf h, levels := T_levels_of_wf h,
    inlevel := T_inlevel_of_wf h, typedepth := T_typedepth_of_wf h, sizes := T_sizes_of_wf h, order := rest }

end Hw.Topo
