/-
  Hw.Topo.AuxInh — the `inh` component of `mkAux` (nodes inherited from the ancestors' memory children) is a top-down fold;
  for ANY dump whose ids are positions and whose parents come first it satisfies the expected recurrence.
-/
import Hw.Topo.AuxFold
namespace Hw.Topo

def inhStep (memOr : List Nat) (inh : List Nat) (o : Obj) : List Nat :=
  if isNormal o.type && decide (0 ≤ o.parent) then
    inh.set o.id (getN inh o.parent.toNat ||| getN memOr o.parent.toNat) else inh

def inhFold (d : Dump) : List Nat :=
  d.objs.foldl (inhStep (auxFold d).memOr) (List.replicate d.objs.length 0)

theorem mkAux_inh (d : Dump) : (mkAux d).inh = inhFold d := rfl

theorem inhStep_length (M inh : List Nat) (o : Obj) : (inhStep M inh o).length = inh.length := by
  unfold inhStep
  split
  · simp
  · rfl

theorem inhStep_other (M inh : List Nat) (o : Obj) (j : Nat) (h : o.id ≠ j) :
    getN (inhStep M inh o) j = getN inh j := by
  unfold inhStep
  split
  · rw [getN_set]
    simp [h]
  · rfl

theorem inhFoldl_length (M : List Nat) (l : List Obj) (inh : List Nat) : (l.foldl (inhStep M) inh).length = inh.length :=
  List.foldlRecOn l _ (motive := fun st => st.length = inh.length) rfl fun st hst o _ => (inhStep_length M st o).trans hst

theorem inhFoldl_other (M : List Nat) (j : Nat) (l : List Obj) (inh : List Nat) (h : ∀ x ∈ l, x.id ≠ j) :
    getN (l.foldl (inhStep M) inh) j = getN inh j :=
  List.foldlRecOn l _ (motive := fun st => getN st j = getN inh j) rfl fun st hst o ho =>
    (inhStep_other M st o j (h o ho)).trans hst

theorem ids_sorted (l : List Obj) (hid : ∀ i (h : i < l.length), (l[i]).id = i) :
    l.Pairwise (fun a b => a.id < b.id) ∧ ∀ c ∈ l, c.id < l.length := by
  constructor
  · rw [List.pairwise_iff_getElem]
    intro i j hi hj hij
    rw [hid i hi, hid j hj]
    exact hij
  · intro c hc
    obtain ⟨i, hi, rfl⟩ := List.getElem_of_mem hc
    rw [hid i hi]
    exact hi

theorem inh_rec_split (M : List Nat) (n : Nat) (pre post : List Obj) (o : Obj) (hlt : o.id < n)
    (hpre : ∀ x ∈ pre, x.id < o.id) (hpost : ∀ x ∈ post, o.id < x.id)
    (hn : isNormal o.type = true) (hpar : 0 ≤ o.parent → o.parent.toNat < o.id) :
    getN ((pre ++ o :: post).foldl (inhStep M) (List.replicate n 0)) o.id =
      if 0 ≤ o.parent then
        getN ((pre ++ o :: post).foldl (inhStep M) (List.replicate n 0)) o.parent.toNat ||| getN M o.parent.toNat
      else 0 := by
  rw [List.foldl_append, List.foldl_cons]
  have hFlen : (pre.foldl (inhStep M) (List.replicate n 0)).length = n := by
    rw [inhFoldl_length]; simp
  generalize hF : pre.foldl (inhStep M) (List.replicate n 0) = F at hFlen
  -- the value at `o.id` is not touched by `post`
  rw [inhFoldl_other M o.id post _ (fun x hx => by have := hpost x hx; omega)]
  by_cases hp : 0 ≤ o.parent
  · rw [if_pos hp]
    have hlt' := hpar hp
    -- the value at the parent is not touched by `o :: post`
    rw [inhFoldl_other M o.parent.toNat post _ (fun x hx => by have := hpost x hx; omega),
      inhStep_other M F o o.parent.toNat (by omega)]
    unfold inhStep
    rw [hn, Bool.true_and, if_pos (by simp [hp]), getN_set, if_pos ⟨rfl, by omega⟩]
  · rw [if_neg hp]
    have hs : inhStep M F o = F := by
      unfold inhStep
      rw [if_neg (by simp [hp])]
    rw [hs, ← hF, inhFoldl_other M o.id pre _ (fun x hx => by have := hpre x hx; omega)]
    exact getD_replicate _ _ 0

theorem inh_rec (d : Dump)
    (hid : ∀ i (h : i < d.objs.length), (d.objs[i]).id = i)
    (hpar : ∀ o ∈ d.objs, isNormal o.type = true → 0 ≤ o.parent → o.parent.toNat < o.id)
    (o : Obj) (ho : o ∈ d.objs) (hn : isNormal o.type = true) :
    getN (inhFold d) o.id =
      if 0 ≤ o.parent then getN (inhFold d) o.parent.toNat ||| getN (auxFold d).memOr o.parent.toNat else 0 := by
  obtain ⟨hpw, hlt⟩ := ids_sorted d.objs hid
  have hlt := hlt o ho
  obtain ⟨pre, post, hsplit⟩ := List.append_of_mem ho
  unfold inhFold
  rw [hsplit] at hpw hlt ⊢
  rw [List.pairwise_append, List.pairwise_cons] at hpw
  exact inh_rec_split _ _ pre post o hlt (fun x hx => hpw.2.2 x hx o List.mem_cons_self) hpw.2.1.1 hn (hpar o ho hn)

end Hw.Topo
