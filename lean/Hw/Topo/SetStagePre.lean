/-
  Hw.Topo.SetStagePre — the precondition `PreSets` of the set-stage theorems as a proposition, and the proof that the executable
  check `preSets` (run by the driver on every real input of the stage) decides it.
-/
import Hw.Topo.SetStageDecomp
namespace Hw.Topo.SetStage
open Hw.Topo

/-- what the tree handed to the stage must satisfy (what `hwloc_alloc_root_sets`, `hwloc___insert_object_by_cpuset` and
`hwloc__attach_memory_object` deliver) -/
structure PreSets (i : In) : Prop where
  rootSets : i.root.o.ccpuset.isSome = true ∧ i.root.o.cnodeset.isSome = true
  /-- at every object (the root taken after "Fixup root sets" has clipped its cpuset): a complete_cpuset that exists contains the cpuset; the normal list holds normal objects, the memory list memory
  objects, memory objects have no normal children; memory children have a complete_nodeset that contains their nodeset; the cpusets of
  the normal children are pairwise disjoint -/
  nodes : AllN PreN (fixupRoot i.root)
  /-- at every object: the nodesets of the memory children are pairwise disjoint, and so are the local part and the parts below each
  normal child (one NUMA node per bit) -/
  nodesDj : AllN NodesDj i.root
  /-- the bits of the root nodeset are nodes that exist in the tree -/
  covered : Sub (i.root.o.nodeset &&& i.root.o.cnodeset.getD 0) (below i.root)

theorem djList_iff (l : List Nat) : djList l = true ↔ l.Pairwise Dj := by
  induction l with
  | nil => simp [djList]
  | cons a r ih =>
    rw [djList, Bool.and_eq_true, ih, List.pairwise_cons, List.all_eq_true]
    simp only [beq_iff_eq, Dj]

theorem subOpt_iff (a : Nat) (b : Option Nat) : subOpt a b = true ↔ SubOpt a b := by
  unfold subOpt SubOpt
  cases b with
  | none => simp
  | some x => simp [subset_iff]

theorem memOK_iff (mem : List ST) :
    mem.all (fun m => m.o.cnodeset.isSome && subOpt m.o.nodeset m.o.cnodeset) = true ↔ MemOK mem := by
  unfold MemOK
  rw [List.all_eq_true]
  apply forall_congr'; intro m
  apply imp_congr_right; intro _
  cases h : m.o.cnodeset with
  | none => simp
  | some x => simp [subOpt, subset_iff]

theorem preN_iff (t : ST) :
    (allNodes (fun o _ _ => subOpt o.cpuset o.ccpuset) t = true ∧
     allNodes (fun o kids mem => kids.all (fun k => !isMemory k.o.type) && mem.all (fun m => isMemory m.o.type) &&
                                 (!isMemory o.type || kids.isEmpty)) t = true ∧
     allNodes (fun _ _ mem => mem.all (fun m => m.o.cnodeset.isSome && subOpt m.o.nodeset m.o.cnodeset)) t = true ∧
     allNodes (fun _ kids _ => djList (kids.map (·.o.cpuset))) t = true) ↔ AllN PreN t := by
  simp only [allNodes_iff, ← AllN.and_iff]
  refine AllN.congr (fun o kids mem => ?_) t
  rw [subOpt_iff, memOK_iff, djList_iff]
  simp only [Bool.and_eq_true, List.all_eq_true, Bool.not_eq_true', Bool.or_eq_true, List.isEmpty_iff, and_assoc]
  have : (isMemory o.type = false ∨ kids = []) ↔ (isMemory o.type = true → kids = []) := by cases isMemory o.type <;> simp
  rw [this]
  rfl

theorem nodesDj_iff (t : ST) :
    allNodes (fun _ kids mem => djList (mem.map (·.o.nodeset)) && djList (orL (mem.map (·.o.nodeset)) :: kids.map below)) t = true ↔
    AllN NodesDj t := by
  rw [allNodes_iff]
  refine AllN.congr (fun o kids mem => ?_) t
  rw [Bool.and_eq_true, djList_iff, djList_iff]
  rfl

theorem preSets_iff (i : In) : preSets i = true ↔ PreSets i := by
  unfold preSets preClauses
  simp only [List.all_cons, List.all_nil, Bool.and_true, Bool.and_eq_true]
  constructor
  · rintro ⟨h1, h2, h3, h4, h5, h6, h7⟩
    exact ⟨h1, (preN_iff _).1 ⟨h2, h3, h4, h5⟩, (nodesDj_iff _).1 h6, subset_iff.1 h7⟩
  · rintro ⟨h1, h2, h3, h4⟩
    obtain ⟨a, b, c, d⟩ := (preN_iff _).2 h2
    exact ⟨h1, a, b, c, d, (nodesDj_iff _).2 h3, subset_iff.2 h4⟩

instance (i : In) : Decidable (PreSets i) := decidable_of_iff _ (preSets_iff i)

/-! ### the whole stage -/

theorem mapObjs_allN_obj (g : SObj → SObj) (Q : SObj → Prop) (h : ∀ o, Q (g o)) : ∀ t : ST, AllN (fun o _ _ => Q o) (mapObjs g t) := by
  apply ST.ind
  intro o kids mem ihk ihm
  rw [mapObjs_node]
  refine .node (h o) ?_ ?_
  · intro c hc; obtain ⟨y, hy, rfl⟩ := List.mem_map.1 hc; exact ihk y hy
  · intro c hc; obtain ⟨y, hy, rfl⟩ := List.mem_map.1 hc; exact ihm y hy

theorem stage_post (i : In) (h : PreSets i) : AllN Post (stage i).root := by
  cases hf : i.includeDisallowed with
  | true => rw [stage_root_incl i hf]; exact core_post Shrink.id Shrink.id _ h.rootSets.1 h.nodes
  | false => rw [stage_root_excl i hf]; exact core_post (Shrink.and _) (Shrink.and _) _ h.rootSets.1 h.nodes

theorem stage_decomp (i : In) (h : PreSets i) : Decomp 0 (stage i).root := by
  cases hf : i.includeDisallowed with
  | true => rw [stage_root_incl i hf]; exact core_decomp Shrink.id _ h.nodesDj
  | false => rw [stage_root_excl i hf]; exact core_decomp (Shrink.and _) _ h.nodesDj

theorem stage_within_allowed (i : In) (hf : i.includeDisallowed = false) :
    AllN (fun o _ _ => Sub o.cpuset (stage i).allowedC ∧ Sub o.nodeset (stage i).allowedN) (stage i).root := by
  rw [stage_root_excl i hf]
  unfold core
  exact mapObjs_allN_obj _ (fun o => Sub o.cpuset (stage i).allowedC ∧ Sub o.nodeset (stage i).allowedN)
    (fun o => ⟨Sub.and_right _ _, Sub.and_right _ _⟩) _

end Hw.Topo.SetStage
