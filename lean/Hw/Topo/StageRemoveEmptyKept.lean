/-
  Hw.Topo.StageRemoveEmptyKept — what `remove_empty` never removes: every visited object whose own set is not empty survives
  (in particular every PU with a non-empty cpuset and every NUMA node with a non-empty nodeset), and every survivor is an object of
  the input (no object is invented or modified).
-/
import Hw.Topo.StageRemoveEmptyLemmas
namespace Hw.Topo.Restrict.Stage
open Hw.Topo Hw.Topo.Restrict

mutual
/-- the objects `remove_empty` visits: the object and everything reachable through normal and memory children lists -/
def objsNM : Tree → List RObj
  | .node o ns ms _ _ => o :: (objsNML ns ++ objsNML ms)
def objsNML : List Tree → List RObj
  | [] => []
  | t :: ts => objsNM t ++ objsNML ts
end

theorem objsNML_append (a b : List Tree) : objsNML (a ++ b) = objsNML a ++ objsNML b := by
  induction a with
  | nil => rfl
  | cons x xs ih => simp only [List.cons_append, objsNML, ih, List.append_assoc]

theorem mem_objsNML {x : RObj} {l : List Tree} : x ∈ objsNML l ↔ ∃ t ∈ l, x ∈ objsNM t := by
  induction l with
  | nil => exact ⟨fun h => (nomatch h), fun ⟨_, h, _⟩ => (nomatch h)⟩
  | cons a as ih => rw [objsNML, List.mem_append, ih]; simp only [List.mem_cons, exists_eq_or_imp]

theorem mem_objsNM {o : RObj} {ns ms ios mis : List Tree} {x : RObj} :
    x ∈ objsNM (.node o ns ms ios mis) ↔ x = o ∨ (∃ c ∈ ns, x ∈ objsNM c) ∨ ∃ m ∈ ms, x ∈ objsNM m := by
  rw [objsNM, List.mem_cons, List.mem_append, mem_objsNML, mem_objsNML]

theorem removeEmpty_sub : ∀ t t', removeEmpty t = some t' → ∀ x ∈ objsNM t', x ∈ objsNM t := by
  apply removeEmpty_ind
  intro o ns ms ios mis ihn ihm _ x hx
  rw [mem_objsNM] at hx ⊢
  have key : ∀ {l : List Tree}, (∀ c ∈ l, ∀ c', removeEmpty c = some c' → ∀ x ∈ objsNM c', x ∈ objsNM c) →
      (∃ c' ∈ l.filterMap removeEmpty, x ∈ objsNM c') → ∃ c ∈ l, x ∈ objsNM c := fun ih ⟨c', hc', hx⟩ =>
    (List.mem_filterMap.1 hc').elim fun c hc => ⟨c, hc.1, ih c hc.1 c' hc.2 x hx⟩
  exact hx.imp_right (Or.imp (key ihn) (key ihm))

/-- an object whose own set is not empty keeps itself and all its ancestors in place -/
theorem removeEmpty_keeps : ∀ t, ∀ x ∈ objsNM t, emptySet x = false → ∃ t', removeEmpty t = some t' ∧ x ∈ objsNM t' := by
  apply Tree.indNM
  intro o ns ms ios mis ihn ihm x hx hne
  rw [mem_objsNM] at hx
  have key : ∀ {l : List Tree}, (∀ c ∈ l, ∀ x ∈ objsNM c, emptySet x = false → ∃ t', removeEmpty c = some t' ∧ x ∈ objsNM t') →
      (∃ c ∈ l, x ∈ objsNM c) → ∃ c' ∈ l.filterMap removeEmpty, x ∈ objsNM c' := fun ih ⟨c, hc, hx⟩ =>
    (ih c hc x hx hne).elim fun c' h => ⟨c', List.mem_filterMap.2 ⟨c, hc, h.1⟩, h.2⟩
  have hx' := hx.imp_right (Or.imp (key ihn) (key ihm))
  have ha : alive o (ns.filterMap removeEmpty) (ms.filterMap removeEmpty) ios = true := by
    unfold alive
    rcases hx' with rfl | ⟨c', hc', _⟩ | ⟨c', hc', _⟩
    · rw [hne]; simp
    · rw [List.isEmpty_eq_false_iff.2 (List.ne_nil_of_mem hc')]; rfl
    · rw [List.isEmpty_eq_false_iff.2 (List.ne_nil_of_mem hc')]; simp
  exact ⟨_, by rw [removeEmpty_node, if_pos ha], mem_objsNM.2 hx'⟩

theorem removeEmptyL_keeps : ∀ l : List Tree, ∀ x ∈ objsNML l, emptySet x = false → x ∈ objsNML (removeEmptyL l).kept := by
  intro l x hx hne
  obtain ⟨t, ht, hx⟩ := mem_objsNML.1 hx
  obtain ⟨t', e, hx'⟩ := removeEmpty_keeps t x hx hne
  rw [removeEmptyL_kept]
  exact mem_objsNML.2 ⟨t', List.mem_filterMap.2 ⟨t, ht, e⟩, hx'⟩

theorem removeEmptyL_sub : ∀ l : List Tree, ∀ x ∈ objsNML (removeEmptyL l).kept, x ∈ objsNML l := by
  intro l x hx
  rw [removeEmptyL_kept] at hx
  obtain ⟨t', ht', hx⟩ := mem_objsNML.1 hx
  obtain ⟨t, ht, e⟩ := List.mem_filterMap.1 ht'
  exact mem_objsNML.2 ⟨t, ht, removeEmpty_sub t t' e x hx⟩

theorem removeEmpty_objs (t t' : Tree) (h : removeEmpty t = some t') :
    (∀ x ∈ objsNM t, emptySet x = false → x ∈ objsNM t') ∧ (∀ x ∈ objsNM t', x ∈ objsNM t) :=
  ⟨fun x hx hne => (removeEmpty_keeps t x hx hne).elim fun _ h' => Option.some.inj (h ▸ h'.1) ▸ h'.2, removeEmpty_sub t t' h⟩

end Hw.Topo.Restrict.Stage
