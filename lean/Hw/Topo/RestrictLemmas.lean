/-
  Hw.Topo.RestrictLemmas — hypotheses (as executable checks) and lemmas about the model Hw.Topo.Restrict.
  Each layer of the model has one induction rule, and a property is proved by one application of it: `restrictW_ind` (the tree
  recursion: one `NodeStep` at a node), `mergeT_ind` (one merge of a level: merged pair / listed object that stays / descent),
  `keepStructure_ind` (level merging: whatever `mergeT` and `reorderAllT` keep), `restrict_ind` (one call), `runCalls_ind` (histories).  Objects are counted by `cnt f a`, generic in the attribute `f`.
-/
import Hw.Topo.Restrict
import Hw.Topo.TreeInd
import Hw.Topo.Sets
import Hw.Base.InsertSort
namespace Hw.Topo.Restrict
open Hw.Topo Hw.Gen.Restrict Hw.Bits

/-! ### constants tie (re-checked against the regenerated Hw.Gen.RestrictConsts on every run) -/

theorem consts_flags_distinct_bits :
    [flagRemoveCpuless, flagAdaptMisc, flagAdaptIO, flagByNodeset, flagRemoveMemless].Pairwise (fun a b => a &&& b = 0) ∧
    [flagRemoveCpuless, flagAdaptMisc, flagAdaptIO, flagByNodeset, flagRemoveMemless].all (fun a => a != 0) = true := by decide
theorem consts_order_table : typeOrder.length = tMAX ∧ ((typeOrder.take (tGROUP + 1)).Nodup) := by decide
theorem consts_priority_table : typePriority.length = tMAX := by decide
theorem consts_enum_matches :
    typeEnum = [tMACHINE, tPACKAGE, tDIE, tCORE, tPU, tL1, tL1 + 1, tL1 + 2, tL1 + 3, tL5, tL1I, tL1I + 1, tL3I, tGROUP, tNUMA,
                tMEMCACHE, tBRIDGE, tPCI, tOSDEV, tMISC, tMAX] := by decide

/-! ### masks -/

theorem testBit_minus (x : Nat) (d : CSet) (i : Nat) : (minus x d).testBit i = (x.testBit i && !d.mem i) := by
  unfold minus CSet.mem
  cases h : d.inf
  · simp only [Bool.false_eq_true, if_false, andnot, testBit_andnot]
    cases x.testBit i <;> cases d.bits.testBit i <;> rfl
  · simp only [if_true, Nat.testBit_and]
    cases x.testBit i <;> cases d.bits.testBit i <;> rfl

theorem subset_zero (a : Nat) : subset 0 a = true := zero_subset a

theorem minus_subset (x : Nat) (d : CSet) : subset (minus x d) x = true :=
  subset_iff_bits.2 (fun i hi => by rw [testBit_minus] at hi; exact (Bool.and_eq_true_iff.mp hi).1)

theorem minus_mono {a b : Nat} (d : CSet) (h : subset a b = true) : subset (minus a d) (minus b d) = true :=
  subset_iff_bits.2 (fun i hi => by
    rw [testBit_minus] at hi ⊢
    have := Bool.and_eq_true_iff.mp hi
    rw [subset_iff_bits.1 h i this.1, this.2]; rfl)

theorem minus_zero (d : CSet) : minus 0 d = 0 := by
  apply Nat.eq_of_testBit_eq; intro i; rw [testBit_minus]; simp

theorem minus_idem (x : Nat) (d : CSet) : minus (minus x d) d = minus x d := by
  apply Nat.eq_of_testBit_eq; intro i; simp only [testBit_minus]
  cases x.testBit i <;> cases d.mem i <;> rfl

theorem minus_or (a b : Nat) (d : CSet) : minus (a ||| b) d = minus a d ||| minus b d := by
  apply Nat.eq_of_testBit_eq; intro i
  simp only [testBit_minus, Nat.testBit_or]
  cases a.testBit i <;> cases b.testBit i <;> cases d.mem i <;> rfl

theorem minus_empty (x : Nat) : minus x CSet.empty = x := by
  apply Nat.eq_of_testBit_eq; intro i; rw [testBit_minus]; simp [CSet.mem, CSet.empty]

theorem CSet.mem_compl (s : CSet) (i : Nat) : s.compl.mem i = !s.mem i := by
  unfold CSet.compl CSet.mem
  cases s.bits.testBit i <;> cases s.inf <;> rfl

theorem testBit_minus_compl (x : Nat) (s : CSet) (i : Nat) : (minus x s.compl).testBit i = (x.testBit i && s.mem i) := by
  rw [testBit_minus, CSet.mem_compl, Bool.not_not]

theorem meets_eq_minus_compl (x : Nat) (d : CSet) : meets x d = (minus x d.compl != 0) := by
  obtain ⟨b, inf⟩ := d
  cases inf <;> rfl

theorem meets_false_iff (x : Nat) (d : CSet) : meets x d = false ↔ ∀ i, x.testBit i = true → d.mem i = false := by
  rw [meets_eq_minus_compl, bne_eq_false_iff_eq]
  constructor
  · intro h i hi
    have e := testBit_minus_compl x d i
    rw [h, Nat.zero_testBit, hi] at e
    exact e.symm
  · intro h
    apply Nat.eq_of_testBit_eq; intro i
    rw [testBit_minus_compl, Nat.zero_testBit]
    exact Bool.and_eq_false_imp.2 (h i)

theorem minus_of_not_meets {x : Nat} {d : CSet} (h : meets x d = false) : minus x d = x := by
  apply Nat.eq_of_testBit_eq; intro i; rw [testBit_minus]
  cases hi : x.testBit i
  · rfl
  · rw [(meets_false_iff x d).1 h i hi]; rfl

theorem not_meets_of_subset {a b : Nat} {d : CSet} (hab : subset a b = true) (h : meets b d = false) : meets a d = false :=
  (meets_false_iff a d).2 (fun i hi => (meets_false_iff b d).1 h i (subset_iff_bits.1 hab i hi))

/-! ### hypotheses on the input tree (consequences of C01 well-formedness; checked by the driver on every BEFORE dump) -/

def zeroSets (o : RObj) : Bool := o.cpuset == 0 && o.ccpuset == 0 && o.nodeset == 0 && o.cnodeset == 0

mutual
/-- SetsOK: set ⊆ complete set for every object; complete sets of normal/memory children are included in the parent's;
    I/O and Misc subtrees carry no sets -/
def okT : Tree → Bool
  | .node o ns ms ios mis =>
    subset o.cpuset o.ccpuset && subset o.nodeset o.cnodeset && okL o ns && okL o ms &&
    (objsL ios).all zeroSets && (objsL mis).all zeroSets
def okL (par : RObj) : List Tree → Bool
  | [] => true
  | t :: ts => subset t.obj.ccpuset par.ccpuset && subset t.obj.cnodeset par.cnodeset && okT t && okL par ts
end

/-! ### flattening -/

theorem objsL_eq_flatMap (l : List Tree) : objsL l = l.flatMap objsT := by
  induction l with
  | nil => rfl
  | cons t ts ih => rw [objsL, ih, List.flatMap_cons]

theorem objsL_append (a b : List Tree) : objsL (a ++ b) = objsL a ++ objsL b := by
  simp only [objsL_eq_flatMap, List.flatMap_append]

theorem mem_objsL_iff {l : List Tree} {x : RObj} : x ∈ objsL l ↔ ∃ t ∈ l, x ∈ objsT t := by
  rw [objsL_eq_flatMap, List.mem_flatMap]

theorem root_mem (t : Tree) : t.obj ∈ objsT t := by
  cases t; rw [objsT]; exact List.mem_cons_self

theorem forall_objsL {q : RObj → Prop} {l : List Tree} : (∀ x ∈ objsL l, q x) ↔ ∀ c ∈ l, ∀ x ∈ objsT c, q x := by
  simp only [mem_objsL_iff]
  exact ⟨fun h c hc x hx => h x ⟨c, hc, hx⟩, fun h x ⟨c, hc, hx⟩ => h c hc x hx⟩

theorem forall_objsL_ite {R : RObj → Prop} {c : Bool} {l : List Tree} :
    (∀ x ∈ objsL (if c then l else []), R x) ↔ (c = true → ∀ x ∈ objsL l, R x) := by
  cases c
  · exact ⟨fun _ h => (nomatch h), fun _ x hx => (nomatch hx)⟩
  · exact ⟨fun h _ => h, fun h => h rfl⟩

theorem objsL_perm {a b : List Tree} (h : a.Perm b) : (objsL a).Perm (objsL b) := by
  rw [objsL_eq_flatMap, objsL_eq_flatMap]
  exact h.flatMap_right objsT

theorem insertChild_perm (c : Tree) (l : List Tree) : (insertChild c l).Perm (c :: l) := by
  rw [Hw.InsertSort.insertRec_eq (fun x => gtFirst c.obj.ccpuset x.obj.ccpuset) c (insertChild c) (by rw [insertChild])
    (fun _ _ h => by rw [insertChild, if_pos h]) (fun _ _ h => by rw [insertChild, if_neg (by simp [h])])]
  exact Hw.InsertSort.split_perm _ c l

theorem reorder_perm (l : List Tree) : (reorder l).Perm l := Hw.InsertSort.foldl_perm insertChild_perm l []

/-! ### the list halves of the tree transformations are maps

With one lemma per predicate about `l.map g` (`cnt_objsL_map_le`, `okL_map`, `typedL_map`, `puLeafL_map`) an induction over
trees (`Tree.ind4`) never has to say anything about lists. -/

theorem mergeL_eq_map (ps : List Nat) (rc : Bool) (l : List Tree) : mergeL ps rc l = l.map (mergeT ps rc) := by
  induction l with
  | nil => rw [mergeL]; rfl
  | cons t ts ih => rw [mergeL, ih]; rfl

theorem objsL_map_perm {g : Tree → Tree} {l : List Tree} (h : ∀ c ∈ l, (objsT (g c)).Perm (objsT c)) :
    (objsL (l.map g)).Perm (objsL l) := by
  induction l with
  | nil => exact .refl _
  | cons t ts ih => exact (h t List.mem_cons_self).append (ih fun c hc => h c (List.mem_cons_of_mem _ hc))

theorem reorderAllL_eq_map (l : List Tree) : reorderAllL l = l.map reorderAllT := by
  induction l with
  | nil => rw [reorderAllL]; rfl
  | cons t ts ih => rw [reorderAllL, ih]; rfl

def resObjs (r : Res) : List RObj := objsL r.kept ++ objsL r.io ++ objsL r.misc

def cnt {α : Type} [DecidableEq α] (f : RObj → α) (a : α) (l : List RObj) : Nat := (l.map f).count a

section cnt
variable {α : Type} [DecidableEq α] (f : RObj → α) (a : α)
theorem cnt_nil : cnt f a [] = 0 := rfl
theorem cnt_append (l1 l2 : List RObj) : cnt f a (l1 ++ l2) = cnt f a l1 + cnt f a l2 := by
  simp [cnt, List.count_append]
theorem cnt_cons (x : RObj) (l : List RObj) : cnt f a (x :: l) = cnt f a [x] + cnt f a l := by
  rw [show x :: l = [x] ++ l from rfl, cnt_append]
theorem cnt_perm {l1 l2 : List RObj} (h : l1.Perm l2) : cnt f a l1 = cnt f a l2 :=
  (h.map f).count_eq a
theorem cnt_single_congr {x y : RObj} (h : f x = f y) : cnt f a [x] = cnt f a [y] := by simp [cnt, h]

def cnt1 (x : RObj) : Nat := cnt f a [x]
theorem cnt_cons1 (x : RObj) (l : List RObj) : cnt f a (x :: l) = cnt1 f a x + cnt f a l := cnt_cons f a x l
theorem cnt1_congr {x y : RObj} (h : f x = f y) : cnt1 f a x = cnt1 f a y := cnt_single_congr f a h

theorem cnt1_zero {x : RObj} (h : f x ≠ a) : cnt1 f a x = 0 := by
  unfold cnt1 cnt
  simp [h]

theorem cnt_pos_iff (l : List RObj) : 0 < cnt f a l ↔ ∃ x ∈ l, f x = a := by
  unfold cnt
  rw [List.count_pos_iff, List.mem_map]

theorem cnt_eq_zero_of (l : List RObj) (h : ∀ x ∈ l, f x ≠ a) : cnt f a l = 0 :=
  Nat.eq_zero_of_not_pos fun hp => let ⟨x, hx, e⟩ := (cnt_pos_iff f a l).1 hp; h x hx e

omit f a in
theorem mem_of_cnt_le {f g : RObj → α} {l l' : List RObj} (h : ∀ a, cnt f a l ≤ cnt g a l') {x : RObj} (hx : x ∈ l) :
    ∃ x0 ∈ l', g x0 = f x :=
  (cnt_pos_iff g (f x) l').1 (Nat.lt_of_lt_of_le ((cnt_pos_iff f (f x) l).2 ⟨x, hx, rfl⟩) (h (f x)))

theorem cnt_objsL_map_le {g : Tree → Tree} {l : List Tree} (h : ∀ c ∈ l, cnt f a (objsT (g c)) ≤ cnt f a (objsT c)) :
    cnt f a (objsL (l.map g)) ≤ cnt f a (objsL l) := by
  induction l with
  | nil => exact Nat.le_refl _
  | cons t ts ih =>
    simp only [List.map_cons, objsL, cnt_append]
    exact Nat.add_le_add (h t List.mem_cons_self) (ih fun c hc => h c (List.mem_cons_of_mem _ hc))

theorem cnt_objsL_map_eq {g : Tree → Tree} {l : List Tree} (h : ∀ c ∈ l, cnt f a (objsT (g c)) = cnt f a (objsT c)) :
    cnt f a (objsL (l.map g)) = cnt f a (objsL l) := by
  induction l with
  | nil => rfl
  | cons t ts ih =>
    simp only [List.map_cons, objsL, cnt_append]
    rw [h t List.mem_cons_self, ih fun c hc => h c (List.mem_cons_of_mem _ hc)]

theorem cnt_objsL_ite (c : Bool) (l : List Tree) : cnt f a (objsL (if c then l else [])) ≤ cnt f a (objsL l) ∧
    (c = true → cnt f a (objsL (if c then l else [])) = cnt f a (objsL l)) := by
  cases c
  · exact ⟨Nat.zero_le _, Bool.noConfusion⟩
  · exact ⟨Nat.le_refl _, fun _ => rfl⟩

theorem cnt_filter_le (prot : RObj → Bool) (l : List RObj) : cnt f a (l.filter prot) ≤ cnt f a l := by
  unfold cnt
  exact (List.Sublist.map f List.filter_sublist).count_le a

theorem cnt_filter_of_all (P : RObj → Bool) (l : List RObj)
    (h : ∀ x ∈ l, f x = a → P x = true) : cnt f a (l.filter P) = cnt f a l := by
  unfold cnt
  rw [List.count_eq_countP, List.count_eq_countP, List.countP_map, List.countP_map, List.countP_filter]
  apply List.countP_congr
  intro x hx
  simp only [Function.comp, Bool.and_eq_true, beq_iff_eq]
  exact ⟨fun h' => h'.1, fun h' => ⟨h', h x hx h'⟩⟩

end cnt

theorem nodup_gp_of_cnt_le {l l' : List RObj} (h : ∀ g, cnt (fun y => y.gp) g l ≤ cnt (fun y => y.gp) g l')
    (hn : (l'.map (·.gp)).Nodup) : (l.map (·.gp)).Nodup := by
  rw [List.nodup_iff_count]
  intro g
  have h1 := h g
  have h2 := (List.nodup_iff_count.1 hn) g
  unfold cnt at h1
  omega

/-! ### the list half of the recursion -/

def idRes (l : List Tree) : Res := ⟨l, [], []⟩

theorem restrictLW_nil (ro : List Tree → List Tree) (p : Params) : restrictLW ro p [] = ⟨[], [], []⟩ := by
  rw [restrictLW]

theorem restrictLW_cons (ro : List Tree → List Tree) (p : Params) (t : Tree) (ts : List Tree) :
    restrictLW ro p (t :: ts) =
      ⟨(restrictTW ro p t).kept ++ (restrictLW ro p ts).kept, (restrictTW ro p t).io ++ (restrictLW ro p ts).io,
       (restrictTW ro p t).misc ++ (restrictLW ro p ts).misc⟩ := by
  rw [restrictLW]

theorem resObjs_idRes (l : List Tree) : resObjs (idRes l) = objsL l := by
  rw [resObjs, idRes, objsL, List.append_nil, List.append_nil]

/-! ### what the set clearing does to one object -/

/-- everything but the four sets -/
def ident (o : RObj) : RObj := { o with cpuset := 0, ccpuset := 0, nodeset := 0, cnodeset := 0 }

theorem shrinkG_eq (p : Params) (o : RObj) :
    shrinkG p o = { o with
      cpuset := if meets o.ccpuset p.dc then minus o.cpuset p.dc else o.cpuset,
      ccpuset := if meets o.ccpuset p.dc then minus o.ccpuset p.dc else o.ccpuset,
      nodeset := if meets o.cnodeset p.dn then minus o.nodeset p.dn else o.nodeset,
      cnodeset := if meets o.cnodeset p.dn then minus o.cnodeset p.dn else o.cnodeset } := by
  have e : ∀ c : Bool, (if c then shrinkCpu p.dc o else o).cnodeset = o.cnodeset := fun c => by cases c <;> rfl
  simp only [shrinkG, e]
  cases meets o.ccpuset p.dc <;> cases meets o.cnodeset p.dn <;> rfl

theorem ident_shrinkG (p : Params) (o : RObj) : ident (shrinkG p o) = ident o := by rw [shrinkG_eq]; rfl
theorem gp_shrinkG (p : Params) (o : RObj) : (shrinkG p o).gp = o.gp := by rw [shrinkG_eq]
theorem type_shrinkG (p : Params) (o : RObj) : (shrinkG p o).type = o.type := by rw [shrinkG_eq]

theorem ident_type (x : RObj) : (ident x).type = x.type := rfl
theorem ident_osidx (x : RObj) : (ident x).osidx = x.osidx := rfl

theorem shrinkG_cpuset (p : Params) (o : RObj) :
    (shrinkG p o).cpuset = if meets o.ccpuset p.dc then minus o.cpuset p.dc else o.cpuset := by rw [shrinkG_eq]
theorem shrinkG_nodeset (p : Params) (o : RObj) :
    (shrinkG p o).nodeset = if meets o.cnodeset p.dn then minus o.nodeset p.dn else o.nodeset := by rw [shrinkG_eq]

theorem shrinkG_of_untouched (p : Params) (o : RObj) (h : touched p o = false) : shrinkG p o = o := by
  have h := Bool.or_eq_false_iff.1 h
  rw [shrinkG_eq, h.1, h.2]
  rfl


theorem guarded_subset (c : Bool) (x : Nat) (d : CSet) : subset (if c then minus x d else x) x = true := by
  cases c
  · exact subset_refl x
  · exact minus_subset x d

theorem minus_guarded (c : Bool) (x : Nat) (d : CSet) : minus (if c then minus x d else x) d = minus x d := by
  cases c
  · rfl
  · exact minus_idem x d

theorem guarded_ne_zero_of_not_inside (c : Bool) {x : Nat} {d : CSet} (h : inside x d = false) :
    (if c then minus x d else x) ≠ 0 := by
  have hm : minus x d ≠ 0 := beq_eq_false_iff_ne.1 h
  cases c
  · show x ≠ 0
    intro e; rw [e, minus_zero] at hm; exact hm rfl
  · exact hm

theorem guarded_eq_minus {x y : Nat} (d : CSet) (h : subset x y = true) : (if meets y d then minus x d else x) = minus x d := by
  split
  · rfl
  · next hm => exact (minus_of_not_meets (not_meets_of_subset h (eq_false_of_ne_true hm))).symm

theorem shrinkU_shrinkG (p : Params) (o : RObj) : shrinkU p (shrinkG p o) = shrinkU p o := by
  rw [shrinkG_eq]
  simp only [shrinkU, shrinkCpu, shrinkNode, minus_guarded]

theorem shrinkU_idem (p : Params) (o : RObj) : shrinkU p (shrinkU p o) = shrinkU p o := by
  unfold shrinkU shrinkCpu shrinkNode
  simp only [minus_idem]

/-- the guards of the two andnot blocks are immaterial when set ⊆ complete set -/
theorem shrinkG_eq_shrinkU (p : Params) (o : RObj) (h1 : subset o.cpuset o.ccpuset = true)
    (h2 : subset o.nodeset o.cnodeset = true) : shrinkG p o = shrinkU p o := by
  rw [shrinkG_eq, guarded_eq_minus _ h1, guarded_eq_minus _ h2, guarded_eq_minus _ (subset_refl _),
    guarded_eq_minus _ (subset_refl _)]
  rfl

theorem shrinkU_of_untouched (p : Params) (o : RObj) (h1 : subset o.cpuset o.ccpuset = true)
    (h2 : subset o.nodeset o.cnodeset = true) (h : touched p o = false) : shrinkU p o = o := by
  rw [← shrinkG_eq_shrinkU p o h1 h2, shrinkG_of_untouched p o h]

theorem shrinkG_sets (p : Params) (o : RObj) :
    subset (shrinkG p o).cpuset o.cpuset = true ∧ subset (shrinkG p o).ccpuset o.ccpuset = true ∧
    subset (shrinkG p o).nodeset o.nodeset = true ∧ subset (shrinkG p o).cnodeset o.cnodeset = true := by
  rw [shrinkG_eq]
  exact ⟨guarded_subset _ _ _, guarded_subset _ _ _, guarded_subset _ _ _, guarded_subset _ _ _⟩

/-! ### the node step of the recursion -/

/-- what restrict_object_by_cpuset / _by_nodeset makes of one object `o`, given the results `rn`, `rm` for its normal and memory
    children: REMOVED, its I/O and Misc lists going up with the ADAPT flags, or KEPT, with a permutation of the surviving normal
    children and its own I/O and Misc lists followed by the inherited ones -/
def NodeStep (p : Params) (o : RObj) (ios mis : List Tree) (rn rm : Res) (r : Res) : Prop :=
  ((rn.kept = [] ∧ rm.kept = [] ∧ emptyAfter p (shrinkG p o) = true ∧ removable p o.type = true) ∧
    r = ⟨[], if p.adaptIO then ios ++ rn.io ++ rm.io else [], if p.adaptMisc then mis ++ rn.misc ++ rm.misc else []⟩) ∨
  (¬(rn.kept = [] ∧ rm.kept = [] ∧ emptyAfter p (shrinkG p o) = true ∧ removable p o.type = true) ∧
    ∃ ns', ns'.Perm rn.kept ∧
      r = ⟨[.node (shrinkG p o) ns' rm.kept (ios ++ rn.io ++ rm.io) (mis ++ rn.misc ++ rm.misc)], [], []⟩)

/-- what holds of a list and of `[]` holds of what a removed object hands up -/
theorem ite_nil {α : Type} {P : List α → Prop} {l : List α} (c : Bool) (h0 : P []) (h : P l) : P (if c then l else []) := by
  cases c
  · exact h0
  · exact h

/-- the step at one object, without induction (`rn`, `rm`: its children unvisited when the object is untouched) -/
theorem restrictTW_cases {ro : List Tree → List Tree} (hro : ∀ l, (ro l).Perm l) (p : Params) (o : RObj)
    (ns ms ios mis : List Tree) (rn rm : Res) (hn : rn = if touched p o then restrictLW ro p ns else idRes ns)
    (hm : rm = if touched p o then restrictLW ro p ms else idRes ms) :
    NodeStep p o ios mis rn rm (restrictTW ro p (.node o ns ms ios mis)) := by
  obtain ⟨ns', hns', hp⟩ : ∃ ns', ns' = (if touched p o && doReorder p then ro rn.kept else rn.kept) ∧ ns'.Perm rn.kept :=
    ⟨_, rfl, by split; exact hro _; exact .refl _⟩
  have hb : (ns'.isEmpty && rm.kept.isEmpty && emptyAfter p (shrinkG p o) && removable p (shrinkG p o).type) = true ↔
      (rn.kept = [] ∧ rm.kept = [] ∧ emptyAfter p (shrinkG p o) = true ∧ removable p o.type = true) := by
    simp only [Bool.and_eq_true, List.isEmpty_iff, type_shrinkG, and_assoc]
    exact and_congr_left' ⟨fun h => (h ▸ hp).symm.eq_nil, fun h => (h ▸ hp).eq_nil⟩
  by_cases hC : rn.kept = [] ∧ rm.kept = [] ∧ emptyAfter p (shrinkG p o) = true ∧ removable p o.type = true
  · exact .inl ⟨hC, by subst hn hm hns'; rw [restrictTW]; exact if_pos (hb.2 hC)⟩
  · exact .inr ⟨hC, ns', hp, by subst hn hm hns'; rw [restrictTW]; exact if_neg fun h => hC (hb.1 h)⟩

/-- an object is removed exactly when, after the recursion, it has no normal and no memory child left, its cpuset (nodeset
    with BYNODESET) is empty, and it is not a NUMA node (PU) unless REMOVE_CPULESS (REMOVE_MEMLESS) was given -/
theorem restrictTW_kept_nil_iff {ro : List Tree → List Tree} (hro : ∀ l, (ro l).Perm l) (p : Params) (o : RObj)
    (ns ms ios mis : List Tree) :
    (restrictTW ro p (.node o ns ms ios mis)).kept = [] ↔
      ((if touched p o then restrictLW ro p ns else idRes ns).kept = [] ∧
       (if touched p o then restrictLW ro p ms else idRes ms).kept = [] ∧
       emptyAfter p (shrinkG p o) = true ∧ removable p o.type = true) := by
  rcases restrictTW_cases hro p o ns ms ios mis _ _ rfl rfl with ⟨hc, e⟩ | ⟨hc, _, _, e⟩ <;> rw [e]
  · exact iff_of_true rfl hc
  · exact iff_of_false (List.cons_ne_nil _ _) hc

/-- induction over restrict_object_by_cpuset / _by_nodeset: at a node, ONE step (`NodeStep`) from what is assumed of the
    children results; below an untouched object nothing is visited.  `Q par l r`: `r` is the result for the children list
    `l` of `par`. -/
theorem restrictW_ind {ro : List Tree → List Tree} (hro : ∀ l, (ro l).Perm l) (p : Params)
    {P : Tree → Res → Prop} {Q : RObj → List Tree → Res → Prop}
    (hnode : ∀ o ns ms ios mis rn rm r, Q o ns rn → Q o ms rm → NodeStep p o ios mis rn rm r → P (.node o ns ms ios mis) r)
    (hid : ∀ o l, touched p o = false → Q o l (idRes l)) (hnil : ∀ o, Q o [] ⟨[], [], []⟩)
    (hcons : ∀ o t ts r rs, P t r → Q o ts rs → Q o (t :: ts) ⟨r.kept ++ rs.kept, r.io ++ rs.io, r.misc ++ rs.misc⟩) :
    (∀ t, P t (restrictTW ro p t)) ∧ (∀ l o, Q o l (restrictLW ro p l)) := by
  apply tree_ind
  · intro o ns ms ios mis hn hm
    have q : ∀ l, (∀ o, Q o l (restrictLW ro p l)) → Q o l (if touched p o then restrictLW ro p l else idRes l) := fun l h => by
      split
      · exact h o
      · rename_i ht; exact hid o l (eq_false_of_ne_true ht)
    exact hnode o ns ms ios mis _ _ _ (q ns hn) (q ms hm) (restrictTW_cases hro p o ns ms ios mis _ _ rfl rfl)
  · intro o; rw [restrictLW_nil]; exact hnil o
  · intro t ts ht hts o
    rw [restrictLW_cons]; exact hcons o t ts _ _ ht (hts o)

/-- for every attribute `f` that the set clearing does not change, the recursion hands back a sub-multiset of the `f`-values
    of the input subtree -/
theorem cnt_restrictTW {α : Type} [DecidableEq α] (f : RObj → α) (a : α) {ro : List Tree → List Tree}
    (hro : ∀ l, (ro l).Perm l) (p : Params) (hf : ∀ o, f (shrinkG p o) = f o) :
    ∀ t, cnt f a (resObjs (restrictTW ro p t)) ≤ cnt f a (objsT t) := by
  refine (restrictW_ind hro p (P := fun t r => cnt f a (resObjs r) ≤ cnt f a (objsT t))
    (Q := fun _ l r => cnt f a (resObjs r) ≤ cnt f a (objsL l)) ?_
    (fun _ l _ => Nat.le_of_eq (congrArg _ (resObjs_idRes l))) (fun _ => Nat.le_refl _) ?_).1
  · intro o ns ms ios mis rn rm r qn qm hr
    rcases hr with ⟨_, rfl⟩ | ⟨_, ns', hperm, rfl⟩
    · have hio := (cnt_objsL_ite f a p.adaptIO (ios ++ rn.io ++ rm.io)).1
      have hmi := (cnt_objsL_ite f a p.adaptMisc (mis ++ rn.misc ++ rm.misc)).1
      simp only [resObjs, objsT, objsL_append, cnt_append, cnt_cons1] at hio hmi qn qm ⊢
      rw [objsL, cnt_nil]
      omega
    · have hns := cnt_perm f a (objsL_perm hperm)
      simp only [resObjs, objsL, objsT, objsL_append, List.append_nil, cnt_append, cnt_cons1, cnt1_congr f a (hf o)] at qn qm ⊢
      omega
  · intro _ t ts r rs ht hts
    simp only [resObjs, objsL, objsL_append, cnt_append] at ht hts ⊢
    omega

/-! ### Misc and I/O objects are conserved -/

def pick (sel : Bool) (ios mis : List Tree) : List Tree := if sel then ios else mis
def adapt (sel : Bool) (p : Params) : Bool := if sel then p.adaptIO else p.adaptMisc

mutual
/-- all objects inside the I/O (resp. Misc) children lists of the normal and memory objects of a subtree -/
def specT (sel : Bool) : Tree → List RObj
  | .node _ ns ms ios mis => specL sel ns ++ specL sel ms ++ objsL (pick sel ios mis)
def specL (sel : Bool) : List Tree → List RObj
  | [] => []
  | t :: ts => specT sel t ++ specL sel ts
end

def resSpec (sel : Bool) (r : Res) : List RObj := specL sel r.kept ++ objsL (pick sel r.io r.misc)

theorem specL_eq_flatMap (sel : Bool) (l : List Tree) : specL sel l = l.flatMap (specT sel) := by
  induction l with
  | nil => rfl
  | cons t ts ih => rw [specL, ih, List.flatMap_cons]

theorem specL_append (sel : Bool) (a b : List Tree) : specL sel (a ++ b) = specL sel a ++ specL sel b := by
  simp only [specL_eq_flatMap, List.flatMap_append]

theorem specL_perm (sel : Bool) {a b : List Tree} (h : a.Perm b) : (specL sel a).Perm (specL sel b) := by
  rw [specL_eq_flatMap, specL_eq_flatMap]
  exact h.flatMap_right (specT sel)

theorem pick_append (sel : Bool) (a b c d : List Tree) : pick sel (a ++ b) (c ++ d) = pick sel a c ++ pick sel b d := by
  cases sel <;> rfl

theorem pick_nil (sel : Bool) : pick sel ([] : List Tree) [] = [] := by cases sel <;> rfl

theorem pick_adapt (sel : Bool) (p : Params) (a b : List Tree) :
    pick sel (if p.adaptIO then a else []) (if p.adaptMisc then b else []) = if adapt sel p then pick sel a b else [] := by
  cases sel <;> rfl

theorem resSpec_idRes (sel : Bool) (l : List Tree) : resSpec sel (idRes l) = specL sel l := by
  rw [resSpec, idRes, pick_nil, objsL, List.append_nil]

section spec
variable (x : RObj)

/-- conservation of Misc and I/O objects: the recursion never creates such objects and, with the corresponding ADAPT
    flag, never loses one (they are handed to the parent until a surviving ancestor takes them) -/
theorem spec_restrictTW {ro : List Tree → List Tree} (hro : ∀ l, (ro l).Perm l) (p : Params) (sel : Bool) :
    ∀ t, cnt id x (resSpec sel (restrictTW ro p t)) ≤ cnt id x (specT sel t) ∧
      (adapt sel p = true → cnt id x (resSpec sel (restrictTW ro p t)) = cnt id x (specT sel t)) := by
  refine (restrictW_ind hro p
    (P := fun t r => cnt id x (resSpec sel r) ≤ cnt id x (specT sel t) ∧
      (adapt sel p = true → cnt id x (resSpec sel r) = cnt id x (specT sel t)))
    (Q := fun _ l r => cnt id x (resSpec sel r) ≤ cnt id x (specL sel l) ∧
      (adapt sel p = true → cnt id x (resSpec sel r) = cnt id x (specL sel l))) ?_
    (fun _ l _ => by rw [resSpec_idRes]; exact ⟨Nat.le_refl _, fun _ => rfl⟩)
    (fun _ => by rw [resSpec, pick_nil]; exact ⟨Nat.le_refl _, fun _ => rfl⟩) ?_).1
  · intro o ns ms ios mis rn rm r hn hm hr
    rcases hr with ⟨⟨h1, h2, _, _⟩, rfl⟩ | ⟨_, ns', hperm, rfl⟩
    · -- removed: the lists go up with the ADAPT flag of their kind and are dropped without
      have hd := cnt_objsL_ite id x (adapt sel p) (pick sel ios mis ++ pick sel rn.io rn.misc ++ pick sel rm.io rm.misc)
      simp only [resSpec, h1, h2, specL, specT, pick_adapt, pick_append, List.nil_append, objsL_append, cnt_append] at hn hm hd ⊢
      exact ⟨by omega, fun ha => by have := hn.2 ha; have := hm.2 ha; have := hd.2 ha; omega⟩
    · have hns := cnt_perm id x (specL_perm sel hperm)
      simp only [resSpec, specL, specT, pick_nil, pick_append, objsL, objsL_append, cnt_append, List.append_nil, hns] at hn hm ⊢
      exact ⟨by omega, fun ha => by have := hn.2 ha; have := hm.2 ha; omega⟩
  · intro _ t ts r rs ht hts
    simp only [resSpec, specL, specL_append, pick_append, objsL_append, cnt_append] at ht hts ⊢
    exact ⟨by omega, fun ha => by have := ht.2 ha; have := hts.2 ha; omega⟩
end spec

/-! ### the public function -/

theorem restrict_cases (t : Topo) (s : CSet) (flags : Nat) :
    (plan t s flags = none ∧ restrict t s flags = (t, .einval)) ∨
    (∃ p, plan t s flags = some p ∧ restrictCore t p = none ∧ restrict t s flags = (t, .rootRemoved)) ∨
    (∃ p t', plan t s flags = some p ∧ restrictCore t p = some t' ∧
      restrict t s flags = ({ t' with tree := keepStructure t'.filters t'.tree }, .ok)) := by
  unfold restrict
  cases plan t s flags with
  | none => exact .inl ⟨rfl, rfl⟩
  | some p =>
    simp only []
    cases hc : restrictCore t p with
    | none => exact .inr (.inl ⟨p, rfl, hc, rfl⟩)
    | some t' => exact .inr (.inr ⟨p, t', rfl, hc, rfl⟩)

/-- a call either leaves the topology alone or runs the tree recursion and then level merging -/
theorem restrict_ind {P : Topo → Prop} (t : Topo) (s : CSet) (flags : Nat) (h0 : P t)
    (h : ∀ p t', plan t s flags = some p → restrictCore t p = some t' →
      P { t' with tree := keepStructure t'.filters t'.tree }) : P (restrict t s flags).1 := by
  rcases restrict_cases t s flags with ⟨_, e⟩ | ⟨_, _, _, e⟩ | ⟨p, t', hp, hc, e⟩ <;> rw [e]
  · exact h0
  · exact h0
  · exact h p t' hp hc

theorem restrict_einval_iff (t : Topo) (s : CSet) (flags : Nat) : (restrict t s flags).2 = .einval ↔ plan t s flags = none := by
  rcases restrict_cases t s flags with ⟨hp, e⟩ | ⟨p, hp, _, e⟩ | ⟨p, t', hp, _, e⟩ <;> rw [e, hp]
  · exact iff_of_true rfl rfl
  · exact iff_of_false nofun nofun
  · exact iff_of_false nofun nofun

theorem restrict_unchanged_of_not_ok (t : Topo) (s : CSet) (flags : Nat) (h : (restrict t s flags).2 ≠ .ok) :
    (restrict t s flags).1 = t := by
  rcases restrict_cases t s flags with ⟨_, e⟩ | ⟨_, _, _, e⟩ | ⟨_, _, _, _, e⟩ <;> rw [e] at h ⊢
  exact absurd rfl h

theorem restrict_ok_eq (t : Topo) (s : CSet) (flags : Nat) (p : Params) (t' : Topo) (hp : plan t s flags = some p)
    (hc : restrictCore t p = some t') :
    (restrict t s flags).1.tree = keepStructure t'.filters t'.tree ∧ (restrict t s flags).2 = .ok := by
  unfold restrict
  rw [hp]
  simp only [hc, and_self]

theorem restrict_ok_core (t : Topo) (s : CSet) (flags : Nat) (p : Params) (hp : plan t s flags = some p)
    (hret : (restrict t s flags).2 = .ok) :
    ∃ t', restrictCore t p = some t' ∧ (restrict t s flags).1.tree = keepStructure t'.filters t'.tree := by
  rcases restrict_cases t s flags with ⟨h, _⟩ | ⟨q, _, _, e⟩ | ⟨q, t', hq, hc, e⟩
  · rw [hp] at h; cases h
  · rw [e] at hret; cases hret
  · rw [hp] at hq; cases hq; exact ⟨t', hc, by rw [e]⟩

theorem restrict_ok_plan (t : Topo) (s : CSet) (flags : Nat) (h : (restrict t s flags).2 = .ok) : ∃ p, plan t s flags = some p := by
  cases hp : plan t s flags with
  | some p => exact ⟨p, rfl⟩
  | none => unfold restrict at h; rw [hp] at h; cases h

theorem plan_none_of_bad_flags (t : Topo) (s : CSet) (flags : Nat) (h : andnot flags allFlags ≠ 0) : plan t s flags = none := by
  rw [plan, if_pos (bne_iff_ne.2 h)]
theorem plan_none_of_cpuless_bynodeset (t : Topo) (s : CSet) (flags : Nat) (h1 : hasFlag flags flagByNodeset = true)
    (h2 : hasFlag flags flagRemoveCpuless = true) : plan t s flags = none := by
  simp only [plan, h1, h2, Bool.and_self, if_true, ite_self]
theorem plan_none_of_memless_bycpuset (t : Topo) (s : CSet) (flags : Nat) (h1 : hasFlag flags flagByNodeset = false)
    (h2 : hasFlag flags flagRemoveMemless = true) : plan t s flags = none := by
  simp only [plan, h1, h2, Bool.not_false, Bool.and_self, Bool.false_and, Bool.false_eq_true, if_true, if_false, ite_self]
theorem plan_none_of_disjoint_cpuset (t : Topo) (s : CSet) (flags : Nat) (h1 : hasFlag flags flagByNodeset = false)
    (h2 : meets t.allowedCpu s = false) : plan t s flags = none := by
  simp only [plan, h1, h2, Bool.not_false, Bool.and_self, Bool.false_and, Bool.false_eq_true, if_true, if_false, ite_self]
theorem plan_none_of_disjoint_nodeset (t : Topo) (s : CSet) (flags : Nat) (h1 : hasFlag flags flagByNodeset = true)
    (h2 : meets t.allowedNode s = false) : plan t s flags = none := by
  simp only [plan, h1, h2, Bool.not_false, Bool.not_true, Bool.and_self, Bool.false_and, Bool.false_eq_true, if_true, if_false, ite_self]

theorem plan_byCpu (t : Topo) (s : CSet) (flags : Nat) (h0 : andnot flags allFlags = 0)
    (hb : hasFlag flags flagByNodeset = false) (hr : hasFlag flags flagRemoveMemless = false)
    (hs : meets t.allowedCpu s = true) :
    plan t s flags =
      if hasFlag flags flagRemoveCpuless then
        if inside t.allowedNode (CSet.ofMask (droppedNodes t.tree s.compl)) then none
        else some ⟨s.compl, CSet.ofMask (droppedNodes t.tree s.compl), false, true, hasFlag flags flagAdaptIO,
          hasFlag flags flagAdaptMisc⟩
      else some ⟨s.compl, CSet.empty, false, false, hasFlag flags flagAdaptIO, hasFlag flags flagAdaptMisc⟩ := by
  simp only [plan, h0, hb, hr, hs, bne_self_eq_false, Bool.not_false, Bool.not_true, Bool.false_and, Bool.and_false,
    Bool.false_eq_true, if_false]

theorem plan_byNode (t : Topo) (s : CSet) (flags : Nat) (h0 : andnot flags allFlags = 0)
    (hb : hasFlag flags flagByNodeset = true) (hr : hasFlag flags flagRemoveCpuless = false)
    (hs : meets t.allowedNode s = true) :
    plan t s flags =
      if hasFlag flags flagRemoveMemless then
        if inside t.allowedCpu (CSet.ofMask (droppedPUs t.tree s.compl)) then none
        else some ⟨CSet.ofMask (droppedPUs t.tree s.compl), s.compl, true, true, hasFlag flags flagAdaptIO,
          hasFlag flags flagAdaptMisc⟩
      else some ⟨CSet.empty, s.compl, true, false, hasFlag flags flagAdaptIO, hasFlag flags flagAdaptMisc⟩ := by
  simp only [plan, h0, hb, hr, hs, bne_self_eq_false, Bool.not_true, Bool.false_and, Bool.and_false, Bool.false_eq_true,
    if_false, if_true]

theorem plan_guards (t : Topo) (s : CSet) (flags : Nat) (p : Params) (h : plan t s flags = some p) :
    andnot flags allFlags = 0 ∧
    (hasFlag flags flagByNodeset = false → hasFlag flags flagRemoveMemless = false ∧ meets t.allowedCpu s = true) ∧
    (hasFlag flags flagByNodeset = true → hasFlag flags flagRemoveCpuless = false ∧ meets t.allowedNode s = true) := by
  have hn : ∀ {q : Prop}, plan t s flags = none → q := fun e => by rw [e] at h; cases h
  refine ⟨Decidable.byContradiction fun h0 => hn (plan_none_of_bad_flags t s flags h0), fun hb => ⟨?_, ?_⟩, fun hb => ⟨?_, ?_⟩⟩
  · exact eq_false_of_ne_true fun hr => hn (plan_none_of_memless_bycpuset t s flags hb hr)
  · exact eq_true_of_ne_false fun hs => hn (plan_none_of_disjoint_cpuset t s flags hb hs)
  · exact eq_false_of_ne_true fun hr => hn (plan_none_of_cpuless_bynodeset t s flags hb hr)
  · exact eq_true_of_ne_false fun hs => hn (plan_none_of_disjoint_nodeset t s flags hb hs)

theorem plan_some (t : Topo) (s : CSet) (flags : Nat) (p : Params) (h : plan t s flags = some p) :
    p.byNode = hasFlag flags flagByNodeset ∧ p.adaptIO = hasFlag flags flagAdaptIO ∧ p.adaptMisc = hasFlag flags flagAdaptMisc ∧
    (p.byNode = false → p.dc = s.compl ∧ p.rmExempt = hasFlag flags flagRemoveCpuless ∧
        (p.rmExempt = false → p.dn = CSet.empty) ∧
        (p.rmExempt = true → p.dn = CSet.ofMask (droppedNodes t.tree s.compl) ∧ inside t.allowedNode p.dn = false)) ∧
    (p.byNode = true → p.dn = s.compl ∧ p.rmExempt = hasFlag flags flagRemoveMemless ∧
        (p.rmExempt = false → p.dc = CSet.empty) ∧
        (p.rmExempt = true → p.dc = CSet.ofMask (droppedPUs t.tree s.compl) ∧ inside t.allowedCpu p.dc = false)) := by
  obtain ⟨h0, hc, hn⟩ := plan_guards t s flags p h
  cases hb : hasFlag flags flagByNodeset
  · rw [plan_byCpu t s flags h0 hb (hc hb).1 (hc hb).2] at h
    cases hr : hasFlag flags flagRemoveCpuless <;> rw [hr] at h
    · cases h
      exact ⟨rfl, rfl, rfl, fun _ => ⟨rfl, rfl, fun _ => rfl, Bool.noConfusion⟩, Bool.noConfusion⟩
    · cases hi : inside t.allowedNode (CSet.ofMask (droppedNodes t.tree s.compl)) <;> rw [hi] at h <;> cases h
      exact ⟨rfl, rfl, rfl, fun _ => ⟨rfl, rfl, Bool.noConfusion, fun _ => ⟨rfl, hi⟩⟩, Bool.noConfusion⟩
  · rw [plan_byNode t s flags h0 hb (hn hb).1 (hn hb).2] at h
    cases hr : hasFlag flags flagRemoveMemless <;> rw [hr] at h
    · cases h
      exact ⟨rfl, rfl, rfl, Bool.noConfusion, fun _ => ⟨rfl, rfl, fun _ => rfl, Bool.noConfusion⟩⟩
    · cases hi : inside t.allowedCpu (CSet.ofMask (droppedPUs t.tree s.compl)) <;> rw [hi] at h <;> cases h
      exact ⟨rfl, rfl, rfl, Bool.noConfusion, fun _ => ⟨rfl, rfl, Bool.noConfusion, fun _ => ⟨rfl, hi⟩⟩⟩

theorem plan_dc {t : Topo} {s : CSet} {flags : Nat} {p : Params} (h : plan t s flags = some p) (hb : p.byNode = false) :
    p.dc = s.compl := ((plan_some t s flags p h).2.2.2.1 hb).1
theorem plan_dn {t : Topo} {s : CSet} {flags : Nat} {p : Params} (h : plan t s flags = some p) (hb : p.byNode = true) :
    p.dn = s.compl := ((plan_some t s flags p h).2.2.2.2 hb).1

theorem plan_some_meets (t : Topo) (s : CSet) (flags : Nat) (p : Params) (h : plan t s flags = some p) :
    (p.byNode = false → meets t.allowedCpu s = true) ∧ (p.byNode = true → meets t.allowedNode s = true) := by
  have hb := (plan_some t s flags p h).1
  have hg := plan_guards t s flags p h
  exact ⟨fun e => (hg.2.1 (hb ▸ e)).2, fun e => (hg.2.2 (hb ▸ e)).2⟩

theorem restrictCore_root (t : Topo) (p : Params) (t' : Topo) (h : restrictCore t p = some t') :
    t'.tree.obj = shrinkG p t.tree.obj ∧ t'.allowedCpu = minus t.allowedCpu p.dc ∧
    t'.allowedNode = minus t.allowedNode p.dn ∧ t'.filters = t.filters ∧ (restrictT p t.tree).kept = [t'.tree] := by
  unfold restrictCore at h
  split at h
  · rename_i root hk
    cases h
    refine ⟨?_, rfl, rfl, rfl, hk⟩
    have hm : root ∈ (restrictT p t.tree).kept := by rw [hk]; exact List.mem_singleton.2 rfl
    cases ht : t.tree with
    | node o ns ms ios mis =>
      rw [ht] at hm
      rcases restrictTW_cases reorder_perm p o ns ms ios mis _ _ rfl rfl with ⟨_, e⟩ | ⟨_, _, _, e⟩ <;> rw [restrictT, e] at hm
      · cases hm
      · rw [List.mem_singleton.1 hm]; rfl
  · exact absurd h (by simp)

theorem restrictCore_kept {t : Topo} {p : Params} {t' : Topo} (h : restrictCore t p = some t') :
    (restrictTW reorder p t.tree).kept = [t'.tree] := (restrictCore_root t p t' h).2.2.2.2

theorem restrictCore_mem {t : Topo} {p : Params} {t' : Topo} (h : restrictCore t p = some t') :
    t'.tree ∈ (restrictTW reorder p t.tree).kept := by rw [restrictCore_kept h]; exact List.mem_singleton.2 rfl

theorem restrict_filters (t : Topo) (s : CSet) (flags : Nat) : (restrict t s flags).1.filters = t.filters :=
  restrict_ind (P := fun t' => t'.filters = t.filters) t s flags rfl fun p t' _ hc => (restrictCore_root t p t' hc).2.2.2.1

/-! ### the final re-sort of children lists (hwloc__reorder_children_if_needed everywhere) permutes siblings -/

theorem fixOrder_perm (l : List Tree) : (fixOrder l).Perm l := by
  unfold fixOrder; split
  · exact reorder_perm l
  · exact .refl _

theorem obj_reorderAllT (t : Tree) : (reorderAllT t).obj = t.obj := by cases t; rw [reorderAllT]; rfl

theorem objsT_reorderAllT_perm : ∀ t, (objsT (reorderAllT t)).Perm (objsT t) :=
  Tree.ind4 fun o ns ms ios mis hn _ _ _ => by
    rw [reorderAllT, reorderAllL_eq_map, objsT, objsT]
    exact .cons o (.append_right _ (.append_right _ (.append_right _
      ((objsL_perm (fixOrder_perm _)).trans (objsL_map_perm hn)))))

/-! ### level merging -/

/-- the level loop: what every merge of two adjacent levels keeps — levels `i-1` and `i` of the list, chosen by `mergeDecision`,
    of the same structure; one of them leaves the list — holds of the tree and the level list at the end, from any index and any state -/
theorem ksLoop_ind {I : Tree → List (List RObj) → Prop} (filters : List Nat)
    (hm : ∀ T Ls i up down rc, I T Ls → 1 ≤ i → Ls[i - 1]? = some up → Ls[i]? = some down →
      mergeDecision filters up down = some rc → sameStructure (linksT none T) up down = true →
      I (mergeT (up.map (·.gp)) rc T) (if rc = true then Ls.eraseIdx i else Ls.eraseIdx (i - 1))) :
    ∀ i (st : Tree × List (List RObj) × Bool), I st.1 st.2.1 → I (ksLoop filters i st).1 (ksLoop filters i st).2.1
  | 0, _, h => h
  | i + 1, st, h => by
    rw [ksLoop]
    refine ksLoop_ind filters hm i _ ?_
    unfold ksStep
    split
    · rename_i up down hup hdown
      split
      · exact h
      · rename_i rc hdec
        split
        · rename_i hs
          exact hm st.1 st.2.1 (i + 1) up down rc h (Nat.le_add_left 1 i) hup hdown hdec hs
        · exact h
    · exact h

theorem keepStructure_ind {P : Tree → Prop} (hm : ∀ ps rc t, P t → P (mergeT ps rc t)) (hr : ∀ t, P t → P (reorderAllT t))
    (filters : List Nat) (t : Tree) (h : P t) : P (keepStructure filters t) := by
  have hl := ksLoop_ind (I := fun T _ => P T) filters (fun T _ _ up _ rc hT _ _ _ _ _ => hm (up.map (·.gp)) rc T hT)
    ((connectLevels t).length - 1) (t, connectLevels t, false) h
  unfold keepStructure
  simp only []
  split
  · exact hr _ hl
  · exact hl

/-! ### one merge of a level, case by case -/

theorem insertMem_perm (c : Tree) (l : List Tree) : (insertMem c l).Perm (c :: l) := by
  rw [Hw.InsertSort.insertRec_eq (fun x => !gtFirst x.obj.cnodeset c.obj.cnodeset) c (insertMem c) (by rw [insertMem])
    (fun _ _ h => by rw [insertMem, if_neg (by simpa using h)]) (fun _ _ h => by rw [insertMem, if_pos (by simpa using h)])]
  exact Hw.InsertSort.split_perm _ c l

theorem reorderMem_perm (l : List Tree) : (reorderMem l).Perm l := Hw.InsertSort.foldl_perm insertMem_perm l []

theorem mergedMs_perm (rc : Bool) (ms cms : List Tree) : (mergedMs rc ms cms).Perm (ms ++ cms) := by
  unfold mergedMs
  by_cases h : (if rc = true then cms.isEmpty else ms.isEmpty) = true
  · rw [if_pos h]
  · rw [if_neg h]; exact reorderMem_perm _

theorem mergeNode_single (rc : Bool) (o co : RObj) (cns cms cios cmis ms ios mis : List Tree) :
    mergeNode rc o [.node co cns cms cios cmis] ms ios mis =
      .node (if rc then o else absorbIf ms o co) cns (mergedMs rc ms cms) (ios ++ cios) (mis ++ cmis) := rfl

/-- induction over one merge of a level: a listed object with exactly one normal child is MERGED with it (the object that stays
    gets the child's normal children, a permutation of both memory lists, both I/O and both Misc lists), any other listed object
    STAYS as it is, below an unlisted object the merge goes DOWN into the normal children.  `P t t'`: `t'` is the merge of `t`. -/
theorem mergeT_ind (ps : List Nat) (rc : Bool) {P : Tree → Tree → Prop}
    (hmerge : ∀ o co cns cms cios cmis ms ios mis mm, ps.contains o.gp = true → mm.Perm (ms ++ cms) →
      P (.node o [.node co cns cms cios cmis] ms ios mis)
        (.node (if rc then o else absorbIf ms o co) cns mm (ios ++ cios) (mis ++ cmis)))
    (hstay : ∀ t, P t t)
    (hdown : ∀ o ns ms ios mis, (∀ c ∈ ns, P c (mergeT ps rc c)) →
      P (.node o ns ms ios mis) (.node o (ns.map (mergeT ps rc)) ms ios mis)) :
    ∀ t, P t (mergeT ps rc t) :=
  Tree.ind4 fun o ns ms ios mis hn _ _ _ => by
    rw [mergeT]
    split
    · rename_i hc
      unfold mergeNode
      split
      · exact hmerge _ _ _ _ _ _ _ _ _ _ hc (mergedMs_perm rc ms _)
      · exact hstay _
    · rw [mergeL_eq_map]
      exact hdown o ns ms ios mis hn

theorem absorbIf_cases {P : RObj → Prop} (ms : List Tree) {o co : RObj} (h1 : P co) (h2 : P (absorb o co)) : P (absorbIf ms o co) := by
  unfold absorbIf; split
  · exact h1
  · exact h2

section count
variable {α : Type} [DecidableEq α] (f : RObj → α) (a : α)

theorem cnt_restrictCore (t : Topo) (p : Params) (t' : Topo) (h : restrictCore t p = some t')
    (hf : ∀ o, f (shrinkG p o) = f o) : cnt f a (objsT t'.tree) ≤ cnt f a (objsT t.tree) := by
  have := cnt_restrictTW f a reorder_perm p hf t.tree
  rw [resObjs, restrictCore_kept h] at this
  simp only [objsL, List.append_nil, cnt_append] at this
  omega

omit [DecidableEq α] in
theorem absorbIf_congr (hm : ∀ o co, f (absorb o co) = f co) (ms : List Tree) (o co : RObj) : f (absorbIf ms o co) = f co :=
  absorbIf_cases (P := fun r => f r = f co) ms rfl (hm o co)

/-- a merged pair, counted: with any object `r` on top and any arrangement `mm` of the two memory lists, the new subtree together
    with the two old top objects has the objects of the old subtree and `r` -/
theorem cnt_merged (r o co : RObj) (cns cms cios cmis ms ios mis mm : List Tree) (hmm : mm.Perm (ms ++ cms)) :
    cnt f a (objsT (.node r cns mm (ios ++ cios) (mis ++ cmis))) + (cnt1 f a o + cnt1 f a co) =
      cnt1 f a r + cnt f a (objsT (.node o [.node co cns cms cios cmis] ms ios mis)) := by
  simp only [objsT, objsL, objsL_append, List.append_nil, cnt_cons1, cnt_append, cnt_perm f a (objsL_perm hmm)]
  omega

theorem cnt_merged_exact (hm : ∀ o co, f (absorb o co) = f co) (rc : Bool) (o co : RObj)
    (cns cms cios cmis ms ios mis mm : List Tree) (hmm : mm.Perm (ms ++ cms)) :
    cnt f a (objsT (.node (if rc then o else absorbIf ms o co) cns mm (ios ++ cios) (mis ++ cmis))) +
        cnt1 f a (if rc then co else o) =
      cnt f a (objsT (.node o [.node co cns cms cios cmis] ms ios mis)) := by
  have e := cnt_merged f a (if rc then o else absorbIf ms o co) o co cns cms cios cmis ms ios mis mm hmm
  cases rc
  · rw [if_neg Bool.false_ne_true, cnt1_congr f a (absorbIf_congr f hm ms o co)] at e
    rw [if_neg Bool.false_ne_true, if_neg Bool.false_ne_true]
    omega
  · rw [if_pos rfl] at e ⊢
    rw [if_pos rfl]
    omega

/-- merging one object with its single child removes exactly one of the two objects and keeps every other object of the
    subtree unchanged (the surviving child only takes over the parent's complete sets) -/
theorem cnt_mergeNode_exact (hm : ∀ o co, f (absorb o co) = f co)
    (rc : Bool) (o co : RObj) (cns cms cios cmis ms ios mis : List Tree) :
    cnt f a (objsT (mergeNode rc o [.node co cns cms cios cmis] ms ios mis)) + cnt1 f a (if rc then co else o) =
      cnt f a (objsT (.node o [.node co cns cms cios cmis] ms ios mis)) := by
  rw [mergeNode_single]
  exact cnt_merged_exact f a hm rc o co cns cms cios cmis ms ios mis _ (mergedMs_perm rc ms cms)

theorem cnt_mergeT (hm : ∀ o co, f (absorb o co) = f co) (ps : List Nat) (rc : Bool) :
    ∀ t, cnt f a (objsT (mergeT ps rc t)) ≤ cnt f a (objsT t) :=
  mergeT_ind ps rc (P := fun t t' => cnt f a (objsT t') ≤ cnt f a (objsT t))
    (fun o co cns cms cios cmis ms ios mis mm _ hmm =>
      Nat.le.intro (cnt_merged_exact f a hm rc o co cns cms cios cmis ms ios mis mm hmm))
    (fun _ => Nat.le_refl _)
    fun o ns ms ios mis hn => by
      have := cnt_objsL_map_le f a hn
      simp only [objsT, cnt_cons1, cnt_append]
      omega

theorem cnt_mergeL (hm : ∀ o co, f (absorb o co) = f co) (ps : List Nat) (rc : Bool) :
    ∀ l, cnt f a (objsL (mergeL ps rc l)) ≤ cnt f a (objsL l) := fun l => by
  rw [mergeL_eq_map]
  exact cnt_objsL_map_le f a fun c _ => cnt_mergeT f a hm ps rc c

/-- level merging never creates an object and changes nothing but the complete sets of a child that replaces its parent -/
theorem cnt_keepStructure (hm : ∀ o co, f (absorb o co) = f co) (filters : List Nat) (t : Tree) :
    cnt f a (objsT (keepStructure filters t)) ≤ cnt f a (objsT t) :=
  keepStructure_ind (P := fun t' => cnt f a (objsT t') ≤ cnt f a (objsT t))
    (fun ps rc t' h => Nat.le_trans (cnt_mergeT f a hm ps rc t') h)
    (fun t' h => by rw [cnt_perm f a (objsT_reorderAllT_perm t')]; exact h) filters t (Nat.le_refl _)

/-- whole call: for every attribute that neither the set clearing nor the merge of complete sets changes, the multiset of
    its values over the objects after the call is included in the multiset before the call (in particular: no object is
    created, duplicated or re-typed) -/
theorem cnt_restrict (t : Topo) (s : CSet) (flags : Nat) (hf : ∀ p o, f (shrinkG p o) = f o)
    (hm : ∀ o co, f (absorb o co) = f co) :
    cnt f a (objsT (restrict t s flags).1.tree) ≤ cnt f a (objsT t.tree) :=
  restrict_ind (P := fun t' => cnt f a (objsT t'.tree) ≤ cnt f a (objsT t.tree)) t s flags (Nat.le_refl _)
    fun p t' _ hc => Nat.le_trans (cnt_keepStructure f a hm _ _) (cnt_restrictCore f a t p t' hc (hf p))

/-- the call creates no object and changes nothing but sets -/
theorem all_ident_restrict {q : RObj → Prop} (t : Topo) (s : CSet) (flags : Nat) (h : ∀ x ∈ objsT t.tree, q (ident x)) :
    ∀ x ∈ objsT (restrict t s flags).1.tree, q (ident x) := fun x hx => by
  obtain ⟨x0, hx0, e⟩ := mem_of_cnt_le (fun a => cnt_restrict ident a t s flags (fun p o => ident_shrinkG p o) (fun _ _ => rfl)) hx
  rw [← e]; exact h x0 hx0

def runCalls (t : Topo) (calls : List (CSet × Nat)) : Topo := calls.foldl (fun t c => (restrict t c.1 c.2).1) t

theorem runCalls_ind {P : Topo → Prop} (h : ∀ t s flags, P t → P (restrict t s flags).1) :
    ∀ (calls : List (CSet × Nat)) (t : Topo), P t → P (runCalls t calls) :=
  fun calls _ h0 => List.foldlRecOn calls _ h0 fun t ht c _ => h t c.1 c.2 ht

theorem cnt_runCalls (hf : ∀ p o, f (shrinkG p o) = f o) (hm : ∀ o co, f (absorb o co) = f co)
    (calls : List (CSet × Nat)) (t : Topo) : cnt f a (objsT (runCalls t calls).tree) ≤ cnt f a (objsT t.tree) :=
  runCalls_ind (P := fun t' => cnt f a (objsT t'.tree) ≤ cnt f a (objsT t.tree))
    (fun t' s flags h => Nat.le_trans (cnt_restrict f a t' s flags hf hm) h) calls t (Nat.le_refl _)
end count

/-! ### the PU rule and the NUMA rule -/

theorem meets_bit (k : Nat) (d : CSet) : meets (1 <<< k) d = d.mem k := by
  cases h : d.mem k
  · exact (meets_false_iff _ _).2 (fun i hi => by
      rw [testBit_one_shl] at hi; have := of_decide_eq_true hi; subst this; exact h)
  · cases hm : meets (1 <<< k) d
    · have := (meets_false_iff _ _).1 hm k (by rw [testBit_one_shl]; exact decide_eq_true rfl)
      rw [h] at this; exact absurd this (by simp)
    · rfl

theorem minus_bit_of_mem (k : Nat) (d : CSet) (h : d.mem k = true) : minus (1 <<< k) d = 0 := by
  apply Nat.eq_of_testBit_eq; intro i
  rw [testBit_minus, testBit_one_shl, Nat.zero_testBit]
  by_cases hk : k = i
  · subst hk; simp [h]
  · simp [hk]

theorem leaf_kept_nil_iff (p : Params) (o : RObj) (ios mis : List Tree) :
    (restrictT p (.node o [] [] ios mis)).kept = [] ↔ (emptyAfter p (shrinkG p o) = true ∧ removable p o.type = true) := by
  have h1 : (if touched p o = true then restrictLW reorder p [] else idRes []).kept = [] := by
    split
    · rw [restrictLW_nil]
    · rfl
  unfold restrictT
  rw [restrictTW_kept_nil_iff reorder_perm]
  exact ⟨fun h => h.2.2, fun h => ⟨h1, h1, h⟩⟩

theorem leaf_rule_cpu (p : Params) (hb : p.byNode = false) (o : RObj) (k : Nat) (hc : o.cpuset = 1 <<< k) (hcc : o.ccpuset = 1 <<< k)
    (hty : o.type ≠ tNUMA) (ios mis : List Tree) :
    (restrictT p (.node o [] [] ios mis)).kept = [] ↔ p.dc.mem k = true := by
  have hrem : removable p o.type = true := by
    unfold removable; rw [hb]; simp [hty]
  have hemp : emptyAfter p (shrinkG p o) = p.dc.mem k := by
    simp only [emptyAfter, hb, Bool.false_eq_true, if_false, shrinkG_cpuset, hcc, hc, meets_bit]
    cases hm : p.dc.mem k
    · exact beq_eq_false_iff_ne.2 (one_shl_ne_zero k)
    · rw [if_pos rfl, minus_bit_of_mem k _ hm]; rfl
  rw [leaf_kept_nil_iff, hemp, hrem]
  exact and_iff_left rfl

/-- PU rule: under a restrict by cpuset to `S`, a PU object (leaf, cpuset = complete cpuset = {os_index}) survives iff
    its os_index is in `S` -/
theorem pu_rule (t : Topo) (s : CSet) (flags : Nat) (p : Params) (hp : plan t s flags = some p) (hb : p.byNode = false)
    (o : RObj) (hty : o.type = tPU) (hc : o.cpuset = osBit o) (hcc : o.ccpuset = osBit o) (ios mis : List Tree) :
    (restrictT p (.node o [] [] ios mis)).kept ≠ [] ↔ s.mem o.osidx.toNat = true := by
  have hdc : p.dc = s.compl := plan_dc hp hb
  rw [Ne, leaf_rule_cpu p hb o o.osidx.toNat hc hcc (by rw [hty]; decide) ios mis, hdc, CSet.mem_compl]
  cases s.mem o.osidx.toNat <;> simp

/-- NUMA rule: under a restrict by cpuset a NUMA node (leaf) disappears iff REMOVE_CPULESS was given and its cpuset is
    empty afterwards -/
theorem numa_rule (p : Params) (hb : p.byNode = false) (o : RObj) (hty : o.type = tNUMA) (ios mis : List Tree) :
    (restrictT p (.node o [] [] ios mis)).kept = [] ↔ (p.rmExempt = true ∧ (shrinkG p o).cpuset = 0) := by
  have hrem : removable p o.type = p.rmExempt := by
    unfold removable; rw [hb, hty]; simp
  have hemp : emptyAfter p (shrinkG p o) = ((shrinkG p o).cpuset == 0) := by
    unfold emptyAfter; rw [hb]; rfl
  rw [leaf_kept_nil_iff, hrem, hemp, beq_iff_eq]
  exact and_comm

/-! ### the root is never removed -/

theorem meets_true_exists {x : Nat} {d : CSet} (h : meets x d = true) : ∃ i, x.testBit i = true ∧ d.mem i = true := by
  rw [meets_eq_minus_compl, bne_iff_ne] at h
  obtain ⟨i, hi⟩ := Nat.exists_testBit_of_ne_zero h
  rw [testBit_minus_compl] at hi
  exact ⟨i, Bool.and_eq_true_iff.1 hi⟩

theorem guarded_minus_compl_ne_zero {a x : Nat} {s : CSet} (c : Bool) (hs : meets a s = true) (hx : subset a x = true) :
    (if c then minus x s.compl else x) ≠ 0 := by
  obtain ⟨i, hi, hsi⟩ := meets_true_exists hs
  have hxi := subset_iff_bits.1 hx i hi
  refine ne_zero_iff.2 ⟨i, ?_⟩
  cases c
  · exact hxi
  · rw [if_pos rfl, testBit_minus_compl, hxi, hsi]; rfl

/-- a planned restrict never removes the root (the NULL-parent dereference of the C code is unreachable) when the allowed
    sets are included in the root's sets (C01 clause allowed-sets) -/
theorem restrictCore_isSome (t : Topo) (s : CSet) (flags : Nat) (p : Params) (hp : plan t s flags = some p)
    (hac : subset t.allowedCpu t.tree.obj.cpuset = true) (han : subset t.allowedNode t.tree.obj.nodeset = true) :
    ∃ t', restrictCore t p = some t' := by
  have hm := plan_some_meets t s flags p hp
  cases ht : t.tree with
  | node o ns ms ios mis =>
    rw [ht] at hac han
    have hne : emptyAfter p (shrinkG p o) = false := by
      unfold emptyAfter
      cases hb : p.byNode
      · rw [if_neg Bool.false_ne_true, shrinkG_cpuset, plan_dc hp hb]
        exact beq_eq_false_iff_ne.2 (guarded_minus_compl_ne_zero _ (hm.1 hb) hac)
      · rw [if_pos rfl, shrinkG_nodeset, plan_dn hp hb]
        exact beq_eq_false_iff_ne.2 (guarded_minus_compl_ne_zero _ (hm.2 hb) han)
    unfold restrictCore
    rw [ht]
    rcases restrictTW_cases reorder_perm p o ns ms ios mis _ _ rfl rfl with ⟨hc, _⟩ | ⟨_, _, _, e⟩
    · rw [hc.2.2.1] at hne
      cases hne
    · rw [restrictT, e]; exact ⟨_, rfl⟩

/-! ### SetsOK is preserved (the set clauses of well-formedness) -/

theorem okT_node (o : RObj) (ns ms ios mis : List Tree) :
    okT (.node o ns ms ios mis) = true ↔
      (subset o.cpuset o.ccpuset = true ∧ subset o.nodeset o.cnodeset = true ∧ okL o ns = true ∧ okL o ms = true ∧
       (∀ x ∈ objsL ios, zeroSets x = true) ∧ (∀ x ∈ objsL mis, zeroSets x = true)) := by
  rw [okT]; simp only [Bool.and_eq_true, List.all_eq_true, and_assoc]

theorem okL_cons (par : RObj) (t : Tree) (ts : List Tree) :
    okL par (t :: ts) = true ↔ (subset t.obj.ccpuset par.ccpuset = true ∧ subset t.obj.cnodeset par.cnodeset = true ∧
      okT t = true ∧ okL par ts = true) := by
  rw [okL]; simp only [Bool.and_eq_true, and_assoc]

theorem okL_iff (par : RObj) (l : List Tree) :
    okL par l = true ↔ ∀ t ∈ l, subset t.obj.ccpuset par.ccpuset = true ∧ subset t.obj.cnodeset par.cnodeset = true ∧ okT t = true := by
  induction l with
  | nil => simp [okL]
  | cons t ts ih =>
    rw [okL_cons, ih]
    simp only [List.mem_cons, forall_eq_or_imp, and_assoc]

theorem okL_perm (par : RObj) {a b : List Tree} (h : a.Perm b) : okL par a = true ↔ okL par b = true := by
  rw [okL_iff, okL_iff]
  exact ⟨fun H t ht => H t (h.mem_iff.2 ht), fun H t ht => H t (h.mem_iff.1 ht)⟩

theorem okL_mono {par par' : RObj} {l : List Tree} (h : okL par l = true)
    (hc : subset par.ccpuset par'.ccpuset = true) (hn : subset par.cnodeset par'.cnodeset = true) : okL par' l = true := by
  rw [okL_iff] at h ⊢
  intro t ht
  exact ⟨subset_trans (h t ht).1 hc, subset_trans (h t ht).2.1 hn, (h t ht).2.2⟩

theorem okL_append {par : RObj} {a b : List Tree} (ha : okL par a = true) (hb : okL par b = true) : okL par (a ++ b) = true := by
  rw [okL_iff] at ha hb ⊢
  intro t ht
  rcases List.mem_append.1 ht with h | h
  · exact ha t h
  · exact hb t h

theorem okL_map {g : Tree → Tree} {par : RObj} {l : List Tree}
    (h : ∀ c ∈ l, okT c = true → okT (g c) = true ∧ subset (g c).obj.ccpuset c.obj.ccpuset = true ∧
      subset (g c).obj.cnodeset c.obj.cnodeset = true) (hl : okL par l = true) : okL par (l.map g) = true := by
  rw [okL_iff] at hl ⊢
  intro t ht
  obtain ⟨c, hc, rfl⟩ := List.mem_map.1 ht
  have := h c hc (hl c hc).2.2
  exact ⟨subset_trans this.2.1 (hl c hc).1, subset_trans this.2.2 (hl c hc).2.1, this.1⟩

def zeroL (l : List Tree) : Prop := ∀ x ∈ objsL l, zeroSets x = true

theorem zeroL_append {a b : List Tree} (ha : zeroL a) (hb : zeroL b) : zeroL (a ++ b) := by
  intro x hx; rw [objsL_append, List.mem_append] at hx
  rcases hx with hx | hx
  · exact ha x hx
  · exact hb x hx
theorem zeroL_nil : zeroL [] := by intro x hx; rw [objsL] at hx; cases hx

/-- the tree recursion preserves SetsOK, and every survivor is the old object with every set minus the dropped resources -/
theorem ok_restrictTW {ro : List Tree → List Tree} (hro : ∀ l, (ro l).Perm l) (p : Params) :
    ∀ t, okT t = true →
      (∀ k ∈ (restrictTW ro p t).kept, okT k = true ∧ k.obj = shrinkU p t.obj) ∧
      zeroL (restrictTW ro p t).io ∧ zeroL (restrictTW ro p t).misc := by
  refine (restrictW_ind hro p
    (P := fun t r => okT t = true → (∀ k ∈ r.kept, okT k = true ∧ k.obj = shrinkU p t.obj) ∧ zeroL r.io ∧ zeroL r.misc)
    (Q := fun par l r => okL par l = true → subset par.cpuset par.ccpuset = true → subset par.nodeset par.cnodeset = true →
      okL (shrinkU p par) r.kept = true ∧ zeroL r.io ∧ zeroL r.misc) ?_ ?_ ?_ ?_).1
  · intro o ns ms ios mis rn rm r qn qm hr hok
    obtain ⟨h1, h2, h3, h4, h5, h6⟩ := (okT_node o ns ms ios mis).1 hok
    have qn := qn h3 h1 h2
    have qm := qm h4 h1 h2
    have hio := zeroL_append (zeroL_append h5 qn.2.1) qm.2.1
    have hmisc := zeroL_append (zeroL_append h6 qn.2.2) qm.2.2
    rcases hr with ⟨_, rfl⟩ | ⟨_, ns', hperm, rfl⟩
    · exact ⟨fun k hk => (nomatch hk), ite_nil _ zeroL_nil hio, ite_nil _ zeroL_nil hmisc⟩
    · rw [shrinkG_eq_shrinkU p o h1 h2]
      exact ⟨List.forall_mem_singleton.2 ⟨(okT_node ..).2 ⟨minus_mono _ h1, minus_mono _ h2, (okL_perm _ hperm).2 qn.1, qm.1, hio, hmisc⟩, rfl⟩,
        zeroL_nil, zeroL_nil⟩
  · -- nothing below an untouched object changes, and the object itself does not either
    intro par l ht hok h1 h2
    rw [shrinkU_of_untouched p par h1 h2 ht]
    exact ⟨hok, zeroL_nil, zeroL_nil⟩
  · exact fun par _ _ _ => ⟨by rw [okL], zeroL_nil, zeroL_nil⟩
  · intro par t ts r rs ht hts hok s1 s2
    obtain ⟨h1, h2, h3, h4⟩ := (okL_cons par t ts).1 hok
    have a := ht h3
    have b := hts h4 s1 s2
    refine ⟨okL_append ((okL_iff _ _).2 fun k hk => ?_) b.1, zeroL_append a.2.1 b.2.1, zeroL_append a.2.2 b.2.2⟩
    rw [(a.1 k hk).2]
    exact ⟨minus_mono _ h1, minus_mono _ h2, (a.1 k hk).1⟩

/-! ### level merging: which objects may disappear -/

/-- the decision of hwloc_filter_levels_keep_structure: the child level is dropped only if its type is filtered
    KEEP_STRUCTURE or it is a Die level directly below a Package level; the parent level only if its type is filtered
    KEEP_STRUCTURE -/
theorem mergeDecision_sound (filters : List Nat) (up down : List RObj) (o1 o2 : RObj)
    (h1 : up.head? = some o1) (h2 : down.head? = some o2) :
    (mergeDecision filters up down = some true →
        filterOf filters o2.type = filterKeepStructure ∨ (o1.type = tPACKAGE ∧ o2.type = tDIE)) ∧
    (mergeDecision filters up down = some false → filterOf filters o1.type = filterKeepStructure) := by
  unfold mergeDecision
  rw [h1, h2]
  simp only []
  -- the outcome depends only on the two KEEP_STRUCTURE tests and, when both fail, on the Package/Die test
  generalize hp : (filterOf filters o1.type == filterKeepStructure && !(o1.type == tGROUP && dontMergeLevel up)) = rp
  generalize hc : (filterOf filters o2.type == filterKeepStructure && !(o2.type == tGROUP && dontMergeLevel down)) = rc
  generalize he : (o1.type == tPACKAGE && o2.type == tDIE) = e
  have hp : rp = true → filterOf filters o1.type = filterKeepStructure :=
    fun h => beq_iff_eq.1 (Bool.and_eq_true_iff.1 (hp.trans h)).1
  have hc : rc = true → filterOf filters o2.type = filterKeepStructure :=
    fun h => beq_iff_eq.1 (Bool.and_eq_true_iff.1 (hc.trans h)).1
  have he : e = true → o1.type = tPACKAGE ∧ o2.type = tDIE := fun h =>
    ⟨beq_iff_eq.1 (Bool.and_eq_true_iff.1 (he.trans h)).1, beq_iff_eq.1 (Bool.and_eq_true_iff.1 (he.trans h)).2⟩
  cases rp <;> cases rc
  · cases e
    · exact ⟨nofun, nofun⟩
    · exact ⟨fun _ => .inr (he rfl), nofun⟩
  · exact ⟨fun _ => .inl (hc rfl), nofun⟩
  · exact ⟨nofun, fun _ => hp rfl⟩
  · exact ⟨fun _ => .inl (hc rfl), fun _ => hp rfl⟩

/-! ### level merging preserves SetsOK (hwloc fix e57fd49) -/

theorem ok_mergeT (ps : List Nat) (rc : Bool) :
    ∀ t, okT t = true → okT (mergeT ps rc t) = true ∧ subset (mergeT ps rc t).obj.ccpuset t.obj.ccpuset = true ∧
      subset (mergeT ps rc t).obj.cnodeset t.obj.cnodeset = true :=
  mergeT_ind ps rc (P := fun t t' => okT t = true → okT t' = true ∧ subset t'.obj.ccpuset t.obj.ccpuset = true ∧
      subset t'.obj.cnodeset t.obj.cnodeset = true)
    (fun o co cns cms cios cmis ms ios mis mm _ hmm h => by
      obtain ⟨h1, h2, h3, h4, h5, h6⟩ := (okT_node _ _ _ _ _).1 h
      obtain ⟨c1, c2, c3, _⟩ := (okL_cons _ _ _).1 h3
      obtain ⟨d1, d2, d3, d4, d5, d6⟩ := (okT_node _ _ _ _ _).1 c3
      -- any object may go on top whose complete sets include the child's and those of the parent's memory children
      have key : ∀ r : RObj, subset r.cpuset r.ccpuset = true → subset r.nodeset r.cnodeset = true →
          subset co.ccpuset r.ccpuset = true → subset co.cnodeset r.cnodeset = true → okL r ms = true →
          okT (.node r cns mm (ios ++ cios) (mis ++ cmis)) = true := fun r r1 r2 r3 r4 r5 =>
        (okT_node ..).2 ⟨r1, r2, okL_mono d3 r3 r4, (okL_perm _ hmm).2 (okL_append r5 (okL_mono d4 r3 r4)),
          zeroL_append h5 d5, zeroL_append h6 d6⟩
      cases rc
      · -- the child replaces the parent and, if memory children come along, takes over its complete sets
        cases ms with
        | nil => exact ⟨key co d1 d2 (subset_refl _) (subset_refl _) rfl, c1, c2⟩
        | cons m ms' =>
          have e1 : subset co.ccpuset (absorb o co).ccpuset = true := subset_or_left _ _
          have e2 : subset co.cnodeset (absorb o co).cnodeset = true := subset_or_left _ _
          exact ⟨key _ (subset_trans d1 e1) (subset_trans d2 e2) e1 e2 (okL_mono h4 (subset_or_right _ _) (subset_or_right _ _)),
            or_subset c1 (subset_refl _), or_subset c2 (subset_refl _)⟩
      · exact ⟨key o h1 h2 c1 c2 h4, subset_refl _, subset_refl _⟩)
    (fun _ h => ⟨h, subset_refl _, subset_refl _⟩)
    fun o ns ms ios mis hn hok => by
      rw [okT_node] at hok
      exact ⟨(okT_node _ _ _ _ _).2 ⟨hok.1, hok.2.1, okL_map hn hok.2.2.1, hok.2.2.2⟩, subset_refl _, subset_refl _⟩

theorem ok_reorderAllT : ∀ t, okT t = true → okT (reorderAllT t) = true :=
  Tree.ind4 fun o ns ms ios mis hn _ _ _ hok => by
    rw [okT_node] at hok
    rw [reorderAllT, reorderAllL_eq_map, okT_node]
    exact ⟨hok.1, hok.2.1, (okL_perm o (fixOrder_perm _)).2 (okL_map (fun c hc h => ⟨hn c hc h, by
      rw [obj_reorderAllT c]; exact ⟨subset_refl _, subset_refl _⟩⟩) hok.2.2.1), hok.2.2.2⟩

theorem ok_keepStructure (filters : List Nat) (t : Tree) (h : okT t = true) : okT (keepStructure filters t) = true :=
  keepStructure_ind (P := fun t => okT t = true) (fun ps rc t h => (ok_mergeT ps rc t h).1) ok_reorderAllT filters t h

theorem restrictCore_ok (t : Topo) (p : Params) (t' : Topo) (h : restrictCore t p = some t') (hok : okT t.tree = true) :
    okT t'.tree = true ∧ t'.tree.obj = shrinkU p t.tree.obj :=
  (ok_restrictTW reorder_perm p t.tree hok).1 t'.tree (restrictCore_mem h)

theorem ok_restrict (t : Topo) (s : CSet) (flags : Nat) (h : okT t.tree = true) : okT (restrict t s flags).1.tree = true :=
  restrict_ind (P := fun t' => okT t'.tree = true) t s flags h
    fun p t' _ hc => ok_keepStructure _ _ (restrictCore_ok t p t' hc h).1

theorem ok_runCalls (calls : List (CSet × Nat)) (t : Topo) : okT t.tree = true → okT (runCalls t calls).tree = true :=
  runCalls_ind (P := fun t => okT t.tree = true) ok_restrict calls t

/-! ### exactness under SetsOK: no object keeps a dropped resource -/

theorem shrinkU_of_zero (p : Params) (x : RObj) (h : zeroSets x = true) : shrinkU p x = x := by
  unfold zeroSets at h
  simp only [Bool.and_eq_true, beq_iff_eq] at h
  obtain ⟨⟨⟨h1, h2⟩, h3⟩, h4⟩ := h
  cases x
  simp only [shrinkU, shrinkCpu, shrinkNode] at *
  subst h1 h2 h3 h4
  simp only [minus_zero]

theorem untouched_of_subset {p : Params} {o par : RObj} (hc : subset o.ccpuset par.ccpuset = true)
    (hn : subset o.cnodeset par.cnodeset = true) (h : touched p par = false) : touched p o = false := by
  have h := Bool.or_eq_false_iff.1 h
  exact Bool.or_eq_false_iff.2 ⟨not_meets_of_subset hc h.1, not_meets_of_subset hn h.2⟩

theorem not_meets_of_minus_eq {x : Nat} {d : CSet} (h : minus x d = x) : meets x d = false :=
  (meets_false_iff x d).2 fun i hi => by
    have e := testBit_minus x d i
    rw [h, hi] at e
    cases hd : d.mem i
    · rfl
    · rw [hd] at e; cases e

theorem untouched_of_fix {p : Params} {o : RObj} (h : shrinkU p o = o) : touched p o = false :=
  Bool.or_eq_false_iff.2 ⟨not_meets_of_minus_eq (congrArg RObj.ccpuset h), not_meets_of_minus_eq (congrArg RObj.cnodeset h)⟩

/-- under SetsOK nothing below an untouched object contains a dropped resource -/
theorem untouched_fixT (p : Params) : ∀ t, okT t = true → touched p t.obj = false → ∀ x ∈ objsT t, shrinkU p x = x :=
  Tree.indNM fun o ns ms ios mis hn hm hok ht => by
    obtain ⟨h1, h2, h3, h4, h5, h6⟩ := (okT_node o ns ms ios mis).1 hok
    -- a normal or memory child has its complete sets inside the object's, so it is untouched too
    have below : ∀ l, okL o l = true → (∀ c ∈ l, okT c = true → touched p c.obj = false → ∀ x ∈ objsT c, shrinkU p x = x) →
        ∀ x ∈ objsL l, shrinkU p x = x := fun l hl ih => forall_objsL.2 fun c hc =>
      let ⟨c1, c2, c3⟩ := (okL_iff o l).1 hl c hc
      ih c hc c3 (untouched_of_subset c1 c2 ht)
    simp only [objsT, List.forall_mem_cons, List.forall_mem_append]
    exact ⟨shrinkU_of_untouched p _ h1 h2 ht, ⟨⟨below ns h3 hn, below ms h4 hm⟩, fun x hx => shrinkU_of_zero p x (h5 x hx)⟩,
      fun x hx => shrinkU_of_zero p x (h6 x hx)⟩

theorem cnt_of_fix {α : Type} [DecidableEq α] (g : RObj → α) (p : Params) (a : α) {l : List RObj}
    (h : ∀ x ∈ l, shrinkU p x = x) : cnt g a l = cnt (fun x => g (shrinkU p x)) a l :=
  congrArg (List.count a) (List.map_congr_left fun x hx => by rw [h x hx])

/-- exact sets of every survivor: under SetsOK each object after the tree recursion has all four sets disjoint from the
    dropped resources, and the multiset of objects is included in the multiset of "old object with every set minus the
    dropped resources" -/
theorem restrictCore_exact (t : Topo) (p : Params) (t' : Topo) (h : restrictCore t p = some t') (hok : okT t.tree = true)
    (a : RObj) :
    (∀ x ∈ objsT t'.tree, shrinkU p x = x) ∧ cnt id a (objsT t'.tree) ≤ cnt (shrinkU p) a (objsT t.tree) := by
  obtain ⟨hok', hobj⟩ := restrictCore_ok t p t' h hok
  have hfix := untouched_fixT p t'.tree hok' (untouched_of_fix (by rw [hobj, shrinkU_idem]))
  refine ⟨hfix, ?_⟩
  rw [cnt_of_fix id p a hfix]
  exact cnt_restrictCore (shrinkU p) a t p t' h (fun o => shrinkU_shrinkG p o)

/-! ### level merging makes no object but `absorb o co` of two objects -/

section
variable {q : RObj → Prop} (hq : ∀ o co, q o → q co → q (absorb o co))
include hq

theorem all_mergeT (ps : List Nat) (rc : Bool) : ∀ t, (∀ x ∈ objsT t, q x) → ∀ x ∈ objsT (mergeT ps rc t), q x :=
  mergeT_ind ps rc (P := fun t t' => (∀ x ∈ objsT t, q x) → ∀ x ∈ objsT t', q x)
    (fun o co cns cms cios cmis ms ios mis mm _ hmm h => by
      -- `∀ x ∈ a ++ b` read as a conjunction: every list of the new subtree is made of old ones, only the object on top may be new
      simp only [objsT, objsL, objsL_append, List.append_nil, List.forall_mem_cons, List.forall_mem_append,
        (objsL_perm hmm).mem_iff] at h ⊢
      obtain ⟨ho, ⟨⟨⟨hco, ⟨⟨hcns, hcms⟩, hcios⟩, hcmis⟩, hms⟩, hios⟩, hmis⟩ := h
      refine ⟨?_, ⟨⟨hcns, hms, hcms⟩, hios, hcios⟩, hmis, hcmis⟩
      cases rc
      · exact absorbIf_cases ms hco (hq o co ho hco)
      · exact ho)
    (fun _ h => h)
    fun o ns ms ios mis hn h => by
      simp only [objsT, List.forall_mem_cons, List.forall_mem_append, forall_objsL, List.forall_mem_map] at h ⊢
      exact ⟨h.1, ⟨⟨fun c hc => hn c hc (h.2.1.1.1 c hc), h.2.1.1.2⟩, h.2.1.2⟩, h.2.2⟩

theorem all_keepStructure (filters : List Nat) (t : Tree) (h : ∀ x ∈ objsT t, q x) : ∀ x ∈ objsT (keepStructure filters t), q x :=
  keepStructure_ind (P := fun t => ∀ x ∈ objsT t, q x) (fun ps rc t h => all_mergeT hq ps rc t h)
    (fun t h x hx => h x ((objsT_reorderAllT_perm t).mem_iff.1 hx)) filters t h
end

theorem fix_absorb (p : Params) (o co : RObj) (h1 : shrinkU p o = o) (h2 : shrinkU p co = co) :
    shrinkU p (absorb o co) = absorb o co := by
  cases o; cases co
  simp only [shrinkU, shrinkCpu, shrinkNode, absorb, RObj.mk.injEq, true_and] at *
  obtain ⟨a1, a2, a3, a4, _⟩ := h1
  obtain ⟨b1, b2, b3, b4, _⟩ := h2
  refine ⟨b1, ?_, b3, ?_⟩
  · rw [minus_or, a2, b2]
  · rw [minus_or, a4, b4]; exact ⟨rfl, trivial⟩

/-- level merging brings no dropped resource back, SetsOK or not -/
theorem fix_keepStructure (p : Params) (filters : List Nat) (t : Tree) (h : ∀ x ∈ objsT t, shrinkU p x = x) :
    ∀ x ∈ objsT (keepStructure filters t), shrinkU p x = x :=
  all_keepStructure (fix_absorb p) filters t h

/-- an object without its complete sets (level merging may or the parent's complete sets into a surviving child) -/
def noComplete (o : RObj) : RObj := { o with ccpuset := 0, cnodeset := 0 }

theorem noComplete_absorb (p : Params) (o co : RObj) : noComplete (shrinkU p (absorb o co)) = noComplete (shrinkU p co) := by
  cases o; cases co; rfl

/-- exact sets after the whole call (tree recursion + level merging), under SetsOK: every object has all four sets free
    of dropped resources; and the multiset of objects, complete sets left aside, is included in the multiset of "old object
    with cpuset and nodeset minus the dropped resources" -/
theorem restrict_exact (t : Topo) (s : CSet) (flags : Nat) (p : Params) (hp : plan t s flags = some p)
    (hret : (restrict t s flags).2 = .ok) (hok : okT t.tree = true) (a : RObj) :
    (∀ x ∈ objsT (restrict t s flags).1.tree, shrinkU p x = x) ∧
    cnt noComplete a (objsT (restrict t s flags).1.tree) ≤ cnt (fun x => noComplete (shrinkU p x)) a (objsT t.tree) := by
  obtain ⟨t', hc, hres⟩ := restrict_ok_core t s flags p hp hret
  rw [hres]
  have hfix := fix_keepStructure p t'.filters t'.tree (restrictCore_exact t p t' hc hok a).1
  refine ⟨hfix, ?_⟩
  rw [cnt_of_fix noComplete p a hfix]
  exact Nat.le_trans
    (cnt_keepStructure (fun x => noComplete (shrinkU p x)) a (fun o co => noComplete_absorb p o co) _ _)
    (cnt_restrictCore (fun x => noComplete (shrinkU p x)) a t p t' hc (fun o => by rw [shrinkU_shrinkG]))

end Hw.Topo.Restrict
