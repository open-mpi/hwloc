/-
  Hw.Topo.StageSymmetric — `hwloc_propagate_symmetric_subtree` (hwloc/topology.c) on the four-list tree, as the C runs:

      root->symmetric_subtree = 0;
      if (!arity) goto good;
      for_each_child(child, root) { recurse(child); if (!child->symmetric_subtree) ok = 0; }      -- normal children only
      if (!ok) return;
      if (arity == 1) goto good;
      array = copy of root->children;
      while (1) {
        for (i = 1; i < arity; i++) if (array[i]->depth != array[0]->depth || array[i]->arity != array[0]->arity) return;
        if (!array[0]->arity) break;
        for (i = 0; i < arity; i++) array[i] = array[i]->first_child;
      }
     good: root->symmetric_subtree = 1;

  `dep` = the `depth` field of a normal object (written by hwloc_connect_levels; `depthIn (connectLevels t)` = the index of the
  level of `connectLevels t` that holds the object).  Memory, I/O and Misc children are never read.
-/
import Hw.Topo.Render
namespace Hw.Topo.Restrict.Stage
open Hw.Topo Hw.Topo.Restrict

/-- one pass of the `for (i = 1; …)` comparison: every other entry has the depth and the arity of entry 0 -/
def rowSame (dep : RObj → Int) (a0 : Tree) (rest : List Tree) : Bool :=
  rest.all (fun a => dep a.obj == dep a0.obj && a.ns.length == a0.ns.length)

/-- the `while (1)` loop over the array; `fuel` bounds the number of rows (`walk_iff` with `spineL_length_le`: the size of the subtrees suffices; running
    out of fuel answers `false`, which never happens with that bound).  After a successful comparison with `array[0]->arity != 0`
    every entry has a first child, so `filterMap` steps every entry. -/
def walk (dep : RObj → Int) : Nat → List Tree → Bool
  | _, [] => true
  | 0, _ :: _ => false
  | f + 1, a0 :: rest =>
    if rowSame dep a0 rest then
      if a0.ns.isEmpty then true else walk dep f ((a0 :: rest).filterMap (fun a => a.ns.head?))
    else false

mutual
/-- the value left in `symmetric_subtree` of the root of `t` -/
def symT (dep : RObj → Int) : Tree → Bool
  | .node _ ns _ _ _ => ns.isEmpty || (symAllL dep ns && (ns.length == 1 || walk dep (sizeL ns) ns))
/-- `ok`: every normal child is symmetric -/
def symAllL (dep : RObj → Int) : List Tree → Bool
  | [] => true
  | t :: ts => symT dep t && symAllL dep ts
end

mutual
/-- (gp_index, flag) of every object the function visits (the normal objects), depth-first -/
def symsT (dep : RObj → Int) : Tree → List (Nat × Bool)
  | .node o ns ms ios mis => (o.gp, symT dep (.node o ns ms ios mis)) :: symsL dep ns
def symsL (dep : RObj → Int) : List Tree → List (Nat × Bool)
  | [] => []
  | t :: ts => symsT dep t ++ symsL dep ts
end

/-- the `depth` field of a normal object: index of the level that lists its gp_index (-1 if none) -/
def depthOfGp (levels : List (List RObj)) (gp : Nat) : Int :=
  match levels.findIdx? (fun l => l.any (fun x => x.gp == gp)) with
  | some k => (k : Int)
  | none => -1
def depthIn (levels : List (List RObj)) (o : RObj) : Int := depthOfGp levels o.gp

mutual
/-- the subtrees the function visits: the object and, recursively, its normal children, depth-first -/
def subsN : Tree → List Tree
  | .node o ns ms ios mis => .node o ns ms ios mis :: subsNL ns
def subsNL : List Tree → List Tree
  | [] => []
  | t :: ts => subsN t ++ subsNL ts
end

/-- the stage on the tree the level merging leaves -/
def symmetricStage (t : Tree) : List (Nat × Bool) := symsT (depthIn (connectLevels t)) t

/-! ### the rule, stated without the loop -/

mutual
/-- (depth, arity) of the object, of its first child, of the first child of that, … down to an object without normal child -/
def spineT (dep : RObj → Int) : Tree → List (Int × Nat)
  | .node o ns _ _ _ => (dep o, ns.length) :: spineL dep ns
def spineL (dep : RObj → Int) : List Tree → List (Int × Nat)
  | [] => []
  | t :: _ => spineT dep t
end

mutual
/-- the normal-children skeleton: memory, I/O and Misc children dropped everywhere -/
def skelT : Tree → Tree
  | .node o ns _ _ _ => .node o (skelL ns) [] [] []
def skelL : List Tree → List Tree
  | [] => []
  | t :: ts => skelT t :: skelL ts
end

mutual
/-- every object at distance k below the root (normal children only) has depth and arity `sp[k]`, and `sp` ends where the objects
    without normal child are reached -/
def uniformT (dep : RObj → Int) : Tree → List (Int × Nat) → Prop
  | .node o ns _ _ _, sp =>
    match sp with
    | [] => False
    | x :: sp' => x = (dep o, ns.length) ∧ (ns = [] → sp' = []) ∧ uniformL dep ns sp'
def uniformL (dep : RObj → Int) : List Tree → List (Int × Nat) → Prop
  | [], _ => True
  | t :: ts, sp => uniformT dep t sp ∧ uniformL dep ts sp
end

end Hw.Topo.Restrict.Stage
