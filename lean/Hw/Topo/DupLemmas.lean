/-
  Hw.Topo.DupLemmas — on the model the copy is `pub` of the original (`dupState s = pub s` by `rfl`), and `pub` is idempotent and
  commutes with the modelled calls: hence the equivalence and its stability along histories.  The bump allocator facts
  instantiate `Hw.Base.Bump`.
-/
import Hw.Topo.Dup
import Hw.Base.Bump
import Hw.Base.ListLemmas
namespace Hw.Topo.Dup
open Hw.Topo Hw.Topo.Hist

/-! ## state level -/

theorem clr1_idem (n : Nat) : clr1 (clr1 n) = clr1 n := by unfold clr1; omega
theorem clr2_idem (n : Nat) : clr2 (clr2 n) = clr2 n := by unfold clr2; omega
theorem clr1_bit0 (n : Nat) : clr1 n % 2 = 0 := by unfold clr1; omega
theorem clr2_bits (n : Nat) : clr2 n % 4 = 0 := by unfold clr2; omega
theorem clr1_upper (n : Nat) : clr1 n / 2 = n / 2 := by unfold clr1; omega
theorem clr2_upper (n : Nat) : clr2 n / 4 = n / 4 := by unfold clr2; omega

theorem Dist.invalidate_idem (d : Dist) : d.invalidate.invalidate = d.invalidate := by
  simp [Dist.invalidate, clr1_idem]

theorem Init.invalidate_idem (i : Init) : i.invalidate.invalidate = i.invalidate := by
  cases i <;> rfl

theorem Target.invalidate_idem (t : Target) : t.invalidate.invalidate = t.invalidate := by
  simp only [Target.invalidate, map_idem _ Init.invalidate_idem]

theorem MemAttr.invalidate_idem (m : MemAttr) : m.invalidate.invalidate = m.invalidate := by
  simp only [MemAttr.invalidate, clr2_idem, map_idem _ Target.invalidate_idem]

theorem pub_idem (s : TopoState) : pub (pub s) = pub s := by
  simp only [pub, map_idem _ Dist.invalidate_idem, map_idem _ MemAttr.invalidate_idem]

theorem dupState_eq_pub (s : TopoState) : dupState s = pub s := rfl

theorem pub_dupState (s : TopoState) : pub (dupState s) = pub s := by
  rw [dupState_eq_pub, pub_idem]


theorem dup_equiv (s : TopoState) : TopoEquivD s (dupState s) := (pub_dupState s).symm


theorem Dist.invalidate_eq {d e : Dist} (h : d.invalidate = e.invalidate) :
    d.id = e.id ∧ d.name = e.name ∧ d.kind = e.kind ∧ d.uniqueType = e.uniqueType ∧ d.nbobjs = e.nbobjs ∧
    d.types = e.types ∧ d.indexes = e.indexes ∧ d.values = e.values ∧ d.iflags / 2 = e.iflags / 2 := by
  unfold Dist.invalidate at h
  injection h with h1 h2 h3 h4 h5 h6 h7 h8 h9 h10
  exact ⟨h1, h2, h3, h5, h6, h7, h8, h9, by rw [← clr1_upper d.iflags, h4, clr1_upper]⟩

def Init.uncached : Init → Bool
  | .cpuset _ _ => true
  | .object _ _ c _ => !c
/-- caches of the copy: every distances structure has OBJS_VALID clear and no cached object; every memattr has
STATIC_NAME and CACHE_VALID clear and no cached target / initiator object -/
def cachesInvalid (s : TopoState) : Bool :=
  s.dists.all (fun d => d.iflags % 2 == 0 && d.cached == 0) &&
  s.memattrs.all (fun m => m.iflags % 4 == 0 && m.targets.all (fun t => !t.cached && t.inits.all Init.uncached))

theorem Init.invalidate_uncached (i : Init) : i.invalidate.uncached = true := by cases i <;> rfl


theorem dup_topoUserdata (s : TopoState) : (dupState s).topoUserdata = 0 := rfl

/-! ### histories -/

theorem stepS_pub (s : TopoState) (op : HOp) : pub (stepS s op).1 = (stepS (pub s) op).1 := rfl
theorem stepS_ret_pub (s : TopoState) (op : HOp) : (stepS (pub s) op).2 = (stepS s op).2 := rfl

theorem run_pub (h : List HOp) (s : TopoState) : pub (run s h) = run (pub s) h :=
  (List.foldl_hom pub fun s op => (stepS_pub s op).symm).symm

theorem equiv_run {a b : TopoState} (e : TopoEquivD a b) (h : List HOp) : TopoEquivD (run a h) (run b h) := by
  unfold TopoEquivD at *
  rw [run_pub, run_pub, e]

theorem dup_commutes_history (s : TopoState) (h : List HOp) : TopoEquivD (run (dupState s) h) (run s h) :=
  equiv_run (dup_equiv s).symm h


theorem runPair_sides (l : List (Side × HOp)) :
    ∀ p, (runPair p l).1 = run p.1 (opsOf .A l) ∧ (runPair p l).2 = run p.2 (opsOf .B l) := by
  induction l with
  | nil => exact fun p => ⟨rfl, rfl⟩
  | cons x t ih =>
    intro p
    obtain ⟨sd, op⟩ := x
    simp only [runPair, List.foldl_cons] at ih ⊢
    cases sd
    · rw [(ih _).1, (ih _).2]; exact ⟨rfl, rfl⟩
    · rw [(ih _).1, (ih _).2]; exact ⟨rfl, rfl⟩

/-! ## bump allocator -/

theorem roundUp_ge (n A : Nat) (hA : 0 < A) : n ≤ roundUp n A := Hw.le_roundUp hA n

theorem roundUp_mod (n A : Nat) : roundUp n A % A = 0 := Nat.mul_mod_left _ _

theorem bump_isBump (A : Nat) : Hw.IsBump Block.start Block.size (roundUp · A) (bump A) :=
  ⟨fun _ => rfl, fun _ _ _ => ⟨_, rfl, rfl, rfl⟩⟩

theorem bump_inside (A : Nat) (hA : 0 < A) (sizes : List Nat) : ∀ cur, ∀ b ∈ bump A cur sizes,
    b.inside cur (cur + bumpTotal A sizes) :=
  fun cur => ((bump_isBump A).inside (roundUp_ge · A hA) cur sizes).1

theorem disjoint_of_le {a b : Block} (h : a.start + a.size ≤ b.start) : a.Disjoint b := by
  unfold Block.Disjoint Overlap
  rintro ⟨x, h1, h2, h3, h4⟩; omega

theorem Block.Disjoint.symm {a b : Block} (h : a.Disjoint b) : b.Disjoint a :=
  fun ⟨x, h1, h2, h3, h4⟩ => h ⟨x, h3, h4, h1, h2⟩

theorem overlap_of_inside {a b : Block} {lo hi lo' hi' : Nat} (ha : a.inside lo hi) (hb : b.inside lo' hi') (h : hi ≤ lo') :
    a.Disjoint b :=
  disjoint_of_le (Nat.le_trans ha.2 (Nat.le_trans h hb.1))

theorem bump_ordered (A : Nat) (hA : 0 < A) (sizes : List Nat) :
    ∀ cur, (bump A cur sizes).Pairwise (fun x y => x.start + x.size ≤ y.start) :=
  fun cur => ((bump_isBump A).inside (roundUp_ge · A hA) cur sizes).2

theorem bump_disjoint (A : Nat) (hA : 0 < A) (sizes : List Nat) : ∀ cur, (bump A cur sizes).Pairwise Block.Disjoint :=
  fun cur => (bump_ordered A hA sizes cur).imp disjoint_of_le

theorem bump_sizes (A : Nat) (sizes : List Nat) : ∀ cur, (bump A cur sizes).map (·.size) = sizes :=
  fun cur => (bump_isBump A).sizes cur sizes

theorem bump_length (A : Nat) (sizes : List Nat) : ∀ cur, (bump A cur sizes).length = sizes.length :=
  fun cur => by rw [← List.length_map (f := (·.size)), bump_sizes]


/-! ## provenance -/

theorem contains_spec {b : Block} {p : Ptr} (h : b.contains p = true) : b.start ≤ p.addr ∧ p.addr + p.size ≤ b.start + b.size := by
  simpa [Block.contains] using h

theorem Overlap.mono {p ps q qs a as b bs : Nat} (h : Overlap p ps q qs) (ha : a ≤ p) (ha' : p + ps ≤ a + as) (hb : b ≤ q)
    (hb' : q + qs ≤ b + bs) : Overlap a as b bs :=
  h.imp fun _ ⟨h1, h2, h3, h4⟩ => ⟨Nat.le_trans ha h1, Nat.lt_of_lt_of_le h2 ha', Nat.le_trans hb h3, Nat.lt_of_lt_of_le h4 hb'⟩

end Hw.Topo.Dup
