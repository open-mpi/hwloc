/-
  Hw.Topo.RestrictUnique — the three uniqueness clauses of WF after restrict: pu-osindex-unique, numa-osindex-unique,
  gp-index-unique.  restrict creates no object and changes neither type nor os_index nor gp_index, and every object of the result
  is an object of the input (counting: `cnt_restrict`), so a value that occurred at most once occurs at most once afterwards.
  Also the clauses type-in-range and not-filtered-out after restrict.
-/
import Hw.Topo.RestrictAllowed
namespace Hw.Topo.Restrict
open Hw.Topo Hw.Gen.Restrict

def tyOs (y : RObj) : Nat × Int := (y.type, y.osidx)

/-- os_index is unique among the objects of type `ty` (C01 clauses pu-osindex-unique / numa-osindex-unique on the tree) -/
def osUniqueT (ty : Nat) (t : Tree) : Prop := (((objsT t).filter (fun o => o.type == ty)).map (·.osidx)).Nodup

instance (ty : Nat) (t : Tree) : Decidable (osUniqueT ty t) := by unfold osUniqueT; exact inferInstance

theorem count_filter_map (l : List RObj) (ty : Nat) (a : Int) :
    ((l.filter (fun o => o.type == ty)).map (·.osidx)).count a = cnt tyOs (ty, a) l := by
  unfold cnt tyOs
  rw [List.count_eq_countP, @List.count_eq_countP _ instBEqOfDecidableEq, List.countP_map, List.countP_map, List.countP_filter]
  apply List.countP_congr
  intro x _
  simp only [Function.comp, Bool.and_eq_true, beq_iff_eq, Prod.mk.injEq, and_comm]

theorem osUniqueT_iff (ty : Nat) (t : Tree) : osUniqueT ty t ↔ ∀ a, cnt tyOs (ty, a) (objsT t) ≤ 1 := by
  unfold osUniqueT
  rw [List.nodup_iff_count]
  constructor
  · intro h a; rw [← count_filter_map]; exact h a
  · intro h a; rw [count_filter_map]; exact h a

theorem osUnique_restrict (ty : Nat) (t : Topo) (s : CSet) (flags : Nat) (h : osUniqueT ty t.tree) :
    osUniqueT ty (restrict t s flags).1.tree := by
  rw [osUniqueT_iff] at h ⊢
  intro a
  refine Nat.le_trans (cnt_restrict tyOs (ty, a) t s flags (fun p o => ?_) (fun _ _ => rfl)) (h a)
  have h1 : (shrinkG p o).type = o.type := type_shrinkG p o
  have h2 : (shrinkG p o).osidx = o.osidx := by
    show (ident (shrinkG p o)).osidx = (ident o).osidx
    rw [ident_shrinkG]
  unfold tyOs
  rw [h1, h2]

theorem robjOf_osidx (o : Obj) : (robjOf o).osidx = o.osidx := rfl

theorem wf_osUnique {d : Dump} (h : WF d) (t : Tree) (ht : treeOf d = .ok t) : osUniqueT tPU t ∧ osUniqueT tNUMA t := by
  have hp := treeOf_perm h t ht
  have key : ∀ ty, ((d.objs.filter (fun o => o.type == ty)).map (·.osidx)).Nodup → osUniqueT ty t := by
    intro ty hn
    unfold osUniqueT
    have h1 : (((objsT t).filter (fun o => o.type == ty)).map (·.osidx)).Perm
        ((((d.objs.map robjOf)).filter (fun o => o.type == ty)).map (·.osidx)) := (hp.filter _).map _
    rw [h1.nodup_iff, List.filter_map, List.map_map]
    exact hn
  exact ⟨key tPU h.pu_osidx_unique, key tNUMA h.numa_osidx_unique⟩

/-! ### the rendered clauses -/

theorem render_filter_osidx (t : Tree) (h : Hdr) (ex : RObj → Extra) (ty : Nat) :
    (((render t h ex).objs.filter (fun o => o.type == ty)).map (·.osidx)) = ((objsT t).filter (fun o => o.type == ty)).map (·.osidx) := by
  rw [render_objs, ← occs_map_obj t, List.filter_map, List.filter_map, List.map_map, List.map_map]
  have e1 : ((fun (o : Obj) => o.type == ty) ∘ rObj t ex) = ((fun (o : RObj) => o.type == ty) ∘ fun (oc : Occ) => oc.t.obj) := by
    funext oc
    simp only [Function.comp]
    unfold rObj
    rw [ro_type]
  have e2 : ((fun (o : Obj) => o.osidx) ∘ rObj t ex) = ((fun (o : RObj) => o.osidx) ∘ fun (oc : Occ) => oc.t.obj) := by
    funext oc
    simp only [Function.comp]
    unfold rObj
    rw [ro_osidx]
  rw [e1, e2]

theorem render_map_gp (t : Tree) (h : Hdr) (ex : RObj → Extra) : (render t h ex).objs.map (·.gp) = (objsT t).map (·.gp) := by
  rw [render_objs, ← occs_map_obj t, List.map_map, List.map_map]
  congr 1
  funext oc
  simp only [Function.comp]
  unfold rObj
  rw [ro_gp]

theorem render_unique (t : Tree) (h : Hdr) (ex : RObj → Extra) :
    (osUniqueT tPU t → topClause "pu-osindex-unique" (render t h ex) (mkAux (render t h ex)) = true) ∧
    (osUniqueT tNUMA t → topClause "numa-osindex-unique" (render t h ex) (mkAux (render t h ex)) = true) ∧
    (((objsT t).map (·.gp)).Nodup → topClause "gp-index-unique" (render t h ex) (mkAux (render t h ex)) = true) := by
  refine ⟨fun hu => topClause_intro (k := 12) rfl (decide_eq_true ?_), fun hu => topClause_intro (k := 13) rfl (decide_eq_true ?_),
    fun hu => topClause_intro (k := 14) rfl (decide_eq_true ?_)⟩
  · rw [render_filter_osidx]; exact hu
  · rw [render_filter_osidx]; exact hu
  · rw [render_map_gp]; exact hu

/-! ### type-in-range and not-filtered-out -/

/-- no object of a type whose filter is KEEP_NONE (C01 clause not-filtered-out on the tree) -/
def notFilteredT (filters : List Nat) (t : Tree) : Bool := (objsT t).all (fun x => filterOf filters x.type != 1)

theorem notFilteredT_iff (filters : List Nat) (t : Tree) :
    notFilteredT filters t = true ↔ ∀ x ∈ objsT t, (filterOf filters x.type != 1) = true := List.all_eq_true

theorem wf_notFiltered {d : Dump} (h : WF d) (t : Tree) (ht : treeOf d = .ok t) : notFilteredT d.filters t = true := by
  rw [notFilteredT_iff]
  intro x hx
  obtain ⟨c, hc, e⟩ := List.mem_map.1 ((treeOf_perm h t ht).mem_iff.1 hx)
  have := h.not_filtered c hc
  rw [← e, robjOf_type]
  unfold filterOf
  simpa using this

/-- the result has no object of a new type, and the filters are not touched -/
theorem notFiltered_restrict (t : Topo) (s : CSet) (flags : Nat) (h : notFilteredT t.filters t.tree = true) :
    notFilteredT (restrict t s flags).1.filters (restrict t s flags).1.tree = true := by
  rw [restrict_filters]
  rw [notFilteredT_iff] at h ⊢
  exact all_ident_restrict (q := fun y => (filterOf t.filters y.type != 1) = true) t s flags h

theorem render_type_filter (t : Tree) (h : Hdr) (ex : RObj → Extra) (o : Obj) (ho : o ∈ (render t h ex).objs) :
    (typedT t = true → objClause "type-in-range" (render t h ex) (mkAux (render t h ex)) o = true) ∧
    (notFilteredT h.filters t = true → objClause "not-filtered-out" (render t h ex) (mkAux (render t h ex)) o = true) := by
  obtain ⟨oc, hoc, rfl⟩ := render_mem t h ex o ho
  constructor
  · intro ht
    refine objClause_intro (k := 1) rfl ?_
    have hty := (typedT_facts oc.t (occ_typed t ht oc hoc)).2.2.2
    show decide ((renderObj (normalLevels t) (occs t) ex oc).type < tMAX) = true
    rw [ro_type]
    exact decide_eq_true hty
  · intro hn
    refine objClause_intro (k := 2) rfl ?_
    have := (notFilteredT_iff _ _).1 hn _ (occ_obj_mem t oc hoc)
    show ((h.filters[(renderObj (normalLevels t) (occs t) ex oc).type]?).getD 0 != 1) = true
    rw [ro_type]
    exact this

end Hw.Topo.Restrict
