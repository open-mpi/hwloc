/-
  Hw.Topo.StageUnique — the uniqueness clauses of well-formedness (gp-index-unique, pu-osindex-unique, numa-osindex-unique) through
  `remove_empty`, level merging and `render`: no stage creates an object or changes its gp_index / type / os_index, so for ANY key
  `f` of an object that `absorb` (the complete-set update of a merge) leaves alone, no key value occurs more often after the stage
  than before (`cnt_removeEmpty`, RestrictLemmas.cnt_keepStructure); a list without repetition stays without repetition.
-/
import Hw.Topo.StageRemoveEmptyLemmas
import Hw.Topo.RestrictUnique
namespace Hw.Topo.Restrict.Stage
open Hw.Topo Hw.Topo.Restrict

section
variable {α : Type} [DecidableEq α] (f : RObj → α) (a : α)

def reObjs (r : RE) : List RObj := objsL r.kept ++ objsL r.misc

theorem cnt_removeEmptyTL : (∀ t, cnt f a (reObjs (removeEmptyT t)) ≤ cnt f a (objsT t)) ∧
    ∀ l, cnt f a (reObjs (removeEmptyL l)) ≤ cnt f a (objsL l) := by
  apply tree_ind
  · intro o ns ms ios mis hn hm
    unfold reObjs at hn hm ⊢
    rw [cnt_append] at hn hm
    rw [removeEmptyT]
    split <;> simp only [objsL, objsT, objsL_append, cnt_append, List.nil_append, List.append_nil, cnt_cons1] <;> omega
  · rw [removeEmptyL]; exact Nat.le_refl _
  · intro t ts ht hts
    unfold reObjs at ht hts ⊢
    rw [removeEmptyL]
    simp only [objsL, objsL_append, cnt_append] at ht hts ⊢
    rw [Nat.add_add_add_comm]; exact Nat.add_le_add ht hts

theorem cnt_removeEmptyL : ∀ l : List Tree, cnt f a (reObjs (removeEmptyL l)) ≤ cnt f a (objsL l) := (cnt_removeEmptyTL f a).2

/-- `remove_empty` creates no object: no key value occurs more often among ALL objects of the result (Misc objects handed to an
    ancestor included) than in the input -/
theorem cnt_removeEmpty (t t' : Tree) (h : removeEmpty t = some t') : cnt f a (objsT t') ≤ cnt f a (objsT t) := by
  have h1 := (cnt_removeEmptyTL f a).1 t
  unfold reObjs at h1
  rw [(removeEmpty_some h).1, (removeEmpty_some h).2.1] at h1
  simpa only [objsL, List.append_nil] using h1

end

/-- no key value occurs more often after `remove_empty` and level merging, so a key without repetition stays so -/
theorem cnt_pipeline {α : Type} [DecidableEq α] (f : RObj → α) (hm : ∀ o co, f (absorb o co) = f co) (filters : List Nat)
    (t0 t1 : Tree) (h1 : removeEmpty t0 = some t1) (a : α) :
    cnt f a (objsT (keepStructure filters t1)) ≤ cnt f a (objsT t0) :=
  Nat.le_trans (cnt_keepStructure f a hm filters t1) (cnt_removeEmpty f a t0 t1 h1)

end Hw.Topo.Restrict.Stage
