/-
  Hw.Topo.HelpersLocal — `hwloc_bitmap_singlify_per_core` and `hwloc_get_closest_objs` (traversal.c) on a dump
  satisfying `Tree`.  The loop of the first is one `foldl` of `singStep` over the cores (`Tree.singlifyPerCore_eq_foldl`),
  which are pairwise disjoint; the loop of the second is reasoned about through `closestLoop_ind`.
-/
import Hw.Topo.HelpersAnc
import Hw.Topo.HelpersIter
namespace Hw.Topo

theorem Tree.ancFactsL_normal {d : Dump} (ht : Tree d) {a o : Obj} (h : AncSelf d a o) (ho : o ∈ d.objs)
    (hn : isNormal o.type = true) : a ∈ d.objs ∧ isNormal a.type = true ∧ subset (cs o) (cs a) = true :=
  have h := ht.ancSelf_normal h ho hn
  ⟨h.1, h.2.1, h.2.2.2.2⟩

/-! ### singlify per core -/

/-- one iteration of the loop of `hwloc_bitmap_singlify_per_core` on the core `c` -/
def singStep (which : Nat) (S : Nat) (c : Obj) : Nat :=
  match ((bits (cs c)).filter (fun i => S.testBit i))[which]? with
  | none => andnot S (cs c)
  | some pu => andnot S (cs c) ||| single pu

/-- what is left of `S` inside the core `c`: the PU number `which` of `S ∩ c`, if any -/
def singTarget (which : Nat) (S : Nat) (c : Obj) : Nat :=
  match ((bits (cs c)).filter (fun i => S.testBit i))[which]? with
  | none => 0
  | some pu => single pu

theorem singlifyLoop_none {d : Dump} {which f S : Nat} {prev : Option Obj}
    (h : nextCoveringByType d S tCORE prev = none) : singlifyLoop d which (f + 1) S prev = S := by
  rw [singlifyLoop, h]

theorem singlifyLoop_some {d : Dump} {which f S : Nat} {prev : Option Obj} {core : Obj}
    (h : nextCoveringByType d S tCORE prev = some core) :
    singlifyLoop d which (f + 1) S prev = singlifyLoop d which f (singStep which S core) (some core) := by
  rw [singlifyLoop, h]
  rfl

theorem singStep_eq (which S : Nat) (c : Obj) :
    singStep which S c = andnot S (cs c) ||| singTarget which S c := by
  unfold singStep singTarget
  cases ((bits (cs c)).filter (fun i => S.testBit i))[which]? with
  | none => exact (Nat.or_zero _).symm
  | some pu => rfl

theorem singTarget_testBit {which S : Nat} {c : Obj} {i : Nat} (h : (singTarget which S c).testBit i = true) :
    (cs c).testBit i = true ∧ S.testBit i = true := by
  unfold singTarget at h
  cases hc : ((bits (cs c)).filter (fun i => S.testBit i))[which]? with
  | none =>
    rw [hc, Nat.zero_testBit] at h
    cases h
  | some pu =>
    rw [hc, testBit_single] at h
    rw [← of_decide_eq_true h]
    have := List.mem_filter.1 (List.mem_of_getElem? hc)
    exact ⟨(mem_bits _ _).1 this.1, this.2⟩

theorem singTarget_testBit_out {which S : Nat} {c : Obj} {i : Nat} (hi : (cs c).testBit i = false) :
    (singTarget which S c).testBit i = false :=
  Bool.eq_false_iff.2 (fun h => by rw [(singTarget_testBit h).1] at hi; cases hi)

theorem testBit_singStep (which S : Nat) (c : Obj) (i : Nat) :
    (singStep which S c).testBit i
      = ((S.testBit i && !(cs c).testBit i) || (singTarget which S c).testBit i) := by
  rw [singStep_eq, Nat.testBit_or, testBit_andnot]

theorem singStep_testBit_out {which S : Nat} {c : Obj} {i : Nat} (hi : (cs c).testBit i = false) :
    (singStep which S c).testBit i = S.testBit i := by
  rw [testBit_singStep, hi, singTarget_testBit_out hi, Bool.not_false, Bool.and_true, Bool.or_false]

theorem singStep_and (which S : Nat) (c : Obj) : singStep which S c &&& cs c = singTarget which S c := by
  apply Nat.eq_of_testBit_eq
  intro i
  rw [Nat.testBit_and]
  cases hi : (cs c).testBit i with
  | true => rw [testBit_singStep, hi, Bool.not_true, Bool.and_false, Bool.false_or, Bool.and_true]
  | false => rw [Bool.and_false, singTarget_testBit_out hi]

theorem singStep_subset (which S : Nat) (c : Obj) : subset (singStep which S c) S = true := by
  rw [subset_iff_bits]
  intro i h
  rw [testBit_singStep, Bool.or_eq_true, Bool.and_eq_true] at h
  rcases h with h | h
  · exact h.1
  · exact (singTarget_testBit h).2

/-- the step adds no bit, and `S` has none in the core -/
theorem singStep_noncover {which S : Nat} {c : Obj} (h : coverOk S c = false) : singStep which S c = S := by
  apply Nat.eq_of_testBit_eq
  intro i
  cases hi : (cs c).testBit i with
  | false => exact singStep_testBit_out hi
  | true =>
    have hS : S.testBit i = false :=
      Bool.eq_false_iff.2 fun hS => Bool.eq_false_iff.1 h ((intersects_iff _ _).2 ⟨i, hS, hi⟩)
    rw [hS]
    exact Bool.eq_false_iff.2 fun hb =>
      Bool.eq_false_iff.1 hS (subset_iff_bits.1 (singStep_subset which S c) i hb)

theorem singFold_noncover (which : Nat) (L : List Obj) (S : Nat) (h : ∀ c ∈ L, coverOk S c = false) :
    L.foldl (singStep which) S = S :=
  List.foldlRecOn L _ (motive := (· = S)) rfl fun _ ih c hc => by
    rw [ih, singStep_noncover (h c hc)]

theorem singlifyLoop_subset (d : Dump) (which : Nat) : ∀ (f S : Nat) (prev : Option Obj),
    subset (singlifyLoop d which f S prev) S = true := by
  intro f
  induction f with
  | zero => intro S prev; exact subset_refl _
  | succ f ih =>
    intro S prev
    cases h : nextCoveringByType d S tCORE prev with
    | none =>
      rw [singlifyLoop_none h]
      exact subset_refl _
    | some core =>
      rw [singlifyLoop_some h]
      exact subset_trans (ih _ _) (singStep_subset _ _ _)

theorem singlify_subset (d : Dump) (S which : Nat) : subset (singlifyPerCore d S which) S = true :=
  singlifyLoop_subset d which _ _ _

theorem singlify_no_core_level (d : Dump) (S which : Nat)
    (h : isSingleDepth (typeDepth d (tCORE : Nat)) = false) : singlifyPerCore d S which = S :=
  singlifyLoop_none (by_type_next_covering_none none h)

theorem singTarget_congr {which S S' : Nat} {c : Obj}
    (h : ∀ i, (cs c).testBit i = true → S.testBit i = S'.testBit i) :
    singTarget which S c = singTarget which S' c := by
  unfold singTarget
  rw [List.filter_congr fun i hi => h i ((mem_bits _ _).1 hi)]

theorem singFold_testBit_out (which : Nat) {i : Nat} (L : List Obj) (S : Nat)
    (hi : ∀ c ∈ L, (cs c).testBit i = false) : (L.foldl (singStep which) S).testBit i = S.testBit i :=
  List.foldlRecOn L _ (motive := fun T : Nat => T.testBit i = S.testBit i) rfl fun _ ih c hc =>
    (singStep_testBit_out (hi c hc)).trans ih

theorem singFold_and (which : Nat) {L : List Obj} (S : Nat)
    (hp : L.Pairwise (fun a b => disjoint (cs a) (cs b) = true)) {c : Obj} (hc : c ∈ L) :
    (L.foldl (singStep which) S) &&& cs c = singTarget which S c := by
  obtain ⟨as, bs, rfl⟩ := List.append_of_mem hc
  obtain ⟨_, hbs, has⟩ := List.pairwise_append.1 hp
  -- the cores after `c` leave its bits alone, the step on `c` sets them, and those before `c` left them as in `S`
  rw [List.foldl_append, List.foldl_cons, Bits.and_eq_and_of_testBit fun i hi => singFold_testBit_out which bs _
    fun b hb => disjoint_iff_bits.1 ((List.pairwise_cons.1 hbs).1 b hb) i hi, singStep_and]
  exact singTarget_congr fun i hi => singFold_testBit_out which as S fun a ha =>
    disjoint_iff_bits.1 ((disjoint_comm _ _).trans (has a ha c List.mem_cons_self)) i hi

theorem Tree.singlifyLoop_eq_foldl {d : Dump} (ht : Tree d)
    (hs : isSingleDepth (typeDepth d (tCORE : Nat)) = true) (which : Nat) :
    ∀ (f S j : Nat) (prev : Option Obj),
      cousinsFrom d (nextByDepth d (typeDepth d (tCORE : Nat)) prev)
        = (levelObjs d (typeDepth d (tCORE : Nat))).drop j →
      (levelObjs d (typeDepth d (tCORE : Nat))).length ≤ j + f →
      singlifyLoop d which f S prev
        = ((levelObjs d (typeDepth d (tCORE : Nat))).drop j).foldl (singStep which) S := by
  intro f
  induction f with
  | zero =>
    intro S j prev _ hlen
    rw [List.drop_eq_nil_of_le (i := j) hlen]
    rfl
  | succ f ih =>
    intro S j prev hstate hlen
    have hnext : nextCoveringByType d S tCORE prev
        = ((levelObjs d (typeDepth d (tCORE : Nat))).drop j).find? (coverOk S) := by
      rw [by_type_next_covering_single prev hs, nextCoveringByDepth, hstate]
    cases hfind : ((levelObjs d (typeDepth d (tCORE : Nat))).drop j).find? (coverOk S) with
    | none =>
      rw [singlifyLoop_none (hnext.trans hfind)]
      exact (singFold_noncover which _ S
        (fun c hc => Bool.eq_false_iff.2 (List.find?_eq_none.1 hfind c hc))).symm
    | some core =>
      obtain ⟨as, has, _, hget, hsplit⟩ := find?_drop_some hfind
      rw [singlifyLoop_some (hnext.trans hfind), hsplit, List.foldl_append, List.foldl_cons,
        singFold_noncover which as S has]
      exact ih _ _ _ (ht.cousinsFrom_next hget) (Nat.le_trans hlen
        (Nat.add_right_comm j 1 f ▸ Nat.add_le_add_right (Nat.add_le_add_left (Nat.le_add_left 1 as.length) j) f))

theorem Tree.singlifyPerCore_eq_foldl {d : Dump} (ht : Tree d) (S which : Nat)
    (hs : isSingleDepth (typeDepth d (tCORE : Nat)) = true) :
    singlifyPerCore d S which = (levelObjs d (typeDepth d (tCORE : Nat))).foldl (singStep which) S :=
  ht.singlifyLoop_eq_foldl hs which d.fuel S 0 none (ht.cousinsFrom_levelObjs _ 0)
    (Nat.zero_add _ ▸ Nat.le_succ_of_le (ht.levelObjs_length_le _))

theorem Tree.core_level_disjoint {d : Dump} (ht : Tree d) (hs : isSingleDepth (typeDepth d (tCORE : Nat)) = true) :
    (levelObjs d (typeDepth d (tCORE : Nat))).Pairwise (fun a b => Hw.Topo.disjoint (cs a) (cs b) = true) :=
  ht.level_disjoint (ht.typeDepth_nonneg (by decide) rfl hs)

theorem singlify_per_core {d : Dump} (ht : Tree d) (S which : Nat)
    (hs : isSingleDepth (typeDepth d (tCORE : Nat)) = true)
    (hdisj : (levelObjs d (typeDepth d (tCORE : Nat))).Pairwise (fun a b => disjoint (cs a) (cs b) = true)) :
    subset (singlifyPerCore d S which) S = true ∧
    (∀ i, (∀ c ∈ levelObjs d (typeDepth d (tCORE : Nat)), (cs c).testBit i = false) →
      (singlifyPerCore d S which).testBit i = S.testBit i) ∧
    ∀ c ∈ levelObjs d (typeDepth d (tCORE : Nat)),
      (match ((bits (cs c)).filter (fun i => S.testBit i))[which]? with
       | some pu => singlifyPerCore d S which &&& cs c = single pu
       | none => singlifyPerCore d S which &&& cs c = 0) := by
  refine ⟨singlify_subset d S which, ?_⟩
  rw [ht.singlifyPerCore_eq_foldl S which hs]
  refine ⟨fun i => singFold_testBit_out which _ S, ?_⟩
  intro c hc
  rw [singFold_and which S hdisj hc]
  unfold singTarget
  cases ((bits (cs c)).filter (fun i => S.testBit i))[which]? with
  | none => rfl
  | some pu => rfl

theorem singlify_at_most_one {d : Dump} (ht : Tree d) (S which : Nat)
    (hs : isSingleDepth (typeDepth d (tCORE : Nat)) = true) :
    ∀ c ∈ levelObjs d (typeDepth d (tCORE : Nat)), weight (singlifyPerCore d S which &&& cs c) ≤ 1 := by
  intro c hc
  have := (singlify_per_core ht S which hs (ht.core_level_disjoint hs)).2.2 c hc
  split at this
  · rename_i pu _
    rw [this]
    exact weight_le_one_of_all_eq (pu := pu) (fun i hi => by
      rw [testBit_single] at hi; exact (of_decide_eq_true hi).symm)
  · rw [this, (weight_eq_zero 0).2 rfl]; omega

/-! ### closest objects -/

theorem skipEqualParents_spec (d : Dump) : ∀ (f : Nat) (parent p np : Obj),
    skipEqualParents d f parent = some (p, np) →
    AncSelf d p parent ∧ cs p = cs parent ∧ d.obj? p.parent = some np ∧ cs p ≠ cs np := by
  intro f
  induction f with
  | zero => intro parent p np h; simp [skipEqualParents] at h
  | succ f ih =>
    intro parent p np h
    unfold skipEqualParents at h
    split at h
    · cases h
    · rename_i np' hnp'
      split at h
      · rename_i heq
        obtain ⟨h1, h2, h3, h4⟩ := ih _ _ _ h
        exact ⟨AncSelf.up hnp' h1, h2.trans (beq_iff_eq.1 heq).symm, h3, h4⟩
      · rename_i hne
        cases h
        exact ⟨AncSelf.refl _, rfl, hnp', fun e => hne (beq_iff_eq.2 e)⟩

theorem closestLoop_ind (d : Dump) (lvl : List Obj) (max : Nat) (P : Obj → List Obj → Prop)
    (step : ∀ parent acc p np, P parent acc → skipEqualParents d d.fuel parent = some (p, np) →
      P np ((acc ++ lvl.filter (fun o => subset (cs o) (cs np) && !subset (cs o) (cs p))).take max)) :
    ∀ (f : Nat) (parent : Obj) (acc : List Obj), P parent acc →
      ∃ parent', P parent' (closestLoop d lvl max f parent acc) := by
  intro f
  induction f with
  | zero => intro parent acc h; exact ⟨parent, by simpa [closestLoop] using h⟩
  | succ f ih =>
    intro parent acc h
    rw [closestLoop]
    by_cases hfull : acc.length ≥ max
    · rw [if_pos hfull]
      exact ⟨parent, h⟩
    rw [if_neg hfull]
    cases hs : skipEqualParents d d.fuel parent with
    | none => exact ⟨parent, h⟩
    | some pnp =>
      have h' := step parent acc pnp.1 pnp.2 h hs
      simp only
      split
      · exact ⟨pnp.2, h'⟩
      · exact ih pnp.2 _ h'

theorem closest_length (d : Dump) (src : Obj) (max : Nat) : (closestObjs d src max).length ≤ max := by
  unfold closestObjs
  split
  · exact Nat.zero_le _
  · obtain ⟨_, h⟩ := closestLoop_ind d (levelObjs d src.depth) max (fun _ acc => acc.length ≤ max)
      (fun _ _ _ _ _ _ => List.length_take_le ..) d.fuel src [] (Nat.zero_le _)
    exact h

/-- "whatever ancestor of `src` excludes `x` also excludes `y`": `y` is not closer to `src` than `x` -/
def NotCloser (d : Dump) (src x y : Obj) : Prop :=
  ∀ a, AncSelf d a src → subset (cs x) (cs a) = false → subset (cs y) (cs a) = false

theorem Tree.notCloser_of {d : Dump} (ht : Tree d) {src p np x y : Obj} (hsrc : src ∈ d.objs)
    (hn : isNormal src.type = true ∨ isMemory src.type = true) (hp : AncSelf d p src) (h3 : d.obj? p.parent = some np)
    (hx : subset (cs x) (cs np) = true) (hy : subset (cs y) (cs p) = false) : NotCloser d src x y := by
  intro a ha hxa
  rcases ha.comparable hp with h | h
  · rcases h.bot_cases with rfl | ⟨p', hp', h'⟩
    · exact hy
    · rw [h3] at hp'; cases hp'
      obtain ⟨hnpm, hnpn, _⟩ := ht.ancFactsL (hp.up_top h3) hsrc hn
      have := subset_trans hx (ht.ancFactsL h' hnpm hnpn).2.2
      rw [this] at hxa; cases hxa
  · obtain ⟨ham, han, _⟩ := ht.ancFactsL ha hsrc hn
    exact not_subset_of_subset (ht.ancFactsL h ham han).2.2 hy

/-- the loop invariant adds that every result so far lies inside the cpuset of the current ancestor, so that the next
    batch, which lies outside it, repeats none -/
theorem closest_inv {d : Dump} (ht : Tree d) {src : Obj} (hsrc : src ∈ d.objs)
    (hn : isNormal src.type = true ∨ isMemory src.type = true) (max : Nat) :
    (closestObjs d src max).Nodup ∧ (closestObjs d src max).Pairwise (NotCloser d src) ∧
    ∀ o ∈ closestObjs d src max, o ∈ levelObjs d src.depth ∧ subset (cs o) (cs src) = false := by
  unfold closestObjs
  split
  · exact ⟨List.nodup_nil, List.Pairwise.nil, fun _ h => absurd h List.not_mem_nil⟩
  · obtain ⟨_, _, h1, h2⟩ := closestLoop_ind d (levelObjs d src.depth) max
      (fun parent acc => AncSelf d parent src ∧ acc.Pairwise (fun x y => x ≠ y ∧ NotCloser d src x y) ∧
        ∀ o ∈ acc, subset (cs o) (cs parent) = true ∧
          o ∈ levelObjs d src.depth ∧ subset (cs o) (cs src) = false)
      (by
        intro parent acc p np ⟨hanc, hpw, hacc⟩ hs
        obtain ⟨h1, h2, h3, _⟩ := skipEqualParents_spec d _ _ _ _ hs
        have hp : AncSelf d p src := h1.trans hanc
        obtain ⟨hpm, hpn, hsp⟩ := ht.ancFactsL hp hsrc hn
        have hpnp : subset (cs p) (cs np) = true :=
          (ht.ancFactsL (AncSelf.up h3 (AncSelf.refl np)) hpm hpn).2.2
        have hbatch : ∀ o ∈ (levelObjs d src.depth).filter
            (fun o => subset (cs o) (cs np) && !subset (cs o) (cs p)),
            subset (cs o) (cs np) = true ∧ subset (cs o) (cs p) = false := by
          intro o ho
          simpa only [Bool.and_eq_true, Bool.not_eq_true'] using (List.mem_filter.1 ho).2
        have hacc' : ∀ o ∈ acc, subset (cs o) (cs np) = true := by
          intro o ho
          have := (hacc o ho).1
          rw [← h2] at this
          exact subset_trans this hpnp
        refine ⟨hp.up_top h3, (List.pairwise_append.2 ⟨hpw, ?_, ?_⟩).sublist (List.take_sublist _ _), ?_⟩
        · exact ((ht.levelObjs_nodup _).sublist List.filter_sublist).imp_of_mem fun ha hb hne =>
            ⟨hne, ht.notCloser_of hsrc hn hp h3 (hbatch _ ha).1 (hbatch _ hb).2⟩
        · intro a ha b hb
          refine ⟨fun hab => ?_, ht.notCloser_of hsrc hn hp h3 (hacc' a ha) (hbatch b hb).2⟩
          have h1 := (hacc a ha).1
          rw [hab, ← h2, (hbatch b hb).2] at h1; cases h1
        · intro o ho
          rcases List.mem_append.1 (List.mem_of_mem_take ho) with ho | ho
          · exact ⟨hacc' o ho, (hacc o ho).2⟩
          · exact ⟨(hbatch o ho).1, (List.mem_filter.1 ho).1, not_subset_of_subset hsp (hbatch o ho).2⟩)
      d.fuel src [] ⟨AncSelf.refl _, List.Pairwise.nil, fun _ h => absurd h List.not_mem_nil⟩
    exact ⟨h1.imp And.left, h1.imp And.right, fun o ho => (h2 o ho).2⟩

theorem closest_members {d : Dump} (ht : Tree d) {src : Obj} (hsrc : src ∈ d.objs)
    (hn : isNormal src.type = true ∨ isMemory src.type = true) (max : Nat) :
    ∀ o ∈ closestObjs d src max, o ∈ levelObjs d src.depth ∧ subset (cs o) (cs src) = false :=
  (closest_inv ht hsrc hn max).2.2

theorem closest_not_src {d : Dump} (ht : Tree d) {src : Obj} (hsrc : src ∈ d.objs)
    (hn : isNormal src.type = true ∨ isMemory src.type = true) (max : Nat) : src ∉ closestObjs d src max := by
  intro h
  have := (closest_members ht hsrc hn max src h).2
  rw [subset_refl] at this; cases this

theorem closest_nodup {d : Dump} (ht : Tree d) {src : Obj} (hsrc : src ∈ d.objs)
    (hn : isNormal src.type = true ∨ isMemory src.type = true) (max : Nat) : (closestObjs d src max).Nodup :=
  (closest_inv ht hsrc hn max).1

theorem closest_order {d : Dump} (ht : Tree d) {src : Obj} (hsrc : src ∈ d.objs)
    (hn : isNormal src.type = true ∨ isMemory src.type = true) (max : Nat) :
    (closestObjs d src max).Pairwise (fun x y =>
      ∀ a, AncSelf d a src → subset (cs x) (cs a) = false → subset (cs y) (cs a) = false) :=
  (closest_inv ht hsrc hn max).2.1

theorem closest_members_normal {d : Dump} (ht : Tree d) {src : Obj} (hsrc : src ∈ d.objs)
    (hn : isNormal src.type = true) (max : Nat) :
    ∀ o ∈ closestObjs d src max, o ∈ levelObjs d src.depth ∧ subset (cs o) (cs src) = false :=
  closest_members ht hsrc (Or.inl hn) max

theorem closest_not_src_normal {d : Dump} (ht : Tree d) {src : Obj} (hsrc : src ∈ d.objs)
    (hn : isNormal src.type = true) (max : Nat) : src ∉ closestObjs d src max :=
  closest_not_src ht hsrc (Or.inl hn) max

theorem closest_nodup_normal {d : Dump} (ht : Tree d) {src : Obj} (hsrc : src ∈ d.objs)
    (hn : isNormal src.type = true) (max : Nat) : (closestObjs d src max).Nodup :=
  closest_nodup ht hsrc (Or.inl hn) max

theorem closest_order_normal {d : Dump} (ht : Tree d) {src : Obj} (hsrc : src ∈ d.objs)
    (hn : isNormal src.type = true) (max : Nat) :
    (closestObjs d src max).Pairwise (fun x y =>
      ∀ a, AncSelf d a src → subset (cs x) (cs a) = false → subset (cs y) (cs a) = false) :=
  closest_order ht hsrc (Or.inl hn) max

end Hw.Topo
