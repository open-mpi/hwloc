/-
  Hw.Topo.AuxCell — what `mkAux d` holds at the index of one parent, in closed form.

  `auxFold_cell` (Hw/Topo/AuxFold.lean) reduces every aggregate of `mkAux` at index `i` to `foldl cellStep cell0` over the
  objects whose parent link is `i`.  `foldl_cellStep` says what that fold is: `cellStep` treats an object by its kind (normal,
  else memory, else I/O, else Misc), so each field of the result is an OR, a sum or a count over the sub-list of one kind, and the
  two disjointness flags are `seqDisj` of the sets OR-ed in, i.e. (`seqDisj_iff_pairwise`) their pairwise disjointness.
  Every clause of `WF` that goes through `mkAux` (children-counts, total-memory, cpuset-is-disjoint-union-of-children,
  memcache-nodeset, the memory part of nodeset-decomposition) reads one field of this cell.
-/
import Hw.Topo.AuxFold
import Hw.Io.SyntheticBits
import Hw.Topo.Helpers
namespace Hw.Topo
open Hw.Syn (seqDisj)

theorem foldl_cellStep (l : List Obj) : ∀ c : Cell, l.foldl cellStep c =
    { cpuOr := ((l.filter fun o => isNormal o.type).map cs).foldl (· ||| ·) c.cpuOr
      cpuDisj := c.cpuDisj && seqDisj c.cpuOr ((l.filter fun o => isNormal o.type).map cs)
      memOr := ((l.filter fun o => !isNormal o.type && isMemory o.type).map nsOf).foldl (· ||| ·) c.memOr
      memDisj := c.memDisj && seqDisj c.memOr ((l.filter fun o => !isNormal o.type && isMemory o.type).map nsOf)
      totSum := c.totSum + (l.map fun o => if isNormal o.type || isMemory o.type then o.totalMem else 0).sum
      nNormal := c.nNormal + l.countP fun o => isNormal o.type
      nMemory := c.nMemory + l.countP fun o => !isNormal o.type && isMemory o.type
      nIO := c.nIO + l.countP fun o => !isNormal o.type && !isMemory o.type && isIO o.type
      nMisc := c.nMisc + l.countP fun o => !isNormal o.type && !isMemory o.type && !isIO o.type } := by
  induction l with
  | nil => intro c; simp [seqDisj]
  | cons o l ih =>
    intro c
    rw [List.foldl_cons, ih]
    unfold cellStep
    cases hn : isNormal o.type
    · cases hm : isMemory o.type
      · cases hi : isIO o.type <;> simp [hn, hm, hi, Nat.add_assoc, Nat.add_comm 1]
      · simp [hn, hm, nsOf, seqDisj, Bool.and_assoc, Nat.add_assoc, Nat.add_comm 1]
    · simp [hn, cs, seqDisj, Bool.and_assoc, Nat.add_assoc, Nat.add_comm 1]

end Hw.Topo
