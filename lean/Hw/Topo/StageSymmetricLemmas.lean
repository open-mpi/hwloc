/-
  Hw.Topo.StageSymmetricLemmas — theorems about the model of hwloc_propagate_symmetric_subtree (StageSymmetric.lean), for every tree:
  the loop is the comparison of first-children spines, the flag rule, leaves, independence of memory / I/O / Misc children,
  and the meaning of the flag (the whole subtree is uniform row by row).
-/
import Hw.Topo.StageSymmetric
import Hw.Topo.RenderLemmas
namespace Hw.Topo.Restrict.Stage
open Hw.Topo Hw.Topo.Restrict

theorem spineT_eq (dep : RObj → Int) (a : Tree) : spineT dep a = (dep a.obj, a.ns.length) :: spineL dep a.ns := by
  cases a; rw [spineT]; rfl

theorem spineL_cons (dep : RObj → Int) (t : Tree) (ts : List Tree) : spineL dep (t :: ts) = spineT dep t := by rw [spineL]
theorem spineL_nil (dep : RObj → Int) : spineL dep [] = [] := by rw [spineL]

theorem spineL_head (dep : RObj → Int) {l : List Tree} {b : Tree} (h : l.head? = some b) : spineL dep l = spineT dep b := by
  cases l with
  | nil => simp at h
  | cons t ts => simp only [List.head?_cons, Option.some.injEq] at h; rw [spineL_cons, h]

/-- the spine is no longer than the subtree has objects: the fuel handed to `walk` suffices -/
theorem spineT_length_le (dep : RObj → Int) : ∀ t, (spineT dep t).length ≤ sizeT t := by
  apply Tree.indNM
  intro o ns ms ios mis ih _
  rw [spineT, sizeT, List.length_cons]
  cases ns with
  | nil => rw [spineL_nil]; simp
  | cons c cs =>
    rw [spineL_cons]
    have := ih c (List.mem_cons_self ..)
    have h2 : sizeT c ≤ sizeL (c :: cs) := sizeL_mem (List.mem_cons_self ..)
    omega

theorem spineL_length_le (dep : RObj → Int) (l : List Tree) : (spineL dep l).length ≤ sizeL l := by
  cases l with
  | nil => rw [spineL_nil]; simp
  | cons c cs =>
    rw [spineL_cons]
    have := spineT_length_le dep c
    have h2 : sizeT c ≤ sizeL (c :: cs) := sizeL_mem (List.mem_cons_self ..)
    omega

theorem rowSame_iff (dep : RObj → Int) (a0 : Tree) (rest : List Tree) :
    rowSame dep a0 rest = true ↔ ∀ a ∈ rest, dep a.obj = dep a0.obj ∧ a.ns.length = a0.ns.length := by
  simp only [rowSame, List.all_eq_true, Bool.and_eq_true, beq_iff_eq]

theorem spineT_eq_iff (dep : RObj → Int) (a a0 : Tree) :
    spineT dep a = spineT dep a0 ↔
      (dep a.obj = dep a0.obj ∧ a.ns.length = a0.ns.length) ∧ spineL dep a.ns = spineL dep a0.ns := by
  rw [spineT_eq, spineT_eq dep a0, List.cons.injEq, Prod.mk.injEq]

/-- one round of the loop: the array has equal spines iff the row is the same and the array of first children has equal spines -/
theorem spines_step (dep : RObj → Int) (a0 : Tree) (rest : List Tree) :
    (∀ a ∈ a0 :: rest, spineT dep a = spineT dep a0) ↔
      rowSame dep a0 rest = true ∧ (a0.ns = [] ∨
        ∀ b ∈ (a0 :: rest).filterMap (fun a => a.ns.head?), spineT dep b = spineL dep ((a0 :: rest).filterMap (fun a => a.ns.head?))) := by
  simp only [spineT_eq_iff, rowSame_iff, List.forall_mem_cons, true_and, forall_and]
  refine and_congr_right fun hr => ?_
  cases hc : a0.ns with
  | nil =>
    refine iff_of_true (fun a ha => ?_) (Or.inl rfl)
    rw [show a.ns = [] from List.eq_nil_of_length_eq_zero (by rw [hr.2 a ha, hc]; rfl)]
  | cons c0 cs =>
    have hnx : (a0 :: rest).filterMap (fun a => a.ns.head?) = c0 :: rest.filterMap (fun a => a.ns.head?) := by
      rw [List.filterMap_cons, hc]; rfl
    rw [hnx, spineL_cons, spineL_cons]
    simp only [List.forall_mem_cons, true_and, reduceCtorEq, false_or]
    constructor
    · intro h b hb
      obtain ⟨a, ha, hab⟩ := List.mem_filterMap.1 hb
      rw [← spineL_head dep hab]; exact h a ha
    · intro h a ha
      cases hh : a.ns with
      | nil => have := hr.2 a ha; rw [hh, hc] at this; cases this
      | cons b bs => rw [spineL_cons]; exact h b (List.mem_filterMap.2 ⟨a, ha, by rw [hh]; rfl⟩)

/-- the `while (1)` loop is the comparison of spines; enough fuel is the length of the spine of entry 0 (`sizeL` of the array is
    enough, `spineL_length_le`) -/
theorem walk_iff (dep : RObj → Int) : ∀ (fuel : Nat) (arr : List Tree), (spineL dep arr).length ≤ fuel →
    (walk dep fuel arr = true ↔ ∀ a ∈ arr, spineT dep a = spineL dep arr)
  | fuel, [], _ => by cases fuel <;> simp [walk]
  | 0, a0 :: rest, h => by rw [spineL_cons, spineT_eq] at h; simp at h
  | f + 1, a0 :: rest, h => by
    rw [spineL_cons, spineT_eq] at h
    rw [walk, spineL_cons, spines_step]
    by_cases hr : rowSame dep a0 rest = true
    · rw [if_pos hr]
      by_cases he : a0.ns = []
      · rw [if_pos (List.isEmpty_iff.2 he)]; exact iff_of_true rfl ⟨hr, Or.inl he⟩
      · have hfuel : (spineL dep ((a0 :: rest).filterMap (fun a => a.ns.head?))).length ≤ f := by
          obtain ⟨c0, cs, hc⟩ := List.exists_cons_of_ne_nil he
          rw [List.filterMap_cons, hc, List.head?_cons, spineL_cons, ← spineL_cons dep c0 cs, ← hc]
          simp only [List.length_cons] at h; omega
        rw [if_neg (fun e => he (List.isEmpty_iff.1 e)), walk_iff dep f _ hfuel]
        exact ⟨fun h => ⟨hr, Or.inr h⟩, fun h => h.2.resolve_left he⟩
    · rw [if_neg hr]
      exact iff_of_false (by simp) fun h => hr h.1

theorem symAllL_iff (dep : RObj → Int) (l : List Tree) : symAllL dep l = true ↔ ∀ c ∈ l, symT dep c = true := by
  induction l with
  | nil => rw [symAllL]; simp
  | cons t ts ih => rw [symAllL, Bool.and_eq_true, ih]; simp

/-- with a single child the second part holds trivially: the C takes the `arity == 1` shortcut -/
theorem symT_iff (dep : RObj → Int) (o : RObj) (ns ms ios mis : List Tree) :
    symT dep (.node o ns ms ios mis) = true ↔
      ns = [] ∨ ((∀ c ∈ ns, symT dep c = true) ∧ ∀ c ∈ ns, spineT dep c = spineL dep ns) := by
  rw [symT, Bool.or_eq_true, Bool.and_eq_true, Bool.or_eq_true, symAllL_iff, walk_iff dep _ _ (spineL_length_le dep ns),
    List.isEmpty_iff]
  refine or_congr Iff.rfl (and_congr Iff.rfl ⟨fun h => ?_, fun h => Or.inr h⟩)
  rcases h with h | h
  · match ns, h with
    | [c], _ => intro c' hc'; rw [List.mem_singleton.1 hc', spineL_cons]
  · exact h

theorem symT_leaf (dep : RObj → Int) (o : RObj) (ms ios mis : List Tree) : symT dep (.node o [] ms ios mis) = true := by
  rw [symT]; rfl

theorem skelT_eq (t : Tree) : skelT t = .node t.obj (skelL t.ns) [] [] [] := by cases t; rw [skelT]; rfl
theorem skelL_eq (l : List Tree) : skelL l = l.map skelT := by
  induction l with
  | nil => rw [skelL]; rfl
  | cons t ts ih => rw [skelL, ih]; rfl

theorem spineT_skel (dep : RObj → Int) : ∀ t, spineT dep (skelT t) = spineT dep t := by
  apply Tree.indNM
  intro o ns ms ios mis ih _
  rw [skelT, spineT, spineT, skelL_eq, List.length_map]
  cases ns with
  | nil => rfl
  | cons c cs => rw [List.map_cons, spineL_cons, spineL_cons, ih c (List.mem_cons_self ..)]

theorem spineL_skel (dep : RObj → Int) (l : List Tree) : spineL dep (l.map skelT) = spineL dep l := by
  cases l with
  | nil => rfl
  | cons c cs => rw [List.map_cons, spineL_cons, spineL_cons, spineT_skel]

theorem symT_skel (dep : RObj → Int) : ∀ t, symT dep (skelT t) = symT dep t := by
  apply Tree.indNM
  intro o ns ms ios mis ih _
  rw [Bool.eq_iff_iff, skelT, symT_iff, symT_iff, skelL_eq, spineL_skel]
  refine or_congr (by simp) (and_congr ?_ ?_)
  · constructor
    · intro h c hc; rw [← ih c hc]; exact h _ (List.mem_map_of_mem hc)
    · intro h c' hc'; obtain ⟨c, hc, rfl⟩ := List.mem_map.1 hc'; rw [ih c hc]; exact h c hc
  · constructor
    · intro h c hc; rw [← spineT_skel]; exact h _ (List.mem_map_of_mem hc)
    · intro h c' hc'; obtain ⟨c, hc, rfl⟩ := List.mem_map.1 hc'; rw [spineT_skel]; exact h c hc

mutual
theorem symsT_skel (dep : RObj → Int) : ∀ t, symsT dep (skelT t) = symsT dep t
  | .node o ns ms ios mis => by
    have h := symT_skel dep (.node o ns ms ios mis)
    rw [skelT] at h
    rw [skelT, symsT, symsT, h, symsL_skel dep ns]
theorem symsL_skel (dep : RObj → Int) : ∀ l, symsL dep (skelL l) = symsL dep l
  | [] => by rw [skelL]
  | t :: ts => by rw [skelL, symsL, symsL, symsT_skel dep t, symsL_skel dep ts]
end

theorem symsT_congr_skel (dep : RObj → Int) (t t' : Tree) (h : skelT t = skelT t') : symsT dep t = symsT dep t' := by
  rw [← symsT_skel dep t, h, symsT_skel]

/-! ### what the flag means -/

theorem uniformL_iff (dep : RObj → Int) (l : List Tree) (sp : List (Int × Nat)) :
    uniformL dep l sp ↔ ∀ c ∈ l, uniformT dep c sp := by
  induction l with
  | nil => rw [uniformL]; simp
  | cons t ts ih => rw [uniformL, ih]; simp

theorem uniformT_node (dep : RObj → Int) (o : RObj) (ns ms ios mis : List Tree) (x : Int × Nat) (sp : List (Int × Nat)) :
    uniformT dep (.node o ns ms ios mis) (x :: sp) ↔ x = (dep o, ns.length) ∧ (ns = [] → sp = []) ∧ ∀ c ∈ ns, uniformT dep c sp := by
  rw [uniformT, uniformL_iff]

theorem uniformT_spine (dep : RObj → Int) : ∀ t sp, uniformT dep t sp → spineT dep t = sp := by
  apply Tree.indNM (P := fun t => ∀ sp, uniformT dep t sp → spineT dep t = sp)
  intro o ns ms ios mis ih _ sp h
  cases sp with
  | nil => rw [uniformT] at h; exact h.elim
  | cons x sp =>
    obtain ⟨h1, h2, h3⟩ := (uniformT_node ..).1 h
    rw [spineT, h1]
    cases ns with
    | nil => rw [spineL_nil, h2 rfl]
    | cons c cs => rw [spineL_cons, ih c (List.mem_cons_self ..) sp (h3 c (List.mem_cons_self ..))]

/-- although the C only walks down first children, together with the recursive flags of the children it decides full symmetry:
    the subtree is uniform row by row -/
theorem symT_iff_uniform (dep : RObj → Int) : ∀ t, symT dep t = true ↔ uniformT dep t (spineT dep t) := by
  apply Tree.indNM
  intro o ns ms ios mis ih _
  rw [symT_iff, spineT, uniformT_node]
  constructor
  · rintro (h | ⟨h1, h2⟩)
    · subst h; exact ⟨rfl, fun _ => spineL_nil dep, fun c hc => absurd hc List.not_mem_nil⟩
    · refine ⟨rfl, fun hn => by rw [hn, spineL_nil], fun c hc => ?_⟩
      rw [← h2 c hc]; exact (ih c hc).1 (h1 c hc)
  · rintro ⟨_, _, h3⟩
    by_cases hn : ns = []
    · exact Or.inl hn
    · refine Or.inr ⟨fun c hc => (ih c hc).2 ?_, fun c hc => uniformT_spine dep c _ (h3 c hc)⟩
      rw [uniformT_spine dep c _ (h3 c hc)]; exact h3 c hc

mutual
theorem symsT_eq_map (dep : RObj → Int) : ∀ t, symsT dep t = (subsN t).map (fun s => (s.obj.gp, symT dep s))
  | .node o ns ms ios mis => by rw [symsT, subsN, List.map_cons, symsL_eq_map dep ns]; rfl
theorem symsL_eq_map (dep : RObj → Int) : ∀ l, symsL dep l = (subsNL l).map (fun s => (s.obj.gp, symT dep s))
  | [] => by rw [symsL, subsNL]; rfl
  | t :: ts => by rw [symsL, subsNL, List.map_append, symsT_eq_map dep t, symsL_eq_map dep ts]
end

mutual
theorem symsT_length (dep : RObj → Int) : ∀ t, (symsT dep t).length = sizeT (skelT t)
  | .node o ns ms ios mis => by
    rw [symsT, skelT, sizeT, List.length_cons, symsL_length dep ns]
    simp only [sizeL]
    omega
theorem symsL_length (dep : RObj → Int) : ∀ l, (symsL dep l).length = sizeL (skelL l)
  | [] => by rw [symsL, skelL, sizeL]; rfl
  | t :: ts => by rw [symsL, skelL, sizeL, List.length_append, symsT_length dep t, symsL_length dep ts]
end

end Hw.Topo.Restrict.Stage
