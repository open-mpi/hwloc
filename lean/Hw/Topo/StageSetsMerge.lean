/-
  Hw.Topo.StageSetsMerge — the set clauses of well-formedness THROUGH level merging (hwloc_filter_levels_keep_structure).

  hwloc_compare_levels_structure only checks the SHAPE (same number of objects on both levels, every upper object has exactly one
  normal child — the lower object — and, if the lower level is the PU level, no memory children): it never looks at the sets.  What
  makes the merge harmless for the sets is a fact about single children that discovery by insertion establishes and that WF states
  (cpuset-is-disjoint-union-of-children, nodeset-decomposition): an object with exactly ONE normal child has the cpuset and the
  nodeset of that child (`TightQ`).  Under this hypothesis — decidable, evaluated by the driver on every rm_after tree — the clauses
      set-in-complete, set-in-parent (4 sets, normal and memory children), memory-child-shares-cpuset, normal siblings disjoint  (`SetW`)
  and the hypothesis itself are preserved by `mergeT` (both branches: replace-child keeps the parent; replace-parent puts the child,
  with the parent's complete sets or-ed in when memory children come along, in the parent's place), by the re-sorting of memory
  children, by the final `reorderAllT`, hence by `keepStructure`.
-/
import Hw.Topo.StageCompose
import Hw.Topo.RestrictLemmas
namespace Hw.Topo.Restrict.Stage
open Hw.Topo Hw.Topo.Restrict Hw.Topo.SetStage

/-- the set clauses of WF at one object (as `SetQ`, with memory-child-shares-cpuset for the cpuset only, as WF states it) -/
def SetW (o : RObj) (ns ms : List RObj) : Prop :=
  Sub o.cpuset o.ccpuset ∧ Sub o.nodeset o.cnodeset ∧
  (∀ c ∈ ns ++ ms, Sub c.cpuset o.cpuset ∧ Sub c.ccpuset o.ccpuset ∧ Sub c.nodeset o.nodeset ∧ Sub c.cnodeset o.cnodeset) ∧
  (∀ m ∈ ms, m.cpuset = o.cpuset) ∧
  (ns.map (·.cpuset)).Pairwise Dj

def TightQ (o : RObj) (ns : List RObj) : Prop := ∀ c, ns = [c] → c.cpuset = o.cpuset ∧ c.nodeset = o.nodeset

def WQ (o : RObj) (ns ms : List RObj) : Prop := SetW o ns ms ∧ TightQ o ns

theorem setW_of_setQ {o : RObj} {ns ms : List RObj} (h : SetQ o ns ms) : SetW o ns ms :=
  ⟨h.1, h.2.1, h.2.2.1, fun m hm => (h.2.2.2.1 m hm).1, h.2.2.2.2⟩

/-- what a merge may do to the object at the root of a subtree, seen from the parent: same cpuset and nodeset, complete sets not larger -/
def Rel (o o' : RObj) : Prop :=
  o'.cpuset = o.cpuset ∧ o'.nodeset = o.nodeset ∧ Sub o'.ccpuset o.ccpuset ∧ Sub o'.cnodeset o.cnodeset

theorem Rel.refl (o : RObj) : Rel o o := ⟨rfl, rfl, Sub.refl _, Sub.refl _⟩

theorem Rel.trans {a b c : RObj} (h1 : Rel a b) (h2 : Rel b c) : Rel a c :=
  ⟨h2.1.trans h1.1, h2.2.1.trans h1.2.1, h2.2.2.1.trans h1.2.2.1, h2.2.2.2.trans h1.2.2.2⟩

def RelL : List RObj → List RObj → Prop
  | [], [] => True
  | a :: as, b :: bs => Rel a b ∧ RelL as bs
  | _, _ => False

theorem RelL.refl : ∀ l, RelL l l
  | [] => trivial
  | a :: as => ⟨Rel.refl a, RelL.refl as⟩

theorem RelL.mem : ∀ {l l' : List RObj}, RelL l l' → ∀ c' ∈ l', ∃ c ∈ l, Rel c c'
  | [], [], _, c', h => by cases h
  | [], _ :: _, h, _, _ => h.elim
  | _ :: _, [], h, _, _ => h.elim
  | a :: as, b :: bs, h, c', hc => by
    rcases List.mem_cons.1 hc with rfl | hc
    · exact ⟨a, List.mem_cons_self .., h.1⟩
    · obtain ⟨c, hc1, hc2⟩ := RelL.mem h.2 c' hc
      exact ⟨c, List.mem_cons_of_mem _ hc1, hc2⟩

theorem RelL.cpusets : ∀ {l l' : List RObj}, RelL l l' → l'.map (·.cpuset) = l.map (·.cpuset)
  | [], [], _ => rfl
  | [], _ :: _, h => h.elim
  | _ :: _, [], h => h.elim
  | a :: as, b :: bs, h => by rw [List.map_cons, List.map_cons, h.1.1, RelL.cpusets h.2]

theorem RelL.single : ∀ {l : List RObj} {c' : RObj}, RelL l [c'] → ∃ c, l = [c] ∧ Rel c c'
  | [], _, h => h.elim
  | [a], _, h => ⟨a, rfl, h.1⟩
  | _ :: _ :: _, _, h => h.2.elim

theorem WQ.relabel {o : RObj} {ns ns' ms : List RObj} (h : WQ o ns ms) (hr : RelL ns ns') : WQ o ns' ms := by
  obtain ⟨⟨h1, h2, h3, h4, h5⟩, ht⟩ := h
  refine ⟨⟨h1, h2, ?_, h4, ?_⟩, ?_⟩
  · intro c' hc'
    rcases List.mem_append.1 hc' with hc' | hc'
    · obtain ⟨c, hc, r⟩ := hr.mem c' hc'
      have := h3 c (List.mem_append_left _ hc)
      exact ⟨r.1 ▸ this.1, r.2.2.1.trans this.2.1, r.2.1 ▸ this.2.2.1, r.2.2.2.trans this.2.2.2⟩
    · exact h3 c' (List.mem_append_right _ hc')
  · rw [hr.cpusets]; exact h5
  · intro c' hc'
    subst hc'
    obtain ⟨c, rfl, r⟩ := hr.single
    have := ht c rfl
    exact ⟨r.1.trans this.1, r.2.1.trans this.2⟩

theorem WQ.mem_perm {o : RObj} {ns ms ms' : List RObj} (h : WQ o ns ms) (hp : ∀ x, x ∈ ms' → x ∈ ms) : WQ o ns ms' := by
  obtain ⟨⟨h1, h2, h3, h4, h5⟩, ht⟩ := h
  refine ⟨⟨h1, h2, ?_, fun m hm => h4 m (hp m hm), h5⟩, ht⟩
  intro c hc
  rcases List.mem_append.1 hc with hc | hc
  · exact h3 c (List.mem_append_left _ hc)
  · exact h3 c (List.mem_append_right _ (hp c hc))

theorem WQ.ns_perm {o : RObj} {ns ns' ms : List RObj} (h : WQ o ns ms) (hp : ns'.Perm ns) : WQ o ns' ms := by
  obtain ⟨⟨h1, h2, h3, h4, h5⟩, ht⟩ := h
  refine ⟨⟨h1, h2, ?_, h4, Dj.pairwise_perm (hp.map _) h5⟩, ?_⟩
  · intro c hc
    rcases List.mem_append.1 hc with hc | hc
    · exact h3 c (List.mem_append_left _ (hp.subset hc))
    · exact h3 c (List.mem_append_right _ hc)
  · intro c hc
    subst hc
    exact ht c (List.perm_singleton.1 hp.symm)

theorem WQ.grow {o r : RObj} {ns ms : List RObj} (h : WQ o ns ms) (hr : Rel r o) : WQ r ns ms := by
  obtain ⟨⟨h1, h2, h3, h4, h5⟩, ht⟩ := h
  obtain ⟨e1, e2, g1, g2⟩ := hr
  exact ⟨⟨e1 ▸ h1.trans g1, e2 ▸ h2.trans g2,
    fun c hc => ⟨e1 ▸ (h3 c hc).1, (h3 c hc).2.1.trans g1, e2 ▸ (h3 c hc).2.2.1, (h3 c hc).2.2.2.trans g2⟩,
    fun m hm => (h4 m hm).trans e1, h5⟩, fun c hc => e1 ▸ e2 ▸ ht c hc⟩

theorem WQ.single {o co : RObj} {ms : List RObj} (h : WQ o [co] ms) : Rel o co :=
  have hco := h.1.2.2.1 co (List.mem_append_left _ (List.mem_singleton_self co))
  ⟨(h.2 co rfl).1, (h.2 co rfl).2, hco.2.1, hco.2.2.2⟩

/-! ### `absorbIf`: between the child and the parent -/

theorem absorbIf_rel_child (ms : List Tree) (o co : RObj) : Rel (absorbIf ms o co) co :=
  absorbIf_cases (P := fun r => Rel r co) ms (Rel.refl co) ⟨rfl, rfl, Sub.or_right _ (Sub.refl _), Sub.or_right _ (Sub.refl _)⟩

theorem absorbIf_rel (ms : List Tree) {o co : RObj} (h : Rel o co) : Rel o (absorbIf ms o co) :=
  absorbIf_cases (P := Rel o) ms h ⟨h.1, h.2.1, Sub.or_left h.2.2.1 (Sub.refl _), Sub.or_left h.2.2.2 (Sub.refl _)⟩

theorem absorbIf_rel_parent {ms : List Tree} (hne : ms ≠ []) {o co : RObj} (h : Rel o co) : Rel (absorbIf ms o co) o := by
  unfold absorbIf absorb
  rw [if_neg (by simpa using hne)]
  exact ⟨h.1.symm, h.2.1.symm, Sub.or_right' _ (Sub.refl _), Sub.or_right' _ (Sub.refl _)⟩

/-! ### one merge -/

/-- **merging an object with its single normal child** (either branch) keeps the clauses in the merged subtree, and the object now at
    its root is `Rel`-ated to the old one.  Parent and child are `Rel`-ated by `TightQ`; both branches put at the root an object `r` between
    them (`Rel o r`, `Rel r co`) with complete sets at least the parent's when it hands memory children over; the clauses at the new root
    follow from that alone, for any arrangement `mm` of the two memory lists. -/
theorem WQ_merged (rc : Bool) {o co : RObj} {cns cms cios cmis ms ios mis mm : List Tree} (hpm : mm.Perm (ms ++ cms))
    (h : AllQ WQ (.node o [.node co cns cms cios cmis] ms ios mis)) :
    AllQ WQ (.node (if rc then o else absorbIf ms o co) cns mm (ios ++ cios) (mis ++ cmis)) ∧
      Rel o (if rc then o else absorbIf ms o co) := by
  rw [AllQ_node] at h
  obtain ⟨hw, hkid, hms⟩ := h
  obtain ⟨hcw, hck, hcm⟩ := (AllQ_node ..).1 (hkid _ (List.mem_singleton_self _))
  have hoc : Rel o co := WQ.single hw
  suffices key : ∀ r : RObj, Rel r co → (ms ≠ [] → Rel r o) → AllQ WQ (.node r cns mm (ios ++ cios) (mis ++ cmis)) by
    cases rc
    · exact ⟨key _ (absorbIf_rel_child ms o co) fun hne => absorbIf_rel_parent hne hoc, absorbIf_rel ms hoc⟩
    · exact ⟨key o hoc fun _ => Rel.refl o, Rel.refl o⟩
  intro r hrc hro
  -- the child's clauses hold at `r`, and so do the parent's when it has memory children
  obtain ⟨⟨r1, r2, r3, r4, r5⟩, rt⟩ := hcw.grow hrc
  have ho : ∀ {m}, m ∈ ms.map Tree.obj → WQ r [co] (ms.map Tree.obj) := fun hm =>
    WQ.grow hw (hro fun e => by rw [e] at hm; cases hm)
  refine (AllQ_node ..).2 ⟨WQ.mem_perm (ms := ms.map Tree.obj ++ cms.map Tree.obj)
      ⟨⟨r1, r2, fun c hc => ?_, fun m hm => ?_, r5⟩, rt⟩ fun x hx => List.map_append ▸ (hpm.map Tree.obj).subset hx,
    hck, fun m hm => (List.mem_append.1 (hpm.subset hm)).elim (hms m) (hcm m)⟩
  · rcases List.mem_append.1 hc with hc | hc
    · exact r3 c (List.mem_append_left _ hc)
    · rcases List.mem_append.1 hc with hc | hc
      · exact (ho hc).1.2.2.1 c (List.mem_append_right _ hc)
      · exact r3 c (List.mem_append_right _ hc)
  · rcases List.mem_append.1 hm with hm | hm
    · exact (ho hm).1.2.2.2.1 m hm
    · exact r4 m hm

theorem RelL.map {α : Type} {f g : α → RObj} : ∀ {l : List α}, (∀ x ∈ l, Rel (f x) (g x)) → RelL (l.map f) (l.map g)
  | [], _ => trivial
  | a :: as, h => ⟨h a (List.mem_cons_self ..), RelL.map fun x hx => h x (List.mem_cons_of_mem _ hx)⟩

theorem WQ_merge (ps : List Nat) (rc : Bool) :
    ∀ t, AllQ WQ t → AllQ WQ (mergeT ps rc t) ∧ Rel t.obj (mergeT ps rc t).obj :=
  mergeT_ind ps rc (P := fun t t' => AllQ WQ t → AllQ WQ t' ∧ Rel t.obj t'.obj)
    (fun _ _ _ _ _ _ _ _ _ _ _ hmm h => WQ_merged rc hmm h) (fun t h => ⟨h, Rel.refl t.obj⟩)
    fun o ns ms ios mis ihn h => by
      refine ⟨?_, Rel.refl _⟩
      rw [AllQ_node] at h ⊢
      rw [List.map_map]
      refine ⟨h.1.relabel (RelL.map fun c hc => (ihn c hc (h.2.1 c hc)).2), fun c' hc' => ?_, h.2.2⟩
      obtain ⟨c, hc, rfl⟩ := List.mem_map.1 hc'
      exact (ihn c hc (h.2.1 c hc)).1

theorem WQ_reorderAll : ∀ t, AllQ WQ t → AllQ WQ (reorderAllT t) := by
  apply Tree.indNM
  intro o ns ms ios mis ihn _ h
  rw [reorderAllT, reorderAllL_eq_map]
  rw [AllQ_node] at h ⊢
  have hp := fixOrder_perm (ns.map reorderAllT)
  refine ⟨h.1.ns_perm ?_, fun c' hc' => ?_, h.2.2⟩
  · have e : (ns.map reorderAllT).map Tree.obj = ns.map Tree.obj := by
      rw [List.map_map]
      exact List.map_congr_left fun c _ => obj_reorderAllT c
    rw [← e]; exact hp.map _
  · obtain ⟨c, hc, rfl⟩ := List.mem_map.1 (hp.subset hc')
    exact ihn c hc (h.2.1 c hc)

theorem WQ_keepStructure (filters : List Nat) (t : Tree) (h : AllQ WQ t) :
    AllQ WQ (keepStructure filters t) ∧ Rel t.obj (keepStructure filters t).obj :=
  keepStructure_ind (P := fun t' => AllQ WQ t' ∧ Rel t.obj t'.obj)
    (fun ps rc t' h' => ⟨(WQ_merge ps rc t' h'.1).1, h'.2.trans (WQ_merge ps rc t' h'.1).2⟩)
    (fun t' h' => ⟨WQ_reorderAll t' h'.1, by rw [obj_reorderAllT t']; exact h'.2⟩) filters t ⟨h, Rel.refl _⟩

/-! ### the hypothesis, decidable -/

mutual
def tightT : Tree → Bool
  | .node o ns ms _ _ =>
    (match ns with
      | [c] => c.obj.cpuset == o.cpuset && c.obj.nodeset == o.nodeset
      | _ => true) && tightL ns && tightL ms
def tightL : List Tree → Bool
  | [] => true
  | t :: ts => tightT t && tightL ts
end

theorem tightL_iff (l : List Tree) : tightL l = true ↔ ∀ t ∈ l, tightT t = true := by
  induction l with
  | nil => simp [tightL]
  | cons a as ih => rw [tightL, Bool.and_eq_true, ih]; simp only [List.mem_cons, forall_eq_or_imp]

theorem tightT_node (o : RObj) (ns ms ios mis : List Tree) :
    tightT (.node o ns ms ios mis) =
      ((match ns with
        | [c] => c.obj.cpuset == o.cpuset && c.obj.nodeset == o.nodeset
        | _ => true) && tightL ns && tightL ms) := by
  cases ns with
  | nil => rfl
  | cons t ts => cases ts <;> rfl

theorem tight_allQ : ∀ t, tightT t = true → AllQ (fun o ns _ => TightQ o ns) t := by
  apply Tree.indNM
  intro o ns ms ios mis ihn ihm h
  rw [tightT_node, Bool.and_eq_true, Bool.and_eq_true, tightL_iff, tightL_iff] at h
  refine (AllQ_node _ _ _ _ _ _).2 ⟨fun c hc => ?_, fun c hc => ihn c hc (h.1.2 c hc), fun m hm => ihm m hm (h.2 m hm)⟩
  match ns, hc, h.1.1 with
  | [t], hc, h1 =>
    cases hc
    simpa using h1

theorem setW_keepStructure (filters : List Nat) (t : Tree) (hs : AllQ SetQ t) (ht : tightT t = true) :
    AllQ SetW (keepStructure filters t) ∧ AllQ (fun o ns _ => TightQ o ns) (keepStructure filters t) ∧
    (keepStructure filters t).obj.cpuset = t.obj.cpuset ∧ (keepStructure filters t).obj.nodeset = t.obj.nodeset := by
  have h0 : AllQ WQ t := allQ_and t (allQ_mono (fun _ _ _ h => setW_of_setQ h) t hs) (tight_allQ t ht)
  have h1 := WQ_keepStructure filters t h0
  exact ⟨allQ_mono (fun _ _ _ h => h.1) _ h1.1, allQ_mono (fun _ _ _ h => h.2) _ h1.1, h1.2.1, h1.2.2.1⟩

/-! ### executable forms (evaluated by the Stage2 driver on every load) -/

instance (o : RObj) (ns ms : List RObj) : Decidable (SetW o ns ms) := by unfold SetW SetStage.Sub SetStage.Dj; infer_instance
instance (o : RObj) (ns ms : List RObj) : Decidable (SetQ o ns ms) := by unfold SetQ SetStage.Sub SetStage.Dj; infer_instance

mutual
def allQB (q : RObj → List RObj → List RObj → Bool) : Tree → Bool
  | .node o ns ms _ _ => q o (ns.map Tree.obj) (ms.map Tree.obj) && allQBL q ns && allQBL q ms
def allQBL (q : RObj → List RObj → List RObj → Bool) : List Tree → Bool
  | [] => true
  | t :: ts => allQB q t && allQBL q ts
end

theorem allQBL_iff (q : RObj → List RObj → List RObj → Bool) (l : List Tree) : allQBL q l = true ↔ ∀ t ∈ l, allQB q t = true := by
  induction l with
  | nil => simp [allQBL]
  | cons a as ih => rw [allQBL, Bool.and_eq_true, ih]; simp only [List.mem_cons, forall_eq_or_imp]

theorem allQB_iff (q : RObj → List RObj → List RObj → Bool) :
    ∀ t, allQB q t = true ↔ AllQ (fun o ns ms => q o ns ms = true) t := by
  apply Tree.indNM
  intro o ns ms ios mis ihn ihm
  rw [allQB, AllQ_node, Bool.and_eq_true, Bool.and_eq_true, allQBL_iff, allQBL_iff, and_assoc]
  exact and_congr_right fun _ => and_congr (forall₂_congr ihn) (forall₂_congr ihm)

def setQT (t : Tree) : Bool := allQB (fun o ns ms => decide (SetQ o ns ms)) t
def setWT (t : Tree) : Bool := allQB (fun o ns ms => decide (SetW o ns ms)) t

theorem setQT_iff (t : Tree) : setQT t = true ↔ AllQ SetQ t := by
  unfold setQT; rw [allQB_iff]
  exact ⟨allQ_mono (fun _ _ _ hq => of_decide_eq_true hq) t, allQ_mono (fun _ _ _ hq => decide_eq_true hq) t⟩
theorem setWT_iff (t : Tree) : setWT t = true ↔ AllQ SetW t := by
  unfold setWT; rw [allQB_iff]
  exact ⟨allQ_mono (fun _ _ _ hq => of_decide_eq_true hq) t, allQ_mono (fun _ _ _ hq => decide_eq_true hq) t⟩

theorem setWT_keepStructure (filters : List Nat) (t : Tree) (hs : setQT t = true) (ht : tightT t = true) :
    setWT (keepStructure filters t) = true :=
  (setWT_iff _).2 (setW_keepStructure filters t ((setQT_iff t).1 hs) ht).1

end Hw.Topo.Restrict.Stage
