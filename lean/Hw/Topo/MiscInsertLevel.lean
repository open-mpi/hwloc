/-
  Hw.Topo.MiscInsertLevel — hwloc_topology_insert_misc_object (dump-level model): the clauses about level membership,
  logical indexes and cousin links (`in-its-level`, `level-entries-valid`, `levels-in-tree-order`).
-/
import Hw.Topo.MiscInsertTop
import Hw.Base.InsertSort
namespace Hw.Topo.MiscIns
open Hw.Topo Hw.Topo.Hist

theorem specialDepth_normal : ∀ t, t < 20 → specialDepth t = none → isNormal t = true := by decide

section
variable {d : Dump} (h : WF d) (p pos k : Nat) (name : Option String) (skip : Nat)
  (hp : p < pos) (hpos : pos ≤ d.objs.length) (hk : ∀ l ∈ d.levels, l.depth = -7 → k ≤ l.objs.length)


include h in
theorem misc_iff_depth7 (o : Obj) (ho : o ∈ d.objs) : o.type = tMISC ↔ o.depth = -7 := by
  cases hn : isNormal o.type with
  | true =>
    have := (h.normal_depth ho hn).1
    exact ⟨fun e => absurd (e ▸ hn) (by decide), fun e => by omega⟩
  | false =>
    have hs := (h.special_depth ho hn).1
    exact ⟨fun e => (Option.some.inj (e ▸ hs :)).symm, fun e => specialDepth_misc (e ▸ hs)⟩

theorem upd_cousins_misc (o : Obj) (ht : o.type = tMISC) :
    (U o).lidx = shN k o.lidx ∧ (U o).prevCousin = (if o.lidx = k then (pos : Int) else shI pos o.prevCousin) ∧
    (U o).nextCousin = (if o.lidx + 1 = k then (pos : Int) else shI pos o.nextCousin) := by
  refine ⟨?_, ?_, ?_⟩
  · show updLidx k o = _
    simp [updLidx_eq, shN, ht]
  · show updPrevCousin pos k o = _
    simp [updPrevCousin_eq, ht]
  · show updNextCousin pos k o = _
    simp [updNextCousin_eq, ht]

theorem upd_cousins_other (o : Obj) (ht : o.type ≠ tMISC) :
    (U o).lidx = o.lidx ∧ (U o).prevCousin = shI pos o.prevCousin ∧ (U o).nextCousin = shI pos o.nextCousin := by
  refine ⟨?_, ?_, ?_⟩
  · show updLidx k o = _
    simp [updLidx_eq, ht]
  · show updPrevCousin pos k o = _
    simp [updPrevCousin_eq, ht]
  · show updNextCousin pos k o = _
    simp [updNextCousin_eq, ht]

theorem insL_get_sh (l : Level) (hkl : k ≤ l.objs.length) (i : Nat) :
    (insL pos k l).objs[shN k i]? = (l.objs[i]?).map (shI pos) := by
  show (insAt (l.objs.map (shI pos)) k (pos : Int))[shN k i]? = _
  rw [insAt_get_sh _ _ _ (by simpa using hkl), List.getElem?_map]
theorem insL_get_k (l : Level) (hkl : k ≤ l.objs.length) : (insL pos k l).objs[k]? = some (pos : Int) := by
  show (insAt (l.objs.map (shI pos)) k (pos : Int))[k]? = _
  exact insAt_get_pos _ _ _ (by simpa using hkl)

include h hk in
theorem c_in_its_level_old (o : Obj) (ho : o ∈ d.objs) : objClause "in-its-level" DN (mkAux DN) (U o) = true := by
  obtain ⟨l, hl, hlm, hld, a1, a2, a3, a4⟩ := h.in_its_level ho
  refine (inItsLevel_iff _ _ _).2 ⟨_, by rw [show (U o).depth = o.depth from rfl, levelOf_after h, hl, Option.map_some], ?_⟩
  by_cases h7 : o.depth = -7
  · -- a Misc object: its level gets the new entry at `k`
    have hkl : k ≤ l.objs.length := hk l hlm (by rw [hld, h7])
    have hkl' : k ≤ (l.objs.map (shI pos)).length := by rw [List.length_map]; exact hkl
    obtain ⟨e1, e2, e3⟩ := upd_cousins_misc (d := d) p pos k o ((misc_iff_depth7 h o ho).2 h7)
    rw [if_pos (show (o.depth == -7) = true by rw [h7]; rfl), e1, e2, e3, upd_id]
    exact ⟨by rw [insL_get_sh pos k l hkl, a1, ← shI_nat]; rfl, a2, by rw [a3]; exact ((prevAt_insAt k _ _ hkl' _).trans (congrArg _ (prevAt_map pos _ _))).symm,
      by rw [a4]; exact ((nextAt_insAt k _ _ hkl' _).trans (congrArg _ (nextAt_map pos _ _))).symm⟩
  · obtain ⟨e1, e2, e3⟩ := upd_cousins_other (d := d) p pos k o (fun e => h7 ((misc_iff_depth7 h o ho).1 e))
    rw [if_neg (show ¬ (o.depth == -7) = true by rw [beq_iff_eq]; exact h7), e1, e2, e3, upd_id]
    exact ⟨by rw [show (shL pos l).objs = l.objs.map (shI pos) from rfl, List.getElem?_map, a1, ← shI_nat]; rfl, a2,
      by rw [a3]; exact (prevAt_map pos _ _).symm, by rw [a4]; exact (nextAt_map pos _ _).symm⟩

include h in
theorem misc_level : ∃ l, levelOf d (-7) = some l ∧ l ∈ d.levels ∧ l.depth = -7 ∧ l.type = (tMISC : Int) := by
  obtain ⟨l, hl, hd⟩ := h.level_at_special_depth (k := -7) (by simp)
  have hs := h.special_level hl (by omega)
  refine ⟨l, hd ▸ h.levelOf_eq hl, hl, hd, ?_⟩
  have ht := specialDepth_misc (hd ▸ hs.1)
  unfold tMISC at ht ⊢
  omega

include h hk in
theorem c_in_its_level_new : objClause "in-its-level" DN (mkAux DN) NEW = true := by
  obtain ⟨l, hl, hlm, hld, hlt⟩ := misc_level h
  have hkl := hk l hlm hld
  have eml : miscLevel d = l.objs := by unfold miscLevel; rw [hl]; rfl
  refine (inItsLevel_iff _ _ _).2 ⟨_, by rw [show (NEW).depth = -7 from rfl, levelOf_after h, hl, Option.map_some], ?_⟩
  show (insL pos k l).objs[k]? = some (pos : Int) ∧ l.type = (tMISC : Int) ∧
    (if k = 0 then (-1 : Int) else (((miscLevel d)[k - 1]?).map (shI pos)).getD (-2)) =
      (if k = 0 then -1 else ((insL pos k l).objs[k - 1]?).getD (-2)) ∧
    (((miscLevel d)[k]?).map (shI pos)).getD (-1) = ((insL pos k l).objs[k + 1]?).getD (-1)
  rw [eml]
  refine ⟨insL_get_k pos k l hkl, hlt, ?_, ?_⟩
  · by_cases k0 : k = 0
    · simp only [k0, if_true]
    · simp only [k0, if_false]
      have e : k - 1 = shN k (k - 1) := by unfold shN; split <;> omega
      rw [e, insL_get_sh pos k l hkl, ← e]
  · have e : k + 1 = shN k k := by unfold shN; simp
    rw [e, insL_get_sh pos k l hkl]

include h hk in
theorem c_in_its_level : ∀ o' ∈ Dump.objs DN, objClause "in-its-level" DN (mkAux DN) o' = true :=
  forall_after d p pos k name skip (c_in_its_level_new h p pos k name skip hk) (c_in_its_level_old h p pos k name skip hk)

include h hpos hk in
theorem t_level_entries_valid : topClause "level-entries-valid" DN (mkAux DN) = true := by
  refine (levelEntriesValid_iff _ _).2 fun l' hl' i e he => ?_
  obtain ⟨l, hl, hh⟩ := mem_levels_after h p pos k name skip l' hl'
  have old : ∀ j e0, l.objs[j]? = some e0 → ∃ o ∈ d.objs, (DN).obj? (shI pos e0) = some (U o) ∧ o.lidx = j ∧ o.depth = l.depth :=
    fun j e0 hj => by
      obtain ⟨o, ho, hr⟩ := (levelEntriesValid_iff d _).1 (h.top_by_name _) l hl j e0 hj
      exact ⟨o, Dump.mem_of_obj? ho, by rw [after_obj?_sh d p pos k name skip hpos, ho]; rfl, hr⟩
  rcases hh with ⟨rfl, hd7⟩ | ⟨rfl, hd7⟩
  · rw [show (shL pos l).objs = l.objs.map (shI pos) from rfl, List.getElem?_map] at he
    obtain ⟨e0, he0, rfl⟩ := Option.map_eq_some_iff.1 he
    obtain ⟨o, hom, ho, hli, hdep⟩ := old i e0 he0
    refine ⟨U o, ho, ?_, hdep⟩
    rw [(upd_cousins_other (d := d) p pos k o fun e => hd7 (hdep ▸ (misc_iff_depth7 h o hom).1 e)).1, hli]
  · have hkl := hk l hl hd7
    rcases shN_cases k i with hik | ⟨j, rfl⟩
    · rw [hik, insL_get_k pos k l hkl] at he
      cases he
      exact ⟨NEW, after_obj?_pos d p pos k name skip hpos, hik.symm, hd7.symm⟩
    · rw [insL_get_sh pos k l hkl] at he
      obtain ⟨e0, he0, rfl⟩ := Option.map_eq_some_iff.1 he
      obtain ⟨o, hom, ho, hli, hdep⟩ := old j e0 he0
      refine ⟨U o, ho, ?_, hdep⟩
      rw [(upd_cousins_misc (d := d) p pos k o ((misc_iff_depth7 h o hom).2 (hdep.trans hd7))).1, hli]

/-! ### levels stay in tree order -/

theorem pairwise_map_sh (pos : Nat) (l : List Int) (hl : l.Pairwise (· < ·)) : (l.map (shI pos)).Pairwise (· < ·) := by
  rw [List.pairwise_map]
  exact hl.imp (fun {a b} hab => (shI_lt pos a b).2 hab)

theorem pairwise_ins (pos : Nat) (l : List Int) (hl : l.Pairwise (· < ·)) :
    (insAt (l.map (shI pos)) (l.filter (fun i => decide (i < (pos : Int)))).length (pos : Int)).Pairwise (· < ·) := by
  -- the ids below `pos` are a prefix of the sorted level and the renaming leaves them alone: the position is the length of a `takeWhile`
  have hp : (fun i => decide (i < (pos : Int))) ∘ shI pos = fun i => decide (i < (pos : Int)) := by
    funext i; exact decide_eq_decide.2 (by unfold shI; split <;> omega)
  have e : (l.filter (fun i => decide (i < (pos : Int)))).length = ((l.map (shI pos)).takeWhile (fun i => decide (i < (pos : Int)))).length := by
    rw [InsertSort.filter_eq_takeWhile (R := (· < ·)) (fun a b hab hb => by simp only [decide_eq_true_eq] at hb ⊢; omega) l hl,
      List.takeWhile_map, hp, List.length_map]
  unfold insAt
  rw [e, ← dropWhile_eq_drop_takeWhile, ← takeWhile_eq_take_takeWhile]
  exact InsertSort.split_pairwise (R := (· < ·)) (fun i => decide (i < (pos : Int))) _ (fun _ _ _ => Int.lt_trans) _ (pairwise_map_sh pos l hl)
    (fun _ _ h => of_decide_eq_true h)
    fun y hy h => by
      obtain ⟨b, _, rfl⟩ := List.mem_map.1 hy
      have h1 : ¬ shI pos b < (pos : Int) := of_decide_eq_false h
      have h2 := shI_ne_pos pos b
      show (pos : Int) < shI pos b
      omega

include h in
theorem t_levels_in_tree_order
    (hkdef : ∀ l ∈ d.levels, l.depth = -7 → k = (l.objs.filter (fun i => decide (i < (pos : Int)))).length) :
    topClause "levels-in-tree-order" DN (mkAux DN) = true := by
  refine top_after h p pos k name skip 17 rfl fun c => ?_
  simp only [List.all_eq_true] at c ⊢
  intro l' hl'
  obtain ⟨l, hl, hh⟩ := mem_levels_after h p pos k name skip l' hl'
  have cl := (increasing_iff _).1 (c l hl)
  rw [increasing_iff]
  rcases hh with ⟨rfl, _⟩ | ⟨rfl, hd7⟩
  · exact pairwise_map_sh pos _ cl
  · show (insAt (l.objs.map (shI pos)) k (pos : Int)).Pairwise (· < ·)
    rw [hkdef l hl hd7]
    exact pairwise_ins pos _ cl

end
end Hw.Topo.MiscIns
