/-
  Hw.Topo.StageCompose — the stages of `hwloc_discover` after the set pipeline, composed:

      set stage (Hw.Topo.SetStage.stage, two-list tree)
        → [hwloc__reconnect, PCI / I/O / Misc / annotate discovery, hwloc_filter_bridges: NOT modelled; their only effect on the
           object tree that the later stages read is the I/O and Misc subtrees hanging below the objects and the Group attributes:
           the arbitrary decoration `Deco`]
        → remove_empty (Stage.removeEmpty) → hwloc__reconnect(KEEPSTRUCTURE) (Restrict.keepStructure, then Restrict.render)
        → propagate_total_memory (Stage.totalsT) → hwloc_set_group_depth (Stage.setGroupDepth)
-/
import Hw.Topo.SetStagePre
import Hw.Topo.StageRemoveEmptyLemmas
import Hw.Topo.StageMemoryLemmas
import Hw.Topo.StageGroupLemmas
namespace Hw.Topo.Restrict.Stage
open Hw.Topo Hw.Topo.Restrict Hw.Topo.SetStage

/-- what the two-list tree of the set stage does not carry: the I/O and Misc subtrees attached to an object when `remove_empty`
    runs, and the Group attributes read by `hwloc_type_cmp` / `hwloc_filter_levels_keep_structure` -/
structure Deco where
  ios : SObj → List Tree
  mis : SObj → List Tree
  gkind : SObj → Int
  gsubkind : SObj → Int
  dm : SObj → Nat

def robj (dc : Deco) (o : SObj) : RObj :=
  { gp := o.gp, type := o.type, osidx := (o.os : Int), cpuset := o.cpuset, ccpuset := o.ccpuset.getD 0, nodeset := o.nodeset,
    cnodeset := o.cnodeset.getD 0, hasSets := true, gkind := dc.gkind o, gsubkind := dc.gsubkind o, dmByte := dc.dm o }

mutual
/-- the four-list tree that `remove_empty` receives -/
def toTree (dc : Deco) : ST → Tree
  | .node o kids mem => .node (robj dc o) (toTreeL dc kids) (toTreeL dc mem) (dc.ios o) (dc.mis o)
def toTreeL (dc : Deco) : List ST → List Tree
  | [] => []
  | c :: cs => toTree dc c :: toTreeL dc cs
end

theorem toTreeL_eq (dc : Deco) (l : List ST) : toTreeL dc l = l.map (toTree dc) := by
  induction l with
  | nil => rfl
  | cons c cs ih => rw [toTreeL, ih]; rfl

theorem toTree_node (dc : Deco) (o : SObj) (kids mem : List ST) :
    toTree dc (.node o kids mem) = .node (robj dc o) (kids.map (toTree dc)) (mem.map (toTree dc)) (dc.ios o) (dc.mis o) := by
  rw [toTree, toTreeL_eq, toTreeL_eq]

theorem toTree_obj (dc : Deco) (s : ST) : (toTree dc s).obj = robj dc s.o := by
  cases s; rw [toTree_node]; rfl

theorem allQ_toTree (dc : Deco) {P : SObj → List ST → List ST → Prop} {Q : RObj → List RObj → List RObj → Prop}
    (hPQ : ∀ o k m, P o k m → Q (robj dc o) (k.map (fun c => robj dc c.o)) (m.map (fun c => robj dc c.o))) :
    ∀ s, AllN P s → AllQ Q (toTree dc s) := by
  apply ST.ind
  intro o kids mem ihk ihm h
  rw [toTree_node, AllQ_node]
  simp only [List.map_map, List.forall_mem_map]
  refine ⟨?_, fun c hc => ihk c hc (h.kids c hc), fun c hc => ihm c hc (h.mem c hc)⟩
  have e : ∀ l : List ST, l.map (Tree.obj ∘ toTree dc) = l.map (fun c => robj dc c.o) := fun l =>
    List.map_congr_left (fun c _ => toTree_obj dc c)
  rw [e, e]
  exact hPQ _ _ _ h.here

/-- the set clauses of well-formedness that the set stage establishes, over the objects of the four-list tree: set-in-complete,
    set-in-parent (all four sets, normal and memory children), memory-child-shares-cpuset, normal siblings pairwise disjoint -/
def SetQ (o : RObj) (ns ms : List RObj) : Prop :=
  Sub o.cpuset o.ccpuset ∧ Sub o.nodeset o.cnodeset ∧
  (∀ c ∈ ns ++ ms, Sub c.cpuset o.cpuset ∧ Sub c.ccpuset o.ccpuset ∧ Sub c.nodeset o.nodeset ∧ Sub c.cnodeset o.cnodeset) ∧
  (∀ m ∈ ms, m.cpuset = o.cpuset ∧ m.ccpuset = o.ccpuset) ∧
  (ns.map (·.cpuset)).Pairwise Dj

theorem SetQ_stable : Stable SetQ := by
  intro o ns ms ns' ms' h hn hm
  refine ⟨h.1, h.2.1, ?_, ?_, ?_⟩
  · intro c hc
    apply h.2.2.1 c
    rcases List.mem_append.1 hc with hc | hc
    · exact List.mem_append_left _ (hn.sublist.subset hc)
    · exact List.mem_append_right _ (hm.sublist.subset hc)
  · exact fun m hm' => h.2.2.2.1 m (hm.sublist.subset hm')
  · exact h.2.2.2.2.sublist (hn.sublist.map _)

/-- within-allowed: a clause about the object alone -/
def AllowedQ (ac an : Nat) (o : RObj) (_ns _ms : List RObj) : Prop := Sub o.cpuset ac ∧ Sub o.nodeset an

theorem AllowedQ_stable (ac an : Nat) : Stable (AllowedQ ac an) := fun _ _ _ _ _ h _ _ => h

theorem setQ_of_post (dc : Deco) (o : SObj) (k m : List ST) (h : Post o k m) :
    SetQ (robj dc o) (k.map (fun c => robj dc c.o)) (m.map (fun c => robj dc c.o)) := by
  obtain ⟨⟨cc, cn, hcc, hcn, h1, h2⟩, hk, hm, hd⟩ := h
  refine ⟨by simp only [robj, hcc, Option.getD_some]; exact h1, by simp only [robj, hcn, Option.getD_some]; exact h2, ?_, ?_, ?_⟩
  · intro c hc
    rcases List.mem_append.1 hc with hc | hc
    · obtain ⟨c0, hc0, rfl⟩ := List.mem_map.1 hc
      exact hk c0 hc0
    · obtain ⟨c0, hc0, rfl⟩ := List.mem_map.1 hc
      exact (hm c0 hc0).1
  · intro c hc
    obtain ⟨c0, hc0, rfl⟩ := List.mem_map.1 hc
    have := (hm c0 hc0).2
    exact ⟨this.1, by simp only [robj, this.2]⟩
  · rw [List.map_map]
    exact hd

/-- the composed tree pipeline: `none` when `remove_empty` removes the root (the load fails) -/
def pipeline (i : In) (dc : Deco) (filters : List Nat) : Option Tree :=
  (removeEmpty (toTree dc (stage i).root)).map (keepStructure filters)

end Hw.Topo.Restrict.Stage
