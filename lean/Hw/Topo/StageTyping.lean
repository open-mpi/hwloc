/-
  Hw.Topo.StageTyping — the object-kind discipline (`typedT`, hypothesis of the link theorems) of the tree that `remove_empty`
  receives follows from the same discipline on the INPUT of the set stage (`typedST`, decidable) and on the decoration: the set
  stage changes sets and the order of normal children only (`SetStage.Sim`).
-/
import Hw.Topo.StageCompose
import Hw.Topo.SetStageShape
namespace Hw.Topo.Restrict.Stage
open Hw.Topo Hw.Topo.Restrict Hw.Topo.SetStage

/-- typing of one node of the two-list tree: the `typedT` conditions that concern normal and memory children -/
def TypedN (o : SObj) (kids mem : List ST) : Prop :=
  o.type < tMAX ∧ (isNormal o.type = true ∨ kids = []) ∧ (isNormal o.type = true ∨ o.type = tMEMCACHE ∨ mem = []) ∧
  (∀ k ∈ kids, isNormal k.o.type = true) ∧ (∀ m ∈ mem, isMemory m.o.type = true)

def typedNb (o : SObj) (kids mem : List ST) : Bool :=
  decide (o.type < tMAX) && (isNormal o.type || kids.isEmpty) && (isNormal o.type || o.type == tMEMCACHE || mem.isEmpty) &&
  kids.all (fun k => isNormal k.o.type) && mem.all (fun m => isMemory m.o.type)

def typedST (t : ST) : Bool := allNodes typedNb t

theorem typedST_iff (t : ST) : typedST t = true ↔ AllN TypedN t := by
  unfold typedST
  rw [allNodes_iff]
  refine AllN.congr (fun o kids mem => ?_) t
  unfold typedNb TypedN
  simp only [Bool.and_eq_true, Bool.or_eq_true, decide_eq_true_eq, List.isEmpty_iff, beq_iff_eq, List.all_eq_true, and_assoc, or_assoc]

theorem sim_typed {t u : ST} (h : Sim t u) : AllN TypedN t → AllN TypedN u := by
  induction h with
  | @node a b ka ma kb fk fm hid hk hm hperm ihk ihm =>
    intro ht
    have hty : b.type = a.type := (Sim.node hid hk hm hperm).type_eq
    obtain ⟨h1, h2, h3, h4, h5⟩ := ht.here
    refine .node ?_ ?_ ?_
    · unfold TypedN
      rw [hty]
      -- the object's type is unchanged; of the lists, only emptiness and the members' types matter
      refine ⟨h1, h2.imp_right ?_, h3.imp_right (Or.imp_right ?_), ?_, ?_⟩
      · rintro rfl; simpa using hperm
      · rintro rfl; rfl
      · intro k hk'
        obtain ⟨k0, hk0, rfl⟩ := List.mem_map.1 (hperm.mem_iff.1 hk')
        rw [(hk k0 hk0).type_eq]
        exact h4 k0 hk0
      · intro m hm'
        obtain ⟨m0, hm0, rfl⟩ := List.mem_map.1 hm'
        rw [(hm m0 hm0).type_eq]
        exact h5 m0 hm0
    · intro k hk'
      obtain ⟨k0, hk0, rfl⟩ := List.mem_map.1 (hperm.mem_iff.1 hk')
      exact ihk k0 hk0 (ht.kids k0 hk0)
    · intro m hm'
      obtain ⟨m0, hm0, rfl⟩ := List.mem_map.1 hm'
      exact ihm m0 hm0 (ht.mem m0 hm0)

theorem stage_typed (i : In) (h : AllN TypedN i.root) : AllN TypedN (stage i).root ∧ (stage i).root.o.type = i.root.o.type :=
  ⟨sim_typed (sim_stage i) h, (sim_stage i).type_eq⟩

/-- the decoration respects the discipline: I/O subtrees are typed I/O lists and hang below normal objects only, Misc subtrees are
    typed Misc lists -/
def DecoTyped (dc : Deco) : Prop :=
  ∀ o : SObj, typedL isIO (dc.ios o) = true ∧ typedL isMisc (dc.mis o) = true ∧ (isNormal o.type = true ∨ dc.ios o = [])

theorem toTree_typed (dc : Deco) (hdc : DecoTyped dc) : ∀ s : ST, AllN TypedN s → typedT (toTree dc s) = true := by
  apply ST.ind
  intro o kids mem ihk ihm h
  have hh := h.here
  rw [toTree_node]
  refine typedT_mk _ _ _ _ _ ?_ ?_ ?_ (by simpa [robj, tMAX] using hh.1) ?_ ?_ (hdc o).1 (hdc o).2.1
  · rcases hh.2.1 with h1 | h1
    · exact Or.inl ((isNormal_iff _).1 h1)
    · exact Or.inr (by rw [h1]; rfl)
  · rcases hh.2.2.1 with h1 | h1 | h1
    · exact Or.inl ((isNormal_iff _).1 h1)
    · exact Or.inr (Or.inl (by simpa [robj, tMEMCACHE] using h1))
    · exact Or.inr (Or.inr (by rw [h1]; rfl))
  · rcases (hdc o).2.2 with h1 | h1
    · exact Or.inl ((isNormal_iff _).1 h1)
    · exact Or.inr (Or.inr h1)
  · rw [typedL_iff]
    intro t ht
    obtain ⟨k, hk, rfl⟩ := List.mem_map.1 ht
    exact ⟨by rw [toTree_obj]; exact hh.2.2.2.1 k hk, ihk k hk (h.kids k hk)⟩
  · rw [typedL_iff]
    intro t ht
    obtain ⟨m, hm, rfl⟩ := List.mem_map.1 ht
    exact ⟨by rw [toTree_obj]; exact hh.2.2.2.2 m hm, ihm m hm (h.mem m hm)⟩

theorem pipeline_typed (i : In) (dc : Deco) (h : typedST i.root = true) (hdc : DecoTyped dc) :
    typedT (toTree dc (stage i).root) = true ∧ (toTree dc (stage i).root).obj.type = i.root.o.type := by
  have := stage_typed i ((typedST_iff _).1 h)
  exact ⟨toTree_typed dc hdc _ this.1, by rw [toTree_obj]; exact this.2⟩

end Hw.Topo.Restrict.Stage
