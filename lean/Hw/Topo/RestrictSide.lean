/-
  Hw.Topo.RestrictSide — what hwloc_topology_restrict() does to the side structures (topology.c, post-restrict fixups):

      hwloc_internal_distances_invalidate_cached_objs(topology);   -- Hw.Dist.invalidate            (C13 model)
      hwloc_internal_memattrs_need_refresh(topology);              -- Hw.MemAttrs.needRefresh        (C14 model)
      hwloc_internal_cpukinds_restrict(topology);                  -- Hw.CpuKinds.restrictKinds      (C15 model)

  and what the next public query then sees (lazy refresh): Hw.Dist.refreshList, Hw.MemAttrs.ensureValid, against the objects `T`
  and the root cpuset `root` of the restricted tree.  The three models are the ones of C13/C14/C15 (each differential-tested
  against the same C code by its own engine); this file only composes them along a sequence of restricts and observations, which is
  what the engine `restrict` (lean/Driver/RestrictSide.lean) runs.
-/
import Hw.Attr.DistancesLemmas
import Hw.Attr.CpuKinds
import Hw.Attr.MemAttrsApi
namespace Hw.Topo.RestrictSide
open Hw.Dist

structure Side where
  dists : List Dist := []
  kinds : List Hw.CpuKinds.Kind := []
  attrs : List (Nat × Hw.MemAttrs.Attr) := []     -- (public id, attribute), ids ≥ 2 (not the convenience attributes)
  names : List String := []                        -- names of the distances structures, by model id (driver only)
  T : List Obj := []                               -- objects of the topology after the last successful restrict
  root : Nat := 0                                  -- its root cpuset

/-- a successful `hwloc_topology_restrict` that leaves the objects `T'` and the root cpuset `root'` -/
def Side.restrict (s : Side) (T' : List Obj) (root' : Nat) : Side :=
  let tbl := Hw.MemAttrs.needRefresh (s.attrs.map (·.2))
  { s with dists := invalidate s.dists,
           kinds := (Hw.CpuKinds.restrictKinds .dflt { kinds := s.kinds, root := s.root } root').kinds,
           attrs := (s.attrs.map (·.1)).zip tbl,
           T := T', root := root' }

def envOf (s : Side) : Hw.MemAttrs.Env :=
  { numaType := 14, root := s.root, nodes := [],
    objs := s.T.map (fun o => { type := o.ty.toNat, gp := o.gp, os := none, cpuset := none, effCpuset := 0, mem := 0, subtype := none }) }

/-- the public queries of one observation refresh what they look at (mask: 1 distances, 2 CPU kinds, 4 memory attributes) -/
def Side.observe (s : Side) (mask : Nat) : Side :=
  { s with dists := if mask.testBit 0 then refreshList s.T s.dists else s.dists,
           attrs := if mask.testBit 2 then s.attrs.map (fun p => (p.1, Hw.MemAttrs.ensureValid (envOf s) p.2)) else s.attrs }

/-! ### distances -/

theorem invalidate_invalidate (ds : List Dist) : invalidate (invalidate ds) = invalidate ds := by
  simp [invalidate, List.map_map, Function.comp_def]

/-- restrict, then a query that looks at the distances: every structure is re-resolved against the new topology -/
theorem restrict_observe_dists (s : Side) (T' : List Obj) (root' mask : Nat) (hm : mask.testBit 0 = true) :
    ((s.restrict T' root').observe mask).dists = s.dists.filterMap (fun d => refreshOne T' { d with valid := false }) := by
  simp [Side.restrict, Side.observe, hm, refreshList, invalidate, List.filterMap_map, Function.comp_def]

/-- a restrict that no query follows leaves nothing behind once a later restrict succeeded: the caches are simply stale -/
theorem restrict_restrict_dists (s : Side) (T1 T2 : List Obj) (r1 r2 : Nat) :
    ((s.restrict T1 r1).restrict T2 r2).dists = (s.restrict T2 r2).dists := by
  simp [Side.restrict, invalidate_invalidate]

/-- the compaction done by a refresh keeps the per-object TYPE array of a heterogeneous structure aligned with its index array
    and its objects: position `rank i` of the new arrays holds what position `i` of the old ones held, for every survivor `i`
    (hwloc_internal_distances_restrict moves `different_types[]` together with `indexes[]` and `objs[]`) -/
theorem refresh_types_aligned (T : Topo) (d d' : Dist) (hv : d.valid = false) (hh : d.hetero = true)
    (h : refreshOne T d = some d') (i : Nat) (hi : i < d.n) (li : liveOf (resolveAll T d) i = true) :
    d'.tys.getD (rank (liveOf (resolveAll T d)) i) (-1) = d.tys.getD i (-1) ∧
    d'.idx.getD (rank (liveOf (resolveAll T d)) i) 0 = d.idx.getD i 0 ∧
    d'.objs.getD (rank (liveOf (resolveAll T d)) i) none = (resolveAll T d).getD i none := by
  obtain ⟨-, c, tys, hc, hd', ht⟩ := refreshOne_some_eq T d d' hv h
  have k := (compacted_spec d.n _ d.idx d.tys d.vals (resolveAll_length T d) c hc).2.1 i hi li
  rw [hd', ht hh]
  exact ⟨k.2.2, k.2.1, k.1⟩

/-! ### CPU kinds -/

theorem restrict_kinds (s : Side) (T' : List Obj) (root' : Nat) :
    (s.restrict T' root').kinds = (Hw.CpuKinds.restrictKinds .dflt { kinds := s.kinds, root := s.root } root').kinds := rfl

/-- when no kind is emptied the kinds are the old ones, in order, each cut by the new root cpuset (nothing is re-ranked) -/
theorem restrict_kinds_none_emptied (s : Side) (T' : List Obj) (root' : Nat)
    (h : ∀ k ∈ s.kinds, k.cpuset &&& root' ≠ 0) :
    (s.restrict T' root').kinds = s.kinds.map (fun k => { k with cpuset := k.cpuset &&& root' }) := by
  have hf : (s.kinds.map (fun k => ({ k with cpuset := k.cpuset &&& root' } : Hw.CpuKinds.Kind))).filter
      (fun k => decide (k.cpuset ≠ 0)) = s.kinds.map (fun k => { k with cpuset := k.cpuset &&& root' }) := by
    apply List.filter_eq_self.mpr
    intro k hk
    obtain ⟨k0, hk0, rfl⟩ := List.mem_map.mp hk
    simpa using h k0 hk0
  simp only [Side.restrict, Hw.CpuKinds.restrictKinds, hf, Nat.sub_self, if_true]

/-! ### memory attributes -/

theorem needRefresh_needRefresh (tbl : Hw.MemAttrs.Table) :
    Hw.MemAttrs.needRefresh (Hw.MemAttrs.needRefresh tbl) = Hw.MemAttrs.needRefresh tbl := by
  simp only [Hw.MemAttrs.needRefresh, List.map_map]
  apply List.map_congr_left
  intro a _
  by_cases hc : a.conv <;> simp [Function.comp, hc]

/-- the targets a query sees after a restrict are exactly the surviving images of the stored ones (order kept): target object
    still there, and (attributes with initiators) at least one initiator left after clipping the cpuset initiators to the new root
    cpuset and dropping the object initiators that vanished -/
theorem refresh_attr_targets (e : Hw.MemAttrs.Env) (a : Hw.MemAttrs.Attr) (hv : a.valid = false) :
    (Hw.MemAttrs.ensureValid e a).targets = a.targets.filterMap (Hw.MemAttrs.refreshTarget e a.needInit) ∧
    (Hw.MemAttrs.ensureValid e a).valid = true ∧ (Hw.MemAttrs.ensureValid e a).name = a.name ∧
    (Hw.MemAttrs.ensureValid e a).flags = a.flags := by
  simp [Hw.MemAttrs.ensureValid, hv, Hw.MemAttrs.refreshAttr]

end Hw.Topo.RestrictSide
