/-
  Hw.Topo.MiscInsert — `hwloc_topology_insert_misc_object` on the DUMP level (C02).

  The C code (hwloc/topology.c): EINVAL when the Misc type filter is KEEP_NONE (nothing is touched);
  `hwloc_alloc_setup_object(MISC, UNKNOWN_INDEX)` (gp_index = topology->next_gp_index++, zeroed attributes),
  `obj->name = strdup(name)`; `hwloc_insert_object_by_parent`: the object becomes the LAST Misc child of `parent`;
  `hwloc_topology_reconnect`: `hwloc_connect_children` recomputes sibling links / ranks / arities,
  `hwloc_connect_special_levels` -> `hwloc_list_special_objects` rebuilds the Misc level by a depth-first walk
  (the object, its normal children, memory children, I/O children, Misc children), so the Misc level is in the
  order of the dump ids and every later Misc object is renumbered.

  On the dump (objects numbered in that same depth-first order) this is: the new object gets the id `pos` = end of
  the parent's subtree (Misc children are the LAST list, the new child is its last element), every id >= pos moves
  up by one in every link field and in every level, and six fields of old objects change beyond that
  (`upd`).  `next_gp_index` is not observable: the model takes the number `skip` of gp indexes consumed by
  objects that are no longer (or never were) linked; the new gp_index is `maxGp + 1 + skip`.
-/
import Hw.Topo.History
namespace Hw.Topo.MiscIns
open Hw.Topo Hw.Topo.Hist

/-- id renaming: ids at or after the insertion point move up by one (NULL = -1 and dangling = -2 stay) -/
def shI (pos : Nat) (i : Int) : Int := if (pos : Int) ≤ i then i + 1 else i
def shN (pos i : Nat) : Nat := if pos ≤ i then i + 1 else i

/-- end of the subtree of object `p` in the depth-first numbering: the first later object whose parent lies before `p` -/
def subEnd (d : Dump) (p : Nat) : Nat :=
  ((List.range d.objs.length).find? (fun j => decide (p < j) && (match d.objs[j]? with
      | some o => decide (o.parent < (p : Int))
      | none => true))).getD d.objs.length

def miscLevel (d : Dump) : List Int := ((levelOf d (-7)).map (·.objs)).getD []

/-- logical index of the new object: number of Misc objects before the insertion point -/
def newLidx (d : Dump) (pos : Nat) : Nat := ((miscLevel d).filter (fun i => decide (i < (pos : Int)))).length

def maxGp (d : Dump) : Nat := d.objs.foldl (fun m o => max m o.gp) 0

/-- the old last Misc child of `p` (none when `p` has no Misc child) -/
def lastMisc (d : Dump) (p : Nat) : Option Obj :=
  d.objs.find? (fun o => o.parent == (p : Int) && o.type == tMISC && o.nextSib == -1)

def lastId (d : Dump) (p : Nat) : Int := ((lastMisc d p).map (fun o => (o.id : Int))).getD (-1)

/-! the six fields of OLD objects that the call changes beyond the renaming -/
/-- the parent has one more Misc child -/
def updMiscarity (p : Nat) (o : Obj) : Nat := if o.id == p then o.miscarity + 1 else o.miscarity
/-- … which is its first one when it had none -/
def updMiscFirst (p pos : Nat) (o : Obj) : Int := if o.id == p && o.miscarity == 0 then (pos : Int) else shI pos o.miscFirst
/-- the previous last Misc child of the parent: its next sibling is the new object -/
def updNextSib (last : Int) (pos : Nat) (o : Obj) : Int := if (o.id : Int) == last then (pos : Int) else shI pos o.nextSib
/-- the Misc level: later objects are renumbered, the two neighbours get the new cousin -/
def updLidx (k : Nat) (o : Obj) : Nat := if o.type == tMISC && decide (k ≤ o.lidx) then o.lidx + 1 else o.lidx
def updPrevCousin (pos k : Nat) (o : Obj) : Int := if o.type == tMISC && o.lidx == k then (pos : Int) else shI pos o.prevCousin
def updNextCousin (pos k : Nat) (o : Obj) : Int := if o.type == tMISC && o.lidx + 1 == k then (pos : Int) else shI pos o.nextCousin

/-- an OLD object after the call: every link field renamed, the six fields above updated, everything else untouched -/
def upd (p pos k : Nat) (last : Int) (o : Obj) : Obj :=
  { o with id := shN pos o.id, lidx := updLidx k o, parent := shI pos o.parent, miscarity := updMiscarity p o,
           nextSib := updNextSib last pos o, prevSib := shI pos o.prevSib,
           nextCousin := updNextCousin pos k o, prevCousin := updPrevCousin pos k o,
           firstChild := shI pos o.firstChild, lastChild := shI pos o.lastChild, memFirst := shI pos o.memFirst,
           ioFirst := shI pos o.ioFirst, miscFirst := updMiscFirst p pos o, children := o.children.map (shI pos) }

/-- the NEW object -/
def newObj (d : Dump) (p pos k : Nat) (name : Option String) (skip : Nat) : Obj :=
  let ml := miscLevel d
  { id := pos, type := tMISC, depth := -7, lidx := k, osidx := -1, gp := maxGp d + 1 + skip, parent := (p : Int),
    rank := ((d.objs[p]?).map (·.miscarity)).getD 0, arity := 0, marity := 0, ioarity := 0, miscarity := 0,
    nextSib := -1, prevSib := shI pos (lastId d p),
    nextCousin := ((ml[k]?).map (shI pos)).getD (-1),
    prevCousin := if k = 0 then -1 else ((ml[k - 1]?).map (shI pos)).getD (-2),
    firstChild := -1, lastChild := -1, memFirst := -1, ioFirst := -1, miscFirst := -1, symm := 0,
    cpuset := none, ccpuset := none, nodeset := none, cnodeset := none, totalMem := 0, attrs := [0, 0, 0, 0, 0, 0],
    children := [], subtype := none, name := name, infos := [] }

/-- insertion of one element at position `pos` -/
def insAt {α : Type} (l : List α) (pos : Nat) (x : α) : List α := l.take pos ++ x :: l.drop pos

/-- levels: every id renamed; the new id enters the (first) level of depth -7 at position `k` -/
def insLevels (pos k : Nat) : List Level → List Level
  | [] => []
  | l :: ls =>
    if l.depth == -7 then { l with objs := insAt (l.objs.map (shI pos)) k (pos : Int) } ::
        ls.map (fun l => { l with objs := l.objs.map (shI pos) })
    else { l with objs := l.objs.map (shI pos) } :: insLevels pos k ls

/-- the object list after the call -/
def insObjs (d : Dump) (p pos k : Nat) (name : Option String) (skip : Nat) : List Obj :=
  insAt (d.objs.map (upd p pos k (lastId d p))) pos (newObj d p pos k name skip)

/-- the dump after a successful call with insertion point `pos` and logical index `k` -/
def after (d : Dump) (p pos k : Nat) (name : Option String) (skip : Nat) : Dump :=
  { d with nobjs := d.nobjs + 1, objs := insObjs d p pos k name skip, levels := insLevels pos k d.levels }

/-- **hwloc_topology_insert_misc_object(topology, parent = object number `p`, name)** on a loaded, not adopted topology -/
def insertMisc (d : Dump) (p : Nat) (name : Option String) (skip : Nat) : Dump × Ret :=
  if (d.filters[tMISC]?).getD 0 == 1 then (d, .einval)
  else if d.objs.length ≤ p then (d, .einval)          -- not a call: `parent` is a pointer to an object of the topology
  else (after d p (subEnd d p) (newLidx d (subEnd d p)) name skip, .ok 0)

/-! ### histories mixing the fully modelled calls of `Hw.Topo.Hist` and Misc insertion -/

inductive MOp
  | base (op : HOp)
  | misc (parent : Nat) (name : Option String) (skip : Nat)
deriving Repr, DecidableEq

def stepM (d : Dump) : MOp → Dump × Ret
  | .base op => step d op
  | .misc p name skip => insertMisc d p name skip

def runM (d : Dump) (ops : List MOp) : Dump := ops.foldl (fun d op => (stepM d op).1) d

end Hw.Topo.MiscIns
