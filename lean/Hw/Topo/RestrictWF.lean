/-
  Hw.Topo.RestrictWF — from the C01 predicate to the hypotheses of the restrict / render theorems:
  for EVERY well-formed dump `d` the tree `treeOf d` (the four-list tree the driver rebuilds from the DFS-ordered object
  list, lean/Hw/Topo/RenderOf.lean) satisfies SetsOK (`okT`), the kind discipline (`typedT`) and has a normal (Machine)
  root.  Proved by an invariant of the right fold of `treeOf` over the object list: every subtree stored in the work
  array at slot `i` is a good subtree whose root is the image of a dump object with parent `i` and the kind of its list.
-/
import Hw.Topo.RenderOf
import Hw.Topo.RestrictTyping
import Hw.Topo.RestrictSurvive
import Hw.Topo.WFTree
import Hw.Topo.RenderTop
import Hw.Topo.RenderSets
import Hw.Topo.RenderCounts
namespace Hw.Topo.Restrict
open Hw.Topo

/-! ### `treeOf` as a fold of a named step -/

def kidsAdd (kp : Kids) (ty : Nat) (t : Tree) : Kids :=
  if isNormal ty then { kp with ns := t :: kp.ns }
  else if isMemory ty then { kp with ms := t :: kp.ms }
  else if isIO ty then { kp with ios := t :: kp.ios }
  else { kp with mis := t :: kp.mis }

def treeStep (n : Nat) (o : Obj) (acc : Except String (Array Kids × Option Tree)) : Except String (Array Kids × Option Tree) :=
  match acc with
  | .error e => .error e
  | .ok (arr, root) =>
    if o.id ≥ n then .error "id-out-of-range" else
    let k := arr[o.id]!
    let t := Tree.node (robjOf o) k.ns k.ms k.ios k.mis
    if o.parent < 0 then
      if o.id == 0 then .ok (arr, some t) else .error ("orphan@" ++ toString o.id)
    else
      let p := o.parent.toNat
      if p ≥ o.id then .error ("parent-not-before-child@" ++ toString o.id) else
      .ok (arr.set! p (kidsAdd arr[p]! o.type t), root)

theorem treeOf_eq (d : Dump) : treeOf d =
    match d.objs.foldr (treeStep d.objs.length) (.ok (Array.replicate d.objs.length {}, none)) with
    | .error e => .error e
    | .ok (_, some t) => .ok t
    | .ok (_, none) => .error "no-root" := rfl

def nodeOf (arr : Array Kids) (o : Obj) : Tree := .node (robjOf o) (arr[o.id]!).ns (arr[o.id]!).ms (arr[o.id]!).ios (arr[o.id]!).mis

theorem treeStep_ok {n : Nat} {o : Obj} {arr : Array Kids} {root : Option Tree} {st' : Array Kids × Option Tree}
    (hs : treeStep n o (.ok (arr, root)) = .ok st') :
    o.id < n ∧ ((o.parent < 0 ∧ o.id = 0 ∧ st' = (arr, some (nodeOf arr o))) ∨
      (0 ≤ o.parent ∧ o.parent.toNat < o.id ∧
        st' = (arr.set! o.parent.toNat (kidsAdd arr[o.parent.toNat]! o.type (nodeOf arr o)), root))) := by
  simp only [treeStep] at hs
  by_cases hid : o.id ≥ n
  · rw [if_pos hid] at hs; cases hs
  rw [if_neg hid] at hs
  refine ⟨by omega, ?_⟩
  by_cases hneg : o.parent < 0
  · rw [if_pos hneg] at hs
    by_cases h0 : (o.id == 0) = true
    · rw [if_pos h0] at hs; cases hs
      exact Or.inl ⟨hneg, by simpa using h0, rfl⟩
    · rw [if_neg h0] at hs; cases hs
  · rw [if_neg hneg] at hs
    by_cases hlt : o.parent.toNat ≥ o.id
    · rw [if_pos hlt] at hs; cases hs
    · rw [if_neg hlt] at hs; cases hs
      exact Or.inr ⟨by omega, by omega, rfl⟩

theorem kids_get_set_eq (a : Array Kids) (p : Nat) (v : Kids) (hp : p < a.size) : (a.set! p v)[p]! = v := by
  simp [hp]
theorem kids_get_set_ne (a : Array Kids) (p i : Nat) (v : Kids) (h : i ≠ p) : (a.set! p v)[i]! = a[i]! := by
  simp [Array.getElem!_eq_getD, Array.getD_eq_getD_getElem?, Ne.symm h]
theorem kids_get_init (n i : Nat) : (Array.replicate n ({} : Kids))[i]! = {} := by
  by_cases h : i < n
  · simp [h]
  · simp [h]; rfl

/-! ### the memory children counted by a fold of their own (`stepM` is what `auxStep` does to the `nMemory` counters) -/

def stepM (acc : List Nat) (o : Obj) : List Nat :=
  if o.parent < 0 then acc else
  if isNormal o.type then acc
  else if isMemory o.type then acc.set o.parent.toNat (getN acc o.parent.toNat + 1)
  else acc

def isMemKid (q : Nat) (c : Obj) : Bool := decide (0 ≤ c.parent) && (c.parent.toNat == q) && isMemory c.type

theorem stepM_length (acc : List Nat) (o : Obj) : (stepM acc o).length = acc.length := by
  unfold stepM
  split
  · rfl
  · split
    · rfl
    · split
      · rw [List.length_set]
      · rfl

theorem stepM_get (acc : List Nat) (o : Obj) (q : Nat) (hq : q < acc.length) :
    getN (stepM acc o) q = getN acc q + (if isMemKid q o = true then 1 else 0) := by
  unfold stepM isMemKid
  by_cases h1 : o.parent < 0
  · rw [if_pos h1]
    have : decide (0 ≤ o.parent) = false := by simp; omega
    rw [this]; simp
  · rw [if_neg h1]
    have hd : decide (0 ≤ o.parent) = true := by simp; omega
    rw [hd]
    cases hn : isNormal o.type
    · simp only [Bool.false_eq_true, if_false]
      cases hm : isMemory o.type
      · simp
      · simp only [if_true, Bool.true_and, Bool.and_true, beq_iff_eq]
        rw [getN_set]
        by_cases e : o.parent.toNat = q
        · rw [if_pos ⟨e, by rw [e]; exact hq⟩, if_pos e, e]
        · rw [if_neg (fun h => e h.1), if_neg e]; rfl
    · have hm : isMemory o.type = false := by
        have := (isNormal_iff _).1 hn
        exact (isMemory_false_iff _).2 (by omega)
      simp [hm]

theorem foldM_count (q : Nat) (L : List Obj) : ∀ acc : List Nat, q < acc.length →
    getN (L.foldl stepM acc) q = getN acc q + (L.filter (isMemKid q)).length := by
  induction L with
  | nil => intro acc _; simp
  | cons o L ih =>
    intro acc hq
    rw [List.foldl_cons, ih _ (by rw [stepM_length]; exact hq), stepM_get acc o q hq, List.filter_cons]
    split
    · simp only [List.length_cons]; omega
    · omega

/-- from the C01 clause "children-counts" -/
theorem wf_no_kid {d : Dump} (h : WF d) {o : Obj} (ho : o ∈ d.objs) (k : Nat) (hk : k < 4)
    (har : (match k with | 0 => o.arity | 1 => o.marity | 2 => o.ioarity | _ => o.miscarity) = 0) {c : Obj} (hc : c ∈ d.objs)
    (hcp : c.parent = (o.id : Int)) : kindOf c.type ≠ k := by
  intro hkc
  have h1 := h.obj_clause 7 rfl ho
  simp only [Bool.and_eq_true, beq_iff_eq] at h1
  have hcount := mkAux_count d k hk o.id (h.id_lt ho)
  have hpos : 0 < (d.objs.filter (parentIs o.id)).countP (fun x => kindOf x.type == k) :=
    List.countP_pos_iff.2 ⟨c, List.mem_filter.2 ⟨hc, by rw [parentIs, hcp]; simp⟩, by rw [hkc]; exact beq_self_eq_true k⟩
  have e : getN (auxCount k (mkAux d)) o.id = (match k with | 0 => o.arity | 1 => o.marity | 2 => o.ioarity | _ => o.miscarity) := by
    match k, hk with
    | 0, _ => exact h1.1.1.1
    | 1, _ => exact h1.1.1.2
    | 2, _ => exact h1.1.2
    | 3, _ => exact h1.2
  rw [e, har] at hcount
  omega

/-! ### good subtrees -/

structure GoodT (t : Tree) : Prop where
  ok : okT t = true
  typed : typedT t = true
  puleaf : puLeafT t = true
  zero : notNM t.obj.type → ∀ x ∈ objsT t, zeroSets x = true

def KidOf (d : Dump) (i : Nat) (k : Nat → Bool) (t : Tree) : Prop :=
  GoodT t ∧ ∃ c ∈ d.objs, t.obj = robjOf c ∧ c.parent = (i : Int) ∧ k c.type = true

theorem robjOf_type (o : Obj) : (robjOf o).type = o.type := rfl

theorem kids_zero {d : Dump} {i : Nat} {k : Nat → Bool} {l : List Tree} (hl : ∀ t ∈ l, KidOf d i k t)
    (hspec : ∀ ty, k ty = true → notNM ty) : ∀ x ∈ objsL l, zeroSets x = true := by
  intro x hx
  obtain ⟨t, ht, hxt⟩ := mem_objsL_iff.1 hx
  obtain ⟨g, c, _, hobj, _, hkc⟩ := hl t ht
  exact g.zero (by rw [hobj]; exact hspec _ hkc) x hxt

theorem kids_nil_or {d : Dump} {i : Nat} {k : Nat → Bool} {l : List Tree} {P : Prop} (hl : ∀ t ∈ l, KidOf d i k t)
    (hP : ∀ c ∈ d.objs, c.parent = (i : Int) → k c.type = true → P) : P ∨ l = [] := by
  cases l with
  | nil => exact .inr rfl
  | cons t ts =>
    obtain ⟨_, c, hc, _, hcp, hck⟩ := hl t List.mem_cons_self
    exact .inl (hP c hc hcp hck)

theorem good_node {d : Dump} (h : WF d) {o : Obj} (ho : o ∈ d.objs) (ns ms ios mis : List Tree)
    (hns : ∀ t ∈ ns, KidOf d o.id isNormal t) (hms : ∀ t ∈ ms, KidOf d o.id isMemory t)
    (hios : ∀ t ∈ ios, KidOf d o.id isIO t) (hmis : ∀ t ∈ mis, KidOf d o.id isMisc t) :
    GoodT (.node (robjOf o) ns ms ios mis) := by
  have hpar : ∀ c : Obj, c.parent = (o.id : Int) → d.obj? c.parent = some o := fun c hc => by rw [hc]; exact h.obj?_id ho
  -- a non-empty list tells the kind of the parent
  have pkN : o.type ≤ 13 ∨ ns = [] := kids_nil_or hns fun c hc hcp hck =>
    (isNormal_iff _).1 (h.normal_parent_normal hc (hpar c hcp) hck)
  have pkM : o.type ≤ 13 ∨ o.type = 15 ∨ ms = [] := or_assoc.1 <| kids_nil_or hms fun c hc hcp hck =>
    (h.memory_parent_kind hc (hpar c hcp) hck).imp_left (isNormal_iff _).1
  have pkI : o.type ≤ 13 ∨ (16 ≤ o.type ∧ o.type ≤ 18) ∨ ios = [] := or_assoc.1 <| kids_nil_or hios fun c hc hcp hck => by
    have h1 := h.obj_parent_kind hc
    rw [hpar c hcp] at h1
    simp only [(notNM_of_special (.inl hck)).1, (notNM_of_special (.inl hck)).2, hck, Bool.false_eq_true, if_false, if_true, Bool.or_eq_true] at h1
    exact h1.imp (isNormal_iff _).1 (isIO_iff _).1
  -- what every list of good kids gives, whatever its kind
  have ok_of : ∀ (k : Nat → Bool) (l : List Tree), (∀ t ∈ l, KidOf d o.id k t) → (∀ ty, k ty = true → isSpecial ty = false) →
      okL (robjOf o) l = true := by
    intro k l hl hk
    rw [okL_iff]
    intro t ht
    obtain ⟨g, c, hc, hobj, hcp, hck⟩ := hl t ht
    have hs := h.sets_in_parent hc (hpar c hcp) (hk _ hck)
    rw [hobj]
    exact ⟨hs.2.1, hs.2.2.2, g.ok⟩
  have typed_of : ∀ (k : Nat → Bool) (l : List Tree), (∀ t ∈ l, KidOf d o.id k t) → typedL k l = true := by
    intro k l hl
    rw [typedL_iff]
    intro t ht
    obtain ⟨g, c, _, hobj, _, hck⟩ := hl t ht
    exact ⟨by rw [hobj]; exact hck, g.typed⟩
  have zI := kids_zero hios fun _ h => notNM_of_special (.inl h)
  have zM := kids_zero hmis fun _ h => notNM_of_special (.inr h)
  refine ⟨?_, ?_, ?_, ?_⟩
  · rw [okT_node]
    exact ⟨(h.set_in_complete o ho).1, (h.set_in_complete o ho).2, ok_of _ _ hns (fun _ hk => not_special_of_normal hk),
      ok_of _ _ hms (fun _ hk => not_special_of_memory hk), zI, zM⟩
  · exact typedT_mk _ _ _ _ _ pkN pkM pkI (h.obj_type_in_range ho) (typed_of _ _ hns) (typed_of _ _ hms) (typed_of _ _ hios)
      (typed_of _ _ hmis)
  · rw [puLeafT_node]
    simp only [puLeafL_iff]
    refine ⟨fun (hpu : o.type = tPU) => ?_, fun t ht => (hns t ht).1.puleaf, fun t ht => (hms t ht).1.puleaf, fun t ht => (hios t ht).1.puleaf,
      fun t ht => (hmis t ht).1.puleaf⟩
    -- a PU has arity 0 and memory arity 0, hence no normal and no memory child
    have h0 := h.obj_no_children_where_forbidden ho
    simp only [Bool.and_eq_true, hpu, beq_self_eq_true, if_true, beq_iff_eq] at h0
    exact ⟨(kids_nil_or hns fun c hc hcp hck =>
        wf_no_kid h ho 0 (by omega) h0.1.1.1.1.1 hc hcp (kindOf_of_kkind 0 (by omega) _ hck)).resolve_left id,
      (kids_nil_or hms fun c hc hcp hck =>
        wf_no_kid h ho 1 (by omega) h0.1.1.1.1.2 hc hcp (kindOf_of_kkind 1 (by omega) _ hck)).resolve_left id⟩
  · intro ⟨hn, hm⟩
    simp only [Tree.obj, robjOf_type] at hn hm
    have hn' := (isNormal_false_iff _).1 hn
    have hm' := (isMemory_false_iff _).1 hm
    have ens : ns = [] := pkN.resolve_left (Nat.not_le.2 hn')
    have ems : ms = [] := (pkM.resolve_left (Nat.not_le.2 hn')).resolve_left hm'.2
    subst ens; subst ems
    have ha := h.sets_absent ho hn hm
    simp only [objsT, objsL, List.nil_append, List.forall_mem_cons, List.forall_mem_append]
    exact ⟨by simp only [zeroSets, robjOf, ha.1, ha.2.1, ha.2.2.1, ha.2.2.2, Option.getD_none, beq_self_eq_true, Bool.and_self],
      zI, zM⟩

/-! ### the invariant of the fold -/

def KidsOf (d : Dump) (i : Nat) (K : Kids) : Prop :=
  (∀ t ∈ K.ns, KidOf d i isNormal t) ∧ (∀ t ∈ K.ms, KidOf d i isMemory t) ∧ (∀ t ∈ K.ios, KidOf d i isIO t) ∧
    (∀ t ∈ K.mis, KidOf d i isMisc t)

theorem kidsOf_add {d : Dump} {i : Nat} {K : Kids} (hK : KidsOf d i K) (ty : Nat) (hty : ty < 20) (t : Tree)
    (ht : ∀ k : Nat → Bool, k ty = true → KidOf d i k t) : KidsOf d i (kidsAdd K ty t) := by
  obtain ⟨h1, h2, h3, h4⟩ := hK
  unfold kidsAdd
  cases c1 : isNormal ty
  · cases c2 : isMemory ty
    · cases c3 : isIO ty
      · -- a type in range that is not normal, memory or I/O is Misc
        have := (isNormal_false_iff ty).1 c1
        have := (isMemory_false_iff ty).1 c2
        have := (isIO_false_iff ty).1 c3
        exact ⟨h1, h2, h3, List.forall_mem_cons.2 ⟨ht _ ((isMisc_iff ty).2 (by omega)), h4⟩⟩
      · exact ⟨h1, h2, List.forall_mem_cons.2 ⟨ht _ c3, h3⟩, h4⟩
    · exact ⟨h1, List.forall_mem_cons.2 ⟨ht _ c2, h2⟩, h3, h4⟩
  · exact ⟨List.forall_mem_cons.2 ⟨ht _ c1, h1⟩, h2, h3, h4⟩

structure Inv (d : Dump) (st : Array Kids × Option Tree) : Prop where
  size : st.1.size = d.objs.length
  kids : ∀ i, KidsOf d i (st.1[i]!)
  root : ∀ t, st.2 = some t → GoodT t ∧ t.obj.type = tMACHINE

theorem inv_init (d : Dump) : Inv d (Array.replicate d.objs.length {}, none) := by
  refine ⟨by simp, fun i => ?_, fun t ht => by cases ht⟩
  rw [kids_get_init]
  exact ⟨fun _ h => (by cases h), fun _ h => (by cases h), fun _ h => (by cases h), fun _ h => (by cases h)⟩

theorem inv_step {d : Dump} (h : WF d) {o : Obj} (ho : o ∈ d.objs) {st st' : Array Kids × Option Tree} (hi : Inv d st)
    (hs : treeStep d.objs.length o (.ok st) = .ok st') : Inv d st' := by
  obtain ⟨arr, root⟩ := st
  have hg : GoodT (nodeOf arr o) :=
    good_node h ho _ _ _ _ (hi.kids o.id).1 (hi.kids o.id).2.1 (hi.kids o.id).2.2.1 (hi.kids o.id).2.2.2
  obtain ⟨_, ⟨_, h0, rfl⟩ | ⟨hpos, hlt, rfl⟩⟩ := treeStep_ok hs
  · -- the root: object 0 of a well-formed dump is the Machine
    refine ⟨hi.size, hi.kids, fun t ht => ?_⟩
    cases ht
    refine ⟨hg, ?_⟩
    exact (h.root_machine (h0 ▸ Dump.obj?_natCast d o.id ▸ h.obj?_id ho)).1
  · have hp : o.parent.toNat < arr.size := by have := hi.size; have := h.id_lt ho; simp only at *; omega
    have hpi : o.parent = (o.parent.toNat : Int) := by omega
    refine ⟨by simp only [Array.set!_eq_setIfInBounds, Array.size_setIfInBounds]; exact hi.size, fun i => ?_, hi.root⟩
    by_cases hip : i = o.parent.toNat
    · subst hip
      simp only [kids_get_set_eq _ _ _ hp]
      exact kidsOf_add (hi.kids _) _ (h.obj_type_in_range ho) _ (fun k hk => ⟨hg, o, ho, rfl, hpi, hk⟩)
    · simp only [kids_get_set_ne _ _ _ _ hip]
      exact hi.kids i

/-! ### the rebuilt tree lists every dump object exactly once (hence distinct gp_index over the tree) -/

def kidsObjs (k : Kids) : List RObj := objsL k.ns ++ objsL k.ms ++ objsL k.ios ++ objsL k.mis
def rootObjs : Option Tree → List RObj
  | none => []
  | some t => objsT t
/-- the objects held by the work state when the objects at positions `≥ k` have been processed: the slots `< k` (the slots of
    processed objects have been consumed into their subtrees) and the root -/
def pending (k : Nat) (st : Array Kids × Option Tree) : List RObj :=
  (List.range k).flatMap (fun i => kidsObjs st.1[i]!) ++ rootObjs st.2

theorem kidsObjs_add (K : Kids) (ty : Nat) (t : Tree) : (kidsObjs (kidsAdd K ty t)).Perm (objsT t ++ kidsObjs K) := by
  unfold kidsAdd kidsObjs
  split
  · simp only [objsL, List.append_assoc]; exact .refl _
  · split
    · simp only [objsL, List.append_assoc]; exact List.perm_append_comm_assoc _ _ _
    · split
      · simp only [objsL, List.append_assoc]
        exact (List.Perm.append_left _ (List.perm_append_comm_assoc _ _ _)).trans (List.perm_append_comm_assoc _ _ _)
      · simp only [objsL, List.append_assoc]
        exact (List.Perm.append_left _ ((List.Perm.append_left _ (List.perm_append_comm_assoc _ _ _)).trans (List.perm_append_comm_assoc _ _ _))).trans (List.perm_append_comm_assoc _ _ _)

theorem flatMap_update {f g : Nat → List RObj} {extra : List RObj} (p : Nat) (hg : ∀ i, i ≠ p → g i = f i)
    (hp : (g p).Perm (extra ++ f p)) :
    ∀ k, (k ≤ p → (List.range k).flatMap g = (List.range k).flatMap f) ∧
         (p < k → ((List.range k).flatMap g).Perm (extra ++ (List.range k).flatMap f)) := by
  intro k
  induction k with
  | zero => exact ⟨fun _ => rfl, fun h => by omega⟩
  | succ k ih =>
    rw [List.range_succ, List.flatMap_append, List.flatMap_append]
    simp only [List.flatMap_cons, List.flatMap_nil, List.append_nil]
    constructor
    · intro h
      rw [ih.1 (by omega), hg k (by omega)]
    · intro h
      by_cases e : k = p
      · subst e
        rw [ih.1 (Nat.le_refl _)]
        exact (List.Perm.append_left _ hp).trans (List.perm_append_comm_assoc _ _ _)
      · rw [hg k e, ← List.append_assoc]
        exact List.Perm.append_right _ (ih.2 (by omega))

theorem objsT_nodeOf (arr : Array Kids) (o : Obj) : objsT (nodeOf arr o) = robjOf o :: kidsObjs arr[o.id]! := by
  rw [nodeOf, objsT]; rfl

theorem pending_step {d : Dump} (h : WF d) (k : Nat) (o : Obj) (hk : d.objs[k]? = some o) {st st' : Array Kids × Option Tree}
    (hsz : st.1.size = d.objs.length) (hroot : st.2 = none) (hs : treeStep d.objs.length o (.ok st) = .ok st') :
    (pending k st').Perm (robjOf o :: pending (k + 1) st) ∧ (1 ≤ k → st'.2 = none) := by
  have hid : o.id = k := h.id_eq_pos hk
  obtain ⟨arr, root⟩ := st
  have hpk : pending (k + 1) (arr, root) = (List.range k).flatMap (fun i => kidsObjs arr[i]!) ++ (kidsObjs arr[k]! ++ rootObjs root) := by
    unfold pending
    rw [List.range_succ, List.flatMap_append]
    simp only [List.flatMap_cons, List.flatMap_nil, List.append_nil, List.append_assoc]
  obtain ⟨_, ⟨_, h0, rfl⟩ | ⟨hpos, hlt, rfl⟩⟩ := treeStep_ok hs
  · obtain rfl : k = 0 := by omega
    simp only at hroot
    subst hroot
    refine ⟨?_, fun h => by omega⟩
    rw [hpk]
    unfold pending rootObjs
    simp only [List.range_zero, List.flatMap_nil, List.nil_append, List.append_nil, objsT_nodeOf, hid]
    exact .refl _
  · have hp : o.parent.toNat < k := by omega
    have hpsz : o.parent.toNat < arr.size := by simp only at hsz; have := getElem?_lt hk; omega
    have hup := (flatMap_update (f := fun i => kidsObjs arr[i]!)
      (g := fun i => kidsObjs (arr.set! o.parent.toNat (kidsAdd arr[o.parent.toNat]! o.type (nodeOf arr o)))[i]!)
      (extra := objsT (nodeOf arr o)) o.parent.toNat (fun i hi => by simp only [kids_get_set_ne _ _ _ _ hi])
      (by simp only [kids_get_set_eq _ _ _ hpsz]; exact kidsObjs_add _ _ _) k).2 hp
    refine ⟨?_, fun _ => hroot⟩
    rw [hpk]
    unfold pending
    refine (List.Perm.append_right _ hup).trans ?_
    rw [objsT_nodeOf, hid]
    simp only [List.cons_append, List.append_assoc]
    exact List.Perm.cons _ (List.perm_append_comm_assoc _ _ _)

theorem pending_init (n k : Nat) : pending k (Array.replicate n ({} : Kids), none) = [] := by
  unfold pending rootObjs
  simp only [List.append_nil, List.flatMap_eq_nil_iff]
  intro i _
  rw [kids_get_init]
  rfl

/-- `P k st` speaks of the state `st` after the objects at positions `≥ k` -/
theorem treeFold_ind {d : Dump} {P : Nat → Array Kids × Option Tree → Prop}
    (h0 : P d.objs.length (Array.replicate d.objs.length {}, none))
    (hstep : ∀ k o st st', d.objs[k]? = some o → P (k + 1) st → treeStep d.objs.length o (.ok st) = .ok st' → P k st') :
    ∀ st, d.objs.foldr (treeStep d.objs.length) (.ok (Array.replicate d.objs.length {}, none)) = .ok st → P 0 st := by
  suffices hk : ∀ (j k : Nat), k + j = d.objs.length → ∀ st,
      (d.objs.drop k).foldr (treeStep d.objs.length) (.ok (Array.replicate d.objs.length {}, none)) = .ok st → P k st from
    fun st hst => hk d.objs.length 0 (by omega) st (by rw [List.drop_zero]; exact hst)
  intro j
  induction j with
  | zero =>
    intro k hk st hst
    rw [List.drop_eq_nil_of_le (by omega)] at hst
    cases hst
    obtain rfl : k = d.objs.length := by omega
    exact h0
  | succ j ih =>
    intro k hk st hst
    have hlt : k < d.objs.length := by omega
    rw [List.drop_eq_getElem_cons hlt, List.foldr_cons] at hst
    cases hin : (d.objs.drop (k + 1)).foldr (treeStep d.objs.length) (.ok (Array.replicate d.objs.length {}, none)) with
    | error e => rw [hin] at hst; simp [treeStep] at hst
    | ok st0 =>
      rw [hin] at hst
      exact hstep k _ st0 st (List.getElem?_eq_getElem hlt) (ih (k + 1) (by omega) st0 hin) hst

theorem treeOf_inv {d : Dump} (h : WF d) {t : Tree} (ht : treeOf d = .ok t) :
    ∃ arr, Inv d (arr, some t) ∧ (objsT t).Perm (d.objs.map robjOf) := by
  have key := treeFold_ind (P := fun k st => Inv d st ∧ (pending k st).Perm ((d.objs.drop k).map robjOf) ∧ (1 ≤ k → st.2 = none))
    ⟨inv_init d, by rw [pending_init, List.drop_eq_nil_of_le (Nat.le_refl _)]; exact .refl _, fun _ => rfl⟩
    (fun k o st st' hko ⟨hi, hp, hr⟩ hs => by
      have hstep := pending_step h k o hko hi.size (hr (by omega)) hs
      have hlt := getElem?_lt hko
      refine ⟨inv_step h (List.mem_of_getElem? hko) hi hs, ?_, hstep.2⟩
      rw [List.drop_eq_getElem_cons hlt, List.map_cons, show d.objs[k] = o from Option.some.inj ((List.getElem?_eq_getElem hlt).symm.trans hko)]
      exact hstep.1.trans (List.Perm.cons _ hp))
  rw [treeOf_eq] at ht
  cases hin : d.objs.foldr (treeStep d.objs.length) (.ok (Array.replicate d.objs.length {}, none)) with
  | error e => rw [hin] at ht; cases ht
  | ok st =>
    obtain ⟨hi, hp, _⟩ := key st hin
    obtain ⟨arr, root⟩ := st
    rw [hin] at ht
    cases root with
    | none => cases ht
    | some r =>
      cases ht
      exact ⟨arr, hi, by simpa [pending, rootObjs] using hp⟩

theorem treeOf_perm {d : Dump} (h : WF d) (t : Tree) (ht : treeOf d = .ok t) : (objsT t).Perm (d.objs.map robjOf) :=
  (treeOf_inv h ht).elim fun _ hi => hi.2

theorem treeOf_gp_nodup {d : Dump} (h : WF d) (t : Tree) (ht : treeOf d = .ok t) : ((objsT t).map (·.gp)).Nodup := by
  have hp := (treeOf_perm h t ht).map (·.gp)
  rw [hp.nodup_iff, List.map_map]
  exact h.gp_nodup

theorem treeOf_machineOnce {d : Dump} (h : WF d) (t : Tree) (ht : treeOf d = .ok t) : machineOnce t := by
  unfold machineOnce
  rw [cnt_perm _ _ (treeOf_perm h t ht)]
  unfold cnt
  rw [List.map_map]
  cases hd : d.objs with
  | nil => simp
  | cons r rest =>
    rw [List.map_cons, List.count_cons]
    have hz : (rest.map ((fun x => x.type) ∘ robjOf)).count tMACHINE = 0 := by
      rw [List.count_eq_zero]
      intro hmem
      obtain ⟨o, ho, e⟩ := List.mem_map.1 hmem
      obtain ⟨j, hj⟩ := List.mem_iff_getElem?.1 ho
      have hpos : d.objs[j + 1]? = some o := by rw [hd, List.getElem?_cons_succ]; exact hj
      have hid := h.id_eq_pos hpos
      have hmem' : o ∈ d.objs := List.mem_of_getElem? hpos
      have := h.machine_is_root o hmem' e
      omega
    rw [hz]
    split <;> omega

theorem treeOf_setsPres {d : Dump} (h : WF d) (t : Tree) (ht : treeOf d = .ok t) : setsPresT t = true := by
  unfold setsPresT
  rw [List.all_eq_true]
  intro x hx
  obtain ⟨c, hc, rfl⟩ := List.mem_map.1 ((treeOf_perm h t ht).mem_iff.1 hx)
  have h1 := h.obj_sets_presence hc
  show (c.cpuset.isSome == !isSpecial c.type) = true
  cases hs : isSpecial c.type
  · rw [hs] at h1
    simp only [Bool.false_eq_true, if_false, Bool.and_eq_true] at h1
    rw [h1.1.1.1]; rfl
  · rw [hs] at h1
    simp only [if_true, Bool.and_eq_true, Option.isNone_iff_eq_none] at h1
    rw [h1.1.1.1]; rfl

theorem robjOf_osBit (c : Obj) : osBit (robjOf c) = single c.osidx.toNat := rfl

/-- the hypotheses of the restrict and render theorems hold for the tree of every well-formed topology -/
theorem wf_treeOf_full {d : Dump} (h : WF d) (t : Tree) (ht : treeOf d = .ok t) :
    okT t = true ∧ typedT t = true ∧ t.obj.type = tMACHINE ∧ isNormal t.obj.type = true ∧ puLeafT t = true ∧
    puSetsT t = true ∧ numaSetsT t = true := by
  obtain ⟨arr, hi, hp⟩ := treeOf_inv h ht
  have := hi.root t rfl
  refine ⟨this.1.ok, this.1.typed, this.2, by rw [this.2]; decide, this.1.puleaf, ?_, ?_⟩
  · rw [puSetsT_iff]
    intro x hx hxt
    obtain ⟨c, hc, rfl⟩ := List.mem_map.1 (hp.mem_iff.1 hx)
    have := h.pu_cpuset c hc hxt
    rw [robjOf_osBit]
    exact ⟨by show c.cpuset.getD 0 = _; rw [this.2.1]; rfl, by show c.ccpuset.getD 0 = _; rw [this.2.2]; rfl⟩
  · rw [numaSetsT_iff]
    intro x hx hxt
    obtain ⟨c, hc, rfl⟩ := List.mem_map.1 (hp.mem_iff.1 hx)
    have := h.numa_nodeset c hc hxt
    rw [robjOf_osBit]
    exact ⟨by show c.nodeset.getD 0 = _; rw [this.2.1]; rfl, by show c.cnodeset.getD 0 = _; rw [this.2.2]; rfl⟩

theorem wf_treeOf {d : Dump} (h : WF d) (t : Tree) (ht : treeOf d = .ok t) :
    okT t = true ∧ typedT t = true ∧ t.obj.type = tMACHINE ∧ isNormal t.obj.type = true :=
  ⟨(wf_treeOf_full h t ht).1, (wf_treeOf_full h t ht).2.1, (wf_treeOf_full h t ht).2.2.1, (wf_treeOf_full h t ht).2.2.2.1⟩

end Hw.Topo.Restrict
