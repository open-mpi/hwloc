/-
  Hw.Topo.SetStageDecomp — the nodeset of every normal object after the stage is the disjoint union of what it inherits
  from the memory children of its ancestors, of its own memory children, and of what its normal children contribute
  (the WF clause "nodeset-decomposition"); the allowed sets against the root sets.
-/
import Hw.Topo.SetStageLemmas
namespace Hw.Topo.SetStage
open Hw.Topo

def NodesDj (_ : SObj) (kids mem : List ST) : Prop :=
  (mem.map (·.o.nodeset)).Pairwise Dj ∧ (orL (mem.map (·.o.nodeset)) :: kids.map below).Pairwise Dj

/-- **nodeset decomposition** below a normal object that inherits `inh` from its ancestors: the local nodes are pairwise disjoint,
the local part and the children's parts are pairwise disjoint, the inherited part is disjoint from all of them, the nodeset is
their union, and each normal child inherits `inh` plus the local part -/
inductive Decomp : Nat → ST → Prop
  | node {inh : Nat} {o : SObj} {kids mem : List ST} :
      (mem.map (·.o.nodeset)).Pairwise Dj →
      (orL (mem.map (·.o.nodeset)) :: kids.map below).Pairwise Dj →
      Dj inh (below (.node o kids mem)) →
      o.nodeset = inh ||| below (.node o kids mem) →
      (∀ k ∈ kids, Decomp (inh ||| orL (mem.map (·.o.nodeset))) k) →
      Decomp inh (.node o kids mem)

/-- `Decomp` and `below` read a node only through its nodeset, its local nodes and its children's parts (in any order): it is enough
that these are the `ψ`-images of those of `o kids mem`, whatever else the passes did to the node -/
theorem decomp_image {ψ : Nat → Nat} (hψ : Shrink ψ) {inh : Nat} {o o' : SObj} {kids kids' mem mem' : List ST}
    (hnd : NodesDj o kids mem) (hdj : Dj inh (below (.node o kids mem)))
    (ho : o'.nodeset = ψ (inh ||| below (.node o kids mem)))
    (hm : mem'.map (·.o.nodeset) = (mem.map (·.o.nodeset)).map ψ)
    (hk : (kids'.map below).Perm ((kids.map below).map ψ))
    (hd : ∀ k ∈ kids', Decomp (ψ (orNs inh mem)) k) :
    Decomp (ψ inh) (.node o' kids' mem') ∧ below (.node o' kids' mem') = ψ (below (.node o kids mem)) := by
  have hb : below (.node o' kids' mem') = ψ (below (.node o kids mem)) := by
    rw [below_node, below_node, hm, orL_perm hk, orL_map_shrink hψ, orL_map_shrink hψ, hψ.or]
  refine ⟨.node ?_ ?_ ?_ ?_ ?_, hb⟩
  · rw [hm]; exact hψ.pairwise hnd.1
  · rw [hm, orL_map_shrink hψ]; exact Dj.pairwise_perm (hk.cons _) (hψ.pairwise hnd.2)
  · rw [hb]; exact hψ.dj hdj
  · rw [hb, ho, hψ.or]
  · rw [hm, orL_map_shrink hψ, ← hψ.or, ← orNs_eq]; exact hd

theorem sub_below_mem {o : SObj} {kids mem : List ST} {m : ST} (h : m ∈ mem) : Sub m.o.nodeset (below (.node o kids mem)) := by
  rw [below_node]
  exact Sub.or_right _ (sub_orL (List.mem_map_of_mem (f := fun x => x.o.nodeset) h))

theorem sub_below_kid {o : SObj} {kids mem : List ST} {k : ST} (h : k ∈ kids) : Sub (below k) (below (.node o kids mem)) := by
  rw [below_node]
  exact Sub.or_right' _ (sub_orL (List.mem_map_of_mem h))

theorem sub_kid_ctx {o : SObj} {kids mem : List ST} {k : ST} (inh : Nat) (hk : k ∈ kids) :
    Sub (orNs inh mem ||| below k) (inh ||| below (.node o kids mem)) := by
  rw [orNs_eq]
  refine Sub.or_left (Sub.or_mono (Sub.refl _) ?_) (Sub.or_right' _ (sub_below_kid hk))
  rw [below_node]; exact Sub.or_right _ (Sub.refl _)

theorem propagate_node' (inh : Nat) (o : SObj) (kids mem : List ST) :
    ∃ o1, propagate inh (.node o kids mem) = .node o1 (kids.map (propagate (orNs inh mem))) mem ∧
      o1.nodeset = inh ||| below (.node o kids mem) := by
  have hns := propagate_nodeset (.node o kids mem) inh
  rw [propagate_node] at hns
  exact ⟨_, propagate_node inh o kids mem, hns⟩

section
variable {φ ψ : Nat → Nat}

/-- one output node: the decomposition and what is attached at or below it, given both for the children -/
theorem decomp_step (hψ : Shrink ψ) (c' o : SObj) (inh : Nat) (kids mem : List ST)
    (hc' : c'.nodeset = inh ||| below (.node o kids mem))
    (hnd : NodesDj o kids mem) (hdj : Dj inh (below (.node o kids mem)))
    (ih : ∀ k ∈ kids, Sub (orNs inh mem ||| below k) c'.nodeset → Dj (orNs inh mem) (below k) →
      Decomp (ψ (orNs inh mem)) (mapObjs (shrinkObj φ ψ) (fixupChild c' (propagate (orNs inh mem) k))) ∧
      below (mapObjs (shrinkObj φ ψ) (fixupChild c' (propagate (orNs inh mem) k))) = ψ (below k)) :
    Decomp (ψ inh) (mapObjs (shrinkObj φ ψ)
      (.node c' (reorderIfNeeded ((kids.map (propagate (orNs inh mem))).map (fixupChild c'))) (mem.map (fixupChild c')))) ∧
    below (mapObjs (shrinkObj φ ψ)
      (.node c' (reorderIfNeeded ((kids.map (propagate (orNs inh mem))).map (fixupChild c'))) (mem.map (fixupChild c')))) =
      ψ (below (.node o kids mem)) := by
  have ihk : ∀ k ∈ kids, _ ∧ _ := fun k hk => ih k hk (by rw [hc']; exact sub_kid_ctx inh hk) (by
    rw [orNs_eq]
    exact Dj.or_left (hdj.mono (Sub.refl _) (sub_below_kid hk)) ((List.pairwise_cons.1 hnd.2).1 (below k) (List.mem_map_of_mem hk)))
  rw [mapObjs_node]
  refine decomp_image hψ hnd hdj (congrArg ψ hc') ?_ ?_ ?_
  · -- `fixChild` intersects the nodeset of a memory child with one that contains it
    simp only [List.map_map]
    refine List.map_congr_left fun m hm => ?_
    simp only [Function.comp, mapObjs_o, fixupChild_o, shrinkObj, (fixChild_fields c' m.o).2.2.2]
    rw [Sub.and_eq (hc' ▸ Sub.or_right' _ (sub_below_mem hm))]
  · refine (((reorderIfNeeded_perm _).map _).map _).trans (.of_eq ?_)
    simp only [List.map_map]
    exact List.map_congr_left fun k hk => (ihk k hk).2
  · simp only [List.forall_mem_map, mem_reorderIfNeeded]
    exact fun k hk => (ihk k hk).1

/-- the decomposition of an output subtree, and the nodes attached at or below it: the input's, shrunk -/
theorem decomp_out (hψ : Shrink ψ) : ∀ (t : ST) (p : SObj) (inh : Nat), Sub (inh ||| below t) p.nodeset → AllN NodesDj t →
    Dj inh (below t) → Decomp (ψ inh) (mapObjs (shrinkObj φ ψ) (fixupChild p (propagate inh t))) ∧
      below (mapObjs (shrinkObj φ ψ) (fixupChild p (propagate inh t))) = ψ (below t) := by
  apply ST.ind
  intro o kids mem ihk _ p inh hctx hnd hdj
  obtain ⟨o1, hp, hns⟩ := propagate_node' inh o kids mem
  rw [hp, fixupChild_node]
  have hc' : (fixChild p o1).nodeset = inh ||| below (.node o kids mem) := by
    rw [(fixChild_fields _ _).2.2.2, hns]; exact hctx.and_eq
  exact decomp_step hψ _ o inh kids mem hc' hnd.here hdj fun k hk h1 h2 => ihk k hk _ _ h1 (hnd.kids k hk) h2

theorem below_fixupRoot (r : ST) : below (fixupRoot r) = below r := by
  cases r; simp [fixupRoot, below_node]

theorem core_decomp (hψ : Shrink ψ) (r : ST) (hnd : AllN NodesDj r) : Decomp 0 (core φ ψ r) := by
  unfold core
  cases r with
  | node o kids mem =>
    obtain ⟨o', e⟩ : ∃ o', fixupRoot (.node o kids mem) = .node o' kids mem := ⟨_, rfl⟩
    obtain ⟨o1, hp, hns⟩ := propagate_node' 0 o' kids mem
    rw [e, hp, fixupSets_node]
    have := (decomp_step (φ := φ) hψ _ o' 0 kids mem hns hnd.here (Dj.zero_left _)
      fun k hk h1 h2 => decomp_out hψ k _ _ h1 (hnd.kids k hk) h2).1
    rwa [hψ.zero] at this

end

/-! ### the root object and the allowed sets -/

theorem core_root_o (φ ψ : Nat → Nat) (r : ST) :
    (core φ ψ r).o.cpuset = φ (r.o.cpuset &&& r.o.ccpuset.getD 0) ∧ (core φ ψ r).o.nodeset = ψ (below r) := by
  have hns := propagate_nodeset (fixupRoot r) 0
  rw [below_fixupRoot, Nat.zero_or] at hns
  -- `fixup_sets` leaves the root object as `propagate_nodeset` made it
  have ho : (core φ ψ r).o = shrinkObj φ ψ (propagate 0 (fixupRoot r)).o := by
    unfold core; rw [mapObjs_o]; cases propagate 0 (fixupRoot r); rw [fixupSets_node]; rfl
  rw [ho]
  exact ⟨congrArg φ ((propagate_fields 0 (fixupRoot r)).2.2.2.1.trans (by cases r; rfl)), congrArg ψ hns⟩

theorem stage_allowed (i : In) (hcov : Sub (i.root.o.nodeset &&& i.root.o.cnodeset.getD 0) (below i.root)) :
    Sub (stage i).allowedC (stage i).root.o.cpuset ∧ Sub (stage i).allowedN (stage i).root.o.nodeset ∧
    (i.includeDisallowed = false → (stage i).root.o.cpuset = (stage i).allowedC ∧ (stage i).root.o.nodeset = (stage i).allowedN) := by
  have hac : (stage i).allowedC = i.allowedC.inter (i.root.o.cpuset &&& i.root.o.ccpuset.getD 0) := by
    unfold stage; cases i.root; rfl
  have han : (stage i).allowedN = i.allowedN.inter (i.root.o.nodeset &&& i.root.o.cnodeset.getD 0) := by
    unfold stage; cases i.root; rfl
  have h1 : Sub (stage i).allowedC (i.root.o.cpuset &&& i.root.o.ccpuset.getD 0) := by rw [hac]; exact ASet.inter_sub _ _
  have h2 : Sub (stage i).allowedN (below i.root) := by rw [han]; exact (ASet.inter_sub _ _).trans hcov
  cases hf : i.includeDisallowed with
  | true =>
    rw [stage_root_incl i hf]
    obtain ⟨e1, e2⟩ := core_root_o (fun a => a) (fun a => a) i.root
    rw [e1, e2]
    exact ⟨h1, h2, fun h => by cases h⟩
  | false =>
    rw [stage_root_excl i hf]
    obtain ⟨e1, e2⟩ := core_root_o (· &&& (stage i).allowedC) (· &&& (stage i).allowedN) i.root
    rw [e1, e2]
    simp only [(Nat.and_comm _ _).trans h1, (Nat.and_comm _ _).trans h2]
    exact ⟨Sub.refl _, Sub.refl _, fun _ => ⟨trivial, trivial⟩⟩

end Hw.Topo.SetStage
