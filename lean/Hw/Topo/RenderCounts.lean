/-
  Hw.Topo.RenderCounts — the WF clause children-counts for `render t` (every typed tree): the four per-kind counters that
  `mkAux` accumulates over the object list (number of objects whose parent is `o`, per kind) equal the four arities of `o`.
  The occurrences whose parent is `oc` are the records of its children, in the order of its four lists (both lists hold the
  children of `oc` and increase in the id); in a typed tree list `c` holds the roots of kind `c`.
-/
import Hw.Topo.RenderLinks
import Hw.Topo.AuxCell
namespace Hw.Topo.Restrict
open Hw.Topo

def PQ (q : Nat) (oc : Occ) : Bool := decide (0 ≤ oc.parent) && (oc.parent.toNat == q)

theorem mem_filter_PQ (t : Tree) (oc : Occ) (hoc : oc ∈ occs t) (x : Occ) :
    x ∈ (occs t).filter (PQ oc.id) ↔ IsChild oc x := by
  rw [List.mem_filter]
  constructor
  · rintro ⟨hx, hpq⟩
    simp only [PQ, Bool.and_eq_true, decide_eq_true_eq, beq_iff_eq] at hpq
    rcases occ_up t x hx with rfl | ⟨poc, hp, hc⟩
    · exact absurd hpq.1 (by show ¬ (0 : Int) ≤ -1; omega)
    · have := isChild_parent hc
      obtain rfl : poc = oc := occ_unique t poc oc hp hoc (by omega)
      exact hc
  · intro hc
    exact ⟨occ_child_mem t oc hoc x hc, by simp [PQ, isChild_parent hc]⟩

theorem occ_childRecs (t : Tree) (oc : Occ) (hoc : oc ∈ occs t) : (occs t).filter (PQ oc.id) = childRecs oc := by
  have hids : ((occs t).map (·.id)).Pairwise (· < ·) := by rw [occs, occs_map_id.1]; exact List.pairwise_lt_range' 1
  have hF : ((occs t).filter (PQ oc.id)).Pairwise (fun a b => a.id < b.id) :=
    (List.pairwise_map.1 hids).sublist List.filter_sublist
  have hC := childRecs_increasing oc
  have hne : ∀ {l : List Occ}, l.Pairwise (fun a b => a.id < b.id) → l.Nodup :=
    fun h => h.imp (fun hab e => by rw [e] at hab; exact Nat.lt_irrefl _ hab)
  have hperm : ((occs t).filter (PQ oc.id)).Perm (childRecs oc) :=
    (List.perm_ext_iff_of_nodup (hne hF) (hne hC)).2 fun x => by rw [mem_filter_PQ t oc hoc, mem_childRecs]
  exact hperm.eq_of_pairwise (le := fun a b => a.id < b.id) (fun a b _ _ h1 h2 => absurd h1 (Nat.lt_asymm h2)) hF hC

theorem occ_children (t : Tree) (oc : Occ) (hoc : oc ∈ occs t) :
    ((occs t).filter (PQ oc.id)).map (·.t) = oc.t.ns ++ oc.t.ms ++ oc.t.ios ++ oc.t.mis := by
  rw [occ_childRecs t oc hoc, childRecs_map_t]

/-- what every aggregate of `mkAux` at `oc.id` is computed from (`auxFold_cell`) -/
theorem render_children (t : Tree) (h : Hdr) (ex : RObj → Extra) (oc : Occ) (hoc : oc ∈ occs t) :
    (render t h ex).objs.filter (parentIs oc.id) = (childRecs oc).map (rObj t ex) := by
  have e : parentIs oc.id ∘ rObj t ex = PQ oc.id :=
    funext fun x => by simp only [Function.comp, parentIs, PQ, rObj, ro_parent]
  rw [render_objs, List.filter_map, e, occ_childRecs t oc hoc]

/-! ### the counters of `mkAux` -/

def kindOf (ty : Nat) : Nat := if isNormal ty then 0 else if isMemory ty then 1 else if isIO ty then 2 else 3

def cellCount (k : Nat) (c : Cell) : Nat := match k with | 0 => c.nNormal | 1 => c.nMemory | 2 => c.nIO | _ => c.nMisc
def auxCount (k : Nat) (a : Aux) : List Nat := match k with | 0 => a.nNormal | 1 => a.nMemory | 2 => a.nIO | _ => a.nMisc

theorem foldl_cellStep_count (k : Nat) (hk : k < 4) (l : List Obj) (c : Cell) :
    cellCount k (l.foldl cellStep c) = cellCount k c + l.countP (fun o => kindOf o.type == k) := by
  rw [foldl_cellStep]
  match k, hk with
  | 0, _ | 1, _ | 2, _ | 3, _ =>
    refine congrArg _ (List.countP_congr fun o _ => ?_)
    unfold kindOf
    cases isNormal o.type <;> cases isMemory o.type <;> cases isIO o.type <;> decide

theorem mkAux_count (d : Dump) (k : Nat) (hk : k < 4) (q : Nat) (hq : q < d.objs.length) :
    getN (auxCount k (mkAux d)) q = (d.objs.filter (parentIs q)).countP (fun o => kindOf o.type == k) := by
  have e : getN (auxCount k (mkAux d)) q = cellCount k (cellOf (auxFold d) q) := by
    match k, hk with
    | 0, _ => exact mkAux_nNormal d q
    | 1, _ => exact mkAux_nMemory d q
    | 2, _ => exact mkAux_nIO d q
    | 3, _ => exact mkAux_nMisc d q
  rw [e, auxFold_cell d q hq, foldl_cellStep_count k hk]
  match k, hk with
  | 0, _ | 1, _ | 2, _ | 3, _ => exact Nat.zero_add _

/-! ### children-counts -/

theorem kindOf_of_kkind (q : Nat) (hq : q < 4) (ty : Nat) (h : kkind q ty = true) : kindOf ty = q := by
  unfold kindOf
  rcases kkind_cases q hq ty h with ⟨rfl, h0⟩ | ⟨rfl, h0, h1⟩ | ⟨rfl, h0, h1, h2⟩ | ⟨rfl, h0, h1, h2, _⟩ <;> simp [*]

theorem countP_kind (kk : Nat → Bool) (k : Nat) (hkk : ∀ ty, kk ty = true → kindOf ty = k) (l : List Tree)
    (h : typedL kk l = true) (c : Nat) : l.countP (fun t => kindOf t.obj.type == c) = if k = c then l.length else 0 := by
  have hl : ∀ t ∈ l, kindOf t.obj.type = k := fun t ht => hkk _ (typedL_mem kk l h t ht).1
  split
  · next e => exact List.countP_eq_length.2 (fun t ht => by rw [hl t ht, e]; exact beq_self_eq_true c)
  · next e => exact List.countP_eq_zero.2 (fun t ht => by rw [hl t ht]; simpa using e)

theorem render_children_counts (t : Tree) (ht : typedT t = true) (h : Hdr) (ex : RObj → Extra) (o : Obj)
    (ho : o ∈ (render t h ex).objs) :
    objClause "children-counts" (render t h ex) (mkAux (render t h ex)) o = true := by
  refine objClause_intro (k := 7) rfl ?_
  obtain ⟨oc, hoc, rfl⟩ := render_mem t h ex o ho
  have hl := typedT_lists oc.t (occ_typed t ht oc hoc)
  have hlt := render_id_lt t h ex oc hoc
  -- the counter of kind `c` at `oc` counts the roots of kind `c` in the four children lists of `oc`
  have key : ∀ c, c < 4 → getN (auxCount c (mkAux (render t h ex))) oc.id =
      (if 0 = c then oc.t.ns.length else 0) + (if 1 = c then oc.t.ms.length else 0) + (if 2 = c then oc.t.ios.length else 0) +
        (if 3 = c then oc.t.mis.length else 0) := by
    intro c hc
    have e : (fun o : Obj => kindOf o.type == c) ∘ rObj t ex = (fun t : Tree => kindOf t.obj.type == c) ∘ (·.t) :=
      funext fun x => by simp only [Function.comp, rObj, ro_type]
    rw [mkAux_count _ c hc _ hlt, render_children t h ex oc hoc, List.countP_map, e, ← List.countP_map, childRecs_map_t,
      List.countP_append, List.countP_append, List.countP_append,
      countP_kind _ 0 (kindOf_of_kkind 0 (by omega)) _ hl.1, countP_kind _ 1 (kindOf_of_kkind 1 (by omega)) _ hl.2.1,
      countP_kind _ 2 (kindOf_of_kkind 2 (by omega)) _ hl.2.2.1, countP_kind _ 3 (kindOf_of_kkind 3 (by omega)) _ hl.2.2.2]
  have k0 : _ = oc.t.ns.length := (key 0 (by omega)).trans (by simp)
  have k1 : _ = oc.t.ms.length := (key 1 (by omega)).trans (by simp)
  have k2 : _ = oc.t.ios.length := (key 2 (by omega)).trans (by simp)
  have k3 : _ = oc.t.mis.length := (key 3 (by omega)).trans (by simp)
  simp only [Bool.and_eq_true, beq_iff_eq]
  unfold rObj
  rw [ro_id, ro_arity, ro_marity, ro_ioarity, ro_miscarity]
  exact ⟨⟨⟨k0, k1⟩, k2⟩, k3⟩

end Hw.Topo.Restrict
