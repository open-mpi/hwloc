/-
  Hw.Topo.RenderLevelLoop — hwloc_connect_levels on the relabelled tree: what the level clauses use of `normalLevels t`.

  The loop is followed by its frontiers: hwloc_connect_levels itself is one more round, on the frontier that holds the root alone;
  level `i` is what a round takes from a later frontier and the levels after it are the run of the loop on the frontier that round
  leaves (`levelsLoop_drop`, which carries any invariant of frontiers along).  A round divides the closure of its frontier, so the
  levels are a partition of the closure, each in the order of the closure, and the normal children of a taken object stand in later
  levels.  Relabelling puts the DFS id into gp, so the closure consists of occurrences, exactly the normal ones in a typed tree
  with a normal root.
-/
import Hw.Topo.RenderOcc
import Hw.Topo.WFLemmas0
namespace Hw.Topo.Restrict
open Hw.Topo

/-! ### the closure of a tree or frontier: what is reachable through normal children lists (objects `ncl`, subtrees `nsub`) -/

mutual
def nclT : Tree → List RObj
  | .node o ns _ _ _ => o :: nclL ns
def nclL : List Tree → List RObj
  | [] => []
  | t :: ts => nclT t ++ nclL ts
end

mutual
def nsubT : Tree → List Tree
  | .node o ns ms ios mis => .node o ns ms ios mis :: nsubL ns
def nsubL : List Tree → List Tree
  | [] => []
  | t :: ts => nsubT t ++ nsubL ts
end

theorem nclT_eq (t : Tree) : nclT t = t.obj :: nclL t.ns := by cases t; rw [nclT]; rfl
theorem nsubT_eq (t : Tree) : nsubT t = t :: nsubL t.ns := by cases t; rw [nsubT]; rfl
theorem nsubT_self (t : Tree) : t ∈ nsubT t := by rw [nsubT_eq]; exact List.mem_cons_self

theorem nsubL_append (a b : List Tree) : nsubL (a ++ b) = nsubL a ++ nsubL b := by
  induction a with
  | nil => simp [nsubL]
  | cons t ts ih => simp [nsubL, ih, List.append_assoc]

theorem mem_nsubL {N : Tree} {l : List Tree} : N ∈ nsubL l ↔ ∃ c ∈ l, N ∈ nsubT c := by
  induction l with
  | nil => simp [nsubL]
  | cons t ts ih => rw [nsubL, List.mem_append, ih]; simp only [List.mem_cons, exists_eq_or_imp]

theorem mem_nsubT {N t : Tree} : N ∈ nsubT t ↔ N = t ∨ ∃ c ∈ t.ns, N ∈ nsubT c := by
  rw [nsubT_eq, List.mem_cons, mem_nsubL]

theorem ncl_map_nsub : (∀ t, nclT t = (nsubT t).map (·.obj)) ∧ (∀ l, nclL l = (nsubL l).map (·.obj)) := by
  apply tree_ind4
  · intro o ns ms ios mis h1 _ _ _; rw [nclT, nsubT, List.map_cons, h1]; rfl
  · rw [nclL, nsubL]; rfl
  · intro t ts h1 h2; rw [nclL, nsubL, List.map_append, h1, h2]

theorem nsubT_child : ∀ t P C, P ∈ nsubT t → C ∈ P.ns → C ∈ nsubT t :=
  Tree.ind4 fun o ns ms ios mis ih _ _ _ P C hP hC => by
    rcases mem_nsubT.1 hP with rfl | ⟨c, hc, hPc⟩
    · exact mem_nsubT.2 (.inr ⟨C, hC, nsubT_self C⟩)
    · exact mem_nsubT.2 (.inr ⟨c, hc, ih c hc P C hPc hC⟩)

theorem ncl_sublist_objs : (∀ t, (nclT t).Sublist (objsT t)) ∧ (∀ l, (nclL l).Sublist (objsL l)) := by
  apply tree_ind4
  · intro o ns ms ios mis h1 _ _ _
    rw [nclT, objsT]
    exact ((h1.trans (List.sublist_append_left _ _)).trans
      ((List.sublist_append_left _ _).trans (List.sublist_append_left _ _))).cons_cons _
  · rw [nclL, objsL]; exact .slnil
  · intro t ts h1 h2; rw [nclL, objsL]; exact h1.append h2

/-! ### the level loop by its frontiers -/

theorem nsubL_singleton (t : Tree) : nsubL [t] = nsubT t := by rw [nsubL, nsubL, List.append_nil]
theorem nclL_singleton (t : Tree) : nclL [t] = nclT t := by rw [nclL, nclL, List.append_nil]

theorem typeEq_refl (a : RObj) : typeEq a a = true := by
  unfold typeEq; simp

/-- the object whose type a round of hwloc_connect_levels takes from the frontier `first :: rest`: the first non-PU object (the
    first object if all are PUs), moved on by find_same_type to an object of another type that has this type below it -/
def topOf (first : Tree) (rest : List Tree) : Tree :=
  (first :: rest).foldl (fun top o => if !typeEq top.obj o.obj && findSameT top.obj o then o else top)
    (((first :: rest).find? (fun o => o.obj.type != tPU)).getD first)

theorem levelsLoop_cons (fuel : Nat) (first : Tree) (rest : List Tree) :
    levelsLoop (fuel + 1) (first :: rest) = ((first :: rest).filter (fun o => typeEq (topOf first rest).obj o.obj)).map (·.obj) ::
      levelsLoop fuel ((first :: rest).flatMap (fun o => if typeEq (topOf first rest).obj o.obj then o.ns else [o])) := rfl

theorem topOf_mem (first : Tree) (rest : List Tree) : topOf first rest ∈ first :: rest := by
  rcases foldl_mem (fun top o => if (!typeEq top.obj o.obj && findSameT top.obj o) = true then o else top)
    (fun a b => by split <;> simp) (first :: rest) ((List.find? (fun o => o.obj.type != tPU) (first :: rest)).getD first) with h | h
  · unfold topOf
    rw [h]
    cases hf : List.find? (fun o => o.obj.type != tPU) (first :: rest) with
    | none => exact List.mem_cons_self
    | some x => exact List.mem_of_find?_eq_some hf
  · exact h

theorem connectLevels_eq_loop (t : Tree) : connectLevels t = levelsLoop ((objsT t).length + 1) [t] := by
  have htop : topOf t [] = t := by
    have h0 : ([t].find? (fun o => o.obj.type != tPU)).getD t = t := by
      rw [List.find?_cons]; split <;> rfl
    unfold topOf
    rw [h0, List.foldl_cons, List.foldl_nil, ite_self]
  rw [levelsLoop_cons, htop]
  simp [connectLevels, typeEq_refl]

theorem levelsLoop_drop {I : Nat → List Tree → Prop}
    (hI : ∀ fuel first rest, I (fuel + 1) (first :: rest) →
      I fuel ((first :: rest).flatMap (fun o => if typeEq (topOf first rest).obj o.obj then o.ns else [o]))) :
    ∀ (fuel : Nat) (objs : List Tree), I fuel objs → ∀ (i : Nat) (lv : List RObj), (levelsLoop fuel objs)[i]? = some lv →
      ∃ f first rest, I (f + 1) (first :: rest) ∧
        lv = ((first :: rest).filter (fun o => typeEq (topOf first rest).obj o.obj)).map (·.obj) ∧
        (levelsLoop fuel objs).drop (i + 1) =
          levelsLoop f ((first :: rest).flatMap (fun o => if typeEq (topOf first rest).obj o.obj then o.ns else [o])) := by
  intro fuel
  induction fuel with
  | zero => intro objs _ i lv h; simp [levelsLoop] at h
  | succ fuel ih =>
    intro objs hobjs i lv h
    cases objs with
    | nil => simp [levelsLoop] at h
    | cons first rest =>
      rw [levelsLoop_cons] at h ⊢
      cases i with
      | zero => exact ⟨fuel, first, rest, hobjs, (Option.some.inj h).symm, rfl⟩
      | succ i => exact ih _ (hI _ _ _ hobjs) i lv (by simpa using h)

theorem levelsLoop_round (fuel : Nat) (objs : List Tree) (lv : List RObj) (hlv : lv ∈ levelsLoop fuel objs) :
    ∃ first rest, lv = ((first :: rest).filter (fun o => typeEq (topOf first rest).obj o.obj)).map (·.obj) := by
  obtain ⟨i, hi⟩ := List.getElem?_of_mem hlv
  obtain ⟨_, first, rest, _, e, _⟩ := levelsLoop_drop (I := fun _ _ => True) (fun _ _ _ _ => trivial) fuel objs trivial i lv hi
  exact ⟨first, rest, e⟩

theorem levelsLoop_same_order (fuel : Nat) (objs : List Tree) : ∀ lv ∈ levelsLoop fuel objs, ∀ a ∈ lv, ∀ b ∈ lv,
    orderOf a.type = orderOf b.type := by
  intro lv hlv a ha b hb
  obtain ⟨first, rest, rfl⟩ := levelsLoop_round fuel objs lv hlv
  simp only [List.mem_map, List.mem_filter] at ha hb
  obtain ⟨x, ⟨_, hx⟩, rfl⟩ := ha
  obtain ⟨y, ⟨_, hy⟩, rfl⟩ := hb
  unfold typeEq at hx hy
  simp only [Bool.and_eq_true, beq_iff_eq] at hx hy
  rw [← hx.1, ← hy.1]

theorem connectLevels_same_order (t : Tree) : ∀ lv ∈ connectLevels t, ∀ a ∈ lv, ∀ b ∈ lv, orderOf a.type = orderOf b.type := by
  rw [connectLevels_eq_loop]; exact levelsLoop_same_order _ _

theorem orderOf_inj : ∀ a, a < 20 → ∀ b, b < 20 → orderOf a = orderOf b → a = b := by decide +kernel

theorem levelsLoop_nonempty (fuel : Nat) (objs : List Tree) : ∀ lv ∈ levelsLoop fuel objs, lv ≠ [] := by
  intro lv hlv
  obtain ⟨first, rest, rfl⟩ := levelsLoop_round fuel objs lv hlv
  exact List.ne_nil_of_mem (List.mem_map_of_mem (List.mem_filter.2 ⟨topOf_mem first rest, typeEq_refl _⟩))

theorem connectLevels_nonempty (t : Tree) : ∀ lv ∈ connectLevels t, lv ≠ [] := by
  rw [connectLevels_eq_loop]; exact levelsLoop_nonempty _ _

/-! ### a round divides the closure of its frontier -/

theorem nsub_step (p : Tree → Bool) (objs : List Tree) :
    (nsubL objs).Perm (objs.filter p ++ nsubL (objs.flatMap (fun o => if p o then o.ns else [o]))) := by
  induction objs with
  | nil => simp [nsubL]
  | cons o rest ih =>
    rw [nsubL, List.flatMap_cons, nsubL_append]
    by_cases hp : p o = true
    · rw [List.filter_cons_of_pos hp, if_pos hp, nsubT_eq, List.cons_append, List.cons_append]
      exact List.Perm.cons _ ((List.Perm.append_left _ ih).trans (List.perm_append_comm_assoc _ _ _))
    · rw [List.filter_cons_of_neg hp, if_neg hp, nsubL, nsubL, List.append_nil]
      exact (List.Perm.append_left _ ih).trans (List.perm_append_comm_assoc _ _ _)

theorem roots_sublist (p : Tree → Bool) (objs : List Tree) : (objs.filter p).Sublist (nsubL objs) := by
  induction objs with
  | nil => exact List.Sublist.slnil
  | cons o rest ih =>
    rw [nsubL, nsubT_eq, List.cons_append]
    by_cases hp : p o = true
    · rw [List.filter_cons_of_pos hp]
      exact List.Sublist.cons_cons _ (ih.trans (List.sublist_append_right _ _))
    · rw [List.filter_cons_of_neg hp]
      exact List.Sublist.cons _ (ih.trans (List.sublist_append_right _ _))

theorem next_sublist (p : Tree → Bool) (objs : List Tree) :
    (nsubL (objs.flatMap (fun o => if p o then o.ns else [o]))).Sublist (nsubL objs) := by
  induction objs with
  | nil => exact List.Sublist.slnil
  | cons o rest ih =>
    rw [List.flatMap_cons, nsubL_append, nsubL]
    refine List.Sublist.append ?_ ih
    by_cases hp : p o = true
    · rw [if_pos hp, nsubT_eq]; exact List.sublist_cons_self _ _
    · rw [if_neg hp, nsubL, nsubL, List.append_nil]; exact List.Sublist.refl _

theorem next_lt (first : Tree) (rest : List Tree) :
    (nsubL ((first :: rest).flatMap (fun o => if typeEq (topOf first rest).obj o.obj then o.ns else [o]))).length
      < (nsubL (first :: rest)).length := by
  have hl := (nsub_step (fun o => typeEq (topOf first rest).obj o.obj) (first :: rest)).length_eq
  have : 0 < ((first :: rest).filter (fun o => typeEq (topOf first rest).obj o.obj)).length :=
    List.length_pos_of_mem (List.mem_filter.2 ⟨topOf_mem first rest, typeEq_refl _⟩)
  rw [List.length_append] at hl
  omega

theorem levelsLoop_perm : ∀ (fuel : Nat) (objs : List Tree), (nsubL objs).length ≤ fuel →
    ((levelsLoop fuel objs).flatten).Perm (nclL objs) := by
  intro fuel
  induction fuel with
  | zero =>
    intro objs hlen
    rw [ncl_map_nsub.2, List.length_eq_zero_iff.1 (Nat.le_zero.1 hlen)]; exact List.Perm.nil
  | succ fuel ih =>
    intro objs hlen
    cases objs with
    | nil => exact List.Perm.nil
    | cons first rest =>
      have hlt := next_lt first rest
      rw [levelsLoop_cons, List.flatten_cons, ncl_map_nsub.2]
      refine (List.Perm.append_left _ (ih _ (by omega))).trans ?_
      rw [ncl_map_nsub.2, ← List.map_append]
      exact ((nsub_step _ _).map _).symm

theorem connectLevels_fuel (t : Tree) : (nsubL [t]).length ≤ (objsT t).length + 1 := by
  have h1 := (ncl_sublist_objs.1 t).length_le
  rw [ncl_map_nsub.1, List.length_map] at h1
  rw [nsubL_singleton]; omega

theorem connectLevels_perm (t : Tree) : ((connectLevels t).flatten).Perm (nclT t) := by
  rw [connectLevels_eq_loop, ← nclL_singleton]
  exact levelsLoop_perm _ _ (connectLevels_fuel t)

theorem levelsLoop_sublist (fuel : Nat) (objs : List Tree) : ∀ lv ∈ levelsLoop fuel objs, lv.Sublist (nclL objs) := by
  intro lv hlv
  obtain ⟨i, hi⟩ := List.getElem?_of_mem hlv
  obtain ⟨_, first, rest, hF, rfl, _⟩ := levelsLoop_drop (I := fun _ F => (nsubL F).Sublist (nsubL objs))
    (fun _ _ _ h => (next_sublist _ _).trans h) fuel objs (List.Sublist.refl _) i lv hi
  rw [ncl_map_nsub.2]
  exact ((roots_sublist _ _).trans hF).map _

theorem connectLevels_sublist (t : Tree) : ∀ lv ∈ connectLevels t, lv.Sublist (nclT t) := by
  rw [connectLevels_eq_loop, ← nclL_singleton]; exact levelsLoop_sublist _ _

theorem levelsLoop_later (fuel : Nat) (objs : List Tree) (hlen : (nsubL objs).length ≤ fuel) (i : Nat) (lv : List RObj)
    (hi : (levelsLoop fuel objs)[i]? = some lv) (y : RObj) (hy : y ∈ lv) :
    ∃ T ∈ nsubL objs, T.obj = y ∧
      ∀ c ∈ T.ns, ∃ (j : Nat) (lv' : List RObj), i < j ∧ (levelsLoop fuel objs)[j]? = some lv' ∧ c.obj ∈ lv' := by
  obtain ⟨f, first, rest, ⟨hf, hF⟩, rfl, hd⟩ := levelsLoop_drop
    (I := fun f F => (nsubL F).length ≤ f ∧ (nsubL F).Sublist (nsubL objs))
    (fun f first rest h => ⟨by have := next_lt first rest; omega, (next_sublist _ _).trans h.2⟩) fuel objs
    ⟨hlen, List.Sublist.refl _⟩ i lv hi
  obtain ⟨T, hT, rfl⟩ := List.mem_map.1 hy
  have hp := List.mem_filter.1 hT
  refine ⟨T, hF.subset (mem_nsubL.2 ⟨T, hp.1, nsubT_self T⟩), rfl, fun c hc => ?_⟩
  -- a child of a taken object enters the frontier the round leaves, whose closure the remaining levels hold
  have hnext : c ∈ (first :: rest).flatMap (fun o => if typeEq (topOf first rest).obj o.obj then o.ns else [o]) :=
    List.mem_flatMap.2 ⟨T, hp.1, by rw [if_pos hp.2]; exact hc⟩
  have hcl : c.obj ∈ nclL ((first :: rest).flatMap (fun o => if typeEq (topOf first rest).obj o.obj then o.ns else [o])) := by
    rw [ncl_map_nsub.2]; exact List.mem_map_of_mem (mem_nsubL.2 ⟨c, hnext, nsubT_self c⟩)
  rw [← (levelsLoop_perm f _ (by have := next_lt first rest; omega)).mem_iff, ← hd] at hcl
  obtain ⟨lv', hlv', hc'⟩ := List.mem_flatten.1 hcl
  obtain ⟨j, hj⟩ := List.getElem?_of_mem hlv'
  rw [List.getElem?_drop] at hj
  exact ⟨i + 1 + j, lv', by omega, hj, hc'⟩

theorem connectLevels_later (t : Tree) (i : Nat) (lv : List RObj) (hi : (connectLevels t)[i]? = some lv) (y : RObj) (hy : y ∈ lv) :
    ∃ T ∈ nsubT t, T.obj = y ∧
      ∀ c ∈ T.ns, ∃ (j : Nat) (lv' : List RObj), i < j ∧ (connectLevels t)[j]? = some lv' ∧ c.obj ∈ lv' := by
  rw [connectLevels_eq_loop, ← nsubL_singleton] at *
  exact levelsLoop_later _ _ (connectLevels_fuel t) i lv hi y hy

/-! ### relabelling: the closure of the relabelled tree consists of occurrences, in their order -/

theorem relabelT_obj (s : Nat) (t : Tree) : (relabelT s t).obj = { t.obj with gp := s } := by
  cases t; rw [relabelT]; rfl
theorem relabelT_ns (s : Nat) (t : Tree) : (relabelT s t).ns = relabelL (s + 1) t.ns := by
  cases t; rw [relabelT]; rfl

theorem relabelL_get (s : Nat) (l : List Tree) (j : Nat) (c : Tree) (h : l[j]? = some c) :
    (relabelL s l)[j]? = some (relabelT (startN s l j) c) := by
  induction l generalizing s j with
  | nil => simp at h
  | cons a as ih =>
    rw [relabelL]
    cases j with
    | zero => simp at h; subst h; simp [startN_zero]
    | succ j =>
      simp only [List.getElem?_cons_succ] at h ⊢
      rw [ih (s + sizeT a) j h, startN_cons_succ]

theorem nsub_sublist_occs :
    (∀ t, ∀ s par rk pv nx,
        (nsubT (relabelT s t)).Sublist ((occsT s par rk pv nx t).map (fun oc => relabelT oc.id oc.t))) ∧
    (∀ l, ∀ s par rk pv, (nsubL (relabelL s l)).Sublist ((occsL s par rk pv l).map (fun oc => relabelT oc.id oc.t))) := by
  apply tree_ind4
  · intro o ns ms ios mis h1 _ _ _ s par rk pv nx
    rw [nsubT_eq, relabelT_ns, occsT, List.map_cons, List.append_assoc, List.append_assoc, List.map_append]
    exact List.Sublist.cons_cons _ ((h1 _ _ _ _).trans (List.sublist_append_left _ _))
  · intro s par rk pv; rw [relabelL, nsubL]; exact List.nil_sublist _
  · intro t ts h1 h2 s par rk pv
    rw [relabelL, nsubL, occsL, List.map_append]
    exact List.Sublist.append (h1 _ _ _ _ _) (h2 _ _ _ _)

theorem nsub_is_occ (t : Tree) (T : Tree) (hT : T ∈ nsubT (relabelT 0 t)) : ∃ oc ∈ occs t, T = relabelT oc.id oc.t := by
  obtain ⟨oc, hoc, e⟩ := List.mem_map.1 ((nsub_sublist_occs.1 t 0 (-1) 0 (-1) (-1)).subset hT)
  exact ⟨oc, hoc, e.symm⟩

theorem closure_gps_sublist (t : Tree) : ((nclT (relabelT 0 t)).map (·.gp)).Sublist (List.range' 0 (sizeT t)) := by
  have e : (occsT 0 (-1) 0 (-1) (-1) t).map (fun oc => (relabelT oc.id oc.t).obj.gp) = (occsT 0 (-1) 0 (-1) (-1) t).map (·.id) :=
    List.map_congr_left fun oc _ => by rw [relabelT_obj]
  rw [ncl_map_nsub.1, List.map_map, ← occs_map_id.1 t 0 (-1) 0 (-1) (-1), ← e]
  have := (nsub_sublist_occs.1 t 0 (-1) 0 (-1) (-1)).map (fun T => T.obj.gp)
  rw [List.map_map] at this
  exact this

theorem level_entry_occ (t : Tree) (lv : List RObj) (hlv : lv ∈ connectLevels (relabelT 0 t)) (y : RObj) (hy : y ∈ lv) :
    ∃ oc ∈ occs t, y = { oc.t.obj with gp := oc.id } := by
  have hy' := (connectLevels_perm _).mem_iff.1 (List.mem_flatten.2 ⟨lv, hlv, hy⟩)
  rw [ncl_map_nsub.1] at hy'
  obtain ⟨T, hT, rfl⟩ := List.mem_map.1 hy'
  obtain ⟨oc, hoc, rfl⟩ := nsub_is_occ t T hT
  exact ⟨oc, hoc, relabelT_obj _ _⟩

/-! ### normal objects and the closure -/

theorem normal_sub (t : Tree) (ht : typedT t = true) : ∀ oc ∈ occs t, isNormal oc.t.obj.type = true →
    relabelT oc.id oc.t ∈ nsubT (relabelT 0 t) := by
  refine occ_ind (fun _ => nsubT_self _) fun poc hp ih q hq j c hj hn => ?_
  have htp := occ_typed t ht poc hp
  -- a normal child stands in the list of normal children, and its parent is a normal object
  rcases kkind_cases q hq _ (typedL_get _ _ (typedT_kids _ htp q hq) j c hj).1 with ⟨rfl, _⟩ | ⟨_, h, _⟩ | ⟨_, h, _⟩ | ⟨_, h, _⟩
  · have hmem : relabelT (startN (poc.id + 1) poc.t.ns j) c ∈ (relabelT poc.id poc.t).ns := by
      rw [relabelT_ns]; exact List.mem_of_getElem? (relabelL_get _ _ j c hj)
    exact nsubT_child _ _ _ (ih ((typedT_parent poc.t htp).1 (List.ne_nil_of_mem (List.mem_of_getElem? hj)))) hmem
  all_goals exact absurd hn (by rw [show (sibRecAt _ _ _ _ _ j c).t = c from rfl, h]; simp)

theorem closure_normal :
    (∀ t, typedT t = true → isNormal t.obj.type = true → ∀ s, ∀ y ∈ nclT (relabelT s t), isNormal y.type = true) ∧
    (∀ l, (∀ t ∈ l, typedT t = true ∧ isNormal t.obj.type = true) → ∀ s, ∀ y ∈ nclL (relabelL s l), isNormal y.type = true) := by
  apply tree_ind4
  · intro o ns ms ios mis h1 _ _ _ ht hr s y hy
    have hl := (typedT_lists _ ht).1
    rw [relabelT, nclT] at hy
    rcases List.mem_cons.1 hy with rfl | hy
    · exact hr
    · exact h1 (fun t ht' => ⟨(typedL_mem _ _ hl t ht').2, (typedL_mem _ _ hl t ht').1⟩) _ y hy
  · intro _ s y hy; rw [relabelL, nclL] at hy; nomatch hy
  · intro t ts h1 h2 hall s y hy
    rw [relabelL, nclL] at hy
    rcases List.mem_append.1 hy with hy | hy
    · exact h1 (hall t List.mem_cons_self).1 (hall t List.mem_cons_self).2 _ y hy
    · exact h2 (fun t' ht' => hall t' (List.mem_cons_of_mem _ ht')) _ y hy

/-- with `connectLevels_perm`: hwloc_connect_levels distributes exactly the normal objects of a typed tree with a normal root over
    the normal levels -/
theorem closure_perm_normal (t : Tree) (ht : typedT t = true) (hr : isNormal t.obj.type = true) :
    ((nclT (relabelT 0 t)).map (·.gp)).Perm (((occs t).filter (fun oc => isNormal oc.t.obj.type)).map (·.id)) := by
  have hids : ((occs t).map (·.id)).Nodup := by rw [occs, occs_map_id.1]; exact List.nodup_range' 1
  refine (List.perm_ext_iff_of_nodup ((closure_gps_sublist t).nodup (List.nodup_range' 1))
    ((List.filter_sublist.map _).nodup hids)).2 fun id => ⟨fun h => ?_, fun h => ?_⟩
  · obtain ⟨y, hy, rfl⟩ := List.mem_map.1 h
    have hn := closure_normal.1 t ht hr 0 y hy
    rw [ncl_map_nsub.1] at hy
    obtain ⟨T, hT, rfl⟩ := List.mem_map.1 hy
    obtain ⟨oc, hoc, rfl⟩ := nsub_is_occ t T hT
    rw [relabelT_obj] at hn ⊢
    exact List.mem_map.2 ⟨oc, List.mem_filter.2 ⟨hoc, hn⟩, rfl⟩
  · obtain ⟨oc, hoc, rfl⟩ := List.mem_map.1 h
    obtain ⟨hoc, hn⟩ := List.mem_filter.1 hoc
    rw [ncl_map_nsub.1, List.map_map]
    exact List.mem_map.2 ⟨_, normal_sub t ht oc hoc hn, by simp [relabelT_obj]⟩

/-! ### the objects of the normal levels: identity and type -/

theorem normalLevels_get (t : Tree) (k : Nat) (hk : k < (normalLevels t).length) :
    ∃ lv, (connectLevels (relabelT 0 t))[k]? = some lv ∧
      (normalLevels t)[k] = (((lv.head?).map (·.type)).getD 0, lv.map (·.gp)) := by
  unfold normalLevels at hk ⊢
  rw [List.length_map] at hk
  exact ⟨(connectLevels (relabelT 0 t))[k], List.getElem?_eq_getElem hk, by simp⟩

theorem normalLevels_length (t : Tree) : (normalLevels t).length = (connectLevels (relabelT 0 t)).length := by
  unfold normalLevels; rw [List.length_map]

theorem normalLevels_of_get (t : Tree) (k : Nat) (lv : List RObj) (h : (connectLevels (relabelT 0 t))[k]? = some lv) :
    ∃ hk : k < (normalLevels t).length, ((normalLevels t)[k]).2 = lv.map (·.gp) := by
  have hk : k < (normalLevels t).length := by rw [normalLevels_length]; exact getElem?_lt h
  obtain ⟨lv', hlv', e⟩ := normalLevels_get t k hk
  rw [h] at hlv'
  exact ⟨hk, by rw [e, ← Option.some.inj hlv']⟩

theorem level_nonempty (t : Tree) (k : Nat) (hk : k < (normalLevels t).length) : ((normalLevels t)[k]).2 ≠ [] := by
  obtain ⟨lv, hlv, e⟩ := normalLevels_get t k hk
  rw [e]
  exact fun h => connectLevels_nonempty _ lv (List.mem_of_getElem? hlv) (List.map_eq_nil_iff.1 h)

theorem level_type_eq (t : Tree) (ht : typedT t = true) (oc : Occ) (hoc : oc ∈ occs t) (k : Nat)
    (hk : k < (normalLevels t).length) (hid : oc.id ∈ ((normalLevels t)[k]).2) : ((normalLevels t)[k]).1 = oc.t.obj.type := by
  obtain ⟨lv, hlv, e⟩ := normalLevels_get t k hk
  rw [e] at hid ⊢
  have hlvm : lv ∈ connectLevels (relabelT 0 t) := List.mem_of_getElem? hlv
  obtain ⟨y, hy, hyg⟩ := List.mem_map.1 hid
  obtain ⟨oc', hoc', ey⟩ := level_entry_occ t lv hlvm y hy
  obtain rfl : oc' = oc := occ_unique t oc' oc hoc' hoc (by rw [ey] at hyg; exact hyg)
  cases hh : lv.head? with
  | none => rw [List.head?_eq_none_iff] at hh; rw [hh] at hy; nomatch hy
  | some hd =>
    -- the head of the level is an occurrence of the same type order, hence of the same type
    have hhd : hd ∈ lv := List.mem_of_head? hh
    obtain ⟨oc2, hoc2, e2⟩ := level_entry_occ t lv hlvm hd hhd
    have hord := connectLevels_same_order _ lv hlvm hd hhd y hy
    rw [e2, ey] at hord
    simp only [Option.map_some, Option.getD_some]
    rw [e2]
    exact orderOf_inj _ (typedT_facts _ (occ_typed t ht oc2 hoc2)).2.2.2 _ (typedT_facts _ (occ_typed t ht oc' hoc)).2.2.2 hord

theorem normalLevels_flatten (t : Tree) :
    ((normalLevels t).map (·.2)).flatten = ((connectLevels (relabelT 0 t)).flatten).map (·.gp) := by
  unfold normalLevels
  rw [List.map_map, List.map_flatten]
  rfl

theorem normalLevels_nodup (t : Tree) : (((normalLevels t).map (·.2)).flatten).Nodup := by
  rw [normalLevels_flatten]
  exact ((connectLevels_perm (relabelT 0 t)).map _).nodup_iff.2 ((closure_gps_sublist t).nodup (List.nodup_range' 1))

theorem normalLevels_count (t : Tree) (ht : typedT t = true) (hr : isNormal t.obj.type = true) :
    ((normalLevels t).map (fun l => l.2.length)).sum = (occs t).countP (fun oc => isNormal oc.t.obj.type) := by
  have := (((connectLevels_perm (relabelT 0 t)).map (·.gp)).trans (closure_perm_normal t ht hr)).length_eq
  rw [← normalLevels_flatten, List.length_flatten, List.map_map, List.length_map, ← List.countP_eq_length_filter] at this
  exact this

theorem level_nodup (t : Tree) (k : Nat) (hk : k < (normalLevels t).length) : ((normalLevels t)[k]).2.Nodup :=
  (List.pairwise_flatten.1 (normalLevels_nodup t)).1 _ (List.mem_map.2 ⟨_, List.getElem_mem hk, rfl⟩)

theorem level_unique (t : Tree) (k k' : Nat) (hk : k < (normalLevels t).length) (hk' : k' < (normalLevels t).length) (id : Nat)
    (h1 : id ∈ ((normalLevels t)[k]).2) (h2 : id ∈ ((normalLevels t)[k']).2) : k = k' := by
  -- no id occurs twice in the flattened levels, so two levels at different positions share none
  have hp := List.pairwise_iff_getElem.1 (List.pairwise_map.1 (List.pairwise_flatten.1 (normalLevels_nodup t)).2)
  rcases Nat.lt_trichotomy k k' with hlt | e | hgt
  · exact absurd rfl (hp k k' hk hk' hlt id h1 id h2)
  · exact e
  · exact absurd rfl (hp k' k hk' hk hgt id h2 id h1)

/-! ### the place of an object -/

theorem placeOf_listed (t : Tree) (k : Nat) (hk : k < (normalLevels t).length) (id ty : Nat) (hn : isNormal ty = true)
    (hid : id ∈ ((normalLevels t)[k]).2) : placeOf (normalLevels t) (occs t) id ty = ((k : Int), ((normalLevels t)[k]).2) := by
  have hf : ((List.range (normalLevels t).length).zip (normalLevels t)).find? (fun x => x.2.2.contains id) =
      some (k, (normalLevels t)[k]) := by
    have hlen : ((List.range (normalLevels t).length).zip (normalLevels t)).length = (normalLevels t).length := by simp
    rw [List.find?_eq_some_iff_getElem]
    refine ⟨by simpa using hid, k, by omega, by simp, fun j hj => ?_⟩
    simp only [List.getElem_zip, Bool.not_eq_true', List.contains_eq_mem, decide_eq_false_iff_not]
    exact fun hmem => absurd (level_unique t j k (by omega) hk id hmem hid) (by omega)
  unfold placeOf; rw [specialDepth_of_normal hn]; simp only []; rw [hf]

theorem placeOf_special (nl : List (Nat × List Nat)) (os : List Occ) (id ty : Nat) (sd : Int) (h : specialDepth ty = some sd) :
    placeOf nl os id ty = (sd, specialLevel os ty) := by
  unfold placeOf; rw [h]

theorem normal_level_index (t : Tree) (ht : typedT t = true) (oc : Occ) (hoc : oc ∈ occs t)
    (hn : isNormal oc.t.obj.type = true) : ∃ k, ∃ hk : k < (normalLevels t).length, oc.id ∈ ((normalLevels t)[k]).2 := by
  have hx : (relabelT oc.id oc.t).obj ∈ nclT (relabelT 0 t) := by
    rw [ncl_map_nsub.1]; exact List.mem_map_of_mem (normal_sub t ht oc hoc hn)
  obtain ⟨lv, hlv, hxl⟩ := List.mem_flatten.1 ((connectLevels_perm _).mem_iff.2 hx)
  obtain ⟨k, hk⟩ := List.getElem?_of_mem hlv
  obtain ⟨hk', e⟩ := normalLevels_of_get t k lv hk
  exact ⟨k, hk', by rw [e]; exact List.mem_map.2 ⟨_, hxl, by rw [relabelT_obj]⟩⟩

theorem level_member (t : Tree) (ht : typedT t = true) (hr : isNormal t.obj.type = true) (k : Nat)
    (hk : k < (normalLevels t).length) (id : Nat) (hid : id ∈ ((normalLevels t)[k]).2) :
    ∃ oc ∈ occs t, oc.id = id ∧ isNormal oc.t.obj.type = true ∧ oc.t.obj.type = ((normalLevels t)[k]).1 ∧
      placeOf (normalLevels t) (occs t) id oc.t.obj.type = ((k : Int), ((normalLevels t)[k]).2) := by
  obtain ⟨lv, hlv, e⟩ := normalLevels_get t k hk
  have hlvm : lv ∈ connectLevels (relabelT 0 t) := List.mem_of_getElem? hlv
  have hid' := hid
  rw [e] at hid'
  obtain ⟨y, hy, rfl⟩ := List.mem_map.1 hid'
  have hn := closure_normal.1 t ht hr 0 y ((connectLevels_perm _).mem_iff.1 (List.mem_flatten.2 ⟨lv, hlvm, hy⟩))
  obtain ⟨oc, hoc, rfl⟩ := level_entry_occ t lv hlvm y hy
  exact ⟨oc, hoc, rfl, hn, (level_type_eq t ht oc hoc k hk hid).symm, placeOf_listed t k hk _ _ hn hid⟩

theorem normalLevels_increasing (t : Tree) (k : Nat) (hk : k < (normalLevels t).length) :
    ((normalLevels t)[k]).2.Pairwise (· < ·) := by
  obtain ⟨lv, hlv, e⟩ := normalLevels_get t k hk
  rw [e]
  exact ((List.pairwise_lt_range' (s := 0) (n := sizeT t) 1).sublist (closure_gps_sublist t)).sublist
    ((connectLevels_sublist _ lv (List.mem_of_getElem? hlv)).map (·.gp))

theorem normalLevels_child (t : Tree) (poc : Occ) (hp : poc ∈ occs t) (j : Nat) (c : Tree) (hj : poc.t.ns[j]? = some c) (kp : Nat)
    (hkp : kp < (normalLevels t).length) (hpid : poc.id ∈ ((normalLevels t)[kp]).2) :
    ∃ kc, ∃ hkc : kc < (normalLevels t).length, kp < kc ∧ startN (poc.id + 1) poc.t.ns j ∈ ((normalLevels t)[kc]).2 := by
  obtain ⟨lv, hlv, e⟩ := normalLevels_get t kp hkp
  rw [e] at hpid
  obtain ⟨y, hy, hyg⟩ := List.mem_map.1 hpid
  obtain ⟨T, hT, rfl, hlater⟩ := connectLevels_later (relabelT 0 t) kp lv hlv y hy
  obtain ⟨oc', hoc', rfl⟩ := nsub_is_occ t T hT
  obtain rfl : oc' = poc := occ_unique t oc' poc hoc' hp (by rw [relabelT_obj] at hyg; exact hyg)
  have hcmem : relabelT (startN (oc'.id + 1) oc'.t.ns j) c ∈ (relabelT oc'.id oc'.t).ns := by
    rw [relabelT_ns]; exact List.mem_of_getElem? (relabelL_get _ _ j c hj)
  obtain ⟨kc, lv', hlt, hkc, hc'⟩ := hlater _ hcmem
  obtain ⟨hkclt, e'⟩ := normalLevels_of_get t kc lv' hkc
  exact ⟨kc, hkclt, hlt, by rw [e']; exact List.mem_map.2 ⟨_, hc', by rw [relabelT_obj]⟩⟩

theorem normalLevels_zero (t : Tree) : ∃ h0 : 0 < (normalLevels t).length, (normalLevels t)[0] = (t.obj.type, [0]) := by
  unfold normalLevels connectLevels
  simp only [List.map_cons, List.length_cons, List.getElem_cons_zero, relabelT_obj, List.head?_cons, Option.map_some,
    Option.getD_some, List.map_nil]
  exact ⟨by omega, trivial⟩

theorem normalLevels_length_le (t : Tree) : (normalLevels t).length ≤ (occs t).length := by
  rw [show (occs t).length = sizeT t from occsT_length t 0 (-1) 0 (-1) (-1)]
  rw [normalLevels_length]
  have h1 := length_le_flatten _ (connectLevels_nonempty (relabelT 0 t))
  have h2 := (connectLevels_perm (relabelT 0 t)).length_eq
  have h3 := (closure_gps_sublist t).length_le
  rw [List.length_map, List.length_range'] at h3
  omega

end Hw.Topo.Restrict
