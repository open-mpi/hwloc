/-
  Hw.Topo.MiscInsertTop — hwloc_topology_insert_misc_object (dump-level model) preserves the topology-level clauses of
  well-formedness (levels, type depths, uniqueness of gp / os indexes, header).
-/
import Hw.Topo.MiscInsertWF
namespace Hw.Topo.MiscIns
open Hw.Topo Hw.Topo.Hist

/-! ### the levels after the call -/

def shL (pos : Nat) (l : Level) : Level := { l with objs := l.objs.map (shI pos) }
def insL (pos k : Nat) (l : Level) : Level := { l with objs := insAt (l.objs.map (shI pos)) k (pos : Int) }

theorem insLevels_cons (pos k : Nat) (l : Level) (ls : List Level) :
    insLevels pos k (l :: ls) = if (l.depth == -7) = true then insL pos k l :: ls.map (shL pos) else shL pos l :: insLevels pos k ls := rfl

def lvlAfter (pos k : Nat) (l : Level) : Level := if (l.depth == -7) = true then insL pos k l else shL pos l

theorem lvlAfter_depth (pos k : Nat) (l : Level) : (lvlAfter pos k l).depth = l.depth := by
  unfold lvlAfter; split <;> rfl

/-- with one level per depth, the levels after the call are the old levels, each as the call leaves it -/
theorem insLevels_eq_map (pos k : Nat) (ls : List Level) (hnd : (ls.map (·.depth)).Nodup) :
    insLevels pos k ls = ls.map (lvlAfter pos k) := by
  induction ls with
  | nil => rfl
  | cons l ls ih =>
    rw [List.map_cons, List.nodup_cons] at hnd
    rw [insLevels_cons, List.map_cons]
    unfold lvlAfter
    split
    · rename_i h7
      congr 1
      apply List.map_congr_left
      intro x hx
      have : (x.depth == -7) = false := by
        rw [beq_eq_false_iff_ne]
        intro e
        exact hnd.1 (by rw [beq_iff_eq.1 h7, ← e]; exact List.mem_map_of_mem hx)
      rw [if_neg (by rw [this]; exact Bool.false_ne_true)]
    · rw [ih hnd.2]; rfl

theorem lvlAfter_same (pos k : Nat) (f : Level → Bool) (hf : ∀ l objs, f { l with objs := objs } = f l) (l : Level) :
    f (lvlAfter pos k l) = f l := by
  unfold lvlAfter; split <;> exact hf l _

theorem sum_insLevels (pos k : Nat) (ls : List Level) (hex : ∃ l ∈ ls, l.depth = -7) :
    ((insLevels pos k ls).map (fun l => l.objs.length)).sum = (ls.map (fun l => l.objs.length)).sum + 1 := by
  induction ls with
  | nil => obtain ⟨l, hl, _⟩ := hex; cases hl
  | cons l ls ih =>
    rw [insLevels_cons]
    by_cases h7 : (l.depth == -7) = true
    · rw [if_pos h7]
      simp only [List.map_cons, List.sum_cons, List.map_map]
      have : ((fun l => l.objs.length) ∘ shL pos) = (fun l => l.objs.length) := by
        funext x; simp [shL]
      rw [this]
      show (insAt (l.objs.map (shI pos)) k (pos : Int)).length + _ = _
      rw [insAt_length, List.length_map]; omega
    · rw [if_neg h7]
      obtain ⟨l0, hl0, e0⟩ := hex
      have : ∃ l ∈ ls, l.depth = -7 := by
        rcases List.mem_cons.1 hl0 with e | hm
        · subst e; rw [e0] at h7; exact absurd rfl h7
        · exact ⟨l0, hm, e0⟩
      simp only [List.map_cons, List.sum_cons, ih this]
      show (l.objs.map (shI pos)).length + _ = _
      rw [List.length_map]; omega

section
variable {d : Dump} (h : WF d) (p pos k : Nat) (name : Option String) (skip : Nat)
  (hp : p < pos) (hpos : pos ≤ d.objs.length)


include h in
theorem levels_after : (DN).levels = d.levels.map (lvlAfter pos k) :=
  insLevels_eq_map pos k d.levels h.level_depths_nodup

include h in
theorem levelOf_after (dep : Int) :
    levelOf DN dep = (levelOf d dep).map (fun l => if (dep == -7) = true then insL pos k l else shL pos l) := by
  unfold levelOf
  rw [levels_after h, List.find?_map]
  have e : ((fun l : Level => l.depth == dep) ∘ lvlAfter pos k) = fun l => l.depth == dep := by
    funext l; exact congrArg (· == dep) (lvlAfter_depth pos k l)
  rw [e]
  cases hf : d.levels.find? (fun l => l.depth == dep) with
  | none => rfl
  | some l =>
    have : l.depth = dep := by simpa using List.find?_some hf
    simp only [Option.map_some, lvlAfter, this]

include h in
/-- the clause is given by its position in `topClauses` (`hi` by `rfl`) -/
theorem top_after (i : Nat) {nm : String} {f : Dump → Aux → Bool} (hi : topClauses[i]? = some (nm, f))
    (H : f d (mkAux d) = true → f DN (mkAux DN) = true) : topClause nm DN (mkAux DN) = true := by
  rw [topClause_of_getElem? hi]
  exact H (h.top_clause i hi)

include h in
theorem mem_levels_after (l' : Level) (hl' : l' ∈ (DN).levels) :
    ∃ l ∈ d.levels, (l' = shL pos l ∧ l.depth ≠ -7) ∨ (l' = insL pos k l ∧ l.depth = -7) := by
  rw [levels_after h] at hl'
  obtain ⟨l, hl, rfl⟩ := List.mem_map.1 hl'
  refine ⟨l, hl, ?_⟩
  unfold lvlAfter
  split
  · rename_i h7; exact Or.inr ⟨rfl, beq_iff_eq.1 h7⟩
  · rename_i h7; exact Or.inl ⟨rfl, fun e => h7 (by rw [e]; rfl)⟩

include h in
theorem all_levels_after (f : Level → Bool) (hf : ∀ l objs, f { l with objs := objs } = f l) :
    (DN).levels.all f = d.levels.all f := by
  rw [levels_after h, List.all_map]
  exact congrArg (d.levels.all ·) (funext (lvlAfter_same pos k f hf))

include h in
theorem filter_levels_after (f : Level → Bool) (hf : ∀ l objs, f { l with objs := objs } = f l) :
    ((DN).levels.filter f).map (·.depth) = (d.levels.filter f).map (·.depth) := by
  have e1 : f ∘ lvlAfter pos k = f := funext (lvlAfter_same pos k f hf)
  have e2 : (fun l : Level => l.depth) ∘ lvlAfter pos k = fun l => l.depth := funext (lvlAfter_depth pos k)
  rw [levels_after h, List.filter_map, List.map_map, e1, e2]

include hp hpos in
theorem after_get0 : (DN).objs[0]? = (d.objs[0]?).map U := by
  have := after_get_sh d p pos k name skip hpos 0
  rwa [shN_of_lt pos 0 (by omega)] at this

include h in
theorem t_nobjs : topClause "nobjs" DN (mkAux DN) = true := by
  refine top_after h p pos k name skip 0 rfl fun c => ?_
  simp only [Bool.and_eq_true, beq_iff_eq, decide_eq_true_eq] at c ⊢
  rw [after_length]
  show d.objs.length + 1 = d.nobjs + 1 ∧ 0 < d.nobjs + 1
  omega

include h hp hpos in
theorem t_root_is_machine : topClause "root-is-machine" DN (mkAux DN) = true := by
  refine top_after h p pos k name skip 1 rfl fun c => ?_
  rw [after_get0 p pos k name skip hp hpos]
  cases h0 : d.objs[0]? with
  | none => rw [h0] at c; simp at c
  | some r =>
    rw [h0] at c
    simp only [Option.map_some, Bool.and_eq_true, beq_iff_eq] at c ⊢
    refine ⟨c.1, ⟨c.2.1.1, c.2.1.2⟩, ?_⟩
    rw [upd_parent, c.2.2]; exact shI_m1 pos

include h hp in
theorem t_machine_only_at_root : topClause "machine-only-at-root" DN (mkAux DN) = true := by
  refine top_after h p pos k name skip 2 rfl fun c => ?_
  simp only [List.all_eq_true] at c ⊢
  refine forall_after d p pos k name skip rfl fun o ho => ?_
  have := c o ho
  simp only [Bool.or_eq_true, bne_iff_ne, beq_iff_eq] at this ⊢
  rcases this with a | a
  · exact Or.inl a
  · right; rw [upd_id, a]; exact shN_of_lt pos 0 (by omega)

include h hp in
theorem t_level0_is_root : topClause "level0-is-root" DN (mkAux DN) = true := by
  refine top_after h p pos k name skip 3 rfl fun c => ?_
  rw [levelOf_after h]
  cases h0 : levelOf d 0 with
  | none => rw [h0] at c; cases c
  | some l =>
    rw [h0] at c
    simp only [Bool.and_eq_true, beq_iff_eq] at c
    simp only [Option.map_some, show ((0 : Int) == -7) = false by decide, Bool.false_eq_true, if_false, Bool.and_eq_true, beq_iff_eq]
    refine ⟨?_, c.2⟩
    show l.objs.map (shI pos) = [0]
    rw [c.1]
    show [shI pos 0] = [0]
    rw [shI_of_lt pos 0 (by omega)]

include h in
theorem t_pu_level_deepest : topClause "pu-level-deepest" DN (mkAux DN) = true := by
  refine top_after h p pos k name skip 4 rfl fun c => ?_
  simp only [Bool.and_eq_true, decide_eq_true_eq, List.all_eq_true] at c ⊢
  obtain ⟨⟨c1, c2⟩, c3⟩ := c
  refine ⟨⟨c1, ?_⟩, ?_⟩
  · have ed : (DN).depth = d.depth := rfl
    rw [ed, levelOf_after h]
    cases hl : levelOf d ((d.depth : Int) - 1) with
    | none => rw [hl] at c2; cases c2
    | some l =>
      rw [hl] at c2
      have c2' : (l.type == (tPU : Int) && !l.objs.isEmpty) = true := c2
      have e7 : (((d.depth : Int) - 1) == -7) = false := by rw [beq_eq_false_iff_ne]; omega
      simp only [Option.map_some, e7, Bool.false_eq_true, if_false]
      show (l.type == (tPU : Int) && !(l.objs.map (shI pos)).isEmpty) = true
      simpa using c2'
  · exact forall_after d p pos k name skip rfl c3

include h in
theorem t_numa_exists : topClause "numa-exists" DN (mkAux DN) = true := by
  refine top_after h p pos k name skip 5 rfl fun c => ?_
  rw [levelOf_after h]
  cases hl : levelOf d (-3) with
  | none => rw [hl] at c; cases c
  | some l =>
    rw [hl] at c
    simp only [Option.map_some, show ((-3 : Int) == -7) = false by decide, Bool.false_eq_true, if_false]
    show (!(l.objs.map (shI pos)).isEmpty) = true
    simpa using c

include h in
theorem t_levels_listed : topClause "levels-listed" DN (mkAux DN) = true := by
  refine top_after h p pos k name skip 6 rfl fun c => ?_
  have e : ∀ dep, (levelOf DN dep).isSome = (levelOf d dep).isSome := by
    intro dep; rw [levelOf_after h]; cases levelOf d dep <;> rfl
  simp only [e]
  have el : (DN).levels.length = d.levels.length := by rw [levels_after h, List.length_map]
  rw [el]
  exact c

include h in
theorem t_levels_cover_objects : topClause "levels-cover-objects" DN (mkAux DN) = true := by
  refine top_after h p pos k name skip 7 rfl fun c => ?_
  simp only [beq_iff_eq] at c ⊢
  rw [after_length]
  have hex := h.level_at_special_depth (k := -7) (by simp)
  show ((insLevels pos k d.levels).map (fun l => l.objs.length)).sum = _
  rw [sum_insLevels pos k d.levels hex, c]

include h in
theorem t_normal_level_types : topClause "normal-level-types" DN (mkAux DN) = true := by
  refine top_after h p pos k name skip 9 rfl fun c => ?_
  show (DN).levels.all _ = true
  rw [all_levels_after h p pos k name skip _ (fun l objs => rfl)]
  exact c

include h in
theorem t_type_depth_inverse : topClause "type-depth-inverse" DN (mkAux DN) = true := by
  have e : ∀ t : Nat, ((DN).levels.filter (fun l => decide (0 ≤ l.depth) && l.type == (t : Int))).map (·.depth) = _ :=
    fun t => filter_levels_after h p pos k name skip _ (fun l objs => rfl)
  have c := (typeDepthInverse_iff d _).1 (h.top_by_name _)
  rw [typeDepthInverse_iff]
  simp only [e]
  exact c

include h hp hpos in
theorem t_allowed_sets : topClause "allowed-sets" DN (mkAux DN) = true := by
  refine top_after h p pos k name skip 11 rfl fun c => ?_
  rw [after_get0 p pos k name skip hp hpos]
  cases h0 : d.objs[0]? with
  | none => rw [h0] at c; cases c
  | some r => rw [h0] at c; exact c

theorem filter_type_after (ty : Nat) (hty : ty ≠ tMISC) :
    ((DN).objs.filter (fun o => o.type == ty)).map (·.osidx) = (d.objs.filter (fun o => o.type == ty)).map (·.osidx) := by
  show ((insAt (d.objs.map U) pos _).filter (fun o => o.type == ty)).map (·.osidx) = _
  rw [insAt_filter_neg _ _ _ _ (by show (tMISC == ty) = false; rw [beq_eq_false_iff_ne]; exact fun e => hty e.symm)]
  rw [List.filter_map, List.map_map]
  rfl

include h in
theorem t_pu_osindex_unique : topClause "pu-osindex-unique" DN (mkAux DN) = true := by
  refine top_after h p pos k name skip 12 rfl fun c => ?_
  rw [filter_type_after p pos k name skip tPU (by decide)]; exact c

include h in
theorem t_numa_osindex_unique : topClause "numa-osindex-unique" DN (mkAux DN) = true := by
  refine top_after h p pos k name skip 13 rfl fun c => ?_
  rw [filter_type_after p pos k name skip tNUMA (by decide)]; exact c

theorem le_foldl_max (l : List Obj) (m : Nat) : m ≤ l.foldl (fun m o => max m o.gp) m ∧ ∀ o ∈ l, o.gp ≤ l.foldl (fun m o => max m o.gp) m := by
  induction l generalizing m with
  | nil => exact ⟨Nat.le_refl _, fun _ h => by cases h⟩
  | cons x xs ih =>
    simp only [List.foldl_cons]
    have := ih (max m x.gp)
    refine ⟨by omega, ?_⟩
    intro o ho
    rcases List.mem_cons.1 ho with rfl | hm
    · omega
    · exact this.2 o hm

theorem gp_le_maxGp (d : Dump) (o : Obj) (ho : o ∈ d.objs) : o.gp ≤ maxGp d := (le_foldl_max d.objs 0).2 o ho

theorem after_gps : (DN).objs.map (·.gp) = insAt (d.objs.map (·.gp)) pos (maxGp d + 1 + skip) := by
  show (insAt (d.objs.map U) pos _).map (·.gp) = _
  rw [insAt_map, List.map_map]; rfl

include h in
theorem t_gp_index_unique : topClause "gp-index-unique" DN (mkAux DN) = true := by
  refine top_after h p pos k name skip 14 rfl fun c => ?_
  simp only [decide_eq_true_eq] at c ⊢
  rw [after_gps, (insAt_perm _ _ _).nodup_iff, List.nodup_cons]
  refine ⟨?_, c⟩
  intro hm
  obtain ⟨o, ho, e⟩ := List.mem_map.1 hm
  have := gp_le_maxGp d o ho
  omega

include h in
theorem t_depth_le_objects : topClause "depth-le-objects" DN (mkAux DN) = true := by
  refine top_after h p pos k name skip 16 rfl fun c => ?_
  simp only [decide_eq_true_eq] at c ⊢
  rw [after_length]
  show d.depth ≤ _
  omega

include h in
theorem t_normal_levels_nonempty : topClause "normal-levels-nonempty" DN (mkAux DN) = true := by
  refine top_after h p pos k name skip 15 rfl fun c => ?_
  simp only [List.all_eq_true] at c ⊢
  intro l' hl'
  obtain ⟨l, hl, hh⟩ := mem_levels_after h p pos k name skip l' hl'
  have cl := c l hl
  rcases hh with ⟨rfl, _⟩ | ⟨rfl, e7⟩
  · show (decide (l.depth < 0) || !(l.objs.map (shI pos)).isEmpty) = true
    simpa using cl
  · show (decide (l.depth < 0) || _) = true
    rw [e7]; rfl

end
end Hw.Topo.MiscIns

