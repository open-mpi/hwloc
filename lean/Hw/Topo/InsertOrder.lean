/-
  Hw.Topo.InsertOrder — a refused insertion leaves the tree EXACTLY as it was.

  On a tree whose children lists are ordered by the first bit of their complete cpuset (the order hwloc maintains and
  hwloc_topology_check asserts) and whose objects have no offline / disallowed bits (complete cpuset = cpuset, so that the
  position the routine remembers for OBJ, computed from cpusets, is meaningful for the put-back, which compares complete
  cpusets), the put-back path of `hwloc___insert_object_by_cpuset` re-creates the original children lists at every level.
-/
import Hw.Topo.InsertLemmas
namespace Hw.Topo.Ins

/-! ### first bits -/

theorem tz_spec {m : Nat} (h : m ≠ 0) : m.testBit (tz m) = true ∧ ∀ j, j < tz m → m.testBit j = false := by
  unfold tz
  cases hl : Hw.lowest (fun i => m.testBit i) (m.log2 + 1) with
  | none =>
    have := (Hw.lowest_none.mp hl) m.log2 (Nat.lt_succ_self _)
    simp [Nat.testBit_log2 h] at this
  | some j =>
    have := Hw.lowest_some.mp hl
    exact ⟨this.2.1, this.2.2⟩

theorem tz_le_of_sub {t k : Nat} (hs : sub t k) (ht : t ≠ 0) : tz k ≤ tz t := by
  have hk : k ≠ 0 := by
    intro hk; unfold sub at hs; rw [hk] at hs; simp at hs; exact ht hs.symm
  have h1 := (tz_spec ht).1
  have h2 : k.testBit (tz t) = true := by
    have : (t &&& k).testBit (tz t) = true := by rw [hs]; exact h1
    rw [Nat.testBit_and] at this
    simp at this; exact this.2
  apply Nat.le_of_not_lt
  intro hlt
  have := (tz_spec hk).2 (tz t) hlt
  rw [h2] at this; cases this

theorem tz_ne_of_dj {a b : Nat} (hd : dj a b) (ha : a ≠ 0) (hb : b ≠ 0) : tz a ≠ tz b := by
  intro he
  have h1 := (tz_spec ha).1
  have h2 := (tz_spec hb).1
  rw [← he] at h2
  have : (a &&& b).testBit (tz a) = true := by rw [Nat.testBit_and, h1, h2]; rfl
  unfold dj at hd
  rw [hd] at this
  simp at this

theorem firstLt_iff {a b : Nat} : firstLt a b = true ↔ a ≠ 0 ∧ (b = 0 ∨ tz a < tz b) := by
  simp [firstLt]

theorem firstLt_eq_false_iff {a b : Nat} : firstLt a b = false ↔ a = 0 ∨ (b ≠ 0 ∧ tz b ≤ tz a) := by
  rw [← Bool.not_eq_true, firstLt_iff]; omega

theorem firstLt_irrefl (a : Nat) : firstLt a a = false := firstLt_eq_false_iff.2 (by omega)

theorem firstLt_trans {a b c : Nat} (h1 : firstLt a b = true) (h2 : firstLt b c = true) : firstLt a c = true := by
  obtain ⟨ha, hab⟩ := firstLt_iff.1 h1
  obtain ⟨hb, hbc⟩ := firstLt_iff.1 h2
  exact firstLt_iff.2 ⟨ha, hbc.imp_right (Nat.lt_trans (hab.resolve_left hb))⟩

/-! ### the order on siblings -/

def lt (a b : T) : Prop := firstLt a.o.ckey b.o.ckey = true

theorem lt_irrefl (a : T) : ¬ lt a a := by unfold lt; rw [firstLt_irrefl]; simp
theorem lt_trans {a b c : T} (h1 : lt a b) (h2 : lt b c) : lt a c := firstLt_trans h1 h2
theorem lt_asymm {a b : T} (h1 : lt a b) (h2 : lt b a) : False := lt_irrefl a (lt_trans h1 h2)

theorem sorted_perm_eq (l1 l2 : List T) (h1 : l1.Pairwise lt) (h2 : l2.Pairwise lt) (hp : l1.Perm l2) : l1 = l2 :=
  hp.eq_of_pairwise (fun _ _ _ _ hab hba => (lt_asymm hab hba).elim) h1 h2

/-! ### the put-back loop rebuilds a sorted list -/

theorem putback_sorted : ∀ (taken lst : List T), lst.Pairwise lt → taken.Pairwise lt →
    (∀ x ∈ lst, ∀ t ∈ taken, lt x t ∨ lt t x) → (putback lst taken).Pairwise lt := by
  intro taken
  induction taken with
  | nil => intro lst h _ _; simpa [putback] using h
  | cons c cs ih =>
    intro lst hl ht htot
    simp only [putback]
    have htc := List.pairwise_cons.mp ht
    -- `c` enters `lst` by a sorted insertion; the loop goes on from `c`, so what stands before it is settled
    have hp3 := List.pairwise_append.mp (Hw.InsertSort.split_pairwise (R := lt) (fun x => firstLt x.o.ckey c.o.ckey) c (fun _ _ _ => lt_trans)
      lst hl (fun _ _ hp => hp) fun x hx hp => (htot x hx c (by simp)).resolve_left (by simpa [lt] using hp))
    refine List.pairwise_append.mpr ⟨hp3.1, ih _ hp3.2.1 htc.2 fun x hx t ht' => ?_, fun a ha b hb => ?_⟩
    · rcases List.mem_cons.mp hx with rfl | hx
      · exact Or.inl (htc.1 t ht')
      · exact htot x ((List.dropWhile_sublist _).subset hx) t (by simp [ht'])
    · rcases List.mem_append.mp ((putback_perm cs _).mem_iff.mp hb) with hb' | hb'
      · exact hp3.2.2 a ha b hb'
      · exact lt_trans (hp3.2.2 a ha c List.mem_cons_self) (htc.1 b hb')

/-- the put-back of two complementary sublists of a sorted list is that list: sorted again, and a permutation of it -/
theorem putbackAt_eq {l cur taken : List T} {putp : Option Nat} (hl : l.Pairwise lt) (hc : cur.Sublist l) (ht : taken.Sublist l)
    (hp : (cur ++ taken).Perm l) (hpre : ∀ i, putp = some i → ∀ a ∈ cur.take i, ∀ b ∈ taken, lt a b) :
    putbackAt cur taken putp = l := by
  -- to be comparable is symmetric, so it passes from the sorted list to a permutation of it
  have htot := (List.pairwise_append.mp
    ((hp.pairwise_iff (R := fun a b => lt a b ∨ lt b a) Or.symm).mpr (hl.imp Or.inl))).2.2
  refine sorted_perm_eq _ _ ?_ hl ((putbackAt_perm _ _ _).trans hp)
  cases putp with
  | none => exact putback_sorted taken _ (hl.sublist hc) (hl.sublist ht) htot
  | some i =>
    have h3 := List.pairwise_append.mp (List.take_append_drop i cur ▸ hl.sublist hc)
    refine List.pairwise_append.mpr ⟨h3.1, ?_, fun a ha b hb => ?_⟩
    · exact putback_sorted taken _ h3.2.1 (hl.sublist ht) fun x hx t ht' => htot x (List.mem_of_mem_drop hx) t ht'
    · rcases List.mem_append.mp ((putback_perm taken _).mem_iff.mp hb) with hb' | hb'
      · exact h3.2.2 a ha b hb'
      · exact hpre i rfl a ha b hb'

/-! ### ordered trees and the exactness of the put-back -/

/-- children ordered by the first bit of their complete cpuset, no offline / disallowed bits below the root, recursively -/
inductive Ord : T → Prop
  | mk {o : IObj} {kids : List T} :
      kids.Pairwise lt → (∀ c ∈ kids, c.o.key = c.o.ckey) → (∀ c ∈ kids, Ord c) → Ord (.node o kids)

theorem Ord.pw {o : IObj} {kids : List T} (h : Ord (.node o kids)) : kids.Pairwise lt := by cases h; assumption
theorem Ord.keq {o : IObj} {kids : List T} (h : Ord (.node o kids)) : ∀ c ∈ kids, c.o.key = c.o.ckey := by cases h; assumption
theorem Ord.kids {o : IObj} {kids : List T} (h : Ord (.node o kids)) : ∀ c ∈ kids, Ord c := by cases h; assumption

/-- a kept child before the remembered position starts below OBJ -/
theorem lt_obj_of_before {k0 : Nat} {a : T} (hk0 : k0 ≠ 0) (hf : firstLt k0 a.o.key = false) (hd : dj k0 a.o.key)
    (ha : a.o.key = a.o.ckey) : firstLt a.o.ckey k0 = true := by
  obtain h0 | ⟨hne, hle⟩ := firstLt_eq_false_iff.1 hf
  · exact absurd h0 hk0
  · exact ha ▸ firstLt_iff.2 ⟨hne, .inr (Nat.lt_of_le_of_ne hle (tz_ne_of_dj hd hk0 hne).symm)⟩

/-- … and so below every non-empty set inside OBJ's: a subset starts no earlier than its superset -/
theorem firstLt_of_sub {x k0 b : Nat} (h : firstLt x k0 = true) (hs : sub b k0) (hb : b ≠ 0) : firstLt x b = true := by
  obtain ⟨hx, hk⟩ := firstLt_iff.1 h
  have hk0 : k0 ≠ 0 := fun e => hb (by rw [e] at hs; exact hs.symm.trans (Nat.and_zero b))
  exact firstLt_iff.2 ⟨hx, .inr (Nat.lt_of_lt_of_le (hk.resolve_left hk0) (tz_le_of_sub hs hb))⟩

theorem ins_failed (t : T) (obj : IObj) (hL : Lam t) (hO : Ord t) (t' : T) (h : ins obj t = .failed t') : t' = t := by
  induction t using T.ind generalizing obj t' with
  | h co kids IH =>
    have hcase := ins_case obj co kids
    rw [h] at hcase
    generalize hr : Res.failed t' = r at hcase
    cases hcase with
    | stuck => cases hr
    | inserted => cases hr
    | merged => cases hr
    | recursed pre ko kk rest hd =>
      obtain ⟨c', hi, rfl⟩ := Res.wrap_failed hr.symm
      rw [IH _ (by simp) _ (hL.kids_lam _ (by simp)) (hO.kids _ (by simp)) c' hi]
    | failed pre ko kk rest hp hd =>
      injection hr with hr
      subst hr
      congr 1
      -- no child with OBJ's own set was taken (it would be disjoint from the intersecting child): nothing was stripped
      have hne : ∀ d ∈ pre, decide1 obj d.o ≠ .contain true := fun d hd' he => decide1_fail hd <| by
        rw [(decide1_contain he).2.2 rfl]; exact (List.pairwise_append.mp hL.kids_pw).2.2 d hd' (.node ko kk) (by simp)
      rw [takenOf_eq_filter hne]
      have hk0 : obj.key ≠ 0 := fun e => decide1_fail hd (by unfold dj; rw [e, Nat.zero_and])
      refine putbackAt_eq hO.pw (List.filter_sublist.append_right _) (List.filter_sublist.trans (List.sublist_append_left _ _))
        (kept_taken_perm obj pre _) fun i hfa a ha b hb => ?_
      obtain ⟨haK, hfl⟩ := firstAbove_before hfa _ a ha
      have haB := List.mem_filter.mp haK
      have hbC := List.mem_filter.mp hb
      have hbs := taken_sub (hp b hbC.1) (by simpa using hbC.2)
      exact firstLt_of_sub (lt_obj_of_before hk0 hfl (differs_dj haB.2) (hO.keq a (List.mem_append_left _ haB.1)))
        (hO.keq b (List.mem_append_left _ hbC.1) ▸ hbs.1) (hO.keq b (List.mem_append_left _ hbC.1) ▸ hbs.2)


/-! ### executable check of `Ord` -/

def pwLtB : List T → Bool
  | [] => true
  | c :: cs => cs.all (fun x => firstLt c.o.ckey x.o.ckey) && pwLtB cs

mutual
def ordB : T → Bool
  | .node _ kids => pwLtB kids && kids.all (fun c => c.o.key == c.o.ckey) && ordBL kids
def ordBL : List T → Bool
  | [] => true
  | c :: cs => ordB c && ordBL cs
end

theorem pwLtB_sound : ∀ l : List T, pwLtB l = true → l.Pairwise lt := by
  intro l
  induction l with
  | nil => intro _; exact List.Pairwise.nil
  | cons c cs ih =>
    intro h
    simp only [pwLtB, Bool.and_eq_true, List.all_eq_true] at h
    exact List.pairwise_cons.mpr ⟨fun x hx => h.1 x hx, ih h.2⟩

theorem ordBL_eq_all : ∀ l : List T, ordBL l = l.all ordB
  | [] => rfl
  | c :: cs => by rw [ordBL, List.all_cons, ordBL_eq_all cs]

theorem ordB_sound (t : T) (h : ordB t = true) : Ord t := by
  induction t using T.ind with
  | h o kids ih =>
    simp only [ordB, ordBL_eq_all, Bool.and_eq_true, List.all_eq_true, beq_iff_eq] at h
    exact .mk (pwLtB_sound kids h.1.1) (fun c hc => h.1.2 c hc) fun c hc => ih c hc (h.2 c hc)

end Hw.Topo.Ins
