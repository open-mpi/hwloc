/-
  Hw.Topo.RenderSums — sums over the objects of `render t` whose parent is a given object: the occurrences whose parent is
  `oc.id` are the roots of the four children lists of `oc` (RenderCounts), so any weight of the child's subtree summed over them
  is the weight summed over those roots; and the `totSum` aggregate of `mkAux` is such a sum, for any dump.
-/
import Hw.Topo.RenderCounts
namespace Hw.Topo.Restrict
open Hw.Topo

def wsum (w : Tree → Nat) (l : List Tree) : Nat := (l.map w).sum

theorem wsum_cons (w : Tree → Nat) (t : Tree) (ts : List Tree) : wsum w (t :: ts) = w t + wsum w ts := by
  unfold wsum; rw [List.map_cons, List.sum_cons]
theorem wsum_append (w : Tree → Nat) (a b : List Tree) : wsum w (a ++ b) = wsum w a + wsum w b := by
  unfold wsum; rw [List.map_append, List.sum_append]

def osum (w : Tree → Nat) (l : List Occ) : Nat := (l.map (fun oc => w oc.t)).sum

theorem osum_eq_wsum (w : Tree → Nat) (l : List Occ) : osum w l = wsum w (l.map (·.t)) := by
  unfold osum wsum; rw [List.map_map]; rfl

def rootsW (w : Tree → Nat) : Tree → Nat
  | .node _ ns ms ios mis => wsum w ns + wsum w ms + wsum w ios + wsum w mis

theorem rootsW_eq (w : Tree → Nat) (t : Tree) : rootsW w t = wsum w (t.ns ++ t.ms ++ t.ios ++ t.mis) := by
  cases t; rw [rootsW, wsum_append, wsum_append, wsum_append]; rfl

theorem occ_sum (w : Tree → Nat) (t : Tree) (oc : Occ) (hoc : oc ∈ occs t) :
    osum w ((occs t).filter (PQ oc.id)) = rootsW w oc.t := by
  rw [osum_eq_wsum, occ_children t oc hoc, rootsW_eq]

/-! ### the `totSum` aggregate of `mkAux`, for any dump -/

def memW (o : Obj) : Nat := if isNormal o.type || isMemory o.type then o.totalMem else 0

theorem mkAux_totSum (d : Dump) (i : Nat) (hi : i < d.objs.length) :
    getN (mkAux d).totSum i = ((d.objs.filter (parentIs i)).map memW).sum := by
  rw [Hw.Topo.mkAux_totSum, auxFold_cell d i hi, foldl_cellStep]
  exact Nat.zero_add _

end Hw.Topo.Restrict
