/-
  Hw.Topo.SetStageShape — the stage loses no object and invents none: the objects of the output, each with its gp_index, type,
  os_index, the gp_index of its parent and the kind of children list it is in, are a permutation of the input's (the order of normal
  children may change, nothing else).
-/
import Hw.Topo.SetStagePre
import Hw.Base.ListLemmas
namespace Hw.Topo.SetStage
open Hw.Topo

def ident (o : SObj) : Nat × Nat × Nat := (o.gp, o.type, o.os)

/-- (gp_index of the parent, in a memory list, (gp_index, type, os_index)) of every object, depth-first -/
def ids (parent : Int) (isMem : Bool) (t : ST) : List (Int × Bool × Nat × Nat × Nat) :=
  (rows parent isMem t).map (fun r => (r.1, r.2.1, ident r.2.2))

theorem rowsL_eq (p : Int) (m : Bool) (l : List ST) : rowsL p m l = l.flatMap (rows p m) := by
  induction l with
  | nil => rfl
  | cons c cs ih => simp [rowsL, ih]

theorem ids_node (p : Int) (m : Bool) (o : SObj) (kids mem : List ST) :
    ids p m (.node o kids mem) = (p, m, ident o) :: (kids.flatMap (ids o.gp false) ++ mem.flatMap (ids o.gp true)) := by
  unfold ids
  rw [rows, rowsL_eq, rowsL_eq]
  simp [List.map_flatMap]

/-- `u` is `t` with other sets, the normal children possibly permuted -/
inductive Sim : ST → ST → Prop
  | node {a b : SObj} {ka ma kb : List ST} {fk fm : ST → ST} :
      ident a = ident b → (∀ k ∈ ka, Sim k (fk k)) → (∀ m ∈ ma, Sim m (fm m)) → kb.Perm (ka.map fk) →
      Sim (.node a ka ma) (.node b kb (ma.map fm))

theorem Sim.type_eq {t u : ST} (h : Sim t u) : u.o.type = t.o.type := by
  cases h with
  | node hid => exact (congrArg (fun x => x.2.1) hid).symm

theorem Sim.ids_perm {t u : ST} (h : Sim t u) : ∀ (p : Int) (m : Bool), (ids p m u).Perm (ids p m t) := by
  induction h with
  | @node a b ka ma kb fk fm hid _ _ hperm ihk ihm =>
    intro p m
    rw [ids_node, ids_node]
    have hgp : b.gp = a.gp := by
      have := congrArg (fun x => x.1) hid
      exact this.symm
    rw [← hid, hgp]
    refine List.Perm.cons _ (List.Perm.append ?_ ?_)
    · refine (List.Perm.flatMap_right _ hperm).trans ?_
      rw [List.flatMap_map]
      exact perm_flatMap_congr (fun k hk => ihk k hk _ _)
    · rw [List.flatMap_map]
      exact perm_flatMap_congr (fun k hk => ihm k hk _ _)

theorem Sim.trans {t u : ST} (h1 : Sim t u) : ∀ {w : ST}, Sim u w → Sim t w := by
  induction h1 with
  | @node a b ka ma kb fk fm hid _ _ hperm ihk ihm =>
    intro w h2
    cases h2 with
    | @node _ c _ _ kc gk gm hid2 hk2 hm2 hperm2 =>
      rw [List.map_map]
      refine .node (hid.trans hid2) (fun k hk => ihk k hk (hk2 _ (hperm.mem_iff.2 (List.mem_map_of_mem hk))))
        (fun m hm => ihm m hm (hm2 _ (List.mem_map_of_mem hm))) (hperm2.trans ?_)
      have := hperm.map gk
      rwa [List.map_map] at this

theorem Sim.refl : ∀ t : ST, Sim t t := by
  apply ST.ind
  intro o kids mem ihk ihm
  have := Sim.node (a := o) (b := o) (ka := kids) (ma := mem) (kb := kids) (fk := fun x => x) (fm := fun x => x) rfl ihk ihm
    (by simp)
  simpa using this

theorem propagate_shape (inh : Nat) (o : SObj) (kids mem : List ST) :
    ∃ o1, propagate inh (.node o kids mem) = .node o1 (kids.map (propagate (orNs inh mem))) mem ∧ ident o = ident o1 :=
  ⟨_, propagate_node inh o kids mem, rfl⟩

theorem sim_propagate : ∀ (t : ST) (inh : Nat), Sim t (propagate inh t) := by
  apply ST.ind
  intro o kids mem ihk _ inh
  obtain ⟨o1, hp, hid⟩ := propagate_shape inh o kids mem
  rw [hp]
  have := Sim.node (a := o) (ka := kids) (ma := mem) (fk := propagate (orNs inh mem)) (fm := fun x => x) (b := o1)
    (kb := kids.map (propagate (orNs inh mem))) hid (fun k hk => ihk k hk _) (fun m _ => Sim.refl m) (List.Perm.refl _)
  simpa using this

theorem sim_fixupChild : ∀ (t : ST) (p : SObj), Sim t (fixupChild p t) := by
  apply ST.ind
  intro o kids mem ihk ihm p
  rw [fixupChild_node]
  refine Sim.node ?_ (fun k hk => ihk k hk _) (fun m hm => ihm m hm _) (reorderIfNeeded_perm _)
  have := fixChild_fields p o
  simp [ident, this.1, this.2.1, this.2.2.1]

theorem sim_fixupSets (t : ST) : Sim t (fixupSets t) := by
  cases t with
  | node o kids mem =>
    rw [fixupSets_node]
    exact Sim.node rfl (fun k _ => sim_fixupChild k o) (fun m _ => sim_fixupChild m o) (reorderIfNeeded_perm _)

theorem sim_mapObjs (g : SObj → SObj) (hg : ∀ o, ident o = ident (g o)) : ∀ t : ST, Sim t (mapObjs g t) := by
  apply ST.ind
  intro o kids mem ihk ihm
  rw [mapObjs_node]
  exact Sim.node (hg o) ihk ihm (List.Perm.refl _)

theorem sim_fixupRoot (t : ST) : Sim t (fixupRoot t) := by
  cases t with
  | node o kids mem =>
    have := Sim.node (a := o) (ka := kids) (ma := mem) (fk := fun x => x) (fm := fun x => x)
      (b := { o with cpuset := o.cpuset &&& o.ccpuset.getD 0, nodeset := o.nodeset &&& o.cnodeset.getD 0 })
      (kb := kids) rfl (fun k _ => Sim.refl k) (fun m _ => Sim.refl m) (by simp)
    simpa [fixupRoot] using this

theorem sim_stage (i : In) : Sim i.root (stage i).root := by
  have h := ((sim_fixupRoot i.root).trans (sim_propagate _ 0)).trans (sim_fixupSets _)
  unfold stage
  simp only
  split
  · exact h
  · rw [removeUnused_eq]
    exact h.trans (sim_mapObjs (shrinkObj _ _) (fun _ => rfl) _)

theorem stage_ids_perm (i : In) : (ids (-1) false (stage i).root).Perm (ids (-1) false i.root) := (sim_stage i).ids_perm _ _

end Hw.Topo.SetStage
