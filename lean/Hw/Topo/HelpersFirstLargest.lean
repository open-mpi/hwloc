/-
  Hw.Topo.HelpersFirstLargest — hwloc_get_first_largest_obj_inside_cpuset (helper.h 122-147) on a dump satisfying `Tree`:
  the object returned is a normal object of the topology whose cpuset is non-empty and INSIDE the given set.
  (Used by C20: the `--largest` loop of hwloc-calc.)
-/
import Hw.Topo.HelpersCover
namespace Hw.Topo

theorem intersects_comm' (a b : Nat) : intersects a b = intersects b a := by
  unfold intersects; rw [Nat.and_comm]

theorem Tree.firstLargestFrom_inside {d : Dump} (ht : Tree d) (S : Nat) :
    ∀ (f : Nat) (o : Obj), o ∈ d.objs → isNormal o.type = true → (d.depth : Int) ≤ o.depth + (f : Int) →
      intersects (cs o) S = true →
      firstLargestFrom d S f o ∈ d.objs ∧ isNormal (firstLargestFrom d S f o).type = true ∧
        subset (cs (firstLargestFrom d S f o)) S = true ∧ intersects (cs (firstLargestFrom d S f o)) S = true := by
  refine ht.down_ind _ fun f o ho hn ih hint => ?_
  rw [firstLargestFrom]
  by_cases hsub : subset (cs o) S = true
  · rw [if_pos hsub]; exact ⟨ho, hn, hsub, hint⟩
  rw [if_neg hsub, ht.childChain_eq ho]
  cases hfind : (childObjs d o).find? (fun c => intersects (cs c) S) with
  | some c =>
    have hc := List.mem_of_find?_eq_some hfind
    exact ih c hc (ht.child_facts ho hc).1 (ht.child_facts ho hc).2.1
      (List.find?_some (p := fun c => intersects (cs c) S) hfind)
  | none =>
    -- `o` is a PU inside `S`, or a bit of `o` in `S` lies in a child
    exfalso
    by_cases har : o.arity = 0
    · exact hsub (ht.leaf_subset ho hn har hint)
    · obtain ⟨i, hi1, hi2⟩ := (intersects_iff _ _).1 hint
      rw [((ht.union o ho).1 har).2.2] at hi1
      obtain ⟨c, hc, hci⟩ := (testBit_orAll_map _ _ _).1 hi1
      have := List.find?_eq_none.1 hfind c hc
      rw [(intersects_iff _ _).2 ⟨i, hci, hi2⟩] at this
      exact this rfl

theorem Tree.firstLargest_inside {d : Dump} (ht : Tree d) {S : Nat} {o : Obj} (h : firstLargest d S = some o) :
    o ∈ d.objs ∧ isNormal o.type = true ∧ subset (cs o) S = true ∧ intersects (cs o) S = true := by
  obtain ⟨r, hr, hrm, _, _, hrn, hrd⟩ := ht.rootObj
  unfold firstLargest at h
  rw [hr] at h
  by_cases hint : intersects (cs r) S = true
  · simp only [hint, Bool.not_true, Bool.false_eq_true, if_false, Option.some.injEq] at h
    have := ht.firstLargestFrom_inside S d.fuel r hrm hrn (ht.root_fuel hrd) hint
    rw [h] at this
    exact this
  · simp [hint] at h

theorem firstLargest_some {d : Dump} {S : Nat} {r : Obj} (hr : d.rootObj? = some r)
    (hint : intersects (cs r) S = true) : ∃ o, firstLargest d S = some o := by
  unfold firstLargest
  rw [hr]
  simp [hint]

end Hw.Topo
