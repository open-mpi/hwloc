/-
  Hw.Topo.RenderLemmas — the level clauses of `WF` for `render t` (each under the tree hypotheses its statement names: typing,
  a normal or Machine root, or none): the levels of the rendered dump, the position of an object in its level, and the clauses,
  each read off the facts about `normalLevels t` of RenderLevelLoop and the lookups of RenderLinks.  Every clause but
  level-entries-valid (`levelEntriesValid_iff`) is proved by its position in `objClauses` / `topClauses`: its text stands in
  Hw/Topo/WF.lean under that number.
-/
import Hw.Topo.RenderLinks
import Hw.Topo.RenderLevelLoop
namespace Hw.Topo.Restrict
open Hw.Topo

theorem render_depth_by_type (t : Tree) (ht : typedT t = true) (h : Hdr) (ex : RObj → Extra)
    (o : Obj) (ho : o ∈ (render t h ex).objs) :
    objClause "depth-by-type" (render t h ex) (mkAux (render t h ex)) o = true := by
  refine objClause_intro (k := 11) rfl ?_
  obtain ⟨oc, hoc, rfl⟩ := render_mem t h ex o ho
  simp only [rObj, ro_type, ro_depth]
  cases hs : specialDepth oc.t.obj.type with
  | some sd => rw [placeOf_special _ _ _ _ sd hs]; simp
  | none =>
    have hn : isNormal oc.t.obj.type = true := by
      cases hnn : isNormal oc.t.obj.type with
      | true => rfl
      | false =>
        obtain ⟨sd, h1, _⟩ := specialDepth_of_not_normal (typedT_facts _ (occ_typed t ht oc hoc)).2.2.2 hnn
        rw [hs] at h1; nomatch h1
    obtain ⟨k, hk, hid⟩ := normal_level_index t ht oc hoc hn
    rw [placeOf_listed t k hk _ _ hn hid]
    simp only [Bool.and_eq_true, decide_eq_true_eq]
    exact ⟨Int.natCast_nonneg k, by rw [Int.toNat_natCast]; exact hk⟩

/-! ### topology-level clauses -/

theorem render_nobjs (t : Tree) (h : Hdr) (ex : RObj → Extra) :
    topClause "nobjs" (render t h ex) (mkAux (render t h ex)) = true := by
  refine topClause_intro (k := 0) rfl ?_
  show (((occs t).map (rObj t ex)).length == (occs t).length && decide (0 < (occs t).length)) = true
  have : (occs t).length = sizeT t := occsT_length t 0 (-1) 0 (-1) (-1)
  have := sizeT_pos t
  simp; omega

def mkLevel (x : Nat × (Nat × List Nat)) : Level := ⟨(x.1 : Int), (x.2.1 : Int), x.2.2.map (fun (i : Nat) => (i : Int))⟩
def normalPart (t : Tree) : List Level := ((List.range (normalLevels t).length).zip (normalLevels t)).map mkLevel
def specialPart (t : Tree) : List Level :=
  specialTypes.map (fun ty => (⟨(specialDepth ty).getD 0, (ty : Int), (specialLevel (occs t) ty).map (fun (i : Nat) => (i : Int))⟩ : Level))

theorem render_levels (t : Tree) (h : Hdr) (ex : RObj → Extra) : (render t h ex).levels = normalPart t ++ specialPart t := rfl

theorem normalPart_get (t : Tree) (k : Nat) (hk : k < (normalLevels t).length) :
    (normalPart t)[k]? = some ⟨(k : Int), (((normalLevels t)[k]).1 : Int), ((normalLevels t)[k]).2.map (fun (i : Nat) => (i : Int))⟩ := by
  unfold normalPart
  rw [List.getElem?_map]
  have : ((List.range (normalLevels t).length).zip (normalLevels t))[k]? = some (k, (normalLevels t)[k]) := by
    rw [List.getElem?_zip_eq_some]
    exact ⟨List.getElem?_range hk, by simp [hk]⟩
  rw [this]; rfl

theorem normalPart_length (t : Tree) : (normalPart t).length = (normalLevels t).length := by
  unfold normalPart; simp

theorem specialPart_depths (t : Tree) : (specialPart t).map (·.depth) = [-3, -4, -5, -6, -7, -8] := by
  unfold specialPart; simp only [List.map_map]; rfl

theorem render_levels_listed (t : Tree) (h : Hdr) (ex : RObj → Extra) :
    topClause "levels-listed" (render t h ex) (mkAux (render t h ex)) = true := by
  refine topClause_intro (k := 6) rfl ?_
  simp only [Bool.and_eq_true, List.all_eq_true, List.mem_range, beq_iff_eq]
  refine ⟨⟨?_, ?_⟩, ?_⟩
  · intro k hk
    rw [render_depth] at hk
    unfold levelOf
    rw [List.find?_isSome, render_levels]
    refine ⟨_, List.mem_append_left _ (List.mem_of_getElem? (normalPart_get t k hk)), by simp⟩
  · intro k hk
    unfold levelOf
    rw [List.find?_isSome, render_levels]
    have : k ∈ (specialPart t).map (·.depth) := by rw [specialPart_depths]; exact hk
    obtain ⟨l, hl, e⟩ := List.mem_map.1 this
    exact ⟨l, List.mem_append_right _ hl, by simp [e]⟩
  · rw [render_levels, List.length_append, normalPart_length, render_depth]
    unfold specialPart specialTypes; simp

/-! ### looking a level up by depth -/

theorem find_depth_indexed (L : List Level) (hL : ∀ (i : Nat) (l : Level), L[i]? = some l → l.depth = (i : Int)) (k : Nat) (hk : k < L.length) :
    L.find? (fun l => l.depth == (k : Int)) = L[k]? := by
  rw [List.getElem?_eq_getElem hk, List.find?_eq_some_iff_getElem]
  refine ⟨?_, k, hk, rfl, ?_⟩
  · simp [hL k L[k] (List.getElem?_eq_getElem hk)]
  · intro j hj
    have := hL j L[j] (List.getElem?_eq_getElem (by omega))
    simp [this]; omega

theorem normalPart_depth (t : Tree) (i : Nat) (l : Level) (h : (normalPart t)[i]? = some l) : l.depth = (i : Int) := by
  have hi : i < (normalLevels t).length := by rw [← normalPart_length]; exact getElem?_lt h
  rw [normalPart_get t i hi] at h
  simp only [Option.some.injEq] at h
  rw [← h]

theorem levelOf_normal (t : Tree) (h : Hdr) (ex : RObj → Extra) (k : Nat) (hk : k < (normalLevels t).length) :
    levelOf (render t h ex) (k : Int) =
      some ⟨(k : Int), (((normalLevels t)[k]).1 : Int), ((normalLevels t)[k]).2.map (fun (i : Nat) => (i : Int))⟩ := by
  unfold levelOf
  rw [render_levels, List.find?_append, find_depth_indexed _ (normalPart_depth t) k (by rw [normalPart_length]; exact hk),
    normalPart_get t k hk]
  rfl

theorem normalPart_find_neg (t : Tree) (sd : Int) (hsd : sd < 0) : (normalPart t).find? (fun l => l.depth == sd) = none := by
  rw [List.find?_eq_none]
  intro l hl
  obtain ⟨i, hi⟩ := List.getElem?_of_mem hl
  have := normalPart_depth t i l hi
  simp; omega

theorem specialTypes_depth (ty : Nat) (hty : ty ∈ specialTypes) :
    specialDepth ty = some ((specialDepth ty).getD 0) ∧ (specialDepth ty).getD 0 < 0 := by
  simp only [specialTypes, List.mem_cons, List.mem_nil_iff, or_false] at hty
  rcases hty with rfl | rfl | rfl | rfl | rfl | rfl <;> decide

theorem levelOf_special (t : Tree) (h : Hdr) (ex : RObj → Extra) (ty : Nat) (hty : ty ∈ specialTypes) :
    levelOf (render t h ex) ((specialDepth ty).getD 0) =
      some ⟨(specialDepth ty).getD 0, (ty : Int), (specialLevel (occs t) ty).map (fun (i : Nat) => (i : Int))⟩ := by
  unfold levelOf
  rw [render_levels, List.find?_append, normalPart_find_neg t _ (specialTypes_depth ty hty).2]
  simp only [Option.none_or]
  simp only [specialTypes, List.mem_cons, List.mem_nil_iff, or_false] at hty
  rcases hty with rfl | rfl | rfl | rfl | rfl | rfl <;> rfl

theorem special_type_cases (ty : Nat) (hlt : ty < 20) (hn : isNormal ty = false) :
    ty ∈ specialTypes ∧ specialDepth ty = some ((specialDepth ty).getD 0) := by
  have := (isNormal_false_iff _).1 hn
  have h : ty = 14 ∨ ty = 15 ∨ ty = 16 ∨ ty = 17 ∨ ty = 18 ∨ ty = 19 := by omega
  rcases h with rfl | rfl | rfl | rfl | rfl | rfl <;> decide

theorem render_level_cases (t : Tree) (h : Hdr) (ex : RObj → Extra) (l : Level) (hl : l ∈ (render t h ex).levels) :
    (∃ k, ∃ hk : k < (normalLevels t).length,
      l = ⟨(k : Int), (((normalLevels t)[k]).1 : Int), ((normalLevels t)[k]).2.map (fun (i : Nat) => (i : Int))⟩) ∨
    ∃ ty ∈ specialTypes,
      l = ⟨(specialDepth ty).getD 0, (ty : Int), (specialLevel (occs t) ty).map (fun (i : Nat) => (i : Int))⟩ := by
  rw [render_levels] at hl
  rcases List.mem_append.1 hl with hl | hl
  · obtain ⟨k, hk⟩ := List.getElem?_of_mem hl
    have hklt : k < (normalLevels t).length := by rw [← normalPart_length]; exact getElem?_lt hk
    rw [normalPart_get t k hklt] at hk
    exact Or.inl ⟨k, hklt, (Option.some.inj hk).symm⟩
  · obtain ⟨ty, hty, rfl⟩ := List.mem_map.1 hl
    exact Or.inr ⟨ty, hty, rfl⟩

/-! ### position in a level -/

theorem idxOf_get (l : List Nat) (x : Nat) (hx : x ∈ l) : l[idxOf l x]? = some x := by
  unfold idxOf
  cases hf : l.findIdx? (· == x) with
  | none => exact absurd (List.findIdx?_eq_none_iff.1 hf x hx) (by simp)
  | some i =>
    obtain ⟨hi, hp, _⟩ := List.findIdx?_eq_some_iff_getElem.1 hf
    rw [Option.getD_some, List.getElem?_eq_getElem hi]
    simpa using hp

theorem idxOf_of_nodup (l : List Nat) (hl : l.Nodup) (i : Nat) (x : Nat) (hi : l[i]? = some x) : idxOf l x = i := by
  obtain ⟨h, rfl⟩ := List.getElem?_eq_some_iff.1 hi
  unfold idxOf
  rw [List.findIdx?_eq_some_iff_getElem.2 ⟨h, by simp, fun j hj hp => ?_⟩]; rfl
  exact (List.pairwise_iff_getElem.1 hl) j i (by omega) h hj (by simpa using hp)

theorem render_in_its_level (t : Tree) (ht : typedT t = true) (h : Hdr) (ex : RObj → Extra)
    (o : Obj) (ho : o ∈ (render t h ex).objs) :
    objClause "in-its-level" (render t h ex) (mkAux (render t h ex)) o = true := by
  refine objClause_intro (k := 13) rfl ?_
  obtain ⟨oc, hoc, rfl⟩ := render_mem t h ex o ho
  obtain ⟨sd, m, hplace, hlev, hm⟩ : ∃ sd m, placeOf (normalLevels t) (occs t) oc.id oc.t.obj.type = (sd, m) ∧
      levelOf (render t h ex) sd = some ⟨sd, (oc.t.obj.type : Int), m.map (fun (i : Nat) => (i : Int))⟩ ∧ oc.id ∈ m := by
    cases hn : isNormal oc.t.obj.type with
    | false =>
      obtain ⟨hmem, hsd⟩ := special_type_cases _ (typedT_facts oc.t (occ_typed t ht oc hoc)).2.2.2 hn
      exact ⟨_, _, placeOf_special _ _ _ _ _ hsd, levelOf_special t h ex _ hmem,
        List.mem_map.2 ⟨oc, List.mem_filter.2 ⟨hoc, by simp⟩, rfl⟩⟩
    | true =>
      obtain ⟨k, hk, hid⟩ := normal_level_index t ht oc hoc hn
      exact ⟨_, _, placeOf_listed t k hk _ _ hn hid, by rw [levelOf_normal t h ex k hk, level_type_eq t ht oc hoc k hk hid], hid⟩
  simp only [rObj, ro_depth, ro_id, ro_type, ro_lidx, ro_nextCousin, ro_prevCousin, hplace, hlev, List.getElem?_map,
    idxOf_get m _ hm, Option.map_some, beq_self_eq_true, Bool.true_and]

/-! ### level-entries-valid -/

theorem specialLevel_increasing (t : Tree) (ty : Nat) : (specialLevel (occs t) ty).Pairwise (· < ·) := by
  unfold specialLevel
  have h : ((occs t).map (·.id)).Pairwise (· < ·) := by
    rw [occs, occs_map_id.1]; exact List.pairwise_lt_range' 1
  exact h.sublist (List.filter_sublist.map _)

/-- what level-entries-valid asks of one level given as (depth, members) -/
theorem entries_core (t : Tree) (h : Hdr) (ex : RObj → Extra) (dep : Int) (m : List Nat) (hm : m.Nodup)
    (hplace : ∀ id ∈ m, ∃ oc ∈ occs t, oc.id = id ∧ placeOf (normalLevels t) (occs t) id oc.t.obj.type = (dep, m))
    (i : Nat) (e : Int) (he : (m.map (fun (i : Nat) => (i : Int)))[i]? = some e) :
    ∃ o, (render t h ex).obj? e = some o ∧ o.lidx = i ∧ o.depth = dep := by
  rw [List.getElem?_map] at he
  obtain ⟨id, hid, rfl⟩ := Option.map_eq_some_iff.1 he
  obtain ⟨oc, hoc, hocid, hp⟩ := hplace id (List.mem_of_getElem? hid)
  refine ⟨rObj t ex oc, ?_, ?_, ?_⟩
  · rw [render_obj?_nat, ← hocid, occs_get_of_mem t oc hoc]; rfl
  · rw [rObj, ro_lidx, hocid, hp]; exact idxOf_of_nodup m hm i id hid
  · rw [rObj, ro_depth, hocid, hp]

theorem render_level_entries_valid (t : Tree) (ht : typedT t = true) (hr : isNormal t.obj.type = true) (h : Hdr)
    (ex : RObj → Extra) : topClause "level-entries-valid" (render t h ex) (mkAux (render t h ex)) = true := by
  refine (levelEntriesValid_iff _ _).2 fun l hl => ?_
  rcases render_level_cases t h ex l hl with ⟨k, hklt, rfl⟩ | ⟨ty, hty, rfl⟩
  · exact entries_core t h ex (k : Int) ((normalLevels t)[k]).2 (level_nodup t k hklt)
      (fun id hid => (level_member t ht hr k hklt id hid).imp fun oc ho => ⟨ho.1, ho.2.1, ho.2.2.2.2⟩)
  · exact entries_core t h ex ((specialDepth ty).getD 0) (specialLevel (occs t) ty)
      ((specialLevel_increasing t ty).imp Nat.ne_of_lt)
      (fun id hid => by
        unfold specialLevel at hid
        obtain ⟨oc, hoc, e⟩ := List.mem_map.1 hid
        have hf := List.mem_filter.1 hoc
        have hty' : oc.t.obj.type = ty := by simpa using hf.2
        refine ⟨oc, hf.1, e, ?_⟩
        rw [hty']; exact placeOf_special _ _ _ _ _ (specialTypes_depth ty hty).1)

/-! ### levels-in-tree-order -/

theorem increasing_of_pairwise (m : List Nat) (h : m.Pairwise (· < ·)) : increasing (m.map (fun (i : Nat) => (i : Int))) = true :=
  (increasing_iff _).2 (List.pairwise_map.2 (h.imp Int.ofNat_lt.2))

theorem render_levels_in_tree_order (t : Tree) (h : Hdr) (ex : RObj → Extra) :
    topClause "levels-in-tree-order" (render t h ex) (mkAux (render t h ex)) = true := by
  refine topClause_intro (k := 17) rfl ?_
  simp only [List.all_eq_true]
  intro l hl
  rcases render_level_cases t h ex l hl with ⟨k, hklt, rfl⟩ | ⟨ty, _, rfl⟩
  · exact increasing_of_pairwise _ (normalLevels_increasing t k hklt)
  · exact increasing_of_pairwise _ (specialLevel_increasing t ty)

/-! ### depth-increases -/

theorem render_depth_increases (t : Tree) (ht : typedT t = true) (h : Hdr) (ex : RObj → Extra)
    (o : Obj) (ho : o ∈ (render t h ex).objs) :
    objClause "depth-increases" (render t h ex) (mkAux (render t h ex)) o = true := by
  refine objClause_intro (k := 12) rfl ?_
  rcases render_obj_cases t ht h ex o ho with ⟨rfl, hpar⟩ | ⟨poc, hp, q, hq, j, c, hj, rfl, hpar, hk⟩
  · simp only [hpar]
  · simp only [hpar]
    simp only [rObj, ro_type, ro_depth, sibRecAt]
    rcases kkind_cases q hq _ hk with ⟨rfl, hN⟩ | ⟨rfl, hN, _⟩ | ⟨rfl, hN, _⟩ | ⟨rfl, hN, _⟩
    · simp only [hN, if_true, decide_eq_true_eq]
      simp only [kids, kstart] at hj ⊢
      -- the parent has a normal child, so it is a normal object, listed in some level kp; the child in a later level kc
      have hPN := (typedT_parent poc.t (occ_typed t ht poc hp)).1 (List.ne_nil_of_mem (List.mem_of_getElem? hj))
      obtain ⟨kp, hkp, hpid⟩ := normal_level_index t ht poc hp hPN
      obtain ⟨kc, hkc, hlt, hcid⟩ := normalLevels_child t poc hp j c hj kp hkp hpid
      rw [placeOf_listed t kp hkp _ _ hPN hpid, placeOf_listed t kc hkc _ _ hN hcid]
      exact Int.ofNat_lt.2 hlt
    all_goals simp only [hN, Bool.false_eq_true, if_false]

/-! ### level0-is-root, normal-levels-nonempty, depth-le-objects -/

theorem render_normal_levels_nonempty (t : Tree) (h : Hdr) (ex : RObj → Extra) :
    topClause "normal-levels-nonempty" (render t h ex) (mkAux (render t h ex)) = true := by
  refine topClause_intro (k := 15) rfl ?_
  simp only [List.all_eq_true]
  intro l hl
  rcases render_level_cases t h ex l hl with ⟨k, hklt, rfl⟩ | ⟨ty, hty, rfl⟩
  · simpa using Or.inr (level_nonempty t k hklt)
  · simp [(specialTypes_depth ty hty).2]

theorem render_level0_is_root (t : Tree) (hm : t.obj.type = tMACHINE) (h : Hdr) (ex : RObj → Extra) :
    topClause "level0-is-root" (render t h ex) (mkAux (render t h ex)) = true := by
  refine topClause_intro (k := 3) rfl ?_
  obtain ⟨h0, e⟩ := normalLevels_zero t
  have hl := levelOf_normal t h ex 0 h0
  rw [e, hm, Int.natCast_zero] at hl
  simp only [hl, List.map_cons, List.map_nil, Int.natCast_zero, beq_self_eq_true, Bool.and_self]

theorem render_depth_le_objects (t : Tree) (h : Hdr) (ex : RObj → Extra) :
    topClause "depth-le-objects" (render t h ex) (mkAux (render t h ex)) = true := by
  refine topClause_intro (k := 16) rfl ?_
  simp only [decide_eq_true_eq]
  show (normalLevels t).length ≤ ((occs t).map (rObj t ex)).length
  rw [List.length_map]
  exact normalLevels_length_le t

end Hw.Topo.Restrict
