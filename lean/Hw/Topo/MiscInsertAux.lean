/-
  Hw.Topo.MiscInsertAux — the per-object aggregates `mkAux` after hwloc_topology_insert_misc_object (dump-level model):
  every aggregate list gets one neutral entry at the insertion point, and the parent counts one more Misc child.
-/
import Hw.Topo.MiscInsertBase
import Hw.Topo.AuxInh
import Hw.Topo.AuxBelow
namespace Hw.Topo.MiscIns
open Hw.Topo Hw.Topo.Hist

/-! ### `mkAux` as three folds (steps `auxStep`, `inhStep`, `belowStep` of Hw.Topo.AuxFold, Hw.Topo.AuxInh, Hw.Topo.AuxBelow) -/

theorem mkAux_eq (d : Dump) : mkAux d =
    let n := d.objs.length
    let a := d.objs.foldl auxStep (aux0 n)
    let inh := d.objs.foldl (inhStep a.memOr) (List.replicate n 0)
    let bb := d.objs.foldr (belowStep a.memOr) (List.replicate n 0, List.replicate n true)
    { a with inh := inh, below := bb.1, belowDisj := bb.2 } := rfl

/-! ### list facts -/

theorem insAt_set {α : Type} (X : List α) (pos : Nat) (v w : α) (i : Nat) (hp : pos ≤ X.length) :
    (insAt X pos v).set (shN pos i) w = insAt (X.set i w) pos v :=
  match pos, X, i, hp with
  | 0, _, _, _ => rfl
  | _ + 1, _ :: _, 0, _ => rfl
  | pos + 1, a :: X, i + 1, hp => by
    rw [shN_succ_succ]; exact congrArg (a :: ·) (insAt_set X pos v w i (Nat.le_of_succ_le_succ hp))

theorem getN_insAt (X : List Nat) (pos i : Nat) (hp : pos ≤ X.length) : getN (insAt X pos 0) (shN pos i) = getN X i := by
  unfold getN; rw [insAt_get_sh _ _ _ hp]
theorem getB_insAt (X : List Bool) (pos i : Nat) (hp : pos ≤ X.length) : getB (insAt X pos true) (shN pos i) = getB X i := by
  unfold getB; rw [insAt_get_sh _ _ _ hp]
theorem getN_insAt_pos (X : List Nat) (pos : Nat) (hp : pos ≤ X.length) : getN (insAt X pos 0) pos = 0 := by
  unfold getN; rw [insAt_get_pos _ _ _ hp]; rfl
theorem getB_insAt_pos (X : List Bool) (pos : Nat) (hp : pos ≤ X.length) : getB (insAt X pos true) pos = true := by
  unfold getB; rw [insAt_get_pos _ _ _ hp]; rfl

theorem insAt_replicate {α : Type} (n pos : Nat) (v : α) (hp : pos ≤ n) : insAt (List.replicate n v) pos v = List.replicate (n + 1) v :=
  match pos, n, hp with
  | 0, _, _ => rfl
  | pos + 1, n + 1, hp => congrArg (v :: ·) (insAt_replicate n pos v (Nat.le_of_succ_le_succ hp))

theorem orInto_insAt (X : List Nat) (Y : List Bool) (pos q s : Nat) (hx : pos ≤ X.length) (hy : pos ≤ Y.length) :
    orInto (insAt X pos 0, insAt Y pos true) (shN pos q) s =
      (insAt (orInto (X, Y) q s).1 pos 0, insAt (orInto (X, Y) q s).2 pos true) := by
  rw [orInto_eq, orInto_eq]
  simp only [getN_insAt X pos q hx, getB_insAt Y pos q hy, insAt_set X pos 0 _ q hx, insAt_set Y pos true _ q hy]

/-! ### the first fold -/

def insAux (pos : Nat) (a : Aux) : Aux :=
  ⟨insAt a.cpuOr pos 0, insAt a.cpuDisj pos true, insAt a.memOr pos 0, insAt a.memDisj pos true, insAt a.totSum pos 0,
   insAt a.nNormal pos 0, insAt a.nMemory pos 0, insAt a.nIO pos 0, insAt a.nMisc pos 0, insAt a.inh pos 0, insAt a.below pos 0,
   insAt a.belowDisj pos true⟩

theorem insAux_aux0 (n pos : Nat) (hp : pos ≤ n) : insAux pos (aux0 n) = aux0 (n + 1) := by
  simp only [insAux, aux0, insAt_replicate _ _ _ hp]

/-! ### folds over the objects after the call -/

/-- A fold over the objects after the call (`l` mapped by `g`, with `x` inserted) against the fold over `l`: when, on states
satisfying `I`, a step on the image `ins a` of a state for `g o` is the image of the step for `o`, the step for `x` is the image
of `b`, and `b` commutes with the steps. -/
theorem foldl_insAt_sim {α γ β : Type} (f : α → β → α) (f' : γ → β → γ) (ins : α → γ) (b : α → α) (g : β → β) (x : β)
    (I : α → Prop) (hI : ∀ a o, I a → I (f a o)) (hIb : ∀ a, I a → I (b a))
    (hs : ∀ a o, I a → f' (ins a) (g o) = ins (f a o)) (hx : ∀ a, I a → f' (ins a) x = ins (b a))
    (hb : ∀ a o, f (b a) o = b (f a o)) (l : List β) (pos : Nat) (a : α) (ha : I a) :
    (insAt (l.map g) pos x).foldl f' (ins a) = ins (b (l.foldl f a)) := by
  have sim : ∀ (l : List β) (a : α), I a → (l.map g).foldl f' (ins a) = ins (l.foldl f a) ∧ I (l.foldl f a) := by
    intro l
    induction l with
    | nil => exact fun a ha => ⟨rfl, ha⟩
    | cons o l ih =>
      intro a ha
      rw [List.map_cons, List.foldl_cons, hs a o ha]
      exact ih _ (hI a o ha)
  obtain ⟨e1, i1⟩ := sim (l.take pos) a ha
  unfold insAt
  rw [← List.map_take, ← List.map_drop, List.foldl_append, List.foldl_cons, e1, hx _ i1, (sim (l.drop pos) _ (hIb _ i1)).1, List.foldl_hom b hb,
    ← List.foldl_append, List.take_append_drop]

theorem foldr_insAt_sim {α γ β : Type} (f : β → α → α) (f' : β → γ → γ) (ins : α → γ) (g : β → β) (x : β)
    (I : α → Prop) (hI : ∀ o a, I a → I (f o a)) (hs : ∀ o a, I a → f' (g o) (ins a) = ins (f o a)) (hx : ∀ c, f' x c = c)
    (l : List β) (pos : Nat) (a : α) (ha : I a) : (insAt (l.map g) pos x).foldr f' (ins a) = ins (l.foldr f a) := by
  have sim : ∀ (l : List β) (a : α), I a → (l.map g).foldr f' (ins a) = ins (l.foldr f a) ∧ I (l.foldr f a) := by
    intro l a ha
    induction l with
    | nil => exact ⟨rfl, ha⟩
    | cons o l ih => rw [List.map_cons, List.foldr_cons, ih.1, hs o _ ih.2]; exact ⟨rfl, hI o _ ih.2⟩
  obtain ⟨e1, i1⟩ := sim (l.drop pos) a ha
  unfold insAt
  rw [← List.map_take, ← List.map_drop, List.foldr_append, List.foldr_cons, e1, hx, (sim (l.take pos) _ i1).1, ← List.foldr_append,
    List.take_append_drop]

theorem cellOf_insAux (n pos p : Nat) (a : Aux) (hl : Sized n a) (hp : pos ≤ n) :
    cellOf (insAux pos a) (shN pos p) = cellOf a p := by
  obtain ⟨l1, l2, l3, l4, l5, l6, l7, l8, l9⟩ := hl
  simp only [cellOf, insAux, getN_insAt _ pos _ (l1 ▸ hp), getB_insAt _ pos _ (l2 ▸ hp), getN_insAt _ pos _ (l3 ▸ hp),
    getB_insAt _ pos _ (l4 ▸ hp), getN_insAt _ pos _ (l5 ▸ hp), getN_insAt _ pos _ (l6 ▸ hp), getN_insAt _ pos _ (l7 ▸ hp),
    getN_insAt _ pos _ (l8 ▸ hp), getN_insAt _ pos _ (l9 ▸ hp)]

theorem setCell_insAux (n pos p : Nat) (a : Aux) (c : Cell) (hl : Sized n a) (hp : pos ≤ n) :
    setCell (insAux pos a) (shN pos p) c = insAux pos (setCell a p c) := by
  obtain ⟨l1, l2, l3, l4, l5, l6, l7, l8, l9⟩ := hl
  simp only [setCell, insAux, insAt_set _ pos _ _ _ (l1 ▸ hp), insAt_set _ pos _ _ _ (l2 ▸ hp),
    insAt_set _ pos _ _ _ (l3 ▸ hp), insAt_set _ pos _ _ _ (l4 ▸ hp), insAt_set _ pos _ _ _ (l5 ▸ hp),
    insAt_set _ pos _ _ _ (l6 ▸ hp), insAt_set _ pos _ _ _ (l7 ▸ hp), insAt_set _ pos _ _ _ (l8 ▸ hp),
    insAt_set _ pos _ _ _ (l9 ▸ hp)]

theorem step_sim (n pos : Nat) (a : Aux) (o o' : Obj) (hl : Sized n a) (hp : pos ≤ n)
    (e1 : o'.parent = shI pos o.parent) (e2 : o'.type = o.type) (e3 : o'.totalMem = o.totalMem)
    (e4 : o'.cpuset = o.cpuset) (e5 : o'.nodeset = o.nodeset) :
    auxStep (insAux pos a) o' = insAux pos (auxStep a o) := by
  rw [auxStep_eq, auxStep_eq a o]
  by_cases hneg : o.parent < 0
  · rw [if_pos hneg, if_pos (by rw [e1, shI_neg pos _ hneg]; exact hneg)]
  · have ec : ∀ c, cellStep c o' = cellStep c o := fun c => by unfold cellStep; rw [e2, e3, e4, e5]
    rw [if_neg hneg, if_neg (by have := shI_nonneg pos o.parent; omega), e1, shI_toNat pos _ (by omega),
      cellOf_insAux n pos _ a hl hp, ec, setCell_insAux n pos _ a _ hl hp]

def bumpMisc (p : Nat) (a : Aux) : Aux := { a with nMisc := a.nMisc.set p (getN a.nMisc p + 1) }

theorem bumpMisc_sized (n p : Nat) (a : Aux) (hl : Sized n a) : Sized n (bumpMisc p a) := by
  obtain ⟨l1, l2, l3, l4, l5, l6, l7, l8, l9⟩ := hl
  exact ⟨l1, l2, l3, l4, l5, l6, l7, l8, by simp [bumpMisc, l9]⟩

theorem getN_set_ne (X : List Nat) (i j v : Nat) (hne : i ≠ j) : getN (X.set i v) j = getN X j := by
  unfold getN; rw [List.getElem?_set_ne hne]
theorem getN_set_self (X : List Nat) (i v : Nat) (h : i < X.length) : getN (X.set i v) i = v := by
  unfold getN; rw [List.getElem?_set_self h]; rfl

theorem bump_comm (p : Nat) (a : Aux) (o : Obj) : auxStep (bumpMisc p a) o = bumpMisc p (auxStep a o) := by
  unfold auxStep
  by_cases hneg : o.parent < 0
  · simp only [hneg, if_true]
  · simp only [hneg, if_false]
    by_cases hN : isNormal o.type = true
    · simp only [hN, if_true]; rfl
    · have hN' : isNormal o.type = false := by simpa using hN
      by_cases hM : isMemory o.type = true
      · simp only [hN', hM, if_true, if_false, Bool.false_eq_true]; rfl
      · have hM' : isMemory o.type = false := by simpa using hM
        by_cases hI : isIO o.type = true
        · simp only [hN', hM', hI, if_true, if_false, Bool.false_eq_true]; rfl
        · have hI' : isIO o.type = false := by simpa using hI
          simp only [hN', hM', hI', if_false, Bool.false_eq_true, bumpMisc]
          by_cases hq : o.parent.toNat = p
          · rw [hq]
          · have hq' : p ≠ o.parent.toNat := fun e => hq e.symm
            rw [getN_set_ne _ _ _ _ hq', getN_set_ne _ _ _ _ hq, List.set_comm _ _ hq']

theorem step_new (n pos p : Nat) (a : Aux) (o' : Obj) (hl : Sized n a) (hpos : pos ≤ n) (hp : p < pos)
    (e1 : o'.parent = (p : Int)) (e2 : o'.type = tMISC) :
    auxStep (insAux pos a) o' = insAux pos (bumpMisc p a) := by
  unfold auxStep
  rw [e1, e2]
  have h0 : ¬ ((p : Int) < 0) := by omega
  have hN : isNormal tMISC = false := by decide
  have hM : isMemory tMISC = false := by decide
  have hI : isIO tMISC = false := by decide
  have ep : (p : Int).toNat = shN pos p := by rw [shN_of_lt pos p hp]; omega
  simp only [h0, if_false, hN, hM, hI, Bool.false_eq_true, Bool.or_self, ep, insAux, bumpMisc,
    getN_insAt _ pos _ (hl.h9 ▸ hpos), insAt_set _ pos _ _ _ (hl.h9 ▸ hpos)]

/-! ### the inherited-nodes fold and the nodes-below fold -/

theorem inh_sim (pos : Nat) (M I : List Nat) (o o' : Obj) (hM : pos ≤ M.length) (hI : pos ≤ I.length)
    (e1 : o'.parent = shI pos o.parent) (e2 : o'.type = o.type) (e3 : o'.id = shN pos o.id) :
    inhStep (insAt M pos 0) (insAt I pos 0) o' = insAt (inhStep M I o) pos 0 := by
  unfold inhStep
  rw [e1, e2, e3]
  have e0 : decide (0 ≤ shI pos o.parent) = decide (0 ≤ o.parent) := by
    have := shI_nonneg pos o.parent
    by_cases h : 0 ≤ o.parent
    · simp [h, this.2 h]
    · have h' : ¬ 0 ≤ shI pos o.parent := fun x => h (this.1 x)
      simp [h, h']
  rw [e0]
  by_cases hc : (isNormal o.type && decide (0 ≤ o.parent)) = true
  · have hge : 0 ≤ o.parent := by simp only [Bool.and_eq_true, decide_eq_true_eq] at hc; exact hc.2
    simp only [hc, if_true, shI_toNat pos _ hge, getN_insAt _ pos _ hM, getN_insAt _ pos _ hI, insAt_set _ pos _ _ _ hI]
  · simp only [hc, Bool.false_eq_true, if_false]

theorem below_sim (pos : Nat) (M A : List Nat) (B : List Bool) (o o' : Obj) (hM : pos ≤ M.length) (hA : pos ≤ A.length)
    (hB : pos ≤ B.length) (e1 : o'.parent = shI pos o.parent) (e2 : o'.type = o.type) (e3 : o'.id = shN pos o.id) :
    belowStep (insAt M pos 0) o' (insAt A pos 0, insAt B pos true) =
      (insAt (belowStep M o (A, B)).1 pos 0, insAt (belowStep M o (A, B)).2 pos true) := by
  unfold belowStep
  rw [e1, e2, e3]
  by_cases hN : isNormal o.type = true
  · simp only [hN, if_true, getN_insAt _ pos _ hM, orInto_insAt A B pos _ _ hA hB]
    have hA' : pos ≤ (orInto (A, B) o.id (getN M o.id)).1.length := by rw [(orInto_length _ _ _).1]; exact hA
    have hB' : pos ≤ (orInto (A, B) o.id (getN M o.id)).2.length := by rw [(orInto_length _ _ _).2]; exact hB
    by_cases hge : 0 ≤ o.parent
    · have hge' : 0 ≤ shI pos o.parent := (shI_nonneg pos _).2 hge
      simp only [hge, hge', if_true, shI_toNat pos _ hge, getN_insAt _ pos _ hA']
      exact orInto_insAt _ _ pos _ _ hA' hB'
    · have hge' : ¬ 0 ≤ shI pos o.parent := fun x => hge ((shI_nonneg pos _).1 x)
      simp only [hge, hge', if_false]
  · simp only [hN, Bool.false_eq_true, if_false]

section
variable (d : Dump) (p pos k : Nat) (name : Option String) (skip : Nat)

theorem mkAux_after (hp : p < pos) (hpos : pos ≤ d.objs.length) :
    mkAux (after d p pos k name skip) =
      { insAux pos (mkAux d) with nMisc := insAt ((mkAux d).nMisc.set p (getN (mkAux d).nMisc p + 1)) pos 0 } := by
  have hN : isNormal (NEW).type = false := rfl
  rw [mkAux_eq, mkAux_eq d]
  simp only [after_length]
  have l1 : Sized _ (d.objs.foldl auxStep (aux0 d.objs.length)) := auxFold_sized d
  have f1 : (DN).objs.foldl auxStep (aux0 (d.objs.length + 1)) =
      insAux pos (bumpMisc p (d.objs.foldl auxStep (aux0 d.objs.length))) := by
    rw [← insAux_aux0 _ pos hpos]
    exact foldl_insAt_sim auxStep auxStep (insAux pos) (bumpMisc p) U NEW
      (Sized d.objs.length) (auxStep_sized _) (bumpMisc_sized _ p)
      (fun a o hl => step_sim _ pos a o _ hl hpos rfl rfl rfl rfl rfl) (fun a hl => step_new _ pos p a _ hl hpos hp rfl rfl)
      (bump_comm p) d.objs pos _ (aux0_sized _)
  rw [f1]
  generalize List.foldl auxStep (aux0 d.objs.length) d.objs = A at l1 ⊢
  have hM : pos ≤ A.memOr.length := l1.h3 ▸ hpos
  have eM : (insAux pos (bumpMisc p A)).memOr = insAt A.memOr pos 0 := rfl
  rw [eM]
  have hinh : (DN).objs.foldl (inhStep (insAt A.memOr pos 0)) (List.replicate (d.objs.length + 1) 0) =
      insAt (d.objs.foldl (inhStep A.memOr) (List.replicate d.objs.length 0)) pos 0 := by
    rw [← insAt_replicate _ pos 0 hpos]
    exact foldl_insAt_sim (inhStep A.memOr) _ (insAt · pos 0) id U NEW
      (fun I => I.length = d.objs.length)
      (fun I o hI => (inhStep_length _ I o).trans hI) (fun _ hI => hI)
      (fun I o hI => inh_sim pos A.memOr I o _ hM (hI ▸ hpos) rfl rfl rfl)
      (fun I _ => by unfold inhStep; rw [hN]; rfl) (fun _ _ => rfl) d.objs pos _ (List.length_replicate ..)
  have hbel : (DN).objs.foldr (belowStep (insAt A.memOr pos 0))
        (List.replicate (d.objs.length + 1) 0, List.replicate (d.objs.length + 1) true) =
      (insAt (d.objs.foldr (belowStep A.memOr) (List.replicate d.objs.length 0, List.replicate d.objs.length true)).1 pos 0,
       insAt (d.objs.foldr (belowStep A.memOr) (List.replicate d.objs.length 0, List.replicate d.objs.length true)).2 pos true) := by
    rw [← insAt_replicate _ pos 0 hpos, ← insAt_replicate _ pos true hpos]
    exact foldr_insAt_sim (belowStep A.memOr) _ (fun acc => (insAt acc.1 pos 0, insAt acc.2 pos true)) U
      NEW
      (fun acc => acc.1.length = d.objs.length ∧ acc.2.length = d.objs.length)
      (fun o acc hI => ⟨(belowStep_len _ o acc).1.trans hI.1, (belowStep_len _ o acc).2.trans hI.2⟩)
      (fun o acc hI => below_sim pos A.memOr acc.1 acc.2 o _ hM (hI.1 ▸ hpos) (hI.2 ▸ hpos) rfl rfl rfl)
      (fun c => by unfold belowStep; rw [hN]; rfl) d.objs pos (List.replicate d.objs.length 0, List.replicate d.objs.length true)
      ⟨List.length_replicate .., List.length_replicate ..⟩
  rw [hinh, hbel]
  rfl

theorem aux_lens (d : Dump) : (mkAux d).cpuOr.length = d.objs.length ∧ (mkAux d).cpuDisj.length = d.objs.length ∧
    (mkAux d).memOr.length = d.objs.length ∧ (mkAux d).memDisj.length = d.objs.length ∧ (mkAux d).totSum.length = d.objs.length ∧
    (mkAux d).nNormal.length = d.objs.length ∧ (mkAux d).nMemory.length = d.objs.length ∧ (mkAux d).nIO.length = d.objs.length ∧
    (mkAux d).nMisc.length = d.objs.length ∧ (mkAux d).inh.length = d.objs.length ∧ (mkAux d).below.length = d.objs.length ∧
    (mkAux d).belowDisj.length = d.objs.length := by
  rw [mkAux_eq]
  have hl := auxFold_sized d
  have hb := belowFoldr_len (d.objs.foldl auxStep (aux0 d.objs.length)).memOr d.objs.length d.objs
  exact ⟨hl.h1, hl.h2, hl.h3, hl.h4, hl.h5, hl.h6, hl.h7, hl.h8, hl.h9,
    (inhFoldl_length _ d.objs _).trans (List.length_replicate ..), hb.1, hb.2⟩

structure SameRow (a a' : Aux) (i i' : Nat) : Prop where
  cpuOr : getN a'.cpuOr i' = getN a.cpuOr i
  cpuDisj : getB a'.cpuDisj i' = getB a.cpuDisj i
  memOr : getN a'.memOr i' = getN a.memOr i
  memDisj : getB a'.memDisj i' = getB a.memDisj i
  totSum : getN a'.totSum i' = getN a.totSum i
  nNormal : getN a'.nNormal i' = getN a.nNormal i
  nMemory : getN a'.nMemory i' = getN a.nMemory i
  nIO : getN a'.nIO i' = getN a.nIO i
  inh : getN a'.inh i' = getN a.inh i
  below : getN a'.below i' = getN a.below i
  belowDisj : getB a'.belowDisj i' = getB a.belowDisj i

theorem mkAux_after_sh (hp : p < pos) (hpos : pos ≤ d.objs.length) (i : Nat) :
    SameRow (mkAux d) (mkAux DN) i (shN pos i) ∧
    getN (mkAux DN).nMisc (shN pos i) = if i = p then getN (mkAux d).nMisc i + 1 else getN (mkAux d).nMisc i := by
  obtain ⟨l1, l2, l3, l4, l5, l6, l7, l8, l9, l10, l11, l12⟩ := aux_lens d
  rw [mkAux_after d p pos k name skip hp hpos]
  refine ⟨⟨getN_insAt _ pos _ (l1 ▸ hpos), getB_insAt _ pos _ (l2 ▸ hpos), getN_insAt _ pos _ (l3 ▸ hpos),
    getB_insAt _ pos _ (l4 ▸ hpos), getN_insAt _ pos _ (l5 ▸ hpos), getN_insAt _ pos _ (l6 ▸ hpos), getN_insAt _ pos _ (l7 ▸ hpos),
    getN_insAt _ pos _ (l8 ▸ hpos), getN_insAt _ pos _ (l10 ▸ hpos), getN_insAt _ pos _ (l11 ▸ hpos),
    getB_insAt _ pos _ (l12 ▸ hpos)⟩, ?_⟩
  show getN (insAt ((mkAux d).nMisc.set p (getN (mkAux d).nMisc p + 1)) pos 0) (shN pos i) = _
  rw [getN_insAt _ pos _ (by rw [List.length_set, l9]; exact hpos)]
  by_cases e : i = p
  · rw [if_pos e, e]; exact getN_set_self _ _ _ (by rw [l9]; exact Nat.lt_of_lt_of_le hp hpos)
  · rw [if_neg e]; exact getN_set_ne _ _ _ _ (Ne.symm e)

theorem mkAux_after_pos (hp : p < pos) (hpos : pos ≤ d.objs.length) :
    getN (mkAux DN).totSum pos = 0 ∧ getN (mkAux DN).nNormal pos = 0 ∧
    getN (mkAux DN).nMemory pos = 0 ∧ getN (mkAux DN).nIO pos = 0 ∧
    getN (mkAux DN).nMisc pos = 0 := by
  obtain ⟨_, _, _, _, l5, l6, l7, l8, l9, _⟩ := aux_lens d
  rw [mkAux_after d p pos k name skip hp hpos]
  exact ⟨getN_insAt_pos _ pos (l5 ▸ hpos), getN_insAt_pos _ pos (l6 ▸ hpos), getN_insAt_pos _ pos (l7 ▸ hpos),
    getN_insAt_pos _ pos (l8 ▸ hpos), getN_insAt_pos _ pos (by rw [List.length_set, l9]; exact hpos)⟩

end

end Hw.Topo.MiscIns
