/-
  Hw.Topo.SetStageBasic — groundwork for the set-stage proofs: mask algebra (`Sub`, `Dj`), the passes as `List.map`s,
  an induction principle for the nested tree, `AllN` (a predicate at every node), and "reordering is a permutation".
-/
import Hw.Topo.SetStage
import Hw.Topo.Sets
import Hw.Base.InsertSort
namespace Hw.Topo.SetStage
open Hw.Topo

/-! ### masks as sets -/

def Sub (a b : Nat) : Prop := a &&& b = a
def Dj (a b : Nat) : Prop := a &&& b = 0

instance (a b : Nat) : Decidable (Sub a b) := by unfold Sub; infer_instance
instance (a b : Nat) : Decidable (Dj a b) := by unfold Dj; infer_instance

theorem sub_iff {a b : Nat} : Sub a b ↔ ∀ i, a.testBit i = true → b.testBit i = true := Bits.and_eq_left_iff

theorem dj_iff {a b : Nat} : Dj a b ↔ ∀ i, a.testBit i = true → b.testBit i = false := Bits.and_eq_zero_iff

theorem subset_iff {a b : Nat} : subset a b = true ↔ Sub a b := subset_iff_and

theorem Sub.refl (a : Nat) : Sub a a := Nat.and_self a
theorem Sub.trans {a b c : Nat} (h1 : Sub a b) (h2 : Sub b c) : Sub a c :=
  subset_iff.1 (subset_trans (subset_iff.2 h1) (subset_iff.2 h2))
theorem Sub.zero (a : Nat) : Sub 0 a := Nat.zero_and a
theorem Sub.and_left (a b : Nat) : Sub (a &&& b) a := subset_iff.1 (and_subset_left a b)
theorem Sub.and_right (a b : Nat) : Sub (a &&& b) b := Nat.and_comm a b ▸ Sub.and_left b a
theorem Sub.and_mono {a b c d : Nat} (h1 : Sub a b) (h2 : Sub c d) : Sub (a &&& c) (b &&& d) := by
  unfold Sub at *
  rw [Nat.and_assoc, ← Nat.and_assoc c, Nat.and_comm c b, Nat.and_assoc b, h2, ← Nat.and_assoc, h1]
theorem Sub.or_right {a b : Nat} (c : Nat) (h : Sub a b) : Sub a (b ||| c) := h.trans (subset_iff.1 (subset_or_left b c))
theorem Sub.or_right' {a c : Nat} (b : Nat) (h : Sub a c) : Sub a (b ||| c) := h.trans (subset_iff.1 (subset_or_right b c))
theorem Sub.or_left {a b c : Nat} (h1 : Sub a c) (h2 : Sub b c) : Sub (a ||| b) c :=
  subset_iff.1 (or_subset (subset_iff.2 h1) (subset_iff.2 h2))
theorem Sub.or_mono {a b c d : Nat} (h1 : Sub a b) (h2 : Sub c d) : Sub (a ||| c) (b ||| d) :=
  Sub.or_left (Sub.or_right _ h1) (Sub.or_right' _ h2)
theorem Sub.antisymm {a b : Nat} (h1 : Sub a b) (h2 : Sub b a) : a = b := h1.symm.trans ((Nat.and_comm a b).trans h2)
theorem Sub.and_eq {a b : Nat} (h : Sub a b) : a &&& b = a := h

theorem Dj.symm {a b : Nat} (h : Dj a b) : Dj b a := by unfold Dj at *; rw [Nat.and_comm]; exact h
theorem Dj.zero_left (a : Nat) : Dj 0 a := by unfold Dj; simp
theorem Dj.zero_right (a : Nat) : Dj a 0 := by unfold Dj; simp
theorem Dj.mono {a b c d : Nat} (h : Dj b d) (h1 : Sub a b) (h2 : Sub c d) : Dj a c :=
  disjoint_iff_and.1 (disjoint_mono (subset_iff.2 h1) (subset_iff.2 h2) (disjoint_iff_and.2 h))
theorem Dj.or_left {a b c : Nat} (h1 : Dj a c) (h2 : Dj b c) : Dj (a ||| b) c :=
  disjoint_iff_and.1 (or_disjoint.2 ⟨disjoint_iff_and.2 h1, disjoint_iff_and.2 h2⟩)
theorem Dj.or_right {a b c : Nat} (h1 : Dj a b) (h2 : Dj a c) : Dj a (b ||| c) := (Dj.or_left h1.symm h2.symm).symm

theorem Dj.pairwise_perm {l l' : List Nat} (hp : l'.Perm l) (h : l.Pairwise Dj) : l'.Pairwise Dj :=
  (hp.pairwise_iff fun hd => Dj.symm hd).2 h

theorem ASet.inter_sub (a : ASet) (m : Nat) : Sub (a.inter m) m := by
  unfold ASet.inter
  split
  · apply sub_iff.2
    intro i h
    rw [Nat.testBit_xor, Nat.testBit_and] at h
    cases hm : m.testBit i
    · simp [hm] at h
    · rfl
  · exact Sub.and_right _ _

/-! ### how the allowed sets shrink the object sets: the identity (INCLUDE_DISALLOWED) or the intersection with a mask -/

structure Shrink (φ : Nat → Nat) : Prop where
  sub : ∀ a, Sub (φ a) a
  mono : ∀ {a b}, Sub a b → Sub (φ a) (φ b)
  or : ∀ a b, φ (a ||| b) = φ a ||| φ b

theorem Shrink.id : Shrink (fun a => a) := ⟨Sub.refl, fun h => h, fun _ _ => rfl⟩
theorem Shrink.and (m : Nat) : Shrink (fun a => a &&& m) :=
  ⟨fun a => Sub.and_left a m, fun h => Sub.and_mono h (Sub.refl m), fun _ _ => Nat.and_or_distrib_right ..⟩
theorem Shrink.zero {φ : Nat → Nat} (h : Shrink φ) : φ 0 = 0 := by
  have := h.sub 0
  unfold Sub at this
  simpa using this.symm
theorem Shrink.dj {φ : Nat → Nat} (h : Shrink φ) {a b : Nat} (hd : Dj a b) : Dj (φ a) (φ b) := hd.mono (h.sub a) (h.sub b)
theorem Shrink.pairwise {φ : Nat → Nat} (h : Shrink φ) {l : List Nat} (hl : l.Pairwise Dj) : (l.map φ).Pairwise Dj :=
  List.pairwise_map.2 (hl.imp h.dj)

/-! ### the passes as maps -/

theorem propagateL_eq (inh : Nat) (l : List ST) : propagateL inh l = l.map (propagate inh) := by
  induction l with
  | nil => rfl
  | cons c cs ih => simp [propagateL, ih]

theorem fixupChildren_eq (p : SObj) (l : List ST) : fixupChildren p l = l.map (fixupChild p) := by
  induction l with
  | nil => rfl
  | cons c cs ih => simp [fixupChildren, ih]

theorem removeUnusedL_eq (ac an : Nat) (l : List ST) : removeUnusedL ac an l = l.map (removeUnused ac an) := by
  induction l with
  | nil => rfl
  | cons c cs ih => simp [removeUnusedL, ih]

theorem belowL_eq (l : List ST) : belowL l = (l.map below).foldr (· ||| ·) 0 := by
  induction l with
  | nil => rfl
  | cons c cs ih => simp [belowL, ih]

theorem allNodesL_eq (p : SObj → List ST → List ST → Bool) (l : List ST) : allNodesL p l = l.all (allNodes p) := by
  induction l with
  | nil => rfl
  | cons c cs ih => simp [allNodesL, ih]

/-! ### induction over the tree -/

theorem ST.ind {P : ST → Prop}
    (h : ∀ o kids mem, (∀ c ∈ kids, P c) → (∀ m ∈ mem, P m) → P (.node o kids mem)) : ∀ t, P t
  | .node o kids mem => h o kids mem (fun c _ => ST.ind h c) (fun m _ => ST.ind h m)
termination_by t => sizeOf t
decreasing_by
  all_goals simp_wf
  · have := List.sizeOf_lt_of_mem ‹c ∈ kids›; omega
  · have := List.sizeOf_lt_of_mem ‹m ∈ mem›; omega

inductive AllN (P : SObj → List ST → List ST → Prop) : ST → Prop
  | node {o : SObj} {kids mem : List ST} :
      P o kids mem → (∀ c ∈ kids, AllN P c) → (∀ m ∈ mem, AllN P m) → AllN P (.node o kids mem)

theorem AllN.here {P} {o : SObj} {kids mem : List ST} (h : AllN P (.node o kids mem)) : P o kids mem := by cases h; assumption
theorem AllN.kids {P} {o : SObj} {kids mem : List ST} (h : AllN P (.node o kids mem)) : ∀ c ∈ kids, AllN P c := by cases h; assumption
theorem AllN.mem {P} {o : SObj} {kids mem : List ST} (h : AllN P (.node o kids mem)) : ∀ c ∈ mem, AllN P c := by cases h; assumption

theorem AllN.imp {P Q : SObj → List ST → List ST → Prop} (hPQ : ∀ o k m, P o k m → Q o k m) : ∀ t, AllN P t → AllN Q t := by
  apply ST.ind
  intro o kids mem ihk ihm h
  exact .node (hPQ _ _ _ h.here) (fun c hc => ihk c hc (h.kids c hc)) (fun c hc => ihm c hc (h.mem c hc))

theorem AllN.and {P Q : SObj → List ST → List ST → Prop} : ∀ t, AllN P t → AllN Q t → AllN (fun o k m => P o k m ∧ Q o k m) t := by
  apply ST.ind
  intro o kids mem ihk ihm h1 h2
  exact .node ⟨h1.here, h2.here⟩ (fun c hc => ihk c hc (h1.kids c hc) (h2.kids c hc)) (fun c hc => ihm c hc (h1.mem c hc) (h2.mem c hc))

theorem AllN.and_iff {P Q : SObj → List ST → List ST → Prop} (t : ST) :
    AllN (fun o k m => P o k m ∧ Q o k m) t ↔ AllN P t ∧ AllN Q t :=
  ⟨fun h => ⟨AllN.imp (fun _ _ _ h => h.1) t h, AllN.imp (fun _ _ _ h => h.2) t h⟩, fun h => AllN.and t h.1 h.2⟩

theorem AllN.congr {P Q : SObj → List ST → List ST → Prop} (h : ∀ o k m, P o k m ↔ Q o k m) (t : ST) : AllN P t ↔ AllN Q t :=
  ⟨AllN.imp (fun o k m => (h o k m).1) t, AllN.imp (fun o k m => (h o k m).2) t⟩

theorem allNodes_iff (p : SObj → List ST → List ST → Bool) : ∀ t, allNodes p t = true ↔ AllN (fun o k m => p o k m = true) t := by
  apply ST.ind
  intro o kids mem ihk ihm
  rw [allNodes, allNodesL_eq, allNodesL_eq]
  simp only [Bool.and_eq_true, List.all_eq_true]
  constructor
  · rintro ⟨⟨h1, h2⟩, h3⟩
    exact .node h1 (fun c hc => (ihk c hc).1 (h2 c hc)) (fun c hc => (ihm c hc).1 (h3 c hc))
  · intro h
    exact ⟨⟨h.here, fun c hc => (ihk c hc).2 (h.kids c hc)⟩, fun c hc => (ihm c hc).2 (h.mem c hc)⟩

/-! ### reordering is a permutation -/

theorem insertOrdered_perm (c : ST) (acc : List ST) : (insertOrdered c acc).Perm (c :: acc) :=
  InsertSort.split_perm _ c acc

theorem reorder_perm (kids : List ST) : (reorder kids).Perm kids :=
  InsertSort.foldl_perm insertOrdered_perm kids []

theorem reorderIfNeeded_perm (kids : List ST) : (reorderIfNeeded kids).Perm kids := by
  unfold reorderIfNeeded
  split
  · exact reorder_perm kids
  · exact List.Perm.refl _

theorem mem_reorderIfNeeded {x : ST} {kids : List ST} : x ∈ reorderIfNeeded kids ↔ x ∈ kids := (reorderIfNeeded_perm kids).mem_iff

end Hw.Topo.SetStage
