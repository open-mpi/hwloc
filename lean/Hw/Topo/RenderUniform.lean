/-
  Hw.Topo.RenderUniform — `render` on trees that are given by formulas: children lists of the form `(List.range n).map g`.
  For such a list the ids at which the siblings start are partial sums of subtree sizes (`startN_map_range`), the occurrence
  list is the concatenation of the siblings' occurrence lists, each begun from the record hwloc_connect_children gives it
  (`occsL_map_range`), and a row of objects that all compare equal is one level of hwloc_connect_levels (`levelsLoop_uniform`).
  `linkPart_render` says when `renderObj` returns a given dump object up to its level and `Extra` fields; with these a dump
  written in closed form is shown to be the rendering of a tree by one induction over the tree.
-/
import Hw.Topo.RenderLemmas
import Hw.Topo.RenderLevelLoop
import Hw.Topo.RenderOf
import Hw.Topo.RenderCounts
namespace Hw.Topo.Restrict
open Hw.Topo

/-! ### sizes and starting ids -/

theorem sizeL_map_range (g : Nat → Tree) : ∀ n, sizeL ((List.range n).map g) = ((List.range n).map (fun r => sizeT (g r))).sum := by
  intro n
  induction n with
  | zero => rfl
  | succ n ih => simp [List.range_succ, sizeL_append, ih, sizeL]

theorem startN_map_range (g : Nat → Tree) (n s j : Nat) (hj : j ≤ n) :
    startN s ((List.range n).map g) j = s + ((List.range j).map (fun r => sizeT (g r))).sum := by
  unfold startN
  rw [← List.map_take, List.take_range, Nat.min_eq_left hj, sizeL_map_range]

theorem sum_map_range_const (f : Nat → Nat) (c : Nat) : ∀ j, (∀ r, r < j → f r = c) → ((List.range j).map f).sum = j * c := by
  intro j
  induction j with
  | zero => intro _; simp
  | succ j ih =>
    intro h
    rw [List.range_succ, List.map_append, List.sum_append, ih (fun r hr => h r (by omega)), Nat.succ_mul]
    simp [h j (by omega)]

theorem startN_uniform (g : Nat → Tree) (c n : Nat) (hg : ∀ r, r < n → sizeT (g r) = c) (s j : Nat) (hj : j ≤ n) :
    startN s ((List.range n).map g) j = s + j * c := by
  rw [startN_map_range g n s j hj, sum_map_range_const _ c j (fun r hr => hg r (by omega))]

theorem sizeL_uniform (g : Nat → Tree) (c n : Nat) (hg : ∀ r, r < n → sizeT (g r) = c) : sizeL ((List.range n).map g) = n * c := by
  rw [sizeL_map_range, sum_map_range_const _ c n hg]

theorem startsL_uniform (g : Nat → Tree) (c n : Nat) (hg : ∀ r, r < n → sizeT (g r) = c) (s : Nat) :
    startsL s ((List.range n).map g) = (List.range n).map (fun r => ((s + r * c : Nat) : Int)) := by
  rw [startsL_eq, List.length_map, List.length_range]
  exact List.map_congr_left fun r hr => by rw [startN_uniform g c n hg s r (Nat.le_of_lt (List.mem_range.1 hr))]

/-! ### occurrences, relabelling, typing of a children list, sibling by sibling -/

/-- the occurrences of the subtree that a record stands for -/
def occsAt (oc : Occ) : List Occ := occsT oc.id oc.parent oc.rank oc.prev oc.next oc.t

/-- the record of a subtree `c` whose root is to be the dump object `o`: id and links of `o` -/
def occOf (o : Obj) (c : Tree) : Occ := ⟨o.id, o.parent, o.rank, o.prevSib, o.nextSib, c⟩

theorem occsL_map_range (g : Nat → Tree) (n s : Nat) (par : Int) (rk : Nat) (pv : Int) (rec : Nat → Occ)
    (h : ∀ j, j < n → sibRecAt s par rk pv ((List.range n).map g) j (g j) = rec j) :
    occsL s par rk pv ((List.range n).map g) = (List.range n).flatMap (fun j => occsAt (rec j)) := by
  rw [occsL_eq, sibRecs_eq, List.flatMap_map]
  refine (flatMap_zipIdx (fun j o => (o.map fun c => occsAt (sibRecAt s par rk pv ((List.range n).map g) j c)).getD []) _).trans ?_
  rw [List.length_map, List.length_range, List.flatMap_def, List.flatMap_def]
  refine congrArg _ (List.map_congr_left fun j hj => ?_)
  rw [List.getElem?_map, List.getElem?_range (List.mem_range.1 hj), ← h j (List.mem_range.1 hj)]; rfl

theorem sibRecAt_ids (l : List Tree) (ids : Nat → Nat) (s : Nat) (par : Int) (hst : ∀ j, j < l.length → startN s l j = ids j)
    (j : Nat) (hj : j < l.length) (c : Tree) :
    sibRecAt s par 0 (-1) l j c =
      ⟨ids j, par, j, if j > 0 then ((ids (j - 1) : Nat) : Int) else -1, if j + 1 < l.length then ((ids (j + 1) : Nat) : Int) else -1, c⟩ := by
  unfold sibRecAt
  rw [hst j hj, Nat.zero_add]
  congr 1
  · rcases Nat.eq_zero_or_pos j with h0 | h0
    · subst h0; rfl
    · rw [if_neg (by omega), if_pos h0, hst (j - 1) (by omega)]
  · by_cases hn : j + 1 < l.length
    · rw [if_pos hn, if_pos hn, hst (j + 1) hn]
    · rw [if_neg hn, if_neg hn]

theorem relabelL_id (l : List Tree) : ∀ s, (∀ j c, l[j]? = some c → relabelT (startN s l j) c = c) → relabelL s l = l := by
  induction l with
  | nil => intro s _; rfl
  | cons a as ih =>
    intro s h
    have h0 := h 0 a rfl
    rw [startN_zero] at h0
    rw [relabelL, h0, ih (s + sizeT a) (fun j c hj => by have := h (j + 1) c hj; rwa [startN_cons_succ] at this)]

theorem typedL_map_range (kd : Nat → Bool) (g : Nat → Tree) (n : Nat) (hg : ∀ r, r < n → kd (g r).obj.type = true ∧ typedT (g r) = true) :
    typedL kd ((List.range n).map g) = true :=
  (typedL_iff kd _).2 fun t ht => by obtain ⟨r, hr, rfl⟩ := List.mem_map.1 ht; exact hg r (List.mem_range.1 hr)

/-! ### the objects whose parent is a given object -/

theorem sibRecs_map_id (l : List Tree) (s : Nat) (par : Int) (rk : Nat) (pv : Int) :
    (sibRecs s par rk pv l).map (·.id) = (List.range l.length).map (startN s l) := by
  rw [sibRecs_eq, List.map_map, List.range_eq_range', ← List.zipIdx_map_snd 0 l, List.map_map]; rfl

theorem render_kids_ids (t : Tree) (h : Hdr) (ex : RObj → Extra) (oc : Occ) (hoc : oc ∈ occs t) :
    ((render t h ex).objs.filter (parentIs oc.id)).map (·.id) =
      (List.range oc.t.ns.length).map (startN (oc.id + 1) oc.t.ns) ++
      (List.range oc.t.ms.length).map (startN (oc.id + 1 + sizeL oc.t.ns) oc.t.ms) ++
      (List.range oc.t.ios.length).map (startN (oc.id + 1 + sizeL oc.t.ns + sizeL oc.t.ms) oc.t.ios) ++
      (List.range oc.t.mis.length).map (startN (oc.id + 1 + sizeL oc.t.ns + sizeL oc.t.ms + sizeL oc.t.ios) oc.t.mis) := by
  have e : (·.id) ∘ rObj t ex = (·.id) := funext fun x => by simp only [Function.comp, rObj, ro_id]
  rw [render_children t h ex oc hoc, List.map_map, e, childRecs]
  simp only [List.map_append, sibRecs_map_id]
  rfl

/-! ### one object -/

/-- an object without the fields that `renderObj` takes from the levels (`placeOf`) or from `Extra` -/
def linkPart (o : Obj) : Obj :=
  { o with depth := 0, lidx := 0, nextCousin := 0, prevCousin := 0, symm := 0, totalMem := 0, attrs := [], subtype := none,
           name := none, infos := [] }

/-- from a node that carries `robjOf o`, `renderObj` gives `o` back up to the level and `Extra` fields as soon as the link
fields of `o` are the ones hwloc_connect_children computes for that node (`o` a normal or memory object: its sets are present,
it has no I/O or Misc children) -/
theorem linkPart_render (o : Obj) (ns ms : List Tree) (nl : List (Nat × List Nat)) (os : List Occ) (ex : RObj → Extra)
    (hs : o.cpuset.isSome ∧ o.ccpuset.isSome ∧ o.nodeset.isSome ∧ o.cnodeset.isSome)
    (hn : ns.length = o.arity ∧ ms.length = o.marity ∧ o.ioarity = 0 ∧ o.miscarity = 0 ∧ o.ioFirst = -1 ∧ o.miscFirst = -1)
    (hc : startsL (o.id + 1) ns = o.children ∧ o.firstChild = (o.children.head?).getD (-1) ∧
      o.lastChild = (o.children.getLast?).getD (-1) ∧
      o.memFirst = if ms.isEmpty then -1 else ((o.id + 1 + sizeL ns : Nat) : Int)) :
    linkPart (renderObj nl os ex (occOf o (.node (robjOf o) ns ms [] []))) = linkPart o := by
  obtain ⟨h1, h2, h3, h4⟩ := hs
  obtain ⟨n1, n2, n3, n4, n5, n6⟩ := hn
  obtain ⟨c1, c2, c3, c4⟩ := hc
  cases o
  simp only [Option.isSome_iff_exists] at h1 h2 h3 h4
  obtain ⟨a1, rfl⟩ := h1
  obtain ⟨a2, rfl⟩ := h2
  obtain ⟨a3, rfl⟩ := h3
  obtain ⟨a4, rfl⟩ := h4
  simp only at n1 n2 n3 n4 n5 n6 c1 c2 c3 c4
  subst n1 n2 n3 n4 n5 n6 c1 c2 c3 c4
  simp [renderObj, linkPart, robjOf, optSet, occOf]

theorem eq_of_linkPart (a b : Obj) (h : linkPart a = linkPart b) (h1 : a.depth = b.depth) (h2 : a.lidx = b.lidx)
    (h3 : a.nextCousin = b.nextCousin) (h4 : a.prevCousin = b.prevCousin) (h5 : a.symm = b.symm) (h6 : a.totalMem = b.totalMem)
    (h7 : a.attrs = b.attrs) (h8 : a.subtype = b.subtype) (h9 : a.name = b.name) (h10 : a.infos = b.infos) : a = b := by
  cases a; cases b
  simp only [linkPart, Obj.mk.injEq] at h
  simp only at h1 h2 h3 h4 h5 h6 h7 h8 h9 h10
  simp only [Obj.mk.injEq]
  simp_all

theorem ro_extra (nl : List (Nat × List Nat)) (os : List Occ) (ex : RObj → Extra) (oc : Occ) :
    (renderObj nl os ex oc).symm = (ex oc.t.obj).symm ∧ (renderObj nl os ex oc).totalMem = (ex oc.t.obj).totalMem ∧
    (renderObj nl os ex oc).attrs = (ex oc.t.obj).attrs ∧ (renderObj nl os ex oc).subtype = (ex oc.t.obj).subtype ∧
    (renderObj nl os ex oc).name = (ex oc.t.obj).name ∧ (renderObj nl os ex oc).infos = (ex oc.t.obj).infos ∧
    (renderObj nl os ex oc).gp = oc.t.obj.gp := by
  rw [renderObj_eta]; exact ⟨rfl, rfl, rfl, rfl, rfl, rfl, rfl⟩

/-- one round of hwloc_connect_levels on a row of objects that all compare equal (hwloc_type_cmp): the row is the level and
the children of the row, in order, are the next row -/
theorem levelsLoop_uniform (fuel : Nat) (objs : List Tree) (hne : objs ≠ [])
    (hu : ∀ a ∈ objs, ∀ b ∈ objs, typeEq a.obj b.obj = true) :
    levelsLoop (fuel + 1) objs = objs.map (·.obj) :: levelsLoop fuel (objs.flatMap (·.ns)) := by
  obtain ⟨first, rest, rfl⟩ := List.exists_cons_of_ne_nil hne
  have ht := hu _ (topOf_mem first rest)
  rw [levelsLoop_cons, List.filter_eq_self.2 ht, List.flatMap_def, List.flatMap_def, List.map_congr_left fun o ho => if_pos (ht o ho)]

end Hw.Topo.Restrict
