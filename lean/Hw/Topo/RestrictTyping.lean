/-
  Hw.Topo.RestrictTyping — the tree typing `typedT` (hypothesis of the link / level theorems about `render`) is preserved by
  the whole restrict model: the tree recursion, level merging and the final re-sort; so is "the root is a normal object".
-/
import Hw.Topo.RenderLemmas
import Hw.Topo.RestrictLemmas
namespace Hw.Topo.Restrict
open Hw.Topo

/-! ### typed lists -/

theorem typedL_append {k : Nat → Bool} {a b : List Tree} (ha : typedL k a = true) (hb : typedL k b = true) :
    typedL k (a ++ b) = true := by
  rw [typedL_iff] at ha hb ⊢
  intro t ht
  rcases List.mem_append.1 ht with h | h
  · exact ha t h
  · exact hb t h

theorem typedL_perm (k : Nat → Bool) {a b : List Tree} (h : a.Perm b) (ha : typedL k a = true) : typedL k b = true := by
  rw [typedL_iff] at ha ⊢
  exact fun t ht => ha t (h.mem_iff.2 ht)

theorem typedL_map {g : Tree → Tree} {k : Nat → Bool} {l : List Tree}
    (h : ∀ c ∈ l, typedT c = true → typedT (g c) = true ∧ (k c.obj.type = true → k (g c).obj.type = true))
    (hl : typedL k l = true) : typedL k (l.map g) = true := by
  rw [typedL_iff] at hl ⊢
  intro t ht
  obtain ⟨c, hc, rfl⟩ := List.mem_map.1 ht
  exact ⟨(h c hc (hl c hc).2).2 (hl c hc).1, (h c hc (hl c hc).2).1⟩

theorem typedL_nil (k : Nat → Bool) : typedL k [] = true := rfl

theorem typedT_mk (o : RObj) (ns ms ios mis : List Tree)
    (ha : o.type ≤ 13 ∨ ns = []) (hb : o.type ≤ 13 ∨ o.type = 15 ∨ ms = []) (hc : o.type ≤ 13 ∨ (16 ≤ o.type ∧ o.type ≤ 18) ∨ ios = [])
    (he : o.type < 20) (h1 : typedL isNormal ns = true) (h2 : typedL isMemory ms = true) (h3 : typedL isIO ios = true)
    (h4 : typedL isMisc mis = true) : typedT (.node o ns ms ios mis) = true := by
  rw [typedT]
  simp only [Bool.and_eq_true, Bool.or_eq_true, List.isEmpty_iff, isNormal_iff, isIO_iff, beq_iff_eq, tMEMCACHE, tMAX]
  refine ⟨⟨⟨⟨⟨⟨⟨ha, ?_⟩, ?_⟩, decide_eq_true he⟩, h1⟩, h2⟩, h3⟩, h4⟩
  · rcases hb with h | h | h
    · exact Or.inl (Or.inl h)
    · exact Or.inl (Or.inr h)
    · exact Or.inr h
  · rcases hc with h | h | h
    · exact Or.inl (Or.inl h)
    · exact Or.inl (Or.inr h)
    · exact Or.inr h

theorem typedT_node (o : RObj) (ns ms ios mis : List Tree) (h : typedT (.node o ns ms ios mis) = true) :
    (o.type ≤ 13 ∨ ns = []) ∧ (o.type ≤ 13 ∨ o.type = 15 ∨ ms = []) ∧ (o.type ≤ 13 ∨ (16 ≤ o.type ∧ o.type ≤ 18) ∨ ios = []) ∧
    o.type < 20 ∧ typedL isNormal ns = true ∧ typedL isMemory ms = true ∧ typedL isIO ios = true ∧ typedL isMisc mis = true := by
  have hf := typedT_facts _ h
  have hl := typedT_lists _ h
  simp only [Tree.obj, Tree.ns, Tree.ms, Tree.ios, Tree.mis, List.length_eq_zero_iff] at hf hl
  exact ⟨hf.1, hf.2.1, hf.2.2.1, hf.2.2.2, hl.1, hl.2.1, hl.2.2.1, hl.2.2.2⟩

theorem typed_types_lt (t : Tree) (ht : typedT t = true) : ∀ x ∈ objsT t, x.type < 20 := by
  rw [← occs_map_obj]
  intro x hx
  obtain ⟨oc, hoc, rfl⟩ := List.mem_map.1 hx
  exact (typedT_facts oc.t (occ_typed t ht oc hoc)).2.2.2

/-! ### the tree recursion -/

/-- the tree recursion preserves the typing: survivors are typed and keep their type, what is handed upwards are typed
    I/O resp. Misc subtrees.  (The motive also says that memory objects hand no I/O object upwards: they have none, and so
    have their memory children.) -/
theorem typed_restrictTW {ro : List Tree → List Tree} (hro : ∀ l, (ro l).Perm l) (p : Params) :
    ∀ t, typedT t = true → (∀ k ∈ (restrictTW ro p t).kept, typedT k = true ∧ k.obj.type = t.obj.type) ∧
      typedL isIO (restrictTW ro p t).io = true ∧ typedL isMisc (restrictTW ro p t).misc = true := by
  have h := (restrictW_ind hro p
    (P := fun t r => typedT t = true → (∀ k ∈ r.kept, typedT k = true ∧ k.obj.type = t.obj.type) ∧
      typedL isIO r.io = true ∧ typedL isMisc r.misc = true ∧ (isMemory t.obj.type = true → r.io = []))
    (Q := fun _ l r => ∀ k : Nat → Bool, typedL k l = true → typedL k r.kept = true ∧ typedL isIO r.io = true ∧
      typedL isMisc r.misc = true ∧ (l = [] → r.kept = []) ∧ (typedL isMemory l = true → r.io = []))
    ?_ (fun _ l _ k hl => ⟨hl, rfl, rfl, id, fun _ => rfl⟩) (fun _ k _ => ⟨rfl, rfl, rfl, fun _ => rfl, fun _ => rfl⟩) ?_).1
  · exact fun t ht => ⟨(h t ht).1, (h t ht).2.1, (h t ht).2.2.1⟩
  · intro o ns ms ios mis rn rm r qn qm hr ht
    obtain ⟨ha, hb, hc, he, t1, t2, t3, t4⟩ := typedT_node o ns ms ios mis ht
    have qn := qn isNormal t1
    have qm := qm isMemory t2
    have hio := typedL_append (typedL_append t3 qn.2.1) qm.2.1
    have hmisc := typedL_append (typedL_append t4 qn.2.2.1) qm.2.2.1
    -- neither normal nor I/O: no I/O child before, none inherited
    have hnoio : ¬ o.type ≤ 13 → ¬ (16 ≤ o.type ∧ o.type ≤ 18) → ios ++ rn.io ++ rm.io = [] := fun h1 h2 => by
      rw [(hc.resolve_left h1).resolve_left h2, qn.2.2.2.2 (by rw [ha.resolve_left h1]; rfl), qm.2.2.2.2 t2]; rfl
    rcases hr with ⟨_, rfl⟩ | ⟨_, ns', hperm, rfl⟩
    · refine ⟨fun k hk => (nomatch hk), ite_nil (P := (typedL isIO · = true)) _ rfl hio,
        ite_nil (P := (typedL isMisc · = true)) _ rfl hmisc, fun hm => ?_⟩
      rw [hnoio (isMemory_not_normal_io hm).1 (isMemory_not_normal_io hm).2]
      exact ite_self _
    · refine ⟨fun k hk => ?_, rfl, rfl, fun _ => rfl⟩
      rw [List.mem_singleton.1 hk]
      refine ⟨?_, type_shrinkG p o⟩
      apply typedT_mk <;> try rw [type_shrinkG]
      · exact ha.imp_right fun h => (qn.2.2.2.1 h ▸ hperm).eq_nil
      · exact hb.imp_right (Or.imp_right fun h => qm.2.2.2.1 h)
      · exact Decidable.or_iff_not_imp_left.2 fun h1 => Decidable.or_iff_not_imp_left.2 fun h2 => hnoio h1 h2
      · exact he
      · exact typedL_perm isNormal hperm.symm qn.1
      · exact qm.1
      · exact hio
      · exact hmisc
  · intro _ t ts r rs ht hts k hall
    rw [typedL] at hall
    simp only [Bool.and_eq_true] at hall
    have a := ht hall.1.2
    have b := hts k hall.2
    refine ⟨typedL_append ((typedL_iff _ _).2 fun x hx => ⟨by rw [(a.1 x hx).2]; exact hall.1.1, (a.1 x hx).1⟩) b.1,
      typedL_append a.2.1 b.2.1, typedL_append a.2.2.1 b.2.2.1, (fun e => (nomatch e)), fun hm => ?_⟩
    rw [typedL] at hm
    simp only [Bool.and_eq_true] at hm
    rw [a.2.2.2 hm.1.1, b.2.2.2.2 hm.2]; rfl

/-! ### level merging and the final re-sort -/

theorem absorbIf_type (ms : List Tree) (o co : RObj) : (absorbIf ms o co).type = co.type :=
  absorbIf_cases (P := fun r => r.type = co.type) ms rfl rfl

theorem typed_mergeT (ps : List Nat) (rc : Bool) :
    ∀ t, typedT t = true → typedT (mergeT ps rc t) = true ∧
      (isNormal t.obj.type = true → isNormal (mergeT ps rc t).obj.type = true) :=
  mergeT_ind ps rc (P := fun t t' => typedT t = true → typedT t' = true ∧
      (isNormal t.obj.type = true → isNormal t'.obj.type = true))
    (fun o co cns cms cios cmis ms ios mis mm _ hmm h => by
      obtain ⟨ha, _, _, he, t1, t2, t3, t4⟩ := typedT_node _ _ _ _ _ h
      have hco := typedL_get isNormal _ t1 0 _ rfl
      simp only [Tree.obj] at hco
      obtain ⟨_, _, _, ce, c1, c2, c3, c4⟩ := typedT_node _ _ _ _ _ hco.2
      have hon : o.type ≤ 13 := ha.resolve_right (by simp)
      have hcn : co.type ≤ 13 := (isNormal_iff _).1 hco.1
      -- both objects of the pair are normal, so whichever stays may have children of every kind
      have key : ∀ r : RObj, r.type ≤ 13 → r.type < 20 → typedT (.node r cns mm (ios ++ cios) (mis ++ cmis)) = true := fun r hr he =>
        typedT_mk _ _ _ _ _ (Or.inl hr) (Or.inl hr) (Or.inl hr) he c1 (typedL_perm isMemory hmm.symm (typedL_append t2 c2))
          (typedL_append t3 c3) (typedL_append t4 c4)
      cases rc
      · exact ⟨key (absorbIf ms o co) (by rw [absorbIf_type]; exact hcn) (by rw [absorbIf_type]; exact ce),
          fun _ => (congrArg isNormal (absorbIf_type ms o co)).trans hco.1⟩
      · exact ⟨key o hon he, fun hn => hn⟩)
    (fun _ h => ⟨h, id⟩)
    fun o ns ms ios mis hn ht => by
      obtain ⟨ha, hb, hc, he, t1, t2, t3, t4⟩ := typedT_node _ _ _ _ _ ht
      exact ⟨typedT_mk _ _ _ _ _ (ha.imp_right fun h => by rw [h]; rfl) hb hc he (typedL_map hn t1) t2 t3 t4, id⟩

theorem typed_reorderAllT : ∀ t, typedT t = true → typedT (reorderAllT t) = true :=
  Tree.ind4 fun o ns ms ios mis hn _ _ _ ht => by
    obtain ⟨ha, hb, hc, he, t1, t2, t3, t4⟩ := typedT_node _ _ _ _ _ ht
    rw [reorderAllT, reorderAllL_eq_map]
    exact typedT_mk _ _ _ _ _ (ha.imp_right fun h => by rw [h]; rfl) hb hc he
      (typedL_perm isNormal (fixOrder_perm _).symm
        (typedL_map (fun c hc h => ⟨hn c hc h, by rw [obj_reorderAllT c]; exact id⟩) t1)) t2 t3 t4

theorem typed_keepStructure (filters : List Nat) (t : Tree) (h : typedT t = true) :
    typedT (keepStructure filters t) = true ∧
    (isNormal t.obj.type = true → isNormal (keepStructure filters t).obj.type = true) :=
  keepStructure_ind (P := fun t' => typedT t' = true ∧ (isNormal t.obj.type = true → isNormal t'.obj.type = true))
    (fun ps rc t' h => ⟨(typed_mergeT ps rc t' h.1).1, fun hr => (typed_mergeT ps rc t' h.1).2 (h.2 hr)⟩)
    (fun t' h => ⟨typed_reorderAllT t' h.1, by rw [obj_reorderAllT t']; exact h.2⟩) filters t ⟨h, id⟩

theorem restrictCore_typed (t : Topo) (p : Params) (t' : Topo) (hc : restrictCore t p = some t') (hty : typedT t.tree = true) :
    typedT t'.tree = true ∧ t'.tree.obj.type = t.tree.obj.type :=
  (typed_restrictTW reorder_perm p t.tree hty).1 t'.tree (restrictCore_mem hc)

theorem typed_restrict (t : Topo) (s : CSet) (flags : Nat) (h : typedT t.tree = true) :
    typedT (restrict t s flags).1.tree = true ∧
    (isNormal t.tree.obj.type = true → isNormal (restrict t s flags).1.tree.obj.type = true) :=
  restrict_ind (P := fun t' => typedT t'.tree = true ∧ (isNormal t.tree.obj.type = true → isNormal t'.tree.obj.type = true))
    t s flags ⟨h, id⟩
    fun p t' _ hc => have ht' := restrictCore_typed t p t' hc h; by rw [← ht'.2]; exact typed_keepStructure _ _ ht'.1

end Hw.Topo.Restrict
