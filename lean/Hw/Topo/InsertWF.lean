/-
  Hw.Topo.InsertWF — the tree the Group-insertion model runs on, built from a topology dump, and the bridge from the C01
  predicate to the hypothesis of the insertion theorems: for every well-formed dump the tree of normal objects keyed by
  cpuset is laminar.
-/
import Hw.Topo.WFTree
import Hw.Topo.InsertLemmas
namespace Hw.Topo.Ins
open Hw.Topo

def iobjH (d : Dump) (o : Obj) : IObj :=
  { gp := o.gp, type := o.type, key := cs o, ckey := o.ccpuset.getD 0,
    dm := (o.attrs[3]?).getD 0 != 0, kind := ((o.attrs[1]?).getD 0).toNat, subkind := ((o.attrs[2]?).getD 0).toNat,
    mem := (d.objs.filter (fun c => c.parent == (o.id : Int) && isMemory c.type)).map (·.gp) }

/-- the normal-children tree below `o` (cut at depth `fuel`; `d.fuel` exceeds the depth of any dump) -/
def treeH (d : Dump) : Nat → Obj → T
  | 0, o => .node (iobjH d o) []
  | f + 1, o => .node (iobjH d o) ((childObjs d o).map (treeH d f))

theorem treeH_key (d : Dump) (f : Nat) (o : Obj) : (treeH d f o).o.key = cs o := by
  cases f <;> rfl

theorem childObjs_mem_objs {d : Dump} {o c : Obj} (h : c ∈ childObjs d o) : c ∈ d.objs := by
  obtain ⟨i, _, hi⟩ := List.mem_filterMap.mp h
  exact Dump.mem_of_obj? hi

theorem lam_treeH {d : Dump} (h : WF d) : ∀ (f : Nat) (o : Obj), o ∈ d.objs → Lam (treeH d f o) := by
  intro f
  induction f with
  | zero => intro o _; exact .mk (fun c hc => by cases hc) List.Pairwise.nil (fun c hc => by cases hc)
  | succ f ih =>
    intro o ho
    refine .mk ?_ ?_ ?_
    · intro c hc
      obtain ⟨x, hx, rfl⟩ := List.mem_map.mp hc
      obtain ⟨hxm, hn, hp⟩ := h.child_parent ho hx
      rw [treeH_key]
      exact eq_of_beq (h.sets_in_parent hxm hp (not_special_of_normal hn)).1
    · rw [List.pairwise_map]
      refine (h.children_disjoint ho).imp fun {a b} hab => ?_
      show dj (treeH d f a).o.key (treeH d f b).o.key
      rw [treeH_key, treeH_key]
      exact eq_of_beq hab
    · intro c hc
      obtain ⟨x, hx, rfl⟩ := List.mem_map.mp hc
      exact ih x (childObjs_mem_objs hx)


/-! ### re-insertion oracle (C01 engine): every loaded topology must be a fixed point of its own construction

The objects of the loaded tree, taken in post-order (children before parents, the order in which a back end discovers a
hierarchy bottom-up) and inserted one by one into an empty root by the MODEL of `hwloc___insert_object_by_cpuset`, must rebuild
exactly the loaded tree (same parents, same order).  This ties the model's set and type-order comparisons to every real
topology of every run, for all object types (the Group-insertion engine only inserts Groups). -/

/-- the tree keyed by complete cpuset (what `hwloc_obj_cmp_sets` compares when both objects have one), Groups unmergeable (they
exist in the final topology), memory children ignored -/
def treeC (d : Dump) : Nat → Obj → T
  | 0, o => .node { gp := o.gp, type := o.type, key := o.ccpuset.getD 0, ckey := o.ccpuset.getD 0, dm := true,
                    kind := ((o.attrs[1]?).getD 0).toNat, subkind := ((o.attrs[2]?).getD 0).toNat } []
  | f + 1, o => .node { gp := o.gp, type := o.type, key := o.ccpuset.getD 0, ckey := o.ccpuset.getD 0, dm := true,
                        kind := ((o.attrs[1]?).getD 0).toNat, subkind := ((o.attrs[2]?).getD 0).toNat }
                  ((childObjs d o).map (treeC d f))

mutual
def postOrder : T → List IObj
  | .node o kids => postOrderL kids ++ [o]
def postOrderL : List T → List IObj
  | [] => []
  | c :: cs => postOrder c ++ postOrderL cs
end

mutual
def preOrder : T → List IObj
  | .node o kids => o :: preOrderL kids
def preOrderL : List T → List IObj
  | [] => []
  | c :: cs => preOrder c ++ preOrderL cs
end

/-- `none` = not applicable (a CPU-less normal object below a non-root parent: it would be inserted below the root),
`some b` = the re-insertion rebuilds the tree -/
def reinsertAgrees (t : T) : Option Bool :=
  match t with
  | .node ro kids =>
    if (postOrderL kids).any (fun o => o.key == 0) then none
    else
      -- bottom-up (children before parents: the new object adopts children) and top-down (parents first: the new object
      -- descends) discovery orders must both rebuild the tree
      let ok (l : List IObj) : Bool := match insAll (.node ro []) l with
        | some t' => rows 0 t' == rows 0 t
        | none => false
      some (ok (postOrderL kids) && ok (preOrderL kids))

end Hw.Topo.Ins
