/-
  Hw.Topo.SetStageNested — memory hierarchies of any depth after the set stage.

  A memory object may hang below another memory object: a NUMA node behind a memory-side cache, itself possibly behind a
  second memory-side cache (`memory_first_child` of a MemCache).  `remove_unused_sets` must therefore RECURSE into memory
  children (clipping only the direct memory children of normal objects leaves the disallowed PUs / nodes in the nested
  ones).  The lemmas here lift the per-node postconditions of the stage (`Post`, within-allowed) along chains of memory
  children of any length (`MemBelow`).
-/
import Hw.Topo.SetStagePre
namespace Hw.Topo.SetStage
open Hw.Topo

/-- `m` is in the memory hierarchy attached to `t`: a memory child of `t`, or a memory child of a memory child, … -/
inductive MemBelow : ST → ST → Prop
  | child {t m : ST} : m ∈ t.mem → MemBelow t m
  | deeper {t c m : ST} : c ∈ t.mem → MemBelow c m → MemBelow t m

theorem AllN.sub {P : SObj → List ST → List ST → Prop} : ∀ t, AllN P t → AllN (fun o k m => AllN P (.node o k m)) t := by
  apply ST.ind
  intro o kids mem ihk ihm h
  exact .node h (fun c hc => ihk c hc (h.kids c hc)) (fun c hc => ihm c hc (h.mem c hc))

/-- what a memory object at any depth below `t` inherits from it; `R`: a per-object property that holds at every node -/
def Inherit (R : SObj → Prop) (t m : SObj) : Prop :=
  m.cpuset = t.cpuset ∧ m.ccpuset = t.ccpuset ∧ Sub m.nodeset t.nodeset ∧ Sub (m.cnodeset.getD 0) (t.cnodeset.getD 0) ∧ R m

theorem memBelow_inherit {R : SObj → Prop} {t m : ST} (hb : MemBelow t m) :
    AllN (fun o k mm => Post o k mm ∧ R o) t → Inherit R t.o m.o := by
  induction hb with
  | @child t m hm =>
    intro h
    cases t with
    | node o kids mem =>
      have hp := h.here.1.inMem m hm
      exact ⟨hp.2.1, hp.2.2, hp.1.2.2.1, hp.1.2.2.2, ((h.mem m hm) |> fun hm' => by cases m with | node mo mk mm => exact hm'.here.2)⟩
  | @deeper t c m hc _ ih =>
    intro h
    cases t with
    | node o kids mem =>
      have hp := h.here.1.inMem c hc
      have hi := ih (h.mem c hc)
      exact ⟨hi.1.trans hp.2.1, hi.2.1.trans hp.2.2, hi.2.2.1.trans hp.1.2.2.1, hi.2.2.2.1.trans hp.1.2.2.2, hi.2.2.2.2⟩

theorem allN_memBelow {R : SObj → Prop} (t : ST) (h : AllN (fun o k mm => Post o k mm ∧ R o) t) :
    AllN (fun o k mm => ∀ m, MemBelow (.node o k mm) m → Inherit R o m.o) t :=
  AllN.imp (fun _ _ _ hs _ hb => memBelow_inherit hb hs) t (AllN.sub t h)

theorem stage_nested_memory (i : In) (h : PreSets i) :
    AllN (fun o k mm => ∀ m, MemBelow (.node o k mm) m → Inherit (fun _ => True) o m.o) (stage i).root :=
  allN_memBelow _ (AllN.imp (fun _ _ _ hp => ⟨hp, trivial⟩) _ (stage_post i h))

theorem stage_nested_memory_allowed (i : In) (h : PreSets i) (hf : i.includeDisallowed = false) :
    AllN (fun o k mm => ∀ m, MemBelow (.node o k mm) m →
      Inherit (fun x => Sub x.cpuset (stage i).allowedC ∧ Sub x.nodeset (stage i).allowedN) o m.o) (stage i).root :=
  allN_memBelow _ (AllN.and _ (stage_post i h) (stage_within_allowed i hf))

/-! ### the shallow variant is wrong

`removeUnusedShallow` clips the memory children of an object inline instead of recursing into them (the natural-looking
"memory children have no normal children, no need to recurse" shortcut).  It agrees with `removeUnused` on trees whose memory
objects have no memory children, and differs as soon as a NUMA node sits behind a memory-side cache. -/

mutual
def removeUnusedShallow (ac an : Nat) : ST → ST
  | .node o kids mem => .node (clip ac an o) (removeUnusedShallowL ac an kids)
      (mem.map (fun m => .node (clip ac an m.o) m.kids m.mem))
def removeUnusedShallowL (ac an : Nat) : List ST → List ST
  | [] => []
  | c :: cs => removeUnusedShallow ac an c :: removeUnusedShallowL ac an cs
end

end Hw.Topo.SetStage
