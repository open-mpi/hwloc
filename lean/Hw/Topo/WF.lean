/-
  Hw.Topo.WF — well-formedness of a topology dump: the declarative conjunction of every clause of
  property C01, written independently of hwloc_topology_check() and over mask (set) semantics.
  All quantifiers are bounded by the dump's lists, so `WF` is decidable; `wfCheck` returns the
  names of the violated clauses (with the offending object) and is proved to be empty exactly
  when `WF` holds.
-/
import Hw.Topo.Types
namespace Hw.Topo

/-! ### auxiliary per-object aggregates over the children lists -/

structure Aux where
  cpuOr : List Nat       -- OR of the cpusets of the normal children
  cpuDisj : List Bool    -- … which are pairwise disjoint
  memOr : List Nat       -- OR of the nodesets of the memory children
  memDisj : List Bool
  totSum : List Nat      -- Σ total_memory over normal and memory children
  nNormal : List Nat     -- number of objects whose parent is this one, per kind
  nMemory : List Nat
  nIO : List Nat
  nMisc : List Nat
  inh : List Nat         -- nodes inherited from the ancestors' memory children (normal objects)
  below : List Nat       -- nodes attached at or below this object (normal objects)
  belowDisj : List Bool
deriving Repr

def getN (l : List Nat) (i : Nat) : Nat := (l[i]?).getD 0
def getB (l : List Bool) (i : Nat) : Bool := (l[i]?).getD true

def orInto (acc : List Nat × List Bool) (p : Nat) (s : Nat) : List Nat × List Bool :=
  let cur := getN acc.1 p
  (acc.1.set p (cur ||| s), if disjoint cur s then acc.2 else acc.2.set p false)

def mkAux (d : Dump) : Aux :=
  let n := d.objs.length
  let z := List.replicate n 0
  let t := List.replicate n true
  let step (a : Aux) (o : Obj) : Aux :=
    if o.parent < 0 then a else
    let p := o.parent.toNat
    let a := { a with totSum := if isNormal o.type || isMemory o.type then a.totSum.set p (getN a.totSum p + o.totalMem) else a.totSum }
    if isNormal o.type then
      let (c, dj) := orInto (a.cpuOr, a.cpuDisj) p (o.cpuset.getD 0)
      { a with cpuOr := c, cpuDisj := dj, nNormal := a.nNormal.set p (getN a.nNormal p + 1) }
    else if isMemory o.type then
      let (c, dj) := orInto (a.memOr, a.memDisj) p (o.nodeset.getD 0)
      { a with memOr := c, memDisj := dj, nMemory := a.nMemory.set p (getN a.nMemory p + 1) }
    else if isIO o.type then { a with nIO := a.nIO.set p (getN a.nIO p + 1) }
    else { a with nMisc := a.nMisc.set p (getN a.nMisc p + 1) }
  let a0 : Aux := ⟨z, t, z, t, z, z, z, z, z, z, z, t⟩
  let a := d.objs.foldl step a0
  -- inherited nodes: top-down (DFS ids: a parent comes before its children)
  let inh := d.objs.foldl (fun (inh : List Nat) (o : Obj) =>
    if isNormal o.type && decide (0 ≤ o.parent) then
      inh.set o.id (getN inh o.parent.toNat ||| getN a.memOr o.parent.toNat) else inh) z
  -- nodes at or below: bottom-up
  let (below, bdisj) := d.objs.foldr (fun (o : Obj) (acc : List Nat × List Bool) =>
    if isNormal o.type then
      -- first add the local memory children of `o` itself, then push to the parent
      let acc := orInto acc o.id (getN a.memOr o.id)
      if 0 ≤ o.parent then orInto acc o.parent.toNat (getN acc.1 o.id) else acc
    else acc) (z, t)
  { a with inh := inh, below := below, belowDisj := bdisj }

/-! ### clauses -/

def flagIncludeDisallowed (d : Dump) : Bool := d.flags % 2 == 1

def idOk (d : Dump) (i : Int) : Bool := i == -1 || (decide (0 ≤ i) && decide (i.toNat < d.objs.length))

def sameKind (t1 t2 : Nat) : Bool :=
  (isNormal t1 && isNormal t2) || (isMemory t1 && isMemory t2) || (isIO t1 && isIO t2) || (isMisc t1 && isMisc t2)

def levelOf (d : Dump) (depth : Int) : Option Level := d.levels.find? (fun l => l.depth == depth)

/-- `hwloc_bitmap_first` of a finite set given as a mask: −1 when empty -/
def firstI (m : Nat) : Int :=
  if m = 0 then -1 else (((List.range (m.log2 + 1)).find? (fun i => m.testBit i)).getD 0 : Nat)

def increasing : List Int → Bool
  | a :: b :: rest => decide (a < b) && increasing (b :: rest)
  | _ => true

/-- clauses about one object; each returns `true` when satisfied -/
def objClauses : List (String × (Dump → Aux → Obj → Bool)) := [
  ("id-is-position", fun d _ o => (d.objs[o.id]?).map (·.id) == some o.id),
  ("type-in-range", fun _ _ o => o.type < tMAX),
  ("not-filtered-out", fun d _ o => (d.filters[o.type]?).getD 0 != 1),
  -- parent / sibling links, arity, sibling_rank
  ("root-or-parent", fun d _ o => if o.id == 0 then o.parent == -1 else decide (0 ≤ o.parent) && idOk d o.parent && o.parent != (o.id : Int)),
  ("parent-kind", fun d _ o => match d.obj? o.parent with
      | none => o.id == 0
      | some p =>
        -- normal and memory children hang below normal or memory (memcache) parents; I/O below normal or I/O; Misc anywhere
        if isNormal o.type then isNormal p.type
        else if isMemory o.type then (isNormal p.type || p.type == tMEMCACHE)
        else if isIO o.type then (isNormal p.type || isIO p.type)
        else true),
  ("normal-child-slot", fun d _ o => match d.obj? o.parent with
      | none => true
      | some p => if isNormal o.type then (p.children[o.rank]?) == some (o.id : Int) else true),
  ("children-array", fun d _ o => o.children.length == o.arity &&
      o.firstChild == (o.children.head?).getD (-1) && o.lastChild == (o.children.getLast?).getD (-1) &&
      (List.range o.arity).all (fun i => match d.obj? ((o.children[i]?).getD (-2)) with
        | none => false
        | some c => c.parent == (o.id : Int) && c.rank == i && isNormal c.type &&
                    c.prevSib == (if i = 0 then -1 else (o.children[i-1]?).getD (-2)) &&
                    c.nextSib == (o.children[i+1]?).getD (-1))),
  ("children-counts", fun _ a o => getN a.nNormal o.id == o.arity && getN a.nMemory o.id == o.marity &&
      getN a.nIO o.id == o.ioarity && getN a.nMisc o.id == o.miscarity),
  ("special-list-heads", fun d _ o =>
      let chk (first : Int) (ar : Nat) (kind : Nat → Bool) : Bool :=
        if ar == 0 then first == -1 else match d.obj? first with
          | none => false
          | some c => c.parent == (o.id : Int) && c.rank == 0 && kind c.type && c.prevSib == -1
      chk o.memFirst o.marity isMemory && chk o.ioFirst o.ioarity isIO && chk o.miscFirst o.miscarity isMisc),
  ("special-list-links", fun d _ o => match d.obj? o.parent with
      | none => true
      | some p =>
        if isNormal o.type then true else
        let ar := if isMemory o.type then p.marity else if isIO o.type then p.ioarity else p.miscarity
        let first := if isMemory o.type then p.memFirst else if isIO o.type then p.ioFirst else p.miscFirst
        decide (o.rank < ar) && ((o.rank == 0) == (first == (o.id : Int))) && ((o.rank == 0) == (o.prevSib == -1)) &&
        (match d.obj? o.nextSib with
          | none => o.nextSib == -1 && o.rank + 1 == ar
          | some nx => nx.parent == o.parent && sameKind nx.type o.type && nx.rank == o.rank + 1 && nx.prevSib == (o.id : Int)) &&
        (match d.obj? o.prevSib with
          | none => o.prevSib == -1
          | some pv => pv.parent == o.parent && sameKind pv.type o.type && pv.rank + 1 == o.rank && pv.nextSib == (o.id : Int))),
  ("no-children-where-forbidden", fun _ _ o =>
      (if o.type == tPU then o.arity == 0 && o.marity == 0 else true) &&
      (if o.type == tNUMA then o.arity == 0 && o.marity == 0 else true) &&
      (if isMemory o.type then o.arity == 0 && o.ioarity == 0 else true) &&
      (if isIO o.type then o.arity == 0 && o.marity == 0 else true) &&
      (if isMisc o.type then o.arity == 0 && o.marity == 0 && o.ioarity == 0 else true)),
  -- depth / level membership / cousins
  ("depth-by-type", fun d _ o => match specialDepth o.type with
      | some sd => o.depth == sd
      | none => decide (0 ≤ o.depth) && decide (o.depth.toNat < d.depth)),
  ("depth-increases", fun d _ o => match d.obj? o.parent with
      | none => true
      | some p => if isNormal o.type then decide (p.depth < o.depth) else true),
  ("in-its-level", fun d _ o => match levelOf d o.depth with
      | none => false
      | some l => (l.objs[o.lidx]?) == some (o.id : Int) && l.type == (o.type : Int) &&
                  o.prevCousin == (if o.lidx = 0 then -1 else (l.objs[o.lidx - 1]?).getD (-2)) &&
                  o.nextCousin == (l.objs[o.lidx + 1]?).getD (-1)),
  -- sets
  ("sets-presence", fun _ _ o =>
      if isSpecial o.type then o.cpuset.isNone && o.ccpuset.isNone && o.nodeset.isNone && o.cnodeset.isNone
      else o.cpuset.isSome && o.ccpuset.isSome && o.nodeset.isSome && o.cnodeset.isSome),
  ("set-in-complete", fun _ _ o => subset (o.cpuset.getD 0) (o.ccpuset.getD 0) && subset (o.nodeset.getD 0) (o.cnodeset.getD 0)),
  ("set-in-parent", fun d _ o => match d.obj? o.parent with
      | none => true
      | some p => if isSpecial o.type then true else
          subset (o.cpuset.getD 0) (p.cpuset.getD 0) && subset (o.ccpuset.getD 0) (p.ccpuset.getD 0) &&
          subset (o.nodeset.getD 0) (p.nodeset.getD 0) && subset (o.cnodeset.getD 0) (p.cnodeset.getD 0)),
  ("pu-cpuset", fun _ _ o => if o.type == tPU then
      decide (0 ≤ o.osidx) && o.cpuset == some (single o.osidx.toNat) && o.ccpuset == some (single o.osidx.toNat) else true),
  ("numa-nodeset", fun _ _ o => if o.type == tNUMA then
      decide (0 ≤ o.osidx) && o.nodeset == some (single o.osidx.toNat) && o.cnodeset == some (single o.osidx.toNat) else true),
  ("cpuset-is-disjoint-union-of-children", fun _ a o =>
      if isNormal o.type && o.type != tPU then o.cpuset == some (getN a.cpuOr o.id) && getB a.cpuDisj o.id else true),
  ("memory-child-shares-cpuset", fun d _ o => match d.obj? o.parent with
      | none => true
      | some p => if isMemory o.type then o.cpuset == p.cpuset else true),
  ("memcache-nodeset", fun _ a o => if o.type == tMEMCACHE then o.nodeset == some (getN a.memOr o.id) && getB a.memDisj o.id else true),
  ("nodeset-decomposition", fun _ a o =>
      if isNormal o.type then
        getB a.memDisj o.id && getB a.belowDisj o.id && disjoint (getN a.inh o.id) (getN a.below o.id) &&
        o.nodeset == some (getN a.inh o.id ||| getN a.below o.id)
      else true),
  ("pu-allowed", fun d _ o => if o.type == tPU && !flagIncludeDisallowed d then
      subset (o.cpuset.getD 0) (d.allowedCpuset.getD 0) else true),
  ("numa-allowed", fun d _ o => if o.type == tNUMA && !flagIncludeDisallowed d then
      subset (o.nodeset.getD 0) (d.allowedNodeset.getD 0) else true),
  -- memory
  ("total-memory", fun _ a o =>
      o.totalMem == (if o.type == tNUMA then ((o.attrs[0]?).getD 0).toNat else 0) + getN a.totSum o.id),
  -- type-specific attributes
  ("cache-attrs", fun _ _ o =>
      let depth := (o.attrs[1]?).getD 0
      let ctype := (o.attrs[4]?).getD 0
      if isDCache o.type then (ctype == 0 || ctype == 1) && depth == ((o.type - tL1 + 1 : Nat) : Int)
      else if isICache o.type then ctype == 2 && depth == ((o.type - tL1I + 1 : Nat) : Int)
      else true),
  ("group-depth", fun _ _ o => if o.type == tGROUP then (o.attrs[0]?).getD 0 != 4294967295 else true),
  -- order of children lists (asserted by hwloc__check_children_cpusets / hwloc__check_nodesets): normal children by the first
  -- bit of their complete_cpuset with the CPU-less ones last, memory children by the first bit of their complete_nodeset
  ("siblings-ordered", fun d _ o => match d.obj? o.nextSib with
      | none => true
      | some nx =>
        if isNormal o.type && isNormal nx.type then
          decide (firstI (nx.ccpuset.getD 0) < 0) ||
          (decide (0 ≤ firstI (o.ccpuset.getD 0)) && decide (firstI (o.ccpuset.getD 0) < firstI (nx.ccpuset.getD 0)))
        else if isMemory o.type && isMemory nx.type then
          decide (firstI (o.cnodeset.getD 0) < firstI (nx.cnodeset.getD 0))
        else true)
]

/-- clauses about the topology as a whole -/
def topClauses : List (String × (Dump → Aux → Bool)) := [
  ("nobjs", fun d _ => d.objs.length == d.nobjs && decide (0 < d.nobjs)),
  ("root-is-machine", fun d _ => d.root == 0 && (match d.objs[0]? with
      | some r => r.type == tMACHINE && r.depth == 0 && r.parent == -1
      | none => false)),
  ("machine-only-at-root", fun d _ => d.objs.all (fun o => o.type != tMACHINE || o.id == 0)),
  ("level0-is-root", fun d _ => match levelOf d 0 with
      | some l => l.objs == [0] && l.type == (tMACHINE : Int)
      | none => false),
  ("pu-level-deepest", fun d _ => decide (0 < d.depth) && (match levelOf d ((d.depth : Int) - 1) with
      | some l => l.type == (tPU : Int) && !l.objs.isEmpty
      | none => false) &&
      d.objs.all (fun o => o.type != tPU || o.depth == (d.depth : Int) - 1)),
  ("numa-exists", fun d _ => match levelOf d (-3) with
      | some l => !l.objs.isEmpty
      | none => false),
  ("levels-listed", fun d _ =>
      (List.range d.depth).all (fun k => (levelOf d (k : Int)).isSome) &&
      [(-3 : Int), -4, -5, -6, -7, -8].all (fun k => (levelOf d k).isSome) &&
      d.levels.length == d.depth + 6),
  ("levels-cover-objects", fun d _ => (d.levels.map (fun l => l.objs.length)).sum == d.objs.length),
  ("level-entries-valid", fun d _ => d.levels.all (fun l =>
      (List.range l.objs.length).all (fun i => match d.obj? ((l.objs[i]?).getD (-2)) with
        | some o => o.depth == l.depth && o.lidx == i
        | none => false))),
  ("normal-level-types", fun d _ => d.levels.all (fun l =>
      if 0 ≤ l.depth then decide (0 ≤ l.type) && isNormal l.type.toNat &&
        (l.type != (tPU : Int) || l.depth == (d.depth : Int) - 1) &&
        (l.type != (tMACHINE : Int) || l.depth == 0)
      else (specialDepth l.type.toNat) == some l.depth && decide (0 ≤ l.type))),
  ("type-depth-inverse", fun d _ => d.typeDepths.length == tMAX &&
      (List.range tMAX).all (fun t =>
        let td := (d.typeDepths[t]?).getD 0
        match specialDepth t with
        | some sd => td == sd
        | none =>
          let ls := d.levels.filter (fun l => decide (0 ≤ l.depth) && l.type == (t : Int))
          -- several levels of one type (asymmetric trees; typically Groups): HWLOC_TYPE_DEPTH_MULTIPLE
          match ls with
          | [] => td == -1
          | [l] => td == l.depth
          | _ => td == -2)),
  ("allowed-sets", fun d _ => match d.objs[0]? with
      | some r =>
        d.allowedCpuset.isSome && d.allowedNodeset.isSome &&
        subset (d.allowedCpuset.getD 0) (r.cpuset.getD 0) && subset (d.allowedNodeset.getD 0) (r.nodeset.getD 0) &&
        (flagIncludeDisallowed d || (d.allowedCpuset == r.cpuset && d.allowedNodeset == r.nodeset))
      | none => false),
  ("pu-osindex-unique", fun d _ => ((d.objs.filter (fun o => o.type == tPU)).map (·.osidx)).Nodup),
  ("numa-osindex-unique", fun d _ => ((d.objs.filter (fun o => o.type == tNUMA)).map (·.osidx)).Nodup),
  ("gp-index-unique", fun d _ => (d.objs.map (·.gp)).Nodup),
  ("normal-levels-nonempty", fun d _ => d.levels.all (fun l => decide (l.depth < 0) || !l.objs.isEmpty)),
  ("depth-le-objects", fun d _ => decide (d.depth ≤ d.objs.length)),
  -- every level lists its objects in the order of the tree (ids are DFS order): hwloc_connect_levels and
  -- hwloc_list_special_objects walk the tree left to right, logical indexes and cousin links follow
  ("levels-in-tree-order", fun d _ => d.levels.all (fun l => increasing l.objs))
]

/-- **well-formedness** (C01): every clause holds, for the topology and for every object -/
def WF (d : Dump) : Prop :=
  (∀ c ∈ topClauses, c.2 d (mkAux d) = true) ∧ ∀ c ∈ objClauses, ∀ o ∈ d.objs, c.2 d (mkAux d) o = true

/-- executable oracle: the violated clauses (topology-level names; object-level `name@id`) -/
def wfCheck (d : Dump) : List String :=
  let a := mkAux d
  (topClauses.filter (fun c => !c.2 d a)).map (·.1) ++
  (objClauses.map (fun c => (d.objs.filter (fun o => !c.2 d a o)).map (fun o => c.1 ++ "@" ++ toString o.id))).flatten

theorem wfCheck_iff (d : Dump) : wfCheck d = [] ↔ WF d := by
  unfold wfCheck WF
  simp only [List.append_eq_nil_iff, List.map_eq_nil_iff, List.filter_eq_nil_iff, List.flatten_eq_nil_iff,
    List.mem_map, forall_exists_index, and_imp, forall_apply_eq_imp_iff₂, Bool.not_eq_true', Bool.not_eq_false]

instance (d : Dump) : Decidable (WF d) := decidable_of_iff _ (wfCheck_iff d)

end Hw.Topo
