/-
  Hw.Topo.AuxFold — what the aggregates of `Hw.Topo.mkAux` (the fold that accumulates, per parent, the OR / disjointness of
  the children's sets, the memory sums and the child counts) are, for ANY dump: the value at index `i` is the fold of a
  per-cell step over the objects whose parent link is `i`.
-/
import Hw.Topo.WF
import Hw.Base.ListLemmas
namespace Hw.Topo

def auxStep (a : Aux) (o : Obj) : Aux :=
    if o.parent < 0 then a else
    let p := o.parent.toNat
    let a := { a with totSum := if isNormal o.type || isMemory o.type then a.totSum.set p (getN a.totSum p + o.totalMem) else a.totSum }
    if isNormal o.type then
      let (c, dj) := orInto (a.cpuOr, a.cpuDisj) p (o.cpuset.getD 0)
      { a with cpuOr := c, cpuDisj := dj, nNormal := a.nNormal.set p (getN a.nNormal p + 1) }
    else if isMemory o.type then
      let (c, dj) := orInto (a.memOr, a.memDisj) p (o.nodeset.getD 0)
      { a with memOr := c, memDisj := dj, nMemory := a.nMemory.set p (getN a.nMemory p + 1) }
    else if isIO o.type then { a with nIO := a.nIO.set p (getN a.nIO p + 1) }
    else { a with nMisc := a.nMisc.set p (getN a.nMisc p + 1) }

def aux0 (n : Nat) : Aux :=
  let z := List.replicate n 0
  let t := List.replicate n true
  ⟨z, t, z, t, z, z, z, z, z, z, z, t⟩

def auxFold (d : Dump) : Aux := d.objs.foldl auxStep (aux0 d.objs.length)

theorem mkAux_fold (d : Dump) :
    (mkAux d).cpuOr = (auxFold d).cpuOr ∧ (mkAux d).cpuDisj = (auxFold d).cpuDisj ∧ (mkAux d).memOr = (auxFold d).memOr ∧
    (mkAux d).memDisj = (auxFold d).memDisj ∧ (mkAux d).totSum = (auxFold d).totSum ∧ (mkAux d).nNormal = (auxFold d).nNormal ∧
    (mkAux d).nMemory = (auxFold d).nMemory ∧ (mkAux d).nIO = (auxFold d).nIO ∧ (mkAux d).nMisc = (auxFold d).nMisc :=
  ⟨rfl, rfl, rfl, rfl, rfl, rfl, rfl, rfl, rfl⟩

structure Cell where
  cpuOr : Nat
  cpuDisj : Bool
  memOr : Nat
  memDisj : Bool
  totSum : Nat
  nNormal : Nat
  nMemory : Nat
  nIO : Nat
  nMisc : Nat
deriving Repr, DecidableEq

def cellOf (a : Aux) (i : Nat) : Cell :=
  ⟨getN a.cpuOr i, getB a.cpuDisj i, getN a.memOr i, getB a.memDisj i, getN a.totSum i, getN a.nNormal i, getN a.nMemory i,
   getN a.nIO i, getN a.nMisc i⟩

theorem cellOf_mem (a : Aux) (i : Nat) : (cellOf a i).memOr = getN a.memOr i ∧ (cellOf a i).memDisj = getB a.memDisj i := ⟨rfl, rfl⟩

theorem mkAux_cpuOr (d : Dump) (i : Nat) : getN (mkAux d).cpuOr i = (cellOf (auxFold d) i).cpuOr :=
  congrArg (getN · i) (mkAux_fold d).1
theorem mkAux_cpuDisj (d : Dump) (i : Nat) : getB (mkAux d).cpuDisj i = (cellOf (auxFold d) i).cpuDisj :=
  congrArg (getB · i) (mkAux_fold d).2.1
theorem mkAux_memOr (d : Dump) (i : Nat) : getN (mkAux d).memOr i = (cellOf (auxFold d) i).memOr :=
  congrArg (getN · i) (mkAux_fold d).2.2.1
theorem mkAux_memDisj (d : Dump) (i : Nat) : getB (mkAux d).memDisj i = (cellOf (auxFold d) i).memDisj :=
  congrArg (getB · i) (mkAux_fold d).2.2.2.1
theorem mkAux_totSum (d : Dump) (i : Nat) : getN (mkAux d).totSum i = (cellOf (auxFold d) i).totSum :=
  congrArg (getN · i) (mkAux_fold d).2.2.2.2.1
theorem mkAux_nNormal (d : Dump) (i : Nat) : getN (mkAux d).nNormal i = (cellOf (auxFold d) i).nNormal :=
  congrArg (getN · i) (mkAux_fold d).2.2.2.2.2.1
theorem mkAux_nMemory (d : Dump) (i : Nat) : getN (mkAux d).nMemory i = (cellOf (auxFold d) i).nMemory :=
  congrArg (getN · i) (mkAux_fold d).2.2.2.2.2.2.1
theorem mkAux_nIO (d : Dump) (i : Nat) : getN (mkAux d).nIO i = (cellOf (auxFold d) i).nIO :=
  congrArg (getN · i) (mkAux_fold d).2.2.2.2.2.2.2.1
theorem mkAux_nMisc (d : Dump) (i : Nat) : getN (mkAux d).nMisc i = (cellOf (auxFold d) i).nMisc :=
  congrArg (getN · i) (mkAux_fold d).2.2.2.2.2.2.2.2

def cellStep (c : Cell) (o : Obj) : Cell :=
  let ts := if isNormal o.type || isMemory o.type then c.totSum + o.totalMem else c.totSum
  if isNormal o.type then
    { c with totSum := ts, cpuOr := c.cpuOr ||| o.cpuset.getD 0, cpuDisj := c.cpuDisj && disjoint c.cpuOr (o.cpuset.getD 0),
             nNormal := c.nNormal + 1 }
  else if isMemory o.type then
    { c with totSum := ts, memOr := c.memOr ||| o.nodeset.getD 0, memDisj := c.memDisj && disjoint c.memOr (o.nodeset.getD 0),
             nMemory := c.nMemory + 1 }
  else if isIO o.type then { c with totSum := ts, nIO := c.nIO + 1 }
  else { c with totSum := ts, nMisc := c.nMisc + 1 }

def parentIs (i : Nat) (o : Obj) : Bool := decide (0 ≤ o.parent) && o.parent.toNat == i

theorem parentIs_iff (i : Nat) (o : Obj) : parentIs i o = true ↔ 0 ≤ o.parent ∧ o.parent.toNat = i := by
  simp only [parentIs, Bool.and_eq_true, decide_eq_true_eq, beq_iff_eq]

structure Sized (n : Nat) (a : Aux) : Prop where
  h1 : a.cpuOr.length = n
  h2 : a.cpuDisj.length = n
  h3 : a.memOr.length = n
  h4 : a.memDisj.length = n
  h5 : a.totSum.length = n
  h6 : a.nNormal.length = n
  h7 : a.nMemory.length = n
  h8 : a.nIO.length = n
  h9 : a.nMisc.length = n

theorem getN_set (l : List Nat) (p i v : Nat) : getN (l.set p v) i = if p = i ∧ p < l.length then v else getN l i :=
  getD_set l p i v 0

theorem getB_set (l : List Bool) (p i : Nat) (v : Bool) : getB (l.set p v) i = if p = i ∧ p < l.length then v else getB l i :=
  getD_set l p i v true

theorem set_getN (l : List Nat) (p : Nat) : l.set p (getN l p) = l := set_getD l p 0

theorem set_getB (l : List Bool) (p : Nat) : l.set p (getB l p) = l := set_getD l p true

theorem orInto_eq (acc : List Nat × List Bool) (p s : Nat) :
    orInto acc p s = (acc.1.set p (getN acc.1 p ||| s), acc.2.set p (getB acc.2 p && disjoint (getN acc.1 p) s)) := by
  unfold orInto
  dsimp only
  cases disjoint (getN acc.1 p) s
  · rw [if_neg Bool.false_ne_true, Bool.and_false]
  · rw [if_pos rfl, Bool.and_true, set_getB]

theorem orInto_length (acc : List Nat × List Bool) (p s : Nat) :
    (orInto acc p s).1.length = acc.1.length ∧ (orInto acc p s).2.length = acc.2.length := by
  rw [orInto_eq]
  exact ⟨List.length_set, List.length_set⟩

/-! ### one step writes one cell: the parent's -/

def setCell (a : Aux) (p : Nat) (c : Cell) : Aux :=
  { a with cpuOr := a.cpuOr.set p c.cpuOr, cpuDisj := a.cpuDisj.set p c.cpuDisj, memOr := a.memOr.set p c.memOr,
           memDisj := a.memDisj.set p c.memDisj, totSum := a.totSum.set p c.totSum, nNormal := a.nNormal.set p c.nNormal,
           nMemory := a.nMemory.set p c.nMemory, nIO := a.nIO.set p c.nIO, nMisc := a.nMisc.set p c.nMisc }

theorem auxStep_eq (a : Aux) (o : Obj) :
    auxStep a o = if o.parent < 0 then a else setCell a o.parent.toNat (cellStep (cellOf a o.parent.toNat) o) := by
  unfold auxStep
  by_cases h : o.parent < 0
  · rw [if_pos h, if_pos h]
  · rw [if_neg h, if_neg h]
    unfold setCell cellStep cellOf
    -- a field the kind leaves alone is written back as it was (`set_getN`, `set_getB`)
    by_cases hN : isNormal o.type = true
    · simp [hN, orInto_eq, set_getN, set_getB]
    · by_cases hM : isMemory o.type = true
      · simp [hN, hM, orInto_eq, set_getN, set_getB]
      · by_cases hI : isIO o.type = true
        · simp [hN, hM, hI, set_getN, set_getB]
        · simp [hN, hM, hI, set_getN, set_getB]

theorem setCell_sized (n : Nat) (a : Aux) (p : Nat) (c : Cell) (h : Sized n a) : Sized n (setCell a p c) :=
  ⟨List.length_set.trans h.h1, List.length_set.trans h.h2, List.length_set.trans h.h3, List.length_set.trans h.h4,
   List.length_set.trans h.h5, List.length_set.trans h.h6, List.length_set.trans h.h7, List.length_set.trans h.h8,
   List.length_set.trans h.h9⟩

theorem cellOf_setCell (n : Nat) (a : Aux) (p i : Nat) (c : Cell) (h : Sized n a) (hi : i < n) :
    cellOf (setCell a p c) i = if p = i then c else cellOf a i := by
  obtain ⟨h1, h2, h3, h4, h5, h6, h7, h8, h9⟩ := h
  unfold cellOf setCell
  by_cases hp : p = i
  · simp [hp, getN_set, getB_set, h1, h2, h3, h4, h5, h6, h7, h8, h9, hi]
  · simp [hp, getN_set, getB_set]

theorem auxStep_sized (n : Nat) (a : Aux) (o : Obj) (h : Sized n a) : Sized n (auxStep a o) := by
  rw [auxStep_eq]
  split
  · exact h
  · exact setCell_sized n a _ _ h

theorem cell_step (n : Nat) (a : Aux) (o : Obj) (i : Nat) (hs : Sized n a) (hi : i < n) :
    cellOf (auxStep a o) i = if parentIs i o then cellStep (cellOf a i) o else cellOf a i := by
  rw [auxStep_eq]
  unfold parentIs
  by_cases hneg : o.parent < 0
  · rw [if_pos hneg, show decide (0 ≤ o.parent) = false by simp; omega]; rfl
  · rw [if_neg hneg, cellOf_setCell n a _ i _ hs hi, show decide (0 ≤ o.parent) = true by simp; omega, Bool.true_and]
    by_cases hp : o.parent.toNat = i
    · simp [hp]
    · simp [hp]

theorem cell_fold (n : Nat) (i : Nat) (hi : i < n) : ∀ (l : List Obj) (a : Aux), Sized n a →
    cellOf (l.foldl auxStep a) i = (l.filter (parentIs i)).foldl cellStep (cellOf a i) := by
  intro l
  induction l with
  | nil => intro a _; rfl
  | cons o l ih =>
    intro a hs
    rw [List.foldl_cons, ih _ (auxStep_sized n a o hs), cell_step n a o i hs hi, List.filter_cons]
    split <;> rfl

def cell0 : Cell := ⟨0, true, 0, true, 0, 0, 0, 0, 0⟩

theorem aux0_sized (n : Nat) : Sized n (aux0 n) := by
  constructor <;> simp [aux0]

theorem auxFold_sized (d : Dump) : Sized d.objs.length (auxFold d) :=
  List.foldlRecOn d.objs auxStep (aux0_sized _) fun a ha o _ => auxStep_sized d.objs.length a o ha

theorem cellOf_aux0 (n i : Nat) : cellOf (aux0 n) i = cell0 := by
  simp only [cellOf, aux0, getN, getB, cell0, getD_replicate]

theorem auxFold_cell (d : Dump) (i : Nat) (hi : i < d.objs.length) :
    cellOf (auxFold d) i = (d.objs.filter (parentIs i)).foldl cellStep cell0 := by
  unfold auxFold
  rw [cell_fold d.objs.length i hi d.objs _ (aux0_sized _), cellOf_aux0]

end Hw.Topo
