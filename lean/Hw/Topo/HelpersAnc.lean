/-
  Hw.Topo.HelpersAnc — the ancestor helpers of include/hwloc/helper.h (488-575) on a dump satisfying `Tree`.
  The parent links followed from an object list its ancestors-or-self in order (`parentChain_spec`; the measure is the
  DFS numbering `T_order`, parent id < child id, which objects of every kind have), every climb
  `while (p && cond p) p = p->parent` is a `find?` in that list (`climbWhile_eq_find`), and searching the list is
  specified once (`parentChain_find`).  From the common ancestor: the cpusets of the normal objects are a laminar
  family (`Tree.laminar`), hence the objects of a normal level are pairwise disjoint (`Tree.level_disjoint`).
-/
import Hw.Topo.HelpersBasic
namespace Hw.Topo

theorem Tree.parent_normal {d : Dump} (ht : Tree d) {o p : Obj} (ho : o ∈ d.objs) (hn : isNormal o.type = true)
    (hp : d.obj? o.parent = some p) :
    p ∈ d.objs ∧ isNormal p.type = true ∧ p.depth < o.depth ∧ subset (cs o) (cs p) = true := by
  rcases ht.parent o ho with ⟨_, h1⟩ | ⟨_, p', hp', hpm, hnorm, _⟩
  · rw [h1, Dump.obj?_neg_one] at hp; cases hp
  · rw [hp] at hp'; cases hp'
    exact ⟨hpm, (hnorm hn).1, (hnorm hn).2.1, (hnorm hn).2.2.2.1⟩

/-! ### ancestors of ALL objects (normal, memory, I/O, Misc): the DFS numbering is the measure -/

theorem Tree.parent_cases_all {d : Dump} (ht : Tree d) {o : Obj} (ho : o ∈ d.objs) :
    (o.id = 0 ∧ d.obj? o.parent = none) ∨
    (o.id ≠ 0 ∧ ∃ p, d.obj? o.parent = some p ∧ p ∈ d.objs ∧ p.id < o.id) := by
  rcases ht.parent o ho with ⟨h0, hp⟩ | ⟨h0, p, hp, hpm, _, _⟩
  · left; refine ⟨h0, ?_⟩; rw [hp]; exact Dump.obj?_neg_one d
  · right
    have h1 := ht.obj?_some_id hp
    have h2 := ht.order o ho h0
    exact ⟨h0, p, hp, hpm, by omega⟩

theorem Tree.id_lt_length {d : Dump} (ht : Tree d) {o : Obj} (ho : o ∈ d.objs) : o.id < d.objs.length := by
  have h := ht.obj?_id ho
  rw [Dump.obj?_natCast] at h
  exact (List.getElem?_eq_some_iff.1 h).1

/-- the pointer-chase fuel covers the parent chain of every object -/
theorem Tree.id_fuel {d : Dump} (ht : Tree d) {o : Obj} (ho : o ∈ d.objs) : o.id + 1 ≤ d.fuel :=
  Nat.succ_le_succ (Nat.le_of_lt (ht.id_lt_length ho))

theorem Tree.objs_sorted {d : Dump} (ht : Tree d) : d.objs.Pairwise (fun x y => x.id < y.id) := by
  rw [List.pairwise_iff_getElem]
  intro i j hi hj hij
  have h1 := ht.ids (d.objs[i], i) (List.mem_zipIdx_iff_getElem?.2 (List.getElem?_eq_getElem hi))
  have h2 := ht.ids (d.objs[j], j) (List.mem_zipIdx_iff_getElem?.2 (List.getElem?_eq_getElem hj))
  simp only at h1 h2
  omega

theorem ancSelf_all {d : Dump} (ht : Tree d) {a o : Obj} (h : AncSelf d a o) (ho : o ∈ d.objs) :
    a ∈ d.objs ∧ a.id ≤ o.id ∧ (a.id = o.id → a = o) := by
  induction h with
  | refl => exact ⟨ho, Nat.le_refl _, fun _ => rfl⟩
  | up hp _ ih =>
    rcases ht.parent_cases_all ho with ⟨_, hnone⟩ | ⟨_, p', hp', hpm, hlt⟩
    · rw [hnone] at hp; cases hp
    · rw [hp'] at hp; cases hp
      obtain ⟨h1, h2, _⟩ := ih hpm
      exact ⟨h1, by omega, fun h => by omega⟩

theorem ancSelf_antisymm_all {d : Dump} (ht : Tree d) {a b : Obj} (h1 : AncSelf d a b) (h2 : AncSelf d b a)
    (hb : b ∈ d.objs) : a = b := by
  obtain ⟨ha, hle, heq⟩ := ancSelf_all ht h1 hb
  obtain ⟨_, hle', _⟩ := ancSelf_all ht h2 ha
  exact heq (by omega)

theorem ancSelf_chain_all {d : Dump} (ht : Tree d) {a b o : Obj} (ha : AncSelf d a o) (hb : AncSelf d b o)
    (ho : o ∈ d.objs) (hle : a.id ≤ b.id) : AncSelf d a b := by
  rcases ha.comparable hb with h | h
  · exact h
  · obtain ⟨_, hle', heq⟩ := ancSelf_all ht h (ancSelf_all ht ha ho).1
    rw [heq (Nat.le_antisymm hle' hle)]; exact .refl _

theorem root_ancSelf_all {d : Dump} (ht : Tree d) {r o : Obj} (hr : r ∈ d.objs) (hr0 : r.id = 0)
    (ho : o ∈ d.objs) : AncSelf d r o := by
  induction hid : o.id using Nat.strongRecOn generalizing o with
  | _ n ih =>
    rcases ht.parent_cases_all ho with ⟨h0, _⟩ | ⟨_, p, hp, hpm, hlt⟩
    · rw [ht.eq_of_id_eq hr ho (by rw [hr0, h0])]; exact .refl _
    · exact .up hp (ih p.id (by omega) hpm rfl)

/-! ### ancestors of normal objects: the depth is a measure as well -/

theorem Tree.ancSelf_normal {d : Dump} (ht : Tree d) {a o : Obj} (h : AncSelf d a o) (ho : o ∈ d.objs)
    (hn : isNormal o.type = true) :
    a ∈ d.objs ∧ isNormal a.type = true ∧ a.depth ≤ o.depth ∧ (a.depth = o.depth → a = o) ∧
      subset (cs o) (cs a) = true := by
  induction h with
  | refl => exact ⟨ho, hn, Int.le_refl _, fun _ => rfl, subset_refl _⟩
  | up hp _ ih =>
    obtain ⟨hpm, hpn, hlt, hsub⟩ := ht.parent_normal ho hn hp
    obtain ⟨h1, h2, h3, _, h5⟩ := ih hpm hpn
    exact ⟨h1, h2, by omega, fun h => by omega, subset_trans hsub h5⟩

theorem ancSelf_antisymm {d : Dump} (ht : Tree d) {a b : Obj} (h1 : AncSelf d a b) (h2 : AncSelf d b a)
    (hb : b ∈ d.objs) (hn : isNormal b.type = true) : a = b := ancSelf_antisymm_all ht h1 h2 hb

theorem ancSelf_chain {d : Dump} (ht : Tree d) {a b o : Obj} (ha : AncSelf d a o) (hb : AncSelf d b o)
    (ho : o ∈ d.objs) (hn : isNormal o.type = true) (hle : a.depth ≤ b.depth) : AncSelf d a b := by
  rcases Nat.le_total a.id b.id with h | h
  · exact ancSelf_chain_all ht ha hb ho h
  · -- otherwise `b` is above `a`, hence not deeper: they are equally deep and equal
    have hba := ancSelf_chain_all ht hb ha ho h
    obtain ⟨ham, han, _⟩ := ht.ancSelf_normal ha ho hn
    obtain ⟨_, _, hd, heq, _⟩ := ht.ancSelf_normal hba ham han
    rw [heq (by omega)]; exact .refl _

theorem root_ancSelf {d : Dump} (ht : Tree d) {r o : Obj} (hr : r ∈ d.objs) (hr0 : r.id = 0)
    (ho : o ∈ d.objs) (hn : isNormal o.type = true) : AncSelf d r o := root_ancSelf_all ht hr hr0 ho

theorem Tree.ancFactsL {d : Dump} (ht : Tree d) {a o : Obj} (h : AncSelf d a o) (ho : o ∈ d.objs)
    (hn : isNormal o.type = true ∨ isMemory o.type = true) :
    a ∈ d.objs ∧ (isNormal a.type = true ∨ isMemory a.type = true) ∧ subset (cs o) (cs a) = true := by
  induction h with
  | refl => exact ⟨ho, hn, subset_refl _⟩
  | @up o p hp _ ih =>
    rcases ht.parent o ho with ⟨_, hpar⟩ | ⟨_, p', hp', hp'm, hnorm, hmem⟩
    · rw [hpar] at hp; simp [Dump.obj?] at hp
    · rw [hp] at hp'; cases hp'
      rcases hn with hn | hm
      · obtain ⟨hpn, _, _, hsub, _⟩ := hnorm hn
        obtain ⟨h1, h2, h3⟩ := ih hp'm (Or.inl hpn)
        exact ⟨h1, h2, subset_trans hsub h3⟩
      · obtain ⟨hcs, hpn⟩ := hmem hm
        obtain ⟨h1, h2, h3⟩ := ih hp'm hpn
        have hsub : subset (cs o) (cs p) = true := by
          unfold cs; rw [hcs]; exact subset_refl _
        exact ⟨h1, h2, subset_trans hsub h3⟩

/-! ### the parent chain as a list -/

theorem ancSelf_iff_parent {d : Dump} {y o p : Obj} (hp : d.obj? o.parent = some p) :
    AncSelf d y o ↔ y = o ∨ AncSelf d y p := by
  constructor
  · intro h
    cases h with
    | refl => exact .inl rfl
    | up hp2 h => rw [hp] at hp2; cases hp2; exact .inr h
  · intro h
    rcases h with h | h
    · rw [h]; exact .refl _
    · exact .up hp h

theorem ancSelf_iff_root {d : Dump} {y o : Obj} (hp : d.obj? o.parent = none) : AncSelf d y o ↔ y = o := by
  constructor
  · intro h
    cases h with
    | refl => rfl
    | up hp2 h => rw [hp] at hp2; cases hp2
  · intro h; rw [h]; exact .refl _

/-- the list every climb of the model (`ancestorsSelf`, `climbWhile`, `commonAncestor`) walks -/
theorem parentChain_spec {d : Dump} (ht : Tree d) :
    ∀ (f : Nat) (o : Obj), o ∈ d.objs → o.id + 1 ≤ f →
      (∀ y, y ∈ chain d (·.parent) f (some o) ↔ AncSelf d y o) ∧
      (chain d (·.parent) f (some o)).Pairwise (fun x y => y.id < x.id ∧ AncSelf d y x) := by
  intro f
  induction f with
  | zero => intro o _ h; omega
  | succ f ih =>
    intro o ho hf
    simp only [chain]
    rcases ht.parent_cases_all ho with ⟨_, hnone⟩ | ⟨_, p, hp, hpm, hlt⟩
    · rw [hnone, chain_none]
      refine ⟨fun y => ?_, List.pairwise_singleton _ _⟩
      rw [ancSelf_iff_root hnone, List.mem_singleton]
    · rw [hp]
      obtain ⟨ih1, ih2⟩ := ih p hpm (by omega)
      refine ⟨fun y => ?_, List.pairwise_cons.2 ⟨fun y hy => ?_, ih2⟩⟩
      · rw [List.mem_cons, ancSelf_iff_parent hp, ih1]
      · have hyp := (ih1 y).1 hy
        have := (ancSelf_all ht hyp hpm).2.1
        exact ⟨by omega, .up hp hyp⟩

theorem mem_parentChain_all {d : Dump} (ht : Tree d) :
    ∀ (f : Nat) (o : Obj), o ∈ d.objs → o.id + 1 ≤ f →
      ∀ y, y ∈ chain d (·.parent) f (some o) ↔ AncSelf d y o :=
  fun f o ho hf => (parentChain_spec ht f o ho hf).1

theorem parentChain_pairwise {d : Dump} (ht : Tree d) :
    ∀ (f : Nat) (o : Obj), o ∈ d.objs → o.id + 1 ≤ f →
      (chain d (·.parent) f (some o)).Pairwise (fun x y => y.id < x.id ∧ AncSelf d y x) :=
  fun f o ho hf => (parentChain_spec ht f o ho hf).2

theorem mem_ancestorsSelf_all {d : Dump} (ht : Tree d) {o : Obj} (ho : o ∈ d.objs) (y : Obj) :
    y ∈ ancestorsSelf d o ↔ AncSelf d y o := mem_parentChain_all ht d.fuel o ho (ht.id_fuel ho) y

theorem mem_ancestorsSelf {d : Dump} (ht : Tree d) {o : Obj} (ho : o ∈ d.objs) (_hn : isNormal o.type = true) (y : Obj) :
    y ∈ ancestorsSelf d o ↔ AncSelf d y o := mem_ancestorsSelf_all ht ho y

theorem ancestorsSelf_pairwise {d : Dump} (ht : Tree d) {o : Obj} (ho : o ∈ d.objs) :
    (ancestorsSelf d o).Pairwise (fun x y => y.id < x.id ∧ AncSelf d y x) :=
  parentChain_pairwise ht d.fuel o ho (ht.id_fuel ho)

/-- a hit is the deepest ancestor-or-self with `P`, a miss means that none has `P` -/
theorem parentChain_find {d : Dump} (ht : Tree d) (P : Obj → Bool) {f : Nat} {o : Obj} (ho : o ∈ d.objs)
    (hf : o.id + 1 ≤ f) :
    (∀ a, (chain d (·.parent) f (some o)).find? P = some a →
      AncSelf d a o ∧ P a = true ∧ ∀ b, AncSelf d b o → P b = true → AncSelf d b a) ∧
    ((chain d (·.parent) f (some o)).find? P = none → ∀ b, AncSelf d b o → P b = false) := by
  obtain ⟨hm, hp⟩ := parentChain_spec ht f o ho hf
  refine ⟨fun a h => ?_, fun h b hb => by simpa using List.find?_eq_none.1 h b ((hm b).2 hb)⟩
  obtain ⟨hPa, as, bs, hl, has⟩ := List.find?_eq_some_iff_append.1 h
  rw [hl] at hp
  refine ⟨(hm a).1 (by rw [hl]; simp), hPa, fun b hb hPb => ?_⟩
  have hbl := (hm b).2 hb
  rw [hl] at hbl
  -- `b` is not before `a` in the chain (nothing there has `P`), so it is `a` or comes after it
  rcases List.mem_append.1 hbl with h1 | h1
  · exact absurd hPb (by simpa using has b h1)
  · rcases List.mem_cons.1 h1 with rfl | h2
    · exact .refl _
    · exact ((List.pairwise_cons.1 (List.pairwise_append.1 hp).2.1).1 b h2).2

theorem parentChain_find_all {d : Dump} (ht : Tree d) (P : Obj → Bool) :
    ∀ (f : Nat) (o : Obj), o ∈ d.objs → o.id + 1 ≤ f → (∃ b, AncSelf d b o ∧ P b = true) →
      ∃ a, (chain d (·.parent) f (some o)).find? P = some a ∧ AncSelf d a o ∧ P a = true ∧
        ∀ b, AncSelf d b o → P b = true → AncSelf d b a := by
  intro f o ho hf ⟨w, hw, hPw⟩
  obtain ⟨s1, s2⟩ := parentChain_find ht P ho hf
  cases h : (chain d (·.parent) f (some o)).find? P with
  | none => rw [s2 h w hw] at hPw; cases hPw
  | some a => exact ⟨a, rfl, s1 a h⟩

/-- the inner loop `for (b = obj2; b; b = b->parent) if (a == b)` on an object `x` of the dump -/
theorem ancestorsSelf_any_id {d : Dump} (ht : Tree d) {o x : Obj} (ho : o ∈ d.objs) (hx : x ∈ d.objs) :
    (ancestorsSelf d o).any (fun b => x.id == b.id) = true ↔ AncSelf d x o := by
  rw [List.any_eq_true]
  constructor
  · intro ⟨y, hy, hid⟩
    have hyo := (mem_ancestorsSelf_all ht ho y).1 hy
    have hym := (ancSelf_all ht hyo ho).1
    rw [ht.eq_of_id_eq hx hym (by simpa using hid)]; exact hyo
  · intro h
    exact ⟨x, (mem_ancestorsSelf_all ht ho x).2 h, by simp⟩

theorem ancestorsSelf_ids_contains {d : Dump} (ht : Tree d) {o x : Obj} (ho : o ∈ d.objs)
    (hx : x ∈ d.objs) : ((ancestorsSelf d o).map (·.id)).contains x.id = true ↔ AncSelf d x o := by
  rw [List.contains_eq_any_beq, List.any_map]
  exact ancestorsSelf_any_id ht ho hx

/-! ### hwloc_get_common_ancestor_obj -/

/-- on any two objects (normal, memory, I/O, Misc in any mix) the double loop never returns NULL and returns the
    deepest common ancestor along the parent links -/
theorem common_ancestor_all {d : Dump} (ht : Tree d) {o1 o2 : Obj} (h1 : o1 ∈ d.objs) (h2 : o2 ∈ d.objs) :
    ∃ a, commonAncestor d o1 o2 = some a ∧ a ∈ d.objs ∧ AncSelf d a o1 ∧ AncSelf d a o2 ∧
      ∀ b, AncSelf d b o1 → AncSelf d b o2 → AncSelf d b a := by
  obtain ⟨r, _, hr, hr0, _⟩ := ht.rootObj
  have hP : ∀ b, AncSelf d b o1 →
      ((ancestorsSelf d o2).any (fun c => b.id == c.id) = true ↔ AncSelf d b o2) :=
    fun b hb => ancestorsSelf_any_id ht h2 (ancSelf_all ht hb h1).1
  have hr1 := root_ancSelf_all ht hr hr0 h1
  -- the root is a common ancestor, so the search succeeds
  obtain ⟨a, e, ha1, hPa, hdeep⟩ :=
    parentChain_find_all ht (fun a => (ancestorsSelf d o2).any (fun b => a.id == b.id)) d.fuel o1 h1 (ht.id_fuel h1)
      ⟨r, hr1, (hP r hr1).2 (root_ancSelf_all ht hr hr0 h2)⟩
  exact ⟨a, e, (ancSelf_all ht ha1 h1).1, ha1, (hP a ha1).1 hPa, fun b hb1 hb2 => hdeep b hb1 ((hP b hb1).2 hb2)⟩

theorem common_ancestor_comm {d : Dump} (ht : Tree d) {o1 o2 : Obj} (h1 : o1 ∈ d.objs) (h2 : o2 ∈ d.objs) :
    commonAncestor d o1 o2 = commonAncestor d o2 o1 := by
  obtain ⟨a, ea, ha, ha1, ha2, hadeep⟩ := common_ancestor_all ht h1 h2
  obtain ⟨a', ea', _, ha1', ha2', hadeep'⟩ := common_ancestor_all ht h2 h1
  have heq : a' = a := ancSelf_antisymm_all ht (hadeep a' ha2' ha1') (hadeep' a ha2 ha1) ha
  rw [ea, ea', heq]

theorem common_ancestor_all_eq_brute {d : Dump} (ht : Tree d) {o1 o2 : Obj} (h1 : o1 ∈ d.objs) (h2 : o2 ∈ d.objs) :
    commonAncestor d o1 o2 = bruteCommonAncestor d o1 o2 := by
  obtain ⟨a, ea, ha, ha1, ha2, hadeep⟩ := common_ancestor_all ht h1 h2
  rw [ea]
  unfold bruteCommonAncestor
  simp only []
  generalize hQ' : (fun c : Obj => ((ancestorsSelf d o1).map (·.id)).contains c.id &&
    ((ancestorsSelf d o2).map (·.id)).contains c.id) = Q
  have hQ : ∀ c, c ∈ d.objs → (Q c = true ↔ AncSelf d c o1 ∧ AncSelf d c o2) := by
    intro c hc
    rw [← hQ', Bool.and_eq_true, ancestorsSelf_ids_contains ht h1 hc, ancestorsSelf_ids_contains ht h2 hc]
  obtain ⟨l1, l2, hl⟩ := List.append_of_mem ha
  have hs := ht.objs_sorted
  rw [hl, List.pairwise_append, List.pairwise_cons] at hs
  have hmem : ∀ c, c ∈ l2 → c ∈ d.objs := fun c hc => by rw [hl]; simp [hc]
  -- nothing after `a` in the list passes the filter: a common ancestor is above `a`, so its id is not larger
  have hnil : l2.filter Q = [] := by
    rw [List.filter_eq_nil_iff]
    intro c hc hq
    obtain ⟨hc1, hc2⟩ := (hQ c (hmem c hc)).1 hq
    have := (ancSelf_all ht (hadeep c hc1 hc2) ha).2.1
    have := hs.2.1.1 c hc
    omega
  have hqa := (hQ a ha).2 ⟨ha1, ha2⟩
  rw [hl, List.filter_append]
  simp only [List.filter_cons, hqa, if_true, hnil]
  rw [List.getLast?_concat]

theorem common_ancestor_normal {d : Dump} (ht : Tree d) {o1 o2 : Obj} (h1 : o1 ∈ d.objs) (h2 : o2 ∈ d.objs)
    (_n1 : isNormal o1.type = true) (_n2 : isNormal o2.type = true) :
    ∃ a, commonAncestor d o1 o2 = some a ∧ a ∈ d.objs ∧ AncSelf d a o1 ∧ AncSelf d a o2 ∧
      ∀ b, AncSelf d b o1 → AncSelf d b o2 → AncSelf d b a := common_ancestor_all ht h1 h2

theorem common_ancestor_normal_depth {d : Dump} (ht : Tree d) {o1 o2 : Obj} (h1 : o1 ∈ d.objs) (h2 : o2 ∈ d.objs)
    (n1 : isNormal o1.type = true) (n2 : isNormal o2.type = true) :
    ∃ a, commonAncestor d o1 o2 = some a ∧ commonAncestor d o2 o1 = some a ∧
      isNormal a.type = true ∧ a.depth ≤ o1.depth ∧ a.depth ≤ o2.depth ∧
      ∀ b, AncSelf d b o1 → AncSelf d b o2 → b.depth ≤ a.depth := by
  obtain ⟨a, ea, ha, ha1, ha2, hadeep⟩ := common_ancestor_all ht h1 h2
  obtain ⟨_, hna, hle1, _⟩ := ht.ancSelf_normal ha1 h1 n1
  obtain ⟨_, _, hle2, _⟩ := ht.ancSelf_normal ha2 h2 n2
  refine ⟨a, ea, by rw [← common_ancestor_comm ht h1 h2]; exact ea, hna, hle1, hle2, ?_⟩
  intro b hb1 hb2
  exact (ht.ancSelf_normal (hadeep b hb1 hb2) ha hna).2.2.1

/-! ### the climbs: `while (p && cond p) p = p->parent;` -/

theorem climbWhile_none (d : Dump) (cond : Obj → Bool) (f : Nat) : climbWhile d cond f none = none := by
  cases f <;> rfl

theorem climbWhile_eq_find (d : Dump) (cond : Obj → Bool) :
    ∀ (f : Nat) (x : Option Obj), climbWhile d cond f x = (chain d (·.parent) f x).find? (fun a => !cond a)
  | 0, none => rfl
  | 0, some _ => rfl
  | _ + 1, none => rfl
  | f + 1, some o => by
    rw [climbWhile, chain, List.find?_cons, ← climbWhile_eq_find d cond f]
    cases cond o <;> rfl

theorem climbWhile_spec {d : Dump} (ht : Tree d) (cond : Obj → Bool) {f : Nat} {o : Obj} (ho : o ∈ d.objs)
    (hf : o.id + 1 ≤ f) :
    (∀ a, climbWhile d cond f (some o) = some a →
      AncSelf d a o ∧ cond a = false ∧ ∀ b, AncSelf d b o → cond b = false → AncSelf d b a) ∧
    (climbWhile d cond f (some o) = none → ∀ b, AncSelf d b o → cond b = true) := by
  have h := parentChain_find ht (fun a => !cond a) ho hf
  simp only [Bool.not_eq_true', Bool.not_eq_false', ← climbWhile_eq_find] at h
  exact h

theorem climbWhile_depth_eq (d : Dump) (t : Int) :
    ∀ (f : Nat) (o : Obj), climbWhile d (fun a => decide (a.depth > t)) f (some o) = climbDeeper d f o t := by
  intro f
  induction f with
  | zero => intro o; rfl
  | succ f ih =>
    intro o
    simp only [climbWhile, climbDeeper, decide_eq_true_eq]
    split
    · cases hp : d.obj? o.parent with
      | none => simp only [climbWhile_none]
      | some p => exact ih p
    · rfl

/-! ### hwloc_get_ancestor_obj_by_depth -/

theorem ancestor_by_depth_spec {d : Dump} (ht : Tree d) {o : Obj} (ho : o ∈ d.objs)
    {k : Int} (hk0 : 0 ≤ k) (hk : k ≤ o.depth) :
    ∃ a, ancestorByDepth d k o = some a ∧ a ∈ d.objs ∧ isNormal a.type = true ∧ AncSelf d a o ∧ a.depth ≤ k ∧
      (o.depth = k → a = o) ∧ ∀ b, AncSelf d b o → b.depth ≤ k → AncSelf d b a := by
  have hn := ht.normal_of_depth ho (Int.le_trans hk0 hk)
  obtain ⟨r, _, hr, hr0, _, _, hrd⟩ := ht.rootObj
  -- the root has depth 0, so the search succeeds
  obtain ⟨a, e, haa, hak, hdeep⟩ := parentChain_find_all ht (fun a => !decide (a.depth > k)) d.fuel o ho (ht.id_fuel ho)
    ⟨r, root_ancSelf_all ht hr hr0 ho, by rw [hrd]; simpa using hk0⟩
  simp only [Bool.not_eq_true', decide_eq_false_iff_not, Int.not_lt] at hak hdeep
  obtain ⟨ha, hna, _⟩ := ht.ancSelf_normal haa ho hn
  refine ⟨a, ?_, ha, hna, haa, hak, fun e => ancSelf_antisymm_all ht haa (hdeep o (.refl _) (by omega)) ho, hdeep⟩
  unfold ancestorByDepth
  rw [if_neg (by omega), climbWhile_eq_find]
  exact e

theorem ancestor_by_depth_some {d : Dump} (ht : Tree d) {o a : Obj} (ho : o ∈ d.objs) (hn : isNormal o.type = true)
    {k : Int} (hk0 : 0 ≤ k) (hk : k ≤ o.depth) (h : ancestorByDepth d k o = some a) :
    AncSelf d a o ∧ a.depth ≤ k ∧ ∀ b, AncSelf d b o → b.depth ≤ k → AncSelf d b a := by
  obtain ⟨a', ea, _, _, h1, h2, _, h3⟩ := ancestor_by_depth_spec ht ho hk0 hk
  rw [ea] at h; cases h
  exact ⟨h1, h2, h3⟩

theorem ancestor_by_depth_deeper (d : Dump) (o : Obj) {k : Int} (hk : o.depth < k) : ancestorByDepth d k o = none := by
  unfold ancestorByDepth; rw [if_pos hk]

/-! ### hwloc_get_ancestor_obj_by_type -/

/-- hwloc_get_ancestor_obj_by_type on ANY object (normal, memory, I/O, Misc): the deepest proper ancestor of type `t` —
    every other one is above it — and NULL iff there is none -/
theorem ancestor_by_type_all {d : Dump} (ht : Tree d) {o : Obj} (ho : o ∈ d.objs) (t : Int) :
    (∀ a, ancestorByType d t o = some a →
        AncSelf d a o ∧ a ≠ o ∧ (a.type : Int) = t ∧ ∀ b, AncSelf d b o → b ≠ o → (b.type : Int) = t → AncSelf d b a) ∧
    (ancestorByType d t o = none → ∀ b, AncSelf d b o → b ≠ o → (b.type : Int) ≠ t) := by
  unfold ancestorByType
  rcases ht.parent_cases_all ho with ⟨_, hnone⟩ | ⟨_, p, hp, hpm, hlt⟩
  · rw [hnone, climbWhile_none]
    exact ⟨fun a h => (by cases h), fun _ b hb hne => absurd ((ancSelf_iff_root hnone).1 hb) hne⟩
  · rw [hp]
    obtain ⟨s1, s2⟩ := climbWhile_spec ht (fun a => (a.type : Int) != t) hpm (ht.id_fuel hpm)
    simp only [bne_eq_false_iff_eq, bne_iff_ne] at s1 s2
    -- the proper ancestors of `o` are the ancestors-or-self of its parent
    have hup : ∀ b, AncSelf d b o → b ≠ o → AncSelf d b p :=
      fun b hb hne => ((ancSelf_iff_parent hp).1 hb).resolve_left hne
    refine ⟨fun a h => ?_, fun h b hb hne => s2 h b (hup b hb hne)⟩
    obtain ⟨x, y, z⟩ := s1 a h
    refine ⟨.up hp x, fun e => ?_, y, fun b hb hne => z b (hup b hb hne)⟩
    have := (ancSelf_all ht x hpm).2.1
    rw [e] at this
    exact absurd hlt (Nat.not_lt.2 this)

/-- on a normal object the order is that of the depths: no proper ancestor of type `t` is deeper than the result -/
theorem ancestor_by_type_spec {d : Dump} (ht : Tree d) {o : Obj} (ho : o ∈ d.objs) (hn : isNormal o.type = true)
    (t : Int) :
    (∀ a, ancestorByType d t o = some a →
        AncSelf d a o ∧ a ≠ o ∧ (a.type : Int) = t ∧
        ∀ b, AncSelf d b o → b ≠ o → a.depth < b.depth → (b.type : Int) ≠ t) ∧
    (ancestorByType d t o = none → ∀ b, AncSelf d b o → b ≠ o → (b.type : Int) ≠ t) := by
  obtain ⟨s1, s2⟩ := ancestor_by_type_all ht ho t
  refine ⟨fun a h => ?_, s2⟩
  obtain ⟨x, hne, y, z⟩ := s1 a h
  obtain ⟨ham, han, _⟩ := ht.ancSelf_normal x ho hn
  exact ⟨x, hne, y, fun b hb hbne hlt hty =>
    Int.not_le.2 hlt (ht.ancSelf_normal (z b hb hbne hty) ham han).2.2.1⟩

/-! ### the cpusets of the normal objects form a laminar family -/

/-- Two normal objects are comparable along the parent links, or their cpusets are disjoint: below their deepest
    common ancestor they hang under two different children. -/
theorem Tree.laminar {d : Dump} (ht : Tree d) {a b : Obj} (ha : a ∈ d.objs) (hb : b ∈ d.objs)
    (na : isNormal a.type = true) (nb : isNormal b.type = true) :
    AncSelf d a b ∨ AncSelf d b a ∨ Hw.Topo.disjoint (cs a) (cs b) = true := by
  obtain ⟨r, _, hr, hra, hrb, hmax⟩ := common_ancestor_all ht ha hb
  rcases hra.top_cases with rfl | ⟨ca, hpa, hca⟩
  · exact .inl hrb
  rcases hrb.top_cases with rfl | ⟨cb, hpb, hcb⟩
  · exact .inr (.inl hra)
  obtain ⟨a1, a2, _, _, a4⟩ := ht.ancSelf_normal hca ha na
  obtain ⟨b1, b2, _, _, b4⟩ := ht.ancSelf_normal hcb hb nb
  refine .inr (.inr (disjoint_mono a4 b4 (ht.children_disjoint hr
    (ht.mem_childObjs_of_parent a1 a2 hpa) (ht.mem_childObjs_of_parent b1 b2 hpb) fun e => ?_)))
  -- a common child would be a common ancestor below `r`
  subst e
  have h1 := (ancSelf_all ht (hmax ca hca hcb) hr).2.1
  rcases ht.parent_cases_all a1 with ⟨_, hnone⟩ | ⟨_, p, hp, _, hlt⟩
  · rw [hnone] at hpa; cases hpa
  · rw [hp] at hpa; cases hpa; omega

theorem Tree.comparable_of_bit {d : Dump} (ht : Tree d) {a b : Obj} (ha : a ∈ d.objs) (hb : b ∈ d.objs)
    (na : isNormal a.type = true) (nb : isNormal b.type = true) {i : Nat} (hia : (cs a).testBit i = true)
    (hib : (cs b).testBit i = true) : AncSelf d a b ∨ AncSelf d b a := by
  rcases ht.laminar ha hb na nb with h | h | h
  · exact .inl h
  · exact .inr h
  · exact absurd ⟨hia, hib⟩ ((disjoint_iff _ _).1 h i)

/-- the objects of a normal level have pairwise disjoint cpusets: comparable and equally deep means equal -/
theorem Tree.level_disjoint {d : Dump} (ht : Tree d) {k : Int} (hk : 0 ≤ k) :
    (levelObjs d k).Pairwise (fun a b => Hw.Topo.disjoint (cs a) (cs b) = true) := by
  rw [List.pairwise_iff_getElem]
  intro i j hi hj hij
  obtain ⟨hli, hdi, hmi⟩ := ht.levelObjs_lidx (List.getElem?_eq_getElem hi)
  obtain ⟨hlj, hdj, hmj⟩ := ht.levelObjs_lidx (List.getElem?_eq_getElem hj)
  have ni := ht.normal_of_depth hmi (by rw [hdi]; exact hk)
  have nj := ht.normal_of_depth hmj (by rw [hdj]; exact hk)
  have hne : (levelObjs d k)[i] ≠ (levelObjs d k)[j] := fun h => by rw [h] at hli; omega
  rcases ht.laminar hmi hmj ni nj with h | h | h
  · exact absurd ((ht.ancSelf_normal h hmj nj).2.2.2.1 (by rw [hdi, hdj])) hne
  · exact absurd ((ht.ancSelf_normal h hmi ni).2.2.2.1 (by rw [hdi, hdj])).symm hne
  · exact h

end Hw.Topo
