/-
  Hw.Topo.RenderOcc — the occurrence list `occs t` (Render.lean) as a table: what hwloc_connect_children derives for every
  object of a four-list tree.

  After the arithmetic of ids (`startN`, `kstart`) and the record of the `j`-th sibling of a children list (`sibRecAt`), the list
  is used through four facts only: an occurrence stands at its id, the root record is a member, the children of a member are
  members, and every member but the root is the child of a member; the last two are read off one equation, the occurrence list
  below a record being the record followed by the occurrence lists below the records of its children (`occsT_eq`).  `IsChild` is
  the one child relation behind the link, counting and summing clauses.
-/
import Hw.Topo.Render
import Hw.Topo.TreeInd
import Hw.Base.ListLemmas
namespace Hw.Topo.Restrict
open Hw.Topo

theorem occsT_head (s : Nat) (par : Int) (rk : Nat) (pv nx : Int) (t : Tree) :
    ∃ rest, occsT s par rk pv nx t = ⟨s, par, rk, pv, nx, t⟩ :: rest := by
  cases t with
  | node o ns ms ios mis => rw [occsT]; exact ⟨_, rfl⟩

theorem sizeT_pos (t : Tree) : 0 < sizeT t := by
  cases t; rw [sizeT]; omega

theorem sizeL_append (a b : List Tree) : sizeL (a ++ b) = sizeL a + sizeL b := by
  induction a with
  | nil => simp [sizeL]
  | cons x xs ih => simp only [List.cons_append, sizeL, ih]; omega

theorem sizeL_mem {c : Tree} {l : List Tree} (h : c ∈ l) : sizeT c ≤ sizeL l := by
  induction l with
  | nil => exact absurd h List.not_mem_nil
  | cons t ts ih =>
    rw [sizeL]
    rcases List.mem_cons.1 h with rfl | h
    · omega
    · have := ih h; omega

theorem occs_map_id :
    (∀ t, ∀ s par rk pv nx, (occsT s par rk pv nx t).map (·.id) = List.range' s (sizeT t)) ∧
    (∀ l, ∀ s par rk pv, (occsL s par rk pv l).map (·.id) = List.range' s (sizeL l)) := by
  apply tree_ind4
  · intro o ns ms ios mis h1 h2 h3 h4 s par rk pv nx
    rw [occsT, sizeT, Nat.add_comm 1, List.range'_succ]
    simp only [List.map_cons, List.map_append, h1, h2, h3, h4]
    rw [Nat.add_assoc (s + 1), Nat.add_assoc (s + 1), List.range'_append_1, List.range'_append_1, List.range'_append_1]
  · intro s par rk pv; rfl
  · intro t ts h1 h2 s par rk pv
    rw [occsL, sizeL, List.map_append, h1, h2, List.range'_append_1]

theorem occsT_length (t : Tree) (s : Nat) (par : Int) (rk : Nat) (pv nx : Int) : (occsT s par rk pv nx t).length = sizeT t := by
  rw [← List.length_map, occs_map_id.1, List.length_range']

theorem id_of_map_range' {L : List Occ} {s n k : Nat} {oc : Occ} (hL : L.map (·.id) = List.range' s n)
    (hk : L[k]? = some oc) : oc.id = s + k := by
  have h := congrArg (·[k]?) hL
  have hlt : k < n := by
    have := (List.getElem?_eq_some_iff.1 hk).1
    rwa [← List.length_map (f := (·.id)), hL, List.length_range'] at this
  simp only [List.getElem?_map, hk, Option.map_some, List.getElem?_range' hlt, Nat.one_mul, Option.some.injEq] at h
  exact h

theorem occs_objs :
    (∀ t, ∀ s par rk pv nx, (occsT s par rk pv nx t).map (·.t.obj) = objsT t) ∧
    (∀ l, ∀ s par rk pv, (occsL s par rk pv l).map (·.t.obj) = objsL l) := by
  apply tree_ind4
  · intro o ns ms ios mis h1 h2 h3 h4 s par rk pv nx
    rw [occsT, objsT]
    simp only [List.map_cons, List.map_append, h1, h2, h3, h4]
    rfl
  · intro s par rk pv; rw [occsL, objsL]; rfl
  · intro t ts h1 h2 s par rk pv
    rw [occsL, objsL, List.map_append, h1, h2]

theorem occs_map_obj (t : Tree) : (occs t).map (·.t.obj) = objsT t := occs_objs.1 t 0 (-1) 0 (-1) (-1)

theorem occ_of_obj (t : Tree) (x : RObj) (hx : x ∈ objsT t) : ∃ oc ∈ occs t, oc.t.obj = x := by
  rw [← occs_map_obj t] at hx; exact List.mem_map.1 hx

theorem occ_obj_mem (t : Tree) (oc : Occ) (hoc : oc ∈ occs t) : oc.t.obj ∈ objsT t := by
  rw [← occs_map_obj t]; exact List.mem_map_of_mem hoc

theorem occs_get_of_mem (t : Tree) (oc : Occ) (hoc : oc ∈ occs t) : (occs t)[oc.id]? = some oc := by
  obtain ⟨k, hk⟩ := List.getElem?_of_mem hoc
  rw [id_of_map_range' (occs_map_id.1 t 0 (-1) 0 (-1) (-1)) hk, Nat.zero_add]; exact hk

theorem occ_unique (t : Tree) (a b : Occ) (ha : a ∈ occs t) (hb : b ∈ occs t) (h : a.id = b.id) : a = b := by
  have h1 := occs_get_of_mem t a ha
  rw [h, occs_get_of_mem t b hb] at h1
  exact (Option.some.inj h1).symm

theorem occs_root_mem (t : Tree) : (⟨0, -1, 0, -1, -1, t⟩ : Occ) ∈ occs t := by
  obtain ⟨rest, hr⟩ := occsT_head 0 (-1) 0 (-1) (-1) t
  unfold occs; rw [hr]; exact List.mem_cons_self

/-- the four children lists of a node, numbered `q` = 0 … 3, the id at which the records of list `q` start, and its kind -/
def kids (q : Nat) (t : Tree) : List Tree := match q with | 0 => t.ns | 1 => t.ms | 2 => t.ios | _ => t.mis
def kstart (q : Nat) (poc : Occ) : Nat :=
  match q with
  | 0 => poc.id + 1
  | 1 => poc.id + 1 + sizeL poc.t.ns
  | 2 => poc.id + 1 + sizeL poc.t.ns + sizeL poc.t.ms
  | _ => poc.id + 1 + sizeL poc.t.ns + sizeL poc.t.ms + sizeL poc.t.ios
def kkind (q : Nat) : Nat → Bool := match q with | 0 => isNormal | 1 => isMemory | 2 => isIO | _ => isMisc

theorem kstart_gt (q : Nat) (poc : Occ) : poc.id < kstart q poc := by
  unfold kstart; split <;> omega

/-! ### reading one sibling out of a children list -/

/-- id of the `j`-th sibling of a list that starts at `s` -/
def startN (s : Nat) (l : List Tree) (j : Nat) : Nat := s + sizeL (l.take j)

theorem startN_zero (s : Nat) (l : List Tree) : startN s l 0 = s := by simp [startN, sizeL]
theorem startN_cons_succ (s : Nat) (t : Tree) (ts : List Tree) (j : Nat) :
    startN s (t :: ts) (j + 1) = startN (s + sizeT t) ts j := by
  simp [startN, sizeL]; omega

theorem startsL_eq (l : List Tree) : ∀ s, startsL s l = (List.range l.length).map (fun j => ((startN s l j : Nat) : Int)) := by
  induction l with
  | nil => intro s; rfl
  | cons t ts ih =>
    intro s
    rw [startsL, ih, List.length_cons, List.range_succ_eq_map, List.map_cons, List.map_map, startN_zero]
    exact congrArg _ (List.map_congr_left fun j _ => by rw [Function.comp, startN_cons_succ])

theorem startsL_length (s : Nat) (l : List Tree) : (startsL s l).length = l.length := by
  rw [startsL_eq, List.length_map, List.length_range]

theorem startsL_get (s : Nat) (l : List Tree) (j : Nat) (hj : j < l.length) :
    (startsL s l)[j]? = some ((startN s l j : Nat) : Int) := by
  rw [startsL_eq, List.getElem?_map, List.getElem?_range hj]; rfl

theorem startsL_get_none (s : Nat) (l : List Tree) (j : Nat) (hj : l.length ≤ j) : (startsL s l)[j]? = none := by
  rw [List.getElem?_eq_none_iff, startsL_length]; exact hj

/-- the record hwloc_connect_children gives to the `j`-th sibling -/
def sibRecAt (s : Nat) (par : Int) (rk : Nat) (pv : Int) (l : List Tree) (j : Nat) (t : Tree) : Occ :=
  ⟨startN s l j, par, rk + j, if j = 0 then pv else ((startN s l (j - 1) : Nat) : Int),
   if j + 1 < l.length then ((startN s l (j + 1) : Nat) : Int) else -1, t⟩

theorem sibRecAt_zero (s : Nat) (par : Int) (rk : Nat) (pv : Int) (t : Tree) (ts : List Tree) :
    sibRecAt s par rk pv (t :: ts) 0 t = ⟨s, par, rk, pv, if ts.isEmpty then -1 else ((s + sizeT t : Nat) : Int), t⟩ := by
  simp only [sibRecAt, startN_zero, Nat.add_zero, if_true]
  cases ts with
  | nil => simp
  | cons b bs => simp [startN, sizeL]

theorem sibRecAt_succ (s : Nat) (par : Int) (rk : Nat) (pv : Int) (a : Tree) (as : List Tree) (j : Nat) (t : Tree) :
    sibRecAt s par rk pv (a :: as) (j + 1) t = sibRecAt (s + sizeT a) par (rk + 1) s as j t := by
  simp only [sibRecAt, Occ.mk.injEq, true_and, and_true]
  refine ⟨by rw [startN_cons_succ], by omega, ?_, ?_⟩
  · cases j with
    | zero => simp [startN_zero]
    | succ j => simp [startN_cons_succ]
  · simp only [List.length_cons, startN_cons_succ, Nat.add_lt_add_iff_right]

theorem startN_mono (s : Nat) (l : List Tree) (j : Nat) : s ≤ startN s l j := by unfold startN; omega

theorem startN_lt (s : Nat) (l : List Tree) (j : Nat) (hj : j + 1 ≤ l.length) : startN s l j < startN s l (j + 1) := by
  induction l generalizing s j with
  | nil => simp at hj
  | cons a as ih =>
    cases j with
    | zero => rw [startN_zero, startN_cons_succ, startN_zero]; have := sizeT_pos a; omega
    | succ j => rw [startN_cons_succ, startN_cons_succ]; exact ih _ j (by simpa using hj)

theorem startN_pos_of_pos (s : Nat) (l : List Tree) (j : Nat) (hj : 0 < j) (hl : j ≤ l.length) : s < startN s l j := by
  cases j with
  | zero => omega
  | succ j => exact Nat.lt_of_le_of_lt (startN_mono s l j) (startN_lt s l j hl)

/-! ### tree typing -/

theorem typedL_iff (k : Nat → Bool) (l : List Tree) :
    typedL k l = true ↔ ∀ t ∈ l, k t.obj.type = true ∧ typedT t = true := by
  induction l with
  | nil => simp [typedL]
  | cons a as ih =>
    rw [typedL]
    simp only [Bool.and_eq_true, ih, List.mem_cons, forall_eq_or_imp, and_assoc]

theorem typedL_mem (k : Nat → Bool) (l : List Tree) (h : typedL k l = true) (t : Tree) (ht : t ∈ l) :
    k t.obj.type = true ∧ typedT t = true :=
  (typedL_iff k l).1 h t ht

theorem typedL_get (k : Nat → Bool) (l : List Tree) (h : typedL k l = true) (j : Nat) (t : Tree) (hj : l[j]? = some t) :
    k t.obj.type = true ∧ typedT t = true :=
  typedL_mem k l h t (List.mem_of_getElem? hj)

theorem puLeafL_iff (l : List Tree) : puLeafL l = true ↔ ∀ t ∈ l, puLeafT t = true := by
  induction l with
  | nil => simp [puLeafL]
  | cons a as ih =>
    rw [puLeafL]
    simp only [Bool.and_eq_true, ih, List.mem_cons, forall_eq_or_imp]

theorem puLeafT_node (o : RObj) (ns ms ios mis : List Tree) : puLeafT (.node o ns ms ios mis) = true ↔
    ((o.type = tPU → ns = [] ∧ ms = []) ∧ puLeafL ns = true ∧ puLeafL ms = true ∧ puLeafL ios = true ∧ puLeafL mis = true) := by
  rw [puLeafT]
  simp only [Bool.and_eq_true, Bool.or_eq_true, bne_iff_ne, ne_eq, List.isEmpty_iff, ← Decidable.imp_iff_not_or, and_assoc]

theorem typedT_lists (t : Tree) (h : typedT t = true) :
    typedL isNormal t.ns = true ∧ typedL isMemory t.ms = true ∧ typedL isIO t.ios = true ∧ typedL isMisc t.mis = true := by
  cases t with
  | node o ns ms ios mis =>
    rw [typedT] at h
    simp only [Bool.and_eq_true] at h
    exact ⟨h.1.1.1.2, h.1.1.2, h.1.2, h.2⟩

theorem typedT_kids (t : Tree) (h : typedT t = true) (q : Nat) (hq : q < 4) : typedL (kkind q) (kids q t) = true := by
  obtain ⟨t1, t2, t3, t4⟩ := typedT_lists t h
  match q, hq with
  | 0, _ => exact t1
  | 1, _ => exact t2
  | 2, _ => exact t3
  | 3, _ => exact t4

/-- a node with a non-empty list of normal, memory or I/O children has a type that may carry that list (Misc children hang anywhere) -/
theorem typedT_parent (t : Tree) (h : typedT t = true) :
    (t.ns ≠ [] → isNormal t.obj.type = true) ∧ (t.ms ≠ [] → (isNormal t.obj.type || t.obj.type == tMEMCACHE) = true) ∧
    (t.ios ≠ [] → (isNormal t.obj.type || isIO t.obj.type) = true) := by
  have key : ∀ {x : Bool} {l : List Tree}, (x || l.isEmpty) = true → l ≠ [] → x = true := fun {x l} hx hne => by
    cases l with
    | nil => exact absurd rfl hne
    | cons => rwa [List.isEmpty_cons, Bool.or_false] at hx
  cases t with
  | node o ns ms ios mis =>
    rw [typedT] at h
    simp only [Bool.and_eq_true] at h
    exact ⟨key h.1.1.1.1.1.1.1, key h.1.1.1.1.1.1.2, key h.1.1.1.1.1.2⟩

/-! ### object kinds as arithmetic -/

theorem isNormal_iff (ty : Nat) : isNormal ty = true ↔ ty ≤ 13 := by
  unfold isNormal tGROUP; exact decide_eq_true_iff
theorem isNormal_false_iff (ty : Nat) : isNormal ty = false ↔ 13 < ty := by
  unfold isNormal tGROUP; rw [decide_eq_false_iff_not]; omega
theorem isMemory_iff (ty : Nat) : isMemory ty = true ↔ (ty = 14 ∨ ty = 15) := by simp [isMemory, tNUMA, tMEMCACHE]
theorem isMemory_false_iff (ty : Nat) : isMemory ty = false ↔ (ty ≠ 14 ∧ ty ≠ 15) := by simp [isMemory, tNUMA, tMEMCACHE]
theorem isMemory_not_normal_io {ty : Nat} (h : isMemory ty = true) : ¬ ty ≤ 13 ∧ ¬ (16 ≤ ty ∧ ty ≤ 18) := by
  rcases (isMemory_iff ty).1 h with rfl | rfl <;> decide
theorem isIO_iff (ty : Nat) : isIO ty = true ↔ (16 ≤ ty ∧ ty ≤ 18) := by simp [isIO, tBRIDGE, tPCI, tOSDEV]; omega
theorem isIO_false_iff (ty : Nat) : isIO ty = false ↔ (ty < 16 ∨ 18 < ty) := by simp [isIO, tBRIDGE, tPCI, tOSDEV]; omega
theorem isMisc_iff (ty : Nat) : isMisc ty = true ↔ ty = 19 := by simp [isMisc, tMISC]

def notNM (ty : Nat) : Prop := isNormal ty = false ∧ isMemory ty = false

theorem notNM_of_special {ty : Nat} (h : isIO ty = true ∨ isMisc ty = true) : notNM ty := by
  rcases h with h | h
  · have := (isIO_iff _).1 h
    exact ⟨(isNormal_false_iff _).2 (by omega), (isMemory_false_iff _).2 (by omega)⟩
  · have := (isMisc_iff _).1 h
    exact ⟨(isNormal_false_iff _).2 (by omega), (isMemory_false_iff _).2 (by omega)⟩

theorem typedT_facts (t : Tree) (h : typedT t = true) :
    (t.obj.type ≤ 13 ∨ t.ns.length = 0) ∧ (t.obj.type ≤ 13 ∨ t.obj.type = 15 ∨ t.ms.length = 0) ∧
    (t.obj.type ≤ 13 ∨ (16 ≤ t.obj.type ∧ t.obj.type ≤ 18) ∨ t.ios.length = 0) ∧
    t.obj.type < 20 := by
  cases t with
  | node o ns ms ios mis =>
    rw [typedT] at h
    simp only [Bool.and_eq_true, Bool.or_eq_true, List.isEmpty_iff, isNormal_iff, isIO_iff, tMEMCACHE, tMAX, beq_iff_eq] at h
    simp only [Tree.obj, Tree.ns, Tree.ms, Tree.ios, List.length_eq_zero_iff]
    obtain ⟨⟨⟨⟨⟨⟨⟨a, b⟩, c⟩, e⟩, _⟩, _⟩, _⟩, _⟩ := h
    have e := of_decide_eq_true e
    refine ⟨a, ?_, ?_, e⟩
    · rcases b with (b | b) | b
      · exact Or.inl b
      · exact Or.inr (Or.inl b)
      · exact Or.inr (Or.inr b)
    · rcases c with (c | c) | c
      · exact Or.inl c
      · exact Or.inr (Or.inl c)
      · exact Or.inr (Or.inr c)

theorem kkind_cases (q : Nat) (hq : q < 4) (ty : Nat) (h : kkind q ty = true) :
    (q = 0 ∧ isNormal ty = true) ∨ (q = 1 ∧ isNormal ty = false ∧ isMemory ty = true) ∨
    (q = 2 ∧ isNormal ty = false ∧ isMemory ty = false ∧ isIO ty = true) ∨
    (q = 3 ∧ isNormal ty = false ∧ isMemory ty = false ∧ isIO ty = false ∧ isMisc ty = true) := by
  match q, hq with
  | 0, _ => exact Or.inl ⟨rfl, h⟩
  | 1, _ =>
    have := (isMemory_iff ty).1 h
    exact Or.inr (Or.inl ⟨rfl, (isNormal_false_iff ty).2 (by omega), h⟩)
  | 2, _ =>
    have := (isIO_iff ty).1 h
    exact Or.inr (Or.inr (Or.inl ⟨rfl, (isNormal_false_iff ty).2 (by omega), (isMemory_false_iff ty).2 (by omega), h⟩))
  | 3, _ =>
    have := (isMisc_iff ty).1 h
    exact Or.inr (Or.inr (Or.inr ⟨rfl, (isNormal_false_iff ty).2 (by omega), (isMemory_false_iff ty).2 (by omega),
      (isIO_false_iff ty).2 (by omega), h⟩))

/-! ### the records of the children of an occurrence -/

/-- the records hwloc_connect_children gives to the members of one children list (the heads of the blocks of `occsL`) -/
def sibRecs (s : Nat) (par : Int) (rk : Nat) (pv : Int) : List Tree → List Occ
  | [] => []
  | t :: ts => ⟨s, par, rk, pv, if ts.isEmpty then -1 else ((s + sizeT t : Nat) : Int), t⟩ :: sibRecs (s + sizeT t) par (rk + 1) s ts

theorem sibRecs_eq (l : List Tree) : ∀ s par rk pv,
    sibRecs s par rk pv l = l.zipIdx.map (fun p => sibRecAt s par rk pv l p.2 p.1) := by
  induction l with
  | nil => intros; rfl
  | cons a as ih =>
    intro s par rk pv
    rw [sibRecs, ih, List.zipIdx_cons', List.map_cons, List.map_map, sibRecAt_zero]
    exact congrArg _ (List.map_congr_left fun p _ => (sibRecAt_succ s par rk pv a as p.2 p.1).symm)

theorem sibRecs_map_t (l : List Tree) (s : Nat) (par : Int) (rk : Nat) (pv : Int) : (sibRecs s par rk pv l).map (·.t) = l := by
  rw [sibRecs_eq, List.map_map]; exact List.zipIdx_map_fst 0 l

theorem mem_sibRecs (l : List Tree) (s : Nat) (par : Int) (rk : Nat) (pv : Int) (x : Occ) :
    x ∈ sibRecs s par rk pv l ↔ ∃ j c, l[j]? = some c ∧ x = sibRecAt s par rk pv l j c := by
  rw [sibRecs_eq, List.mem_map]
  exact ⟨fun ⟨p, hp, e⟩ => ⟨p.2, p.1, List.mem_zipIdx_iff_getElem?.1 hp, e.symm⟩,
    fun ⟨j, c, hj, e⟩ => ⟨(c, j), List.mem_zipIdx_iff_getElem?.2 hj, e.symm⟩⟩

def childRecs (oc : Occ) : List Occ :=
  sibRecs (kstart 0 oc) oc.id 0 (-1) (kids 0 oc.t) ++ sibRecs (kstart 1 oc) oc.id 0 (-1) (kids 1 oc.t) ++
    sibRecs (kstart 2 oc) oc.id 0 (-1) (kids 2 oc.t) ++ sibRecs (kstart 3 oc) oc.id 0 (-1) (kids 3 oc.t)

def IsChild (poc oc : Occ) : Prop :=
  ∃ q, q < 4 ∧ ∃ j c, (kids q poc.t)[j]? = some c ∧ oc = sibRecAt (kstart q poc) poc.id 0 (-1) (kids q poc.t) j c

theorem mem_childRecs (oc x : Occ) : x ∈ childRecs oc ↔ IsChild oc x := by
  unfold childRecs IsChild
  simp only [List.mem_append, mem_sibRecs]
  constructor
  · rintro (((h | h) | h) | h)
    · exact ⟨0, by omega, h⟩
    · exact ⟨1, by omega, h⟩
    · exact ⟨2, by omega, h⟩
    · exact ⟨3, by omega, h⟩
  · rintro ⟨q, hq, h⟩
    match q, hq with
    | 0, _ => exact Or.inl (Or.inl (Or.inl h))
    | 1, _ => exact Or.inl (Or.inl (Or.inr h))
    | 2, _ => exact Or.inl (Or.inr h)
    | 3, _ => exact Or.inr h

theorem childRecs_map_t (oc : Occ) : (childRecs oc).map (·.t) = oc.t.ns ++ oc.t.ms ++ oc.t.ios ++ oc.t.mis := by
  unfold childRecs
  simp only [List.map_append, sibRecs_map_t]
  rfl

/-! ### the occurrence list is the preorder of the records -/

theorem occsL_eq (l : List Tree) : ∀ s par rk pv,
    occsL s par rk pv l = (sibRecs s par rk pv l).flatMap (fun c => occsT c.id c.parent c.rank c.prev c.next c.t) := by
  induction l with
  | nil => intros; rfl
  | cons a as ih => intro s par rk pv; rw [occsL, sibRecs, List.flatMap_cons, ih]

theorem occsT_eq (r : Occ) : occsT r.id r.parent r.rank r.prev r.next r.t =
    r :: (childRecs r).flatMap (fun c => occsT c.id c.parent c.rank c.prev c.next c.t) := by
  obtain ⟨s, par, rk, pv, nx, t⟩ := r
  cases t with
  | node o ns ms ios mis =>
    rw [occsT, occsL_eq, occsL_eq, occsL_eq, occsL_eq]
    simp only [childRecs, List.flatMap_append]
    rfl

theorem occRec_ind {P : Occ → Prop} (h : ∀ r, (∀ c ∈ childRecs r, P c) → P r) : ∀ r, P r := by
  suffices hs : ∀ t s par rk pv nx, P ⟨s, par, rk, pv, nx, t⟩ from fun r => hs r.t r.id r.parent r.rank r.prev r.next
  refine Tree.ind4 fun o ns ms ios mis h1 h2 h3 h4 s par rk pv nx => h _ fun c hc => ?_
  have hm := List.mem_map_of_mem (f := (·.t)) hc
  rw [childRecs_map_t] at hm
  simp only [List.mem_append] at hm
  obtain ⟨s', par', rk', pv', nx', t'⟩ := c
  rcases hm with ((hm | hm) | hm) | hm
  · exact h1 _ hm _ _ _ _ _
  · exact h2 _ hm _ _ _ _ _
  · exact h3 _ hm _ _ _ _ _
  · exact h4 _ hm _ _ _ _ _

theorem occs_up (r : Occ) : ∀ oc ∈ occsT r.id r.parent r.rank r.prev r.next r.t,
    oc = r ∨ ∃ poc ∈ occsT r.id r.parent r.rank r.prev r.next r.t, IsChild poc oc := by
  induction r using occRec_ind with
  | _ r ih =>
    intro oc hoc
    rw [occsT_eq] at hoc ⊢
    rcases List.mem_cons.1 hoc with rfl | hoc
    · exact Or.inl rfl
    · obtain ⟨c, hc, hoc⟩ := List.mem_flatMap.1 hoc
      refine Or.inr ((ih c hc oc hoc).elim (fun e => ⟨r, List.mem_cons_self, (mem_childRecs r oc).1 (e ▸ hc)⟩) fun ⟨poc, hp, hx⟩ => ?_)
      exact ⟨poc, List.mem_cons_of_mem _ (List.mem_flatMap.2 ⟨c, hc, hp⟩), hx⟩

theorem occ_up (t : Tree) (oc : Occ) (hoc : oc ∈ occs t) : oc = ⟨0, -1, 0, -1, -1, t⟩ ∨ ∃ poc ∈ occs t, IsChild poc oc :=
  occs_up ⟨0, -1, 0, -1, -1, t⟩ oc hoc

theorem isChild_parent {poc x : Occ} (h : IsChild poc x) : x.parent = (poc.id : Int) := by
  obtain ⟨_, _, _, _, _, rfl⟩ := h; rfl

theorem occs_down (r : Occ) : ∀ oc ∈ occsT r.id r.parent r.rank r.prev r.next r.t, ∀ x, IsChild oc x →
    x ∈ occsT r.id r.parent r.rank r.prev r.next r.t := by
  induction r using occRec_ind with
  | _ r ih =>
    intro oc hoc x hx
    rw [occsT_eq] at hoc ⊢
    refine List.mem_cons_of_mem _ (List.mem_flatMap.2 ?_)
    rcases List.mem_cons.1 hoc with rfl | hoc
    · exact ⟨x, (mem_childRecs oc x).2 hx, by rw [occsT_eq]; exact List.mem_cons_self⟩
    · obtain ⟨c, hc, hoc⟩ := List.mem_flatMap.1 hoc
      exact ⟨c, hc, ih c hc oc hoc x hx⟩

theorem occ_child_mem (t : Tree) (poc : Occ) (hp : poc ∈ occs t) (x : Occ) (hx : IsChild poc x) : x ∈ occs t :=
  occs_down ⟨0, -1, 0, -1, -1, t⟩ poc hp x hx

/-! ### induction over the occurrences -/

theorem occ_ind {t : Tree} {P : Occ → Prop} (hroot : P ⟨0, -1, 0, -1, -1, t⟩)
    (hchild : ∀ poc ∈ occs t, P poc → ∀ q, q < 4 → ∀ j c, (kids q poc.t)[j]? = some c →
      P (sibRecAt (kstart q poc) poc.id 0 (-1) (kids q poc.t) j c)) : ∀ oc ∈ occs t, P oc := by
  suffices h : ∀ r, r ∈ occs t → P r → ∀ oc ∈ occsT r.id r.parent r.rank r.prev r.next r.t, P oc from
    h _ (occs_root_mem t) hroot
  intro r
  induction r using occRec_ind with
  | _ r ih =>
    intro hr hPr oc hoc
    rw [occsT_eq] at hoc
    rcases List.mem_cons.1 hoc with rfl | hoc
    · exact hPr
    · obtain ⟨c, hc, hoc⟩ := List.mem_flatMap.1 hoc
      have hcc := (mem_childRecs r c).1 hc
      obtain ⟨q, hq, j, c', hj, rfl⟩ := hcc
      exact ih _ hc (occ_child_mem t r hr _ ⟨q, hq, j, c', hj, rfl⟩) (hchild r hr hPr q hq j c' hj) oc hoc

theorem occ_all {P : Tree → Prop} (hP : ∀ T, P T → ∀ q, q < 4 → ∀ c ∈ kids q T, P c) (t : Tree) (ht : P t) :
    ∀ oc ∈ occs t, P oc.t :=
  occ_ind (P := fun oc => P oc.t) ht fun poc _ ih q hq _ c hj => hP poc.t ih q hq c (List.mem_of_getElem? hj)

theorem occ_typed (t : Tree) (ht : typedT t = true) (oc : Occ) (hoc : oc ∈ occs t) : typedT oc.t = true :=
  occ_all (P := fun T => typedT T = true)
    (fun T hT q hq c hc => (typedL_mem _ _ (typedT_kids T hT q hq) c hc).2) t ht oc hoc

theorem childRecs_increasing (oc : Occ) : (childRecs oc).Pairwise (fun a b => a.id < b.id) := by
  have hs : (childRecs oc).Sublist (occsT oc.id oc.parent oc.rank oc.prev oc.next oc.t) := by
    rw [occsT_eq]
    exact (sublist_flatMap_of_head _ _ fun c _ => occsT_head c.id c.parent c.rank c.prev c.next c.t).cons _
  have hid : ((occsT oc.id oc.parent oc.rank oc.prev oc.next oc.t).map (·.id)).Pairwise (· < ·) := by
    rw [occs_map_id.1]; exact List.pairwise_lt_range' 1
  exact (List.pairwise_map.1 hid).sublist hs

end Hw.Topo.Restrict
