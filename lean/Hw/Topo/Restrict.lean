/-
  Hw.Topo.Restrict — model of hwloc_topology_restrict() (hwloc/topology.c):
    * flag validation and the "keep something" pre-checks            (`restrict`, constants from Hw.Gen.RestrictConsts)
    * droppedcpuset / droppednodeset incl. CPU-less / memory-less detection (`droppedNodes`, `droppedPUs`)
    * restrict_object_by_cpuset / restrict_object_by_nodeset          (`restrictT` / `restrictL`, one recursion with a mode)
    * unlink_and_free_single_object for an object without normal/memory children (special lists appended to the parent)
    * hwloc__reorder_children                                         (`reorder`, insertion sort by compare_first)
    * hwloc_connect_levels                                            (`connectLevels`)
    * hwloc_filter_levels_keep_structure                              (`keepStructure`)
  over the four-list object tree.  Sets of objects are finite (`Nat` masks); the set given by the caller and the dropped
  sets are finite or cofinite (`CSet`).  Bitmap primitives enter through their set-level meaning (C03).
-/
import Hw.Topo.Types
import Hw.Base.Basic
import Hw.Gen.RestrictConsts
namespace Hw.Topo.Restrict
open Hw.Topo Hw.Gen.Restrict

/-! ### sets -/

/-- finite (`inf = false`: the set `bits`) or cofinite (`inf = true`: the complement of `bits`) set of indexes -/
structure CSet where
  bits : Nat
  inf : Bool
deriving DecidableEq, Repr, Inhabited

def CSet.mem (s : CSet) (i : Nat) : Bool := s.bits.testBit i != s.inf
/-- hwloc_bitmap_not -/
def CSet.compl (s : CSet) : CSet := { s with inf := !s.inf }
def CSet.ofMask (m : Nat) : CSet := ⟨m, false⟩
def CSet.empty : CSet := ⟨0, false⟩

/-- `a \ b` on masks -/
def andnot (a b : Nat) : Nat := a ^^^ (a &&& b)
/-- hwloc_bitmap_andnot(x, x, d) for a finite `x` -/
def minus (x : Nat) (d : CSet) : Nat := if d.inf then x &&& d.bits else andnot x d.bits
/-- hwloc_bitmap_intersects(x, d) for a finite `x` -/
def meets (x : Nat) (d : CSet) : Bool := if d.inf then andnot x d.bits != 0 else x &&& d.bits != 0
/-- hwloc_bitmap_isincluded(x, d) for a finite `x` -/
def inside (x : Nat) (d : CSet) : Bool := minus x d == 0

/-! ### objects and trees -/

/-- what restrict reads or writes of one object (everything else is carried along by identity = gp_index) -/
structure RObj where
  gp : Nat
  type : Nat
  osidx : Int
  cpuset : Nat
  ccpuset : Nat
  nodeset : Nat
  cnodeset : Nat
  hasSets : Bool          -- false for I/O and Misc objects (NULL sets, kept as 0 here)
  gkind : Int             -- attr->group.kind / subkind (hwloc_type_cmp)
  gsubkind : Int
  dmByte : Nat            -- attr->group.dont_merge (Groups only, 0 otherwise)
deriving DecidableEq, Repr, Inhabited

/-- an object with its four children lists: normal, memory, I/O, Misc -/
inductive Tree where
  | node (o : RObj) (ns ms ios mis : List Tree) : Tree
deriving Repr, Inhabited

def Tree.obj : Tree → RObj | .node o _ _ _ _ => o
def Tree.ns : Tree → List Tree | .node _ ns _ _ _ => ns
def Tree.ms : Tree → List Tree | .node _ _ ms _ _ => ms
def Tree.ios : Tree → List Tree | .node _ _ _ ios _ => ios
def Tree.mis : Tree → List Tree | .node _ _ _ _ mis => mis

mutual
/-- all objects of a subtree, DFS: the object, then its normal, memory, I/O, Misc children (the order of harness/dump.h) -/
def objsT : Tree → List RObj
  | .node o ns ms ios mis => o :: (objsL ns ++ objsL ms ++ objsL ios ++ objsL mis)
def objsL : List Tree → List RObj
  | [] => []
  | t :: ts => objsT t ++ objsL ts
end

/-! ### the recursion of restrict_object_by_cpuset / _by_nodeset -/

structure Params where
  dc : CSet               -- droppedcpuset (the empty set when the C pointer is NULL: same behaviour)
  dn : CSet               -- droppednodeset
  byNode : Bool           -- HWLOC_RESTRICT_FLAG_BYNODESET
  rmExempt : Bool         -- REMOVE_CPULESS (by cpuset) resp. REMOVE_MEMLESS (by nodeset)
  adaptIO : Bool
  adaptMisc : Bool
deriving Repr, DecidableEq

def shrinkCpu (d : CSet) (o : RObj) : RObj := { o with cpuset := minus o.cpuset d, ccpuset := minus o.ccpuset d }
def shrinkNode (d : CSet) (o : RObj) : RObj := { o with nodeset := minus o.nodeset d, cnodeset := minus o.cnodeset d }
/-- the two guarded andnot blocks at the top of restrict_object_by_* (they touch different fields, so their order,
    which differs between the two C functions, is immaterial) -/
def shrinkG (p : Params) (o : RObj) : RObj :=
  let o1 := if meets o.ccpuset p.dc then shrinkCpu p.dc o else o
  if meets o1.cnodeset p.dn then shrinkNode p.dn o1 else o1
/-- `modified` -/
def touched (p : Params) (o : RObj) : Bool := meets o.ccpuset p.dc || meets o.cnodeset p.dn
/-- the unguarded meaning: every set minus the dropped resources -/
def shrinkU (p : Params) (o : RObj) : RObj := shrinkNode p.dn (shrinkCpu p.dc o)

/-- hwloc_bitmap_first as an option -/
def firstBit (m : Nat) : Option Nat := Hw.lowest (fun i => m.testBit i) (m.log2 + 1)
/-- hwloc_bitmap_compare_first(a, b) > 0 on finite sets: an empty set is "higher" than any non-empty one -/
def gtFirst (a b : Nat) : Bool :=
  match firstBit a, firstBit b with
  | none, none => false
  | none, some _ => true
  | some _, none => false
  | some x, some y => decide (y < x)

/-- one enqueue step of hwloc__reorder_children: before the first element that is not lower -/
def insertChild (c : Tree) : List Tree → List Tree
  | [] => [c]
  | x :: xs => if gtFirst c.obj.ccpuset x.obj.ccpuset then x :: insertChild c xs else c :: x :: xs
/-- hwloc__reorder_children -/
def reorder (l : List Tree) : List Tree := l.foldl (fun acc c => insertChild c acc) []

def emptyAfter (p : Params) (o : RObj) : Bool := if p.byNode then o.nodeset == 0 else o.cpuset == 0
def removable (p : Params) (ty : Nat) : Bool := if p.byNode then (ty != tPU || p.rmExempt) else (ty != tNUMA || p.rmExempt)
def doReorder (p : Params) : Bool := !p.byNode || p.rmExempt

/-- result of restricting one subtree (or a list of sibling subtrees): the survivors that stay in place, and the
    I/O and Misc subtrees handed to the parent (appended to its lists by unlink_and_free_single_object) -/
structure Res where
  kept : List Tree
  io : List Tree
  misc : List Tree
deriving Repr, Inhabited

mutual
/-- the recursion, parametrised by the children-reordering function `ro` (hwloc uses `reorder`; the parameter lets the
    lemmas depend only on "`ro` permutes its argument" and lets the driver recognise the calls on which reordering matters) -/
def restrictTW (ro : List Tree → List Tree) (p : Params) : Tree → Res
  | .node o ns ms ios mis =>
    let m := touched p o
    let rn := if m then restrictLW ro p ns else ⟨ns, [], []⟩
    let rm := if m then restrictLW ro p ms else ⟨ms, [], []⟩
    let o' := shrinkG p o
    let ns' := if m && doReorder p then ro rn.kept else rn.kept
    let ios' := ios ++ rn.io ++ rm.io
    let mis' := mis ++ rn.misc ++ rm.misc
    if ns'.isEmpty && rm.kept.isEmpty && emptyAfter p o' && removable p o'.type then
      ⟨[], if p.adaptIO then ios' else [], if p.adaptMisc then mis' else []⟩
    else ⟨[.node o' ns' rm.kept ios' mis'], [], []⟩
def restrictLW (ro : List Tree → List Tree) (p : Params) : List Tree → Res
  | [] => ⟨[], [], []⟩
  | t :: ts =>
    let r := restrictTW ro p t
    let rs := restrictLW ro p ts
    ⟨r.kept ++ rs.kept, r.io ++ rs.io, r.misc ++ rs.misc⟩
end

/-- restrict_object_by_cpuset / restrict_object_by_nodeset -/
def restrictT (p : Params) : Tree → Res := restrictTW reorder p
def restrictL (p : Params) : List Tree → Res := restrictLW reorder p

/-! ### the public function up to the tree recursion -/

structure Topo where
  tree : Tree
  allowedCpu : Nat
  allowedNode : Nat
  filters : List Nat      -- type_filter[] indexed by type
deriving Repr, Inhabited

inductive Ret where
  | ok
  | einval
  | rootRemoved           -- the C code would dereference the NULL parent of the root (never reached, see `restrictCore_isSome`)
deriving DecidableEq, Repr

def hasFlag (flags f : Nat) : Bool := flags &&& f != 0
def allFlags : Nat := flagRemoveCpuless ||| flagAdaptMisc ||| flagAdaptIO ||| flagByNodeset ||| flagRemoveMemless

def osBit (o : RObj) : Nat := 1 <<< o.osidx.toNat

/-- nodes to drop with REMOVE_CPULESS: os_index of every NUMA node whose cpuset is or becomes empty -/
def droppedNodes (t : Tree) (dc : CSet) : Nat :=
  ((objsT t).filter (fun o => o.type == tNUMA)).foldl
    (fun acc o => if o.cpuset == 0 || inside o.cpuset dc then acc ||| osBit o else acc) 0
/-- PUs to drop with REMOVE_MEMLESS: os_index of every PU whose cpuset is empty or whose nodeset becomes empty -/
def droppedPUs (t : Tree) (dn : CSet) : Nat :=
  ((objsT t).filter (fun o => o.type == tPU)).foldl
    (fun acc o => if o.cpuset == 0 || inside o.nodeset dn then acc ||| osBit o else acc) 0

/-- flag validation + pre-checks + dropped sets: `none` = EINVAL -/
def plan (t : Topo) (s : CSet) (flags : Nat) : Option Params :=
  if andnot flags allFlags != 0 then none else
  let byNode := hasFlag flags flagByNodeset
  if byNode && hasFlag flags flagRemoveCpuless then none else
  if !byNode && hasFlag flags flagRemoveMemless then none else
  if byNode && !meets t.allowedNode s then none else
  if !byNode && !meets t.allowedCpu s then none else
  let aio := hasFlag flags flagAdaptIO
  let amisc := hasFlag flags flagAdaptMisc
  if byNode then
    let dn := s.compl
    if hasFlag flags flagRemoveMemless then
      let dc := CSet.ofMask (droppedPUs t.tree dn)
      if inside t.allowedCpu dc then none else some ⟨dc, dn, true, true, aio, amisc⟩
    else some ⟨CSet.empty, dn, true, false, aio, amisc⟩
  else
    let dc := s.compl
    if hasFlag flags flagRemoveCpuless then
      let dn := CSet.ofMask (droppedNodes t.tree dc)
      if inside t.allowedNode dn then none else some ⟨dc, dn, false, true, aio, amisc⟩
    else some ⟨dc, CSet.empty, false, false, aio, amisc⟩

/-! ### hwloc_connect_levels -/

def orderOf (ty : Nat) : Nat := (typeOrder[ty]?).getD 0
def priorityOf (ty : Nat) : Nat := (typePriority[ty]?).getD 0

/-- hwloc_type_cmp(a, b) == HWLOC_OBJ_EQUAL (both normal objects) -/
def typeEq (a b : RObj) : Bool :=
  orderOf a.type == orderOf b.type && !(a.type == tGROUP && (a.gkind != b.gkind || a.gsubkind != b.gsubkind))

mutual
/-- find_same_type(root, x): an object strictly below `root` (normal children only) of the same type as `x` -/
def findSameT (x : RObj) : Tree → Bool
  | .node _ ns _ _ _ => findSameL x ns
def findSameL (x : RObj) : List Tree → Bool
  | [] => false
  | t :: ts => typeEq t.obj x || findSameT x t || findSameL x ts
end

def levelsLoop : Nat → List Tree → List (List RObj)
  | 0, _ => []
  | fuel + 1, objs =>
    match objs with
    | [] => []
    | first :: _ =>
      let top0 := (objs.find? (fun o => o.obj.type != tPU)).getD first
      let top := objs.foldl (fun top o => if !typeEq top.obj o.obj && findSameT top.obj o then o else top) top0
      let taken := objs.filter (fun o => typeEq top.obj o.obj)
      let next := objs.flatMap (fun o => if typeEq top.obj o.obj then o.ns else [o])
      taken.map (·.obj) :: levelsLoop fuel next

/-- the normal levels, root level first -/
def connectLevels (t : Tree) : List (List RObj) :=
  [t.obj] :: levelsLoop (objsT t).length t.ns

/-! ### hwloc_filter_levels_keep_structure -/

/-- (gp, gp of the parent, arity, memory_arity) of every normal object (parent of the root: none) -/
structure Link where
  gp : Nat
  parent : Option Nat
  arity : Nat
  marity : Nat
deriving Repr

mutual
def linksT (parent : Option Nat) : Tree → List Link
  | .node o ns ms _ _ => ⟨o.gp, parent, ns.length, ms.length⟩ :: linksL (some o.gp) ns
def linksL (parent : Option Nat) : List Tree → List Link
  | [] => []
  | t :: ts => linksT parent t ++ linksL parent ts
end

def findLink (ls : List Link) (gp : Nat) : Option Link := ls.find? (fun l => l.gp == gp)

/-- hwloc_compare_levels_structure(i) == 0 -/
def sameStructure (ls : List Link) (up down : List RObj) : Bool :=
  let checkMemory := (down.head?.map (·.type)) == some tPU
  up.length == down.length &&
  (up.zip down).all (fun (u, d) =>
    match findLink ls u.gp, findLink ls d.gp with
    | some lu, some ld => ld.parent == some u.gp && lu.arity == 1 && !(checkMemory && lu.marity != 0)
    | _, _ => false)

/-- the child that replaces its parent stands for everything that was below the parent: it takes over the parent's complete
    sets (hwloc_bitmap_or of complete_cpuset / complete_nodeset in the replace-parent branch, fixes e57fd49 + 5bd7047) -/
def absorb (o co : RObj) : RObj := { co with ccpuset := co.ccpuset ||| o.ccpuset, cnodeset := co.cnodeset ||| o.cnodeset }
/-- … only when the parent has memory children to hand over (`if (parent->memory_first_child)`): they are the only moved
    objects that carry sets, and a PU child (never merged with a parent that has memory children) keeps its singleton -/
def absorbIf (ms : List Tree) (o co : RObj) : RObj := if ms.isEmpty then co else absorb o co

/-- one enqueue step of hwloc__reorder_memory_children: after all elements that are not higher, i.e. before the first element
    whose complete_nodeset is strictly higher (compare_first(child, *prev) < 0; an empty set is the highest) -/
def insertMem (c : Tree) : List Tree → List Tree
  | [] => [c]
  | x :: xs => if gtFirst x.obj.cnodeset c.obj.cnodeset then c :: x :: xs else x :: insertMem c xs
/-- hwloc__reorder_memory_children: stable insertion sort of the memory children by first bit of complete_nodeset -/
def reorderMem (l : List Tree) : List Tree := l.foldl (fun acc c => insertMem c acc) []

/-- the memory children after a merge: parent's ++ child's, re-sorted only when the list that is moved (the child's with
    `replaceChild`, the parent's otherwise) is not empty (fix 5313a43) -/
def mergedMs (replaceChild : Bool) (ms cms : List Tree) : List Tree :=
  if (if replaceChild then cms.isEmpty else ms.isEmpty) then ms ++ cms else reorderMem (ms ++ cms)

/-- merge an object with its single normal child: with `replaceChild` the parent stays and takes the child's normal children,
    otherwise the child (with the parent's complete sets or-ed in when the parent has memory children) takes the parent's
    place; in both cases the I/O and Misc lists become parent's ++ child's and the memory list `mergedMs` -/
def mergeNode (replaceChild : Bool) (o : RObj) (ns ms ios mis : List Tree) : Tree :=
  match ns with
  | [.node co cns cms cios cmis] =>
    .node (if replaceChild then o else absorbIf ms o co) cns (mergedMs replaceChild ms cms) (ios ++ cios) (mis ++ cmis)
  | _ => .node o ns ms ios mis

mutual
/-- merge every object whose gp is in `ps` (the objects of one level) with its single normal child -/
def mergeT (ps : List Nat) (replaceChild : Bool) : Tree → Tree
  | .node o ns ms ios mis =>
    if ps.contains o.gp then mergeNode replaceChild o ns ms ios mis
    else .node o (mergeL ps replaceChild ns) ms ios mis
def mergeL (ps : List Nat) (replaceChild : Bool) : List Tree → List Tree
  | [] => []
  | t :: ts => mergeT ps replaceChild t :: mergeL ps replaceChild ts
end

def filterOf (filters : List Nat) (ty : Nat) : Nat := (filters[ty]?).getD 0
def dontMergeLevel (l : List RObj) : Bool := l.any (fun o => o.dmByte != 0)

/-- the decision part of one iteration: `none` = leave both levels, `some rc` = merge with replacechild = rc -/
def mergeDecision (filters : List Nat) (up down : List RObj) : Option Bool :=
  match up.head?, down.head? with
  | some o1, some o2 =>
    let type1 := o1.type
    let type2 := o2.type
    let rp := filterOf filters type1 == filterKeepStructure && !(type1 == tGROUP && dontMergeLevel up)
    let rc := filterOf filters type2 == filterKeepStructure && !(type2 == tGROUP && dontMergeLevel down)
    let rc := if !rc && !rp then type1 == tPACKAGE && type2 == tDIE else rc
    if !rc && !rp then none
    else if rp && rc then some (decide (priorityOf type1 ≥ priorityOf type2))
    else some rc
  | _, _ => none

/-- some consecutive pair (cur, next) of a normal children list with next strictly lower than cur
    (hwloc__object_cpusets_compare_first(next, cur) < 0), cur restricted to the objects whose gp satisfies `sel` -/
def pairBad (sel : Nat → Bool) : List Tree → Bool
  | c :: n :: rest => (sel c.obj.gp && gtFirst c.obj.ccpuset n.obj.ccpuset) || pairBad sel (n :: rest)
  | _ => false

mutual
/-- the check after a replace-parent merge: one of the objects `gps` (the children that took their parents' places) has a
    next sibling that is strictly lower (the replaced parents were ordered by their own complete cpusets) -/
def badOrderT (gps : List Nat) : Tree → Bool
  | .node _ ns _ _ _ => pairBad (fun g => gps.contains g) ns || badOrderL gps ns
def badOrderL (gps : List Nat) : List Tree → Bool
  | [] => false
  | t :: ts => badOrderT gps t || badOrderL gps ts
end

/-- hwloc__reorder_children_if_needed: hwloc__reorder_children only when some consecutive pair is out of order
    (hwloc__reorder_children reverses children with identical first bits, so it must not run needlessly) -/
def fixOrder (l : List Tree) : List Tree := if pairBad (fun _ => true) l then reorder l else l

mutual
/-- hwloc__reorder_children_if_needed on every normal object (memory, I/O and Misc objects have no normal children) -/
def reorderAllT : Tree → Tree
  | .node o ns ms ios mis => .node o (fixOrder (reorderAllL ns)) ms ios mis
def reorderAllL : List Tree → List Tree
  | [] => []
  | t :: ts => reorderAllT t :: reorderAllL ts
end

/-- one iteration of the main loop for C index `i` (levels i-1 and i); state = tree, levels, need_reorder -/
def ksStep (filters : List Nat) (i : Nat) (st : Tree × List (List RObj) × Bool) : Tree × List (List RObj) × Bool :=
  match st.2.1[i - 1]?, st.2.1[i]? with
  | some up, some down =>
    match mergeDecision filters up down with
    | none => st
    | some rc =>
      if sameStructure (linksT none st.1) up down then
        (mergeT (up.map (·.gp)) rc st.1, (if rc then st.2.1.eraseIdx i else st.2.1.eraseIdx (i - 1)),
         -- `if (replaceparent && i>1)`: check the new order of the children that replaced their parents (fix 244c8a8)
         st.2.2 || (!rc && decide (1 < i) && badOrderT (down.map (·.gp)) (mergeT (up.map (·.gp)) rc st.1)))
      else st
  | _, _ => st

def ksLoop (filters : List Nat) : Nat → Tree × List (List RObj) × Bool → Tree × List (List RObj) × Bool
  | 0, st => st
  | i + 1, st => ksLoop filters i (ksStep filters (i + 1) st)

/-- hwloc__reconnect(KEEPSTRUCTURE) as far as the tree is concerned: the level loop, then, if a replace-parent merge left
    children out of order, one pass of hwloc__reorder_children_if_needed over all objects (levels are rebuilt from the tree) -/
def keepStructure (filters : List Nat) (t : Tree) : Tree :=
  let levels := connectLevels t
  let r := ksLoop filters (levels.length - 1) (t, levels, false)
  if r.2.2 then reorderAllT r.1 else r.1

/-! ### hwloc_topology_restrict -/

/-- the tree recursion and the allowed sets, before hwloc__reconnect -/
def restrictCore (t : Topo) (p : Params) : Option Topo :=
  match (restrictT p t.tree).kept with
  | [root] => some { t with tree := root, allowedCpu := minus t.allowedCpu p.dc, allowedNode := minus t.allowedNode p.dn }
  | _ => none

def restrict (t : Topo) (s : CSet) (flags : Nat) : Topo × Ret :=
  match plan t s flags with
  | none => (t, .einval)
  | some p =>
    match restrictCore t p with
    | none => (t, .rootRemoved)
    | some t' => ({ t' with tree := keepStructure t'.filters t'.tree }, .ok)

end Hw.Topo.Restrict
