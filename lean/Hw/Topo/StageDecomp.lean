/-
  Hw.Topo.StageDecomp — the nodeset decomposition (WF clause `nodeset-decomposition`, established by the set stage:
  `SetStage.Decomp`) over the four-list tree, and its preservation by `remove_empty` on typed trees: the objects that are unlinked
  contribute no NUMA node (a removed memory object has an empty nodeset, a removed normal object has nothing attached below).
-/
import Hw.Topo.StageCompose
namespace Hw.Topo.Restrict.Stage
open Hw.Topo Hw.Topo.Restrict Hw.Topo.SetStage

mutual
/-- the nodes attached at or below a normal object (`SetStage.below` on the four-list tree) -/
def belowT : Tree → Nat
  | .node _ ns ms _ _ => orL (ms.map (fun m => m.obj.nodeset)) ||| belowTL ns
def belowTL : List Tree → Nat
  | [] => 0
  | t :: ts => belowT t ||| belowTL ts
end

theorem belowTL_eq (l : List Tree) : belowTL l = orL (l.map belowT) := by
  induction l with
  | nil => rfl
  | cons t ts ih => rw [belowTL, ih]; rfl

theorem belowT_node (o : RObj) (ns ms ios mis : List Tree) :
    belowT (.node o ns ms ios mis) = orL (ms.map (fun m => m.obj.nodeset)) ||| orL (ns.map belowT) := by
  rw [belowT, belowTL_eq]

/-- `SetStage.Decomp` on the four-list tree -/
inductive DecompT : Nat → Tree → Prop
  | node {inh : Nat} {o : RObj} {ns ms ios mis : List Tree} :
      (ms.map (fun m => m.obj.nodeset)).Pairwise Dj →
      (orL (ms.map (fun m => m.obj.nodeset)) :: ns.map belowT).Pairwise Dj →
      Dj inh (belowT (.node o ns ms ios mis)) →
      o.nodeset = inh ||| belowT (.node o ns ms ios mis) →
      (∀ k ∈ ns, DecompT (inh ||| orL (ms.map (fun m => m.obj.nodeset))) k) →
      DecompT inh (.node o ns ms ios mis)

/-! ### lists of masks from which zeros are dropped -/

inductive DropZ : List Nat → List Nat → Prop
  | nil : DropZ [] []
  | keep (x : Nat) {l' l : List Nat} : DropZ l' l → DropZ (x :: l') (x :: l)
  | drop {l' l : List Nat} : DropZ l' l → DropZ l' (0 :: l)

theorem DropZ.sublist {l' l : List Nat} (h : DropZ l' l) : l'.Sublist l := by
  induction h with
  | nil => exact List.Sublist.slnil
  | keep x _ ih => exact ih.cons_cons x
  | drop _ ih => exact ih.cons 0

theorem DropZ.orL_eq {l' l : List Nat} (h : DropZ l' l) : SetStage.orL l' = SetStage.orL l := by
  induction h with
  | nil => rfl
  | keep x _ ih => rw [orL_cons, orL_cons, ih]
  | drop _ ih => rw [orL_cons, ih, Nat.zero_or]

theorem DropZ.append {a' a b' b : List Nat} (h1 : DropZ a' a) (h2 : DropZ b' b) : DropZ (a' ++ b') (a ++ b) := by
  induction h1 with
  | nil => exact h2
  | keep x _ ih => exact .keep x ih
  | drop _ ih => exact .drop ih

theorem DropZ.nil_orL {l : List Nat} (h : DropZ [] l) : SetStage.orL l = 0 := by rw [← h.orL_eq]; rfl

theorem dropZ_filterMap {g : Tree → Nat} {l : List Tree} (hs : ∀ c ∈ l, ∀ c', removeEmpty c = some c' → g c' = g c)
    (hn : ∀ c ∈ l, removeEmpty c = none → g c = 0) : DropZ ((l.filterMap removeEmpty).map g) (l.map g) := by
  induction l with
  | nil => exact .nil
  | cons t ts ih =>
    have ih := ih (fun c hc => hs c (List.mem_cons_of_mem _ hc)) (fun c hc => hn c (List.mem_cons_of_mem _ hc))
    cases h : removeEmpty t with
    | none => rw [List.filterMap_cons_none h, List.map_cons, hn t List.mem_cons_self h]; exact .drop ih
    | some t' => rw [List.filterMap_cons_some h, List.map_cons, List.map_cons, hs t List.mem_cons_self t' h]; exact .keep _ ih

/-- the nodesets of the surviving memory children, and what is attached below the surviving normal children, are those of all
    children with zeros dropped: a removed memory object has an empty nodeset -/
theorem dropZ_children {ns ms : List Tree} (hm : typedL isMemory ms = true)
    (ih : ∀ c ∈ ns, (∀ c', removeEmpty c = some c' → belowT c' = belowT c) ∧ (removeEmpty c = none → belowT c = 0)) :
    DropZ ((ns.filterMap removeEmpty).map belowT) (ns.map belowT) ∧
    DropZ ((ms.filterMap removeEmpty).map fun m => m.obj.nodeset) (ms.map fun m => m.obj.nodeset) := by
  refine ⟨dropZ_filterMap (fun c hc => (ih c hc).1) (fun c hc => (ih c hc).2),
    dropZ_filterMap (fun c _ c' e => by rw [(removeEmpty_some e).2.2.1]) fun c hc e => ?_⟩
  have he := removeEmpty_none c e
  unfold emptySet at he
  rw [not_normal_of_memory ((typedL_iff _ _).1 hm c hc).1] at he
  simpa using he

theorem removeEmpty_below : ∀ t, typedT t = true →
    (∀ t', removeEmpty t = some t' → belowT t' = belowT t) ∧ (removeEmpty t = none → belowT t = 0) := by
  apply Tree.indNM
  intro o ns ms ios mis ihn _ h
  obtain ⟨h1, h2⟩ := dropZ_children (ms := ms) (typedT_lists _ h).2.1
    fun c hc => ihn c hc ((typed_descends o ns ms ios mis h).2.1 c hc)
  rw [removeEmpty_node]
  split
  · exact ⟨fun t' e => by cases e; rw [belowT_node, belowT_node, h1.orL_eq, h2.orL_eq], fun e => (nomatch e)⟩
  · rename_i ha
    refine ⟨fun t' e => (nomatch e), fun _ => ?_⟩
    rw [alive_eq_not] at ha
    simp only [Bool.not_eq_true, Bool.not_eq_false', Bool.and_eq_true, List.isEmpty_iff] at ha
    rw [ha.1.1.1] at h1
    rw [ha.1.1.2] at h2
    rw [belowT_node, h1.nil_orL, h2.nil_orL]; rfl

theorem removeEmpty_decomp : ∀ t t', removeEmpty t = some t' → typedT t = true → ∀ inh, DecompT inh t → DecompT inh t' := by
  apply removeEmpty_ind
  intro o ns ms ios mis ihn _ ha h inh hd
  have hb := (removeEmpty_below _ h).1 _ (by rw [removeEmpty_node, if_pos ha])
  have hk := (typed_descends o ns ms ios mis h).2.1
  obtain ⟨h1, h2⟩ := dropZ_children (ms := ms) (typedT_lists _ h).2.1 fun c hc => removeEmpty_below c (hk c hc)
  cases hd with
  | node d1 d2 d3 d4 d5 =>
    refine .node (d1.sublist h2.sublist) ?_ (by rw [hb]; exact d3) (by rw [hb]; exact d4) fun k' hk' => ?_
    · rw [h2.orL_eq]; exact d2.sublist (h1.sublist.cons_cons _)
    · obtain ⟨k, hk1, e⟩ := List.mem_filterMap.1 hk'
      rw [h2.orL_eq]
      exact ihn k hk1 k' e (hk k hk1) _ (d5 k hk1)

/-! ### from the set-stage tree -/

theorem toTree_nodesets (dc : Deco) (l : List ST) : (l.map (toTree dc)).map (fun m => m.obj.nodeset) = l.map (·.o.nodeset) := by
  rw [List.map_map]
  exact List.map_congr_left fun m _ => by rw [Function.comp, toTree_obj]; rfl

theorem toTree_below (dc : Deco) : ∀ s : ST, belowT (toTree dc s) = below s := by
  apply ST.ind
  intro o kids mem ihk _
  rw [toTree_node, belowT_node, below_node, toTree_nodesets, List.map_map,
    List.map_congr_left (f := belowT ∘ toTree dc) (g := below) ihk]

theorem decompT_toTree (dc : Deco) : ∀ (s : ST) (inh : Nat), Decomp inh s → DecompT inh (toTree dc s) := by
  apply ST.ind
  intro o kids mem ihk _ inh hd
  cases hd with
  | node d1 d2 d3 d4 d5 =>
    have e2 : (kids.map (toTree dc)).map belowT = kids.map below := by
      rw [List.map_map]; exact List.map_congr_left fun k _ => toTree_below dc k
    have e3 := toTree_below dc (.node o kids mem)
    rw [toTree_node] at e3 ⊢
    refine .node (by rw [toTree_nodesets]; exact d1) (by rw [toTree_nodesets, e2]; exact d2) (by rw [e3]; exact d3)
      (by rw [e3]; exact d4) fun k' hk' => ?_
    obtain ⟨k, hk, rfl⟩ := List.mem_map.1 hk'
    rw [toTree_nodesets]
    exact ihk k hk _ (d5 k hk)

end Hw.Topo.Restrict.Stage
