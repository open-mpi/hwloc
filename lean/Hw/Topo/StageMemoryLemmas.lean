/-
  Hw.Topo.StageMemoryLemmas — `propagate_total_memory` (model Hw.Topo.StageMemory) leaves, at every object it visits, the sum of the
  local memory of the NUMA nodes at or below the object modulo 2^64 (`total_mod`: every `+=` wraps and nothing else happens); so the
  totals are the exact sums as long as the sum at the root fits in 64 bits.
-/
import Hw.Topo.StageMemory
import Hw.Topo.TreeInd
namespace Hw.Topo.Restrict.Stage
open Hw.Topo Hw.Topo.Restrict

theorem addW_exact {a b : Nat} (h : a + b < W64) : addW a b = a + b := Nat.mod_eq_of_lt h

theorem total_mod (loc : RObj → Nat) : (∀ t, totalT loc t = sumLocalT loc t % W64) ∧
    ∀ l acc, totalAccL loc (acc % W64) l = (acc + sumLocalL loc l) % W64 := by
  apply tree_ind
  · intro o ns ms ios mis hn hm
    have h0 := hn 0
    rw [Nat.zero_mod, Nat.zero_add] at h0
    rw [totalT, sumLocalT, h0, hm]
    split
    · rw [addW, Nat.mod_add_mod, Nat.add_comm]
    · rw [Nat.zero_add]
  · intro acc; rw [totalAccL, sumLocalL]; rfl
  · intro t ts ht hts acc
    rw [totalAccL, sumLocalL, ht, addW, ← Nat.add_mod, hts, Nat.add_assoc]

theorem totalT_exact (loc : RObj → Nat) (t : Tree) (h : sumLocalT loc t < W64) : totalT loc t = sumLocalT loc t := by
  rw [(total_mod loc).1, Nat.mod_eq_of_lt h]

theorem totalAccL_exact (loc : RObj → Nat) : ∀ (l : List Tree) (acc : Nat), acc + sumLocalL loc l < W64 →
    totalAccL loc acc l = acc + sumLocalL loc l := fun l acc h => by
  have := (total_mod loc).2 l acc
  rwa [Nat.mod_eq_of_lt h, Nat.mod_eq_of_lt (Nat.lt_of_le_of_lt (Nat.le_add_right ..) h)] at this

theorem addW_lt (a b : Nat) : addW a b < W64 := Nat.mod_lt _ (by decide)

/-! ### the objects the function visits -/

mutual
/-- the subtrees rooted at the objects that `propagate_total_memory` visits, depth-first (normal children, then memory children) -/
def subNM : Tree → List Tree
  | .node o ns ms ios mis => .node o ns ms ios mis :: (subNML ns ++ subNML ms)
def subNML : List Tree → List Tree
  | [] => []
  | t :: ts => subNM t ++ subNML ts
end

mutual
theorem totalsT_eq (loc : RObj → Nat) : ∀ t : Tree, totalsT loc t = (subNM t).map (fun s => (s.obj.gp, totalT loc s))
  | .node o ns ms ios mis => by
    rw [totalsT, subNM, totalsL_eq loc ns, totalsL_eq loc ms]
    simp only [List.map_cons, List.map_append, Tree.obj]
theorem totalsL_eq (loc : RObj → Nat) : ∀ l : List Tree, totalsL loc l = (subNML l).map (fun s => (s.obj.gp, totalT loc s))
  | [] => by rw [totalsL, subNML]; rfl
  | t :: ts => by rw [totalsL, subNML, totalsT_eq loc t, totalsL_eq loc ts, List.map_append]
end

mutual
theorem subNM_le (loc : RObj → Nat) : ∀ t : Tree, ∀ s ∈ subNM t, sumLocalT loc s ≤ sumLocalT loc t
  | .node o ns ms ios mis => by
    intro s hs
    rw [subNM] at hs
    rcases List.mem_cons.1 hs with rfl | hs
    · exact Nat.le_refl _
    · rw [sumLocalT]
      rcases List.mem_append.1 hs with h | h
      · have := subNML_le loc ns s h; omega
      · have := subNML_le loc ms s h; omega
theorem subNML_le (loc : RObj → Nat) : ∀ l : List Tree, ∀ s ∈ subNML l, sumLocalT loc s ≤ sumLocalL loc l
  | [] => by intro s hs; rw [subNML] at hs; simp at hs
  | t :: ts => by
    intro s hs
    rw [subNML] at hs
    rw [sumLocalL]
    rcases List.mem_append.1 hs with h | h
    · have := subNM_le loc t s h; omega
    · have := subNML_le loc ts s h; omega
end

theorem totalsT_exact (loc : RObj → Nat) (t : Tree) (h : sumLocalT loc t < W64) :
    totalsT loc t = (subNM t).map (fun s => (s.obj.gp, sumLocalT loc s)) := by
  rw [totalsT_eq]
  apply List.map_congr_left
  intro s hs
  rw [totalT_exact loc s (Nat.lt_of_le_of_lt (subNM_le loc t s hs) h)]

def sumTotals (loc : RObj → Nat) (l : List Tree) : Nat := (l.map (totalT loc)).sum

theorem sumTotals_exact (loc : RObj → Nat) : ∀ l : List Tree, sumLocalL loc l < W64 → sumTotals loc l = sumLocalL loc l
  | [] => fun _ => by rw [sumLocalL]; rfl
  | t :: ts => by
    intro h
    rw [sumLocalL] at h
    have := sumTotals_exact loc ts (by omega)
    unfold sumTotals at this ⊢
    rw [List.map_cons, List.sum_cons, this, totalT_exact loc t (by omega), sumLocalL]

/-- the WF clause `total-memory` in tree form -/
theorem totalT_clause (loc : RObj → Nat) (t : Tree) (h : sumLocalT loc t < W64) :
    totalT loc t = (if t.obj.type == tNUMA then loc t.obj else 0) + (sumTotals loc t.ns + sumTotals loc t.ms) := by
  cases t with
  | node o ns ms ios mis =>
    show _ = (if o.type == tNUMA then loc o else 0) + (sumTotals loc ns + sumTotals loc ms)
    rw [totalT_exact loc _ h, sumLocalT]
    rw [sumLocalT] at h
    rw [sumTotals_exact loc ns (by omega), sumTotals_exact loc ms (by omega)]

end Hw.Topo.Restrict.Stage
