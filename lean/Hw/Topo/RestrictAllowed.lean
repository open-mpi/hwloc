/-
  Hw.Topo.RestrictAllowed — the WF clause allowed-sets after restrict: the allowed sets stay inside (without
  INCLUDE_DISALLOWED: equal to) the root's sets, because hwloc_topology_restrict subtracts the same dropped sets from both, and
  level merging never touches the root object.
-/
import Hw.Topo.RestrictExists
namespace Hw.Topo.Restrict
open Hw.Topo Hw.Gen.Restrict

/-- C01 clause allowed-sets on the tree level (`incl` = HWLOC_TOPOLOGY_FLAG_INCLUDE_DISALLOWED) -/
def allowedOKT (T : Topo) (incl : Bool) : Bool :=
  T.tree.obj.hasSets && subset T.allowedCpu T.tree.obj.cpuset && subset T.allowedNode T.tree.obj.nodeset &&
  (incl || (T.allowedCpu == T.tree.obj.cpuset && T.allowedNode == T.tree.obj.nodeset))

theorem allowedOKT_iff (T : Topo) (incl : Bool) : allowedOKT T incl = true ↔
    T.tree.obj.hasSets = true ∧ subset T.allowedCpu T.tree.obj.cpuset = true ∧ subset T.allowedNode T.tree.obj.nodeset = true ∧
    (incl = true ∨ T.allowedCpu = T.tree.obj.cpuset ∧ T.allowedNode = T.tree.obj.nodeset) := by
  simp only [allowedOKT, Bool.and_eq_true, Bool.or_eq_true, beq_iff_eq, and_assoc]

theorem wf_allowedOK {d : Dump} (h : WF d) (t : Tree) (ht : treeOf d = .ok t) :
    allowedOKT { tree := t, allowedCpu := d.allowedCpuset.getD 0, allowedNode := d.allowedNodeset.getD 0, filters := d.filters }
      (flagIncludeDisallowed d) = true := by
  have hm := (wf_treeOf h t ht).2.2.1
  obtain ⟨c, hc, e⟩ := List.mem_map.1 ((treeOf_perm h t ht).mem_iff.1 (root_mem t))
  -- the root of the tree is a Machine, and the Machine of a well-formed dump is object 0, of which the clause speaks
  have h0 : d.objs[0]? = some c := by
    have := h.obj?_id hc
    rwa [h.machine_is_root c hc (by rw [← robjOf_type, e]; exact hm), Dump.obj?_natCast] at this
  obtain ⟨r, hr, s1, s2, heq⟩ := h.allowed
  obtain rfl : r = c := Option.some.inj (hr.symm.trans h0)
  have hsets := List.all_eq_true.1 (treeOf_setsPres h t ht) _ (root_mem t)
  simp only [beq_iff_eq] at hsets
  rw [allowedOKT_iff]
  refine ⟨by rw [hsets, hm]; rfl, ?_, ?_, ?_⟩
  · rw [← e]; exact s1
  · rw [← e]; exact s2
  · rw [← e]
    exact (Bool.eq_false_or_eq_true _).imp_right fun hf => ⟨congrArg (·.getD 0) (heq hf).1, congrArg (·.getD 0) (heq hf).2⟩

theorem subset_trans' {a b c : Nat} (h1 : subset a b = true) (h2 : subset b c = true) : subset a c = true :=
  subset_trans h1 h2

theorem allowedOK_restrict (T : Topo) (s : CSet) (flags : Nat) (incl : Bool) (hok : okT T.tree = true)
    (hty : typedT T.tree = true) (hr : isNormal T.tree.obj.type = true) (hl : puLeafT T.tree = true) (hs : mergeSafe T)
    (h : allowedOKT T incl = true) : allowedOKT (restrict T s flags).1 incl = true := by
  refine restrict_ind (P := fun T' => allowedOKT T' incl = true) T s flags h fun p t' _ hc => ?_
  · have hroot := restrictCore_root T p t' hc
    have hk := (restrictCore_keepStructure_pu T p t' hc hty hl hs).2
    have hobj : (keepStructure t'.filters t'.tree).obj = shrinkU p T.tree.obj := by
      rw [hk.2.1, (restrictCore_ok T p t' hc hok).2]
    simp only [allowedOKT_iff] at h ⊢
    rw [hobj, hroot.2.1, hroot.2.2.1]
    have c1 : (shrinkU p T.tree.obj).cpuset = minus T.tree.obj.cpuset p.dc := rfl
    have c2 : (shrinkU p T.tree.obj).nodeset = minus T.tree.obj.nodeset p.dn := rfl
    have c3 : (shrinkU p T.tree.obj).hasSets = T.tree.obj.hasSets := rfl
    rw [c1, c2, c3]
    refine ⟨h.1, minus_mono _ h.2.1, minus_mono _ h.2.2.1, ?_⟩
    rcases h.2.2.2 with h' | h'
    · exact Or.inl h'
    · exact Or.inr ⟨by rw [h'.1], by rw [h'.2]⟩

theorem render_allowed_sets (T : Topo) (fl : Nat) (h : allowedOKT T (fl % 2 == 1) = true) (ex : RObj → Extra) :
    topClause "allowed-sets" (render T.tree ⟨fl, T.filters, some T.allowedCpu, some T.allowedNode⟩ ex)
      (mkAux (render T.tree ⟨fl, T.filters, some T.allowedCpu, some T.allowedNode⟩ ex)) = true := by
  refine topClause_intro (k := 11) rfl ?_
  simp only [render_root]
  obtain ⟨e1, _, e3, _⟩ := ro_sets (normalLevels T.tree) (occs T.tree) ex ⟨0, -1, 0, -1, -1, T.tree⟩
  rw [allowedOKT_iff, beq_iff_eq] at h
  unfold rObj
  rw [e1, e3]
  simp only [optSet, h.1, if_true]
  show ((some T.allowedCpu).isSome && (some T.allowedNode).isSome &&
      subset ((some T.allowedCpu).getD 0) ((some T.tree.obj.cpuset).getD 0) &&
      subset ((some T.allowedNode).getD 0) ((some T.tree.obj.nodeset).getD 0) &&
      (fl % 2 == 1 || (some T.allowedCpu == some T.tree.obj.cpuset && some T.allowedNode == some T.tree.obj.nodeset))) = true
  simp only [Option.isSome_some, Option.getD_some, Bool.true_and, Bool.and_eq_true, Bool.or_eq_true, beq_iff_eq, Option.some.injEq]
  exact ⟨⟨h.2.1, h.2.2.1⟩, h.2.2.2⟩

end Hw.Topo.Restrict
