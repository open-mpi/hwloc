/-
  Hw.Topo.History — model of the modifying calls whose effect on the observable topology is fully
  predicted (C02): hwloc_topology_allow (three modes), hwloc_obj_add_info / hwloc_modify_infos
  (via Hw.Infos), hwloc_obj_set_subtype; and the relations checked after EVERY public modifying call
  of a history: well-formedness (the C01 oracle), stability of gp_index/type of surviving objects,
  "untouched on documented failures".
-/
import Hw.Topo.WF
import Hw.Attr.InfosLemmas
namespace Hw.Topo.Hist
open Hw.Topo

inductive HOp
  | allow (flags : Nat) (cpu node : Option Nat)
  | addInfo (obj : Nat) (n v : Option String)
  | modifyInfos (obj : Nat) (op : Nat) (n v : Option String)
  | setSubtype (obj : Nat) (s : Option String)
deriving Repr, DecidableEq

/-- return classes of the modelled calls -/
inductive Ret | ok (v : Int) | einval
deriving Repr, DecidableEq

def modifyObj (d : Dump) (i : Nat) (f : Obj → Obj) : Dump :=
  { d with objs := d.objs.modify i f }

def infoOp (op : Nat) : Hw.Infos.Op :=
  if op = 1 then .add else if op = 2 then .addUnique else if op = 4 then .replace else if op = 8 then .remove else .unknown

def isBad (r : Nat) (s : Option Nat) : Bool := match s with | some c => r &&& c == 0 | none => false
def pick (r : Nat) (s old : Option Nat) : Option Nat := match s with | some c => some (r &&& c) | none => old

/-- the new allowed sets computed by `hwloc_topology_allow` (hwloc/topology.c) on a topology that does not
describe this system (LOCAL_RESTRICTIONS is then EINVAL); `none` = EINVAL.  After the `fix:` commits: ALL
uses the root main sets, and both sets of the CUSTOM mode are validated before either is modified. -/
def allowSets (d : Dump) (root : Obj) (flags : Nat) (cpu node : Option Nat) : Option (Option Nat × Option Nat) :=
  if !flagIncludeDisallowed d then none
  else if flags / 8 ≠ 0 then none
  else if flags = 1 then
    if cpu.isSome || node.isSome then none else some (root.cpuset, root.nodeset)
  else if flags = 4 then
    if isBad (root.cpuset.getD 0) cpu || isBad (root.nodeset.getD 0) node then none
    else some (pick (root.cpuset.getD 0) cpu d.allowedCpuset, pick (root.nodeset.getD 0) node d.allowedNodeset)
  else none

def allow (d : Dump) (flags : Nat) (cpu node : Option Nat) : Dump × Ret :=
  match d.objs[0]? with
  | none => (d, .einval)
  | some root =>
    match allowSets d root flags cpu node with
    | none => (d, .einval)
    | some (x, y) => ({ d with allowedCpuset := x, allowedNodeset := y }, .ok 0)

def step (d : Dump) : HOp → Dump × Ret
  | .allow f c n => allow d f c n
  | .addInfo i n v =>
    match d.objs[i]? with
    | none => (d, .einval)
    | some o =>
      let (l, r) := Hw.Infos.modify o.infos .add n v
      (modifyObj d i (fun o => { o with infos := l }), if r < 0 then .einval else .ok r)
  | .modifyInfos i op n v =>
    match d.objs[i]? with
    | none => (d, .einval)
    | some o =>
      let (l, r) := Hw.Infos.modify o.infos (infoOp op) n v
      (modifyObj d i (fun o => { o with infos := l }), if r < 0 then .einval else .ok r)
  | .setSubtype i s =>
    match d.objs[i]? with
    | none => (d, .einval)
    | some _ => (modifyObj d i (fun o => { o with subtype := s }), .ok 0)

/-- gp_index / type stability between two consecutive dumps: every object of `new` whose gp_index
existed in `old` has the same type and (except for Groups, whose contents are legitimately replaced by those
of an equal inserted Group that wins the merge) the same os_index; new gp_index values are above all old ones -/
def gpStable (old new : Dump) : Bool :=
  let maxOld := old.objs.foldl (fun m o => max m o.gp) 0
  new.objs.all (fun o =>
    match old.objs.find? (fun p => p.gp == o.gp) with
    | some p => p.type == o.type && (p.osidx == o.osidx || o.type == tGROUP)
    | none => decide (maxOld < o.gp))

end Hw.Topo.Hist
