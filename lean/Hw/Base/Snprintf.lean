/-
  Hw.Base.Snprintf — the cursor machine shared by every hwloc `*_snprintf` function:

      res = hwloc_snprintf(tmp, size, <chunk>);
      ret += res;
      if (res >= size) res = size>0 ? size - 1 : 0;
      tmp += res;  size -= res;

  with `hwloc_snprintf = snprintf` (this build defines HWLOC_HAVE_CORRECT_SNPRINTF): it returns the
  chunk length and, when `size > 0`, writes `min(len, size-1)` bytes followed by a NUL.
  Bytes are `Nat`; the caller's buffer is a function `Nat → Option Byte` (`none` = never written)
  together with the log of every index written.
-/
import Hw.Base.CursorArith
import Hw.Base.ListLemmas
namespace Hw

abbrev Byte := Nat

def str (s : String) : List Byte := s.toList.map Char.toNat

/-- A string literal reaches the kernel as `String.ofList [chars]`.  Rewriting with this lemma before `decide +kernel`
spares the kernel the UTF-8 round trip of `String.toList`.  That pays for short literals; for long ones (the test
vectors of a parser) the rewritten goal is dearer to evaluate than the round trip.
(`rw`, once per distinct literal, or `simp -index only` for all of them at once: the index of `simp only` does not match
literals against `String.ofList _`, the unifier does.) -/
theorem str_ofList (l : List Char) : str (String.ofList l) = l.map Char.toNat := by
  unfold str; rw [String.toList_ofList]

/-- with `String.reduceEq`, two literals are told apart as strings: no `String.toList` in the kernel -/
theorem str_inj {s t : String} : str s = str t ↔ s = t := by
  unfold str; rw [List.map_inj_right fun _ _ => Char.toNat_inj.1, String.toList_inj]

structure Buf where
  get : Nat → Option Byte := fun _ => none
  writes : List Nat := []

def Buf.write (b : Buf) (i : Nat) (c : Byte) : Buf :=
  { get := fun j => if j = i then some c else b.get j, writes := i :: b.writes }

def Buf.writeList (b : Buf) (pos : Nat) : List Byte → Buf
  | [] => b
  | c :: cs => (b.write pos c).writeList (pos + 1) cs

/-- `snprintf(buf + pos, size, "%s", chunk)` -/
def snprintfAt (b : Buf) (pos size : Nat) (chunk : List Byte) : Buf :=
  if size = 0 then b
  else ((b.writeList pos (chunk.take (size - 1))).write (pos + min chunk.length (size - 1)) 0)

structure Cur where
  buf : Buf := {}
  pos : Nat := 0      -- tmp - buf
  size : Nat          -- remaining size
  ret : Nat := 0

def Cur.emit (c : Cur) (chunk : List Byte) : Cur :=
  let res := chunk.length
  let adv := if c.size ≤ res then (if 0 < c.size then c.size - 1 else 0) else res
  { buf := snprintfAt c.buf c.pos c.size chunk, pos := c.pos + adv, size := c.size - adv, ret := c.ret + res }

/-- the common prologue `if (buflen > 0) tmp[0] = '\0';` -/
def Cur.start (cap : Nat) : Cur :=
  { buf := if 0 < cap then ({} : Buf).write 0 0 else {}, size := cap }

def emitAll (cap : Nat) (chunks : List (List Byte)) : Cur := chunks.foldl Cur.emit (Cur.start cap)

theorem Buf.writeList_get (b : Buf) (pos : Nat) (cs : List Byte) (j : Nat) :
    (b.writeList pos cs).get j = if pos ≤ j ∧ j < pos + cs.length then cs[j - pos]? else b.get j := by
  induction cs generalizing b pos with
  | nil =>
    have : ¬ (pos ≤ j ∧ j < pos + ([] : List Byte).length) := by simp
    simp only [Buf.writeList, this, if_false]
  | cons c cs ih =>
    simp only [Buf.writeList, ih, List.length_cons]
    by_cases h1 : pos + 1 ≤ j ∧ j < pos + 1 + cs.length
    · have h2 : pos ≤ j ∧ j < pos + (cs.length + 1) := by omega
      simp only [h1, h2, and_self, if_true]
      have : j - pos = (j - (pos + 1)) + 1 := by omega
      rw [this, List.getElem?_cons_succ]
    · simp only [h1, if_false]
      by_cases h3 : j = pos
      · subst h3
        have h2 : j ≤ j ∧ j < j + (cs.length + 1) := by omega
        simp only [h2, and_self, if_true, Buf.write, Nat.sub_self, List.getElem?_cons_zero]
      · have h2 : ¬ (pos ≤ j ∧ j < pos + (cs.length + 1)) := by omega
        simp only [h2, if_false, Buf.write, h3, if_false]

theorem Buf.writeList_writes (b : Buf) (pos : Nat) (cs : List Byte) (w : Nat) :
    w ∈ (b.writeList pos cs).writes ↔ (pos ≤ w ∧ w < pos + cs.length) ∨ w ∈ b.writes := by
  induction cs generalizing b pos with
  | nil =>
    simp only [Buf.writeList, List.length_nil, Nat.add_zero]
    exact (or_iff_right (by omega)).symm
  | cons c cs ih =>
    simp only [Buf.writeList, ih, Buf.write, List.mem_cons, List.length_cons]
    rw [← or_assoc]
    exact or_congr_left (by omega)

theorem snprintfAt_get (b : Buf) (pos size : Nat) (chunk : List Byte) (hs : 0 < size) (j : Nat) :
    (snprintfAt b pos size chunk).get j =
      if j = pos + min chunk.length (size - 1) then some 0
      else if pos ≤ j ∧ j < pos + min chunk.length (size - 1) then chunk[j - pos]? else b.get j := by
  have htake : (chunk.take (size - 1)).length = min chunk.length (size - 1) := by
    rw [List.length_take]; exact Nat.min_comm _ _
  rw [snprintfAt, if_neg (Nat.ne_of_gt hs)]
  show (if j = pos + min chunk.length (size - 1) then some 0
    else (b.writeList pos (chunk.take (size - 1))).get j) = _
  rw [Buf.writeList_get, htake]
  by_cases h : pos ≤ j ∧ j < pos + min chunk.length (size - 1)
  · have : j - pos < size - 1 := by omega
    rw [if_pos h, if_pos h, List.getElem?_take, if_pos this]
  · rw [if_neg h, if_neg h]

theorem snprintfAt_writes (b : Buf) (pos size : Nat) (chunk : List Byte) (hs : 0 < size) (w : Nat) :
    w ∈ (snprintfAt b pos size chunk).writes ↔
      (pos ≤ w ∧ w ≤ pos + min chunk.length (size - 1)) ∨ w ∈ b.writes := by
  have htake : (chunk.take (size - 1)).length = min chunk.length (size - 1) := by
    rw [List.length_take]; exact Nat.min_comm _ _
  rw [snprintfAt, if_neg (Nat.ne_of_gt hs)]
  show w ∈ (pos + min chunk.length (size - 1)) :: (b.writeList pos (chunk.take (size - 1))).writes ↔ _
  rw [List.mem_cons, Buf.writeList_writes, htake]
  rw [← or_assoc]
  exact or_congr_left (by omega)

theorem Cur.emit_of_pos (c : Cur) (chunk : List Byte) (hs : 0 < c.size) :
    c.emit chunk = { buf := snprintfAt c.buf c.pos c.size chunk, pos := c.pos + min chunk.length (c.size - 1),
                     size := c.size - min chunk.length (c.size - 1), ret := c.ret + chunk.length } := by
  have : (if c.size ≤ chunk.length then (if 0 < c.size then c.size - 1 else 0) else chunk.length)
      = min chunk.length (c.size - 1) := by
    rw [if_pos hs]; split <;> omega
  rw [Cur.emit]; simp only [this]

/-- the untruncated text -/
def text (chunks : List (List Byte)) : List Byte := chunks.flatten

theorem Bitmap.text_nil : text ([] : List (List Byte)) = [] := rfl
theorem Bitmap.text_cons (c : List Byte) (cs : List (List Byte)) : text (c :: cs) = c ++ text cs := rfl
theorem Bitmap.text_append (a b : List (List Byte)) : text (a ++ b) = text a ++ text b := by
  simp [text]

/-- loop invariant of the cursor machine, for a caller buffer of `cap > 0` bytes -/
structure CurInv (cap : Nat) (t : List Byte) (c : Cur) : Prop where
  ret_eq : c.ret = t.length
  pos_eq : c.pos = min t.length (cap - 1)
  size_eq : c.pos + c.size = cap
  prefix_ok : ∀ j, j < c.pos → c.buf.get j = t[j]?
  nul : c.buf.get c.pos = some 0
  rest : ∀ j, c.pos < j → c.buf.get j = none
  inb : ∀ w, w ∈ c.buf.writes → w < cap

theorem CurInv.start (cap : Nat) (h : 0 < cap) : CurInv cap [] (Cur.start cap) := by
  refine ⟨rfl, by simp [Cur.start], by simp [Cur.start], ?_, ?_, ?_, ?_⟩
  · intro j hj; simp [Cur.start] at hj
  · simp [Cur.start, h, Buf.write]
  · intro j hj
    simp only [Cur.start] at hj
    simp only [Cur.start, h, if_true, Buf.write]
    have : j ≠ 0 := by omega
    simp [this]
  · intro w hw
    simp only [Cur.start, h, if_true, Buf.write, List.mem_cons, List.not_mem_nil, or_false] at hw
    omega

theorem CurInv.emit {cap : Nat} {t : List Byte} {c : Cur} (hcap : 0 < cap) (h : CurInv cap t c)
    (chunk : List Byte) : CurInv cap (t ++ chunk) (c.emit chunk) := by
  obtain ⟨hret, hpos, hsize, hpre, hnul, hrest, hinb⟩ := h
  have hsz : 0 < c.size := by omega
  rw [Cur.emit_of_pos c chunk hsz]
  generalize hk : min chunk.length (c.size - 1) = k
  obtain ⟨a1, a2, a3, a4, a5, _⟩ := cursor_arith hpos hsize hk
  have a5 := a5 hsz
  have hg := fun j => snprintfAt_get c.buf c.pos c.size chunk hsz j
  have hws := fun w => snprintfAt_writes c.buf c.pos c.size chunk hsz w
  simp only [hk] at hg hws
  -- from here on only the linear facts `a1` … `a5` are in sight (cheap for `omega`)
  clear hpos hk
  refine ⟨?_, ?_, a2, ?_, ?_, ?_, ?_⟩
  · show c.ret + chunk.length = _
    rw [hret, List.length_append]
  · show c.pos + k = _
    rw [List.length_append]; exact a1
  · intro j hj
    change j < c.pos + k at hj
    show (snprintfAt c.buf c.pos c.size chunk).get j = _
    rw [hg, if_neg (by omega)]
    by_cases hj2 : j < c.pos
    · rw [if_neg (by omega), hpre j hj2, List.getElem?_append_left (by omega)]
    · -- the text was not truncated before: pos = t.length
      have hpt : c.pos = t.length := by omega
      rw [if_pos (by omega), List.getElem?_append_right (by omega), hpt]
  · show (snprintfAt c.buf c.pos c.size chunk).get (c.pos + k) = _
    rw [hg, if_pos rfl]
  · intro j hj
    change c.pos + k < j at hj
    show (snprintfAt c.buf c.pos c.size chunk).get j = _
    rw [hg, if_neg (by omega), if_neg (by omega)]
    exact hrest j (by omega)
  · intro w hw
    change w ∈ (snprintfAt c.buf c.pos c.size chunk).writes at hw
    rw [hws] at hw
    rcases hw with hw | hw
    · omega
    · exact hinb w hw
theorem emitAll_inv (cap : Nat) (hcap : 0 < cap) (chunks : List (List Byte)) :
    CurInv cap (text chunks) (emitAll cap chunks) :=
  foldl_inv Cur.emit (fun pre c => CurInv cap (text pre) c) chunks
    (fun pre r _ c _ h => by
      have := h.emit hcap r
      rwa [show text pre ++ r = text (pre ++ [r]) by simp [text]] at this)
    chunks [] (Cur.start cap) rfl (CurInv.start cap hcap)

theorem emitAll_zero (chunks : List (List Byte)) :
    (emitAll 0 chunks).buf.writes = [] ∧ (emitAll 0 chunks).ret = (text chunks).length :=
  (foldl_inv Cur.emit (fun pre c => c.size = 0 ∧ c.buf.writes = [] ∧ c.ret = (text pre).length) chunks
    (fun pre r _ c _ ⟨hs, hw, hr⟩ => ⟨by simp [Cur.emit, hs], by simp [Cur.emit, snprintfAt, hs, hw],
      by simp [Cur.emit, hr, text, List.length_append]⟩)
    chunks [] (Cur.start 0) rfl ⟨rfl, by simp [Cur.start], rfl⟩).2

end Hw
