/-
  Hw.Base.Basic — words, bit searches, generic "lowest / highest index satisfying p" searches.
  Core Lean only.
-/
namespace Hw

abbrev Word := BitVec 64

/-- `HWLOC_SUBBITMAP_FULL` / `HWLOC_SUBBITMAP_ZERO` selected by the `infinite` flag. -/
def fillW (inf : Bool) : Word := if inf then BitVec.allOnes 64 else 0#64

@[simp] theorem fillW_true : fillW true = BitVec.allOnes 64 := rfl
@[simp] theorem fillW_false : fillW false = 0#64 := rfl

theorem fillW_getLsbD (inf : Bool) (j : Nat) (hj : j < 64) : (fillW inf).getLsbD j = inf := by
  cases inf
  · simp
  · simp only [fillW_true, BitVec.getLsbD_allOnes]; simp [hj]

theorem word_eq_fillW_iff (w : Word) (f : Bool) : w = fillW f ↔ ∀ j, j < 64 → w.getLsbD j = f := by
  constructor
  · intro h j hj; rw [h, fillW_getLsbD _ _ hj]
  · intro h
    apply BitVec.eq_of_getLsbD_eq
    intro i hi
    rw [h i hi, fillW_getLsbD _ _ hi]

/-- smallest `j < n` with `p j`, if any -/
def lowest (p : Nat → Bool) : Nat → Option Nat
  | 0 => none
  | n+1 => match lowest p n with
    | some j => some j
    | none => if p n then some n else none

/-- greatest `j < n` with `p j`, if any -/
def highest (p : Nat → Bool) : Nat → Option Nat
  | 0 => none
  | n+1 => if p n then some n else highest p n

theorem lowest_none {p : Nat → Bool} {n : Nat} : lowest p n = none ↔ ∀ k, k < n → p k = false := by
  induction n with
  | zero => simp [lowest]
  | succ n ih =>
    rw [lowest, Nat.forall_lt_succ_right, ← ih]
    cases lowest p n <;> cases p n <;> simp

theorem lowest_some {p : Nat → Bool} {n j : Nat} :
    lowest p n = some j ↔ j < n ∧ p j = true ∧ ∀ k, k < j → p k = false := by
  induction n generalizing j with
  | zero => simp [lowest]
  | succ n ih =>
    rw [lowest]
    cases h : lowest p n with
    | some j' =>
      have ⟨h1, h2, h3⟩ := ih.mp h
      simp only [Option.some.injEq]
      constructor
      · rintro rfl; exact ⟨by omega, h2, h3⟩
      · rintro ⟨_, g2, g3⟩
        rcases Nat.lt_trichotomy j j' with hlt | heq | hgt
        · rw [h3 j hlt] at g2; cases g2
        · exact heq.symm
        · rw [g3 j' hgt] at h2; cases h2
    | none =>
      have hn := lowest_none.mp h
      -- `j < n` is impossible: nothing below `n` satisfies `p`
      have last : ∀ {q : Prop}, (j < n + 1 ∧ p j = true ∧ q) → j = n := fun ⟨g1, g2, _⟩ =>
        (Nat.lt_succ_iff_lt_or_eq.mp g1).resolve_left fun g => by rw [hn j g] at g2; cases g2
      cases hp : p n
      · simp only [Bool.false_eq_true, if_false, reduceCtorEq, false_iff]
        intro g; have := last g; subst this; rw [hp] at g; cases g.2.1
      · simp only [if_true, Option.some.injEq]
        exact ⟨fun e => e ▸ ⟨by omega, hp, hn⟩, fun g => (last g).symm⟩

theorem highest_none {p : Nat → Bool} {n : Nat} : highest p n = none ↔ ∀ k, k < n → p k = false := by
  induction n with
  | zero => simp [highest]
  | succ n ih =>
    rw [highest, Nat.forall_lt_succ_right, ← ih]
    cases p n <;> simp

theorem highest_some {p : Nat → Bool} {n j : Nat} :
    highest p n = some j ↔ j < n ∧ p j = true ∧ ∀ k, j < k → k < n → p k = false := by
  induction n with
  | zero => simp [highest]
  | succ n ih =>
    rw [highest]
    cases hp : p n
    · simp only [Bool.false_eq_true, if_false, ih]
      constructor
      · rintro ⟨g1, g2, g3⟩
        refine ⟨by omega, g2, fun k h1 h2 => ?_⟩
        rcases Nat.lt_succ_iff_lt_or_eq.mp h2 with h | rfl
        · exact g3 k h1 h
        · exact hp
      · rintro ⟨g1, g2, g3⟩
        rcases Nat.lt_succ_iff_lt_or_eq.mp g1 with h | rfl
        · exact ⟨h, g2, fun k a b => g3 k a (by omega)⟩
        · rw [hp] at g2; cases g2
    · simp only [if_true, Option.some.injEq]
      constructor
      · rintro rfl; exact ⟨by omega, hp, fun k h1 h2 => by omega⟩
      · rintro ⟨g1, _, g3⟩
        rcases Nat.lt_succ_iff_lt_or_eq.mp g1 with h | rfl
        · rw [g3 n h (by omega)] at hp; cases hp
        · rfl

theorem highest_congr {p q : Nat → Bool} {n : Nat} (h : ∀ i, i < n → p i = q i) : highest p n = highest q n := by
  induction n with
  | zero => rfl
  | succ n ih =>
    unfold highest
    rw [ih (fun i hi => h i (Nat.lt_succ_of_lt hi)), h n (Nat.lt_succ_self n)]

/-! ### word-level helpers (`private/misc.h`) — specification-level definitions -/

/-- `hwloc_ffsl` (this build: `__builtin_ffsl`): 1 + index of the least significant set bit, 0 for 0 -/
def ffsl (w : Word) : Nat :=
  match lowest (fun j => w.getLsbD j) 64 with
  | some j => j + 1
  | none => 0

/-- `hwloc_flsl`: 1 + index of the most significant set bit, 0 for 0 -/
def flsl (w : Word) : Nat :=
  match highest (fun j => w.getLsbD j) 64 with
  | some j => j + 1
  | none => 0

/-- `hwloc_weight_long` (this build: `__builtin_popcountll`) -/
def weightLong (w : Word) : Nat := ((List.range 64).filter (fun j => w.getLsbD j)).length

theorem word_eq_zero_iff (w : Word) : w = 0#64 ↔ ∀ j, j < 64 → w.getLsbD j = false := word_eq_fillW_iff w false

theorem ffsl_eq_zero_iff (w : Word) : ffsl w = 0 ↔ w = 0#64 := by
  unfold ffsl
  cases h : lowest (fun j => w.getLsbD j) 64 with
  | none =>
    simp only [true_iff]
    exact (word_eq_zero_iff w).mpr (lowest_none.mp h)
  | some j =>
    simp only [Nat.add_eq_zero_iff, Nat.succ_ne_self, and_false, false_iff]
    intro hz
    have := (lowest_some.mp h).2.1
    subst hz; simp at this

theorem ffsl_spec (w : Word) (hw : w ≠ 0#64) :
    1 ≤ ffsl w ∧ ffsl w ≤ 64 ∧ w.getLsbD (ffsl w - 1) = true ∧ ∀ k, k < ffsl w - 1 → w.getLsbD k = false := by
  cases h : lowest (fun j => w.getLsbD j) 64 with
  | none => exact absurd ((word_eq_zero_iff w).mpr (lowest_none.mp h)) hw
  | some j =>
    have ⟨h1, h2, h3⟩ := lowest_some.mp h
    have hf : ffsl w = j + 1 := by unfold ffsl; rw [h]
    rw [hf]
    refine ⟨by omega, by omega, ?_, ?_⟩
    · simpa using h2
    · intro k hk; exact h3 k (by omega)

theorem flsl_eq_zero_iff (w : Word) : flsl w = 0 ↔ w = 0#64 := by
  unfold flsl
  cases h : highest (fun j => w.getLsbD j) 64 with
  | none =>
    simp only [true_iff]
    exact (word_eq_zero_iff w).mpr (highest_none.mp h)
  | some j =>
    simp only [Nat.add_eq_zero_iff, Nat.succ_ne_self, and_false, false_iff]
    intro hz
    have := (highest_some.mp h).2.1
    subst hz; simp at this

theorem flsl_spec (w : Word) (hw : w ≠ 0#64) :
    1 ≤ flsl w ∧ flsl w ≤ 64 ∧ w.getLsbD (flsl w - 1) = true ∧
      ∀ k, flsl w - 1 < k → k < 64 → w.getLsbD k = false := by
  cases h : highest (fun j => w.getLsbD j) 64 with
  | none => exact absurd ((word_eq_zero_iff w).mpr (highest_none.mp h)) hw
  | some j =>
    have ⟨h1, h2, h3⟩ := highest_some.mp h
    have hf : flsl w = j + 1 := by unfold flsl; rw [h]
    rw [hf]
    refine ⟨by omega, by omega, ?_, ?_⟩
    · simpa using h2
    · intro k hk hk2; exact h3 k (by omega) hk2

end Hw
