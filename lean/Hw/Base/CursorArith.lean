/-
  Hw.Base.CursorArith — the arithmetic of the `(tmp, tmplen, ret)` cursor every hwloc `*_snprintf` function keeps, as a fact
  about six numbers.  Both models of that idiom use it (`Hw.Cur` in Hw/Base/Snprintf.lean, `Hw.TypeStr.Cur` in Hw/Io/TypeStr.lean);
  it stands in a module of its own because importing one machine into the other would let the two `Cur` shadow each other.
-/
namespace Hw

/-- the arithmetic of one `snprintf(tmp, tmplen, …)` + cursor update: `dl` bytes of text so far, `bl` more, of which `k` fit -/
theorem cursor_arith {dl bl size pos len k : Nat} (hpos : pos = min dl (size - 1)) (hlen : pos + len = size)
    (hk : min bl (len - 1) = k) :
    pos + k = min (dl + bl) (size - 1) ∧ pos + k + (len - k) = size ∧ pos ≤ dl ∧ (k = 0 ∨ pos = dl) ∧
      (0 < len → pos + k < size) ∧ (len = 0 → pos + k = 0) := by
  cases len with
  | zero => simp only [Nat.zero_sub, Nat.min_zero] at hk; omega
  | succ m =>
    subst hlen
    simp only [Nat.add_sub_cancel] at *
    omega

end Hw
