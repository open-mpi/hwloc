/-
  Hw.Base.InsertSort — insertion into a sorted list, as hwloc writes it again and again (children by first bit, synthetic nodes
  by key, cpukinds by efficiency, nodes by os_index, the put-back of a refused insertion, a new Misc object in its level, …): `c`
  goes behind the longest prefix whose elements satisfy `p`.  A model function that walks the list recursively is such a split
  (`insertRec_eq`), and so is one that inserts at the number of elements that satisfy `p` (`filter_eq_takeWhile`); the split is a
  permutation and keeps any transitive order in which, for the members `x` of the list, `p x` means "x may stay before c" and
  `¬ p x` means "c may go before x".
-/
namespace Hw.InsertSort

/-- the recursive way of writing the insertion is the `takeWhile`/`dropWhile` split, whichever way round the model puts the test -/
theorem insertRec_eq {α : Type _} (p : α → Bool) (c : α) (ins : List α → List α) (hnil : ins [] = [c])
    (hstay : ∀ x xs, p x = true → ins (x :: xs) = x :: ins xs) (hgo : ∀ x xs, p x = false → ins (x :: xs) = c :: x :: xs) :
    ∀ l, ins l = l.takeWhile p ++ c :: l.dropWhile p
  | [] => hnil
  | x :: xs => by
    rw [List.takeWhile_cons, List.dropWhile_cons]
    cases hp : p x
    · exact hgo x xs hp
    · exact (hstay x xs hp).trans (congrArg (x :: ·) (insertRec_eq p c ins hnil hstay hgo xs))

theorem split_perm {α : Type _} (p : α → Bool) (c : α) (l : List α) : (l.takeWhile p ++ c :: l.dropWhile p).Perm (c :: l) :=
  List.perm_middle.trans (List.Perm.cons c (List.takeWhile_append_dropWhile ▸ List.Perm.refl l))

theorem split_pairwise {α : Type _} {R : α → α → Prop} (p : α → Bool) (c : α) (htrans : ∀ x y z, R x y → R y z → R x z) :
    ∀ l : List α, l.Pairwise R → (∀ x ∈ l, p x = true → R x c) → (∀ x ∈ l, p x = false → R c x) →
      (l.takeWhile p ++ c :: l.dropWhile p).Pairwise R
  | [], _, _, _ => List.pairwise_singleton R c
  | x :: xs, h, hstay, hgo => by
    obtain ⟨hx, hxs⟩ := List.pairwise_cons.1 h
    rw [List.takeWhile_cons, List.dropWhile_cons]
    cases hp : p x
    · have hcx := hgo x List.mem_cons_self hp
      exact List.pairwise_cons.2 ⟨fun y hy => (List.mem_cons.1 hy).elim (fun e => e ▸ hcx) fun hy => htrans _ _ _ hcx (hx y hy), h⟩
    · have ih := split_pairwise p c htrans xs hxs (fun y hy => hstay y (List.mem_cons_of_mem x hy))
        fun y hy => hgo y (List.mem_cons_of_mem x hy)
      refine List.pairwise_cons.2 ⟨fun y hy => ?_, ih⟩
      rcases List.mem_cons.1 ((split_perm p c xs).mem_iff.1 hy) with rfl | hy
      · exact hstay x List.mem_cons_self hp
      · exact hx y hy

theorem filter_eq_takeWhile {α : Type _} {R : α → α → Prop} {p : α → Bool} (hdown : ∀ a b, R a b → p b = true → p a = true) :
    ∀ l : List α, l.Pairwise R → l.filter p = l.takeWhile p
  | [], _ => rfl
  | a :: t, h => by
    obtain ⟨ha, ht⟩ := List.pairwise_cons.1 h
    rw [List.filter_cons, List.takeWhile_cons]
    cases hp : p a
    · exact List.filter_eq_nil_iff.2 fun b hb hpb => Bool.false_ne_true (hp.symm.trans (hdown a b (ha b hb) hpb))
    · exact congrArg (a :: ·) (filter_eq_takeWhile hdown t ht)

theorem foldl_perm {α : Type _} {ins : α → List α → List α} (h : ∀ c l, (ins c l).Perm (c :: l)) :
    ∀ l acc : List α, (l.foldl (fun acc c => ins c acc) acc).Perm (acc ++ l)
  | [], acc => by rw [List.append_nil]; exact .refl _
  | c :: cs, acc => (foldl_perm h cs (ins c acc)).trans (((h c acc).append_right cs).trans List.perm_middle.symm)

theorem foldl_keeps {α : Type _} {ins : α → List α → List α} {I : List α → Prop} (h : ∀ c l, I l → I (ins c l))
    (l acc : List α) (hacc : I acc) : I (l.foldl (fun acc c => ins c acc) acc) :=
  List.foldlRecOn l _ hacc fun b hb c _ => h c b hb

end Hw.InsertSort
