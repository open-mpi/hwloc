/-
  Hw.Base.Bits — a natural number read as the finite set of its one bits.  Every mask of the model (cpusets, nodesets, flag
  words) is such a number; inclusion is `a &&& b = a`, disjointness `a &&& b = 0`, difference `a ^^^ (a &&& b)`, a singleton
  `1 <<< i`, a union an OR-fold.  Each notion is tied to `Nat.testBit` here, once; the vocabularies of the model
  (`Topo.subset`, `Topo.disjoint`, `MemAttrs.subset`, `SetStage.Sub`, `Ins.sub`, `CpuKinds.Sub`, …) unfold to these.
-/
namespace Hw.Bits

theorem eq_zero_iff {a : Nat} : a = 0 ↔ ∀ i, a.testBit i = false :=
  ⟨fun h i => by rw [h, Nat.zero_testBit], fun h => Nat.eq_of_testBit_eq fun i => by rw [h, Nat.zero_testBit]⟩

theorem ne_zero_iff {a : Nat} : a ≠ 0 ↔ ∃ i, a.testBit i = true :=
  ⟨Nat.exists_testBit_of_ne_zero, fun ⟨i, hi⟩ h => by rw [h, Nat.zero_testBit] at hi; cases hi⟩

theorem and_eq_left_iff {a b : Nat} : a &&& b = a ↔ ∀ i, a.testBit i = true → b.testBit i = true := by
  simp only [← Bool.and_eq_left_iff_imp, ← Nat.testBit_and]
  exact ⟨fun h i => by rw [h], Nat.eq_of_testBit_eq⟩

theorem and_eq_zero_iff {a b : Nat} : a &&& b = 0 ↔ ∀ i, a.testBit i = true → b.testBit i = false := by
  simp only [← Bool.and_eq_false_imp, ← Nat.testBit_and]
  exact eq_zero_iff

theorem and_eq_and_of_testBit {a b m : Nat} (h : ∀ i, m.testBit i = true → a.testBit i = b.testBit i) :
    a &&& m = b &&& m :=
  Nat.eq_of_testBit_eq fun i => by
    rw [Nat.testBit_and, Nat.testBit_and]
    cases hi : m.testBit i with
    | false => rw [Bool.and_false, Bool.and_false]
    | true => rw [h i hi]

theorem testBit_andnot (a b i : Nat) : (a ^^^ (a &&& b)).testBit i = (a.testBit i && !b.testBit i) := by
  rw [Nat.testBit_xor, Nat.testBit_and]
  cases a.testBit i <;> cases b.testBit i <;> rfl

theorem testBit_one_shl (k i : Nat) : (1 <<< k).testBit i = decide (k = i) := by
  rw [Nat.one_shiftLeft, Nat.testBit_two_pow]

theorem one_shl_ne_zero (k : Nat) : 1 <<< k ≠ 0 :=
  ne_zero_iff.2 ⟨k, by rw [testBit_one_shl]; exact decide_eq_true rfl⟩

theorem testBit_foldl_or {α : Type _} (f : α → Nat) (l : List α) (a i : Nat) :
    (l.foldl (fun acc o => acc ||| f o) a).testBit i = (a.testBit i || l.any fun o => (f o).testBit i) := by
  induction l generalizing a with
  | nil => simp
  | cons x xs ih => rw [List.foldl_cons, ih, Nat.testBit_or, List.any_cons, Bool.or_assoc]

theorem testBit_foldr_or {α : Type _} (f : α → Nat) (l : List α) (a i : Nat) :
    (l.foldr (fun o acc => f o ||| acc) a).testBit i = (a.testBit i || l.any fun o => (f o).testBit i) := by
  induction l with
  | nil => simp
  | cons x xs ih =>
    rw [List.foldr_cons, Nat.testBit_or, ih, List.any_cons]
    cases (f x).testBit i <;> cases a.testBit i <;> simp

theorem foldl_or_perm {α : Type _} (f : α → Nat) {l₁ l₂ : List α} (h : l₁.Perm l₂) (a : Nat) :
    l₁.foldl (fun acc o => acc ||| f o) a = l₂.foldl (fun acc o => acc ||| f o) a :=
  Nat.eq_of_testBit_eq fun i => by rw [testBit_foldl_or, testBit_foldl_or, h.any_eq]

theorem testBit_big (n m : Nat) : n.testBit (n + m) = false :=
  Nat.testBit_lt_two_pow (Nat.lt_of_lt_of_le Nat.lt_two_pow_self (Nat.pow_le_pow_right (by decide) (Nat.le_add_right n m)))

theorem meets_two_pow {w k i : Nat} (h : w &&& 2 ^ k ≠ 0) (hi : (2 ^ k).testBit i = true) : w.testBit i = true := by
  obtain ⟨j, hj⟩ := ne_zero_iff.1 h
  rw [Nat.testBit_and, Nat.testBit_two_pow, Bool.and_eq_true, decide_eq_true_eq] at hj
  rw [Nat.testBit_two_pow, decide_eq_true_eq] at hi
  rw [← hi, hj.2]; exact hj.1

theorem or_low (k : Nat) {q : Nat} (hq : q < 2 ^ k) (x : Nat) : (x * 2 ^ k) ||| q = x * 2 ^ k + q := by
  rw [Nat.mul_comm]; exact (Nat.two_pow_add_eq_or_of_lt hq x).symm

end Hw.Bits

theorem Hw.Nat.lt_of_testBit' {x y : Nat} (i : Nat) (hx : x.testBit i = false) (hy : y.testBit i = true)
    (hj : ∀ j, i < j → x.testBit j = y.testBit j) : x < y := by
  -- the quotients by `2 ^ (i + 1)` are equal; of the remainders, that of `x` is below `2 ^ i` and that of `y` is not
  have hq : x / 2 ^ (i + 1) = y / 2 ^ (i + 1) := Nat.eq_of_testBit_eq fun j => by
    rw [Nat.testBit_div_two_pow, Nat.testBit_div_two_pow]; exact hj _ (by omega)
  have hxr : x % 2 ^ (i + 1) < 2 ^ i := Nat.lt_pow_two_of_testBit _ fun k hk => by
    rw [Nat.testBit_mod_two_pow]
    by_cases hki : k = i
    · rw [hki, hx, Bool.and_false]
    · rw [decide_eq_false (by omega), Bool.false_and]
  have hyr : 2 ^ i ≤ y % 2 ^ (i + 1) := Nat.ge_two_pow_of_testBit (by
    rw [Nat.testBit_mod_two_pow, hy, decide_eq_true (Nat.lt_succ_self i)]; rfl)
  have ex := Nat.div_add_mod x (2 ^ (i + 1))
  have ey := Nat.div_add_mod y (2 ^ (i + 1))
  rw [hq] at ex
  omega
