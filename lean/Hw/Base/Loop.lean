/- Hw.Base.Loop — the C loop `for (j = j0; j < n; j++) s = step(j, s);` written once.

   The fuelled loops of the model are instances (each satisfies the two equations of `iter`: `eq_iter`), so that
   * a property kept by every pass of the body is proved by giving the pass (`iter_inv`), and
   * a loop that works IN PLACE on a C array is proved equal to the assignment of all its cells at once from the array it
     started with (`iter_spec`), given the one fact that makes in-place work correct: no pass writes a cell that a later
     pass still reads or writes. -/
namespace Hw.Loop

/-- `fuel` passes of the body, the first one at index `j` -/
def iter {β : Type} (step : Nat → β → β) : (fuel j : Nat) → β → β
  | 0, _, s => s
  | f+1, j, s => iter step f (j+1) (step j s)

theorem eq_iter {β : Type} {F : Nat → Nat → β → β} {step : Nat → β → β} (h0 : ∀ j s, F 0 j s = s)
    (hs : ∀ f j s, F (f+1) j s = F f (j+1) (step j s)) : ∀ (fuel j : Nat) (s : β), F fuel j s = iter step fuel j s
  | 0, j, s => h0 j s
  | f+1, j, s => (hs f j s).trans (eq_iter h0 hs f (j+1) (step j s))

theorem iter_inv {β : Type} (step : Nat → β → β) (I : Nat → β → Prop) :
    ∀ (fuel j : Nat) (s : β), I j s → (∀ k s, j ≤ k → k < j + fuel → I k s → I (k+1) (step k s)) →
      I (j + fuel) (iter step fuel j s)
  | 0, _, _, hi, _ => hi
  | f+1, j, s, hi, hstep => by
    rw [show j + (f+1) = (j+1) + f by omega]
    exact iter_inv step I f (j+1) (step j s) (hstep j s (Nat.le_refl j) (by omega) hi)
      (fun k s h1 h2 => hstep k s (by omega) (by omega))

/-- **in place = all at once.**  The state is read through `get s q` (cell `q` of state `s`; `dom` = the cells that exist).
    Pass `k` writes the cells `W k` and what it writes there depends on the cells `D k` only; an earlier pass writes no cell that
    a later pass reads (`hWD`) or writes (`hWW`).  Then every cell of `W k` ends up with what pass `k` alone would have put
    there, run on the state the loop started with, and every other cell is untouched. -/
theorem iter_spec {β ι α : Type} (get : β → ι → α) (dom : ι → Prop) (step : Nat → β → β) (W D : Nat → ι → Prop) (n : Nat)
    (frame : ∀ k s q, k < n → dom q → ¬ W k q → get (step k s) q = get s q)
    (dep : ∀ k s t q, k < n → dom q → W k q → (∀ q', dom q' → D k q' → get s q' = get t q') →
      get (step k s) q = get (step k t) q)
    (hWD : ∀ k k' q, k < k' → k' < n → dom q → W k q → ¬ D k' q)
    (hWW : ∀ k k' q, k < k' → k' < n → dom q → W k q → ¬ W k' q) :
    ∀ (fuel j : Nat) (s : β), j + fuel = n →
      (∀ k q, j ≤ k → k < n → dom q → W k q → get (iter step fuel j s) q = get (step k s) q) ∧
      (∀ q, dom q → (∀ k, j ≤ k → k < n → ¬ W k q) → get (iter step fuel j s) q = get s q)
  | 0, j, s, h => ⟨fun k q h1 h2 => by omega, fun q _ _ => rfl⟩
  | f+1, j, s, h => by
    obtain ⟨ih1, ih2⟩ := iter_spec get dom step W D n frame dep hWD hWW f (j+1) (step j s) (by omega)
    refine ⟨fun k q h1 h2 hq hw => ?_, fun q hq hp => ?_⟩
    · rcases Nat.eq_or_lt_of_le h1 with e | e
      · subst e
        exact ih2 q hq (fun k' h1' h2' => hWW j k' q (by omega) h2' hq hw)
      · rw [show iter step (f+1) j s = iter step f (j+1) (step j s) from rfl, ih1 k q (by omega) h2 hq hw]
        exact dep k _ _ q h2 hq hw (fun q' hq' hd => frame j s q' (by omega) hq' (fun hwq => hWD j k q' e h2 hq' hwq hd))
    · rw [show iter step (f+1) j s = iter step f (j+1) (step j s) from rfl, ih2 q hq (fun k h1 h2 => hp k (by omega) h2)]
      exact frame j s q (by omega) hq (hp j (Nat.le_refl j) (by omega))

end Hw.Loop
