/-
  Hw.Base.Bump — hwloc's bump allocator (hwloc/shmem.c `tma_shmem_malloc`: hand out the cursor, move it on by the rounded
  size) as a fact about any function that serves a trace of request sizes this way.  Both models of it are instances
  (`Hw.Topo.Dup.bump`, any alignment, for topology_dup; `Hw.Shmem.bump`, alignment 8, for shmem_topology_write); it stands in a
  module of its own because neither model imports the other.
-/
namespace Hw

/-- `(n + a - 1) / a * a`, the meaning of `(n + a - 1) & ~(a - 1)`, does not round down -/
theorem le_roundUp {a : Nat} (ha : 0 < a) (n : Nat) : n ≤ (n + a - 1) / a * a :=
  Nat.le_of_add_le_add_right (Nat.le_of_pred_lt (Nat.lt_div_mul_add (a := n + a - 1) ha))

/-- `f cur ss` serves the requests `ss` from the cursor `cur` on: each gets a block that starts at the cursor and has the
    size asked for, and the cursor moves on by `adv` of that size -/
structure IsBump {β : Type} (start size : β → Nat) (adv : Nat → Nat) (f : Nat → List Nat → List β) : Prop where
  nil : ∀ cur, f cur [] = []
  cons : ∀ cur s ss, ∃ b, start b = cur ∧ size b = s ∧ f cur (s :: ss) = b :: f (cur + adv s) ss

namespace IsBump
variable {β : Type} {start size : β → Nat} {adv : Nat → Nat} {f : Nat → List Nat → List β} (h : IsBump start size adv f)
include h

theorem sizes (cur : Nat) (ss : List Nat) : (f cur ss).map size = ss := by
  induction ss generalizing cur with
  | nil => rw [h.nil]; rfl
  | cons s ss ih =>
    obtain ⟨b, rfl, rfl, hb⟩ := h.cons cur s ss
    rw [hb, List.map_cons, ih]

theorem aligned {A : Nat} (hA : ∀ s, adv s % A = 0) (cur : Nat) (ss : List Nat) : ∀ b ∈ f cur ss, start b % A = cur % A := by
  induction ss generalizing cur with
  | nil => rw [h.nil]; nofun
  | cons s ss ih =>
    obtain ⟨b, rfl, rfl, hb⟩ := h.cons cur s ss
    rw [hb]
    exact List.forall_mem_cons.2 ⟨rfl, fun c hc =>
      (ih _ c hc).trans (by rw [Nat.add_mod, hA, Nat.add_zero, Nat.mod_mod])⟩

theorem inside (hadv : ∀ s, s ≤ adv s) (cur : Nat) (ss : List Nat) :
    (∀ b ∈ f cur ss, cur ≤ start b ∧ start b + size b ≤ cur + (ss.map adv).sum) ∧
    (f cur ss).Pairwise (fun x y => start x + size x ≤ start y) := by
  induction ss generalizing cur with
  | nil => rw [h.nil]; exact ⟨nofun, .nil⟩
  | cons s ss ih =>
    obtain ⟨b, rfl, rfl, hb⟩ := h.cons cur s ss
    have ⟨hm, hp⟩ := ih (start b + adv (size b))
    have hs := Nat.add_le_add_left (hadv (size b)) (start b)
    rw [hb, List.map_cons, List.sum_cons, ← Nat.add_assoc]
    exact ⟨List.forall_mem_cons.2 ⟨⟨Nat.le_refl _, Nat.le_trans hs (Nat.le_add_right _ _)⟩, fun c hc =>
        ⟨Nat.le_trans (Nat.le_add_right _ _) (hm c hc).1, (hm c hc).2⟩⟩,
      List.pairwise_cons.2 ⟨fun c hc => Nat.le_trans hs (hm c hc).1, hp⟩⟩

end IsBump
end Hw
