namespace Hw

/-- Case analysis of a conditional under any predicate.  The facts about a function with nested conditionals are read off
its body with `refine ite_cases (fun h => ?_) fun h => ?_`, branch by branch; `split` on such a goal abstracts the whole
body anew at every call and is many times dearer to check. -/
theorem ite_cases {α : Sort _} {P : α → Prop} {c : Prop} [Decidable c] {a b : α} (ha : c → P a) (hb : ¬ c → P b) :
    P (if c then a else b) := by
  by_cases h : c
  · rw [if_pos h]; exact ha h
  · rw [if_neg h]; exact hb h

/-- `ite_cases` with the predicate given: for goals in which it is not a pattern the unifier can read off
(a projection chain, an equation with the conditional on one side). -/
theorem ite_pred {α : Sort _} (P : α → Prop) {c : Prop} [Decidable c] {a b : α}
    (ha : c → P a) (hb : ¬ c → P b) : P (if c then a else b) :=
  ite_cases ha hb

end Hw
