/-
  Hw.Base.NumLemmas — facts about number printing (`decDigits`, `hexDigits`, `hexPad`) and the
  `strtoul` model: parsing a printed number gives the number back.
-/
import Hw.Base.Num
namespace Hw

theorem str_0x : str "0x" = [48, 120] := by decide
theorem str_c0x : str ",0x" = [44, 48, 120] := by decide
theorem str_0x0 : str "0x0" = [48, 120, 48] := by decide
theorem str_c0x0 : str ",0x0" = [44, 48, 120, 48] := by decide
theorem str_inf : str "0xf...f" = [48, 120, 102, 46, 46, 46, 102] := by decide
theorem str_comma : str "," = [44] := by decide
theorem str_minus : str "-" = [45] := by decide

/-- the text `s` does not begin with a character that `strtoul` could take for a digit (in any
base), in particular not with `x` / `X` -/
def NoDigitHead (s : List Byte) : Prop := ∀ c cs, s = c :: cs → digitVal c = none

theorem noDigitHead_nil : NoDigitHead [] := by intro c cs h; cases h
theorem noDigitHead_cons (c : Byte) (s : List Byte) (h : digitVal c = none) : NoDigitHead (c :: s) := by
  intro x xs e; cases e; exact h
theorem noDigitHead_comma (s : List Byte) : NoDigitHead (44 :: s) := noDigitHead_cons 44 s (by decide)
theorem noDigitHead_minus (s : List Byte) : NoDigitHead (45 :: s) := noDigitHead_cons 45 s (by decide)

/-- NB: stated over `Nat` (not the abbreviation `Byte`) so that `omega` accepts the unfolded form -/
def IsDecChar (c : Nat) : Prop := 48 ≤ c ∧ c ≤ 57
def IsHexChar (c : Nat) : Prop := (48 ≤ c ∧ c ≤ 57) ∨ (97 ≤ c ∧ c ≤ 102)

theorem digitsAux_acc (b : Nat) : ∀ fuel n acc, digitsAux b fuel n acc = digitsAux b fuel n [] ++ acc := by
  intro fuel
  induction fuel with
  | zero => intro n acc; simp [digitsAux]
  | succ fuel ih =>
    intro n acc
    unfold digitsAux
    split
    · simp
    · rw [ih (n / b) (digitChar (n % b) :: acc), ih (n / b) [digitChar (n % b)]]
      simp

theorem digitsAux_fuel (b : Nat) (hb : 2 ≤ b) : ∀ fuel fuel' n acc, n < fuel → n < fuel' →
    digitsAux b fuel n acc = digitsAux b fuel' n acc := by
  intro fuel
  induction fuel with
  | zero => intro fuel' n acc h; omega
  | succ fuel ih =>
    intro fuel' n acc h h'
    cases fuel' with
    | zero => omega
    | succ fuel' =>
      unfold digitsAux
      split
      · rfl
      · rename_i hnb
        have : n / b < n := Nat.div_lt_self (by omega) (by omega)
        exact ih fuel' _ _ (by omega) (by omega)

/-- digits of `n` in base `b`, most significant first -/
def digs (b n : Nat) : List Byte := digitsAux b (n + 1) n []

theorem decDigits_eq (n : Nat) : decDigits n = digs 10 n := rfl
theorem hexDigits_eq (n : Nat) : hexDigits n = digs 16 n := rfl

theorem digs_rec (b : Nat) (hb : 2 ≤ b) (n : Nat) :
    digs b n = if n < b then [digitChar n] else digs b (n / b) ++ [digitChar (n % b)] := by
  unfold digs
  rw [digitsAux]
  split
  · rfl
  · rename_i hnb
    have : n / b < n := Nat.div_lt_self (by omega) (by omega)
    rw [digitsAux_acc, digitsAux_fuel b hb n (n / b + 1) (n / b) [] this (by omega)]

theorem digs_lt (b : Nat) (hb : 2 ≤ b) (n : Nat) (h : n < b) : digs b n = [digitChar n] := by
  rw [digs_rec b hb, if_pos h]
theorem digs_ge (b : Nat) (hb : 2 ≤ b) (n : Nat) (h : b ≤ n) :
    digs b n = digs b (n / b) ++ [digitChar (n % b)] := by
  rw [digs_rec b hb, if_neg (by omega)]

theorem digs_induct (b : Nat) (hb : 2 ≤ b) (P : Nat → Prop)
    (h0 : ∀ n, n < b → P n) (h1 : ∀ n, b ≤ n → P (n / b) → P n) : ∀ n, P n := by
  intro n
  induction n using Nat.strongRecOn with
  | _ n ih =>
    by_cases h : n < b
    · exact h0 n h
    · exact h1 n (by omega) (ih _ (Nat.div_lt_self (by omega) (by omega)))

theorem digs_ne_nil (b : Nat) (hb : 2 ≤ b) (n : Nat) : digs b n ≠ [] := by
  rw [digs_rec b hb]; split <;> simp

theorem digs_length_pos (b : Nat) (hb : 2 ≤ b) (n : Nat) : 1 ≤ (digs b n).length := by
  have := digs_ne_nil b hb n
  cases h : digs b n with
  | nil => exact absurd h this
  | cons _ _ => simp

theorem digs_length_le (b : Nat) (hb : 2 ≤ b) : ∀ n k, 1 ≤ k → n < b ^ k → (digs b n).length ≤ k := by
  apply digs_induct b hb (fun n => ∀ k, 1 ≤ k → n < b ^ k → (digs b n).length ≤ k)
  · intro n hn k hk _; rw [digs_lt b hb n hn]; simpa using hk
  · intro n hn ih k hk hlt
    rw [digs_ge b hb n hn, List.length_append]
    cases k with
    | zero => omega
    | succ k =>
      cases k with
      | zero => simp at hlt; omega
      | succ k =>
        have : n / b < b ^ (k + 1) := by
          rw [Nat.div_lt_iff_lt_mul (by omega)]
          rw [Nat.pow_succ] at hlt; exact hlt
        have := ih (k + 1) (by omega) this
        simp; omega

theorem digs_chars (b : Nat) (hb : 2 ≤ b) (n : Nat) : ∀ c, c ∈ digs b n → ∃ d, d < b ∧ c = digitChar d := by
  revert n
  apply digs_induct b hb
  · intro n hn c hc; rw [digs_lt b hb n hn] at hc; simp at hc; exact ⟨n, hn, hc⟩
  · intro n hn ih c hc
    rw [digs_ge b hb n hn] at hc
    simp only [List.mem_append, List.mem_singleton] at hc
    rcases hc with hc | hc
    · exact ih c hc
    · exact ⟨n % b, Nat.mod_lt _ (by omega), hc⟩

theorem digs_head (b : Nat) (hb : 2 ≤ b) : ∀ n, 0 < n → ∃ d tl, 1 ≤ d ∧ d < b ∧ digs b n = digitChar d :: tl := by
  apply digs_induct b hb (fun n => 0 < n → ∃ d tl, 1 ≤ d ∧ d < b ∧ digs b n = digitChar d :: tl)
  · intro n hn hpos; exact ⟨n, [], hpos, hn, digs_lt b hb n hn⟩
  · intro n hn ih _
    have : 0 < n / b := Nat.div_pos hn (by omega)
    obtain ⟨d, tl, h1, h2, h3⟩ := ih this
    exact ⟨d, tl ++ [digitChar (n % b)], h1, h2, by rw [digs_ge b hb n hn, h3]; rfl⟩


theorem digitVal_digitChar : ∀ d, d < 16 → digitVal (digitChar d) = some d := by decide

theorem takeDigits_digitChar (base d : Nat) (hd : d < base) (hbase : base ≤ 16) (rest : List Byte) (a k : Nat) :
    takeDigits base (digitChar d :: rest) a k = takeDigits base rest (a * base + d) (k + 1) := by
  rw [takeDigits, digitVal_digitChar d (by omega)]
  simp [hd]

theorem takeDigits_stop (base : Nat) (rest : List Byte) (h : NoDigitHead rest) (a k : Nat) :
    takeDigits base rest a k = (a, k, rest) := by
  cases rest with
  | nil => rfl
  | cons c cs => rw [takeDigits, h c cs rfl]

theorem takeDigits10_dec (c : Nat) (cs : List Byte) (a k : Nat) (hc : IsDecChar c) :
    takeDigits 10 (c :: cs) a k = takeDigits 10 cs (a * 10 + (c - 48)) (k + 1) := by
  unfold IsDecChar at hc
  rw [takeDigits, digitVal]
  simp only [if_pos hc, show c - 48 < 10 by omega, if_true]

/-- a letter is a digit of a larger base only: it ends the decimal loop like any other character -/
theorem takeDigits10_nodec (c : Nat) (cs : List Byte) (a k : Nat) (hc : ¬ IsDecChar c) :
    takeDigits 10 (c :: cs) a k = (a, k, c :: cs) := by
  unfold IsDecChar at hc
  rw [takeDigits, digitVal]
  by_cases h2 : 97 ≤ c ∧ c ≤ 122
  · simp only [if_neg hc, if_pos h2, show ¬ c - 97 + 10 < 10 by omega, if_false]
  · by_cases h3 : 65 ≤ c ∧ c ≤ 90
    · simp only [if_neg hc, if_neg h2, if_pos h3, show ¬ c - 65 + 10 < 10 by omega, if_false]
    · simp only [if_neg hc, if_neg h2, if_neg h3]

theorem takeDigits_suffix (b : Nat) : ∀ (l : List Byte) (a k : Nat), (takeDigits b l a k).2.2 <:+ l := by
  intro l
  induction l with
  | nil => intro a k; exact List.suffix_refl _
  | cons c cs ih =>
    intro a k
    unfold takeDigits
    split
    · split
      · exact (ih _ _).trans (List.suffix_cons _ _)
      · exact List.suffix_refl _
    · exact List.suffix_refl _

theorem takeDigits_zeros (base : Nat) (hb : 1 ≤ base) (m : Nat) (l : List Byte) (k : Nat) :
    takeDigits base (List.replicate m 48 ++ l) 0 k = takeDigits base l 0 (k + m) := by
  induction m generalizing k with
  | zero => simp
  | succ m ih =>
    rw [List.replicate_succ, List.cons_append, takeDigits]
    have : digitVal 48 = some 0 := by decide
    rw [this]
    simp only [show 0 < base by omega, if_true]
    rw [Nat.zero_mul, Nat.add_zero, ih]
    congr 1; omega

theorem isSpace_hex (c : Nat) (h : IsHexChar c) : isSpace c = false := by
  unfold IsHexChar at h
  unfold isSpace
  have h1 : (c == 32) = false := by simp; omega
  have h2 : (decide (9 ≤ c) && decide (c ≤ 13)) = false := by simp; omega
  rw [h1, h2]; rfl

/-! ### the part of `strtoul` behind white space and sign

The C library's rule stands in `Hw.strtoul` and, character for character, in every other model of a number reader
(`LinuxParse.numBody`, `Syn.strtoCore`, `Bitmap.Cursor.strtoPrefix`, `XmlDiff.basePrefix0` for base 0).  Here it has a name;
each copy is it (`numBody_eq`, `strtoCore_eq` by `rfl`, `basePrefix0_eq` by cases), so what is known of it is said once. -/

/-- the base `strtoul(…, base)` reads in and the place where its digits start: `0x` / `0X` in front of a hex digit
is skipped for base 16 and base 0; base 0 means octal behind a `0` and decimal otherwise -/
def strtoBase (base : Nat) (s1 : List Byte) : Nat × List Byte :=
  match s1 with
  | 48 :: x :: d :: r =>
    if (x == 120 || x == 88) && isDigitIn 16 d && (base == 16 || base == 0) then (16, d :: r)
    else if base == 0 then (8, s1) else (base, s1)
  | 48 :: _ => if base == 0 then (8, s1) else (base, s1)
  | _ => if base == 0 then (10, s1) else (base, s1)

/-- the digits read: (unbounded value, number of digits, rest) -/
def strtoBody (base : Nat) (s1 : List Byte) : Nat × Nat × List Byte :=
  takeDigits (strtoBase base s1).1 (strtoBase base s1).2 0 0

theorem strtoBase_suffix (base : Nat) (s1 : List Byte) : (strtoBase base s1).2 <:+ s1 := by
  unfold strtoBase
  split
  · split
    · exact ⟨[48, _], rfl⟩
    · split <;> exact List.suffix_refl _
  · split <;> exact List.suffix_refl _
  · split <;> exact List.suffix_refl _

theorem strtoBody_suffix (base : Nat) (s1 : List Byte) : (strtoBody base s1).2.2 <:+ s1 :=
  (takeDigits_suffix _ _ _ _).trans (strtoBase_suffix base s1)

/-- `h0`: there is no `0x` prefix -/
theorem strtoBase_plain (base c : Nat) (cs : List Byte)
    (h0 : c = 48 → base = 16 ∨ base = 0 → ∀ x tl, cs = x :: tl → x ≠ 120 ∧ x ≠ 88) :
    strtoBase base (c :: cs) = (if base = 0 then (if c = 48 then 8 else 10) else base, c :: cs) := by
  unfold strtoBase
  split
  · rename_i x d r heq
    cases heq
    by_cases hpre : base = 16 ∨ base = 0
    · have := h0 rfl hpre x (d :: r) rfl
      by_cases hb0 : base = 0 <;> simp [this.1, this.2, hb0]
    · have h16 : base ≠ 16 := fun e => hpre (Or.inl e)
      have hb0 : base ≠ 0 := fun e => hpre (Or.inr e)
      simp [h16, hb0]
  · rename_i _ heq; cases heq
    by_cases hb0 : base = 0 <;> simp [hb0]
  · rename_i hn1 hn2
    have hc : c ≠ 48 := fun e => hn2 cs (by rw [e])
    by_cases hb0 : base = 0 <;> simp [hb0, hc]

theorem strtoul_eq (base : Nat) (s : List Byte) :
    strtoul base s =
      match s.dropWhile isSpace with
      | 43 :: _ => .unsupported
      | 45 :: _ => .unsupported
      | _ => if (strtoBody base (s.dropWhile isSpace)).2.1 = 0 then .ok 0 s
        else .ok (min (strtoBody base (s.dropWhile isSpace)).1 ulongMax) (strtoBody base (s.dropWhile isSpace)).2.2 := rfl

theorem min_ulongMax (v : Nat) : min v ulongMax = if v > ulongMax then ulongMax else v := by
  by_cases h : v > ulongMax
  · rw [if_pos h, Nat.min_eq_right (Nat.le_of_lt h)]
  · rw [if_neg h, Nat.min_eq_left (Nat.le_of_not_lt h)]

theorem strtoul_nosign (base : Nat) (s : List Byte) (h43 : ∀ t, s.dropWhile isSpace ≠ 43 :: t)
    (h45 : ∀ t, s.dropWhile isSpace ≠ 45 :: t) :
    strtoul base s =
      (if (strtoBody base (s.dropWhile isSpace)).2.1 = 0 then .ok 0 s
       else .ok (min (strtoBody base (s.dropWhile isSpace)).1 ulongMax) (strtoBody base (s.dropWhile isSpace)).2.2) := by
  rw [strtoul_eq]
  split
  · exact absurd ‹_› (h43 _)
  · exact absurd ‹_› (h45 _)
  · rfl

theorem nosign_of_strtoul_ok {base : Nat} {s : List Byte} {v : Nat} {r : List Byte} (h : strtoul base s = .ok v r) :
    (∀ t, s.dropWhile isSpace ≠ 43 :: t) ∧ ∀ t, s.dropWhile isSpace ≠ 45 :: t := by
  rw [strtoul_eq] at h
  split at h
  · cases h
  · cases h
  · rename_i h43 h45; exact ⟨h43, h45⟩

/-- `*endptr` points into the text -/
theorem strtoul_rest_suffix {base : Nat} {s : List Byte} {v : Nat} {r : List Byte} (h : strtoul base s = .ok v r) :
    r <:+ s := by
  rw [strtoul_nosign base s (nosign_of_strtoul_ok h).1 (nosign_of_strtoul_ok h).2] at h
  split at h
  · cases h; exact List.suffix_refl _
  · cases h; exact (strtoBody_suffix _ _).trans (List.dropWhile_suffix _)

/-- what `strtoul` returns once its digit loop, in base `b`, starts at the first character of `l` -/
def strtoFrom (b : Nat) (l : List Byte) : StrtoRes :=
  if (takeDigits b l 0 0).2.1 = 0 then .ok 0 l
  else .ok (min (takeDigits b l 0 0).1 ulongMax) (takeDigits b l 0 0).2.2

theorem strtoFrom_eq {b v k : Nat} {l rest : List Byte} (h : takeDigits b l 0 0 = (v, k, rest)) (hk : k ≠ 0)
    (hv : v < 2 ^ 64) : strtoFrom b l = .ok v rest := by
  rw [strtoFrom, h, if_neg hk, Nat.min_eq_left (by unfold ulongMax; omega)]

/-- neither white space nor a sign (43, 45) nor a `0x` prefix (`h0`) in front: the digit loop runs from the first
character -/
theorem strtoul_plain (base b c : Nat) (cs : List Byte) (hsp : isSpace c = false) (h43 : c ≠ 43) (h45 : c ≠ 45)
    (hb : (if base = 0 then (if c = 48 then 8 else 10) else base) = b)
    (h0 : c = 48 → base = 16 ∨ base = 0 → ∀ x tl, cs = x :: tl → x ≠ 120 ∧ x ≠ 88) :
    strtoul base (c :: cs) = strtoFrom b (c :: cs) := by
  have hs : (c :: cs).dropWhile isSpace = c :: cs := by rw [List.dropWhile_cons, hsp]; rfl
  rw [strtoFrom, strtoul_nosign base _ (by rw [hs]; exact fun t e => h43 (List.cons.inj e).1)
    (by rw [hs]; exact fun t e => h45 (List.cons.inj e).1), hs, strtoBody, strtoBase_plain base c cs h0, hb]

theorem digitVal_ne_x (x : Nat) (h : digitVal x = none) : x ≠ 120 ∧ x ≠ 88 := by
  constructor
  · intro e; subst e; revert h; decide
  · intro e; subst e; revert h; decide

theorem strtoul0_zero (rest : List Byte) (h : NoDigitHead rest) :
    strtoul 0 (48 :: rest) = .ok 0 rest := by
  have htd : takeDigits 8 (48 :: rest) 0 0 = (0, 1, rest) := by
    rw [show 48 :: rest = List.replicate 1 48 ++ rest from rfl, takeDigits_zeros 8 (by omega), takeDigits_stop 8 rest h]
  rw [strtoul_plain 0 8 48 rest (by decide) (by decide) (by decide) rfl fun _ _ x tl e => ?_]
  · exact strtoFrom_eq htd (by decide) (by decide)
  · exact digitVal_ne_x x (h x tl e)

theorem digitChar_dec (d : Nat) (h : d < 10) : IsDecChar (digitChar d) := by
  unfold digitChar IsDecChar; rw [if_pos h]; omega
theorem digitChar_hex (d : Nat) (h : d < 16) : IsHexChar (digitChar d) := by
  unfold digitChar IsHexChar; split <;> omega

theorem decDigits_ne_nil (n : Nat) : decDigits n ≠ [] := digs_ne_nil 10 (by omega) n
theorem hexDigits_ne_nil (n : Nat) : hexDigits n ≠ [] := digs_ne_nil 16 (by omega) n
theorem decDigits_chars (n : Nat) : ∀ c, c ∈ decDigits n → IsDecChar c := by
  intro c hc
  obtain ⟨d, hd, e⟩ := digs_chars 10 (by omega) n c hc
  rw [e]; exact digitChar_dec d hd
theorem hexDigits_chars (n : Nat) : ∀ c, c ∈ hexDigits n → IsHexChar c := by
  intro c hc
  obtain ⟨d, hd, e⟩ := digs_chars 16 (by omega) n c hc
  rw [e]; exact digitChar_hex d hd
theorem hexPad_chars (w n : Nat) : ∀ c, c ∈ hexPad w n → IsHexChar c := by
  intro c hc
  unfold hexPad at hc
  simp only [List.mem_append, List.mem_replicate] at hc
  rcases hc with ⟨_, e⟩ | hc
  · rw [e]; unfold IsHexChar; omega
  · exact hexDigits_chars n c hc

theorem hexDigits_length_le (n k : Nat) (hk : 1 ≤ k) (h : n < 16 ^ k) : (hexDigits n).length ≤ k :=
  digs_length_le 16 (by omega) n k hk h
theorem hexDigits_length_pos (n : Nat) : 1 ≤ (hexDigits n).length := digs_length_pos 16 (by omega) n
theorem hexPad_length (w n : Nat) (hw : 1 ≤ w) (h : n < 16 ^ w) : (hexPad w n).length = w := by
  have := hexDigits_length_le n w hw h
  unfold hexPad
  simp only [List.length_append, List.length_replicate]
  omega
theorem hexPad_ne_nil (w n : Nat) : hexPad w n ≠ [] := by
  unfold hexPad
  have := hexDigits_ne_nil n
  simp [this]

theorem takeDigits_digs (base : Nat) (hb : 2 ≤ base) (hb16 : base ≤ 16) :
    ∀ n (rest : List Byte) (k : Nat),
      takeDigits base (digs base n ++ rest) 0 k = takeDigits base rest n (k + (digs base n).length) := by
  apply digs_induct base hb
    (fun n => ∀ (rest : List Byte) (k : Nat),
      takeDigits base (digs base n ++ rest) 0 k = takeDigits base rest n (k + (digs base n).length))
  · intro n hn rest k
    rw [digs_lt base hb n hn, List.singleton_append, takeDigits_digitChar base n hn hb16]
    simp
  · intro n hn ih rest k
    rw [digs_ge base hb n hn, List.append_assoc, ih, List.singleton_append,
      takeDigits_digitChar base (n % base) (Nat.mod_lt _ (by omega)) hb16, List.length_append]
    have e : n / base * base + n % base = n := by
      rw [Nat.mul_comm]; exact Nat.div_add_mod n base
    rw [e]
    simp only [List.length_singleton, Nat.add_assoc]

theorem strtoul16_nil : strtoul 16 [] = .ok 0 [] := by decide
theorem strtoul16_comma (s : List Byte) : strtoul 16 (44 :: s) = .ok 0 (44 :: s) := by
  simp [strtoul, isSpace, takeDigits, digitVal]

theorem hexChar_ne_x (x : Nat) (h : IsHexChar x) : x ≠ 120 ∧ x ≠ 88 := by
  unfold IsHexChar at h; omega

theorem takeDigits_decDigits (n : Nat) (rest : List Byte) (h : NoDigitHead rest) :
    takeDigits 10 (decDigits n ++ rest) 0 0 = (n, (decDigits n).length, rest) := by
  rw [decDigits_eq, takeDigits_digs 10 (by omega) (by omega), takeDigits_stop 10 rest h, Nat.zero_add]

theorem strtoul_decDigits_of_plain (base n : Nat) (rest : List Byte) (hn : n < 2 ^ 64) (h : NoDigitHead rest)
    (hp : ∀ c cs, IsDecChar c → decDigits n ++ rest = c :: cs → strtoul base (c :: cs) = strtoFrom 10 (c :: cs)) :
    strtoul base (decDigits n ++ rest) = .ok n rest := by
  obtain ⟨c, tl, e⟩ := List.exists_cons_of_ne_nil (decDigits_ne_nil n)
  have hc : IsDecChar c := decDigits_chars n c (by rw [e]; exact List.mem_cons_self)
  have e' : decDigits n ++ rest = c :: (tl ++ rest) := by rw [e]; rfl
  rw [e', hp c _ hc e', ← e']
  exact strtoFrom_eq (takeDigits_decDigits n rest h) (fun h0 => decDigits_ne_nil n (List.eq_nil_of_length_eq_zero h0)) hn

theorem decChar_plain {c : Nat} (hc : IsDecChar c) : isSpace c = false ∧ c ≠ 43 ∧ c ≠ 45 :=
  ⟨isSpace_hex c (Or.inl hc), by unfold IsDecChar at hc; omega, by unfold IsDecChar at hc; omega⟩

/-- base 0 (the list format): a decimal number followed by a non-digit -/
theorem strtoul0_decDigits (n : Nat) (rest : List Byte) (hn : n < 2 ^ 64) (h : NoDigitHead rest) :
    strtoul 0 (decDigits n ++ rest) = .ok n rest := by
  by_cases h0 : n = 0
  · subst h0
    have : decDigits 0 = [48] := by decide
    rw [this]
    exact strtoul0_zero rest h
  · refine strtoul_decDigits_of_plain 0 n rest hn h fun c cs hc e => ?_
    -- the first digit of a positive number is not `0`: no octal
    obtain ⟨d, tl, hd1, hd2, ed⟩ := digs_head 10 (by omega) n (by omega)
    have hc0 : c ≠ 48 := by
      rw [decDigits_eq, ed] at e
      injection e with e1 _
      rw [← e1]; unfold digitChar; rw [if_pos hd2]; omega
    exact strtoul_plain 0 10 c cs (decChar_plain hc).1 (decChar_plain hc).2.1 (decChar_plain hc).2.2
      (by rw [if_pos rfl, if_neg hc0]) fun e48 => absurd e48 hc0

theorem strtoul10_plain (c : Nat) (cs : List Byte) (hc : IsDecChar c) :
    strtoul 10 (c :: cs) = strtoFrom 10 (c :: cs) :=
  strtoul_plain 10 10 c cs (decChar_plain hc).1 (decChar_plain hc).2.1 (decChar_plain hc).2.2 rfl
    fun _ e => absurd e (by decide)

/-- base 10: a printed `%u` / `%lu` / `%llu` number reads back, whatever non-digit follows -/
theorem strtoul10_decDigits (n : Nat) (rest : List Byte) (hn : n < 2 ^ 64) (h : NoDigitHead rest) :
    strtoul 10 (decDigits n ++ rest) = .ok n rest :=
  strtoul_decDigits_of_plain 10 n rest hn h fun c cs hc _ => strtoul10_plain c cs hc

/-- `l ++ rest` where `l` is a non-empty list of hex digit characters never looks like a `0x` prefix -/
theorem strtoul16_hexChars (l rest : List Byte) (hl : l ≠ []) (hc : ∀ c, c ∈ l → IsHexChar c)
    (h : NoDigitHead rest) :
    strtoul 16 (l ++ rest) = strtoFrom 16 (l ++ rest) := by
  cases l with
  | nil => exact absurd rfl hl
  | cons c l' =>
    rw [List.cons_append]
    have hx := hc c (by simp)
    refine strtoul_plain 16 16 c (l' ++ rest) (isSpace_hex c hx) (by unfold IsHexChar at hx; omega)
      (by unfold IsHexChar at hx; omega) rfl fun _ _ x tl e => ?_
    cases l' with
    | nil =>
      rw [List.nil_append] at e
      exact digitVal_ne_x x (h x tl e)
    | cons x' l'' =>
      rw [List.cons_append] at e
      cases e
      exact hexChar_ne_x x (hc x (by simp))

theorem takeDigits_hexPad (w n : Nat) (rest : List Byte) (h : NoDigitHead rest) :
    takeDigits 16 (hexPad w n ++ rest) 0 0 = (n, (hexPad w n).length, rest) := by
  unfold hexPad
  simp only
  rw [List.append_assoc, takeDigits_zeros 16 (by omega), hexDigits_eq,
    takeDigits_digs 16 (by omega) (by omega), takeDigits_stop 16 rest h]
  simp

/-- base 16, no prefix (the taskset format), any zero padding -/
theorem strtoul16_hexPad (w n : Nat) (rest : List Byte) (hn : n < 2 ^ 64) (h : NoDigitHead rest) :
    strtoul 16 (hexPad w n ++ rest) = .ok n rest := by
  rw [strtoul16_hexChars _ rest (hexPad_ne_nil w n) (hexPad_chars w n) h]
  exact strtoFrom_eq (takeDigits_hexPad w n rest h) (fun e => hexPad_ne_nil w n (List.eq_nil_of_length_eq_zero e)) hn

theorem hexPad_zero (n : Nat) : hexPad 0 n = hexDigits n := by
  unfold hexPad; simp

theorem strtoul16_hexDigits (n : Nat) (rest : List Byte) (hn : n < 2 ^ 64) (h : NoDigitHead rest) :
    strtoul 16 (hexDigits n ++ rest) = .ok n rest := by
  rw [← hexPad_zero]; exact strtoul16_hexPad 0 n rest hn h

theorem isDigitIn_hex (c : Nat) (h : IsHexChar c) : isDigitIn 16 c = true := by
  unfold isDigitIn digitVal
  rcases h with h | h
  · rw [if_pos h]; exact decide_eq_true (by omega)
  · have h1 : ¬ ((48 : Nat) ≤ c ∧ c ≤ 57) := by omega
    have h2 : (97 : Nat) ≤ c ∧ c ≤ 122 := by omega
    rw [if_neg h1, if_pos h2]; exact decide_eq_true (by omega)

/-- base 16 with the `0x` prefix (the hwloc format) -/
theorem strtoul16_0x_hexPad (w n : Nat) (rest : List Byte) (hn : n < 2 ^ 64) (h : NoDigitHead rest) :
    strtoul 16 (48 :: 120 :: (hexPad w n ++ rest)) = .ok n rest := by
  have htd := takeDigits_hexPad w n rest h
  have hch := hexPad_chars w n
  cases hp : hexPad w n with
  | nil => exact absurd hp (hexPad_ne_nil w n)
  | cons d r =>
    rw [hp] at htd hch
    have hb : strtoBody 16 (48 :: 120 :: (d :: r ++ rest)) = (n, (d :: r).length, rest) := by
      rw [← htd]
      simp only [strtoBody, strtoBase, List.cons_append, isDigitIn_hex d (hch d List.mem_cons_self)]
      rfl
    have hs : ∀ l : List Byte, (48 :: l).dropWhile isSpace = 48 :: l := fun _ => rfl
    rw [strtoul_nosign 16 _ (by rw [hs]; exact fun t e => nomatch e) (by rw [hs]; exact fun t e => nomatch e), hs, hb,
      if_neg (by simp), Nat.min_eq_left (by unfold ulongMax; omega)]

end Hw
