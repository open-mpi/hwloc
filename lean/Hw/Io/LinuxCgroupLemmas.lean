import Hw.Io.LinuxCgroup
import Hw.Io.LinuxNumLemmas
import Hw.Base.ListLemmas
namespace Hw.LinuxCgroup
open Hw Hw.LinuxParse Hw.LinuxNum

/-! ### fgets -/

theorem fgetsAux_append : ∀ (k : Nat) (s : List Byte), (fgetsAux k s).1 ++ (fgetsAux k s).2 = s
  | 0, s => by rw [fgetsAux]; rfl
  | _+1, [] => by simp [fgetsAux]
  | k+1, c :: cs => by
    rw [fgetsAux]
    split
    · rfl
    · simp only [List.cons_append, fgetsAux_append k cs]

theorem fgetsAux_length : ∀ (k : Nat) (s : List Byte), (fgetsAux k s).1.length ≤ k
  | 0, s => by rw [fgetsAux]; simp
  | _+1, [] => by simp [fgetsAux]
  | k+1, c :: cs => by
    rw [fgetsAux]
    split
    · simp
    · have := fgetsAux_length k cs
      simp only [List.length_cons]; omega

theorem fgetsAux_rest_le (k : Nat) (s : List Byte) : (fgetsAux k s).2.length ≤ s.length := by
  have h := congrArg List.length (fgetsAux_append k s)
  rw [List.length_append] at h; omega

theorem fgetsAux_progress : ∀ (k : Nat) (s : List Byte), 0 < k → s ≠ [] → (fgetsAux k s).2.length < s.length
  | 0, _, h, _ => by omega
  | _+1, [], _, h => absurd rfl h
  | k+1, c :: cs, _, _ => by
    rw [fgetsAux]
    split
    · simp
    · have := fgetsAux_rest_le k cs
      simp only [List.length_cons]; omega

theorem fgets_length (n : Nat) (s : List Byte) : (fgets n s).1.length ≤ n - 1 := fgetsAux_length _ _

theorem fgets_progress (n : Nat) (hn : 2 ≤ n) (s : List Byte) (hs : s ≠ []) : (fgets n s).2.length < s.length :=
  fgetsAux_progress _ _ (by omega) hs

theorem fgets_rest_le (n : Nat) (s : List Byte) : (fgets n s).2.length ≤ s.length := fgetsAux_rest_le _ _

theorem fgetsAux_prefix : ∀ (a : List Byte) (k : Nat) (r : List Byte), (∀ c ∈ a, c ≠ 10) → a.length ≤ k →
    fgetsAux k (a ++ r) = (a ++ (fgetsAux (k - a.length) r).1, (fgetsAux (k - a.length) r).2)
  | [], _, _, _, _ => rfl
  | _ :: _, 0, _, _, h => by simp at h
  | c :: a, k+1, r, hnl, h => by
    rw [List.cons_append, fgetsAux, if_neg (hnl c List.mem_cons_self),
      fgetsAux_prefix a k r (fun x hx => hnl x (List.mem_cons_of_mem _ hx)) (by simpa using h)]
    simp only [List.length_cons, Nat.add_sub_add_right, List.cons_append]

theorem fgets_line (n : Nat) (l r : List Byte) (hnl : ∀ c ∈ l, c ≠ 10) (hlen : l.length + 1 ≤ n - 1) :
    fgets n (l ++ 10 :: r) = (l ++ [10], r) := by
  -- the room left behind `l` is a successor: the next round of fgets stores the newline and stops
  rw [fgets, fgetsAux_prefix l _ _ hnl (Nat.le_of_succ_le hlen), ← Nat.succ_pred_eq_of_pos (Nat.sub_pos_of_lt hlen)]
  rfl

/-! ### small list facts -/

theorem chopNl_length_le (l : List Byte) : (chopNl l).length ≤ l.length := (List.takeWhile_prefix _).length_le

theorem chopNl_line (path r : List Byte) (h : ∀ c ∈ path, c ≠ 10) : chopNl (path ++ 10 :: r) = path :=
  takeWhile_append_stop _ path 10 r (fun c hc => by simpa using h c hc) rfl

/-! ### hwloc_read_linux_cgroup_name -/

theorem str_cpuset_colons : str ":cpuset:" = [58, 99, 112, 117, 115, 101, 116, 58] := by rw [str_ofList]; rfl
theorem str_colons : str "::" = [58, 58] := by rw [str_ofList]; rfl

/-- the lines fgets delivers -/
def chunks (n : Nat) : Nat → List Byte → List (List Byte)
  | 0, _ => []
  | fuel+1, s => if s = [] then [] else (fgets n s).1 :: chunks n fuel (fgets n s).2

theorem fgets_chunk_ne_nil (n : Nat) (hn : 2 ≤ n) (s : List Byte) (hs : s ≠ []) : (fgets n s).1 ≠ [] := by
  intro h
  have h1 := fgets_progress n hn s hs
  have h2 : (fgets n s).1 ++ (fgets n s).2 = s := fgetsAux_append _ s
  rw [h, List.nil_append] at h2
  rw [h2] at h1
  omega

theorem chunks_bounds (n : Nat) (hn : 2 ≤ n) : ∀ (fuel : Nat) (s : List Byte), ∀ ch ∈ chunks n fuel s,
    ch ≠ [] ∧ ch.length ≤ n - 1
  | 0, _, ch, h => by simp [chunks] at h
  | fuel+1, s, ch, h => by
    rw [chunks] at h
    by_cases hs : s = []
    · simp [hs] at h
    · rw [if_neg hs, List.mem_cons] at h
      rcases h with h | h
      · rw [h]; exact ⟨fgets_chunk_ne_nil n hn s hs, fgets_length n s⟩
      · exact chunks_bounds n hn fuel _ ch h

theorem cgLoop_eq_findSome : ∀ (fuel : Nat) (s : List Byte),
    cgLoop fuel s = (chunks cgroupLineLen fuel s).findSome? (fun ch => cgLineMatch (cstr ch))
  | 0, _ => rfl
  | fuel+1, s => by
    rw [cgLoop, chunks]
    by_cases hs : s = []
    · simp [hs]
    · rw [if_neg hs, if_neg hs, List.findSome?_cons]
      cases cgLineMatch (cstr (fgets cgroupLineLen s).1) with
      | some p => rfl
      | none => exact cgLoop_eq_findSome fuel _

theorem cgLoop_fuel : ∀ (f1 f2 : Nat) (s : List Byte), s.length < f1 → s.length < f2 → cgLoop f1 s = cgLoop f2 s := by
  apply fuel_indep
  intro f f' s ih
  rw [cgLoop, cgLoop]
  by_cases hs : s = []
  · simp [hs]
  · rw [if_neg hs, if_neg hs]
    cases cgLineMatch (cstr (fgets cgroupLineLen s).1) with
    | some p => rfl
    | none => exact ih _ (fgets_progress cgroupLineLen (by decide) s hs)

theorem cgLineMatch_inside (line p : List Byte) (h : cgLineMatch line = some p) :
    ∃ k, k ≤ line.length ∧ p = chopNl (line.drop k) := by
  unfold cgLineMatch at h
  simp only [] at h
  rw [dropWhile_eq_drop_takeWhile] at h
  generalize hj : (line.takeWhile (fun c => c != 58)).length = j at h
  split at h
  · cases h
  · split at h
    · rename_i hp
      have hl := (List.isPrefixOf_iff_prefix.mp hp).length_le
      rw [str_cpuset_colons, List.length_drop] at hl
      simp only [List.length_cons, List.length_nil] at hl
      injection h with h
      refine ⟨j + 8, by omega, ?_⟩
      rw [← h, List.drop_drop]
    · split at h
      · rename_i hp
        have hl := (List.isPrefixOf_iff_prefix.mp hp).length_le
        rw [str_colons, List.length_drop] at hl
        simp only [List.length_cons, List.length_nil] at hl
        injection h with h
        refine ⟨j + 2, by omega, ?_⟩
        rw [← h, List.drop_drop]
      · cases h

theorem cgLineMatch_length (line p : List Byte) (h : cgLineMatch line = some p) : p.length ≤ line.length := by
  obtain ⟨k, _, hp⟩ := cgLineMatch_inside line p h
  rw [hp]
  have := chopNl_length_le (line.drop k)
  rw [List.length_drop] at this; omega

theorem cgLoop_length (fuel : Nat) (s p : List Byte) (h : cgLoop fuel s = some p) : p.length ≤ cgroupLineLen - 1 := by
  rw [cgLoop_eq_findSome] at h
  obtain ⟨ch, hch, hm⟩ := List.exists_of_findSome?_eq_some h
  have h1 := cgLineMatch_length _ _ hm
  have h2 := cstr_length_le ch
  have h3 := (chunks_bounds cgroupLineLen (by decide) fuel s ch hch).2
  omega

theorem cgLineMatch_colon (pre suf : List Byte) (hpre : ∀ c ∈ pre, c ≠ 58) :
    cgLineMatch (pre ++ 58 :: suf) =
      if (str ":cpuset:").isPrefixOf (58 :: suf) then some (chopNl ((58 :: suf).drop 8))
      else if (str "::").isPrefixOf (58 :: suf) then some (chopNl ((58 :: suf).drop 2)) else none := by
  have hd := dropWhile_append_stop (fun c => c != 58) pre 58 suf (fun x hx => by simpa using hpre x hx) rfl
  unfold cgLineMatch
  simp only [hd]
  rw [if_neg (List.cons_ne_nil _ _)]

/-- what the kernel writes: newline-terminated lines -/
def joinLines : List (List Byte) → List Byte
  | [] => []
  | l :: ls => l ++ 10 :: joinLines ls

theorem joinLines_length_ge : ∀ ls : List (List Byte), ls.length ≤ (joinLines ls).length
  | [] => by simp [joinLines]
  | l :: ls => by
    have := joinLines_length_ge ls
    simp only [joinLines, List.length_cons, List.length_append]; omega

theorem cgLoop_joinLines : ∀ (ls : List (List Byte)) (fuel : Nat), ls.length < fuel →
    (∀ l ∈ ls, (∀ c ∈ l, c ≠ 10 ∧ c ≠ 0) ∧ l.length + 1 ≤ cgroupLineLen - 1) →
    cgLoop fuel (joinLines ls) = ls.findSome? (fun l => cgLineMatch (l ++ [10]))
  | [], fuel, hf, _ => by
    cases fuel with
    | zero => omega
    | succ f => simp [joinLines, cgLoop]
  | l :: ls, fuel, hf, hwf => by
    cases fuel with
    | zero => omega
    | succ f =>
      have hf' : ls.length < f := by simp only [List.length_cons] at hf; omega
      have hl := hwf l (List.mem_cons_self)
      have hne : l ++ 10 :: joinLines ls ≠ [] := by simp
      rw [joinLines, cgLoop, if_neg hne, fgets_line cgroupLineLen l _ (fun c hc => (hl.1 c hc).1) hl.2]
      simp only []
      have hz : ∀ c ∈ l ++ [10], c ≠ 0 := List.forall_mem_append.mpr ⟨fun c hc => (hl.1 c hc).2, by decide⟩
      rw [cstr_nonzero _ hz, List.findSome?_cons]
      cases cgLineMatch (l ++ [10]) with
      | some p => rfl
      | none =>
        exact cgLoop_joinLines ls f hf'
          (fun x hx => hwf x (List.mem_cons_of_mem _ hx))

/-! ### glibc decode_name and the path buffers -/

theorem decodeAux_length : ∀ (s : List Byte) (k : Nat), (decodeAux k s).length ≤ s.length
  | [], k => by rw [decodeAux]; simp
  | c :: r, k+1 => by
    rw [decodeAux]
    have := decodeAux_length r k
    simp only [List.length_cons]; omega
  | c :: r, 0 => by
    rw [decodeAux]
    split
    · rename_i d k _
      have := decodeAux_length r k
      simp only [List.length_cons]; omega
    · have := decodeAux_length r 0
      simp only [List.length_cons]; omega

theorem decodeName_length (s : List Byte) : (decodeName s).length ≤ s.length := decodeAux_length s 0

theorem snprintfS_length (n : Nat) (s : List Byte) : (snprintfS n s).length ≤ n - 1 := readBytes_length n s

/-! ### the /proc/mounts scan -/

/-- the entries getmntent_r delivers -/
def entries (bufsiz : Nat) : Nat → List Byte → List MntEnt
  | 0, _ => []
  | fuel+1, s =>
    match nextEnt bufsiz (s.length + 1) s with
    | none => []
    | some (e, rest) => e :: entries bufsiz fuel rest

theorem mntLoop_eq_findSome (fs : FS) (bufsiz : Nat) : ∀ (fuel : Nat) (s : List Byte),
    mntLoop fs bufsiz fuel s = (entries bufsiz fuel s).findSome? (entMatch fs)
  | 0, _ => rfl
  | fuel+1, s => by
    rw [mntLoop, entries]
    cases nextEnt bufsiz (s.length + 1) s with
    | none => rfl
    | some er =>
      obtain ⟨e, rest⟩ := er
      simp only [List.findSome?_cons]
      cases entMatch fs e with
      | some r => rfl
      | none => exact mntLoop_eq_findSome fs bufsiz fuel rest

theorem str_types_ne : str "cgroup2" ≠ str "cpuset" ∧ str "cgroup2" ≠ str "cgroup" ∧ str "cpuset" ≠ str "cgroup" := by
  simp only [ne_eq, str_inj, String.reduceEq, not_false_eq_true, and_self]

theorem entMatch_cpuset (fs : FS) (e : MntEnt) (h : e.type = str "cpuset") : entMatch fs e = some (.cpuset, e.dir) := by
  unfold entMatch
  rw [h, if_neg (fun h' => str_types_ne.1 h'.symm), if_pos rfl]

theorem entMatch_cgroup1 (fs : FS) (e : MntEnt) (h : e.type = str "cgroup") :
    entMatch fs e =
      (if (splitBy 44 e.opts).contains (str "cpuset") then
        (if (splitBy 44 e.opts).contains (str "noprefix") then some (.cpuset, e.dir) else some (.cgroup1, e.dir))
       else none) := by
  unfold entMatch
  rw [h, if_neg (fun h' => str_types_ne.2.1 h'.symm), if_neg (fun h' => str_types_ne.2.2 h'.symm), if_pos rfl]

theorem entMatch_cgroup2 (fs : FS) (e : MntEnt) (h : e.type = str "cgroup2") :
    entMatch fs e =
      (match readPath ctrlsLen (fs (ctrlPath e.dir)) with
       | some b => if ctrlHasCpuset b then some (.cgroup2, e.dir) else none
       | none => none) := by
  unfold entMatch
  simp only [h, ↓reduceIte]
  cases readPath ctrlsLen (fs (ctrlPath e.dir)) <;> rfl

theorem entMatch_other (fs : FS) (e : MntEnt) (h2 : e.type ≠ str "cgroup2") (hc : e.type ≠ str "cpuset")
    (h1 : e.type ≠ str "cgroup") : entMatch fs e = none := by
  unfold entMatch
  rw [if_neg h2, if_neg hc, if_neg h1]

theorem entMatch_dir (fs : FS) (e : MntEnt) (t : CgType) (d : List Byte) (h : entMatch fs e = some (t, d)) : d = e.dir := by
  revert h
  fun_cases entMatch fs e <;> intro h <;> cases h <;> rfl

theorem findMntpnt_scan (acc : List Byte → Bool) (fs : FS) (bufsiz : Nat) (m : List Byte)
    (h1 : acc (str "/sys/fs/cgroup/cpuset.cpus.effective") = false) (h2 : acc (str "/sys/fs/cgroup/cpuset/cpuset.cpus") = false)
    (h3 : acc (str "/dev/cpuset/cpus") = false) :
    findMntpnt acc fs bufsiz (some m) = (entries bufsiz (m.length + 1) m).findSome? (entMatch fs) := by
  unfold findMntpnt
  simp only [h1, h2, h3, Bool.false_eq_true, if_false]
  exact mntLoop_eq_findSome fs bufsiz _ m

/-! ### well-formed /proc/mounts -/

/-- a field of a well-formed /proc/mounts line as the kernel prints it when nothing needs escaping -/
def PlainField (f : List Byte) : Prop := f ≠ [] ∧ ∀ c ∈ f, c ≠ 32 ∧ c ≠ 9 ∧ c ≠ 92 ∧ c ≠ 0 ∧ c ≠ 10

/-- `fsname dir type opts 0 0` (without the newline) -/
def mountLine (fsname dir type opts : List Byte) : List Byte :=
  fsname ++ 32 :: (dir ++ 32 :: (type ++ 32 :: (opts ++ [32, 48, 32, 48])))

theorem isBlank_plain (f : List Byte) (hf : PlainField f) : ∀ x ∈ f, (!isBlank x) = true := by
  intro x hx
  have := hf.2 x hx
  unfold isBlank
  simp only [Bool.not_eq_true', Bool.or_eq_false_iff, beq_eq_false_iff_ne, ne_eq]
  exact ⟨this.1, this.2.1⟩

theorem plain_head (f : List Byte) (hf : PlainField f) : ∃ c t, f = c :: t ∧ isBlank c = false := by
  cases f with
  | nil => exact absurd rfl hf.1
  | cons c t => exact ⟨c, t, rfl, by simpa using isBlank_plain _ hf c List.mem_cons_self⟩

theorem dropWhile_blank_plain (f : List Byte) (hf : PlainField f) (R : List Byte) :
    (f ++ R).dropWhile isBlank = f ++ R := by
  obtain ⟨c, t, rfl, hc⟩ := plain_head f hf
  rw [List.cons_append, List.dropWhile_cons, hc]; rfl

theorem sepTok_field (f : List Byte) (hf : PlainField f) (g : List Byte) (hg : PlainField g) (R : List Byte) :
    sepTok (some (f ++ 32 :: (g ++ R))) = (f, some (g ++ R)) := by
  unfold sepTok
  simp only []
  have hb : (!isBlank 32) = false := by decide
  rw [dropWhile_append_stop _ f 32 _ (isBlank_plain f hf) hb, takeWhile_append_stop _ f 32 _ (isBlank_plain f hf) hb]
  simp only []
  rw [dropWhile_blank_plain g hg R]

theorem decodeAux_plain : ∀ (f : List Byte), (∀ c ∈ f, c ≠ 92) → decodeAux 0 f = f
  | [], _ => by rw [decodeAux]
  | c :: r, h => by
    rw [decodeAux, if_neg (h c (List.mem_cons_self))]
    simp only []
    rw [decodeAux_plain r (fun x hx => h x (List.mem_cons_of_mem _ hx))]

theorem decodeName_plain (f : List Byte) (hf : PlainField f) : decodeName f = f :=
  decodeAux_plain f (fun c hc => (hf.2 c hc).2.2.1)

theorem plain48 : PlainField [48] := ⟨by simp, by intro c hc; simp at hc; subst hc; decide⟩

theorem parseEnt_mountLine (fsname dir type opts : List Byte) (hf : PlainField fsname) (hd : PlainField dir)
    (ht : PlainField type) (ho : PlainField opts) :
    parseEnt (mountLine fsname dir type opts) = { dir := dir, type := type, opts := opts } := by
  unfold parseEnt mountLine
  simp only []
  rw [sepTok_field fsname hf dir hd]
  simp only []
  rw [sepTok_field dir hd type ht]
  simp only []
  rw [sepTok_field type ht opts ho]
  simp only []
  have : opts ++ [32, 48, 32, 48] = opts ++ 32 :: ([48] ++ [32, 48]) := by simp
  rw [this, sepTok_field opts ho [48] plain48]
  simp only []
  rw [decodeName_plain dir hd, decodeName_plain type ht, decodeName_plain opts ho]

theorem mountLine_mem (fsname dir type opts : List Byte) (hf : PlainField fsname) (hd : PlainField dir)
    (ht : PlainField type) (ho : PlainField opts) : ∀ c ∈ mountLine fsname dir type opts, c ≠ 10 ∧ c ≠ 0 := by
  have p : ∀ f, PlainField f → ∀ c ∈ f, c ≠ 10 ∧ c ≠ 0 := fun f h c hc => ⟨(h.2 c hc).2.2.2.2, (h.2 c hc).2.2.2.1⟩
  have sp : (32 : Byte) ≠ 10 ∧ (32 : Byte) ≠ 0 := by decide
  unfold mountLine
  refine List.forall_mem_append.mpr ⟨p _ hf, List.forall_mem_cons.mpr ⟨sp, ?_⟩⟩
  refine List.forall_mem_append.mpr ⟨p _ hd, List.forall_mem_cons.mpr ⟨sp, ?_⟩⟩
  refine List.forall_mem_append.mpr ⟨p _ ht, List.forall_mem_cons.mpr ⟨sp, ?_⟩⟩
  exact List.forall_mem_append.mpr ⟨p _ ho, by decide⟩

theorem stripTrail_snoc (l : List Byte) (c : Byte) (hc : isBlank c = false) : stripTrail (l ++ [c]) = l ++ [c] := by
  unfold stripTrail
  rw [List.reverse_append, List.reverse_singleton, List.singleton_append, List.dropWhile_cons, hc]
  simp

theorem mntLine_line (bufsiz : Nat) (l rest : List Byte) (hm : ∀ c ∈ l, c ≠ 10 ∧ c ≠ 0) (hlen : l.length + 1 ≤ bufsiz - 1)
    (hst : stripTrail l = l) : mntLine bufsiz (l ++ 10 :: rest) = (l, rest) := by
  have hz : ∀ c ∈ l ++ [10], c ≠ 0 := List.forall_mem_append.mpr ⟨fun c hc => (hm c hc).2, by decide⟩
  unfold mntLine
  simp only []
  rw [fgets_line bufsiz _ rest (fun c hc => (hm c hc).1) hlen]
  simp only []
  rw [cstr_nonzero _ hz, if_pos (by simp), chopNl_line _ [] (fun c hc => (hm c hc).1), hst]

theorem nextEnt_line (bufsiz fuel : Nat) (l rest : List Byte) (hml : mntLine bufsiz (l ++ 10 :: rest) = (l, rest))
    (c : Byte) (t : List Byte) (hl : l = c :: t) (hb : isBlank c = false) (hc : c ≠ 35) :
    nextEnt bufsiz (fuel + 1) (l ++ 10 :: rest) = some (parseEnt l, rest) := by
  subst hl
  rw [nextEnt, if_neg (by simp), hml]
  simp only []
  rw [List.dropWhile_cons, hb]
  simp only [Bool.false_eq_true, if_false, hc]

theorem nextEnt_mountLine (bufsiz fuel : Nat) (fsname dir type opts rest : List Byte) (hf : PlainField fsname)
    (hd : PlainField dir) (ht : PlainField type) (ho : PlainField opts) (hc : ∀ t, fsname ≠ 35 :: t)
    (hlen : (mountLine fsname dir type opts).length + 1 ≤ bufsiz - 1) :
    nextEnt bufsiz (fuel + 1) (mountLine fsname dir type opts ++ 10 :: rest) =
      some ({ dir := dir, type := type, opts := opts }, rest) := by
  have hst : stripTrail (mountLine fsname dir type opts) = mountLine fsname dir type opts := by
    have e : mountLine fsname dir type opts = (fsname ++ 32 :: (dir ++ 32 :: (type ++ 32 :: (opts ++ [32, 48, 32])))) ++ [48] := by
      unfold mountLine; simp
    rw [e]; exact stripTrail_snoc _ 48 (by decide)
  have hml := mntLine_line bufsiz _ rest (mountLine_mem fsname dir type opts hf hd ht ho) hlen hst
  obtain ⟨c, t, rfl, hb⟩ := plain_head fsname hf
  rw [nextEnt_line bufsiz fuel _ rest hml c _ rfl hb (fun h => hc t (by rw [h])), parseEnt_mountLine _ dir type opts hf hd ht ho]

structure MntRaw where
  fsname : List Byte
  dir : List Byte
  type : List Byte
  opts : List Byte

def MntRaw.Ok (bufsiz : Nat) (r : MntRaw) : Prop :=
  PlainField r.fsname ∧ PlainField r.dir ∧ PlainField r.type ∧ PlainField r.opts ∧ (∀ t, r.fsname ≠ 35 :: t) ∧
  (mountLine r.fsname r.dir r.type r.opts).length + 1 ≤ bufsiz - 1

def MntRaw.ent (r : MntRaw) : MntEnt := { dir := r.dir, type := r.type, opts := r.opts }

/-- the file the kernel prints for these mounts -/
def renderMounts : List MntRaw → List Byte
  | [] => []
  | r :: rs => mountLine r.fsname r.dir r.type r.opts ++ 10 :: renderMounts rs

theorem entries_renderMounts (bufsiz : Nat) : ∀ (rs : List MntRaw) (fuel : Nat), rs.length < fuel →
    (∀ r ∈ rs, r.Ok bufsiz) → entries bufsiz fuel (renderMounts rs) = rs.map MntRaw.ent
  | [], fuel, hf, _ => by
    cases fuel with
    | zero => omega
    | succ f => simp [renderMounts, entries, nextEnt]
  | r :: rs, fuel, hf, hwf => by
    cases fuel with
    | zero => omega
    | succ f =>
      have hf' : rs.length < f := by simp only [List.length_cons] at hf; omega
      obtain ⟨h1, h2, h3, h4, h5, h6⟩ := hwf r (List.mem_cons_self)
      rw [renderMounts, entries, nextEnt_mountLine bufsiz _ r.fsname r.dir r.type r.opts _ h1 h2 h3 h4 h5 h6]
      simp only [List.map_cons]
      rw [entries_renderMounts bufsiz rs f hf' (fun x hx => hwf x (List.mem_cons_of_mem _ hx))]
      rfl

theorem renderMounts_length_ge : ∀ rs : List MntRaw, rs.length ≤ (renderMounts rs).length
  | [] => by simp [renderMounts]
  | r :: rs => by
    have := renderMounts_length_ge rs
    simp only [renderMounts, List.length_cons, List.length_append]; omega

/-! ### the scan terminates -/

theorem discardLine_le : ∀ (fuel : Nat) (s : List Byte), (discardLine fuel s).length ≤ s.length
  | 0, s => by rw [discardLine]; omega
  | fuel+1, s => by
    rw [discardLine]
    split
    · simp
    · split
      · exact fgets_rest_le 1024 s
      · have h1 := discardLine_le fuel (fgets 1024 s).2
        have h2 := fgets_rest_le 1024 s
        omega

theorem mntLine_progress (bufsiz : Nat) (hb : 2 ≤ bufsiz) (s : List Byte) (hs : s ≠ []) :
    (mntLine bufsiz s).2.length < s.length := by
  have hp := fgets_progress bufsiz hb s hs
  unfold mntLine
  simp only []
  split
  · exact hp
  · have := discardLine_le ((fgets bufsiz s).2.length + 1) (fgets bufsiz s).2
    simp only []; omega

theorem nextEnt_rest (bufsiz : Nat) (hb : 2 ≤ bufsiz) : ∀ (fuel : Nat) (s : List Byte) (e : MntEnt) (r : List Byte),
    nextEnt bufsiz fuel s = some (e, r) → r.length < s.length
  | 0, _, _, _, h => by cases h
  | fuel+1, s, e, r, h => by
    rw [nextEnt] at h
    split at h
    · cases h
    · rename_i hs
      have hp := mntLine_progress bufsiz hb s hs
      simp only [] at h
      split at h
      · have := nextEnt_rest bufsiz hb fuel _ e r h; omega
      · split at h
        · have := nextEnt_rest bufsiz hb fuel _ e r h; omega
        · injection h with h; injection h with _ h; rw [← h]; exact hp

theorem nextEnt_fuel (bufsiz : Nat) (hb : 2 ≤ bufsiz) : ∀ (f1 f2 : Nat) (s : List Byte), s.length < f1 → s.length < f2 →
    nextEnt bufsiz f1 s = nextEnt bufsiz f2 s := by
  apply fuel_indep
  intro f f' s ih
  rw [nextEnt, nextEnt]
  by_cases hs : s = []
  · simp [hs]
  · rw [if_neg hs, if_neg hs]
    have ih := ih _ (mntLine_progress bufsiz hb s hs)
    simp only []
    split
    · exact ih
    · split
      · exact ih
      · rfl

theorem mntLoop_fuel (fs : FS) (bufsiz : Nat) (hb : 2 ≤ bufsiz) : ∀ (f1 f2 : Nat) (s : List Byte), s.length < f1 → s.length < f2 →
    mntLoop fs bufsiz f1 s = mntLoop fs bufsiz f2 s := by
  apply fuel_indep
  intro f f' s ih
  rw [mntLoop, mntLoop]
  cases hn : nextEnt bufsiz (s.length + 1) s with
  | none => rfl
  | some er =>
    obtain ⟨e, rest⟩ := er
    simp only []
    cases entMatch fs e with
    | some r => rfl
    | none => exact ih rest (nextEnt_rest bufsiz hb _ s e rest hn)

/-! ### hwloc_admin_disable_set_from_cgroup, hwloc_linux__get_allowed_resources -/

theorem getAllowed_untouched (acc : List Byte → Bool) (fs : FS) (bufsiz : Nat) (cpus mems : Bitmap)
    (h : findMntpnt acc fs bufsiz (fs (str "/proc/mounts")) = none ∨
         cgroupName (fs (str "/proc/self/cpuset")) (fs (str "/proc/self/cgroup")) = none) :
    getAllowed acc fs bufsiz cpus mems = { name := none, cpus := some cpus, mems := some mems } := by
  unfold getAllowed
  rcases h with h | h
  · rw [h]
  · cases findMntpnt acc fs bufsiz (fs (str "/proc/mounts")) with
    | none => rfl
    | some tm => obtain ⟨t, m⟩ := tm; simp only []; rw [h]

theorem getAllowed_found (acc : List Byte → Bool) (fs : FS) (bufsiz : Nat) (cpus mems : Bitmap)
    (t : CgType) (mnt name : List Byte)
    (hm : findMntpnt acc fs bufsiz (fs (str "/proc/mounts")) = some (t, mnt))
    (hn : cgroupName (fs (str "/proc/self/cpuset")) (fs (str "/proc/self/cgroup")) = some name) :
    getAllowed acc fs bufsiz cpus mems =
      { name := some name, cpus := adminDisable fs t mnt name (str "cpus") cpus,
        mems := adminDisable fs t mnt name (str "mems") mems } := by
  unfold getAllowed
  rw [hm]; simp only []; rw [hn]

end Hw.LinuxCgroup
