/-
  Hw.Io.SyntheticWFIds — the objects of `toDump t` by id: the first object of a memory slot (`lookup_first`, `mem_kind`), an
  id determines (depth, object) since the object found at it carries both (`nid_inj`), and the object list increases in the
  id (`objs_pairwise`), so the os_indexes of one type are distinct as soon as they determine the object (`osidx_nodup`).
-/
import Hw.Io.SyntheticWF

/-! ### the first object of a memory slot -/

namespace Hw.Syn
open Hw Hw.Topo

theorem lookup_first (t : Topo) (d k s : Nat) (hd : d ≤ (mkTab t).D) (hk : k < nOf (mkTab t) d) (hs : s < memLen (mkTab t) d) :
    (toDump t).obj? (memId (mkTab t) d k s : Int) = some (firstObj (envOf t) d k s) := by
  unfold firstObj
  split
  · rename_i hm; exact lookup_mc t d k s hd hk hs hm
  · rename_i hm
    have := lookup_numa t d k s hd hk hs
    have hid : numaId (mkTab t) d k s = memId (mkTab t) d k s := by
      have := (numaObj_nomc (envOf t) d k s hm).1
      exact this
    rw [hid] at this; exact this

theorem mem_kind (t : Topo) (o : Obj) (ho : o ∈ (toDump t).objs) :
    (∃ d k, d ≤ (mkTab t).D ∧ k < nOf (mkTab t) d ∧ o = normalObj (envOf t) d k) ∨
    (∃ d k s, d ≤ (mkTab t).D ∧ k < nOf (mkTab t) d ∧ s < memLen (mkTab t) d ∧ o = firstObj (envOf t) d k s) ∨
    (∃ d k s, d ≤ (mkTab t).D ∧ k < nOf (mkTab t) d ∧ s < memLen (mkTab t) d ∧ (slotM (envOf t) d s).msc ≠ 0 ∧ o = numaObj (envOf t) d k s) := by
  cases objs_kind t o ho with
  | normal d k hd hk e => exact .inl ⟨d, k, hd, hk, e⟩
  | numa d k s hd hk hs e =>
    by_cases hm : (slotM (envOf t) d s).msc ≠ 0
    · exact .inr (.inr ⟨d, k, s, hd, hk, hs, hm, e⟩)
    · exact .inr (.inl ⟨d, k, s, hd, hk, hs, by unfold firstObj; rw [if_neg hm]; exact e⟩)
  | mc d k s hd hk hs hm e => exact .inr (.inl ⟨d, k, s, hd, hk, hs, by unfold firstObj; rw [if_pos hm]; exact e⟩)

/-! ### ids -/

theorem objs_pairwise (t : Topo) : (toDump t).objs.Pairwise (fun a b => a.id < b.id) := by
  have h := toDump_ids t
  have : ((toDump t).objs.map (·.id)).Pairwise (· < ·) := by rw [h]; exact List.pairwise_lt_range
  exact List.pairwise_map.1 this

theorem osidx_nodup (t : Topo) (ty : Nat)
    (hinj : ∀ a ∈ (toDump t).objs, ∀ b ∈ (toDump t).objs, a.type = ty → b.type = ty → a.osidx = b.osidx → a = b) :
    (((toDump t).objs.filter (fun o => o.type == ty)).map (·.osidx)).Nodup := by
  have hnd : ((toDump t).objs.filter (fun o => o.type == ty)).Nodup :=
    ((objs_pairwise t).filter _).imp (fun {a b} hab heq => by rw [heq] at hab; exact Nat.lt_irrefl _ hab)
  unfold List.Nodup
  rw [List.pairwise_map]
  refine List.Pairwise.imp_of_mem ?_ hnd
  intro a b ha hb hne heq
  rw [List.mem_filter, beq_iff_eq] at ha hb
  exact hne (hinj a ha.1 b hb.1 ha.2 hb.2 heq)

theorem nid_inj (t : Topo) (d k d' k' : Nat) (hd : d ≤ (mkTab t).D) (hk : k < nOf (mkTab t) d) (hd' : d' ≤ (mkTab t).D)
    (hk' : k' < nOf (mkTab t) d') (he : nid (mkTab t) d k = nid (mkTab t) d' k') : d = d' ∧ k = k' := by
  have h1 := lookup_normal t d k hd hk
  have h2 := lookup_normal t d' k' hd' hk'
  rw [he, h2] at h1
  have h3 := Option.some.inj h1
  have e1 : (normalObj (envOf t) d' k').depth = (normalObj (envOf t) d k).depth := by rw [h3]
  have e2 : (normalObj (envOf t) d' k').lidx = (normalObj (envOf t) d k).lidx := by rw [h3]
  simp only [normalObj_depth] at e1
  have e2' : k' = k := e2
  omega

theorem firstObj_mem (t : Topo) (d k s : Nat) (hd : d ≤ (mkTab t).D) (hk : k < nOf (mkTab t) d) (hs : s < memLen (mkTab t) d) :
    firstObj (envOf t) d k s ∈ (toDump t).objs := by
  unfold firstObj
  split
  · rename_i hm; exact mcObj_mem t d k s hd hk hs hm
  · exact numaObj_mem t d k s hd hk hs

end Hw.Syn
