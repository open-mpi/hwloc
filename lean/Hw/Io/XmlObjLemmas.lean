/-
  Hw.Io.XmlObjLemmas — the object-level round trip: importing the attribute list that the exporter writes for a valid object
  returns the object (`importAttrs_exportAttrs`), value by value (numbers, sets, type strings, the PCI / bridge sscanf formats),
  and the exported list satisfies the hypotheses of the attribute scanner theorem (names over [a-z_], NUL-free values).
-/
import Hw.Io.XmlObj
import Hw.Io.XmlLemmas
import Hw.Io.CalcLemmas
import Hw.Bitmap.RoundTripHwloc
import Hw.Props.C11
import Hw.Io.XmlOk
namespace Hw.XmlObj
open Hw Hw.Topo

theorem b_inj {s t : String} : b s = b t ↔ s = t := str_inj

theorem strtoulV_decDigits (n : Nat) (h : n < 2 ^ 64) : strtoulV (decDigits n) = some n := by
  unfold strtoulV
  have := Hw.strtoul10_decDigits n [] h noDigitHead_nil
  rw [List.append_nil] at this
  rw [this]

theorem setScan_setText (m : Nat) : setScan (setText m) = .ok m := by
  unfold setScan setText
  rw [Bitmap.hwloc_scan_fin (Calc.ofMask m) (Calc.ofMask_inf m)]
  simp only [Bool.false_eq_true, if_false, mapM_id_map_some]
  refine congrArg SetScan.ok (Nat.eq_of_testBit_eq fun i => ?_)
  rw [Calc.maskOf_testBit_fin rfl]
  have := Bitmap.build_mem_eq (Calc.ofMask m) (max (Calc.ofMask m).topWords 1) (by omega) i
  rw [Calc.ofMask_inf] at this
  rw [this, Calc.mem_ofMask]

theorem typeScan_typeString (t : Nat) (h : t < 20) : typeScan (TypeStr.typeString t) = some t := by
  obtain ⟨p, hp, e⟩ := Hw.Props.C11.C11_type_string_roundtrip t h
  unfold typeScan
  rw [hp]
  simp [e]

/-- hwloc_type_sscanf stops at the colon: for each of the 20 type names, whatever follows (kernel evaluation of the C11 model with a
    symbolic rest: it never looks past the colon) -/
theorem typeScan_typeString_colon : ∀ t, t < 20 → ∀ rest : Bytes, typeScan (TypeStr.typeString t ++ 58 :: rest) = some t := by
  intro t ht rest
  match t, ht with
  | 0, _ => rfl | 1, _ => rfl | 2, _ => rfl | 3, _ => rfl | 4, _ => rfl | 5, _ => rfl | 6, _ => rfl | 7, _ => rfl | 8, _ => rfl
  | 9, _ => rfl | 10, _ => rfl | 11, _ => rfl | 12, _ => rfl | 13, _ => rfl | 14, _ => rfl | 15, _ => rfl | 16, _ => rfl
  | 17, _ => rfl | 18, _ => rfl | 19, _ => rfl
  | n + 20, h => exact absurd h (by omega)

theorem scanHex_none (k n : Nat) (rest : Bytes) (h : NoDigitHead rest) : scanHex none (hexPad k n ++ rest) = some (n, rest) := by
  unfold scanHex
  simp only [takeDigits_hexPad k n rest h]
  have : (hexPad k n).length ≠ 0 := by
    have := hexPad_ne_nil k n
    intro e; exact this (List.eq_nil_of_length_eq_zero e)
  rw [if_neg this]
  simp

theorem scanHex_some (k n : Nat) (rest : Bytes) (hk : 1 ≤ k) (hn : n < 16 ^ k) : scanHex (some k) (hexPad k n ++ rest) = some (n, rest) := by
  unfold scanHex
  have hl := hexPad_length k n hk hn
  have hpre : (hexPad k n ++ rest).take k = hexPad k n := by
    rw [List.take_append_of_le_length (by omega), List.take_of_length_le (by omega)]
  simp only [hpre]
  have := takeDigits_hexPad k n [] noDigitHead_nil
  rw [List.append_nil] at this
  rw [this]
  simp only [hl]
  rw [if_neg (by omega)]
  congr 2
  exact List.drop_left' hl

theorem scanDec_decDigits (n : Nat) (rest : Bytes) (h : NoDigitHead rest) : scanDec (decDigits n ++ rest) = some (n, rest) := by
  unfold scanDec
  simp only [takeDigits_decDigits n rest h]
  rw [if_neg fun h0 => decDigits_ne_nil n (List.eq_nil_of_length_eq_zero h0)]

theorem expect_cons (c : Nat) (s : Bytes) : expect c (c :: s) = some s := if_pos rfl

theorem scanBusid_ok (d bu dv f : Nat) (hb : bu < 256) (hd : dv < 256) (hf : f < 16) :
    scanBusid (hexPad 4 d ++ [58] ++ hexPad 2 bu ++ [58] ++ hexPad 2 dv ++ [46] ++ hexPad 1 f) = some (d, bu, dv, f) := by
  have hl := scanHex_some 1 f [] (by decide) hf
  rw [List.append_nil] at hl
  simp only [scanBusid, List.append_assoc, List.cons_append, List.nil_append, scanHex_none 4 d _ (noDigitHead_cons 58 _ (by decide)),
    scanHex_some 2 bu _ (by decide) hb, scanHex_some 2 dv _ (by decide) hd, hl, expect_cons, Option.bind_eq_bind,
    Option.bind_some, Option.pure_def]

theorem skipWs_nonspace (c : Nat) (s : Bytes) (h : isSpace c = false) : skipWs (c :: s) = c :: s := by
  simp [skipWs, List.dropWhile, h]
theorem skipWs_space (s : Bytes) : skipWs (32 :: s) = skipWs s := by
  simp [skipWs, List.dropWhile, isSpace]

theorem hexPad_head_nonspace (k n : Nat) (rest : Bytes) : skipWs (hexPad k n ++ rest) = hexPad k n ++ rest := by
  cases h : hexPad k n with
  | nil => exact absurd h (hexPad_ne_nil k n)
  | cons c cs =>
    have hc : IsHexChar c := hexPad_chars k n c (by rw [h]; simp)
    exact skipWs_nonspace c _ (isSpace_hex c hc)

theorem scanPciType_ok (c v d sv sd r p : Nat) (hv : v < 65536) (hd : d < 65536) (hsv : sv < 65536) (hsd : sd < 65536)
    (hr : r < 256) (hp : p < 256) :
    scanPciType (hexPad 4 c ++ b " [" ++ hexPad 4 v ++ [58] ++ hexPad 4 d ++ b "] [" ++ hexPad 4 sv ++ [58] ++ hexPad 4 sd ++ b "] " ++
      hexPad 2 r ++ [32] ++ hexPad 2 p) = some (c, v, d, sv, sd, r, p) := by
  have lits : b " [" = [32, 91] ∧ b "] [" = [93, 32, 91] ∧ b "] " = [93, 32] := by decide +kernel
  have hl := scanHex_some 2 p [] (by decide) hp
  have hs := hexPad_head_nonspace 2 p []
  rw [List.append_nil] at hl hs
  simp only [scanPciType, lits, List.append_assoc, List.cons_append, List.nil_append, scanHex_none 4 c _ (noDigitHead_cons 32 _ (by decide)),
    scanHex_some 4 v _ (by decide) hv, scanHex_some 4 d _ (by decide) hd, scanHex_some 4 sv _ (by decide) hsv,
    scanHex_some 4 sd _ (by decide) hsd, scanHex_some 2 r _ (by decide) hr, hs, hl, skipWs_space,
    skipWs_nonspace 91 _ (by decide), hexPad_head_nonspace, expect_cons, Option.bind_eq_bind, Option.bind_some, Option.pure_def]

theorem scanBridgePci_ok (d s1 s2 : Nat) (h1 : s1 < 256) (h2 : s2 < 256) :
    scanBridgePci (hexPad 4 d ++ b ":[" ++ hexPad 2 s1 ++ [45] ++ hexPad 2 s2 ++ [93]) = some (d, s1, s2) := by
  have lit : b ":[" = [58, 91] := by decide +kernel
  simp only [scanBridgePci, lit, List.append_assoc, List.cons_append, List.nil_append, scanHex_none 4 d _ (noDigitHead_cons 58 _ (by decide)),
    scanHex_some 2 s1 _ (by decide) h1, scanHex_some 2 s2 _ (by decide) h2, expect_cons, Option.bind_eq_bind,
    Option.bind_some, Option.pure_def]

theorem scanBridgeType_ok (u d : Nat) : scanBridgeType (decDigits u ++ [45] ++ decDigits d) = some (u, d) := by
  have hl := scanDec_decDigits d [] noDigitHead_nil
  rw [List.append_nil] at hl
  simp only [scanBridgeType, List.append_assoc, List.cons_append, List.nil_append, scanDec_decDigits u _ (noDigitHead_cons 45 _ (by decide)), hl,
    expect_cons, Option.bind_eq_bind, Option.bind_some, Option.pure_def]

@[xml_run] theorem attrKind_names :
    attrKind (b "os_index") = .osIndex ∧ attrKind (b "gp_index") = .gpIndex ∧ attrKind (b "id") = .id ∧
    attrKind (b "cpuset") = .cpuset ∧ attrKind (b "complete_cpuset") = .ccpuset ∧
    attrKind (b "allowed_cpuset") = .allowedCpuset ∧ attrKind (b "nodeset") = .nodeset ∧
    attrKind (b "complete_nodeset") = .cnodeset ∧ attrKind (b "allowed_nodeset") = .allowedNodeset ∧
    attrKind (b "name") = .name ∧ attrKind (b "subtype") = .subtype ∧ attrKind (b "cache_size") = .cacheSize ∧
    attrKind (b "cache_linesize") = .cacheLinesize ∧ attrKind (b "cache_associativity") = .cacheAssoc ∧
    attrKind (b "cache_type") = .cacheType ∧ attrKind (b "local_memory") = .localMemory ∧ attrKind (b "depth") = .depth ∧
    attrKind (b "kind") = .kind ∧ attrKind (b "subkind") = .subkind ∧ attrKind (b "dont_merge") = .dontMerge ∧
    attrKind (b "pci_busid") = .pciBusid ∧ attrKind (b "pci_type") = .pciType ∧
    attrKind (b "pci_link_speed") = .pciLinkSpeed ∧ attrKind (b "bridge_type") = .bridgeType ∧
    attrKind (b "bridge_pci") = .bridgePci ∧ attrKind (b "osdev_type") = .osdevType ∧ attrKind (b "type") = .other := by
  -- `String.toList` on the literals is most of the kernel's work here: the chain's are decoded once, on the equation of `attrKind`
  have h := attrKind.eq_1
  simp -index only [b, str_ofList] at h ⊢
  simp (singlePass := true) only [h]  -- `singlePass`: the 27 unfolded chains are left to the kernel
  decide +kernel

theorem importLoop_bad (root : Bool) (st : ISt) (l : List (Bytes × Bytes)) (h : st.bad.isSome = true) : importLoop root st l = st := by
  cases l with
  | nil => rfl
  | cons a l => rw [importLoop, if_pos h]

theorem importLoop_append (root : Bool) : ∀ (l1 : List (Bytes × Bytes)) (st : ISt) (l2 : List (Bytes × Bytes)),
    importLoop root st (l1 ++ l2) = importLoop root (importLoop root st l1) l2
  | [], st, l2 => rfl
  | (n, v) :: l1, st, l2 => by
    simp only [List.cons_append, importLoop]
    split
    · rename_i h; rw [importLoop_bad root st l2 h]
    · split
      · split
        · rw [importLoop_bad]; rfl
        · split
          · exact importLoop_append root l1 _ l2
          · rw [importLoop_bad]; rfl
      · exact importLoop_append root l1 _ l2

@[xml_run] theorem importLoop_nil (root : Bool) (st : ISt) : importLoop root st [] = st := rfl

/-- covers the names the importer ignores (`attrKind n = .other`) as well -/
theorem importLoop_cons (root : Bool) (st : ISt) (n v : Bytes) (rest : List (Bytes × Bytes)) (h : st.bad = none)
    (hn : (n = b "type") = False) : importLoop root st ((n, v) :: rest) = importLoop root (importAttr root st n v) rest := by
  rw [importLoop, h, if_neg (of_eq_false hn)]
  rfl

/-- a name that the `strcmp` chain knows is not `type` -/
@[xml_run] theorem importLoop_attr (root : Bool) (st : ISt) (n v : Bytes) (rest : List (Bytes × Bytes)) (h : st.bad = none)
    (hk : attrKind n ≠ .other) : importLoop root st ((n, v) :: rest) = importLoop root (importAttr root st n v) rest :=
  importLoop_cons root st n v rest h
    (eq_false fun e => hk (e ▸ attrKind_names.2.2.2.2.2.2.2.2.2.2.2.2.2.2.2.2.2.2.2.2.2.2.2.2.2.2))

@[xml_run] theorem withNum_dec (st : ISt) (n : Nat) (h : n < 2 ^ 64) (k : Nat → ISt) : withNum st (decDigits n) k = k n := by
  unfold withNum; rw [strtoulV_decDigits n h]
@[xml_run] theorem withSet_text (st : ISt) (m : Nat) (k : Nat → ISt) : withSet st (setText m) k = k m := by
  unfold withSet; rw [setScan_setText]

@[simp, xml_run] theorem setAttr_type (f : ObjFields) (i : Nat) (v : Int) : (setAttr f i v).type = f.type := rfl
@[simp, xml_run] theorem updPci_type (f : ObjFields) (g : PciFields → PciFields) : (updPci f g).type = f.type := rfl

-- `importAttr.eq_1` and not `importAttr`: unfolding by name makes `simp` evaluate `attrKind` on the name to choose the branch
attribute [xml_run] importAttr.eq_1 Xml.atoi_printInt scanBusid_ok scanPciType_ok scanBridgePci_ok scanBridgeType_ok
  List.cons_append List.nil_append ne_eq not_false_eq_true if_true if_false

theorem seg_type (root : Bool) (f : ObjFields) (i : Bool) (aC aN : Option Nat) (t : Nat) (ht : t < 20) :
    importLoop root ⟨f, false, i, aC, aN, none⟩ [(b "type", TypeStr.typeString t)] = ⟨{ f with type := t }, true, i, aC, aN, none⟩ := by
  simp only [importLoop, Option.isSome_none, Bool.false_eq_true, if_false, if_true, typeScan_typeString t ht]

theorem seg_os (root : Bool) (f : ObjFields) (g i : Bool) (aC aN : Option Nat) (os : Option Nat) (h0 : f.osidx = none)
    (hv : ∀ x, os = some x → x < 2 ^ 32 - 1) :
    importLoop root ⟨f, g, i, aC, aN, none⟩ (osSeg os) = ⟨{ f with osidx := os }, g, i, aC, aN, none⟩ := by
  cases os with
  | none => obtain ⟨_, _, _, _, _, _, _, _, _, _, _, _⟩ := f; cases h0; rfl
  | some x =>
    have hx := hv x rfl
    simp only [osSeg, xml_run, reduceCtorEq, show x < 2 ^ 64 by omega, Nat.mod_eq_of_lt (show x < 2 ^ 32 by omega)]
    rw [if_neg (by omega)]

theorem seg_gp (root : Bool) (f : ObjFields) (g i : Bool) (aC aN : Option Nat) (gp : Nat) (hg : gp < 2 ^ 64) :
    importLoop root ⟨f, g, i, aC, aN, none⟩ [(b "gp_index", decDigits gp), (b "id", b "obj" ++ decDigits gp)] =
      ⟨{ f with gp := gp }, g, i, aC, aN, none⟩ := by
  have e : b "obj" = [111, 98, 106] := by decide +kernel
  simp only [xml_run, reduceCtorEq, hg, e, List.isPrefixOf, beq_self_eq_true, Bool.and_self, List.drop_succ_cons, List.drop_zero]

theorem seg_str (root : Bool) (f : ObjFields) (g i : Bool) (aC aN : Option Nat) (v : Option Bytes) :
    (f.name = none → importLoop root ⟨f, g, i, aC, aN, none⟩ (strAttr "name" v) =
      ⟨{ f with name := v.map Xml.sanitize }, g, i, aC, aN, none⟩) ∧
    (f.subtype = none → importLoop root ⟨f, g, i, aC, aN, none⟩ (strAttr "subtype" v) =
      ⟨{ f with subtype := v.map Xml.sanitize }, g, i, aC, aN, none⟩) := by
  cases v with
  | none => obtain ⟨_, _, _, _, _, _, _, _, _, _, _, _⟩ := f; exact ⟨fun h0 => by cases h0; rfl, fun h0 => by cases h0; rfl⟩
  | some s => simp only [strAttr, xml_run, reduceCtorEq, Option.map_some, implies_true, and_self]

theorem seg_sets (root : Bool) (f : ObjFields) (g i : Bool) (o : ObjFields)
    (h0 : f.cpuset = none ∧ f.ccpuset = none ∧ f.nodeset = none ∧ f.cnodeset = none)
    (hs : o.cpuset.isSome = o.ccpuset.isSome ∧ o.cpuset.isSome = o.nodeset.isSome ∧ o.cpuset.isSome = o.cnodeset.isSome)
    (hr : root = true → o.cpuset.isSome = true) :
    importLoop root ⟨f, g, i, none, none, none⟩ (setsSeg root o) =
      ⟨{ f with cpuset := o.cpuset, ccpuset := o.ccpuset, nodeset := o.nodeset, cnodeset := o.cnodeset }, g, i,
       if root then some (o.allowed.getD (0, 0)).1 else none, if root then some (o.allowed.getD (0, 0)).2 else none, none⟩ := by
  unfold setsSeg
  cases hc : o.cpuset with
  | none =>
    -- no set at all, hence not the root: nothing is written and `f` comes back as it is
    simp only [hc, Option.isSome_none, Bool.false_eq, Option.isSome_eq_false_iff, Option.isNone_iff_eq_none,
      Bool.true_eq_false, imp_false, Bool.not_eq_true] at hs hr
    obtain ⟨_, _, _, _, _, _, _, _, _, _, _, _⟩ := f
    obtain ⟨rfl, rfl, rfl, rfl⟩ := h0
    rw [hr, hs.1, hs.2.1, hs.2.2]
    rfl
  | some c =>
    simp only [hc, Option.isSome_some, Bool.true_eq, Option.isSome_iff_exists] at hs
    obtain ⟨⟨cc, hcc⟩, ⟨n, hn⟩, ⟨cn, hcn⟩⟩ := hs
    rw [hcc, hn, hcn]
    cases root <;> simp only [xml_run, reduceCtorEq, Option.getD_some, Bool.false_eq_true]
theorem six {α : Type} (l : List α) (h : l.length = 6) : ∃ a0 a1 a2 a3 a4 a5, l = [a0, a1, a2, a3, a4, a5] := by
  match l, h with
  | [a0, a1, a2, a3, a4, a5], _ => exact ⟨a0, a1, a2, a3, a4, a5, rfl⟩

theorem attrs_six (f : ObjFields) (h : f.attrs.length = 6) : f.attrs = [f.a 0, f.a 1, f.a 2, f.a 3, f.a 4, f.a 5] := by
  obtain ⟨_, _, _, _, _, _, e⟩ := six f.attrs h
  unfold ObjFields.a; rw [e]; rfl

theorem natCast_emod {n m : Nat} (h : n < m) : (n : Int) % (m : Int) = n :=
  Int.emod_eq_of_lt (Int.natCast_nonneg n) (Int.ofNat_lt.mpr h)

theorem seg_pci (root : Bool) (f : ObjFields) (g i : Bool) (aC aN : Option Nat) (p : PciFields) (hp : pciValid p = true)
    (ht : f.type = tPCI ∨ f.type = tBRIDGE) :
    importLoop root ⟨f, g, i, aC, aN, none⟩ (pciAttrs p) =
      ⟨{ f with pci := some p, attrs := if f.type = tPCI then
          (((((f.attrs.set 0 p.domain).set 1 p.bus).set 2 p.dev).set 3 p.func).set 4 p.classId).set 5 ((p.vendor : Int) * 65536 + p.device)
          else f.attrs }, g, i, aC, aN, none⟩ := by
  obtain ⟨ty, _, _, _, _, _, _, _, _, _, _, _⟩ := f
  simp only [pciValid, Bool.and_eq_true, decide_eq_true_eq] at hp ht
  obtain ⟨⟨⟨⟨⟨⟨⟨⟨⟨⟨⟨pd, pb⟩, pdv⟩, pf⟩, pc⟩, pv⟩, pde⟩, psv⟩, psd⟩, pr⟩, ppi⟩, -⟩ := hp
  have pf' : p.func < 256 := by omega
  -- within the C field widths the truncations do nothing
  have hm : ((p.domain : Int) % 2 ^ 32 = p.domain ∧ (p.bus : Int) % 256 = p.bus ∧ (p.dev : Int) % 256 = p.dev ∧
      (p.func : Int) % 256 = p.func ∧ (p.classId : Int) % 65536 = p.classId ∧ (p.vendor : Int) % 65536 = p.vendor ∧
      (p.device : Int) % 65536 = p.device) ∧
      p.domain % 2 ^ 32 = p.domain ∧ p.bus % 256 = p.bus ∧ p.dev % 256 = p.dev ∧ p.func % 256 = p.func ∧
      p.classId % 65536 = p.classId ∧ p.vendor % 65536 = p.vendor ∧ p.device % 65536 = p.device ∧
      p.subvendor % 65536 = p.subvendor ∧ p.subdevice % 65536 = p.subdevice ∧ p.revision % 256 = p.revision ∧
      p.progIf % 256 = p.progIf :=
    ⟨⟨natCast_emod pd, natCast_emod pb, natCast_emod pdv, natCast_emod pf', natCast_emod pc, natCast_emod pv, natCast_emod pde⟩,
      Nat.mod_eq_of_lt pd, Nat.mod_eq_of_lt pb, Nat.mod_eq_of_lt pdv, Nat.mod_eq_of_lt pf', Nat.mod_eq_of_lt pc, Nat.mod_eq_of_lt pv,
      Nat.mod_eq_of_lt pde, Nat.mod_eq_of_lt psv, Nat.mod_eq_of_lt psd, Nat.mod_eq_of_lt pr, Nat.mod_eq_of_lt ppi⟩
  rcases ht with ht | ht
  · simp only [pciAttrs, xml_run, reduceCtorEq, pb, pdv, pf, pv, pde, psv, psd, pr, ppi, hm, eq_true ht, true_or]
    rfl
  · have hn : (ty = tPCI) = False := by rw [ht]; decide
    simp only [pciAttrs, xml_run, reduceCtorEq, pb, pdv, pf, pv, pde, psv, psd, pr, ppi, hm, eq_true ht, hn, or_true, setAttr, updPci, Option.getD_some]
theorem n_cast (o : ObjFields) (i : Nat) (h : 0 ≤ o.a i) : ((o.n i : Nat) : Int) = o.a i := Int.toNat_of_nonneg h

theorem a_emod (o : ObjFields) (i : Nat) {m : Nat} (h : 0 ≤ o.a i) (hb : o.n i < m) : o.a i % (m : Int) = o.a i := by
  rw [← n_cast o i h]; exact natCast_emod hb

theorem lt64 {n : Nat} (h : n < 2 ^ 32) : n < 2 ^ 64 := Nat.lt_trans h (by decide)

/-- a slot of C type `unsigned` (2^32), written in decimal and read back by strtoul (2^64): the cast and the truncation do nothing -/
theorem slot32 (o : ObjFields) (i : Nat) (h : 0 ≤ o.a i) (hb : o.n i < 2 ^ 32) :
    o.n i < 2 ^ 64 ∧ ((o.n i : Nat) : Int) = o.a i ∧ o.a i % 2 ^ 32 = o.a i :=
  ⟨lt64 hb, n_cast o i h, a_emod o i h hb⟩

theorem printInt_nonneg {a : Int} (h : 0 ≤ a) : Xml.printInt a = decDigits a.toNat := by
  unfold Xml.printInt; rw [if_neg (by omega)]

theorem seg_typeAttrs (root : Bool) (f : ObjFields) (g i : Bool) (aC aN : Option Nat) (o : ObjFields) (ht : f.type = o.type)
    (ha : f.attrs = [0, 0, 0, 0, 0, 0]) (hp : f.pci = none) (hv : attrsValid o = true) :
    importLoop root ⟨f, g, i, aC, aN, none⟩ (typeAttrs o) =
      ⟨{ f with attrs := (normalise o).attrs, pci := o.pci }, g, i, aC, aN, none⟩ := by
  obtain ⟨_, osidx, gp, cpuset, ccpuset, nodeset, cnodeset, allowed, name, subtype, _, _⟩ := f
  cases ht; cases ha; cases hp
  simp only [attrsValid, Bool.and_eq_true, Bool.or_eq_true, beq_iff_eq, decide_eq_true_eq, Option.isNone_iff_eq_none,
    Bool.ite_eq_true_distrib] at hv
  obtain ⟨hlen, hv⟩ := hv
  simp only [normalise, typeAttrs]
  rw [attrs_six o hlen]
  -- `typeAttrs` and `attrsValid` have the same ladder, taken apart together, one level per case; the one on the right is `normalise`'s
  by_cases hN : o.type = tNUMA
  · have hG : ¬ o.type = tGROUP := by rw [hN]; decide
    have hB : ¬ o.type = tBRIDGE := by rw [hN]; decide
    rw [if_pos hN] at hv ⊢
    obtain ⟨⟨⟨⟨⟨⟨⟨h0, hb0⟩, h1⟩, h2⟩, h3⟩, h4⟩, h5⟩, hpci⟩ := hv
    by_cases hz : o.n 0 = 0
    · have h00 : o.a 0 = 0 := by unfold ObjFields.n at hz; omega
      simp only [hG, hB, hz, h00, h1, h2, h3, h4, h5, hpci, ne_eq, not_true_eq_false, if_false, importLoop_nil]
    · simp only [eq_true hN, hG, hB, hz, h1, h2, h3, h4, h5, hpci, ne_eq, if_true, if_false, xml_run, reduceCtorEq, hb0, setAttr,
        List.set_cons_zero, n_cast o 0 h0]
  rw [if_neg hN] at hv ⊢
  by_cases hC : isCacheLike o.type = true
  · have hG : ¬ o.type = tGROUP := by intro e; rw [e] at hC; revert hC; decide
    have hB : ¬ o.type = tBRIDGE := by intro e; rw [e] at hC; revert hC; decide
    rw [if_pos hC] at hv ⊢
    obtain ⟨⟨⟨⟨⟨⟨⟨⟨⟨⟨h0, hb0⟩, h1⟩, hb1⟩, h2⟩, hb2⟩, -⟩, -⟩, h4⟩, h5⟩, hpci⟩ := hv
    have h4n : 0 ≤ o.a 4 := by omega
    simp only [hC, hG, hB, h5, hpci, if_true, if_false, xml_run, reduceCtorEq, printInt_nonneg h4n, hb0, n_cast o 0 h0,
      slot32 o 1 h1 hb1, slot32 o 2 h2 hb2, (show (o.a 4).toNat < 2 ^ 64 by omega),
      (show (o.a 4).toNat = 0 ∨ (o.a 4).toNat = 1 ∨ (o.a 4).toNat = 2 by omega), and_self, Int.toNat_of_nonneg h4n,
      setAttr, List.set_cons_zero, List.set_cons_succ]
  rw [if_neg hC] at hv ⊢
  by_cases hG : o.type = tGROUP
  · rw [if_pos hG] at hv ⊢
    obtain ⟨⟨⟨⟨⟨⟨⟨⟨-, h1⟩, hb1⟩, h2⟩, hb2⟩, h3⟩, h4⟩, h5⟩, hpci⟩ := hv
    have e1 : b "1" = decDigits 1 := by decide +kernel
    rcases h3 with h3 | h3 <;>
      simp only [eq_true hG, h3, h4, h5, hpci, e1, if_true, if_false, xml_run, reduceCtorEq, slot32 o 1 h1 hb1, slot32 o 2 h2 hb2,
        (by decide : 1 < 2 ^ 64), setAttr, List.set_cons_zero, List.set_cons_succ,
        not_true_eq_false, (show ((1 : Int) = 0) = False by decide), (show ((1 : Nat) : Int) % 256 = 1 by decide)]
  rw [if_neg hG] at hv ⊢
  by_cases hB : o.type = tBRIDGE
  · rw [if_pos hB] at hv ⊢
    obtain ⟨⟨⟨⟨⟨⟨⟨⟨⟨⟨h0, h1⟩, -⟩, hb2⟩, h3⟩, hb3⟩, h4⟩, hb4⟩, h5⟩, hb5⟩, hpc⟩ := hv
    have h00 : 0 ≤ o.a 0 := by omega
    have m0 : o.a 0 % 2 ^ 32 = o.a 0 := Int.emod_eq_of_lt h00 (by omega)
    have m4 : o.a 4 % 256 = o.a 4 := a_emod o 4 h4 hb4
    have m5 : o.a 5 % 256 = o.a 5 := a_emod o 5 h5 hb5
    have hP : ¬ o.type = tPCI := by rw [hB]; decide
    -- the bridge part first, then the pcidev part on the state it leaves
    rw [importLoop_append]
    simp only [hC, hG, eq_true hB, Bool.false_eq_true, h1, if_true, if_false, xml_run, reduceCtorEq, printInt_nonneg h00,
      (show Xml.printInt 1 = decDigits 1 by decide +kernel), lt64 hb2, hb4, hb5,
      m0, slot32 o 3 h3 hb3, m4, m5, (show ((1 : Nat) : Int) % 2 ^ 32 = 1 by decide), setAttr, List.set_cons_zero, List.set_cons_succ,
      Int.toNat_of_nonneg h00, n_cast o 4 h4, n_cast o 5 h5]
    rcases h0 with h0 | h0
    · simp only [h0, show ((0 : Int) = 1) = False by decide, if_false] at hpc ⊢
      rw [hpc]; rfl
    · simp only [h0, if_true] at hpc ⊢
      cases hpci : o.pci with
      | none => rw [hpci] at hpc; cases hpc
      | some p =>
        rw [hpci] at hpc
        rw [Option.getD_some, seg_pci _ _ _ _ _ _ p hpc (by exact Or.inr hB), if_neg hP]
  rw [if_neg hB] at hv ⊢
  rw [if_neg hG, if_neg hB]
  by_cases hP : o.type = tPCI
  · -- PCI device: the attribute union repeats the `pcidev` fields
    rw [if_pos hP] at hv ⊢
    cases hpci : o.pci with
    | none => rw [hpci] at hv; cases hv
    | some p =>
      rw [hpci] at hv
      simp only [Bool.and_eq_true, beq_iff_eq] at hv
      obtain ⟨⟨⟨⟨⟨⟨hpv, q0⟩, q1⟩, q2⟩, q3⟩, q4⟩, q5⟩ := hv
      rw [Option.getD_some, seg_pci _ _ _ _ _ _ p hpv (by exact Or.inl hP), if_pos (by exact hP), q0, q1, q2, q3, q4, q5]
      simp only [List.set_cons_zero, List.set_cons_succ, Int.natCast_add, Int.natCast_mul]
      rfl
  rw [if_neg hP] at hv ⊢
  by_cases hO : o.type = tOSDEV
  · rw [if_pos hO] at hv ⊢
    obtain ⟨⟨⟨⟨⟨⟨⟨h0, -⟩, h1⟩, h2⟩, h3⟩, h4⟩, h5⟩, hpci⟩ := hv
    have hs := scanDec_decDigits (o.n 0) [] noDigitHead_nil
    rw [List.append_nil] at hs
    simp only [eq_true hO, h1, h2, h3, h4, h5, hpci, if_true, xml_run, reduceCtorEq, hs, setAttr, List.set_cons_zero, n_cast o 0 h0]
  · rw [if_neg hO] at hv ⊢
    rw [importLoop_nil, ← attrs_six o hlen, hv.1, hv.2]
theorem normalise_a (o : ObjFields) (i : Nat) (h0 : o.type = tGROUP → i ≠ 0) (h2 : o.type = tBRIDGE → i ≠ 2) :
    (normalise o).a i = o.a i := by
  unfold ObjFields.a normalise
  dsimp only
  split
  · exact getD_set_ne _ 0 i 0 (Ne.symm (h0 ‹_›))
  · split
    · exact getD_set_ne _ 2 i 0 (Ne.symm (h2 ‹_›))
    · rfl

theorem checks_normalise (c : Ctx) (o : ObjFields) : checks c (normalise o) = checks c o := by
  have a1 : (normalise o).a 1 = o.a 1 := normalise_a o 1 (fun _ => by decide) (fun _ => by decide)
  have a4 : (normalise o).a 4 = o.a 4 := normalise_a o 4 (fun _ => by decide) (fun _ => by decide)
  unfold checks ObjFields.n
  rw [a1, a4]
  -- entry 0 is read by the bridge clause only, and changed on a Group only; the other fields are `o`'s by `rfl`
  by_cases hG : o.type = tGROUP
  · simp only [show (normalise o).type = o.type from rfl, hG, (by decide : (tGROUP != tBRIDGE) = true), Bool.true_or]
    rfl
  · rw [normalise_a o 0 (fun h => absurd h hG) (fun _ => by decide)]
    rfl

theorem normalise_idem (f : ObjFields) : normalise (normalise f) = normalise f := by
  have ht : (normalise f).type = f.type := rfl
  unfold normalise
  simp only [Option.map_map, Function.comp_def, Xml.sanitize_idem]
  by_cases hG : f.type = tGROUP
  · simp [hG]
  · by_cases hB : f.type = tBRIDGE
    · have hne : (tBRIDGE = tGROUP) = False := by decide
      simp [hB, hne]
    · simp [hG, hB]

theorem typeAttrs_congr (f g : ObjFields) (ht : g.type = f.type) (ha : g.attrs = f.attrs) (hp : g.pci = f.pci) :
    typeAttrs g = typeAttrs f := by
  unfold typeAttrs ObjFields.n ObjFields.a; rw [ht, ha, hp]

theorem strAttr_sanitize (n : String) (v : Option Bytes) : strAttr n (v.map Xml.sanitize) = strAttr n v := by
  cases v <;> simp [strAttr, Xml.sanitize_idem]

/-- the root is a Machine, which must have its sets -/
theorem checks_root_sets (c : Ctx) (f : ObjFields) (h : checks c f = true) (hr : c.root = true) : f.cpuset.isSome = true := by
  unfold checks at h
  simp only [hr, if_true, Bool.and_eq_true, beq_iff_eq, Bool.or_eq_true] at h
  rcases h.1.1.1.1.2 with hs | hs
  · rw [h.1.1.1.1.1.1.1.1] at hs; exact absurd hs (by decide)
  · exact hs.1.1.1

theorem importAttrs_exportAttrs (c : Ctx) (o : ObjFields) (hv : Valid c o = true) :
    importAttrs c (exportAttrs c.root o) = .ok (normalise o) := by
  unfold Valid at hv
  simp only [Bool.and_eq_true, decide_eq_true_eq, beq_iff_eq] at hv
  obtain ⟨⟨⟨⟨⟨⟨⟨⟨⟨⟨ht, hgp⟩, hos⟩, -⟩, -⟩, hal⟩, hs1⟩, hs2⟩, hs3⟩, hav⟩, hck⟩ := hv
  have hosv : ∀ x, o.osidx = some x → x < 2 ^ 32 - 1 := by
    intro x e; rw [e] at hos; simpa using hos
  unfold importAttrs exportAttrs emptyFields
  -- one segment at a time from the left, so that each rewrite sees a single loop
  simp only [List.append_assoc]
  rw [importLoop_append, seg_type _ _ _ _ _ o.type ht]; dsimp only
  rw [importLoop_append, seg_os _ _ _ _ _ _ o.osidx rfl hosv]; dsimp only
  rw [importLoop_append, seg_sets _ _ _ _ o ⟨rfl, rfl, rfl, rfl⟩ ⟨hs1, hs2, hs3⟩ (checks_root_sets c o hck)]; dsimp only
  rw [importLoop_append, seg_gp _ _ _ _ _ _ o.gp hgp]; dsimp only
  rw [importLoop_append, (seg_str _ _ _ _ _ _ o.name).1 rfl]; dsimp only
  rw [importLoop_append, (seg_str _ _ _ _ _ _ o.subtype).2 rfl]; dsimp only
  rw [seg_typeAttrs _ _ _ _ _ _ o (by rfl) (by rfl) (by rfl) hav]; dsimp only
  -- the root's two attributes give `o.allowed` back, and then the state after the loop is `normalise o` as it stands
  have hA : (if c.root = true then some ((if c.root = true then some (o.allowed.getD (0, 0)).1 else none).getD 0,
      (if c.root = true then some (o.allowed.getD (0, 0)).2 else none).getD 0) else none) = o.allowed := by
    cases hr : c.root <;> cases ha : o.allowed <;> simp [hr, ha] at hal ⊢
  rw [hA]
  show (if _ then _ else if (!checks c (normalise o)) = true then _ else if _ then _ else ImportRes.ok (normalise o)) = _
  simp only [checks_normalise, hck, Bool.not_true, Bool.false_and, Bool.false_eq_true, if_false]

/-! ### the exported attributes satisfy the hypotheses of the attribute scanner -/

theorem nz_typeString : ∀ t, t < 20 → (TypeStr.typeString t).all (· != 0) = true := by decide

theorem nz_hwlocBody : ∀ (gs : List Nat) (nc m : Bool), NZ (text (Bitmap.hwlocBody gs nc m))
  | [], _, _ => nz_nil
  | g :: gs, nc, m => by
    have hs : NZ (str ",0x") ∧ NZ (str "0x") ∧ NZ (str ",0x0") ∧ NZ (str "0x0") ∧ NZ (str ",") := by
      unfold NZ; decide +kernel
    have ih := fun a c => nz_hwlocBody gs a c
    unfold Bitmap.hwlocBody
    have tc : ∀ (a : Bytes) l, text (a :: l) = a ++ text l := fun _ _ => rfl
    simp only [apply_ite text, apply_ite NZ, tc, List.nil_append, xml_ok, hs, ih]

@[xml_ok] theorem nz_setText (m : Nat) : NZ (setText m) := by
  unfold setText
  rw [Bitmap.text_chunksHwloc, Calc.ofMask_inf]
  simp only [Bool.false_eq_true, if_false, List.nil_append]
  split
  · exact nz_of_all (by decide)
  · exact nz_hwlocBody _ _ _

@[xml_ok] theorem names_ok :
    (NameOk (b "type") ∧ NameOk (b "os_index") ∧ NameOk (b "gp_index") ∧ NameOk (b "id") ∧ NameOk (b "cpuset") ∧
     NameOk (b "complete_cpuset") ∧ NameOk (b "allowed_cpuset") ∧ NameOk (b "nodeset") ∧ NameOk (b "complete_nodeset") ∧
     NameOk (b "allowed_nodeset") ∧ NameOk (b "name") ∧ NameOk (b "subtype") ∧ NameOk (b "cache_size") ∧
     NameOk (b "cache_linesize") ∧ NameOk (b "cache_associativity") ∧ NameOk (b "cache_type") ∧ NameOk (b "local_memory") ∧
     NameOk (b "depth") ∧ NameOk (b "kind") ∧ NameOk (b "subkind") ∧ NameOk (b "dont_merge") ∧ NameOk (b "pci_busid") ∧
     NameOk (b "pci_type") ∧ NameOk (b "pci_link_speed") ∧ NameOk (b "bridge_type") ∧ NameOk (b "bridge_pci") ∧
     NameOk (b "osdev_type") ∧ NameOk (b "value")) ∧
    NZ (b " [") ∧ NZ (b "] [") ∧ NZ (b "] ") ∧ NZ (b ":[") ∧ NZ (b "obj") ∧ NZ (b "1") ∧ NZ [58] ∧ NZ [46] ∧ NZ [32] ∧
    NZ [45] ∧ NZ [93] := by
  simp -index only [b, str_ofList]  -- only the unifier, not the index, sees a literal as `String.ofList _`
  unfold NameOk NZ; decide +kernel

@[xml_ok] theorem ok_pciAttrs (p : PciFields) (h : NZ p.linkspeed) : AllOk (pciAttrs p) := by
  simp only [pciAttrs, xml_ok, h]

@[xml_ok] theorem ok_osSeg (os : Option Nat) : AllOk (osSeg os) := by
  cases os <;> simp only [osSeg, xml_ok]

@[xml_ok] theorem ok_setsSeg (root : Bool) (f : ObjFields) : AllOk (setsSeg root f) := by
  unfold setsSeg; cases f.cpuset <;> simp only [xml_ok]

@[xml_ok] theorem ok_strAttr (n : String) (v : Option Bytes) (hn : NameOk (b n)) : AllOk (strAttr n v) := by
  cases v <;> simp only [strAttr, xml_ok, hn]

theorem ok_typeAttrs (o : ObjFields) (hp : ∀ p, o.pci = some p → NZ p.linkspeed) : AllOk (typeAttrs o) := by
  have hpci : NZ (o.pci.getD default).linkspeed := by
    cases h : o.pci with
    | none => exact nz_nil
    | some p => exact hp p h
  simp only [typeAttrs, xml_ok, hpci]

/-- the pcidev part only exists for PCI devices and PCI-upstream bridges, where `pciValid` makes the link speed text NUL-free -/
theorem attrsValid_link (o : ObjFields) (h : attrsValid o = true) : ∀ p, o.pci = some p → NZ p.linkspeed := by
  intro p hp
  -- with a pcidev part every arm that asks for none is `false`; the two that are left ask for `pciValid p`
  simp only [attrsValid, hp, Option.isNone_some, Bool.and_false, Bool.and_eq_true, Bool.ite_eq_true_distrib, Bool.false_eq_true,
    if_false_left, if_false_right, and_false] at h
  obtain ⟨-, -, -, -, h⟩ := h
  have hv : pciValid p = true := by
    split at h
    · exact h.2.2
    · exact h.2.1.1.1.1.1.1
  simp only [pciValid, Bool.and_eq_true] at hv
  exact nz_of_all hv.2

theorem exportAttrs_ok (c : Ctx) (o : ObjFields) (hv : Valid c o = true) : AllOk (exportAttrs c.root o) := by
  unfold Valid at hv
  simp only [Bool.and_eq_true, decide_eq_true_eq] at hv
  have ht := nz_of_all (nz_typeString o.type hv.1.1.1.1.1.1.1.1.1.1)
  simp only [exportAttrs, xml_ok, ht, ok_typeAttrs o (attrsValid_link o hv.1.2)]

theorem import_scan_render_export (c : Ctx) (o : ObjFields) (hv : Valid c o = true) (fuel : Nat)
    (hf : (exportAttrs c.root o).length < fuel) :
    importAttrs c (Xml.scanAttrs fuel (Xml.renderAttrs (exportAttrs c.root o))) = .ok (normalise o) := by
  rw [Xml.scanAttrs_renderAttrs _ fuel hf (fun a ha => exportAttrs_ok c o hv a ha)]
  exact importAttrs_exportAttrs c o hv

/-! ### `<info name=".." value=".."/>` child elements -/

theorem importInfo_exportInfo (n v : Bytes) : importInfo (exportInfo (n, v)) = .pair (Xml.sanitize n, Xml.sanitize v) := by
  have e2 : (b "value" = b "name") = False := by simp; decide
  simp [importInfo, exportInfo, infoLoop, e2]

theorem exportInfo_ok (n v : Bytes) : AllOk (exportInfo (n, v)) := by
  simp only [exportInfo, xml_ok]

theorem info_scan_render (n v : Bytes) (fuel : Nat) (hf : 2 < fuel) :
    importInfo (Xml.scanAttrs fuel (Xml.renderAttrs (exportInfo (n, v)))) = .pair (Xml.sanitize n, Xml.sanitize v) := by
  rw [Xml.scanAttrs_renderAttrs _ fuel (by simpa [exportInfo] using hf) (fun a ha => exportInfo_ok n v a ha)]
  exact importInfo_exportInfo n v

end Hw.XmlObj
