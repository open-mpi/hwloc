/-
  The two rule sets of the XML round-trip proofs.

  `xml_run`: what is needed to run the attribute loop of hwloc__xml_import_object over attributes the exporter wrote, one
  `simp only [xml_run, facts]` per segment: the turn of the loop on a name the `strcmp` chain knows, the table saying which
  branch each exported name takes, the body of the dispatcher as a plain rewrite rule, and the read-back of each exported value.
  Bounds and type tests of the object at hand are passed as extra facts at each call.

  `xml_ok`: what reduces "every attribute of this exported list has a name over `[a-z_]` and a NUL-free value" (`XmlObj.AllOk`)
  to its pieces: cons, append and `if` as iff-rules, the table of exported names and fixed value fragments, and NUL-freeness of
  what each value printer writes.
-/
import Lean.Meta.Tactic.Simp.RegisterCommand

register_simp_attr xml_run

register_simp_attr xml_ok
