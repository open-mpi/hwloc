/-
  Hw.Io.Base64Lemmas — the base64 model: the decoder never stores outside its target, and decoding the encoder's text gives the
  bytes back.  The round trip follows the decoder's and the encoder's loop with the invariant "the target starts with the list
  `l` of what was stored so far" (`l <+: t.cells`, cursor = `l.length`).
-/
import Hw.Io.Base64
import Hw.Base.Snprintf
import Hw.Base.Cases
import Hw.Base.Bits
import Hw.Base.ListLemmas
namespace Hw.B64
open Hw

/-- the arithmetic `b64char` is the literal alphabet string of base64.c -/
theorem b64char_alphabet : ∀ i, i < 64 → b64char i = alphabet.getD i 0 := by
  rw [alphabet, str_ofList]; decide +kernel

theorem b64index_b64char : ∀ i, i < 64 → b64index (b64char i) = some i := by decide +kernel

theorem b64char_not_space_pad : ∀ i, i < 64 → isspaceC (b64char i) = false ∧ b64char i ≠ pad64 ∧ b64char i ≠ 0 := by decide +kernel

/-- the three bytes the decoder's four states assemble from the four 6-bit values the encoder derived from `a b c` are `a b c` -/
theorem group_inverts (a b c : Nat) (ha : a < 256) (hb : b < 256) (hc : c < 256) :
    let x0 := a / 4; let x1 := (a % 4) * 16 + b / 16; let x2 := (b % 16) * 4 + c / 64; let x3 := c % 64
    x0 < 64 ∧ x1 < 64 ∧ x2 < 64 ∧ x3 < 64 ∧
    ((x0 * 4) ||| (x1 / 16)) = a ∧ (((x1 % 16) * 16) ||| (x2 / 4)) = b ∧ (((x2 % 4) * 64) ||| x3) = c := by
  have ha4 : a / 4 < 64 := Nat.div_lt_of_lt_mul ha
  have hb16 : b / 16 < 16 := Nat.div_lt_of_lt_mul hb
  have hc64 : c / 64 < 4 := Nat.div_lt_of_lt_mul hc
  have h4 : a % 4 < 4 := Nat.mod_lt _ (by decide)
  have h16 : b % 16 < 16 := Nat.mod_lt _ (by decide)
  have h64 : c % 64 < 64 := Nat.mod_lt _ (by decide)
  dsimp only
  refine ⟨ha4, mul_add_lt_mul h4 hb16, mul_add_lt_mul h16 hc64, h64, ?_, ?_, ?_⟩
  · rw [mul_add_div_of_lt hb16, (Bits.or_low 2 h4 _ : _ * 4 ||| _ = _)]; exact Nat.div_add_mod' a 4
  · rw [Nat.mul_add_mod_of_lt hb16, mul_add_div_of_lt hc64, (Bits.or_low 4 h16 _ : _ * 16 ||| _ = _)]; exact Nat.div_add_mod' b 16
  · rw [Nat.mul_add_mod_of_lt hc64, (Bits.or_low 6 h64 _ : _ * 64 ||| _ = _)]; exact Nat.div_add_mod' c 64

theorem encodedLength_add3 (n : Nat) : encodedLength (n + 3) = 4 + encodedLength n := by
  unfold encodedLength; rw [Nat.add_right_comm, Nat.add_div_right _ (by decide), Nat.mul_succ, Nat.add_comm]

theorem encText_length : ∀ bs : List Nat, (encText bs).length = encodedLength bs.length
  | a :: b :: c :: rest => by
    simp only [encText, List.length_cons, encText_length rest, encodedLength_add3]; omega
  | [a, b] => by simp [encText, encodedLength]
  | [a] => by simp [encText, encodedLength]
  | [] => by simp [encText, encodedLength]

/-! ### the decoder never writes at or beyond `targsize` -/

def Tgt.Safe (n : Nat) (t : Tgt) : Prop := t.size = n ∧ ∀ w ∈ t.writes, w < n

theorem Tgt.Safe.wr {n : Nat} {t : Tgt} (h : t.Safe n) (i : Nat) (c : Nat) (hi : i < t.size) : (t.wr i c).Safe n := by
  refine ⟨by simp [Tgt.wr, Tgt.size]; exact h.1, ?_⟩
  intro w hw
  simp only [Tgt.wr, List.mem_cons] at hw
  rcases hw with e | hw
  · rw [e, ← h.1]; exact hi
  · exact h.2 w hw

theorem Tgt.size_wr (t : Tgt) (i c : Nat) : (t.wr i c).size = t.size := by simp [Tgt.wr, Tgt.size]

def DecOut.tgt : DecOut → Option Tgt
  | .err t => t
  | .eos _ _ t => t
  | .pad _ _ _ t => t

theorem decGo_cons_cases {P : DecOut → Prop} {ch : Nat} {r : List Nat} {st ti : Nat} {t : Option Tgt}
    (hsp : P (decGo r st ti t)) (hpad : P (.pad r st ti t)) (herr : P (.err t))
    (hnone : ∀ st' ti', t = none → P (decGo r st' ti' none))
    (h1 : ∀ st' ti' tg v, t = some tg → ti < tg.size → P (decGo r st' ti' (some (tg.wr ti v))))
    (h2 : ∀ st' tg v w, t = some tg → ti + 1 < tg.size →
      P (decGo r st' (ti + 1) (some ((tg.wr ti v).wr (ti + 1) w)))) :
    P (decGo (ch :: r) st ti t) := by
  rw [decGo]
  refine ite_cases (fun _ => hsp) fun _ => ite_cases (fun _ => hpad) fun _ => ?_
  cases b64index ch with
  | none => exact herr
  | some p =>
    cases t with
    | none =>
      exact ite_cases (fun _ => hnone _ _ rfl) fun _ => ite_cases (fun _ => hnone _ _ rfl) fun _ =>
        ite_cases (fun _ => hnone _ _ rfl) fun _ => hnone _ _ rfl
    | some tg =>
      have a1 : ∀ st' ti' v, P (if ti ≥ tg.size then .err (some tg) else decGo r st' ti' (some (tg.wr ti v))) :=
        fun _ _ _ => ite_cases (fun _ => herr) fun h => h1 _ _ _ _ rfl (by omega)
      have a2 : ∀ st' v w, P (if ti + 1 ≥ tg.size then .err (some tg)
          else decGo r st' (ti + 1) (some ((tg.wr ti v).wr (ti + 1) w))) :=
        fun _ _ _ => ite_cases (fun _ => herr) fun h => h2 _ _ _ _ rfl (by omega)
      exact ite_cases (fun _ => a1 _ _ _) fun _ => ite_cases (fun _ => a2 _ _ _) fun _ =>
        ite_cases (fun _ => a2 _ _ _) fun _ => a1 _ _ _

theorem decGo_safe (n : Nat) : ∀ (src : List Nat) (st ti : Nat) (t : Option Tgt),
    (∀ tg, t = some tg → tg.Safe n) → ∀ tg', (decGo src st ti t).tgt = some tg' → tg'.Safe n
  | [], _, _, _, h => h
  | _ :: r, st, ti, t, h =>
    decGo_cons_cases (P := fun d => ∀ tg', d.tgt = some tg' → tg'.Safe n)
      (decGo_safe n r st ti t h) h h (fun st' ti' _ => decGo_safe n r st' ti' none nofun)
      (fun st' ti' tg _ e hi => decGo_safe n r st' ti' _ fun _ e' => Option.some.inj e' ▸ (h tg e).wr _ _ hi)
      (fun st' tg _ _ e hi => decGo_safe n r st' _ _ fun _ e' =>
        Option.some.inj e' ▸ ((h tg e).wr _ _ (by omega)).wr _ _ (by rw [Tgt.size_wr]; exact hi))

theorem decode_tgt (src : List Nat) (t : Option Tgt) : (decode src t).2 = (decGo src 0 0 t).tgt := by
  unfold decode
  cases decGo src 0 0 t <;> rfl

theorem decode_writes_in_bounds (src : List Nat) (tg : Tgt) (h0 : tg.writes = []) :
    ∀ tg', (decode src (some tg)).2 = some tg' → tg'.size = tg.size ∧ ∀ w ∈ tg'.writes, w < tg.size := by
  intro tg' e
  rw [decode_tgt] at e
  exact decGo_safe tg.size src 0 0 (some tg) (by
    intro t e'; cases e'
    exact ⟨rfl, by intro w hw; rw [h0] at hw; cases hw⟩) tg' e

theorem rd_wr (t : Tgt) (i j c : Nat) : (t.wr i c).rd j = if j = i ∧ i < t.size then c else t.rd j := by
  unfold Tgt.rd Tgt.wr Tgt.size
  simp only [List.getD_eq_getElem?_getD, List.getElem?_set]
  by_cases h : i = j
  · subst h
    by_cases h2 : i < t.cells.length <;> simp [h2]
  · simp [h, Ne.symm h]

/-! ### targets that start with a given list -/

theorem prefix_wr {l : List Nat} {t : Tgt} {i : Nat} (h : l <+: t.cells) (hi : l.length = i) (hl : i < t.size) (v : Nat) :
    l ++ [v] <+: (t.wr i v).cells := by
  obtain ⟨s, hs⟩ := h
  subst hi
  cases s with
  | nil => rw [List.append_nil] at hs; rw [Tgt.size, ← hs] at hl; exact absurd hl (Nat.lt_irrefl _)
  | cons u s => exact ⟨s, by rw [Tgt.wr, ← hs]; simp⟩

theorem prefix_wr2 {l : List Nat} {t : Tgt} {i u : Nat} (h : l ++ [u] <+: t.cells) (hi : l.length = i)
    (hl : i + 1 < t.size) (v w : Nat) : (l ++ [v]) ++ [w] <+: ((t.wr i v).wr (i + 1) w).cells :=
  prefix_wr (prefix_wr ((List.prefix_append l [u]).trans h) hi (by omega) v) (by simp [hi])
    (by rw [Tgt.size_wr]; exact hl) w

theorem rd_of_prefix {l : List Nat} {t : Tgt} {i u : Nat} (h : l ++ [u] <+: t.cells) (hi : l.length = i) : t.rd i = u := by
  obtain ⟨s, hs⟩ := h
  subst hi
  rw [Tgt.rd, ← hs]; simp

/-! ### decoding the encoder's output -/

theorem step0 (x : Nat) (hx : x < 64) (r : List Nat) (ti : Nat) (tg : Tgt) (h : ti < tg.size) :
    decGo (b64char x :: r) 0 ti (some tg) = decGo r 1 ti (some (tg.wr ti (x * 4))) := by
  have h1 := b64char_not_space_pad x hx
  have h2 := b64index_b64char x hx
  rw [decGo]
  simp [h1.1, h1.2.1, h2, Nat.not_le.mpr h]

theorem step1 (x : Nat) (hx : x < 64) (r : List Nat) (ti : Nat) (tg : Tgt) (h : ti + 1 < tg.size) :
    decGo (b64char x :: r) 1 ti (some tg) =
      decGo r 2 (ti + 1) (some ((tg.wr ti (tg.rd ti ||| x / 16)).wr (ti + 1) ((x % 16) * 16))) := by
  have h1 := b64char_not_space_pad x hx
  have h2 := b64index_b64char x hx
  rw [decGo]
  simp [h1.1, h1.2.1, h2, Nat.not_le.mpr h]

theorem step2 (x : Nat) (hx : x < 64) (r : List Nat) (ti : Nat) (tg : Tgt) (h : ti + 1 < tg.size) :
    decGo (b64char x :: r) 2 ti (some tg) =
      decGo r 3 (ti + 1) (some ((tg.wr ti (tg.rd ti ||| x / 4)).wr (ti + 1) ((x % 4) * 64))) := by
  have h1 := b64char_not_space_pad x hx
  have h2 := b64index_b64char x hx
  rw [decGo]
  simp [h1.1, h1.2.1, h2, Nat.not_le.mpr h]

theorem step3 (x : Nat) (hx : x < 64) (r : List Nat) (ti : Nat) (tg : Tgt) (h : ti < tg.size) :
    decGo (b64char x :: r) 3 ti (some tg) = decGo r 0 (ti + 1) (some (tg.wr ti (tg.rd ti ||| x))) := by
  have h1 := b64char_not_space_pad x hx
  have h2 := b64index_b64char x hx
  rw [decGo]
  simp [h1.1, h1.2.1, h2, Nat.not_le.mpr h]

theorem stepPad (r : List Nat) (st ti : Nat) (t : Option Tgt) : decGo (pad64 :: r) st ti t = .pad r st ti t := by
  rw [decGo]
  simp [pad64, isspaceC]

def finish : DecOut → Int × Option Tgt
  | .err t' => (-1, t')
  | .eos st ti t' => (if st ≠ 0 then -1 else (ti : Int), t')
  | .pad r st ti t' => (decTail r st ti t', t')

theorem decode_eq_finish (src : List Nat) (t : Option Tgt) : decode src t = finish (decGo src 0 0 t) := by
  unfold decode finish
  cases decGo src 0 0 t <;> rfl

theorem decGo_two {l : List Nat} {tg : Tgt} {ti x0 x1 : Nat} (h0 : x0 < 64) (h1 : x1 < 64)
    (hl : l <+: tg.cells) (hi : l.length = ti) (hs : ti + 1 < tg.size) :
    ∃ tg', (∀ r, decGo (b64char x0 :: b64char x1 :: r) 0 ti (some tg) = decGo r 2 (ti + 1) (some tg')) ∧ tg'.size = tg.size ∧
      (l ++ [x0 * 4 ||| x1 / 16]) ++ [x1 % 16 * 16] <+: tg'.cells := by
  have p1 := prefix_wr hl hi (by omega) (x0 * 4)
  refine ⟨_, fun r => by rw [step0 x0 h0 _ _ _ (by omega), step1 x1 h1 _ _ _ (by rw [Tgt.size_wr]; exact hs)],
    by simp [Tgt.size_wr], ?_⟩
  rw [rd_wr, if_pos ⟨rfl, by omega⟩]
  exact prefix_wr2 p1 hi (by rw [Tgt.size_wr]; exact hs) _ _

theorem decGo_third {l : List Nat} {tg : Tgt} {ti u x : Nat} (hx : x < 64)
    (hl : l ++ [u] <+: tg.cells) (hi : l.length = ti) (hs : ti + 1 < tg.size) :
    ∃ tg', (∀ r, decGo (b64char x :: r) 2 ti (some tg) = decGo r 3 (ti + 1) (some tg')) ∧ tg'.size = tg.size ∧
      (l ++ [u ||| x / 4]) ++ [x % 4 * 64] <+: tg'.cells :=
  ⟨_, fun r => step2 x hx r ti tg hs, by simp [Tgt.size_wr], by rw [rd_of_prefix hl hi]; exact prefix_wr2 hl hi hs _ _⟩

theorem decGo_fourth {l : List Nat} {tg : Tgt} {ti u x : Nat} (hx : x < 64)
    (hl : l ++ [u] <+: tg.cells) (hi : l.length = ti) (hs : ti < tg.size) :
    ∃ tg', (∀ r, decGo (b64char x :: r) 3 ti (some tg) = decGo r 0 (ti + 1) (some tg')) ∧ tg'.size = tg.size ∧
      l ++ [u ||| x] <+: tg'.cells :=
  ⟨_, fun r => step3 x hx r ti tg hs, Tgt.size_wr _ _ _,
    by rw [rd_of_prefix hl hi]; exact prefix_wr ((List.prefix_append l [u]).trans hl) hi hs _⟩

theorem decGo_encText : ∀ (bs l : List Nat) (tg : Tgt), (∀ b ∈ bs, b < 256) → l <+: tg.cells →
    l.length + bs.length + 1 ≤ tg.size →
    ∃ tg', finish (decGo (encText bs) 0 l.length (some tg)) = (((l.length + bs.length : Nat) : Int), some tg') ∧
      tg'.size = tg.size ∧ l ++ bs <+: tg'.cells
  | [], l, tg, _, hl, _ => ⟨tg, by simp [encText, decGo, finish], rfl, by rwa [List.append_nil]⟩
  | [a], l, tg, hb, hl, hs => by
    obtain ⟨hx0, hx1, _, _, ea, _, _⟩ := group_inverts a 0 0 (hb a (by simp)) (by omega) (by omega)
    simp only [Nat.zero_div, Nat.add_zero] at hx1 ea
    simp only [List.length_singleton] at hs
    obtain ⟨tg1, g1, s1, p1⟩ := decGo_two hx0 hx1 hl rfl (by omega)
    rw [ea, Nat.mul_mod_left, Nat.zero_mul] at p1
    refine ⟨tg1, ?_, s1, (List.prefix_append _ _).trans p1⟩
    rw [encText, g1, stepPad]
    simp [finish, decTail, tail3, pad64, isspaceC, rd_of_prefix p1 (by simp : (l ++ [a]).length = l.length + 1)]
  | [a, b], l, tg, hb, hl, hs => by
    obtain ⟨hx0, hx1, hx2, _, ea, eb, _⟩ := group_inverts a b 0 (hb a (by simp)) (hb b (by simp)) (by omega)
    simp only [Nat.zero_div, Nat.add_zero] at hx2 eb
    simp only [List.length_cons, List.length_nil] at hs
    obtain ⟨tg1, g1, s1, p1⟩ := decGo_two hx0 hx1 hl rfl (by omega)
    obtain ⟨tg2, g2, s2, p2⟩ := decGo_third (ti := l.length + 1) hx2 p1 (by simp) (by omega)
    rw [ea, eb, Nat.mul_mod_left, Nat.zero_mul] at p2
    refine ⟨tg2, ?_, by rw [s2, s1], by simpa using (List.prefix_append _ _).trans p2⟩
    rw [encText, g1, g2, stepPad]
    simp [finish, decTail, tail3, rd_of_prefix p2 (by simp : (l ++ [a] ++ [b]).length = l.length + 1 + 1)]
    omega
  | a :: b :: c :: rest, l, tg, hb, hl, hs => by
    obtain ⟨hx0, hx1, hx2, hx3, ea, eb, ec⟩ := group_inverts a b c (hb a (by simp)) (hb b (by simp)) (hb c (by simp))
    simp only [List.length_cons] at hs
    obtain ⟨tg1, g1, s1, p1⟩ := decGo_two hx0 hx1 hl rfl (by omega)
    obtain ⟨tg2, g2, s2, p2⟩ := decGo_third (ti := l.length + 1) hx2 p1 (by simp) (by omega)
    obtain ⟨tg3, g3, s3, p3⟩ := decGo_fourth (ti := l.length + 1 + 1) hx3 p2 (by simp) (by omega)
    rw [ea, eb, ec] at p3
    obtain ⟨tg', hfin, hsz, hp⟩ := decGo_encText rest _ tg3 (fun x hx => hb x (by simp [hx])) p3 (by simp; omega)
    have hlen : (l ++ [a] ++ [b] ++ [c]).length = l.length + 1 + 1 + 1 := by simp
    rw [hlen] at hfin
    refine ⟨tg', ?_, by rw [hsz, s3, s2, s1], by simpa using hp⟩
    rw [encText, g1, g2, g3, hfin]
    simp only [List.length_cons]
    congr 2
    omega

theorem decode_encText (bs : List Nat) (tg : Tgt) (hb : ∀ b ∈ bs, b < 256) (hs : bs.length + 1 ≤ tg.size) :
    ∃ tg', decode (encText bs) (some tg) = ((bs.length : Int), some tg') ∧ tg'.size = tg.size ∧
      tg'.cells.take bs.length = bs := by
  obtain ⟨tg', h1, h2, h3⟩ := decGo_encText bs [] tg hb List.nil_prefix (by simpa using hs)
  exact ⟨tg', by rw [decode_eq_finish]; simpa using h1, h2, (List.prefix_iff_eq_take.1 h3).symm⟩

/-! ### the encoder on a large enough target -/

theorem writes_wr (t : Tgt) (i c : Nat) : (t.wr i c).writes = i :: t.writes := rfl

theorem prefix_wr4 {l : List Nat} {t : Tgt} {i : Nat} (h : l <+: t.cells) (hi : l.length = i) (hl : i + 3 < t.size)
    (c0 c1 c2 c3 : Nat) :
    l ++ [c0, c1, c2, c3] <+: ((((t.wr i c0).wr (i + 1) c1).wr (i + 2) c2).wr (i + 3) c3).cells := by
  have := prefix_wr (i := i + 3) (prefix_wr (i := i + 2) (prefix_wr (i := i + 1) (prefix_wr h hi (by omega) c0)
    (by simp [hi]) (by simp [Tgt.size_wr]; omega) c1) (by simp [hi]) (by simp [Tgt.size_wr]; omega) c2)
    (by simp [hi]) (by simp [Tgt.size_wr]; omega) c3
  simpa using this

theorem encGo_spec : ∀ (bs l : List Nat) (dl : Nat) (t : Tgt), l <+: t.cells → l.length = dl →
    dl + encodedLength bs.length ≤ t.size →
    ∃ t', encGo bs dl t = (true, dl + encodedLength bs.length, t') ∧ t'.size = t.size ∧
      l ++ encText bs <+: t'.cells ∧ t'.writes.length = t.writes.length + encodedLength bs.length
  | [], l, dl, t, hl, _, _ => ⟨t, rfl, rfl, by rwa [encText, List.append_nil], rfl⟩
  | [a], l, dl, t, hl, hi, h => by
    rw [show encodedLength [a].length = 4 by simp [encodedLength]] at h ⊢
    exact ⟨_, by rw [encGo, if_neg (by omega)]; rfl, by simp [Tgt.size_wr], prefix_wr4 hl hi (by omega) _ _ _ _,
      by simp [writes_wr]⟩
  | [a, b], l, dl, t, hl, hi, h => by
    rw [show encodedLength [a, b].length = 4 by simp [encodedLength]] at h ⊢
    exact ⟨_, by rw [encGo, if_neg (by omega)]; rfl, by simp [Tgt.size_wr], prefix_wr4 hl hi (by omega) _ _ _ _,
      by simp [writes_wr]⟩
  | a :: b :: c :: rest, l, dl, t, hl, hi, h => by
    rw [show encodedLength (a :: b :: c :: rest).length = 4 + encodedLength rest.length from encodedLength_add3 _] at h ⊢
    have p := prefix_wr4 hl hi (by omega) (b64char (a / 4)) (b64char ((a % 4) * 16 + b / 16))
      (b64char ((b % 16) * 4 + c / 64)) (b64char (c % 64))
    obtain ⟨t', hgo, hsz, hp, hw⟩ := encGo_spec rest _ (dl + 4) _ p (by simp [hi]) (by simp [Tgt.size_wr]; omega)
    exact ⟨t', by rw [encGo, if_neg (by omega), hgo, Nat.add_assoc], by rw [hsz]; simp [Tgt.size_wr],
      by rw [encText]; simpa using hp, by rw [hw]; simp [writes_wr, Nat.add_assoc]⟩

theorem encode_spec (bs : List Nat) (t : Tgt) (h : encodedLength bs.length + 1 ≤ t.size) :
    ∃ t', encode bs t = ((encodedLength bs.length : Int), t') ∧ t'.size = t.size ∧
      t'.cells.take (encodedLength bs.length + 1) = encText bs ++ [0] ∧
      t'.writes.length = t.writes.length + (encodedLength bs.length + 1) := by
  obtain ⟨t1, hgo, hsz, hp, hw⟩ := encGo_spec bs [] 0 t List.nil_prefix rfl (by omega)
  simp only [Nat.zero_add, List.nil_append] at hgo hp
  refine ⟨t1.wr (encodedLength bs.length) 0, ?_, by simp [Tgt.size_wr, hsz], ?_, by simp [writes_wr, hw, Nat.add_assoc]⟩
  · unfold encode
    rw [hgo]
    simp only
    rw [if_neg (by omega)]
  · have := prefix_wr hp (encText_length bs) (by omega) 0
    rw [List.prefix_iff_eq_take, List.length_append, encText_length] at this
    exact this.symm

theorem decode_encode (bs : List Nat) (hb : ∀ b ∈ bs, b < 256) (t tg : Tgt)
    (ht : encodedLength bs.length + 1 ≤ t.size) (hs : bs.length + 1 ≤ tg.size) :
    ∃ t' tg', encode bs t = ((encodedLength bs.length : Int), t') ∧
      decode (t'.cells.take (encodedLength bs.length)) (some tg) = ((bs.length : Int), some tg') ∧
      tg'.cells.take bs.length = bs := by
  obtain ⟨t', he, _, htake, _⟩ := encode_spec bs t ht
  obtain ⟨tg', hd, _, hbs⟩ := decode_encText bs tg hb hs
  refine ⟨t', tg', he, ?_, hbs⟩
  have : t'.cells.take (encodedLength bs.length) = encText bs := by
    have := congrArg (List.take (encodedLength bs.length)) htake
    rw [List.take_take, Nat.min_eq_left (by omega)] at this
    rw [this, List.take_append_of_le_length (by rw [encText_length]; omega)]
    rw [List.take_of_length_le (by rw [encText_length]; omega)]
  rw [this, hd]

end Hw.B64
