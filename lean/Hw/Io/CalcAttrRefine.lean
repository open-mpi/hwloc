/-
  Hw.Io.CalcAttrRefine — `calcMainX` (Hw/Io/CalcAttr.lean) is a conservative extension of `calcMain` (Hw/Io/Calc.lean):
  `argLoop` declines the four memory options (`skip`); on every other argument `optKind` is what `argLoop` does, and without
  `--cpukind`, memory options and pseudo levels each piece of `calcMainX` is the piece of `calcMain` (`calcMainX_eq_calcMain`).
-/
import Hw.Io.CalcAttrLemmas
import Hw.Io.CalcStdin
namespace Hw.Calc
open Hw Hw.Topo

theorem optKind_of_not_skip {a : Bytes} (h : isOpt skipOpts a = false) :
    optKind a =
      if startsWith a (str "--no-smt=") then
        match atoiDigits (a.drop 9) with
        | some n => .flag (fun s xs => ({ s with noSmt := some n }, xs))
        | none => .stop (fun _ => .skip "no-smt-value")
      else if isOpt flagOpts a then .flag (fun s xs => (stepFlag s a, xs))
      else if isOpt argOpts a then .arg (fun s xs v => (stepArgOpt s a v).map (fun s' => (s', xs)))
      else .stop failRes := by
  unfold optKind
  rw [ne_str_of_isOpt_false h (t := "--default-nodes") (by simp [skipOpts]),
    ne_str_of_isOpt_false h (t := "--local-memory") (by simp [skipOpts]),
    ne_str_of_isOpt_false h (t := "--local-memory-flags") (by simp [skipOpts]),
    ne_str_of_isOpt_false h (t := "--best-memattr") (by simp [skipOpts]), h]
  rfl

theorem argLoopX_eq_argLoop (c : Ctx) (s : St) (argv : List Bytes) (xs : XSt) :
    argLoop c s argv = .error (.skip "option") ∨ argLoopX c s xs argv = (argLoop c s argv).map (·, xs) := by
  -- the cases are numbered as listed in `argLoop_fails` (Hw/Io/CalcLemmas.lean)
  fun_induction argLoop c s argv with
  | case1 s => exact .inr rfl
  | case2 s a rest hd hsk => exact .inl rfl
  | case3 s a rest hd hsk hns k hk ih =>
    rw [argLoopX, if_pos hd, optKind_of_not_skip (Bool.eq_false_iff.mpr hsk), if_pos hns, hk]; exact ih
  | case4 s a rest hd hsk hns hk =>
    rw [argLoopX, if_pos hd, optKind_of_not_skip (Bool.eq_false_iff.mpr hsk), if_pos hns, hk]; exact .inr rfl
  | case5 s a rest hd hsk hns hf ih =>
    rw [argLoopX, if_pos hd, optKind_of_not_skip (Bool.eq_false_iff.mpr hsk), if_neg hns, if_pos hf]; exact ih
  | case6 s a hd hsk hns hf ha =>
    rw [argLoopX, if_pos hd, optKind_of_not_skip (Bool.eq_false_iff.mpr hsk), if_neg hns, if_neg hf, if_pos ha]; exact .inr rfl
  | case7 s a hd hsk hns hf ha v rest' hst =>
    rw [argLoopX, if_pos hd, optKind_of_not_skip (Bool.eq_false_iff.mpr hsk), if_neg hns, if_neg hf, if_pos ha]
    simp only [hst, Option.map]; exact .inr rfl
  | case8 s a hd hsk hns hf ha v rest' s1 hs ih =>
    rw [argLoopX, if_pos hd, optKind_of_not_skip (Bool.eq_false_iff.mpr hsk), if_neg hns, if_neg hf, if_pos ha]
    simp only [hs, Option.map]; exact ih
  | case9 s a rest hd hsk hns hf ha =>
    rw [argLoopX, if_pos hd, optKind_of_not_skip (Bool.eq_false_iff.mpr hsk), if_neg hns, if_neg hf, if_neg ha]; exact .inr rfl
  | case10 s a rest hd e he => rw [argLoopX, if_neg hd, he]; exact .inr rfl
  | case11 s a rest hd s1 hs ih => rw [argLoopX, if_neg hd, hs]; exact ih

theorem outputX_plain (c : Ctx) (x : Extra) (s : St) (cfg : OutCfg) (cpuset nodeset : Bitmap) :
    outputX c x none s {} cfg {} cpuset nodeset = output c s cfg cpuset nodeset := by
  rw [outputX_eq_output c x none s {} cfg cpuset nodeset rfl]
  rfl

theorem lineOutX_plain (c : Ctx) (x : Extra) (s : St) (cfg : OutCfg) (line : Bytes) :
    lineOutX c x none s {} cfg {} line = lineOut c s cfg line := by
  unfold lineOutX lineOut
  cases lineFold c s line with
  | error e => rfl
  | ok s1 => simp only [outputX_plain, cpusetAfterKind]; rfl

theorem stdinLoopX_plain (c : Ctx) (x : Extra) (s : St) (cfg : OutCfg) : ∀ (lines : List Bytes) (acc : Bytes),
    stdinLoopX c x none s {} cfg {} lines acc = stdinLoop c s cfg lines acc := by
  intro lines acc
  fun_induction stdinLoop c s cfg lines acc with
  | case1 acc => rfl
  | case2 l r acc res hl => rw [stdinLoopX, lineOutX_plain, hl]
  | case3 l r acc o hl ih => rw [stdinLoopX, lineOutX_plain, hl]; exact ih

theorem topoLoop_plain (k : KSel) (argv : List Bytes) (h0 : ∀ a, argv.head? = some a → isOpt topoOpts a = false) :
    topoLoop k argv = .ok (k, argv) := by
  cases argv with
  | nil => rfl
  | cons a rest =>
    have h := h0 a rfl
    have hk : (a == str "--cpukind") = false := ne_str_of_isOpt_false h (by simp [topoOpts])
    unfold topoLoop
    simp only [hk, h, Bool.false_eq_true, if_false]

theorem dropPseudo_id (s : St) (hn : pseudoOf s.numberOf = none) (hi : pseudoOf s.intersect = none) : dropPseudo s = s := by
  unfold dropPseudo
  rw [hn, hi]
  rfl

theorem calcTailX_plain (c : Ctx) (x : Extra) {argv : List Bytes} {s : St} (stdin : Bytes) (hl : argLoop c {} argv = .ok s)
    (hn : pseudoOf s.numberOf = none) (hi : pseudoOf s.intersect = none) :
    calcTailX c x none s {} stdin = calcMain.go stdin c argv := by
  have hs : adjustNodesetO s (s.largest || s.numberOf.isSome || s.intersect.isSome || s.hier.isSome || ({} : XSt).localMem) =
      convState s := by
    show adjustNodesetO s (_ || false) = _
    rw [Bool.or_false]
    exact convState_if s
  have hx : ({ numP := pseudoOf (convState s).numberOf, intP := pseudoOf (convState s).intersect, best := none } : XCfg) = {} := by
    show ({ numP := pseudoOf s.numberOf, intP := pseudoOf s.intersect, best := none } : XCfg) = {}
    rw [hn, hi]
  unfold calcTailX calcMain.go
  rw [hl]
  simp only [hs, convState_if, dropPseudo_id (convState s) hn hi]
  cases outCfg c.d (convState s) with
  | unmodelled => rfl
  | out => rfl
  | ok cfg =>
    have hb : bestCfg x ({} : XSt) = some (some none) := rfl
    simp only [hb, hx, cpusetAfterKind, outputX_plain, stdinLoopX_plain]
    rfl

/-- on every run — failing ones too — on which `argLoop` declines no option and that asks for no cpukind / memorytier pseudo level -/
theorem calcMainX_eq_calcMain (d : Dump) (x : Extra) {argv : List Bytes} (stdin : Bytes)
    (h0 : ∀ a, argv.head? = some a → isOpt topoOpts a = false)
    (hopt : argLoop (mkCtx d) {} argv ≠ .error (.skip "option"))
    (hp : ∀ s, argLoop (mkCtx d) {} argv = .ok s → pseudoOf s.numberOf = none ∧ pseudoOf s.intersect = none) :
    calcMainX d x argv stdin = calcMain d argv stdin := by
  rw [calcMain_eq_go d stdin h0]
  unfold calcMainX
  simp only [topoLoop_plain {} argv h0, (argLoopX_eq_argLoop (mkCtx d) {} argv {}).resolve_left hopt, kindSet]
  cases hs : argLoop (mkCtx d) {} argv with
  | error e => unfold calcMain.go; rw [hs]; rfl
  | ok s => exact calcTailX_plain _ x stdin hs (hp s hs).1 (hp s hs).2

end Hw.Calc
