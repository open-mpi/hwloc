/- Hw.Io.XmlDiffLemmas — the diff XML models (Hw.Io.XmlDiff): the importer reads back what the exporter wrote, through either back end
   and through the bytes of the start tags; an arbitrary document is imported whole, in document order, or not at all. -/
import Hw.Io.XmlDiff
import Hw.Io.XmlOk
import Hw.Base.Cases
namespace Hw.XmlDiff
open Hw Hw.Xml Hw.Diff

/-! ### the strcmp chain and the names it knows -/

def AK.name : AK → Bytes
  | .type => nmType | .depth => nmDepth | .index => nmIndex | .atype => nmAType
  | .aindex => nmAIndex | .aname => nmAName | .old => nmOld | .new => nmNew

def AK.all : List AK := [.type, .depth, .index, .atype, .aindex, .aname, .old, .new]

theorem AK.mem_all (k : AK) : k ∈ AK.all := by cases k <;> decide

theorem AK.name_spec : ∀ k ∈ AK.all, attrKind k.name = some k ∧ ∀ c ∈ k.name, isAttrNameChar c = true := by decide +kernel

theorem attrKind_name (k : AK) : attrKind k.name = some k := (AK.name_spec k k.mem_all).1

/-- what the slot named by kind `c` holds after an assignment of `v` under kind `k` -/
def Slots.upd (k c : AK) (v : Bytes) (x : Option Bytes) : Option Bytes := if k = c then some v else x

theorem Slots.upd_comm {k k' : AK} (h : k ≠ k') (c : AK) (v w : Bytes) (x : Option Bytes) :
    upd k' c w (upd k c v x) = upd k c v (upd k' c w x) := by
  unfold upd
  by_cases h1 : k = c
  · simp only [if_pos h1, if_neg fun e : k' = c => h (h1.trans e.symm)]
  · simp only [if_neg h1]

/-- the assignment of one iteration of the attribute loop, once the chain has told the kind, slot by slot (`aindex` has none) -/
def Slots.put (s : Slots) (v : Bytes) (k : AK) : Slots :=
  ⟨upd k .type v s.type, upd k .depth v s.depth, upd k .index v s.index, upd k .atype v s.atype, upd k .aname v s.aname,
   upd k .old v s.old, upd k .new v s.new⟩

theorem slotStep_eq (s : Slots) (a : Bytes × Bytes) : slotStep s a = (attrKind a.1).map (s.put a.2) := by
  unfold slotStep
  cases attrKind a.1 with
  | none => rfl
  | some k => cases k <;> rfl

def kattrs (l : List (AK × Bytes)) : AttrL := l.map fun p => (p.1.name, p.2)

theorem slotsLoop_kattrs : ∀ (l : List (AK × Bytes)) (s : Slots),
    slotsLoop s (kattrs l) = some (l.foldl (fun s p => s.put p.2 p.1) s)
  | [], _ => rfl
  | p :: l, s => by
    show slotsLoop s ((p.1.name, p.2) :: kattrs l) = _
    rw [slotsLoop, slotStep_eq, attrKind_name]
    exact slotsLoop_kattrs l _

/-! ### numbers -/

theorem atoiC_printInt (i : Int) (h1 : -2147483648 ≤ i) (h2 : i < 2147483648) : atoiC (printInt i) = i := by
  unfold atoiC strtolDec toInt32 longMax
  simp only [atoi_printInt]
  split
  · omega
  · split
    · omega
    · omega

theorem atouC_decDigits (n : Nat) (h : n < 4294967296) : atouC (decDigits n) = n := by
  unfold atouC atoiC strtolDec toInt32 longMax
  simp only [atoi_decDigits]
  split
  · omega
  · split
    · omega
    · omega

theorem basePrefix0_eq (s : Bytes) : basePrefix0 s = strtoBase 0 s := by
  unfold basePrefix0 strtoBase
  split <;> simp

theorem magnitude0_eq (s : Bytes) : magnitude0 s = ((strtoBody 0 s).1, (strtoBody 0 s).2.1) := by
  unfold magnitude0; rw [basePrefix0_eq]; rfl

/-- off sign characters `strtoull(s, NULL, 0)` is the value of the C04 model `Hw.strtoul 0` -/
theorem strtoull0_of_strtoul {s : Bytes} {v : Nat} {r : Bytes} (h : strtoul 0 s = .ok v r) : strtoull0 s = v := by
  obtain ⟨h43, h45⟩ := nosign_of_strtoul_ok h
  have hp : splitSign (s.dropWhile isSpace) = (false, s.dropWhile isSpace) := by
    unfold splitSign
    split
    · exact absurd ‹_› (h45 _)
    · exact absurd ‹_› (h43 _)
    · rfl
  rw [strtoul_nosign 0 s h43 h45] at h
  unfold strtoull0
  simp only [hp, magnitude0_eq, Bool.false_eq_true, if_false]
  generalize strtoBody 0 (s.dropWhile isSpace) = t at h ⊢
  by_cases hn : t.2.1 = 0
  · rw [if_pos hn] at h ⊢; injection h
  · rw [if_neg hn] at h ⊢
    injection h with h1 _
    rw [← h1, min_ulongMax]

theorem strtoull0_decDigits (n : Nat) (hn : n < 18446744073709551616) : strtoull0 (decDigits n) = n :=
  strtoull0_of_strtoul (r := []) (by simpa using strtoul0_decDigits n [] hn noDigitHead_nil)

/-! ### one element: the importer reads back what the exporter wrote -/

def hdr (k : Key) (t : Int) : List (AK × Bytes) :=
  [(.type, printInt 0), (.depth, printInt k.1), (.index, decDigits k.2), (.atype, printInt t)]

theorem exportEntry_cases {P : E → AttrL → Prop}
    (hs : ∀ k o n, P (.objAttr k (.size o n))
      (kattrs (hdr k 0 ++ [(.aindex, decDigits 0), (.old, decDigits o.toNat), (.new, decDigits n.toNat)])))
    (hn : ∀ k o n, P (.objAttr k (.name (some o) (some n))) (kattrs (hdr k 1 ++ [(.old, o), (.new, n)])))
    (hi : ∀ k nm o n, P (.objAttr k (.info nm o n)) (kattrs (hdr k 2 ++ [(.aname, nm), (.old, o), (.new, n)])))
    {e : E} {a : AttrL} (h : exportEntry e = some a) : P e a := by
  cases e with
  | tooComplex k => cases h
  | unknown => cases h
  | objAttr k x =>
    cases x with
    | unknown => cases h
    | size o n => cases h; exact hs k o n
    | info nm o n => cases h; exact hi k nm o n
    | name o n =>
      cases o with
      | none => cases h
      | some o =>
        cases n with
        | none => cases h
        | some n => cases h; exact hn k o n

theorem Exportable.exportEntry {e : E} (h : Exportable e) : ∃ a, exportEntry e = some a := by
  cases e with
  | tooComplex k => exact h.elim
  | unknown => exact h.elim
  | objAttr k x =>
    cases x with
    | unknown => exact h.elim
    | size o n => exact ⟨_, rfl⟩
    | info nm o n => exact ⟨_, rfl⟩
    | name o n =>
      cases o with
      | none => exact h.elim
      | some o =>
        cases n with
        | none => exact h.elim
        | some n => exact ⟨_, rfl⟩

theorem buildEntry_full (t d i aty o n : Bytes) (nm : Option Bytes) (ht : atoiC t = 0) (hnm : atoiC aty = 2 → nm ≠ none) :
    buildEntry ⟨some t, some d, some i, some aty, nm, some o, some n⟩ =
      some (.objAttr (atoiC d, atouC i) (buildAttr (atoiC aty) nm o n)) := by
  simp only [buildEntry, ht, ne_eq, not_true_eq_false, if_false]
  rw [if_neg (fun h => hnm h.1 h.2)]

theorem importOne_hdr (k : Key) (hk : KeyInRange k) (t : Int) (ht : 0 ≤ t ∧ t ≤ 2) (tail : List (AK × Bytes))
    (nm : Option Bytes) (o n : Bytes) (hnm : t = 2 → nm ≠ none)
    (htail : (hdr k t ++ tail).foldl (fun s p => s.put p.2 p.1) Slots.empty =
      ⟨some (printInt 0), some (printInt k.1), some (decDigits k.2), some (printInt t), nm, some o, some n⟩) :
    importOne (kattrs (hdr k t ++ tail)) = some (some (.objAttr k (buildAttr t nm o n))) := by
  have et : atoiC (printInt t) = t := atoiC_printInt t (by omega) (by omega)
  rw [importOne, slotsLoop_kattrs, htail, Option.map_some,
    buildEntry_full _ _ _ _ _ _ _ (atoiC_printInt 0 (by decide) (by decide)) (by rw [et]; exact hnm), et,
    atoiC_printInt k.1 hk.1 hk.2.1, atouC_decDigits k.2 hk.2.2]

theorem importOne_exportEntry (e : E) (h : Exportable e) : ∃ a, exportEntry e = some a ∧ importOne a = some (some e) := by
  obtain ⟨a, ha⟩ := h.exportEntry
  refine ⟨a, ha, ?_⟩
  revert h
  refine exportEntry_cases (P := fun e a => Exportable e → importOne a = some (some e)) ?_ ?_ ?_ ha
  · intro k o n hk
    rw [importOne_hdr k hk 0 (by decide) _ none _ _ (by decide) rfl]
    simp only [buildAttr, if_true, strtoull0_decDigits _ o.isLt, strtoull0_decDigits _ n.isLt, BitVec.ofNat_toNat, BitVec.setWidth_eq]
  · intro k o n hk
    exact importOne_hdr k hk 1 (by decide) _ none o n (by decide) rfl
  · intro k nm o n hk
    exact importOne_hdr k hk 2 (by decide) _ (some nm) o n (fun _ => nofun) rfl

/-! ### lists -/

theorem exportEls_cons {e : E} {r : List E} {els : List (Bytes × AttrL)} (h : exportEls (e :: r) = some els) :
    ∃ a l, exportEntry e = some a ∧ exportEls r = some l ∧ els = (nmDiff, a) :: l := by
  rw [exportEls] at h
  cases ha : exportEntry e with
  | none => rw [ha] at h; cases h
  | some a =>
    cases hr : exportEls r with
    | none => rw [ha, hr] at h; cases h
    | some l => rw [ha, hr] at h; exact ⟨a, l, rfl, rfl, (Option.some.inj h).symm⟩

theorem exportDoc_ok {ref : Option Bytes} {l : List E} {d : Doc} (h : exportDoc ref l = .ok d) :
    ∃ els, exportEls l = some els ∧ d = { root := rootAttrs ref, els := els } := by
  unfold exportDoc at h
  refine ite_cases (P := fun x => x = Exported.ok d → _) nofun (fun _ h => ?_) h
  cases hels : exportEls l with
  | none => rw [hels] at h; cases h
  | some els => rw [hels] at h; exact ⟨els, rfl, (Exported.ok.inj h).symm⟩

theorem exportable_not_tc (e : E) (h : Exportable e) : e.isTC = false := by
  cases e with
  | tooComplex k => exact absurd h (by simp [Exportable])
  | unknown => rfl
  | objAttr k a => rfl

theorem any_tc_false (l : List E) (h : ∀ e ∈ l, Exportable e) : l.any Entry.isTC = false := by
  rw [List.any_eq_false]
  intro e he
  rw [exportable_not_tc e (h e he)]
  simp

theorem importEls_exportEls : ∀ (l : List E), (∀ e ∈ l, Exportable e) →
    ∃ els, exportEls l = some els ∧ els.length = l.length ∧ ∀ acc, importEls acc els = (true, acc ++ l)
  | [], _ => ⟨[], rfl, rfl, fun acc => by simp [importEls]⟩
  | e :: r, h => by
    obtain ⟨a, ha, hi⟩ := importOne_exportEntry e (h e (by simp))
    obtain ⟨els, hels, hlen, himp⟩ := importEls_exportEls r (fun x hx => h x (by simp [hx]))
    refine ⟨(nmDiff, a) :: els, by simp [exportEls, ha, hels], by simp [hlen], ?_⟩
    intro acc
    simp only [importEls, ne_eq, not_true_eq_false, if_false, hi, himp]
    simp

theorem rootLoop_rootAttrs (ref : Option Bytes) : rootLoop none (rootAttrs ref) = some ref := by
  cases ref <;> simp [rootAttrs, rootLoop]

theorem roundtrip_nolibxml (ref : Option Bytes) (l : List E) (h : ∀ e ∈ l, Exportable e) :
    ∃ d, exportDoc ref l = .ok d ∧ importDoc .nolibxml d = ⟨0, l, ref, []⟩ := by
  obtain ⟨els, hels, _, himp⟩ := importEls_exportEls l h
  refine ⟨{ root := rootAttrs ref, els := els }, by simp [exportDoc, any_tc_false l h, hels], ?_⟩
  simp [importDoc, parse, rootLoop_rootAttrs, himp]

/-! ### libxml2: what the exporter writes has no repeated attribute name -/

theorem AK.name_inj {k k' : AK} (h : k.name = k'.name) : k = k' :=
  Option.some.inj (by rw [← attrKind_name k, h, attrKind_name])

theorem kattrs_wellFormed {l : List (AK × Bytes)} (h : (l.map (·.1)).Nodup) : attrsWellFormed (kattrs l) = true := by
  have : (kattrs l).map (·.1) = (l.map (·.1)).map AK.name := by simp [kattrs]
  rw [attrsWellFormed, this, decide_eq_true_eq]
  exact h.map _ fun _ _ hne e => hne (AK.name_inj e)

theorem exportEntry_wellFormed (e : E) (a : AttrL) (h : exportEntry e = some a) : attrsWellFormed a = true :=
  exportEntry_cases (P := fun _ a => attrsWellFormed a = true)
    (fun _ _ _ => kattrs_wellFormed (show [AK.type, .depth, .index, .atype, .aindex, .old, .new].Nodup by decide))
    (fun _ _ _ => kattrs_wellFormed (show [AK.type, .depth, .index, .atype, .old, .new].Nodup by decide))
    (fun _ _ _ _ => kattrs_wellFormed (show [AK.type, .depth, .index, .atype, .aname, .old, .new].Nodup by decide)) h

theorem exportEls_wellFormed : ∀ (l : List E) (els : List (Bytes × AttrL)), exportEls l = some els →
    els.all (fun e => attrsWellFormed e.2) = true
  | [], els, h => by cases h; rfl
  | e :: r, els, h => by
    obtain ⟨a, l', ha, hr, rfl⟩ := exportEls_cons h
    simp [exportEntry_wellFormed e a ha, exportEls_wellFormed r l' hr]

theorem rootAttrs_wellFormed (ref : Option Bytes) : attrsWellFormed (rootAttrs ref) = true := by
  cases ref <;> simp [rootAttrs, attrsWellFormed]

theorem parse_exportDoc (be : Backend) (ref : Option Bytes) (l : List E) (d : Doc) (h : exportDoc ref l = .ok d) :
    parse be d = some d := by
  cases be with
  | nolibxml => rfl
  | libxml =>
    obtain ⟨els, hels, rfl⟩ := exportDoc_ok h
    simp [parse, rootAttrs_wellFormed, exportEls_wellFormed l els hels]

theorem roundtrip (be : Backend) (ref : Option Bytes) (l : List E) (h : ∀ e ∈ l, Exportable e) :
    ∃ d, exportDoc ref l = .ok d ∧ importDoc be d = ⟨0, l, ref, []⟩ := by
  obtain ⟨d, hd, hi⟩ := roundtrip_nolibxml ref l h
  refine ⟨d, hd, ?_⟩
  have hp := parse_exportDoc be ref l d hd
  have hp0 := parse_exportDoc .nolibxml ref l d hd
  unfold importDoc at hi ⊢
  rw [hp]
  rw [hp0] at hi
  exact hi

/-! ### arbitrary documents: no partial state, order -/

theorem importDoc_cases (be : Backend) (d : Doc) :
    ((importDoc be d).ret = 0 ∧ (importDoc be d).freed = [] ∧ (importDoc be d).diff = linked be d) ∨
    ((importDoc be d).ret = -1 ∧ (importDoc be d).diff = [] ∧ (importDoc be d).ref = none ∧ (importDoc be d).freed = linked be d) := by
  cases hp : parse be d with
  | none => right; simp [importDoc, linked, hp, Loaded.fail]
  | some d' =>
    cases hr : rootLoop none d'.root with
    | none => right; simp [importDoc, linked, hp, hr, Loaded.fail]
    | some ref =>
      cases h : importEls [] d'.els with
      | mk b l =>
        cases b with
        | true => left; simp [importDoc, linked, hp, hr, h]
        | false => right; simp [importDoc, linked, hp, hr, h, Loaded.fail]

theorem importEls_order : ∀ (els : List (Bytes × AttrL)) (acc : List E),
    ∃ pre suf, els = pre ++ suf ∧ (importEls acc els).2 = acc ++ pre.filterMap elEntry ∧ ((importEls acc els).1 = true → suf = [])
  | [], acc => ⟨[], [], rfl, by simp [importEls], fun _ => rfl⟩
  | el :: r, acc => by
    unfold importEls
    by_cases htag : el.1 ≠ nmDiff
    · rw [if_pos htag]
      exact ⟨[], el :: r, rfl, by simp, by simp⟩
    · rw [if_neg htag]
      cases h1 : importOne el.2 with
      | none => exact ⟨[], el :: r, rfl, by simp, by simp⟩
      | some oe =>
        cases oe with
        | none =>
          obtain ⟨pre, suf, e1, e2, e3⟩ := importEls_order r acc
          refine ⟨el :: pre, suf, by simp [e1], ?_, e3⟩
          simp [e2, elEntry, h1]
        | some e =>
          obtain ⟨pre, suf, e1, e2, e3⟩ := importEls_order r (acc ++ [e])
          refine ⟨el :: pre, suf, by simp [e1], ?_, e3⟩
          simp [e2, elEntry, h1]

theorem importEls_ok (els : List (Bytes × AttrL)) (acc out : List E) (h : importEls acc els = (true, out)) :
    out = acc ++ els.filterMap elEntry := by
  obtain ⟨pre, suf, e1, e2, e3⟩ := importEls_order els acc
  rw [h] at e2 e3
  have := e3 rfl
  subst this
  simp at e1
  subst e1
  exact e2

theorem parse_some (be : Backend) (d d' : Doc) (h : parse be d = some d') : d' = d := by
  cases be with
  | nolibxml => simp [parse] at h; exact h.symm
  | libxml =>
    simp only [parse] at h
    split at h
    · simp at h; exact h.symm
    · cases h

theorem importDoc_ok_order (be : Backend) (d : Doc) (h : (importDoc be d).ret = 0) :
    (importDoc be d).diff = d.els.filterMap elEntry := by
  unfold importDoc at h ⊢
  cases hp : parse be d with
  | none => simp [hp, Loaded.fail] at h
  | some d' =>
    have := parse_some be d d' hp
    subst this
    simp only [hp] at h ⊢
    cases hr : rootLoop none d'.root with
    | none => simp [hr, Loaded.fail] at h
    | some ref =>
      simp only [hr] at h ⊢
      cases he : importEls [] d'.els with
      | mk b l =>
        cases b with
        | false => simp [he, Loaded.fail] at h
        | true =>
          simp only []
          have := importEls_ok d'.els [] l he
          simpa using this

theorem exportEls_positional : ∀ (l : List E) (els : List (Bytes × AttrL)), exportEls l = some els →
    l.map exportEntry = els.map (fun el => some el.2) ∧ ∀ el ∈ els, el.1 = nmDiff
  | [], els, h => by cases h; simp
  | e :: r, els, h => by
    obtain ⟨a, l', ha, hr, rfl⟩ := exportEls_cons h
    obtain ⟨h1, h2⟩ := exportEls_positional r l' hr
    refine ⟨by simp [ha, h1], fun el hel => ?_⟩
    rcases List.mem_cons.mp hel with rfl | hel
    · rfl
    · exact h2 el hel

/-! ### through the bytes of the start tags (nolibxml) -/

theorem rescanAttrs_good (a : AttrL) (h : GoodAttrs a) : rescanAttrs a = a :=
  scanAttrs_renderAttrs a (a.length + 1) (by omega) h

/-! `GoodAttrs` and `NulFree` unfold to the same propositions as `XmlObj.AllOk` and `XmlObj.NZ`: the rule set `xml_ok` (Hw.Io.XmlOk)
    applies to them. -/

theorem nameOk_ak (k : AK) : XmlObj.NameOk k.name := (AK.name_spec k k.mem_all).2

theorem exportEntry_good (e : E) (a : AttrL) (hn : EntryNulFree e) (h : exportEntry e = some a) : GoodAttrs a := by
  revert hn
  refine exportEntry_cases (P := fun e a => EntryNulFree e → XmlObj.AllOk a) ?_ ?_ ?_ h
  · intro k o n _
    simp only [kattrs, hdr, List.map, List.cons_append, List.nil_append, xml_ok, nameOk_ak]
  · intro k o n hn
    have hn' : XmlObj.NZ o ∧ XmlObj.NZ n := hn
    simp only [kattrs, hdr, List.map, List.cons_append, List.nil_append, xml_ok, nameOk_ak, hn']
  · intro k nm o n hn
    have hn' : XmlObj.NZ nm ∧ XmlObj.NZ o ∧ XmlObj.NZ n := hn
    simp only [kattrs, hdr, List.map, List.cons_append, List.nil_append, xml_ok, nameOk_ak, hn']

theorem name_refname : ∀ c ∈ nmRefname, isAttrNameChar c = true := by decide +kernel

theorem exportEls_rescan : ∀ (l : List E) (els : List (Bytes × AttrL)), (∀ e ∈ l, EntryNulFree e) → exportEls l = some els →
    els.map (fun e => (e.1, rescanAttrs e.2)) = els
  | [], els, _, h => by cases h; rfl
  | e :: r, els, hn, h => by
    obtain ⟨a, l', ha, hr, rfl⟩ := exportEls_cons h
    rw [List.map_cons, rescanAttrs_good a (exportEntry_good e a (hn e (by simp)) ha),
      exportEls_rescan r l' (fun x hx => hn x (by simp [hx])) hr]

theorem rescan_exportDoc (ref : Option Bytes) (l : List E) (d : Doc) (hr : ∀ r, ref = some r → NulFree r)
    (hn : ∀ e ∈ l, EntryNulFree e) (h : exportDoc ref l = .ok d) : rescan d = d := by
  obtain ⟨els, hels, rfl⟩ := exportDoc_ok h
  have hroot : rescanAttrs (rootAttrs ref) = rootAttrs ref := by
    cases ref with
    | none => exact rescanAttrs_good _ nofun
    | some r => exact rescanAttrs_good _ fun x hx => by cases List.mem_singleton.1 hx; exact ⟨name_refname, hr r rfl⟩
  show ({ root := rescanAttrs (rootAttrs ref), els := els.map fun e => (e.1, rescanAttrs e.2) } : Doc) = _
  rw [hroot, exportEls_rescan l els hn hels]

end Hw.XmlDiff
