/-
  Hw.Io.SyntheticIndexes — hwloc_synthetic_process_indexes (`processIndexes` of Hw.Io.Synthetic) taken apart: every write to
  the malloc'ed `loops[]` is inside its `nr_loops + 1` slots (each notation parser makes at most one entry per ':' of the text),
  the walks over `level[]` end at the first slot of arity 0 (`Upto`; so they read initialised slots only, the last one having
  arity 0), with positive non-decreasing widths the only error left is the failed `assert(nbs)`, and an accepted `indexes=`
  attribute yields one entry per object without duplicates: a permutation for the two interleaving notations, the list as
  written for an explicit one.

  `processIndexes_cases` lists the outcomes once, under any predicate; the facts above are read off it, but the last, which is
  about `explicitLoop` alone (`explicitLoop_printList`).
-/
import Hw.Io.Synthetic
import Hw.Base.NumLemmas
import Hw.Base.Cases
import Hw.Base.ListLemmas
namespace Hw.Syn
open Hw Hw.Topo

/-! ### pointers returned by the libc models are suffixes of their argument -/

theorem strtoCore_eq (base : Nat) (s : Bytes) : strtoCore base s =
    if (strtoBody base s).2.1 = 0 then none else some ((strtoBody base s).1, (strtoBody base s).2.2) := rfl

theorem strtoCore_suffix (base : Nat) (s : Bytes) (v : Nat) (r : Bytes) (h : strtoCore base s = some (v, r)) :
    r <:+ s := by
  rw [strtoCore_eq] at h
  split at h
  · cases h
  · cases h; exact strtoBody_suffix base s

theorem strtolU32_suffix (base : Nat) (s : Bytes) : (strtolU32 base s).2 <:+ s := by
  unfold strtolU32
  dsimp only
  split
  · exact List.suffix_refl _
  · rename_i v rest hc
    have hr : rest <:+ s := by
      refine ((strtoCore_suffix base _ v rest hc).trans ?_).trans (List.dropWhile_suffix isSpace)
      split
      · rename_i heq; rw [heq]; exact List.suffix_cons _ _
      · rename_i heq; rw [heq]; exact List.suffix_cons _ _
      · exact List.suffix_refl _
    have e : ∀ (c : Prop) [Decidable c] (a b : Nat), (if c then (a, rest) else (b, rest)).2 = rest := by
      intro c _ a b; split <;> rfl
    rw [e]; exact hr

theorem strchr_some (c : Byte) (s r : Bytes) (h : strchr c s = some r) : ∃ pre t, pre ++ c :: t = s ∧ r = c :: t := by
  induction s with
  | nil => simp [strchr] at h
  | cons x xs ih =>
    unfold strchr at h
    split at h
    · rename_i hx; subst hx; cases h; exact ⟨[], xs, rfl, rfl⟩
    · obtain ⟨pre, t, e, hr⟩ := ih h
      exact ⟨x :: pre, t, congrArg (x :: ·) e, hr⟩

/-! ### counting ':' -/

theorem countColons_nil (m : Nat) : countColons [] m = 0 := by simp [countColons]

theorem countColons_append_colon (pre r : Bytes) (m : Nat) (h : pre.length + 1 ≤ m) :
    1 + countColons r (m - (pre.length + 1)) ≤ countColons (pre ++ 58 :: r) m := by
  obtain ⟨k, rfl⟩ := Nat.exists_eq_add_of_le h
  unfold countColons
  rw [Nat.add_sub_cancel_left, Nat.add_assoc, List.take_length_add_append, Nat.add_comm 1 k, List.take_succ_cons,
    List.filter_append, List.length_append, List.filter_cons_of_pos rfl, List.length_cons]
  omega

theorem countColons_succ_le (s : Bytes) (m : Nat) : countColons s (m + 1) ≤ countColons s m + 1 := by
  unfold countColons
  rw [List.take_add_one, List.filter_append, List.length_append]
  cases s[m]? with
  | none => simp
  | some c => simp only [Option.toList_some, List.filter_cons, List.filter_nil]; split <;> simp

/-! ### every write to `loops[]` is inside the allocation of `nr_loops + 1` slots -/

theorem strtolU32_nil : strtolU32 0 [] = (0, []) := by decide

theorem xyLoop_nil (cap total fuel m nbs : Nat) (acc : List ILoop) : xyLoop cap total fuel [] m nbs acc = .fail := by
  cases fuel with
  | zero => simp [xyLoop]
  | succ f => simp [xyLoop, strtolU32_nil]

theorem xyLoop_succ_cases {P : XY → Prop} {cap total fuel : Nat} {s : Bytes} {m nbs : Nat} {acc : List ILoop}
    (hfail : P .fail) (hover : cap ≤ acc.length → P (.err .loopsOverflow))
    (hok : ∀ step nb, nb ≠ 0 → nbs * nb ≤ total → acc.length < cap → P (.ok (acc ++ [⟨step, nb⟩])))
    (hnext : ∀ step nb pre r, nb ≠ 0 → nbs * nb ≤ total → acc.length < cap → s = pre ++ 58 :: r → pre.length + 1 < m →
      P (xyLoop cap total fuel r (m - (pre.length + 1)) ((nbs * nb) % u64) (acc ++ [⟨step, nb⟩]))) :
    P (xyLoop cap total (fuel + 1) s m nbs acc) := by
  unfold xyLoop
  have hsuf2 := strtolU32_suffix 0 s
  generalize strtolU32 0 s = p at hsuf2
  obtain ⟨step, t2⟩ := p
  refine ite_cases (fun _ => hfail) (fun hne => ?_)
  split
  · rename_i t2'
    refine ite_cases (fun _ => hfail) (fun _ => ?_)
    have hsuf3 := strtolU32_suffix 0 t2'
    generalize strtolU32 0 t2' = q at hsuf3
    obtain ⟨nb, t3⟩ := q
    refine ite_cases (fun _ => hfail) (fun _ => ?_)
    refine ite_cases (fun _ => hfail) (fun hc3 => ?_)
    refine ite_cases (fun _ => hfail) (fun hnb => ?_)
    refine ite_cases (fun _ => hfail) (fun hle => ?_)
    -- `nb ≤ total / nbs` is `nbs * nb ≤ total`
    have hle := Nat.mul_comm nb nbs ▸ Nat.mul_le_of_le_div nbs nb total (Nat.le_of_not_gt hle)
    refine ite_cases (fun h => hover h) (fun hcap => ?_)
    refine ite_cases (fun _ => hok step nb hnb hle (by omega)) (fun hclose => ?_)
    refine ite_cases (fun _ => hfail) (fun hm => ?_)
    have hsuf : t3 <:+ s := (hsuf3.trans (List.suffix_cons 42 t2')).trans hsuf2
    cases t3 with
    | nil => rw [List.drop_nil, xyLoop_nil]; exact hfail
    | cons c r =>
      -- the byte after the pair is none of ')' and ' ', so it is the ':'
      have hc : c = 58 := by
        simp only [List.head?_cons, Option.isSome_some, Bool.true_and, Bool.and_eq_true, bne_iff_ne, ne_eq, Option.some.injEq,
          not_and, Decidable.not_not, and_imp, not_or] at hc3 hclose
        exact Classical.not_not.1 fun h => hclose.2 (hc3 h hclose.1)
      subst hc
      obtain ⟨pre, rfl⟩ := hsuf
      rw [List.length_append, Nat.add_sub_cancel] at hm ⊢
      exact hnext step nb pre r hnb hle (by omega) rfl (by omega)
  · exact hfail

/-- the product of the loop counts as hwloc_synthetic_process_indexes accumulates it -/
def nbsOf (loops : List ILoop) : Nat := loops.foldl (fun p l => (p * l.nb) % u64) 1

theorem nbsOf_snoc (acc : List ILoop) (x : ILoop) : nbsOf (acc ++ [x]) = (nbsOf acc * x.nb) % u64 := by
  simp [nbsOf, List.foldl_append]

/-- what a run of the `x*y:` parser guarantees.  Its only error is the guarded write past `loops[]`, which needs more
pairs than `cap` slots, and there is at most one pair per ':' of the text still to read.  F69: every accepted pair keeps
`nbs * nb ≤ total`, so the product of the counts never wraps and is never 0. -/
def XYPost (cap total : Nat) (s : Bytes) (m nbs : Nat) (acc : List ILoop) (r : XY) : Prop :=
  (∀ e, r = .err e → e = .loopsOverflow ∧ cap ≤ acc.length + countColons s m) ∧
  (∀ loops, r = .ok loops → total < u64 → nbsOf acc = nbs → 1 ≤ nbs → 1 ≤ nbsOf loops ∧ nbsOf loops ≤ total)

theorem xyLoop_spec (cap total : Nat) : ∀ (fuel : Nat) (s : Bytes) (m nbs : Nat) (acc : List ILoop),
    XYPost cap total s m nbs acc (xyLoop cap total fuel s m nbs acc) := by
  intro fuel
  induction fuel with
  | zero => intro s m nbs acc; exact ⟨nofun, nofun⟩
  | succ f ih =>
    intro s m nbs acc
    have hmul : ∀ nb, nb ≠ 0 → nbs * nb ≤ total → total < u64 → 1 ≤ nbs → (nbs * nb) % u64 = nbs * nb ∧ 1 ≤ nbs * nb :=
      fun nb h0 hm ht h1 => ⟨Nat.mod_eq_of_lt (by omega), Nat.mul_pos h1 (by omega)⟩
    refine xyLoop_succ_cases ⟨nofun, nofun⟩ (fun hc => ⟨fun e he => ?_, nofun⟩)
      (fun step nb h0 hle _ => ⟨nofun, fun loops hl ht hacc h1 => ?_⟩)
      (fun step nb pre r h0 hle _ hs hm => ⟨fun e he => ?_, fun loops hl ht hacc h1 => ?_⟩)
    · cases he; exact ⟨rfl, Nat.le_add_right_of_le hc⟩
    · cases hl
      obtain ⟨e1, e2⟩ := hmul nb h0 hle ht h1
      rw [nbsOf_snoc, hacc, e1]; exact ⟨e2, hle⟩
    · obtain ⟨rfl, hcap⟩ := (ih _ _ _ _).1 e he
      have hcc := countColons_append_colon pre r m (Nat.le_of_lt hm)
      rw [List.length_append, List.length_singleton, Nat.add_assoc] at hcap
      rw [hs]
      exact ⟨rfl, Nat.le_trans hcap (Nat.add_le_add_left hcc _)⟩
    · obtain ⟨e1, e2⟩ := hmul nb h0 hle ht h1
      exact (ih _ _ _ _).2 loops hl ht (by rw [nbsOf_snoc, hacc]) (by rw [e1]; exact e2)

/-- the loop above `my` that `tyCompute` looks for: the start value, or one of `depths` below `my` -/
theorem prev_cases (my : Nat) : ∀ (depths : List Nat) (p : Nat),
    depths.foldl (fun p d => if d < my ∧ d > p then d else p) p = p ∨
    (depths.foldl (fun p d => if d < my ∧ d > p then d else p) p ∈ depths ∧
      depths.foldl (fun p d => if d < my ∧ d > p then d else p) p < my) := by
  intro depths
  induction depths with
  | nil => intro p; exact Or.inl rfl
  | cons d ds ih =>
    intro p
    rw [List.foldl_cons]
    rcases ih (if d < my ∧ d > p then d else p) with h | h
    · rw [h]
      split
      · rename_i hd; exact Or.inr ⟨List.mem_cons_self, hd.1⟩
      · exact Or.inl rfl
    · exact Or.inr ⟨List.mem_cons_of_mem _ h.1, h.2⟩

theorem tyCompute_cons_cases {P : TYC × Log → Prop} {levels : List Level} {total : Nat} {depths : List Nat} {my : Nat}
    {rest : List Nat} {k : Nat} {loops : List ILoop} {minstep nbs : Nat} {log : Log}
    (hdup : P (.fail, log))
    (h : ∀ prev, prev = 0 ∨ (prev ∈ depths ∧ prev < my) →
      P (.fail, prev :: my :: my :: my :: log) ∧
      ((lvAt levels my).width = 0 ∨ (lvAt levels prev).width = 0 → P (.err .divzero, prev :: my :: my :: my :: log)) ∧
      ((lvAt levels my).width ≤ total → ((lvAt levels my).width / (lvAt levels prev).width) % u32 = 0 ∨
          (total / (lvAt levels my).width) % u32 = 0 → P (.err .abort, prev :: my :: my :: my :: log)) ∧
      P (tyCompute levels total depths rest (k + 1)
          (loops ++ [⟨(total / (lvAt levels my).width) % u32, ((lvAt levels my).width / (lvAt levels prev).width) % u32⟩])
          (min minstep ((total / (lvAt levels my).width) % u32))
          ((nbs * (((lvAt levels my).width / (lvAt levels prev).width) % u32)) % u64) (prev :: my :: my :: my :: log))) :
    P (tyCompute levels total depths (my :: rest) k loops minstep nbs log) := by
  obtain ⟨h1, h2, h3, h4⟩ := h _ (prev_cases my depths 0)
  unfold tyCompute
  refine ite_cases (fun _ => hdup) (fun _ => ?_)
  refine ite_cases (fun _ => h1) (fun hle => ?_)
  refine ite_cases (fun hz => h2 hz) (fun _ => ?_)
  exact ite_cases (fun hab => h3 (by omega) hab) (fun _ => h4)

theorem tyCompute_no_overflow (levels : List Level) (total : Nat) (depths : List Nat) :
    ∀ (rest : List Nat) (k : Nat) (loops : List ILoop) (minstep nbs : Nat) (log : Log),
    (tyCompute levels total depths rest k loops minstep nbs log).1 ≠ .err .loopsOverflow := by
  intro rest
  induction rest with
  | nil => intro k loops minstep nbs log; simp [tyCompute]
  | cons my rest ih =>
    intro k loops minstep nbs log
    exact tyCompute_cons_cases (P := fun r => r.1 ≠ .err .loopsOverflow) nofun
      (fun _ _ => ⟨nofun, fun _ => nofun, fun _ _ => nofun, ih _ _ _ _ _⟩)

/-! ### the walks over `level[]` end at the first slot of arity 0 -/

/-- `i` is at or before every slot of arity 0.  The walks over `level[]` go up from slot 0 and end at the first slot of arity 0:
`Upto` holds of every index they use, and `Upto levels (d + 1)` of a level `d` they find, whose arity is not 0. -/
def Upto (levels : List Level) (i : Nat) : Prop := ∀ z, (lvAt levels z).arity = 0 → i ≤ z

theorem scanLevels_spec (levels : List Level) (t : TypeRes) :
    ∀ (fuel i : Nat) (log : Log), Upto levels i → (∀ j ∈ log, Upto levels j) →
    (∀ j ∈ (scanLevels levels t fuel i log).2, Upto levels j) ∧
    ∀ d, (scanLevels levels t fuel i log).1 = some d → Upto levels (d + 1) := by
  intro fuel
  induction fuel with
  | zero => intro i log _ hl; exact ⟨hl, nofun⟩
  | succ f ih =>
    intro i log hi hl
    unfold scanLevels
    simp only
    have hlog : ∀ j ∈ i :: log, Upto levels j := List.forall_mem_cons.2 ⟨hi, hl⟩
    let Q : Option Nat × Log → Prop := fun r => (∀ j ∈ r.2, Upto levels j) ∧ ∀ d, r.1 = some d → Upto levels (d + 1)
    refine ite_pred Q (fun _ => ⟨hlog, nofun⟩) (fun har => ?_)
    have hi1 : Upto levels (i + 1) := fun z hz => Nat.lt_of_le_of_ne (hi z hz) (fun e => har (e ▸ hz))
    exact ite_pred Q (fun _ => ⟨hlog, fun d hd => Option.some.inj hd ▸ hi1⟩) (fun _ => ih (i + 1) (i :: log) hi1 hlog)

theorem tyLoop_succ_cases {P : TY × Log → Prop} {levels : List Level} {cap len fuel : Nat} {s : Bytes} {off : Nat}
    {acc : List Nat} {log : Log} (hfail : P (.fail, log))
    (hscan : ∀ t log', log' = (scanLevels levels t (maxDepth + 1) 0 log).2 →
      P (.fail, log') ∧ (cap ≤ acc.length → P (.err .loopsOverflow, log')) ∧
      ∀ d, (scanLevels levels t (maxDepth + 1) 0 log).1 = some d → acc.length < cap →
        P (.ok (acc ++ [d]), log') ∧
        ∀ pre r, s = pre ++ 58 :: r → off + pre.length ≤ len →
          P (tyLoop levels cap len fuel r (off + pre.length + 1) (acc ++ [d]) log')) :
    P (tyLoop levels cap len (fuel + 1) s off acc log) := by
  unfold tyLoop
  split
  · exact hfail
  · rename_i t _
    refine ite_cases (fun _ => hfail) (fun _ => ?_)
    obtain ⟨h1, h2, h3⟩ := hscan t _ rfl
    generalize scanLevels levels t (maxDepth + 1) 0 log = sc at h1 h2 h3
    obtain ⟨r, log'⟩ := sc
    dsimp only at h1 h2 h3 ⊢
    refine ite_cases (fun hc => h2 hc) (fun hc => ?_)
    cases r with
    | none => exact h1
    | some d =>
      obtain ⟨h4, h5⟩ := h3 d rfl (by omega)
      dsimp only
      split
      · exact h4
      · rename_i c hc
        refine ite_cases (fun _ => h4) (fun ho => ?_)
        obtain ⟨pre, r', rfl, rfl⟩ := strchr_some 58 s c hc
        rw [List.length_append, Nat.add_sub_cancel] at ho ⊢
        exact h5 pre r' rfl (by omega)

/-- As for the `x*y:` parser: the guarded write needs more types than `cap` slots, and there is at most one type per ':'
of the text still to read.  The walk over the levels ends at the first slot of arity 0. -/
def TYPost (levels : List Level) (cap len : Nat) (s : Bytes) (off : Nat) (acc : List Nat) (r : TY × Log) : Prop :=
  (∀ e, r.1 = .err e → e = .loopsOverflow ∧ cap ≤ acc.length + countColons s (len + 1 - off)) ∧
  (∀ j ∈ r.2, Upto levels j) ∧ ∀ ds, r.1 = .ok ds → ∀ d ∈ ds, Upto levels (d + 1)

theorem TYPost_fail {levels : List Level} {cap len : Nat} {s : Bytes} {off : Nat} {acc : List Nat} {log : Log}
    (hl : ∀ j ∈ log, Upto levels j) : TYPost levels cap len s off acc (.fail, log) := ⟨nofun, hl, nofun⟩

theorem tyLoop_spec (levels : List Level) (cap len : Nat) : ∀ (fuel : Nat) (s : Bytes) (off : Nat) (acc : List Nat) (log : Log),
    (∀ j ∈ log, Upto levels j) → (∀ d ∈ acc, Upto levels (d + 1)) →
    TYPost levels cap len s off acc (tyLoop levels cap len fuel s off acc log) := by
  intro fuel
  induction fuel with
  | zero => intro s off acc log hl _; exact TYPost_fail hl
  | succ f ih =>
    intro s off acc log hl hacc
    refine tyLoop_succ_cases (TYPost_fail hl) (fun t log' hlog' => ?_)
    obtain ⟨hl', hsc⟩ : (∀ j ∈ log', Upto levels j) ∧ ∀ d, (scanLevels levels t (maxDepth + 1) 0 log).1 = some d → Upto levels (d + 1) :=
      hlog' ▸ scanLevels_spec levels t (maxDepth + 1) 0 log (fun _ _ => Nat.zero_le _) hl
    refine ⟨TYPost_fail hl', fun hc => ⟨fun e he => by cases he; exact ⟨rfl, Nat.le_add_right_of_le hc⟩, hl', nofun⟩, fun d hd hc => ?_⟩
    have hacc' : ∀ x ∈ acc ++ [d], Upto levels (x + 1) :=
      List.forall_mem_append.2 ⟨hacc, List.forall_mem_singleton.2 (hsc d hd)⟩
    refine ⟨⟨nofun, hl', fun ds hds => by cases hds; exact hacc'⟩, fun pre r hs ho => ?_⟩
    obtain ⟨h1, h2⟩ := ih r (off + pre.length + 1) _ _ hl' hacc'
    refine ⟨fun e he => ?_, h2⟩
    obtain ⟨rfl, hcap⟩ := h1 e he
    have hcc := countColons_append_colon pre r (len + 1 - off) (by omega)
    rw [List.length_append, List.length_singleton, Nat.add_assoc off, Nat.sub_add_eq, Nat.add_assoc] at hcap
    rw [hs]
    exact ⟨rfl, Nat.le_trans hcap (Nat.add_le_add_left hcc _)⟩

theorem tyCompute_log (levels : List Level) (total : Nat) (depths : List Nat) (hdep : ∀ d ∈ depths, Upto levels (d + 1)) :
    ∀ (rest : List Nat) (k : Nat) (loops : List ILoop) (minstep nbs : Nat) (log : Log),
    (∀ d ∈ rest, Upto levels (d + 1)) → (∀ j ∈ log, Upto levels j) →
    ∀ j ∈ (tyCompute levels total depths rest k loops minstep nbs log).2, Upto levels j := by
  intro rest
  induction rest with
  | nil => intro k loops minstep nbs log _ hl; simpa [tyCompute] using hl
  | cons my rest ih =>
    intro k loops minstep nbs log hrest hl
    have hmy : Upto levels my := fun z hz => Nat.le_of_succ_le (hrest my List.mem_cons_self z hz)
    refine tyCompute_cons_cases (P := fun r => ∀ j ∈ r.2, Upto levels j) hl (fun prev hp => ?_)
    have hprev : Upto levels prev := by
      rcases hp with rfl | h
      · exact fun _ _ => Nat.zero_le _
      · exact fun z hz => Nat.le_of_succ_le (hdep _ h.1 z hz)
    have hlog := List.forall_mem_cons.2 ⟨hprev, List.forall_mem_cons.2 ⟨hmy, List.forall_mem_cons.2 ⟨hmy,
      List.forall_mem_cons.2 ⟨hmy, hl⟩⟩⟩⟩
    exact ⟨hlog, fun _ => hlog, fun _ _ => hlog,
      ih _ _ _ _ _ (fun d hd => hrest d (List.mem_cons_of_mem _ hd)) hlog⟩

/-! ### no division by zero, no failed `assert(nb)` / `assert(step)` -/

theorem div_mod_ne_zero {a b M : Nat} (hb : 1 ≤ b) (hba : b ≤ a) (ha : a < M) : (a / b) % M ≠ 0 := by
  rw [Nat.mod_eq_of_lt (Nat.lt_of_le_of_lt (Nat.div_le_self a b) ha)]
  exact Nat.ne_of_gt (Nat.div_pos hba hb)

theorem tyCompute_no_err (levels : List Level) (total : Nat) (depths : List Nat)
    (hdep : ∀ d ∈ depths, d < levels.length)
    (hpos : ∀ j, j < levels.length → 1 ≤ (lvAt levels j).width)
    (hmono : ∀ i j, i ≤ j → j < levels.length → (lvAt levels i).width ≤ (lvAt levels j).width)
    (htot : total ≤ u32 - 1) :
    ∀ (rest : List Nat) (k : Nat) (loops : List ILoop) (minstep nbs : Nat) (log : Log) (e : Err),
    (∀ d ∈ rest, d < levels.length) → (tyCompute levels total depths rest k loops minstep nbs log).1 ≠ .err e := by
  intro rest
  induction rest with
  | nil => intro k loops minstep nbs log e _; simp [tyCompute]
  | cons my rest ih =>
    intro k loops minstep nbs log e hrest
    have hmy : my < levels.length := hrest my List.mem_cons_self
    have hwmy := hpos my hmy
    have htl : total < u32 := by unfold u32 at htot ⊢; omega
    refine tyCompute_cons_cases (P := fun r => r.1 ≠ .err e) nofun (fun prev hp => ?_)
    obtain ⟨hprev, hprevle⟩ : prev < levels.length ∧ prev ≤ my := by
      rcases hp with rfl | h
      · exact ⟨by omega, Nat.zero_le _⟩
      · exact ⟨hdep _ h.1, Nat.le_of_lt h.2⟩
    have hwprev := hpos prev hprev
    have hwle := hmono prev my hprevle hmy
    refine ⟨nofun, fun hz => by omega, fun hwt hab => ?_,
      ih _ _ _ _ _ e (fun d hd => hrest d (List.mem_cons_of_mem _ hd))⟩
    -- nb and step are in 1 .. 2^32 - 1
    rcases hab with h | h
    · exact absurd h (div_mod_ne_zero hwprev hwle (by omega))
    · exact absurd h (div_mod_ne_zero hwmy hwt htl)

theorem finishLoops_cases {P : Except Err (Option (List Nat)) → Prop} {total : Nat} {loops : List ILoop} {minstep nbs : Nat}
    (habort : nbs = 0 → P (.error .abort)) (hnone : P (.ok none))
    (hsome : ∀ ls, arrayOk total (genArray total ls) = true → P (.ok (some (genArray total ls)))) :
    P (finishLoops total loops minstep nbs) := by
  unfold finishLoops
  refine ite_cases habort (fun _ => ?_)
  dsimp only
  split
  · exact hnone
  · exact ite_cases (fun h => hsome _ h) (fun _ => hnone)

theorem finishLoops_err (total : Nat) (loops : List ILoop) (minstep nbs : Nat) (e : Err)
    (h : piOf (finishLoops total loops minstep nbs) = .err e) : e = .abort ∧ nbs = 0 :=
  finishLoops_cases (P := fun r => piOf r = .err e → e = .abort ∧ nbs = 0) (fun hn h => ⟨(PI.err.inj h).symm, hn⟩)
    nofun (fun _ _ => nofun) h

/-! ### hwloc_synthetic_process_indexes as a whole -/

/-- The guarded writes past `loops[]` of the two notation parsers are not among the outcomes: each needs more entries
than there are ':' in the text. -/
theorem processIndexes_cases {P : PI × Log → Prop} {levels : List Level} {ix : Idx} {total : Nat}
    (hnone : ix.str = none → P (.arr ix.arr, []))
    (hign : ∀ log, (∀ j ∈ log, Upto levels j) → P (.arr none, log))
    (hexp : ∀ s len a, ix.str = some (s, len) → spnDigComma s = len → explicitLoop total total s [] = some a →
      haveDuplicates a = false → P (.arr (some a), []))
    (hfin : ∀ s len loops ms nbs log, ix.str = some (s, len) → spnDigComma s ≠ len →
      (∀ j ∈ log, Upto levels j) → (isDig (s.head?.getD 0) = true → 1 ≤ nbs) →
      P (piOf (finishLoops total loops ms nbs), log))
    (herr : ∀ s len depths e log0 log, ix.str = some (s, len) → isDig (s.head?.getD 0) = false → total ≤ u32 - 1 →
      e ≠ .loopsOverflow → (∀ d ∈ depths, Upto levels (d + 1)) → (∀ j ∈ log, Upto levels j) →
      tyCompute levels total depths depths 0 [] (total % u32) 1 log0 = (.err e, log) → P (.err e, log)) :
    P (processIndexes levels ix total) := by
  have hnil : ∀ j ∈ ([] : Log), Upto levels j := nofun
  unfold processIndexes
  split
  · exact hnone ‹_›
  · rename_i s len hs
    refine ite_cases (fun _ => hign _ hnil) (fun htot => ?_)
    refine ite_cases (fun hsp => ?_) (fun hsp => ?_)
    · split
      · rename_i a he
        exact ite_cases (P := fun o => P (.arr o, [])) (fun _ => hign _ hnil) (fun hd => hexp s len a hs hsp he (by simpa using hd))
      · exact hign _ hnil
    · dsimp only
      refine ite_cases (fun hd => ?_) (fun hd => ?_)
      · have hxy := xyLoop_spec (1 + countColons s len + 1) total (s.length + 1) s len 1 []
        generalize xyLoop (1 + countColons s len + 1) total (s.length + 1) s len 1 [] = r at hxy
        cases r with
        | fail => exact hign _ hnil
        | err e => exact absurd ((hxy.1 e rfl).2) (by simp only [List.length_nil]; omega)
        | ok loops =>
          exact hfin s len _ _ _ [] hs hsp hnil
            (fun _ => (hxy.2 loops rfl (by unfold u32 at htot; unfold u64; omega) rfl (Nat.le_refl 1)).1)
      · have hty := tyLoop_spec levels (1 + countColons s len + 1) len (s.length + 1) s 0 [] [] nofun nofun
        generalize tyLoop levels (1 + countColons s len + 1) len (s.length + 1) s 0 [] [] = r at hty
        obtain ⟨ty, log⟩ := r
        obtain ⟨herr', hlog, hds⟩ := hty
        cases ty with
        | fail => exact hign log hlog
        | err e =>
          -- one more byte of the text holds at most one more ':'
          have h1 := (herr' e rfl).2
          have h2 := countColons_succ_le s len
          simp only [List.length_nil, Nat.sub_zero, Nat.zero_add] at h1
          omega
        | ok depths0 =>
          dsimp only
          have hdep : ∀ d ∈ depths0.take (1 + countColons s len), Upto levels (d + 1) :=
            fun d hd => hds depths0 rfl d (List.mem_of_mem_take hd)
          have hlog2 := tyCompute_log levels total _ hdep (depths0.take (1 + countColons s len)) 0 [] (total % u32) 1 log
            hdep hlog
          generalize hc : tyCompute levels total (depths0.take (1 + countColons s len)) (depths0.take (1 + countColons s len))
            0 [] (total % u32) 1 log = r2 at hlog2
          obtain ⟨tc, log2⟩ := r2
          cases tc with
          | fail => exact hign log2 hlog2
          | err e =>
            exact herr s len _ e log log2 hs (by simpa using hd) (by omega)
              (fun he => tyCompute_no_overflow _ _ _ _ _ _ _ _ _ (he ▸ congrArg Prod.fst hc)) hdep hlog2 hc
          | ok loops ms nbs => exact hfin s len loops ms nbs log2 hs hsp hlog2 (fun h => absurd h hd)

/-- **loops[] safety**: no run of hwloc_synthetic_process_indexes writes outside the `nr_loops+1` slots it allocated -/
theorem processIndexes_loops_safe (levels : List Level) (ix : Idx) (total : Nat) :
    (processIndexes levels ix total).1 ≠ .err .loopsOverflow := by
  exact processIndexes_cases (P := fun r => r.1 ≠ .err .loopsOverflow) (fun _ => nofun) (fun _ _ => nofun)
    (fun _ _ _ _ _ _ _ => nofun) (fun _ _ _ _ _ _ _ _ _ _ h => nomatch (finishLoops_err _ _ _ _ _ h).1)
    (fun _ _ _ _ _ _ _ _ _ he _ _ _ h => he (PI.err.inj h))

theorem processIndexes_upto (levels : List Level) (ix : Idx) (total : Nat) :
    ∀ j ∈ (processIndexes levels ix total).2, Upto levels j :=
  processIndexes_cases (P := fun r => ∀ j ∈ r.2, Upto levels j) (fun _ => nofun) (fun _ h => h)
    (fun _ _ _ _ _ _ _ => nofun) (fun _ _ _ _ _ _ _ _ h _ => h) (fun _ _ _ _ _ _ _ _ _ _ _ h _ => h)

def AllLt (n : Nat) (log : Log) : Prop := ∀ j ∈ log, j < n

theorem AllLt.nil (n : Nat) : AllLt n [] := by intro j h; cases h
theorem AllLt.cons {n i : Nat} {log : Log} (hi : i < n) (h : AllLt n log) : AllLt n (i :: log) :=
  List.forall_mem_cons.2 ⟨hi, h⟩
theorem AllLt.append {n : Nat} {a b : Log} (ha : AllLt n a) (hb : AllLt n b) : AllLt n (a ++ b) :=
  List.forall_mem_append.2 ⟨ha, hb⟩
theorem AllLt.mono {n m : Nat} {log : Log} (h : AllLt n log) (hnm : n ≤ m) : AllLt m log :=
  fun j hj => Nat.lt_of_lt_of_le (h j hj) hnm
theorem AllLt.range_drop (n k d : Nat) (h : k ≤ n) : AllLt n ((List.range k).drop d) := by
  intro j hj
  have := List.mem_range.1 (List.mem_of_mem_drop hj)
  omega

theorem AllLt.of_suffix {n : Nat} {a b : Log} (h : AllLt n b) (hs : a <:+ b) : AllLt n a :=
  fun j hj => h j (hs.subset hj)

/-- the last initialised slot has `arity = 0` (written before any walk over the levels) -/
def LastZero (levels : List Level) : Prop := (lvAt levels (levels.length - 1)).arity = 0

/-- the `level[]` reads of hwloc_synthetic_process_indexes stay inside the initialised slots -/
theorem processIndexes_log (levels : List Level) (ix : Idx) (total : Nat) (hne : 1 ≤ levels.length)
    (hlast : LastZero levels) : AllLt levels.length (processIndexes levels ix total).2 := by
  intro j hj
  have := processIndexes_upto levels ix total j hj _ hlast
  omega

/-- the only way hwloc_synthetic_process_indexes can fail an assertion: the product of the `nb` of a type
interleaving is 0 modulo 2^64 (`assert(nbs)`); it never divides by zero -/
theorem processIndexes_err (levels : List Level) (ix : Idx) (total : Nat) (e : Err)
    (hlast : LastZero levels) (hpos : ∀ j, j < levels.length → 1 ≤ (lvAt levels j).width)
    (hmono : ∀ i j, i ≤ j → j < levels.length → (lvAt levels i).width ≤ (lvAt levels j).width)
    (h : (processIndexes levels ix total).1 = .err e) : e = .abort := by
  revert h
  refine processIndexes_cases (P := fun r => r.1 = .err e → e = .abort) (fun _ => nofun) (fun _ _ => nofun)
    (fun _ _ _ _ _ _ _ => nofun) (fun _ _ _ _ _ _ _ _ _ _ h => (finishLoops_err _ _ _ _ _ h).1)
    (fun _ _ depths e' log0 _ _ _ htot _ hd _ hc h => ?_)
  have hdep : ∀ d ∈ depths, d < levels.length := fun d hdm => by have := hd d hdm _ hlast; omega
  exact absurd (congrArg Prod.fst hc)
    (tyCompute_no_err levels total depths hdep hpos hmono htot depths 0 [] (total % u32) 1 log0 e' hdep)

/-- F69: the `x*y` notation never fails an assertion: its only outcomes are an array or "indexes ignored" -/
theorem processIndexes_xy_no_err (levels : List Level) (ix : Idx) (total : Nat) (s : Bytes) (len : Nat) (e : Err)
    (hs : ix.str = some (s, len)) (hd : isDig (s.head?.getD 0) = true) : (processIndexes levels ix total).1 ≠ .err e := by
  refine processIndexes_cases (P := fun r => r.1 ≠ .err e) (fun _ => nofun) (fun _ _ => nofun)
    (fun _ _ _ _ _ _ _ => nofun) (fun s' len' _ _ nbs _ hs' _ _ h1 h => ?_) (fun s' _ _ _ _ _ hs' hd' => ?_)
  · cases hs.symm.trans hs'
    have := (finishLoops_err _ _ _ _ _ h).2
    have := h1 hd
    omega
  · cases hs.symm.trans hs'
    rw [hd] at hd'; cases hd'

/-! ### index arrays: length, no duplicates, permutations -/

theorem genArray_length (total : Nat) (loops : List ILoop) : (genArray total loops).length = total := by
  simp [genArray]

theorem explicitLoop_length : ∀ (rem total : Nat) (s : Bytes) (acc out : List Nat),
    explicitLoop rem total s acc = some out → out.length = acc.length + rem := by
  intro rem
  induction rem with
  | zero => intro total s acc out h; simp [explicitLoop] at h; subst h; simp
  | succ n ih =>
    intro total s acc out
    unfold explicitLoop
    generalize strtoulS 10 s = p
    obtain ⟨v, next⟩ := p
    let Q : Option (List Nat) → Prop := fun r => r = some out → out.length = acc.length + (n + 1)
    refine ite_pred Q nofun (fun _ => ite_pred Q (fun _ => ?_) (fun hn h => ?_))
    · split
      · intro h
        have := ih total _ _ out h
        rw [List.length_cons] at this; omega
      · nofun
    · cases h
      rw [List.length_reverse, List.length_cons]; omega

theorem arrayOk_spec (total : Nat) (a : List Nat) (hlen : a.length = total) (h : arrayOk total a = true) :
    a.Nodup ∧ ∀ x ∈ a, x < total := by
  unfold arrayOk haveDuplicates at h
  simp only [Bool.and_eq_true, List.all_eq_true, List.mem_range, Bool.not_eq_true', decide_eq_true_eq] at h
  have hnd : a.Nodup := by
    have := h.2
    simpa using this
  refine ⟨hnd, ?_⟩
  intro x hx
  obtain ⟨j, hj, rfl⟩ := List.getElem_of_mem hx
  have := (h.1 j (by omega)).1
  simpa [List.getElem?_eq_getElem hj] using this

/-- **interleave_perm**: an interleaving accepted by hwloc_synthetic_process_indexes (x*y or type notation)
generates a permutation of `0..total-1` -/
theorem finishLoops_perm (total : Nat) (loops : List ILoop) (minstep nbs : Nat) (a : List Nat)
    (h : finishLoops total loops minstep nbs = .ok (some a)) : a.Perm (List.range total) := by
  revert h
  refine finishLoops_cases (P := fun r => r = .ok (some a) → _) (fun _ => nofun) nofun (fun ls hok h => ?_)
  cases h
  have hs := arrayOk_spec total _ (genArray_length total ls) hok
  exact perm_of_nodup_subset_length hs.1 (fun x hx => List.mem_range.2 (hs.2 x hx))
    (by rw [List.length_range, genArray_length]; exact Nat.le_refl _)

/-- what an accepted `indexes=` attribute yields: one entry per object, no duplicates; for the two interleaving
notations a permutation of `0..total-1` -/
theorem processIndexes_accepts (levels : List Level) (ix : Idx) (s : Bytes) (len total : Nat) (a : List Nat) (log : Log)
    (hs : ix.str = some (s, len))
    (h : processIndexes levels ix total = (.arr (some a), log)) :
    a.length = total ∧ a.Nodup ∧ (spnDigComma s ≠ len → a.Perm (List.range total)) := by
  revert h
  refine processIndexes_cases (P := fun r => r = (.arr (some a), log) → _) (fun hn => by rw [hs] at hn; cases hn)
    (fun _ _ => nofun) (fun s' len' a' hs' hsp he hd h => ?_) (fun s' len' loops ms nbs _ _ _ _ _ h => ?_)
    (fun _ _ _ _ _ _ _ _ _ _ _ _ => nofun)
  · cases h
    cases hs.symm.trans hs'
    refine ⟨by simpa using explicitLoop_length total total s [] a he, ?_, fun hne => absurd hsp hne⟩
    unfold haveDuplicates at hd
    simpa using hd
  · have hf : finishLoops total loops ms nbs = .ok (some a) := by
      unfold piOf at h
      split at h
      · cases h; assumption
      · cases h
    have hperm := finishLoops_perm total loops ms nbs a hf
    exact ⟨by simpa using hperm.length_eq, (List.Perm.nodup_iff hperm).2 List.nodup_range, fun _ => hperm⟩


theorem processIndexes_length (levels : List Level) (ix : Idx) (total : Nat) (a : List Nat) (log : Log)
    (hix : ∀ b, ix.arr = some b → b.length = total)
    (h : processIndexes levels ix total = (.arr (some a), log)) : a.length = total := by
  cases hs : ix.str with
  | none =>
    revert h
    exact processIndexes_cases (P := fun r => r = (.arr (some a), log) → _) (fun _ h => hix a (PI.arr.inj (congrArg Prod.fst h)))
      (fun _ _ => nofun) (fun _ _ _ hs' => by rw [hs] at hs'; cases hs') (fun _ _ _ _ _ _ hs' => by rw [hs] at hs'; cases hs')
      (fun _ _ _ _ _ _ _ _ _ _ _ _ => nofun)
  | some sl => exact (processIndexes_accepts levels ix sl.1 sl.2 total a log hs h).1

/-! ### explicit index lists are read back as written -/

theorem strtoulS10_decDigits (n : Nat) (rest : List Byte) (hn : n < 2 ^ 64) (h : NoDigitHead rest) :
    strtoulS 10 (decDigits n ++ rest) = (n, rest) := by
  unfold strtoulS
  rw [strtoul10_decDigits n rest hn h]

theorem strtoulS0_decDigits (n : Nat) (rest : List Byte) (hn : n < 2 ^ 64) (h : NoDigitHead rest) :
    strtoulS 0 (decDigits n ++ rest) = (n, rest) := by
  unfold strtoulS
  rw [strtoul0_decDigits n rest hn h]

/-- `v1,v2,...,vk` -/
def printList : List Nat → Bytes
  | [] => []
  | [v] => decDigits v
  | v :: w :: r => decDigits v ++ 44 :: printList (w :: r)

theorem decDigits_append_ne (n : Nat) (rest : Bytes) : rest ≠ decDigits n ++ rest := by
  intro he
  have h1 := congrArg List.length he
  have h2 := digs_length_pos 10 (by omega) n
  rw [List.length_append, decDigits_eq] at h1; omega

theorem explicitLoop_last (total v : Nat) (tail : Bytes) (acc : List Nat) (hv : v < u32) (ht : NoDigitHead tail) :
    explicitLoop 1 total (decDigits v ++ tail) acc = some ((v :: acc).reverse) := by
  rw [explicitLoop, strtoulS10_decDigits v tail (by unfold u32 at hv; omega) ht]
  simp [decDigits_append_ne v tail, Nat.mod_eq_of_lt hv]

theorem explicitLoop_comma (rem total v : Nat) (r : Bytes) (acc : List Nat) (hv : v < u32) :
    explicitLoop (rem + 2) total (decDigits v ++ 44 :: r) acc = explicitLoop (rem + 1) total r (v :: acc) := by
  rw [explicitLoop, strtoulS10_decDigits v _ (by unfold u32 at hv; omega) (noDigitHead_comma _)]
  simp [decDigits_append_ne v (44 :: r), Nat.mod_eq_of_lt hv]

/-- **explicit lists**: `indexes=v1,...,vk` on a level of `k` objects is read back as exactly `[v1,...,vk]` -/
theorem explicitLoop_printList : ∀ (xs : List Nat) (total : Nat) (rest : Bytes) (acc : List Nat),
    (∀ v ∈ xs, v < u32) → NoDigitHead rest →
    explicitLoop xs.length total (printList xs ++ rest) acc = some (acc.reverse ++ xs) := by
  intro xs
  induction xs with
  | nil => intro _ _ _ _ _; simp [explicitLoop]
  | cons v r ih =>
    intro total rest acc hlt hrest
    have hv : v < u32 := hlt v List.mem_cons_self
    cases r with
    | nil =>
      rw [show printList [v] = decDigits v from rfl, List.length_singleton, explicitLoop_last total v rest acc hv hrest]
      simp
    | cons w r' =>
      rw [show printList (v :: w :: r') ++ rest = decDigits v ++ 44 :: (printList (w :: r') ++ rest) by simp [printList],
        List.length_cons, List.length_cons, explicitLoop_comma _ total v _ acc hv, ← List.length_cons,
        ih total rest (v :: acc) (fun x hx => hlt x (List.mem_cons_of_mem _ hx)) hrest]
      simp

end Hw.Syn
