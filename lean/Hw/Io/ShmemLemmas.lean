import Hw.Io.Shmem
import Hw.Base.Bump
namespace Hw.Shmem
open Hw.Gen.Shmem (Guard Pre guards)

/-! ### rounding -/

theorem roundUp_ge {a : Nat} (ha : 0 < a) (n : Nat) : n ≤ roundUp a n := Hw.le_roundUp ha n

theorem roundUp_lt {a : Nat} (ha : 0 < a) (n : Nat) : roundUp a n < n + a :=
  Nat.lt_of_le_of_lt (Nat.div_mul_le_self _ _) (Nat.sub_one_lt (Nat.ne_of_gt (Nat.add_pos_right n ha)))

theorem roundUp_mod (a n : Nat) : roundUp a n % a = 0 := by
  unfold roundUp
  exact Nat.mul_mod_left _ _

theorem roundUp_of_mod {a n : Nat} (ha : 0 < a) (h : n % a = 0) : roundUp a n = n := by
  obtain ⟨q, rfl⟩ := Nat.dvd_of_mod_eq_zero h
  unfold roundUp
  rw [Nat.add_sub_assoc ha, Nat.add_comm, Nat.mul_comm a q, Nat.add_mul_div_right _ _ ha,
    Nat.div_eq_of_lt (Nat.sub_one_lt (Nat.ne_of_gt ha)), Nat.zero_add]

theorem roundUpC_eq (k n : Nat) (hk : k ≤ 64) (hn : n + 2 ^ k - 1 < 2 ^ 64) :
    roundUpC (2 ^ k) n = roundUp (2 ^ k) n := by
  unfold roundUpC roundUp
  have hlt : 2 ^ k - 1 < 2 ^ 64 :=
    Nat.lt_of_lt_of_le (Nat.sub_one_lt (Nat.ne_of_gt (Nat.two_pow_pos k))) (Nat.pow_le_pow_right (by decide) hk)
  -- the mask is `2^64 - ((2^k - 1) + 1)`: bit `i` is set iff `k ≤ i < 64`
  rw [Nat.mod_eq_of_lt hn, Nat.sub_sub, Nat.add_comm 1]
  apply Nat.eq_of_testBit_eq
  intro i
  rw [Nat.testBit_and, Nat.testBit_two_pow_sub_succ hlt, Nat.testBit_two_pow_sub_one, Nat.testBit_mul_two_pow,
    Nat.testBit_div_two_pow]
  by_cases hik : k ≤ i
  · rw [Nat.sub_add_cancel hik]
    by_cases hi : i < 64
    · simp [hik, hi, Nat.not_lt.2 hik]
    · rw [Nat.testBit_lt_two_pow (Nat.lt_of_lt_of_le hn (Nat.pow_le_pow_right (by decide) (Nat.le_of_not_lt hi)))]
      simp
  · simp [hik, Nat.lt_of_not_le hik]

theorem ALIGN_eq : ALIGN = 8 := rfl
theorem HEADER_SIZE_eq : HEADER_SIZE = 24 := rfl
theorem HEADER_VERSION_eq : HEADER_VERSION = 1 := rfl
theorem headerLength_eq : headerLength = 24 := by decide +kernel

theorem align8_def (n : Nat) : align8 n = (n + 7) / 8 * 8 := rfl
theorem align8_ge (n : Nat) : n ≤ align8 n := roundUp_ge (by decide) n
theorem align8_lt (n : Nat) : align8 n < n + 8 := roundUp_lt (a := ALIGN) (by decide) n
theorem align8_mod (n : Nat) : align8 n % 8 = 0 := roundUp_mod ALIGN n

/-- `tma_shmem_malloc` / `tma_get_length_malloc` as written (64-bit mask form) compute `align8` -/
theorem align8_matches_C (n : Nat) (hn : n + 7 < 2 ^ 64) : roundUpC ALIGN n = align8 n := by
  have := roundUpC_eq 3 n (by decide) (by simpa using hn)
  simpa [ALIGN_eq, align8] using this

/-! ### the two passes -/

theorem countFrom_cons (acc s : Nat) (ss : List Nat) : countFrom acc (s :: ss) = countFrom (acc + align8 s) ss := rfl

theorem countFrom_eq (acc : Nat) (ss : List Nat) : countFrom acc ss = acc + countFrom 0 ss :=
  List.foldl_hom (acc + ·) (init := 0) fun x s => Nat.add_assoc acc x (align8 s)

theorem countFrom_zero (ss : List Nat) : countFrom 0 ss = (ss.map align8).sum := by
  rw [List.sum_eq_foldl_nat, List.foldl_map]; rfl

theorem bumpEnd_eq (cur : Nat) (ss : List Nat) : bumpEnd cur ss = cur + countFrom 0 ss := by
  rw [← countFrom_eq]
  induction ss generalizing cur with
  | nil => rfl
  | cons s ss ih => exact ih (cur + align8 s)

theorem bumpEnd_ge (cur : Nat) (ss : List Nat) : cur ≤ bumpEnd cur ss := by
  rw [bumpEnd_eq]; exact Nat.le_add_right _ _

theorem bump_isBump : Hw.IsBump Block.addr Block.size align8 bump :=
  ⟨fun _ => rfl, fun _ _ _ => ⟨_, rfl, rfl, rfl⟩⟩

theorem bump_sizes (cur : Nat) (ss : List Nat) : (bump cur ss).map (·.size) = ss := bump_isBump.sizes cur ss

theorem bump_length (cur : Nat) (ss : List Nat) : (bump cur ss).length = ss.length := by
  rw [← List.length_map (f := (·.size)), bump_sizes]

theorem bump_spec (cur : Nat) (ss : List Nat) :
    (∀ b ∈ bump cur ss, (cur % 8 = 0 → b.addr % 8 = 0) ∧ cur ≤ b.addr ∧ b.addr + b.size ≤ bumpEnd cur ss) ∧
    (bump cur ss).Pairwise (fun x y => x.addr + x.size ≤ y.addr) := by
  have ⟨hm, hp⟩ := bump_isBump.inside align8_ge cur ss
  rw [← countFrom_zero, ← bumpEnd_eq] at hm
  exact ⟨fun b hb => ⟨(bump_isBump.aligned align8_mod cur ss b hb).trans, hm b hb⟩, hp⟩

theorem bump_pairwise (cur : Nat) (ss : List Nat) :
    (bump cur ss).Pairwise (fun x y => x.addr + x.size ≤ y.addr) := (bump_spec cur ss).2

theorem usedBytes_eq (ss : List Nat) : usedBytes ss = HEADER_SIZE + countFrom 0 ss := by
  unfold usedBytes; rw [bumpEnd_eq, headerLength_eq, HEADER_SIZE_eq]

theorem usedBytes_le_getLength (ps : Nat) (hps : 0 < ps) (ss : List Nat) : usedBytes ss ≤ getLength ps ss := by
  rw [usedBytes_eq]; exact roundUp_ge hps _

/-! ### decisions -/

theorem mkHeader_ok (addr len : Nat) : headerOk (mkHeader addr len) addr len = true := by
  simp [headerOk, mkHeader]

theorem headerOk_iff (h : Header) (addr len : Nat) :
    headerOk h addr len = true ↔ h = mkHeader addr len := by
  cases h
  simp [headerOk, mkHeader, and_assoc]

theorem zeroHeader_ne (addr len : Nat) : (⟨0, 0, 0, 0⟩ : Header) ≠ mkHeader addr len := by
  simp [mkHeader, HEADER_VERSION_eq]

section
variable {flags : Nat} {h : Header} {hdr : Option Header} {addr len : Nat} {mm : Mmap} {abi : Bool}

theorem adoptDecision_flags (hf : flags ≠ 0) : adoptDecision flags hdr addr len mm abi = .einval := if_pos hf

theorem adoptDecision_bad (hh : h ≠ mkHeader addr len) : adoptDecision flags (some h) addr len mm abi = .einval := by
  simp [adoptDecision, Bool.eq_false_iff.2 (mt (headerOk_iff h addr len).1 hh)]

theorem adoptDecision_hdr : adoptDecision 0 (some (mkHeader addr len)) addr len mm abi
    = match mm with
      | .failed => .sys
      | .at a => if a ≠ addr then .ebusy else if !abi then .einval else .ok := by
  simp only [adoptDecision, mkHeader_ok]
  rfl

theorem adoptDecision_eq_ok (hd : adoptDecision flags hdr addr len mm abi = .ok) : hdr = some (mkHeader addr len) := by
  cases hdr with
  | none => unfold adoptDecision at hd; split at hd <;> cases hd
  | some h =>
    by_cases hh : h = mkHeader addr len
    · rw [hh]
    · rw [adoptDecision_bad hh] at hd; cases hd

end

/-! ### address space -/

theorem isFree_unmap_cons (sp : Space) (addr len : Nat) (h : sp.isFree addr len = true) :
    (Space.unmap ((addr, len) :: sp) addr len).isFree addr len = true := by
  unfold Space.isFree Space.unmap at *
  rw [List.all_eq_true] at *
  intro r hr
  rcases List.mem_filter.1 hr with ⟨hr, hne⟩
  rcases List.mem_cons.1 hr with rfl | hr
  · simp at hne
  · exact h r hr

theorem mmap_free (sp : Space) (addr len : Nat) (h : sp.isFree addr len = true) : sp.mmap addr len = .at addr := by
  simp [Space.mmap, h]

theorem mmap_busy (sp : Space) (addr len : Nat) (h : sp.isFree addr len = false) :
    ∃ a, sp.mmap addr len = .at a ∧ a ≠ addr := by
  refine ⟨addr + len + 1, by simp [Space.mmap, h], by omega⟩

theorem not_free_after_map (sp : Space) (addr len : Nat) (hl : 0 < len) :
    Space.isFree ((addr, len) :: sp) addr len = false := by
  have : rangesDisjoint addr len addr len = false := by
    simp [rangesDisjoint]; omega
  simp [Space.isFree, this]

/-! ### world -/

theorem addLive_get (w : World) (a : Adopted) : (w.addLive a).get w.next = some a := by
  simp [World.get, World.addLive]

theorem addLive_segment (w : World) (a : Adopted) (off : Nat) : (w.addLive a).segment off = w.segment off := rfl
theorem addLive_readHeader (w : World) (a : Adopted) (off : Nat) : (w.addLive a).readHeader off = w.readHeader off := rfl
theorem addLive_abiOk (w : World) (a : Adopted) (off : Nat) : (w.addLive a).abiOk off = w.abiOk off := rfl
theorem addLive_space (w : World) (a : Adopted) : (w.addLive a).space = (a.addr, a.len) :: w.space := rfl

theorem destroy_addLive_space (w : World) (a : Adopted) :
    ((w.addLive a).destroy w.next).space = Space.unmap ((a.addr, a.len) :: w.space) a.addr a.len := by
  unfold World.destroy
  rw [addLive_get]
  rfl

theorem destroy_addLive_get (w : World) (a : Adopted) : ((w.addLive a).destroy w.next).get w.next = none := by
  unfold World.destroy
  rw [addLive_get]
  simp [World.get, World.addLive, List.find?_filter]

theorem write_of_isFree (w : World) (t : Content) (ss : List Nat) (off addr len : Nat) (hfree : w.space.isFree addr len = true) :
    ∃ w', w.write t ss off addr len 0 = (.ok, w') ∧ w'.space = w.space ∧
      w'.segment off = some { hdr := mkHeader addr len, abi := thisAbi, content := t, used := usedBytes ss,
                              memattrsCached := true } := by
  have hd : writeDecision 0 true addr (w.space.mmap addr len) = .ok := by
    rw [mmap_free _ _ _ hfree]; simp [writeDecision]
  unfold World.write
  rw [hd]
  exact ⟨_, rfl, rfl, by simp [World.segment]⟩

theorem readHeader_of_segment {w : World} {off : Nat} {img : Image} (h : w.segment off = some img) :
    w.readHeader off = some img.hdr := by
  simp only [World.readHeader, h]

theorem abiOk_of_segment {w : World} {off : Nat} {img : Image} (h : w.segment off = some img) :
    w.abiOk off = (img.abi == thisAbi) := by
  simp only [World.abiOk, h]

/-- adopt answers its decision: the `ok` without a segment of its definition cannot occur, since where no segment was
    written the file holds zeroes or ends and the header read there never passes -/
theorem adopt_fst (w : World) (off addr len flags : Nat) :
    (w.adopt off addr len flags).1
      = adoptDecision flags (w.readHeader off) addr len (w.space.mmap addr len) (w.abiOk off) := by
  unfold World.adopt
  split
  · rename_i hd _; rw [hd]
  · rename_i hd hseg
    have := adoptDecision_eq_ok hd
    simp only [World.readHeader, hseg] at this
    split at this <;> cases this
  · rfl

theorem adopt_eq_ok {w w' : World} {off addr len flags h : Nat} :
    w.adopt off addr len flags = (.ok, some h, w') ↔
    ∃ img, w.segment off = some img ∧ h = w.next ∧ w' = w.addLive (adoptState img addr len) ∧
      adoptDecision flags (w.readHeader off) addr len (w.space.mmap addr len) (w.abiOk off) = .ok := by
  constructor
  · intro had
    unfold World.adopt at had
    split at had
    · rename_i img hd hseg; cases had; exact ⟨img, hseg, rfl, rfl, hd⟩
    · cases had
    · cases (Prod.mk.inj (Prod.mk.inj had).2).1
  · rintro ⟨img, hseg, rfl, rfl, hd⟩
    simp only [World.adopt, hd, hseg]

/-! ### guards -/

theorem guards_shape : ∀ g ∈ guards, g.errno = "EPERM" ∧ ∀ p ∈ g.pre, p.2 = "EINVAL" := by decide +kernel

theorem findGuard_mem {fn : String} {g : Guard} (h : findGuard fn = some g) : g ∈ guards ∧ g.fn = fn :=
  ⟨List.mem_of_find?_eq_some h, by simpa using List.find?_some h⟩

theorem guardResult_cases (a : Adopted) (fd : Bool) (g : Guard) (hg : g ∈ guards) :
    guardResult a fd g = .eperm ∨
    ∃ p, guardResult a fd g = .einval ∧ preFires a fd p = true ∧ (p, "EINVAL") ∈ g.pre := by
  have ⟨he, hp⟩ := guards_shape g hg
  unfold guardResult
  cases hf : g.pre.find? (fun p => preFires a fd p.1) with
  | none => left; simp [he, errOfName]
  | some p =>
    have hmem := List.mem_of_find?_eq_some hf
    have hp2 := hp p hmem
    have hfire := List.find?_some hf
    refine .inr ⟨p.1, ?_, hfire, ?_⟩
    · simp [hp2, errOfName]
    · rw [← hp2]; exact hmem

theorem stepAdopted_keeps (a : Adopted) (op : Op) :
    { (stepAdopted a op).2 with userdata := a.userdata, infos := a.infos, allowedCpuset := a.allowedCpuset,
                                allowedNodeset := a.allowedNodeset } = a := by
  cases op with
  | call fn fd =>
    simp only [stepAdopted]
    cases findGuard fn with
    | some g => rfl
    | none => cases refusedBusy.contains fn <;> rfl
  | setUserdata | infosAdd => rfl
  | allow fl c n =>
    simp only [stepAdopted]
    cases allowDecision a fl c n false false with
    | ok =>
      simp only []
      split
      · rfl
      · unfold allowApply; split <;> rfl
    | einval | ebusy | eperm | enosys | sys => rfl
  | memattrQuery =>
    simp only [stepAdopted]
    split <;> rfl

theorem stepAdopted_allow_ok {a : Adopted} {fl : Nat} {c n : Option Nat} (hd : allowDecision a fl c n false false = .ok)
    (hm : a.allowedInMapping = false) : stepAdopted a (.allow fl c n) = (.ret .ok, allowApply a fl c n) := by
  simp only [stepAdopted, hd, hm]
  rfl

theorem runAdopted_inv {P : Adopted → Prop} {Q : Outcome → Prop} (ops : List Op) {a : Adopted} (ha : P a)
    (h : ∀ a, P a → ∀ op ∈ ops, Q (stepAdopted a op).1 ∧ P (stepAdopted a op).2) :
    (∀ o ∈ (runAdopted a ops).1, Q o) ∧ P (runAdopted a ops).2 := by
  induction ops generalizing a with
  | nil => exact ⟨fun _ h => (nomatch h), ha⟩
  | cons op ops ih =>
    have ⟨hq, hp⟩ := h a ha op List.mem_cons_self
    have ⟨i1, i2⟩ := ih hp fun a ha op hop => h a ha op (List.mem_cons_of_mem _ hop)
    exact ⟨List.forall_mem_cons.2 ⟨hq, i1⟩, i2⟩

theorem stepAdopted_outcome (a : Adopted) (op : Op) :
    match (stepAdopted a op).1 with
    | .ret e => demanded a op = .ret e
    | .fault => a.allowedInMapping = true ∨ a.memattrsCached = false ∨
        ∃ fn fd, op = .call fn fd ∧ findGuard fn = none ∧ fn ∉ refusedBusy := by
  cases op with
  | call fn fd =>
    simp only [stepAdopted, demanded]
    cases hg : findGuard fn with
    | some g => rfl
    | none =>
      cases hb : refusedBusy.contains fn with
      | true => rfl
      | false =>
        refine .inr (.inr ⟨fn, fd, rfl, hg, fun hm => ?_⟩)
        exact absurd (hb.symm.trans (List.contains_iff_mem.2 hm)) (by decide)
  | setUserdata | infosAdd => rfl
  | allow fl c n =>
    simp only [stepAdopted, demanded]
    cases allowDecision a fl c n false false with
    | ok =>
      cases hm : a.allowedInMapping with
      | true => exact .inl rfl
      | false => rfl
    | einval | ebusy | eperm | enosys | sys => rfl
  | memattrQuery =>
    simp only [stepAdopted, demanded]
    cases hc : a.memattrsCached with
    | true => rfl
    | false => exact .inr (.inl rfl)

/-- the two facts adopt/write establish and every call preserves: the allowed sets are private copies and the memattr
    caches of the mapped copy are valid -/
def Adopted.Sound (a : Adopted) : Prop := a.allowedInMapping = false ∧ a.memattrsCached = true

theorem stepAdopted_sound (a : Adopted) (op : Op) (h : a.Sound) : (stepAdopted a op).2.Sound :=
  have hk := stepAdopted_keeps a op
  ⟨(congrArg Adopted.allowedInMapping hk :).trans h.1, (congrArg Adopted.memattrsCached hk :).trans h.2⟩

theorem stepAdopted_no_fault (a : Adopted) (op : Op) (h : a.Sound)
    (hfn : ∀ fn fd, op = .call fn fd → (findGuard fn).isSome = true ∨ fn ∈ refusedBusy) :
    (stepAdopted a op).1 ≠ .fault := by
  intro hf
  have ho := stepAdopted_outcome a op
  rw [hf] at ho
  rcases ho with hm | hc | ⟨fn, fd, rfl, hg, hb⟩
  · rw [h.1] at hm; cases hm
  · rw [h.2] at hc; cases hc
  · rcases hfn fn fd rfl with h1 | h1
    · rw [hg] at h1; cases h1
    · exact absurd h1 hb

end Hw.Shmem
