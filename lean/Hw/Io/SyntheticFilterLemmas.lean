/-
  Hw.Io.SyntheticFilterLemmas — `devirt` (Hw.Io.SyntheticTopo: the levels whose type is filtered out are not built) keeps
  every NUMA node of the chain and leaves no unbuilt level, for every chain.
-/
import Hw.Io.SyntheticTopo
import Hw.Base.Cases
namespace Hw.Syn
open Hw Hw.Topo

theorem numaCountFrom_congr {xs ys : List NLevel} (h : ∀ n, numaCountFrom n xs = numaCountFrom n ys) (pre : List NLevel) :
    ∀ n, numaCountFrom n (pre ++ xs) = numaCountFrom n (pre ++ ys) := by
  induction pre with
  | nil => exact h
  | cons p pre ih => intro n; simp only [List.cons_append, numaCountFrom, ih]

/-- what `devirt` does with the level `l` (`l.arity * mult` objects per object of the last built level, memory
`l.mem ++ carry`) before it goes on with `rest`: the new `out`, `rm`, `mult`, `carry`.  A level is put on `out` (`l` itself
or the Group that stands for it), or arity and memory are handed down, or the memory goes up to the last built level or
to the root. -/
inductive DStep (l : NLevel) (rest out : List NLevel) (rm : List MemChild) (mult : Nat) (carry : List MemChild) :
    List NLevel → List MemChild → Nat → List MemChild → Prop
  | push (x : NLevel) : x.virt = false → x.arity = l.arity * mult → x.mem = l.mem ++ carry →
    DStep l rest out rm mult carry (x :: out) rm 1 []
  | pass : (l.mem ++ carry ≠ [] → ∃ c rest', rest = c :: rest' ∧ c.arity = 1) →
    DStep l rest out rm mult carry out rm (l.arity * mult) (l.mem ++ carry)
  | upRoot : l.arity * mult = 1 → out = [] → rm = [] → DStep l rest out rm mult carry out (l.mem ++ carry) 1 []
  | up (q : NLevel) (out' : List NLevel) : l.arity * mult = 1 → out = q :: out' → q.mem = [] →
    DStep l rest out rm mult carry ({ q with mem := l.mem ++ carry } :: out') rm 1 []

/-- `devirt` on a non-empty chain gives up, or makes one `DStep` -/
theorem devirt_cons_cases {P : Option (List NLevel × List MemChild) → Prop} {l : NLevel} {rest out : List NLevel}
    {rm : List MemChild} {mult : Nat} {carry : List MemChild} (hnone : P none)
    (hstep : ∀ out' rm' mult' carry', DStep l rest out rm mult carry out' rm' mult' carry' →
      P (devirt rest out' rm' mult' carry')) :
    P (devirt (l :: rest) out rm mult carry) := by
  unfold devirt
  dsimp only
  refine ite_cases (fun _ => hnone) (fun _ => ?_)
  refine ite_cases (fun hv => hstep _ _ _ _ (.push _ (by simpa using hv) rfl rfl)) (fun _ => ?_)
  refine ite_cases (fun hemp => ?_) (fun _ => ?_)
  · have he : l.mem ++ carry = [] := by simpa using hemp
    have := hstep _ _ _ _ (.pass (fun hne => absurd he hne))
    rwa [he] at this
  · cases rest with
    | nil => exact hnone
    | cons c rest' =>
      refine ite_cases (fun hdown => hstep _ _ _ _ (.pass (fun _ => ⟨c, rest', rfl, hdown.1⟩))) (fun _ => ?_)
      refine ite_cases (fun ha1 => ?_) (fun _ => hstep _ _ _ _ (.push _ rfl rfl rfl))
      cases out with
      | nil => exact ite_cases (fun hrm => hstep _ _ _ _ (.upRoot ha1 rfl (by simpa using hrm))) (fun _ => hnone)
      | cons q out' => exact ite_cases (fun hq => hstep _ _ _ _ (.up q out' ha1 rfl (by simpa using hq))) (fun _ => hnone)

theorem devirt_nil_some {out : List NLevel} {rm : List MemChild} {mult : Nat} {carry : List MemChild}
    {r : List NLevel × List MemChild} (h : devirt [] out rm mult carry = some r) : carry = [] ∧ r = (out.reverse, rm) := by
  unfold devirt at h
  split at h
  · rename_i he; cases h; exact ⟨by simpa using he, rfl⟩
  · cases h

/-- `devirt` keeps the NUMA nodes of what it has in hand, read as one chain: the built levels, the missing objects with the
memory handed down to them as one level, the levels to come -/
theorem devirt_count : ∀ (ls out : List NLevel) (rm : List MemChild) (mult : Nat) (carry : List MemChild)
    (r : List NLevel × List MemChild),
    (carry ≠ [] → ∃ c rest, ls = c :: rest ∧ c.arity = 1) →
    devirt ls out rm mult carry = some r →
    r.2.length + numaCountFrom 1 r.1 =
      rm.length + numaCountFrom 1 (out.reverse ++ { type := tGROUP, arity := mult, mem := carry } :: ls) := by
  intro ls
  induction ls with
  | nil =>
    intro out rm mult carry r _ h
    obtain ⟨rfl, rfl⟩ := devirt_nil_some h
    rw [numaCountFrom_congr (ys := []) (fun n => by simp [numaCountFrom]), List.append_nil]
  | cons l rest ih =>
    intro out rm mult carry r hc
    refine devirt_cons_cases (P := fun res => res = some r → _) nofun (fun out' rm' mult' carry' hs h => ?_)
    -- `l` and the missing objects above it count as one level (memory is handed down to a level of arity 1 only)
    have hw : ∀ n, numaCountFrom n ({ type := tGROUP, arity := mult, mem := carry } :: l :: rest) =
        numaCountFrom n ({ type := tGROUP, arity := l.arity * mult, mem := l.mem ++ carry } :: rest) := by
      intro n
      have e1 : n * mult * l.arity = n * (l.arity * mult) := by ac_rfl
      simp only [numaCountFrom, e1, List.length_append]
      by_cases hcar : carry = []
      · subst hcar; simp
      · obtain ⟨c, rest', heq, hc1⟩ := hc hcar
        cases heq
        rw [hc1, Nat.one_mul, Nat.mul_add]; omega
    rw [numaCountFrom_congr hw]
    cases hs with
    | push x _ ha hx =>
      rw [ih _ _ _ _ _ (by simp) h, List.reverse_cons, List.append_assoc]
      exact congrArg _ (numaCountFrom_congr (fun n => by simp [numaCountFrom, ha, hx]) _ 1)
    | pass hc => exact ih _ _ _ _ _ hc h
    | upRoot ha1 hout hrm =>
      subst hout; subst hrm
      rw [ih _ _ _ _ _ (by simp) h, ha1]
      simp [numaCountFrom]
    | up q out' ha1 hout hq =>
      subst hout
      rw [ih _ _ _ _ _ (by simp) h, ha1, List.reverse_cons, List.reverse_cons, List.append_assoc, List.append_assoc]
      exact congrArg _ (numaCountFrom_congr (fun n => by simp [numaCountFrom, hq]) _ 1)

/-- `devirt` from the top: the NUMA nodes of the chain are all still there -/
theorem devirt_keeps_numas (ls ls' : List NLevel) (rm rm' : List MemChild) (h : devirt ls [] rm 1 [] = some (ls', rm')) :
    rm'.length + numaCountFrom 1 ls' = rm.length + numaCountFrom 1 ls := by
  have := devirt_count ls [] rm 1 [] (ls', rm') (by simp) h
  simpa [numaCountFrom] using this

theorem devirt_no_virt : ∀ (ls out : List NLevel) (rm : List MemChild) (mult : Nat) (carry : List MemChild)
    (r : List NLevel × List MemChild), (∀ q ∈ out, q.virt = false) → devirt ls out rm mult carry = some r →
    ∀ l ∈ r.1, l.virt = false := by
  intro ls
  induction ls with
  | nil =>
    intro out rm mult carry r ho h
    obtain ⟨_, rfl⟩ := devirt_nil_some h
    intro l hl; exact ho l (by simpa using hl)
  | cons l rest ih =>
    intro out rm mult carry r ho
    refine devirt_cons_cases (P := fun res => res = some r → ∀ l ∈ r.1, l.virt = false) nofun
      (fun out' rm' mult' carry' hs h => ih _ _ _ _ _ ?_ h)
    cases hs with
    | push x hx =>
      intro q hq
      rcases List.mem_cons.1 hq with rfl | hq
      · exact hx
      · exact ho q hq
    | pass => exact ho
    | upRoot => exact ho
    | up q out' _ hout _ =>
      subst hout
      intro q' hq'
      rcases List.mem_cons.1 hq' with rfl | hq'
      · exact ho q (by simp)
      · exact ho q' (by simp [hq'])

end Hw.Syn
