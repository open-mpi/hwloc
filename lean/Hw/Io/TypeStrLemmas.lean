import Hw.Io.TypeStr
import Hw.Base.CursorArith
namespace Hw.TypeStr
open Hw.Gen.TypeTables

/-! ## the cursor machine: contract of `emit` -/

/-- what the callers of a printing function may rely on, for a buffer of `size` cells and the
    untruncated text `total` -/
structure Contract (size : Nat) (total : Bytes) (c : Cur) : Prop where
  no_oob : c.oob = false
  outside : ∀ i, size ≤ i → c.buf i = none
  ret_eq : c.ret = total.length
  content : ∀ i, i < min total.length (size - 1) → c.buf i = some (total.getD i 0)
  nul : 0 < size → c.buf (min total.length (size - 1)) = some 0

/-- loop invariant of the cursor triple after the chunks `done` -/
structure Inv (size : Nat) (done : Bytes) (started : Bool) (c : Cur) : Prop where
  hsize : c.size = size
  no_oob : c.oob = false
  ret_eq : c.ret = done.length
  pos_eq : c.pos = min done.length (size - 1)
  len_eq : c.pos + c.len = size
  outside : ∀ i, size ≤ i → c.buf i = none
  content : ∀ i, i < c.pos → c.buf i = some (done.getD i 0)
  nul : started = true → 0 < size → c.buf c.pos = some 0

theorem inv_init (size : Nat) : Inv size [] false (Cur.init size) := by
  constructor <;> simp [Cur.init]

theorem getD_append_lt (a b : Bytes) (i : Nat) (h : i < a.length) : (a ++ b).getD i 0 = a.getD i 0 := by
  simp [List.getD_eq_getElem?_getD, List.getElem?_append_left h]

theorem getD_append_ge (a b : Bytes) (i : Nat) (h : a.length ≤ i) : (a ++ b).getD i 0 = b.getD (i - a.length) 0 := by
  simp [List.getD_eq_getElem?_getD, List.getElem?_append_right h]

theorem advOf_eq (len res : Nat) : advOf len res = min res (len - 1) := by
  unfold advOf; split <;> (try split) <;> omega

theorem emit1_cur (c : Cur) (b : Bytes) : emit1 c (.cur b) =
    { c with buf := (snprintfAt c.size c.buf c.pos c.len b).1, pos := c.pos + min b.length (c.len - 1),
             len := c.len - min b.length (c.len - 1), ret := c.ret + b.length,
             oob := c.oob || (snprintfAt c.size c.buf c.pos c.len b).2 } := by
  simp only [emit1, Chunk.bytes, advOf_eq]

/-! `snprintf(buf + p, n, chunk)`: the cells `[p, p + n)` are the only ones written; as much text as fits, then NUL -/

theorem snprintfAt_oob (size : Nat) (buf : Nat → Option Nat) {p n : Nat} (b : Bytes) (h : p + n ≤ size) :
    (snprintfAt size buf p n b).2 = false := by
  unfold snprintfAt
  cases n with
  | zero => rfl
  | succ m =>
    have hk : min b.length (m + 1 - 1) ≤ m := Nat.min_le_right _ _
    generalize min b.length (m + 1 - 1) = k at hk ⊢
    exact decide_eq_false (by omega)

theorem snprintfAt_frame (size : Nat) (buf : Nat → Option Nat) {p n i : Nat} (b : Bytes) (h : i < p ∨ p + n ≤ i) :
    (snprintfAt size buf p n b).1 i = buf i := by
  unfold snprintfAt
  cases n with
  | zero => rfl
  | succ m =>
    have hk : min b.length (m + 1 - 1) ≤ m := Nat.min_le_right _ _
    generalize min b.length (m + 1 - 1) = k at hk ⊢
    exact (if_neg (by omega)).trans (if_neg (by omega))

theorem snprintfAt_text (size : Nat) (buf : Nat → Option Nat) {p n i : Nat} (b : Bytes) (h1 : p ≤ i)
    (h2 : i < p + min b.length (n - 1)) : (snprintfAt size buf p n b).1 i = some (b.getD (i - p) 0) := by
  cases n with
  | zero => exact absurd h2 (by simp [Nat.not_lt.2 h1])
  | succ m => exact if_pos ⟨h1, h2⟩

theorem snprintfAt_nul (size : Nat) (buf : Nat → Option Nat) {p n : Nat} (b : Bytes) (h : 0 < n) :
    (snprintfAt size buf p n b).1 (p + min b.length (n - 1)) = some 0 := by
  unfold snprintfAt
  rw [if_neg (Nat.ne_of_gt h)]
  exact (if_neg fun h => Nat.lt_irrefl _ h.2).trans (if_pos rfl)

theorem inv_step_cur {size : Nat} {done : Bytes} {started : Bool} {c : Cur} (h : Inv size done started c) (b : Bytes) :
    Inv size (done ++ b) true (emit1 c (.cur b)) := by
  obtain ⟨hsize, hoob, hret, hpos, hlen, hout, hcont, hnul⟩ := h
  rw [emit1_cur]
  generalize hk : min b.length (c.len - 1) = k
  obtain ⟨a1, a2, a3, a4, a5, a6⟩ := cursor_arith hpos hlen hk
  -- `a1`, `a2` are two of the fields; the others are proved from the linear facts alone (cheap for `omega`)
  refine ⟨hsize, ?_, by simp [hret], by simpa using a1, a2, ?_, ?_, ?_⟩ <;> clear a1 a2 hpos
  · show (c.oob || _) = false
    rw [hoob, snprintfAt_oob _ _ _ (by omega)]; rfl
  · intro i hi
    exact (snprintfAt_frame _ _ _ (.inr (by omega))).trans (hout i hi)
  · intro i (hi : i < c.pos + k)
    show (snprintfAt _ _ _ _ _).1 i = _
    by_cases hlt : i < c.pos
    · rw [snprintfAt_frame _ _ _ (.inl hlt), hcont i hlt, getD_append_lt _ _ _ (by omega)]
    · have hp : c.pos = done.length := by omega
      rw [snprintfAt_text _ _ _ (by omega) (hk ▸ hi), getD_append_ge _ _ _ (by omega), hp]
  · intro _ h0
    exact hk ▸ snprintfAt_nul _ _ _ (by omega)

/-- the Bridge/PCI branch of attr_snprintf prints at (string, size): the same as printing at the cursor
    as long as nothing has been printed before -/
theorem emit1_start_eq_cur (c : Cur) (b : Bytes) (hp : c.pos = 0) (hl : c.len = c.size) :
    emit1 c (.start b) = emit1 c (.cur b) := by
  simp only [emit1, Chunk.bytes, hp, hl]

def Chunk.isCur : Chunk → Bool
  | .cur _ => true
  | .start _ => false

def flat (cs : List Chunk) : Bytes := (cs.map Chunk.bytes).flatten

/-- every call at (string, size) comes before anything has been printed (`done`: the text printed so far) -/
def StartOk (done : Bytes) : List Chunk → Prop
  | [] => True
  | ch :: r => (ch.isCur = true ∨ done = []) ∧ StartOk (done ++ ch.bytes) r

theorem StartOk.of_cur : ∀ (cs : List Chunk) (done : Bytes), (∀ ch ∈ cs, ch.isCur = true) → StartOk done cs
  | [], _, _ => trivial
  | ch :: r, _, h => ⟨.inl (h ch List.mem_cons_self), of_cur r _ fun x hx => h x (List.mem_cons_of_mem _ hx)⟩

theorem inv_step {size : Nat} {done : Bytes} {started : Bool} {c : Cur} (h : Inv size done started c) (ch : Chunk)
    (hok : ch.isCur = true ∨ done = []) : Inv size (done ++ ch.bytes) true (emit1 c ch) := by
  cases ch with
  | cur b => exact inv_step_cur h b
  | start b =>
    have hd : done = [] := hok.resolve_left (fun h => nomatch h)
    have hp : c.pos = 0 := by rw [h.pos_eq, hd]; exact Nat.zero_min _
    rw [emit1_start_eq_cur c b hp (by have := h.len_eq; have := h.hsize; omega)]
    exact inv_step_cur h b

theorem inv_foldl {size : Nat} : ∀ (cs : List Chunk) {done : Bytes} {started : Bool} {c : Cur}, StartOk done cs →
    Inv size done started c → Inv size (done ++ flat cs) (started || !cs.isEmpty) (cs.foldl emit1 c)
  | [], done, started, c, _, h => by simpa [flat] using h
  | ch :: r, done, started, c, hs, h => by
    have h2 := inv_foldl r hs.2 (inv_step h ch hs.1)
    simpa [flat, List.append_assoc] using h2

theorem contract_of_inv {size : Nat} {done : Bytes} {c : Cur} (h : Inv size done true c) : Contract size done c := by
  obtain ⟨_, hoob, hret, hpos, _, hout, hcont, hnul⟩ := h
  exact ⟨hoob, hout, hret, fun i hi => hcont i (by omega), fun h0 => by rw [← hpos]; exact hnul rfl h0⟩

/-- The contract of `emit` for at least one snprintf call, each through the cursor or, at (string, size), before
    anything has been printed. -/
theorem emit_contract_start (size : Nat) (cs : List Chunk) (hne : cs ≠ []) (hs : StartOk [] cs) :
    Contract size (flat cs) (emit size cs) := by
  have h := inv_foldl (size := size) cs hs (inv_init size)
  have hs : (false || !cs.isEmpty) = true := by
    cases cs with
    | nil => exact absurd rfl hne
    | cons _ _ => rfl
  rw [hs] at h
  simpa [emit] using contract_of_inv h

theorem emit_contract (size : Nat) (cs : List Chunk) (hne : cs ≠ []) (hall : ∀ ch ∈ cs, ch.isCur = true) :
    Contract size (flat cs) (emit size cs) :=
  emit_contract_start size cs hne (StartOk.of_cur cs [] hall)


/-! ## hwloc_obj_type_snprintf: every branch makes at least one snprintf call -/

theorem ite_some_ne {c : Prop} [Decidable c] {a b : Option (List Bytes)} (ha : ∃ cs, a = some cs ∧ cs ≠ [])
    (hb : ∃ cs, b = some cs ∧ cs ≠ []) : ∃ cs, (if c then a else b) = some cs ∧ cs ≠ [] := by
  split <;> assumption

/-- since fix 56af888 (single pass over names[]) the OS-device printer returns for EVERY type word; on the
    pinned tree `while (ostype)` diverged for every word with a bit >= 7 (F06) -/
theorem osdevNormal_some (w : Nat) (long : Bool) : ∃ cs, osdevNormal w long = some cs ∧ cs ≠ [] :=
  ⟨_, rfl, by simp⟩

theorem typeChunksK_some (t d ct up w : Nat) (long short : Bool) :
    ∃ cs, typeChunksK t d ct up w long short = some cs ∧ cs ≠ [] := by
  have one : ∀ b : Bytes, ∃ cs, some [b] = some cs ∧ cs ≠ [] := fun b => ⟨_, rfl, List.cons_ne_nil _ _⟩
  unfold typeChunksK
  exact ite_some_ne (one _) (ite_some_ne (one _) (ite_some_ne (ite_some_ne (one _) (one _)) (ite_some_ne (one _)
    (ite_some_ne (one _) (ite_some_ne (ite_some_ne (one _) (osdevNormal_some w long)) (one _))))))

/-! ## the chunk lists of the two printers -/

theorem osdevNormal_ne (w : Nat) (long : Bool) (cs : List Bytes) (h : osdevNormal w long = some cs) : cs ≠ [] := by
  obtain ⟨cs', h', hne⟩ := osdevNormal_some w long
  rw [h'] at h; cases h; exact hne

theorem typeChunksK_short (t d ct up w : Nat) (long short : Bool) (ht : t ≠ T_OS_DEVICE) :
    typeChunksK t d ct up w long short = typeChunksK t d ct up w long false := by
  unfold typeChunksK
  rw [if_neg ht, if_neg ht]

theorem typeChunksK_osdev (d ct up w : Nat) (long : Bool) :
    typeChunksK T_OS_DEVICE d ct up w long false = osdevNormal w long := by
  unfold typeChunksK
  rw [if_neg (by decide), if_neg (by decide), if_neg (by decide), if_neg (by decide), if_neg (by decide), if_pos rfl]
  rfl

theorem expectedWritten_osdev (d ct up w : Nat) : expectedWritten T_OS_DEVICE d ct up w = .osdev w := by
  unfold expectedWritten
  rw [if_neg (by decide), if_neg (by decide), if_neg (by decide), if_pos rfl]

theorem flat_map_cur (cs : List Bytes) : flat (cs.map Chunk.cur) = cs.flatten := by
  simp [flat, Chunk.bytes, Function.comp_def]

/-- I/O objects carry no memory (true for every object reachable through load: total_memory is only
    accumulated over normal and memory children) -/
def IoNoMemory (o : Obj) : Prop := (o.type = T_BRIDGE ∨ o.type = T_PCI_DEVICE) → o.total = 0

theorem attrC2_shape (o : Obj) (sep : Bytes) (flags : Nat) (pre : Bytes) :
    (∀ ch ∈ attrC2 o sep flags pre, ch.isCur = true) ∨
    ((o.type = T_BRIDGE ∨ o.type = T_PCI_DEVICE) ∧ ∃ b, attrC2 o sep flags pre = [.start b]) := by
  have none : ∀ ch ∈ ([] : List Chunk), ch.isCur = true := fun _ h => nomatch h
  unfold attrC2
  by_cases hc : isCache o.type ∨ o.type = T_MEMCACHE
  · rw [if_pos hc]; left; intro ch h; cases List.mem_singleton.mp h; rfl
  · rw [if_neg hc]
    by_cases hv : isVerbose flags = true
    · simp only [hv, if_true]
      by_cases hb : o.type = T_BRIDGE
      · rw [if_pos hb]; exact .inr ⟨.inl hb, _, rfl⟩
      · rw [if_neg hb]
        by_cases hp : o.type = T_PCI_DEVICE
        · rw [if_pos hp]; exact .inr ⟨.inr hp, _, rfl⟩
        · rw [if_neg hp]; exact .inl none
    · simp only [hv, Bool.false_eq_true, if_false, ite_self]; exact .inl none
theorem attrC1_io (o : Obj) (sep : Bytes) (flags : Nat) (hio : o.type = T_BRIDGE ∨ o.type = T_PCI_DEVICE)
    (hm : o.total = 0) : attrC1 o sep flags = [] := by
  have hn : ¬ (o.type = T_NUMANODE) := by
    rcases hio with h | h <;> rw [h] <;> decide
  simp [attrC1, hn, hm]

theorem map_cur_isCur (l : List Bytes) : ∀ ch ∈ l.map Chunk.cur, ch.isCur = true := by
  intro ch h
  obtain ⟨_, _, rfl⟩ := List.mem_map.mp h
  rfl

/-- under `IoNoMemory` the (string, size) call of the Bridge/PCI branch is the first call that prints anything -/
theorem attrChunks_startOk (o : Obj) (sep : Bytes) (flags : Nat) (h : IoNoMemory o) : StartOk [] (attrChunks o sep flags) := by
  unfold attrChunks
  simp only
  rcases attrC2_shape o sep flags (if lens (attrC1 o sep flags) > 0 then sep else []) with hc | ⟨hio, b, hb⟩
  · refine StartOk.of_cur _ _ fun ch hch => ?_
    simp only [List.mem_append] at hch
    rcases hch with ((hch | hch) | hch) | hch
    · cases List.mem_singleton.mp hch; rfl
    · exact map_cur_isCur _ ch hch
    · exact hc ch hch
    · exact map_cur_isCur _ ch hch
  · rw [hb, attrC1_io o sep flags hio (h hio)]
    exact ⟨.inl rfl, .inr rfl, StartOk.of_cur _ _ (map_cur_isCur _)⟩

theorem attrChunks_ne (o : Obj) (sep : Bytes) (flags : Nat) : attrChunks o sep flags ≠ [] := by
  simp [attrChunks]

/-! ## hwloc_type_sscanf: no read out of bounds, and the type returned is a valid hwloc_obj_type_t -/

/-- since fix 2710d74 (`!*t ||` first) the pattern pointer is never dereferenced beyond the literal's NUL, for EVERY
    input (before it, the byte 0xE0 = '\\0' + 'A' - 'a' as a signed char matched the NUL and `t` ran on: F23) -/
theorem typeMatchGo_noT : ∀ (s pat : Bytes) (i min : Nat), typeMatchGo s (.at pat) i min ≠ .oobT := by
  intro s
  induction s with
  | nil => intro pat i min; simp only [typeMatchGo]; split <;> simp
  | cons c r ih =>
    intro pat i min
    cases pat with
    | nil =>
      simp only [typeMatchGo, TPos.read, true_or, if_true]
      split
      · simp
      · split <;> simp
    | cons x pr =>
      simp only [typeMatchGo, TPos.read, TPos.next]
      split
      · split
        · simp
        · split <;> simp
      · exact ih pr (i + 1) min

theorem typeMatch_noT (s pat : Bytes) (min : Nat) : typeMatch s pat min ≠ .oobT :=
  typeMatchGo_noT s pat 0 min

/-- never reads past the NUL of the input nor of a pattern literal -/
def Safe {α : Type} (r : R α) : Prop := ∃ a, r = .ok a

theorem anyMatch_safe (alts : List (Bytes × Nat)) (s : Bytes) : Safe (anyMatch alts s) := by
  induction alts with
  | nil => exact ⟨false, rfl⟩
  | cons a r ih =>
    obtain ⟨p, m⟩ := a
    rw [anyMatch]
    cases hm : typeMatch s p m with
    | fail => exact ih
    | stop e => exact ⟨true, rfl⟩
    | oobT => exact absurd hm (typeMatch_noT s p m)

theorem osdevTypeSscanfIn_safe (ch : List (List (Bytes × Nat) × Nat)) (s : Bytes) : Safe (osdevTypeSscanfIn ch s) := by
  induction ch with
  | nil => exact ⟨none, rfl⟩
  | cons a r ih =>
    obtain ⟨b, hb⟩ := anyMatch_safe a.1 s
    rw [osdevTypeSscanfIn, hb]
    cases b
    · exact ih
    · exact ⟨_, rfl⟩

theorem osdevTypesFold_safe (l : List Bytes) (acc : Nat) : Safe (osdevTypesFold l acc) := by
  induction l generalizing acc with
  | nil => exact ⟨acc, rfl⟩
  | cons e r ih =>
    obtain ⟨b, hb⟩ := osdevTypeSscanfIn_safe osdevSscanfChain e
    rw [osdevTypesFold, osdevTypeSscanf, hb]
    cases b <;> exact ih _

theorem osdevTypesSscanf_safe (p : Bytes) : Safe (osdevTypesSscanf p) := osdevTypesFold_safe _ 0

theorem lower_eq_zero {c : Nat} (h : lower c = 0) : c = 0 := by
  unfold lower at h; split at h <;> omega

theorem ciPrefix_len : ∀ (n : Nat) (s pat : Bytes), ciPrefix s pat n = true → n ≤ pat.length → (∀ c ∈ pat, c ≠ 0) →
    n ≤ s.length
  | 0, _, _, _, _, _ => Nat.zero_le _
  | _+1, _, [], _, hl, _ => absurd hl (by simp)
  | n+1, s, p :: pr, h, hl, hp => by
    unfold ciPrefix at h
    split at h
    · cases h
    · rename_i heq
      have heq : lower (hd s) = lower p := Decidable.not_not.mp heq
      have hs0 : hd s ≠ 0 := fun h0 => hp p List.mem_cons_self (lower_eq_zero (by rw [← heq, h0]; rfl))
      rw [if_neg hs0] at h
      cases s with
      | nil => exact absurd rfl hs0
      | cons c sr =>
        exact Nat.succ_le_succ (ciPrefix_len n sr pr h (Nat.le_of_succ_le_succ hl)
          (fun x hx => hp x (List.mem_cons_of_mem _ hx)))
/-- what the safety proof needs from the generated chain -/
def bracketFits : Step → Bool
  | .bracket pat n skip _ => decide (skip ≤ n) && decide (n ≤ pat.length) && pat.all (· != 0)
  | _ => true

theorem chain_bracketFits : sscanfChain.all bracketFits = true := by decide

theorem ptrAdd_one_safe (e : Bytes) (h : hd e ≠ 0) : Safe (ptrAdd e 1) := by
  cases e with
  | nil => simp [hd] at h
  | cons c r => exact ⟨r, by simp [ptrAdd]⟩

/-! ### the cache branch `L<d>[i|d|u][cache]` -/

/-- the `[i|d|u]` letter of the cache branch: resulting type, cache type, and the pointer behind the letter -/
def cachePick (iLo iHi iBase iType dLo dHi dBase dType uType nType : Nat) (e : Bytes) (d : Nat) :
    Option (Nat × Nat × R Bytes) :=
  if hd e = 105 ∨ hd e = 73 then
    if inRange iLo iHi d then some (iBase + d - iLo, iType, ptrAdd e 1) else none
  else if inRange dLo dHi d then
    if hd e = 100 ∨ hd e = 68 then some (dBase + d - dLo, dType, ptrAdd e 1)
    else if hd e = 117 ∨ hd e = 85 then some (dBase + d - dLo, uType, ptrAdd e 1)
    else some (dBase + d - dLo, nType, .ok e)
  else none

def cacheTail (sufPat : Bytes) (sufMin : Nat) (p : Parsed) (suf : R Bytes) : R StepRes := do
  let sf ← suf
  match typeMatch sf sufPat sufMin with
  | .oobT => .oobT
  | .fail => pure .err
  | .stop _ => pure (.done p)

theorem evalStep_cache (c0 c1 : Nat) (r : Bytes)
    (iLo iHi iBase iType dLo dHi dBase dType uType nType : Nat) (sufPat : Bytes) (sufMin : Nat) :
    evalStep (c0 :: c1 :: r) (.cache iLo iHi iBase iType dLo dHi dBase dType uType nType sufPat sufMin) =
      if (c0 = 108 ∨ c0 = 76) ∧ isDigit c1 then
        match cachePick iLo iHi iBase iType dLo dHi dBase dType uType nType (scanDigits (c1 :: r) 0).2
            (strtolU32 (scanDigits (c1 :: r) 0).1) with
        | none => pure .err
        | some (ty, ct, suf) =>
          cacheTail sufPat sufMin { type := ty, depth := strtolU32 (scanDigits (c1 :: r) 0).1, ctype := ct } suf
      else pure .next := rfl

/-- the pointer behind the letter is still inside the string because the letter itself is not the NUL -/
theorem cachePick_some {iLo iHi iBase iType dLo dHi dBase dType uType nType : Nat} {e : Bytes} {d ty ct : Nat}
    {suf : R Bytes} (h : cachePick iLo iHi iBase iType dLo dHi dBase dType uType nType e d = some (ty, ct, suf)) :
    ty ≤ max (iBase + iHi - iLo) (dBase + dHi - dLo) ∧ Safe suf := by
  have hadd : ∀ a b, hd e = a ∨ hd e = b → a ≠ 0 → b ≠ 0 → Safe (ptrAdd e 1) := by
    intro a b h ha hb
    exact ptrAdd_one_safe e (by rcases h with h | h <;> rw [h] <;> assumption)
  have hle : ∀ {lo hi base}, inRange lo hi d = true → base + d - lo ≤ base + hi - lo := by
    intro lo hi base hr
    simp only [inRange, Bool.and_eq_true, decide_eq_true_eq] at hr
    exact Nat.sub_le_sub_right (Nat.add_le_add_left hr.2 _) _
  revert h
  fun_cases cachePick iLo iHi iBase iType dLo dHi dBase dType uType nType e d <;> intro h <;> cases h
  · exact ⟨Nat.le_trans (hle ‹_›) (Nat.le_max_left _ _), hadd _ _ ‹_› (by decide) (by decide)⟩
  · exact ⟨Nat.le_trans (hle ‹_›) (Nat.le_max_right _ _), hadd _ _ ‹_› (by decide) (by decide)⟩
  · exact ⟨Nat.le_trans (hle ‹_›) (Nat.le_max_right _ _), hadd _ _ ‹_› (by decide) (by decide)⟩
  · exact ⟨Nat.le_trans (hle ‹_›) (Nat.le_max_right _ _), _, rfl⟩
def stepTypeBound : Step → Nat
  | .bracket _ _ _ ty => ty
  | .osdevBare ty => ty
  | .plain _ ty _ => ty
  | .cache iLo iHi iBase _ dLo dHi dBase _ _ _ _ _ => max (iBase + iHi - iLo) (dBase + dHi - dLo)
  | .group _ _ ty => ty

theorem chain_types_ok : sscanfChain.all (fun st => decide (stepTypeBound st < typeMax)) = true := by decide

def StepOk (st : Step) (r : R StepRes) : Prop := ∃ x, r = .ok x ∧ ∀ p, x = .done p → p.type ≤ stepTypeBound st

theorem StepOk.other {st : Step} {x : StepRes} (h : ∀ p, x ≠ .done p) : StepOk st (.ok x) :=
  ⟨x, rfl, fun p hp => absurd hp (h p)⟩

theorem StepOk.done {st : Step} (p : Parsed) (h : p.type ≤ stepTypeBound st) : StepOk st (.ok (.done p)) :=
  ⟨_, rfl, fun q hq => by cases hq; exact h⟩

theorem StepOk.bind {st : Step} {α : Type} {r : R α} {f : α → R StepRes} (hr : Safe r) (hf : ∀ a, StepOk st (f a)) :
    StepOk st (r >>= f) := by
  obtain ⟨a, rfl⟩ := hr
  exact hf a

theorem cacheTail_ok (st : Step) (sufPat : Bytes) (sufMin : Nat) (p : Parsed) {suf : R Bytes} (h : Safe suf)
    (hp : p.type ≤ stepTypeBound st) : StepOk st (cacheTail sufPat sufMin p suf) := by
  refine .bind h fun e' => ?_
  cases hm : typeMatch e' sufPat sufMin with
  | oobT => exact absurd hm (typeMatch_noT e' sufPat sufMin)
  | fail => exact StepOk.other (fun _ h => nomatch h)
  | stop _ => exact StepOk.done p hp

theorem evalStep_ok (s : Bytes) (st : Step) (hok : bracketFits st = true) : StepOk st (evalStep s st) := by
  have next : StepOk st (.ok .next) := StepOk.other (fun _ h => nomatch h)
  cases st with
  | bracket pat n skip ty =>
    simp only [bracketFits, Bool.and_eq_true, decide_eq_true_eq, List.all_eq_true, bne_iff_ne] at hok
    obtain ⟨⟨h1, h2⟩, h3⟩ := hok
    simp only [evalStep]
    split
    · rename_i hci
      have hlen := ciPrefix_len n s pat hci h2 (fun c hc => h3 c hc)
      exact .bind ⟨_, if_pos (by omega)⟩ fun _ => .bind (osdevTypesSscanf_safe _) fun _ => .done _ (Nat.le_refl _)
    · exact next
  | osdevBare ty =>
    refine .bind (osdevTypeSscanfIn_safe osdevSscanfChain s) fun o => ?_
    cases o with
    | none => exact next
    | some b => exact StepOk.done _ (Nat.le_refl _)
  | plain alts ty ub =>
    refine .bind (anyMatch_safe alts s) fun b => ?_
    cases b with
    | false => exact next
    | true => exact StepOk.done _ (Nat.le_refl _)
  | cache iLo iHi iBase iType dLo dHi dBase dType uType nType sufPat sufMin =>
    match s with
    | [] | [_] => exact next
    | c0 :: c1 :: r =>
      rw [evalStep_cache]
      split
      · split
        · exact StepOk.other (fun _ h => nomatch h)
        · rename_i hpick
          exact cacheTail_ok _ _ _ _ (cachePick_some hpick).2 (cachePick_some hpick).1
      · exact next
  | group pat min ty =>
    simp only [evalStep]
    cases hm : typeMatch s pat min with
    | oobT => exact absurd hm (typeMatch_noT s pat min)
    | fail => exact next
    | stop e => simp only; split <;> exact StepOk.done _ (Nat.le_refl _)

theorem runChain_ok (s : Bytes) : ∀ (ch : List Step), ch.all bracketFits = true →
    ch.all (fun st => decide (stepTypeBound st < typeMax)) = true →
    ∃ r, runChain s ch = .ok r ∧ ∀ p, r = some p → p.type < typeMax
  | [], _, _ => ⟨none, rfl, fun _ h => nomatch h⟩
  | st :: ch, hok, hb => by
    simp only [List.all_cons, Bool.and_eq_true, decide_eq_true_eq] at hok hb
    obtain ⟨x, hx, hty⟩ := evalStep_ok s st hok.1
    rw [runChain, hx]
    cases x with
    | next => exact runChain_ok s ch hok.2 hb.2
    | done p => exact ⟨some p, rfl, fun q hq => by cases hq; exact Nat.lt_of_le_of_lt (hty p rfl) hb.1⟩
    | err => exact ⟨none, rfl, fun _ h => nomatch h⟩

/-! ## decimal print / parse -/

theorem isDigit_48 (n : Nat) (h : n < 10) : isDigit (48 + n) = true := by
  simp [isDigit]; omega

theorem scanDigits_digit (d : Nat) (h : d < 10) (r : Bytes) (acc : Nat) :
    scanDigits ((48 + d) :: r) acc = scanDigits r (acc * 10 + d) := by
  rw [scanDigits, if_pos (isDigit_48 d h), Nat.add_sub_cancel_left]

theorem scanDigits_decF : ∀ (f n : Nat), n ≤ f → ∀ (acc : Nat) (r : Bytes),
    scanDigits (decF f n ++ r) acc = scanDigits r (acc * 10 ^ (decF f n).length + n) := by
  intro f
  induction f with
  | zero =>
    intro n hn acc r
    obtain rfl := Nat.le_zero.mp hn
    exact scanDigits_digit 0 (by decide) r acc
  | succ f ih =>
    intro n hn acc r
    rw [decF]
    split
    · rename_i h10
      exact scanDigits_digit n h10 r acc
    · rw [List.append_assoc, ih (n / 10) (by omega), List.singleton_append,
        scanDigits_digit _ (Nat.mod_lt n (by decide)), List.length_append, List.length_singleton, Nat.pow_succ,
        ← Nat.mul_assoc, Nat.add_mul, Nat.add_assoc, Nat.div_add_mod']

theorem scanDigits_dec (d : Nat) (r : Bytes) : scanDigits (dec d ++ r) 0 = scanDigits r d := by
  rw [dec, scanDigits_decF d d (Nat.le_refl d)]
  simp

theorem decF_cons (f : Nat) : ∀ n, ∃ c r, decF f n = c :: r ∧ isDigit c = true := by
  induction f with
  | zero => exact fun n => ⟨_, [], rfl, isDigit_48 _ (Nat.mod_lt n (by decide))⟩
  | succ f ih =>
    intro n
    rw [decF]
    split
    · rename_i h10
      exact ⟨_, [], rfl, isDigit_48 n h10⟩
    · obtain ⟨c, r, e, hc⟩ := ih (n / 10)
      exact ⟨c, r ++ [48 + n % 10], by rw [e]; rfl, hc⟩

theorem compareTypes_some {a b : Nat} {x : Int} (h : compareTypes a b = some x) :
    x = (objTypeOrder.getD a 0 : Int) - (objTypeOrder.getD b 0 : Int) := by
  revert h
  fun_cases compareTypes a b <;> intro h <;> cases h
  rfl

theorem compareTypes_self (a : Nat) : compareTypes a a = some 0 := by
  unfold compareTypes
  cases isNormal a <;> simp

theorem objTypeOrder_nodup : objTypeOrder.Nodup := by decide +kernel

/-- only equal types compare equal, since obj_type_order[] has no value twice -/
theorem compareTypes_zero {a b : Nat} (ha : a < typeMax) (hb : b < typeMax) : compareTypes a b = some 0 ↔ a = b := by
  refine ⟨fun h => ?_, fun h => h ▸ compareTypes_self a⟩
  have := compareTypes_some h
  exact (List.getD_inj (fallback := 0) ha hb objTypeOrder_nodup).mp (by omega)

/-- the two UNORDERED tests are each other's mirror image -/
theorem compareTypes_swap (a b : Nat) : compareTypes b a = (compareTypes a b).map (fun v => -v) := by
  unfold compareTypes
  rw [← Int.neg_sub (objTypeOrder.getD a 0 : Int)]
  -- the difference itself plays no part in the case analysis
  generalize (objTypeOrder.getD a 0 : Int) - (objTypeOrder.getD b 0 : Int) = x
  cases isNormal a <;> cases isNormal b <;> simp

theorem compareTypes_none (a b : Nat) : compareTypes a b = none ↔
    ((isNormal a != isNormal b) && (if isNormal a then a != T_MACHINE else b != T_MACHINE)) = true := by
  unfold compareTypes
  generalize (objTypeOrder.getD a 0 : Int) - (objTypeOrder.getD b 0 : Int) = x
  cases isNormal a <;> cases isNormal b <;> simp

end Hw.TypeStr
