import Hw.Io.Conc
import Hw.Base.ListLemmas
namespace Hw.Conc

/-! ### refresh validates -/

theorem refreshDists_valid (ds : List DistSlot) : ∀ d ∈ refreshDists ds, d.valid = true := by
  intro d hd
  simp only [refreshDists, List.mem_filterMap] at hd
  obtain ⟨x, _, hx⟩ := hd
  by_cases hv : x.valid = true
  · simp only [hv, if_true, Option.some.injEq] at hx; subst hx; exact hv
  · by_cases hs : x.survives = true
    · simp [hv, hs] at hx
      subst hx; rfl
    · simp [hv, hs] at hx

theorem validateAttr_valid (l : List AttrSlot) : ∀ a ∈ l.map validateAttr, a.valid = true := by
  intro a ha
  obtain ⟨x, _, hx⟩ := List.mem_map.1 ha
  subst hx; rfl

theorem refresh_strong (s : TopoState) :
    (∀ d ∈ (refresh s).dists, d.valid = true) ∧ (∀ a ∈ (refresh s).attrs, a.valid = true) :=
  ⟨refreshDists_valid s.dists, validateAttr_valid s.attrs⟩

theorem refresh_cachesValid (s : TopoState) : CachesValid (refresh s) := refresh_strong s

theorem refresh_warm (s : TopoState) : (refresh s).warm = s.warm := rfl
theorem refresh_content (s : TopoState) : (refresh s).content = s.content := rfl
theorem invalidate_warm (f : Nat → Bool) (s : TopoState) : (invalidate f s).warm = s.warm := rfl

theorem refreshDists_id (ds : List DistSlot) (h : ∀ d ∈ ds, d.valid = true) : refreshDists ds = ds := by
  rw [refreshDists, filterMap_congr (g' := some) fun d hd => if_pos (h d hd), List.filterMap_some]

theorem refresh_idem_dists (s : TopoState) : (refresh (refresh s)).dists = (refresh s).dists :=
  refreshDists_id _ (refreshDists_valid s.dists)

theorem hasFlag_or (flags a b : Nat) : hasFlag flags (a ||| b) = (hasFlag flags a || hasFlag flags b) := by
  simp only [hasFlag, Nat.and_or_distrib_left]
  cases h1 : (flags &&& a != 0) <;> cases h2 : (flags &&& b != 0) <;> simp_all [Nat.or_eq_zero_iff]

theorem guardOk_mask {m : Nat} (hm : (m == 0) = false) (f : Nat) (b : Bool) :
    guardOk f (m, b) = (hasFlag f m == b) := by
  simp only [guardOk, hm, Bool.false_or]

theorem guardOk_zero (f : Nat) : guardOk f (0, false) = true := rfl

theorem guardOk_cm (f : Nat) : guardOk f (flagRestrictToCpubinding ||| flagRestrictToMembinding, true) =
    (hasFlag f flagRestrictToCpubinding || hasFlag f flagRestrictToMembinding) := by
  rw [guardOk_mask rfl, hasFlag_or, beq_true]

theorem runSeq_refreshSeq (flags : Nat) (o : LoadOracle) (s : TopoState) :
    runSeq Model.refreshSeq flags o s = refresh s := by
  simp only [runSeq, Model.refreshSeq, List.foldl_cons, List.foldl_nil, guardOk_zero, if_true, effect, refresh]

/-- the six steps up to `setLoaded` -/
theorem loadPrefix_cachesValid (flags : Nat) (o : LoadOracle) (s : TopoState) (h : FlaggedOffValid flags s) :
    CachesValid (runSeq (Model.loadSeq.take 6) flags o s) := by
  obtain ⟨hd, ha⟩ := h
  -- the fold is taken apart once, with the guards still open; only then the four flag cases
  simp only [runSeq, Model.loadSeq, List.take, List.foldl_cons, List.foldl_nil,
    guardOk_mask (m := flagNoDistances) rfl, guardOk_mask (m := flagNoMemattrs) rfl, guardOk_zero, if_true]
  cases hD : hasFlag flags flagNoDistances <;> cases hM : hasFlag flags flagNoMemattrs <;>
    simp only [beq_false, Bool.not_false, Bool.not_true, if_true, Bool.false_eq_true, if_false, effect, ite_self]
  · exact ⟨refreshDists_valid _, validateAttr_valid _⟩
  · exact ⟨refreshDists_valid _, ha hM⟩
  · exact ⟨hd hD, validateAttr_valid _⟩
  · exact ⟨hd hD, ha hM⟩

theorem loadTail_cachesValid (flags : Nat) (o : LoadOracle) (s : TopoState) (h : FlaggedOffValid flags s) :
    CachesValid (loadTail flags o s) := by
  have hpre := loadPrefix_cachesValid flags o s h
  rw [loadTail, ← List.take_append_drop 6 Model.loadSeq, runSeq, List.foldl_append]
  rw [runSeq] at hpre
  generalize List.foldl _ s (Model.loadSeq.take 6) = x at hpre ⊢
  -- after setLoaded: without a binding flag nothing runs; with one the last step is hwloc_topology_refresh, which validates everything
  simp only [Model.loadSeq, List.drop, List.foldl_cons, List.foldl_nil,
    guardOk_mask (m := flagRestrictToCpubinding) rfl, guardOk_mask (m := flagRestrictToMembinding) rfl, guardOk_cm]
  cases hasFlag flags flagRestrictToCpubinding <;> cases hasFlag flags flagRestrictToMembinding <;>
    simp only [Bool.or_self, Bool.or_true, Bool.or_false, beq_true, Bool.false_eq_true, if_false, if_true, effect]
  · exact hpre
  all_goals exact refresh_cachesValid _

/-! ### valid state: no unlocked write -/

theorem distEvents_valid (d : DistSlot) (h : d.valid = true) : distEvents d = [rd (.dist d.id)] := by
  simp [distEvents, h]

theorem distsEvents_read (ds : List DistSlot) (h : ∀ d ∈ ds, d.valid = true) :
    ∀ e ∈ distsEvents ds, e.acc = .R ∧ e.loc ≠ .registry :=
  List.forall_mem_cons.2 ⟨⟨rfl, by decide⟩, List.forall_mem_flatMap.2 fun d hd => by
    rw [distEvents_valid d (h d hd)]
    exact List.forall_mem_singleton.2 ⟨rfl, fun h => nomatch h⟩⟩

theorem distsEvents_valid (ds : List DistSlot) (h : ∀ d ∈ ds, d.valid = true) :
    ∀ e ∈ distsEvents ds, e.acc = .R := fun e he => (distsEvents_read ds h e he).1

theorem refreshes_false (q : MemQ) (a : AttrSlot)
    (h : a.valid = true) : refreshes q a = false := by
  simp [refreshes, h]

theorem staticEvents_warm (s : TopoState) (hw : Warm s) (c : StaticCache) : staticEvents s c = [rd (.static c)] := by
  simp [staticEvents, hw c]

/-- an access that cannot take part in a race between consulting calls: a plain read of topology data, or an
    access to the component registry made under the components mutex -/
def benign (e : Event) : Bool := (e.acc == .R && e.loc != .registry) || (e.locked && e.loc == .registry)

theorem benign_rd (l : Loc) (h : l ≠ .registry) : benign (rd l) = true := by
  simp [benign, rd, h]

theorem benign_lockedRegistry : benign lockedRegistry = true := by decide

theorem distsEvents_benign (ds : List DistSlot) (h : ∀ d ∈ ds, d.valid = true) :
    ∀ e ∈ distsEvents ds, benign e = true := by
  intro e he
  obtain ⟨hr, hl⟩ := distsEvents_read ds h e he
  simp [benign, hr, hl]

theorem attrsRefreshEvents_benign (as : List AttrSlot) (h : ∀ a ∈ as, a.valid = true) :
    ∀ e ∈ attrsRefreshEvents as, benign e = true :=
  List.forall_mem_flatMap.2 fun i _ => by
    cases hg : as[i]? with
    | none => exact fun _ h => nomatch h
    | some a =>
      simp only [h a (List.mem_of_getElem? hg), if_true]
      exact List.forall_mem_singleton.2 (benign_rd _ (by simp))

theorem events_benign (s : TopoState) (hv : Valid s) (r : Reader) :
    ∀ e ∈ events s r, benign e = true := by
  obtain ⟨⟨hd, ha⟩, hw⟩ := hv
  -- the footprint of a call that stops at its argument check, or of a pure reader
  have htopo : ∀ e ∈ [rd Loc.topo], benign e = true := by decide
  have hdists := distsEvents_benign s.dists hd
  have hrd : ∀ l, l ≠ Loc.registry → ∀ e ∈ [rd l], benign e = true := fun l hl =>
    List.forall_mem_singleton.2 (benign_rd l hl)
  cases r with
  | pure f =>
    cases f
    case cpukindQuery => exact (by decide : ∀ e ∈ [rd Loc.kinds, rd Loc.topo], benign e = true)
    all_goals exact htopo
  | distancesGet ok =>
    cases ok
    · exact htopo
    · exact List.forall_mem_cons.2 ⟨by decide, hdists⟩
  | memattrQuery q id ok =>
    cases ok
    · exact htopo
    · simp only [events, Bool.not_true, Bool.false_eq_true, if_false]
      cases hg : s.attrs[id]? with
      | none => exact htopo
      | some a =>
        simp only [refreshes_false q a (ha a (List.mem_of_getElem? hg)), Bool.false_eq_true, if_false]
        exact List.forall_mem_cons.2 ⟨by decide, hrd _ (by simp)⟩
  | diffBuild =>
    exact List.forall_mem_cons.2 ⟨by decide, List.forall_mem_append.2 ⟨hdists, attrsRefreshEvents_benign s.attrs ha⟩⟩
  | exportXml ok =>
    cases ok
    · exact htopo
    · refine List.forall_mem_cons.2 ⟨by decide, List.forall_mem_cons.2 ⟨by decide, List.forall_mem_append.2
        ⟨List.forall_mem_append.2 ⟨List.forall_mem_append.2 ⟨?_, hdists⟩, ?_⟩, by decide⟩⟩⟩
      · exact List.forall_mem_flatMap.2 fun c _ => by rw [staticEvents_warm s hw c]; exact hrd _ (by simp)
      · exact List.forall_mem_map.2 fun i _ => benign_rd _ (by simp)

theorem benign_not_unlocked_write (e : Event) (h : benign e = true) : (e.acc == .W && !e.locked) = false := by
  cases e with | mk l a k => cases a <;> cases k <;> simp_all [benign]

theorem unlockedWrites_valid (s : TopoState) (hv : Valid s) (r : Reader) : unlockedWrites (events s r) = [] := by
  simp only [unlockedWrites, List.map_eq_nil_iff, List.filter_eq_nil_iff]
  intro e he
  simp [benign_not_unlocked_write e (events_benign s hv r e he)]

theorem conflict_of_benign (a b : Event) (ha : benign a = true) (hb : benign b = true) : conflict a b = false := by
  simp only [benign, Bool.or_eq_true, Bool.and_eq_true, beq_iff_eq, bne_iff_ne] at ha hb
  unfold conflict
  rcases ha with ⟨ha, hla⟩ | ⟨ha, hla⟩ <;> rcases hb with ⟨hb, hlb⟩ | ⟨hb, hlb⟩
  · simp [ha, hb]
  · -- a read outside the registry, an access to the registry
    have : (a.loc == b.loc) = false := by rw [hlb]; exact beq_false_of_ne hla
    simp [this]
  · have : (a.loc == b.loc) = false := by rw [hla]; exact beq_false_of_ne (Ne.symm hlb)
    simp [this]
  · simp [ha, hb]

/-! ### every schedule from a valid state -/

structure SysInv (s0 : TopoState) (y : Sys) : Prop where
  st : y.st = s0
  pend : ∀ th ∈ y.thr, ∀ p, th.pending = some p → p.snap = s0
  tr : ∀ e ∈ y.trace, e.snap = s0 ∧ e.events = events s0 e.reader

theorem step_sysInv (s0 : TopoState) (hv : Valid s0) (y : Sys) (t : Nat) (h : SysInv s0 y) :
    SysInv s0 (step y t) := by
  have hpend : ∀ th₂ : ThreadSt, (∀ p, th₂.pending = some p → p.snap = s0) →
      ∀ th ∈ y.thr.set t th₂, ∀ p, th.pending = some p → p.snap = s0 := fun th₂ h₂ th hth =>
    (List.mem_or_eq_of_mem_set hth).elim (h.pend th) fun e => e ▸ h₂
  cases hg : y.thr[t]? with
  | none => simp only [step, hg]; exact h
  | some th =>
    cases hp : th.pending with
    | some p =>
      have hsnap : p.snap = s0 := h.pend th (List.mem_of_getElem? hg) p hp
      simp only [step, hg, hp]
      refine ⟨?_, hpend _ (fun _ hp => nomatch hp),
        List.forall_mem_append.2 ⟨h.tr, List.forall_mem_singleton.2 ⟨hsnap, by simp only [hsnap]⟩⟩⟩
      simp only [hsnap, unlockedWrites_valid s0 hv, applyWrites, List.foldl_nil]; exact h.st
    | none =>
      cases hpr : th.prog with
      | nil => simp only [step, hg, hp, hpr]; exact h
      | cons r rest =>
        simp only [step, hg, hp, hpr]
        exact ⟨h.st, hpend _ fun p' hp' => by cases hp'; exact h.st, h.tr⟩

theorem start_sysInv (s0 : TopoState) (progs : List (List Reader)) : SysInv s0 (start s0 progs) := by
  refine ⟨rfl, ?_, ?_⟩
  · intro th hth p hp
    simp only [start, List.mem_map] at hth
    obtain ⟨_, _, rfl⟩ := hth
    simp at hp
  · intro e he; simp [start] at he

theorem run_sysInv (s0 : TopoState) (hv : Valid s0) (sched : List Nat) (y : Sys) (h : SysInv s0 y) :
    SysInv s0 (run y sched) :=
  List.foldlRecOn sched _ h fun y hy t _ => step_sysInv s0 hv y t hy

theorem raceFree_of_sysInv (s0 : TopoState) (hv : Valid s0) (y : Sys) (h : SysInv s0 y) : RaceFree y.trace := by
  intro a ha b hb _ e₁ he₁ e₂ he₂
  rw [(h.tr a ha).2] at he₁
  rw [(h.tr b hb).2] at he₂
  exact conflict_of_benign _ _ (events_benign s0 hv _ _ he₁) (events_benign s0 hv _ _ he₂)

/-! ### without the refresh there is a race -/

theorem distEvents_invalid_has_write (d : DistSlot) (h : d.valid = false) : wr (.dist d.id) ∈ distEvents d := by
  simp [distEvents, h]

theorem events_get_invalid (s : TopoState) (d : DistSlot) (hd : d ∈ s.dists) (h : d.valid = false) :
    wr (.dist d.id) ∈ events s (.distancesGet true) := by
  simp only [events, distsEvents, List.mem_cons, List.mem_flatMap]
  exact Or.inr (Or.inr ⟨d, hd, distEvents_invalid_has_write d h⟩)

/-- the 4-step schedule: both threads observe, then both commit -/
theorem run_two (s : TopoState) (r : Reader) :
    (run (start s [[r], [r]]) [0, 1, 0, 1]).trace =
      [{ tid := 0, reader := r, snap := s, events := events s r },
       { tid := 1, reader := r, snap := s, events := events s r }] := by
  simp [run, start, step]

theorem race_of_write (s : TopoState) (r : Reader) (l : Loc) (hw : wr l ∈ events s r) :
    ¬ RaceFree (run (start s [[r], [r]]) [0, 1, 0, 1]).trace ∧
    ∃ a ∈ (run (start s [[r], [r]]) [0, 1, 0, 1]).trace, ∃ b ∈ (run (start s [[r], [r]]) [0, 1, 0, 1]).trace,
      a.tid ≠ b.tid ∧ wr l ∈ a.events ∧ wr l ∈ b.events := by
  rw [run_two]
  refine ⟨fun hrf => ?_, _, .head _, _, .tail _ (.head _), Nat.zero_ne_one, hw, hw⟩
  have := hrf _ (.head _) _ (.tail _ (.head _)) Nat.zero_ne_one _ hw _ hw
  simp [conflict, wr] at this

end Hw.Conc
