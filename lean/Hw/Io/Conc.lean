/- Hw.Io.Conc — model for C17 (documented thread-safety).

   Part (a) READERS.  Shared state = the validity flags of the lazy caches of one topology
   (per distances structure `HWLOC_INTERNAL_DIST_FLAG_OBJS_VALID`, per memory attribute
   `HWLOC_IMATTR_FLAG_CACHE_VALID`), the process-wide function-local `static int checked`
   environment caches, and "everything else" (`content`, opaque).  Every consulting entry point
   has a footprint `events s r` (list of accesses to abstract locations) read off the C:

     hwloc/distances.c  hwloc__distances_get -> hwloc_internal_distances_refresh (unconditional call,
                        writes objs[]/iflags of every structure whose OBJS_VALID is clear, unlinks it when
                        fewer than 2 objects survive)
     hwloc/memattrs.c   hwloc_memattr_get_value / get_targets / get_best_target: convenience attributes
                        return before the test; otherwise `if (!(iflags & CACHE_VALID)) hwloc__imattr_refresh`
                        hwloc_memattr_get_initiators / get_best_initiator: only attributes with NEED_INITIATOR
                        reach the test
     hwloc/topology-xml.c  hwloc_topology_export_xml / xmlbuffer: components_init/fini (under the mutex),
                        hwloc_internal_distances_refresh, static env caches; the memattr export itself does
                        NOT refresh (it prints type/gp_index, never the cached object)
     cpukinds: ranking is eager (register / restrict / refresh rank immediately), queries are pure reads.

   Concurrency semantics: every call is split into `observe` (the thread reads the shared state and
   decides what it will do) and `commit` (it performs its writes).  Other threads may run between the two,
   which is exactly what makes the unrefreshed W/W race reachable.

   Part (b) INDEPENDENT TOPOLOGIES.  Process-wide state (users, registry initialised, lock holder);
   hwloc_components_init / hwloc_components_fini as programs of a small instruction IR (extracted from
   components.c by tools/gen_conc.py into Hw/Gen/ComponentsIR.lean), interpreted by a step function over
   any number of threads.
-/
namespace Hw.Conc

/-! ## (a) readers -/

/-- function-local static environment caches (process-wide, written on first use) -/
inductive StaticCache
  | xmlVerbose          -- hwloc__xml_verbose            topology-xml.c:21
  | nolibxmlImport      -- hwloc_nolibxml_import         topology-xml.c:35
  | nolibxmlExport      -- hwloc_nolibxml_export         topology-xml.c:54
  | libxmlInit          -- hwloc_libxml2_init_once       topology-xml-libxml.c:33
  | hideErrors          -- hwloc_hide_errors             topology.c:71
  | insertErrorReported -- report_insert_error `reported` topology.c:123
  | linuxCpumaskSizes   -- _filesize / _nr_maps_allocated topology-linux.c:766
  deriving DecidableEq, Repr

inductive Loc
  | dist (id : Nat)          -- one hwloc_internal_distances_s: iflags, objs[], (indexes/values when compacted)
  | distList                 -- first_dist / last_dist / prev / next links
  | attr (i : Nat)           -- one hwloc_internal_memattr_s: iflags, nr_targets, targets[] cache
  | kinds                    -- cpukinds array
  | static (c : StaticCache)
  | registry                 -- hwloc_components_users + component lists (only touched under the mutex)
  | topo                     -- everything else reachable from the topology
  deriving DecidableEq, Repr

inductive Acc | R | W
  deriving DecidableEq, Repr

structure Event where
  loc : Loc
  acc : Acc
  locked : Bool := false     -- performed while holding hwloc_components_mutex
  deriving DecidableEq, Repr

structure DistSlot where
  id : Nat
  valid : Bool               -- OBJS_VALID
  survives : Bool            -- at least 2 of its objects still exist (refresh keeps it), else refresh unlinks it
  deriving DecidableEq, Repr

structure AttrSlot where
  conv : Bool                -- HWLOC_IMATTR_FLAG_CONVENIENCE (capacity, locality)
  needInit : Bool            -- HWLOC_MEMATTR_FLAG_NEED_INITIATOR
  valid : Bool               -- CACHE_VALID
  deriving DecidableEq, Repr

structure TopoState where
  dists : List DistSlot := []
  attrs : List AttrSlot := []
  warm : List StaticCache := []     -- static caches already initialised in this process
  content : Nat := 0                -- everything the consulting calls return (opaque)
  deriving DecidableEq, Repr

inductive PureFam
  | traversal | typePrint | setGetter | bitmapQuery | cpukindQuery | memattrMeta
  | distancesRelease | localNumanodes | exportSynthetic | infoQuery
  deriving DecidableEq, Repr

inductive MemQ | value | targets | initiators | bestTarget | bestInitiator
  deriving DecidableEq, Repr

/-- the consulting entry points, grouped by footprint -/
inductive Reader
  | pure (f : PureFam)
  | distancesGet (argsOk : Bool)                     -- hwloc_distances_get / _by_depth / _by_type / _by_name
  | memattrQuery (q : MemQ) (id : Nat) (argsOk : Bool)
  | exportXml (argsOk : Bool)                        -- hwloc_topology_export_xml / _xmlbuffer
  | diffBuild                                        -- hwloc_topology_diff_build (refreshes distances and ALL memattrs of both operands)
  deriving DecidableEq, Repr

def rd (l : Loc) : Event := { loc := l, acc := .R }
def wr (l : Loc) : Event := { loc := l, acc := .W }

/-- accesses of `hwloc_internal_distances_refresh_one` + the unlink in `hwloc_internal_distances_refresh` -/
def distEvents (d : DistSlot) : List Event :=
  rd (.dist d.id) ::
    (if d.valid then [] else wr (.dist d.id) :: (if d.survives then [] else [wr .distList]))

def distsEvents (ds : List DistSlot) : List Event := rd .distList :: ds.flatMap distEvents

/-- does this query reach `hwloc__imattr_refresh` on that attribute -/
def reachesTest (q : MemQ) (a : AttrSlot) : Bool :=
  match q with
  | .value | .targets | .bestTarget => !a.conv
  | .initiators | .bestInitiator => a.needInit

def refreshes (q : MemQ) (a : AttrSlot) : Bool := reachesTest q a && !a.valid

def staticEvents (s : TopoState) (c : StaticCache) : List Event :=
  if c ∈ s.warm then [rd (.static c)] else [rd (.static c), wr (.static c)]

/-- static caches consulted by the XML export path -/
def exportStatics : List StaticCache := [.nolibxmlExport, .xmlVerbose, .libxmlInit]

def lockedRegistry : Event := { loc := .registry, acc := .W, locked := true }

/-- accesses of `hwloc_internal_memattrs_refresh`: every attribute without CACHE_VALID (convenience ones included) -/
def attrsRefreshEvents (as : List AttrSlot) : List Event :=
  (List.range as.length).flatMap fun i =>
    match as[i]? with
    | some a => rd (.attr i) :: (if a.valid then [] else [wr (.attr i)])
    | none => []

/-- the footprint of one consulting call started in state `s` -/
def events (s : TopoState) : Reader → List Event
  | .pure .cpukindQuery => [rd .kinds, rd .topo]
  | .pure _ => [rd .topo]
  | .distancesGet false => [rd .topo]
  | .distancesGet true => rd .topo :: distsEvents s.dists
  | .memattrQuery q id ok =>
      if !ok then [rd .topo] else
      match s.attrs[id]? with
      | none => [rd .topo]
      | some a => rd .topo :: rd (.attr id) :: (if refreshes q a then [wr (.attr id)] else [])
  | .exportXml false => [rd .topo]
  | .diffBuild => rd .topo :: (distsEvents s.dists ++ attrsRefreshEvents s.attrs)
  | .exportXml true =>
      rd .topo :: lockedRegistry :: (exportStatics.flatMap (staticEvents s) ++ distsEvents s.dists ++
        (List.range s.attrs.length).map (fun i => rd (.attr i)) ++ [rd .kinds, lockedRegistry])

/-- `hwloc_internal_distances_refresh` on the state -/
def refreshDists (ds : List DistSlot) : List DistSlot :=
  ds.filterMap (fun d => if d.valid then some d else if d.survives then some { d with valid := true } else none)

def validateAttr (a : AttrSlot) : AttrSlot := { a with valid := true }

/-- effect of one unsynchronised write on the shared state -/
def applyWrite (s : TopoState) : Loc → TopoState
  | .dist id => { s with dists := s.dists.filterMap (fun d =>
        if d.id = id then (if d.valid then some d else if d.survives then some { d with valid := true } else none)
        else some d) }
  | .attr i => { s with attrs := s.attrs.mapIdx (fun j a => if j = i then validateAttr a else a) }
  | .static c => if c ∈ s.warm then s else { s with warm := c :: s.warm }
  | _ => s

def unlockedWrites (evs : List Event) : List Loc :=
  (evs.filter (fun e => e.acc == .W && !e.locked)).map (·.loc)

def applyWrites (s : TopoState) (ws : List Loc) : TopoState := ws.foldl applyWrite s

/-- `hwloc_topology_refresh` (topology.c:4945): cpukinds rank, distances refresh, memattrs refresh -/
def refresh (s : TopoState) : TopoState :=
  { s with dists := refreshDists s.dists, attrs := s.attrs.map validateAttr }

/-- what modifying calls do to the caches (`hwloc_internal_distances_invalidate_cached_objs`,
    `hwloc_internal_memattrs_need_refresh`); `surv` says which structures still have 2 objects afterwards -/
def invalidate (surv : Nat → Bool) (s : TopoState) : TopoState :=
  { s with dists := s.dists.map (fun d => { d with valid := false, survives := surv d.id }),
           attrs := s.attrs.map (fun a => if a.conv then a else { a with valid := false }) }

/-! ### topology flags, `hwloc_topology_refresh` and the tail of `hwloc_topology_load` as step sequences

   The two sequences are extracted from topology.c by tools/gen_conc.py (Hw/Gen/ComponentsIR.lean) and must equal
   the model sequences below (`C17_gen_load_seq_matches`, `C17_gen_refresh_seq_matches`, by `decide`). -/

def flagRestrictToCpubinding : Nat := 16    -- HWLOC_TOPOLOGY_FLAG_RESTRICT_TO_CPUBINDING (1UL<<4)
def flagRestrictToMembinding : Nat := 32    -- HWLOC_TOPOLOGY_FLAG_RESTRICT_TO_MEMBINDING (1UL<<5)
def flagNoDistances : Nat := 128            -- HWLOC_TOPOLOGY_FLAG_NO_DISTANCES (1UL<<7)
def flagNoMemattrs : Nat := 256             -- HWLOC_TOPOLOGY_FLAG_NO_MEMATTRS (1UL<<8)
def flagNoCpukinds : Nat := 512             -- HWLOC_TOPOLOGY_FLAG_NO_CPUKINDS (1UL<<9)

def hasFlag (flags mask : Nat) : Bool := flags &&& mask != 0

inductive LoadStep
  | rankKinds          -- hwloc_internal_cpukinds_rank
  | invalidateDists    -- hwloc_internal_distances_invalidate_cached_objs
  | refreshDists       -- hwloc_internal_distances_refresh
  | needRefreshAttrs   -- hwloc_internal_memattrs_need_refresh
  | refreshAttrs       -- hwloc_internal_memattrs_refresh
  | setLoaded          -- state |= IS_LOADED
  | restrictCpubind    -- hwloc_get_cpubind + hwloc_topology_restrict
  | restrictMembind    -- hwloc_get_membind + hwloc_topology_restrict(BYNODESET)
  | refreshAll         -- hwloc_topology_refresh
  deriving DecidableEq, Repr

/-- a step with its guard `(mask, whenSet)`: it runs iff `mask = 0` or `(flags & mask != 0) = whenSet` -/
abbrev GStep := LoadStep × Nat × Bool
abbrev LoadSeq := List GStep

def guardOk (flags : Nat) (g : Nat × Bool) : Bool := g.1 == 0 || (hasFlag flags g.1 == g.2)

/-- hwloc_topology_refresh (topology.c): unconditional — the user may have added distances / attribute values even when
    NO_DISTANCES / NO_MEMATTRS ignored what the OS reported.  (Before that repair the three steps were guarded:
    `[(.rankKinds, flagNoCpukinds, false), (.refreshDists, flagNoDistances, false), (.refreshAttrs, flagNoMemattrs, false)]`.) -/
def Model.refreshSeq : LoadSeq := [(.rankKinds, 0, false), (.refreshDists, 0, false), (.refreshAttrs, 0, false)]

/-- the tail of hwloc_topology_load after hwloc_discover (topology.c), with the fix 6c24a9e: the restrict-to-binding
    blocks are followed by a second refresh -/
def Model.loadSeq : LoadSeq :=
  [(.rankKinds, flagNoCpukinds, false),
   (.invalidateDists, flagNoDistances, false), (.refreshDists, flagNoDistances, false),
   (.needRefreshAttrs, flagNoMemattrs, false), (.refreshAttrs, flagNoMemattrs, false),
   (.setLoaded, 0, false),
   (.restrictCpubind, flagRestrictToCpubinding, true), (.restrictMembind, flagRestrictToMembinding, true),
   (.refreshAll, flagRestrictToCpubinding ||| flagRestrictToMembinding, true)]

/-- the same before 6c24a9e (finding F51) -/
def Model.loadSeqUnfixed : LoadSeq := Model.loadSeq.dropLast

/-- every function of hwloc/{memattrs,distances,cpukinds,topology-xml,topology,diff,shmem,traversal,bind,bitmap,
    topology-synthetic,misc,pci-common}.c that calls a cache-(re)building function, in source order, with whether the call
    is guarded by the validity flag.  The consulting entry points among them are exactly the writers of `events`:
    the five memattr queries, hwloc__distances_get (the four public getters), the two XML exports, diff_build
    (and hwloc_shmem_topology_write, covered by C19); a new caller breaks `C17_gen_lazy_callers_match`. -/
def Model.lazyCallers : List (String × String × Bool) := [
  ("memattrs.c:hwloc_internal_memattrs_refresh", "hwloc__imattr_refresh", true),
  ("memattrs.c:hwloc_memattr_get_targets", "hwloc__imattr_refresh", true),
  ("memattrs.c:hwloc_memattr_get_initiators", "hwloc__imattr_refresh", true),
  ("memattrs.c:hwloc_memattr_get_value", "hwloc__imattr_refresh", true),
  ("memattrs.c:hwloc__internal_memattr_set_value", "hwloc__imattr_refresh", false),
  ("memattrs.c:hwloc_memattr_get_best_target", "hwloc__imattr_refresh", true),
  ("memattrs.c:hwloc_memattr_get_best_initiator", "hwloc__imattr_refresh", true),
  ("memattrs.c:hwloc__group_memory_tiers", "hwloc__imattr_refresh", true),
  ("memattrs.c:hwloc__group_memory_tiers", "hwloc__imattr_refresh", true),
  ("distances.c:hwloc_internal_distances_refresh", "hwloc_internal_distances_refresh_one", false),
  ("distances.c:hwloc__distances_get", "hwloc_internal_distances_refresh", false),
  ("cpukinds.c:hwloc_internal_cpukinds_restrict", "hwloc_internal_cpukinds_rank", false),
  ("cpukinds.c:hwloc_cpukinds_register", "hwloc_internal_cpukinds_rank", false),
  ("topology-xml.c:hwloc_topology_export_xml", "hwloc_internal_distances_refresh", false),
  ("topology-xml.c:hwloc_topology_export_xmlbuffer", "hwloc_internal_distances_refresh", false),
  ("topology.c:hwloc_topology_load", "hwloc_internal_cpukinds_rank", false),
  ("topology.c:hwloc_topology_load", "hwloc_internal_distances_refresh", false),
  ("topology.c:hwloc_topology_load", "hwloc_internal_memattrs_refresh", false),
  ("topology.c:hwloc_topology_load", "hwloc_topology_refresh", false),
  ("topology.c:hwloc_topology_refresh", "hwloc_internal_cpukinds_rank", false),
  ("topology.c:hwloc_topology_refresh", "hwloc_internal_distances_refresh", false),
  ("topology.c:hwloc_topology_refresh", "hwloc_internal_memattrs_refresh", false),
  ("diff.c:hwloc_topology_diff_build", "hwloc_internal_distances_refresh", false),
  ("diff.c:hwloc_topology_diff_build", "hwloc_internal_distances_refresh", false),
  ("diff.c:hwloc_topology_diff_build", "hwloc_internal_memattrs_refresh", false),
  ("diff.c:hwloc_topology_diff_build", "hwloc_internal_memattrs_refresh", false),
  ("shmem.c:hwloc_shmem_topology_write", "hwloc_internal_distances_refresh", false),
  ("shmem.c:hwloc_shmem_topology_write", "hwloc_internal_memattrs_refresh", false),
  ("shmem.c:hwloc_shmem_topology_write", "hwloc_internal_distances_refresh", false),
  ("shmem.c:hwloc_shmem_topology_write", "hwloc_internal_memattrs_refresh", false)]

def Model.flags : List Nat :=
  [flagRestrictToCpubinding, flagRestrictToMembinding, flagNoDistances, flagNoMemattrs, flagNoCpukinds]

def invalidateDistsOnly (surv : Nat → Bool) (s : TopoState) : TopoState :=
  { s with dists := s.dists.map (fun d => { d with valid := false, survives := surv d.id }) }

def needRefreshAttrsOnly (s : TopoState) : TopoState :=
  { s with attrs := s.attrs.map (fun a => if a.conv then a else { a with valid := false }) }

/-- what the model cannot know about one load: which distances structures keep 2 objects after discovery / after each
    binding restrict, and whether the binding restricts run at all (get_cpubind may fail, the set may cover everything) -/
structure LoadOracle where
  surv : Nat → Bool
  survCpu : Nat → Bool
  survMem : Nat → Bool
  ranCpu : Bool
  ranMem : Bool

def effect (o : LoadOracle) : LoadStep → TopoState → TopoState
  | .rankKinds, s | .setLoaded, s => s
  | .invalidateDists, s => invalidateDistsOnly o.surv s
  | .refreshDists, s => { s with dists := refreshDists s.dists }
  | .needRefreshAttrs, s => needRefreshAttrsOnly s
  | .refreshAttrs, s => { s with attrs := s.attrs.map validateAttr }
  | .restrictCpubind, s => if o.ranCpu then invalidate o.survCpu s else s     -- restrict invalidates unconditionally
  | .restrictMembind, s => if o.ranMem then invalidate o.survMem s else s
  | .refreshAll, s => refresh s

def runSeq (seq : LoadSeq) (flags : Nat) (o : LoadOracle) (s : TopoState) : TopoState :=
  seq.foldl (fun x g => if guardOk flags g.2 then effect o g.1 x else x) s

/-- the tail of `hwloc_topology_load` under flag word `flags` -/
def loadTail (flags : Nat) (o : LoadOracle) (s : TopoState) : TopoState := runSeq Model.loadSeq flags o s

/-- what load relies on for the caches its own tail skips under NO_DISTANCES / NO_MEMATTRS: nothing was discovered, so
    nothing is invalid when load starts -/
def FlaggedOffValid (flags : Nat) (s : TopoState) : Prop :=
  (hasFlag flags flagNoDistances = true → ∀ d ∈ s.dists, d.valid = true) ∧
  (hasFlag flags flagNoMemattrs = true → ∀ a ∈ s.attrs, a.valid = true)

/-- every lazy cache is valid (convenience attributes included: the per-attribute queries never test their flag, but
    hwloc_internal_memattrs_refresh — reached from hwloc_topology_diff_build and hwloc_shmem_topology_write — does) -/
def CachesValid (s : TopoState) : Prop :=
  (∀ d ∈ s.dists, d.valid = true) ∧ (∀ a ∈ s.attrs, a.valid = true)

def Warm (s : TopoState) : Prop := ∀ c : StaticCache, c ∈ s.warm

def Valid (s : TopoState) : Prop := CachesValid s ∧ Warm s

/-- executable versions (driver / examples) -/
def cachesValidB (s : TopoState) : Bool :=
  s.dists.all (·.valid) && s.attrs.all (·.valid)

def allStatics : List StaticCache :=
  [.xmlVerbose, .nolibxmlImport, .nolibxmlExport, .libxmlInit, .hideErrors, .insertErrorReported, .linuxCpumaskSizes]

def warmB (s : TopoState) : Bool := allStatics.all (· ∈ s.warm)

/-! ### threads -/

structure Pending where
  reader : Reader
  snap : TopoState            -- the shared state the call observed when it started
  deriving DecidableEq, Repr

structure ThreadSt where
  prog : List Reader := []
  pending : Option Pending := none
  deriving DecidableEq, Repr

structure TraceEntry where
  tid : Nat
  reader : Reader
  snap : TopoState
  events : List Event
  deriving DecidableEq, Repr

structure Sys where
  st : TopoState
  thr : List ThreadSt
  trace : List TraceEntry := []
  deriving Repr

/-- one scheduling decision: thread `t` either starts its next call (observe) or finishes the one in
    flight (commit: its unlocked writes hit the shared state). -/
def step (y : Sys) (t : Nat) : Sys :=
  match y.thr[t]? with
  | none => y
  | some th =>
    match th.pending with
    | some p =>
        let evs := events p.snap p.reader
        { st := applyWrites y.st (unlockedWrites evs),
          thr := y.thr.set t { th with pending := none },
          trace := y.trace ++ [{ tid := t, reader := p.reader, snap := p.snap, events := evs }] }
    | none =>
      match th.prog with
      | [] => y
      | r :: rest => { y with thr := y.thr.set t { prog := rest, pending := some { reader := r, snap := y.st } } }

def run (y : Sys) (sched : List Nat) : Sys := sched.foldl step y

def start (s : TopoState) (progs : List (List Reader)) : Sys :=
  { st := s, thr := progs.map (fun p => { prog := p }) }

def conflict (a b : Event) : Bool :=
  a.loc == b.loc && (a.acc == .W || b.acc == .W) && !(a.locked && b.locked)

/-- no two accesses of different threads conflict — whatever the order in which the individual accesses of
    the calls are interleaved (the reader threads share no synchronisation besides the components mutex) -/
def RaceFree (tr : List TraceEntry) : Prop :=
  ∀ a ∈ tr, ∀ b ∈ tr, a.tid ≠ b.tid → ∀ e₁ ∈ a.events, ∀ e₂ ∈ b.events, conflict e₁ e₂ = false

def raceFreeB (tr : List TraceEntry) : Bool :=
  tr.all fun a => tr.all fun b => a.tid == b.tid || a.events.all fun e₁ => b.events.all fun e₂ => !conflict e₁ e₂

/-! ## (b) component registry -/
namespace Reg

inductive Instr
  | lock | unlock | ret
  | test                     -- flag := (users ≠ 0)
  | inc | dec
  | brIfNot (tgt : Nat)      -- if ¬flag goto tgt
  | brIf (tgt : Nat)         -- if flag goto tgt
  | initReg | destroyReg
  deriving DecidableEq, Repr

abbrev Prog := List Instr

/-- hwloc_components_init (components.c:436):
    LOCK; if (0 != users++) { UNLOCK; return; } <register components>; UNLOCK; -/
def Model.initProg : Prog := [.lock, .test, .inc, .brIfNot 6, .unlock, .ret, .initReg, .unlock, .ret]
/-- hwloc_components_fini (components.c:907):
    LOCK; if (0 != --users) { UNLOCK; return; } <finalize, reset lists>; UNLOCK; -/
def Model.finiProg : Prog := [.lock, .dec, .test, .brIfNot 6, .unlock, .ret, .destroyReg, .unlock, .ret]

inductive Phase | idle | init | between | fini
  deriving DecidableEq, Repr, Hashable

structure Thr where
  phase : Phase := .idle
  pc : Nat := 0
  flag : Bool := false
  deriving DecidableEq, Repr, Hashable

structure Cfg where
  users : Nat := 0
  reg : Bool := false             -- registry initialised (hwloc_disc_components / xml callbacks registered)
  lock : Option Nat := none
  thr : List Thr := []
  bad : Bool := false             -- an access outside the lock, a failed assert, double init, destroy of nothing,
                                  -- unlock by a non-holder, return with the lock held
  deriving DecidableEq, Repr, Hashable

def setThr (c : Cfg) (t : Nat) (th : Thr) : Cfg := { c with thr := c.thr.set t th }

/-- execute one instruction of thread `t` (local state `th`); `next` is the phase entered by `ret` -/
def exec (c : Cfg) (t : Nat) (th : Thr) (next : Phase) : Instr → Cfg
  | .lock => if c.lock = none then { setThr c t { th with pc := th.pc + 1 } with lock := some t } else c
  | .unlock =>
      if c.lock = some t then { setThr c t { th with pc := th.pc + 1 } with lock := none }
      else { c with bad := true }
  | .ret =>
      if c.lock = some t then { c with bad := true }
      else setThr c t { phase := next, pc := 0, flag := false }
  | .test =>
      if c.lock = some t then setThr c t { th with pc := th.pc + 1, flag := decide (c.users ≠ 0) }
      else { c with bad := true }
  | .inc =>
      if c.lock = some t then { setThr c t { th with pc := th.pc + 1 } with users := c.users + 1 }
      else { c with bad := true }
  | .dec =>
      if c.lock = some t ∧ c.users ≠ 0 then { setThr c t { th with pc := th.pc + 1 } with users := c.users - 1 }
      else { c with bad := true }
  | .brIfNot tgt => setThr c t { th with pc := if th.flag then th.pc + 1 else tgt }
  | .brIf tgt => setThr c t { th with pc := if th.flag then tgt else th.pc + 1 }
  | .initReg =>
      if c.lock = some t ∧ c.reg = false then { setThr c t { th with pc := th.pc + 1 } with reg := true }
      else { c with bad := true }
  | .destroyReg =>
      if c.lock = some t ∧ c.reg = true then { setThr c t { th with pc := th.pc + 1 } with reg := false }
      else { c with bad := true }

/-- one scheduling decision.  An idle thread calls `hwloc_components_init` (topology_init), a thread between
    its init and fini calls `hwloc_components_fini` (topology_destroy); a thread blocked on the mutex stutters. -/
def step (ip fp : Prog) (c : Cfg) (t : Nat) : Cfg :=
  match c.thr[t]? with
  | none => c
  | some th =>
    match th.phase with
    | .idle => setThr c t { phase := .init, pc := 0, flag := false }
    | .between => setThr c t { phase := .fini, pc := 0, flag := false }
    | .init => match ip[th.pc]? with
        | none => c
        | some i => exec c t th .between i
    | .fini => match fp[th.pc]? with
        | none => c
        | some i => exec c t th .idle i

def run (ip fp : Prog) (c : Cfg) (sched : List Nat) : Cfg := sched.foldl (step ip fp) c

def start (n : Nat) : Cfg := { thr := List.replicate n {} }

/-- thread contributes to the reference count: between its `users++` and its `--users` -/
def holding (th : Thr) : Bool :=
  match th.phase with
  | .idle => false
  | .between => true
  | .init => decide (3 ≤ th.pc)
  | .fini => decide (th.pc ≤ 1)

/-- thread is between LOCK and UNLOCK of the model programs -/
def inCS (th : Thr) : Bool :=
  (th.phase = .init ∨ th.phase = .fini) && (th.pc = 1 || th.pc = 2 || th.pc = 3 || th.pc = 4 || th.pc = 6 || th.pc = 7)

/-- what holds at each program point inside the critical sections -/
def csInv (c : Cfg) (th : Thr) : Prop :=
  match th.phase, th.pc with
  | .init, 1 => (c.reg = true ↔ 0 < c.users)
  | .init, 2 => th.flag = decide (c.users ≠ 0) ∧ (c.reg = true ↔ 0 < c.users)
  | .init, 3 => 1 ≤ c.users ∧ th.flag = decide (c.users ≠ 1) ∧ (c.reg = true ↔ 1 < c.users)
  | .init, 4 => c.reg = true ∧ 1 ≤ c.users
  | .init, 6 => c.reg = false ∧ c.users = 1
  | .init, 7 => c.reg = true ∧ 1 ≤ c.users
  | .fini, 1 => (c.reg = true ↔ 0 < c.users)
  | .fini, 2 => c.reg = true
  | .fini, 3 => c.reg = true ∧ th.flag = decide (c.users ≠ 0)
  | .fini, 4 => c.reg = true ∧ c.users ≠ 0
  | .fini, 6 => c.reg = true ∧ c.users = 0
  | .fini, 7 => c.reg = false ∧ c.users = 0
  | _, _ => True

structure Inv (c : Cfg) : Prop where
  notBad : c.bad = false
  count : c.users = c.thr.countP holding
  excl : ∀ t th, c.thr[t]? = some th → inCS th = true → c.lock = some t
  free : c.lock = none → (c.reg = true ↔ 0 < c.users)
  held : ∀ t, c.lock = some t → ∃ th, c.thr[t]? = some th ∧ inCS th = true ∧ csInv c th

/-- executable invariant for the exhaustive search over a GENERATED program -/
def checkFree (c : Cfg) : Bool :=
  !c.bad && (c.lock.isSome || (c.reg == decide (0 < c.users))) &&
    c.thr.all (fun th => th.phase != .between || c.reg) &&
    (c.thr.countP (fun th => th.phase == .between) ≤ c.users)

end Reg
end Hw.Conc
