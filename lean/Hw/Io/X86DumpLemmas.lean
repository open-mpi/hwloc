import Hw.Io.X86Dump
import Hw.Io.LinuxCgroupLemmas
namespace Hw.X86Dump
open Hw Hw.LinuxParse Hw.LinuxCgroup

/-! ### the fgets lines -/

theorem linesAux_eq_chunks (n : Nat) : ∀ (fuel : Nat) (s : List Byte), linesAux n fuel s = chunks n fuel s
  | 0, _ => rfl
  | fuel+1, s => by rw [linesAux, chunks, linesAux_eq_chunks n fuel]

theorem linesAux_bounds (n : Nat) (hn : 2 ≤ n) (fuel : Nat) (s : List Byte) : ∀ ch ∈ linesAux n fuel s,
    ch ≠ [] ∧ ch.length ≤ n - 1 := by
  rw [linesAux_eq_chunks]; exact chunks_bounds n hn fuel s

theorem linesAux_flatten (n : Nat) (hn : 2 ≤ n) : ∀ (fuel : Nat) (s : List Byte), s.length ≤ fuel →
    (linesAux n fuel s).flatten = s
  | 0, s, h => by
    have : s = [] := List.eq_nil_of_length_eq_zero (by omega)
    simp [linesAux, this]
  | fuel+1, s, h => by
    rw [linesAux]
    by_cases hs : s = []
    · simp [hs]
    · rw [if_neg hs, List.flatten_cons,
        linesAux_flatten n hn fuel _ (by have := fgets_progress n hn s hs; omega)]
      exact fgetsAux_append _ s

/-! ### the stores -/

theorem ofList_eq (e : Entry) : ∀ vs : List Nat,
    Entry.ofList vs = if vs.length = 9 then some (storeFields e vs) else none
  | [_, _, _, _, _, _, _, _, _] => rfl
  | [] | [_] | [_, _] | [_, _, _] | [_, _, _, _] | [_, _, _, _, _] | [_, _, _, _, _, _]
  | [_, _, _, _, _, _, _] | [_, _, _, _, _, _, _, _] => rfl
  | _ :: _ :: _ :: _ :: _ :: _ :: _ :: _ :: _ :: _ :: _ => by
    rw [if_neg (by simp only [List.length_cons]; omega)]; rfl

theorem fillStep_spec (st : RState) (ch : List Byte) (hlt : st.nr < st.mem.length) :
    ∃ st1, fillStep (some st) ch = some st1 ∧ st1.mem.length = st.mem.length ∧ st.nr ≤ st1.nr ∧ st1.nr ≤ st.nr + 1 ∧
      st1.mem.take st1.nr = st.mem.take st.nr ++ (parseLine ch).toList := by
  unfold fillStep parseLine
  by_cases hc : isComment ch = true
  · simp only [hc, if_true]
    exact ⟨st, rfl, rfl, Nat.le_refl _, Nat.le_succ _, (List.append_nil _).symm⟩
  · simp only [hc, Bool.false_eq_true, if_false, List.getElem?_eq_getElem hlt, ofList_eq st.mem[st.nr]]
    refine ⟨_, rfl, List.length_set, ?_⟩
    by_cases h9 : (scanLine (cstr ch)).length = 9
    · simp only [h9, if_true]
      exact ⟨Nat.le_succ _, Nat.le_refl _, take_set_succ _ _ _ hlt⟩
    · simp only [h9, if_false]
      exact ⟨Nat.le_refl _, Nat.le_succ _, by rw [List.take_set_of_le (Nat.le_refl _)]; exact (List.append_nil _).symm⟩

/-- the second pass from any state of its loop: what keeps the stores inside is room for one cell per remaining line -/
theorem fill_inv : ∀ (chs : List (List Byte)) (st : RState), st.nr + chs.length ≤ st.mem.length →
    ∃ st', chs.foldl fillStep (some st) = some st' ∧ st'.mem.length = st.mem.length ∧
      st.nr ≤ st'.nr ∧ st'.nr ≤ st.nr + chs.length ∧
      st'.mem.take st'.nr = st.mem.take st.nr ++ chs.filterMap parseLine
  | [], st, _ => ⟨st, rfl, rfl, Nat.le_refl _, Nat.le_refl _, (List.append_nil _).symm⟩
  | ch :: rest, st, h => by
    simp only [List.length_cons] at h
    obtain ⟨st1, s1, s2, s3, s4, s5⟩ := fillStep_spec st ch (by omega)
    obtain ⟨st', h1, h2, h3, h4, h5⟩ := fill_inv rest st1 (by omega)
    refine ⟨st', by rw [List.foldl_cons, s1]; exact h1, by rw [h2, s2], by omega,
      by simp only [List.length_cons]; omega, ?_⟩
    rw [h5, s5, List.append_assoc, List.filterMap_cons]
    cases parseLine ch <;> rfl

theorem readFill_safe (content : List Byte) (init : List Entry) (hinit : (lines content).length ≤ init.length) :
    ∃ st, readFill content init = some st ∧ st.mem.length = init.length ∧ st.nr ≤ (lines content).length ∧
      st.mem.take st.nr = table content := by
  obtain ⟨st', h1, h2, _, h4, h5⟩ := fill_inv (lines content) { mem := init, nr := 0 } (by simpa using hinit)
  refine ⟨st', h1, h2, by simpa using h4, ?_⟩
  simpa [table] using h5

/-! ### cpuiddump_find_by_input -/

theorem findFrom_eq : ∀ (fuel i : Nat) (t : List Entry) (q : Regs), t.length ≤ i + fuel →
    findFrom t q fuel i = (((t.drop i).find? (fun e => e.matches q)).map Entry.out).getD zeroRegs
  | 0, i, t, q, h => by
    rw [findFrom, List.drop_eq_nil_of_le (by omega)]; rfl
  | fuel+1, i, t, q, h => by
    rw [findFrom]
    by_cases hi : i < t.length
    · rw [List.getElem?_eq_getElem hi, List.drop_eq_getElem_cons hi, List.find?_cons]
      by_cases hm : t[i].matches q = true
      · simp [hm]
      · simp only [hm]
        exact findFrom_eq fuel (i + 1) t q (by omega)
    · rw [List.getElem?_eq_none (by omega), List.drop_eq_nil_of_le (by omega)]; rfl

theorem findByInput_eq (t : List Entry) (q : Regs) :
    findByInput t q = ((t.find? (fun e => e.matches q)).map Entry.out).getD zeroRegs := by
  have := findFrom_eq t.length 0 t q (by omega)
  simpa [findByInput] using this

theorem find_first (t : List Entry) (q : Regs) :
    (∃ pre e post, t = pre ++ e :: post ∧ (∀ x ∈ pre, x.matches q = false) ∧ e.matches q = true ∧
        findByInput t q = e.out) ∨
    ((∀ x ∈ t, x.matches q = false) ∧ findByInput t q = zeroRegs) := by
  rw [findByInput_eq]
  cases hf : t.find? (fun e => e.matches q) with
  | none =>
    right
    refine ⟨fun x hx => ?_, rfl⟩
    have := List.find?_eq_none.mp hf x hx
    simpa using this
  | some e =>
    left
    obtain ⟨hm, pre, post, ht, hpre⟩ := List.find?_eq_some_iff_append.mp hf
    refine ⟨pre, e, post, ht, fun x hx => ?_, by simpa using hm, rfl⟩
    have := hpre x hx
    simpa using this

theorem find_mem_or_zero (t : List Entry) (q : Regs) :
    (∃ e ∈ t, e.matches q = true ∧ findByInput t q = e.out) ∨
    ((∀ x ∈ t, x.matches q = false) ∧ findByInput t q = zeroRegs) := by
  rcases find_first t q with ⟨pre, e, post, ht, _, hm, hr⟩ | h
  · left; exact ⟨e, by rw [ht]; simp, hm, hr⟩
  · right; exact h

theorem find_of_mem_iff (t t' : List Entry) (q : Regs) (hmem : ∀ e, e ∈ t ↔ e ∈ t') (hu : Unamb t q) :
    findByInput t q = findByInput t' q := by
  rcases find_mem_or_zero t q with ⟨e, he, hm, hr⟩ | ⟨hnone, hr⟩
  · rcases find_mem_or_zero t' q with ⟨e', he', hm', hr'⟩ | ⟨hnone', _⟩
    · rw [hr, hr']; exact hu e he e' ((hmem e').mpr he') hm hm'
    · have := hnone' e ((hmem e).mp he); rw [hm] at this; cases this
  · rcases find_mem_or_zero t' q with ⟨e', he', hm', _⟩ | ⟨_, hr'⟩
    · have := hnone e' ((hmem e').mpr he'); rw [hm'] at this; cases this
    · rw [hr, hr']

theorem find_perm (t t' : List Entry) (q : Regs) (hp : t.Perm t') (hu : Unamb t q) :
    findByInput t q = findByInput t' q := find_of_mem_iff t t' q (fun _ => hp.mem_iff) hu

/-! ### the directory check -/

theorem maxL_ge : ∀ (l : List Nat), ∀ i ∈ l, i ≤ maxL l
  | [], _, h => by simp at h
  | x :: xs, i, h => by
    rw [List.mem_cons] at h
    rw [maxL]
    rcases h with h | h
    · rw [h]; exact Nat.le_max_left _ _
    · exact Nat.le_trans (maxL_ge xs i h) (Nat.le_max_right _ _)

theorem maxL_mem : ∀ (l : List Nat), l ≠ [] → maxL l ∈ l
  | [], h => by simp at h
  | [x], _ => by simp [maxL]
  | x :: y :: ys, _ => by
    rw [maxL]
    have ih := maxL_mem (y :: ys) (by simp)
    by_cases hle : x ≤ maxL (y :: ys)
    · rw [Nat.max_eq_right hle]; exact List.mem_cons_of_mem _ ih
    · rw [Nat.max_eq_left (by omega)]; exact List.mem_cons_self

/-- `last == weight - 1` says that every index up to the last one is present -/
theorem weight_full_iff (l : List Nat) : maxL l + 1 = weight l ↔ ∀ i, i ≤ maxL l → i ∈ l := by
  unfold weight
  constructor
  · intro h i hi
    have h2 : List.countP (fun i => l.contains i) (List.range (maxL l + 1)) = (List.range (maxL l + 1)).length := by
      rw [List.length_range]; exact h.symm
    have := List.countP_eq_length.mp h2 i (List.mem_range.mpr (by omega))
    simpa using this
  · intro h
    have h2 : List.countP (fun i => l.contains i) (List.range (maxL l + 1)) = (List.range (maxL l + 1)).length := by
      apply List.countP_eq_length.mpr
      intro i hi
      have := h i (by have := List.mem_range.mp hi; omega)
      simpa using this
    rw [h2, List.length_range]

theorem contiguous_iff (l : List Nat) :
    (l ≠ [] ∧ maxL l + 1 = weight l) ↔ ∃ n, 0 < n ∧ (∀ i, i ∈ l ↔ i < n) := by
  constructor
  · rintro ⟨hne, hw⟩
    refine ⟨maxL l + 1, by omega, fun i => ⟨fun hi => ?_, fun hi => ?_⟩⟩
    · have := maxL_ge l i hi; omega
    · exact (weight_full_iff l).mp hw i (by omega)
  · rintro ⟨n, hn, hmem⟩
    have h0 : 0 ∈ l := (hmem 0).mpr hn
    have hne : l ≠ [] := fun h => by rw [h] at h0; simp at h0
    refine ⟨hne, (weight_full_iff l).mpr (fun i hi => ?_)⟩
    have := (hmem (maxL l)).mp (maxL_mem l hne)
    exact (hmem i).mpr (by omega)

theorem contiguous_weight (l : List Nat) (n : Nat) (hn : 0 < n) (hmem : ∀ i, i ∈ l ↔ i < n) : weight l = n := by
  have h0 : 0 ∈ l := (hmem 0).mpr hn
  have hne : l ≠ [] := fun h => by rw [h] at h0; simp at h0
  have hw := ((contiguous_iff l).mpr ⟨n, hn, hmem⟩).2
  have h1 := (hmem (maxL l)).mp (maxL_mem l hne)
  have h2 := maxL_ge l (n - 1) ((hmem (n - 1)).mpr (by omega))
  omega

/-! the summary file -/

theorem archPat_eq : archPat = [65, 114, 99, 104, 105, 116, 101, 99, 116, 117, 114, 101, 58, 32, 120, 56, 54] := by
  rw [archPat, str_ofList]; rfl

theorem archPat_length : archPat.length = 17 := by rw [archPat_eq]; rfl

theorem summaryOk_some (c : List Byte) : summaryOk (some c) =
    (if c = [] then false else (cstr (fgets sumLineLen c).1).take 17 == archPat) := rfl

/-- `strncmp(line, pat, |pat|) == 0` on the first fgets line is a test of the first `|pat|` bytes of the stream -/
theorem fgets_take_eq_iff (n : Nat) (pat c : List Byte) (hnl : ∀ x ∈ pat, x ≠ 10) (hnz : ∀ x ∈ pat, x ≠ 0)
    (hfit : pat.length ≤ n - 1) :
    (cstr (fgets n c).1).take pat.length = pat ↔ c.take pat.length = pat := by
  constructor
  · intro h1
    have hp1 : cstr (fgets n c).1 <+: (fgets n c).1 := List.takeWhile_prefix _
    have hp2 : (fgets n c).1 <+: c := ⟨(fgets n c).2, fgetsAux_append _ c⟩
    have hp : pat <+: c.take pat.length := List.prefix_take_iff.mpr
      ⟨(h1 ▸ List.take_prefix _ _).trans (hp1.trans hp2), Nat.le_refl _⟩
    exact (List.IsPrefix.eq_of_length_le hp (List.length_take_le _ _)).symm
  · intro h
    have hsplit : c = pat ++ c.drop pat.length := by
      conv => lhs; rw [← List.take_append_drop pat.length c, h]
    have hf : (fgets n c).1 = pat ++ (fgetsAux (n - 1 - pat.length) (c.drop pat.length)).1 := by
      unfold fgets
      conv => lhs; rw [hsplit]
      rw [fgetsAux_prefix pat (n - 1) (c.drop pat.length) hnl hfit]
    rw [hf, cstr_append_nonzero pat _ hnz, List.take_append_of_le_length (Nat.le_refl _), List.take_length]

theorem summaryOk_iff (c : List Byte) : summaryOk (some c) = true ↔ c.take 17 = archPat := by
  have hnl : ∀ x ∈ archPat, x ≠ 10 := by rw [archPat_eq]; decide
  have hnz : ∀ x ∈ archPat, x ≠ 0 := by rw [archPat_eq]; decide
  have := fgets_take_eq_iff sumLineLen archPat c hnl hnz (by rw [archPat_length]; decide)
  rw [archPat_length] at this
  rw [summaryOk_some, ← this]
  by_cases hc : c = []
  · subst hc; rw [archPat_eq]; decide
  · rw [if_neg hc, beq_iff_eq]

theorem checkDir_eq (dirOk : Bool) (summary : Option (List Byte)) (names : List (List Byte)) :
    checkDir dirOk summary names =
      if !dirOk then ⟨false, []⟩
      else if !summaryOk summary then ⟨false, []⟩
      else if names.filterMap puIndex = [] then ⟨false, names.filterMap puIndex⟩
      else if maxL (names.filterMap puIndex) + 1 ≠ weight (names.filterMap puIndex) then ⟨false, names.filterMap puIndex⟩
      else ⟨true, names.filterMap puIndex⟩ := rfl

theorem checkDir_idxs_ok (dirOk : Bool) (summary : Option (List Byte)) (names : List (List Byte))
    (h : (checkDir dirOk summary names).ok = true) : (checkDir dirOk summary names).idxs = names.filterMap puIndex := by
  rw [checkDir_eq] at h ⊢
  generalize names.filterMap puIndex = l at h ⊢
  cases dirOk
  · simp at h
  · cases hs : summaryOk summary
    · simp [hs] at h
    · by_cases h1 : l = []
      · simp [h1] at h ⊢
      · by_cases h2 : maxL l + 1 = weight l <;> simp [h1, h2]

end Hw.X86Dump
