/-
  Hw.Io.CalcAttrBest — what `hwloc_utils__update_best_node` folded over the local nodes computes (`--best-memattr`, attribute
  without initiator): the best value among the nodes that have a value, and exactly the nodes that reach it (ties are kept, unlike
  `hwloc_memattr_get_best_target` of C14 which keeps the first).
-/
import Hw.Io.CalcAttr
import Hw.Base.Bits
import Hw.Base.ListLemmas
namespace Hw.Calc
open Hw Hw.Topo

def asGood (higher : Bool) (v w : Nat) : Prop := if higher then w ≤ v else v ≤ w

def bestFold (higher : Bool) (st : Nat × Nat) (l : List (Nat × Nat)) : Nat × Nat :=
  l.foldl (fun st p => updBest higher st p.1 p.2) st

theorem asGood_refl (higher : Bool) (v : Nat) : asGood higher v v := by
  unfold asGood; split <;> exact Nat.le_refl v

theorem asGood_trans {higher : Bool} {a b c : Nat} (h1 : asGood higher a b) (h2 : asGood higher b c) : asGood higher a c := by
  cases higher
  · exact Nat.le_trans h1 h2
  · exact Nat.le_trans h2 h1

theorem asGood_of_not {higher : Bool} {a b : Nat} (h : ¬ asGood higher a b) : asGood higher b a := by
  cases higher
  · exact Nat.le_of_not_le h
  · exact Nat.le_of_not_le h

theorem updBest_better (higher : Bool) {st : Nat × Nat} (hz : st.2 ≠ 0) (os : Nat) {v : Nat} (h : ¬ asGood higher st.1 v) :
    updBest higher st os v = (v, 1 <<< os) := by
  unfold updBest
  rw [beq_false_of_ne hz]
  cases higher
  · exact if_pos (Nat.lt_of_not_le h)
  · exact if_pos (Nat.lt_of_not_le h)

theorem updBest_tie (higher : Bool) {st : Nat × Nat} (hz : st.2 ≠ 0) (os : Nat) :
    updBest higher st os st.1 = (st.1, st.2 ||| (1 <<< os)) := by
  unfold updBest
  rw [beq_false_of_ne hz]
  cases higher <;> simp

theorem updBest_worse (higher : Bool) {st : Nat × Nat} (hz : st.2 ≠ 0) (os : Nat) {v : Nat} (h : asGood higher st.1 v) (hne : v ≠ st.1) :
    updBest higher st os v = st := by
  unfold updBest
  rw [beq_false_of_ne hz, beq_false_of_ne hne]
  cases higher
  · have : ¬ v < st.1 := Nat.not_lt.mpr h
    simp [this]
  · have : ¬ v > st.1 := Nat.not_lt.mpr h
    simp [this]

/-- the state after the (os_index, value) pairs `L`: best value attained, nothing better, the set = the nodes that reach it -/
structure BestInv (higher : Bool) (L : List (Nat × Nat)) (st : Nat × Nat) : Prop where
  nz : st.2 ≠ 0
  attained : ∃ p ∈ L, p.2 = st.1
  best : ∀ p ∈ L, asGood higher st.1 p.2
  set : ∀ j, st.2.testBit j = true ↔ ∃ p ∈ L, p.1 = j ∧ p.2 = st.1

theorem bestInv_first (higher : Bool) (os v : Nat) : BestInv higher [(os, v)] (updBest higher (0, 0) os v) := by
  have h : updBest higher (0, 0) os v = (v, 1 <<< os) := rfl
  rw [h]
  refine ⟨Bits.one_shl_ne_zero os, ⟨(os, v), List.mem_singleton.mpr rfl, rfl⟩, ?_, ?_⟩
  · intro p hp; rw [List.mem_singleton.mp hp]; exact asGood_refl higher v
  · intro j
    rw [Bits.testBit_one_shl, decide_eq_true_eq]
    constructor
    · intro h; exact ⟨(os, v), List.mem_singleton.mpr rfl, h, rfl⟩
    · rintro ⟨p, hp, h1, _⟩; rw [List.mem_singleton.mp hp] at h1; exact h1

theorem bestInv_step (higher : Bool) (L : List (Nat × Nat)) (st : Nat × Nat) (os v : Nat) (h : BestInv higher L st) :
    BestInv higher (L ++ [(os, v)]) (updBest higher st os v) := by
  obtain ⟨hnz, hatt, hbest, hset⟩ := h
  by_cases hb : asGood higher st.1 v
  · by_cases heq : v = st.1
    · -- tie: the node joins the set
      subst heq
      rw [updBest_tie higher hnz]
      refine ⟨fun h0 => hnz (Nat.or_eq_zero_iff.mp h0).1, (exists_mem_snoc ..).2 (.inl hatt), (forall_mem_snoc ..).2 ⟨hbest, hb⟩,
        fun j => ?_⟩
      rw [Nat.testBit_or, Bool.or_eq_true, hset j, Bits.testBit_one_shl, decide_eq_true_eq, exists_mem_snoc]
      exact or_congr_right (and_iff_left rfl).symm
    · -- worse: nothing changes
      rw [updBest_worse higher hnz os hb heq]
      refine ⟨hnz, (exists_mem_snoc ..).2 (.inl hatt), (forall_mem_snoc ..).2 ⟨hbest, hb⟩, fun j => ?_⟩
      rw [hset j, exists_mem_snoc]
      exact (or_iff_left fun h => heq h.2).symm
  · -- strictly better: the node alone
    rw [updBest_better higher hnz os hb]
    refine ⟨Bits.one_shl_ne_zero os, (exists_mem_snoc ..).2 (.inr rfl),
      (forall_mem_snoc ..).2 ⟨fun p hp => asGood_trans (asGood_of_not hb) (hbest p hp), asGood_refl higher v⟩, fun j => ?_⟩
    rw [Bits.testBit_one_shl, decide_eq_true_eq, exists_mem_snoc]
    refine ⟨fun h => .inr ⟨h, rfl⟩, ?_⟩
    rintro (⟨p, hp, _, h2⟩ | ⟨h, _⟩)
    · have hp' := hbest p hp
      rw [h2] at hp'
      exact absurd hp' hb
    · exact h
theorem bestFold_spec (higher : Bool) (p : Nat × Nat) (r : List (Nat × Nat)) :
    BestInv higher (p :: r) (bestFold higher (0, 0) (p :: r)) :=
  foldl_inv _ (BestInv higher) (p :: r) (fun pre x _ st _ hp => bestInv_step higher pre st x.1 x.2 hp) r [p] _ rfl
    (bestInv_first higher p.1 p.2)

/-- the (os_index, value) pairs `bestValueLoop` feeds to `hwloc_utils__update_best_node`: the local nodes that have a value -/
def valuePairs (a : XAttr) (nodes : List Obj) : List (Nat × Nat) :=
  nodes.filterMap (fun n => (a.values.find? (fun e => e.1 == n.gp)).map (fun e => (n.osidx.toNat, e.2)))

theorem bestValueLoop_eq (a : XAttr) (nodes : List Obj) :
    bestValueLoop a nodes = bestFold (a.flags.testBit 0) (0, 0) (valuePairs a nodes) := by
  unfold bestValueLoop bestFold valuePairs
  rw [List.foldl_filterMap]
  congr 1; funext st n
  cases a.values.find? (fun e => e.1 == n.gp) <;> rfl

end Hw.Calc
