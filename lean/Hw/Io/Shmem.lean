/-
  Hw.Io.Shmem — model of hwloc/shmem.c (shared-memory topologies) and of the `adopted_shmem_addr`
  guards in topology.c / distances.c / diff.c.

  What is modelled (source order is kept inside every decision function):
    * `(length + ALIGN - 1) & ~(ALIGN - 1)`           → `roundUpC` (literal 64-bit form) and `roundUp` (its meaning)
    * tma_get_length_malloc (counting pass)            → `countFrom`
    * tma_shmem_malloc (bump pass)                     → `bump`, `bumpEnd`
    * hwloc_shmem_topology_get_length                  → `getLengthDecision`, `getLength`
    * struct hwloc_shmem_header, header_length padding → `Header`, `mkHeader`, `headerLength` (constants from the translator)
    * hwloc_shmem_topology_write                       → `writeDecision`, `World.write`
    * hwloc_shmem_topology_adopt                       → `adoptDecision`, `World.adopt`, the adopted state `Adopted`
    * hwloc_topology_destroy on an adopted topology    → `World.destroy` (hwloc__topology_disadopt: munmap)
    * the EPERM guards                                 → `Hw.Gen.Shmem.guards` (generated), `guardResult`, `stepAdopted`
    * hwloc_topology_allow                             → `allowDecision`, `allowApply` (on the private copies made by adopt)
  The OS enters through `Mmap` (mmap fails / returns some address) and `Space` (occupied address ranges):
  mmap without MAP_FIXED returns the hint iff the range is free.
-/
import Hw.Gen.ShmemGuards
import Hw.Topo.Types
namespace Hw.Shmem
open Hw.Gen.Shmem (Guard Pre guards)

deriving instance DecidableEq for Hw.Topo.Dump

/-! ### constants (regenerated from hwloc/shmem.c on every check) -/
def ALIGN : Nat := Hw.Gen.Shmem.mallocAlign
def HEADER_VERSION : Nat := Hw.Gen.Shmem.headerVersion
def HEADER_SIZE : Nat := Hw.Gen.Shmem.headerSizeof
def PTR : Nat := Hw.Gen.Shmem.pointerSize

/-- meaning of `(n + a - 1) & ~(a - 1)` for a power of two `a` when nothing wraps -/
def roundUp (a n : Nat) : Nat := (n + a - 1) / a * a

/-- the literal C expression on a 64-bit `size_t`/`unsigned long`: `(n + a - 1) & ~(a - 1)` -/
def roundUpC (a n : Nat) : Nat := ((n + a - 1) % 2 ^ 64) &&& (2 ^ 64 - 1 - (a - 1))

def align8 (n : Nat) : Nat := roundUp ALIGN n
/-- `uint32_t header_length = (sizeof(header) + sizeof(void*) - 1) & ~(sizeof(void*) - 1)` -/
def headerLength : Nat := roundUp PTR HEADER_SIZE

/-! ### the two allocators over a trace of requested sizes -/

/-- tma_get_length_malloc: `*tma_length += align8 length` for every request -/
def countFrom (acc : Nat) (ss : List Nat) : Nat := ss.foldl (fun a s => a + align8 s) acc

structure Block where
  addr : Nat
  size : Nat
deriving Repr, DecidableEq, Inhabited

/-- tma_shmem_malloc: return the cursor, advance it by `align8 length` -/
def bump : Nat → List Nat → List Block
  | _, [] => []
  | cur, s :: ss => ⟨cur, s⟩ :: bump (cur + align8 s) ss

def bumpEnd : Nat → List Nat → Nat
  | cur, [] => cur
  | cur, s :: ss => bumpEnd (cur + align8 s) ss

/-- `*lengthp = (sizeof(struct hwloc_shmem_header) + length + pagesize - 1) & ~(pagesize - 1)` -/
def getLength (ps : Nat) (ss : List Nat) : Nat := roundUp ps (HEADER_SIZE + countFrom 0 ss)

/-- bytes of the segment that `write` may touch: header + everything the bump pass hands out -/
def usedBytes (ss : List Nat) : Nat := bumpEnd headerLength ss

/-! ### errors, header, mmap -/

inductive Err | ok | einval | ebusy | eperm | enosys | sys
deriving Repr, DecidableEq, Inhabited

def Err.toString : Err → String
  | .ok => "ok" | .einval => "EINVAL" | .ebusy => "EBUSY" | .eperm => "EPERM" | .enosys => "ENOSYS" | .sys => "fail"

structure Header where
  version : Nat
  hlen : Nat
  addr : Nat
  len : Nat
deriving Repr, DecidableEq, Inhabited

/-- the header `write` stores at the file offset -/
def mkHeader (addr len : Nat) : Header := ⟨HEADER_VERSION, headerLength, addr, len⟩

/-- the four comparisons of adopt (EINVAL when one differs) -/
def headerOk (h : Header) (addr len : Nat) : Bool :=
  h.version == HEADER_VERSION && h.hlen == headerLength && h.addr == addr && h.len == len

/-- outcome of the `mmap(addr, len, …, MAP_SHARED, fd, off)` call (no MAP_FIXED) -/
inductive Mmap | failed | at (a : Nat)
deriving Repr, DecidableEq, Inhabited

/-- hwloc_shmem_topology_get_length: only the flags can be refused -/
def getLengthDecision (flags : Nat) : Err := if flags ≠ 0 then .einval else .ok

/-- hwloc_shmem_topology_write in source order.  `ioOk` = lseek, write(header), ftruncate all succeeded. -/
def writeDecision (flags : Nat) (ioOk : Bool) (addr : Nat) (mm : Mmap) : Err :=
  if flags ≠ 0 then .einval
  else if !ioOk then .sys
  else match mm with
    | .failed => .sys
    | .at a => if a ≠ addr then .ebusy else .ok

/-- hwloc_shmem_topology_adopt in source order.  `hdr = none`: lseek failed or the read was short
    (the function returns -1 with whatever errno the kernel left). -/
def adoptDecision (flags : Nat) (hdr : Option Header) (addr len : Nat) (mm : Mmap) (abiOk : Bool) : Err :=
  if flags ≠ 0 then .einval
  else match hdr with
    | none => .sys
    | some h =>
      if !headerOk h addr len then .einval
      else match mm with
        | .failed => .sys
        | .at a => if a ≠ addr then .ebusy else if !abiOk then .einval else .ok

/-! ### address space (trusted OS model) -/

abbrev Space := List (Nat × Nat)          -- occupied ranges (start, length)

def rangesDisjoint (a la b lb : Nat) : Bool := a + la ≤ b || b + lb ≤ a

def Space.isFree (sp : Space) (addr len : Nat) : Bool := sp.all (fun r => rangesDisjoint addr len r.1 r.2)

/-- mmap with a hint and no MAP_FIXED: the hint when the range is free, some other address otherwise -/
def Space.mmap (sp : Space) (addr len : Nat) : Mmap := if sp.isFree addr len then .at addr else .at (addr + len + 1)

def Space.unmap (sp : Space) (addr len : Nat) : Space := sp.filter (fun r => !(r.1 == addr && r.2 == len))

/-! ### what is stored, what is adopted -/

/-- observable content of a topology: the canonical dump plus the canonical texts the harness compares
    (XML export, distances, memory attributes, CPU kinds, topology infos) -/
structure Content where
  dump : Hw.Topo.Dump
  aux : List (String × String)
  infos : List (String × String)
deriving DecidableEq, Inhabited

def Content.flags (c : Content) : Nat := c.dump.flags
def Content.miscFilter (c : Content) : Nat := c.dump.filters.getD Hw.Topo.tMISC 0
def Content.rootCpuset (c : Content) : Nat := ((c.dump.obj? c.dump.root).bind (·.cpuset)).getD 0
def Content.rootNodeset (c : Content) : Nat := ((c.dump.obj? c.dump.root).bind (·.nodeset)).getD 0

structure Image where
  hdr : Header
  abi : Nat
  content : Content
  used : Nat                 -- bytes of the segment touched by write
  memattrsCached : Bool      -- HWLOC_IMATTR_FLAG_CACHE_VALID in the duplicate (write refreshes the memattrs of the copy: true)
deriving DecidableEq, Inhabited

/-- an adopted topology: `content` lives in the read-only mapping, the rest in private memory -/
structure Adopted where
  addr : Nat
  len : Nat
  content : Content
  infos : List (String × String)     -- private copy made by adopt (hwloc__tma_dup_infos(NULL, …))
  userdata : Nat                     -- field of the private struct copy
  memattrsCached : Bool
  allowedInMapping : Bool            -- allowed_cpuset/allowed_nodeset still point into the mapping (adopt makes private copies: false)
  allowedCpuset : Nat
  allowedNodeset : Nat
deriving DecidableEq, Inhabited

/-- the ABI number of this build (`HWLOC_TOPOLOGY_ABI`); its value is irrelevant to the model -/
def thisAbi : Nat := 0x30000

structure World where
  file : List (Nat × Image) := []     -- file offset ↦ segment written there (latest first)
  space : Space := []                 -- occupied address ranges of the process
  live : List (Nat × Adopted) := []   -- handles of adopted topologies
  next : Nat := 0
deriving Inhabited

def World.segment (w : World) (off : Nat) : Option Image := (w.file.find? (fun r => r.1 == off)).map (·.2)

def World.fileSize (w : World) : Nat := w.file.foldl (fun m r => max m (r.1 + r.2.hdr.len)) 0
/-- header found by `read(fd, &header, sizeof header)` at `off`; outside written segments the file holds zeroes
    (holes / ftruncate padding), beyond its end the read is short -/
def World.readHeader (w : World) (off : Nat) : Option Header :=
  match w.segment off with
  | some img => some img.hdr
  | none => if off + HEADER_SIZE ≤ w.fileSize then some ⟨0, 0, 0, 0⟩ else none

/-- hwloc_shmem_topology_write.  The temporary mapping is released before returning, so `space` is unchanged;
    `ftruncate(fd, off+len)` cuts everything behind the new segment, earlier segments that end before `off` survive. -/
def World.write (w : World) (t : Content) (ss : List Nat) (off addr len flags : Nat) : Err × World :=
  match writeDecision flags true addr (w.space.mmap addr len) with
  | .ok =>
    let img : Image := { hdr := mkHeader addr len, abi := thisAbi, content := t, used := usedBytes ss, memattrsCached := true }
    (.ok, { w with file := (off, img) :: w.file.filter (fun r => r.1 + r.2.hdr.len ≤ off) })
  | e => (e, w)

def adoptState (img : Image) (addr len : Nat) : Adopted :=
  { addr := addr, len := len, content := img.content, infos := img.content.infos, userdata := 0,
    memattrsCached := img.memattrsCached, allowedInMapping := false,
    allowedCpuset := img.content.dump.allowedCpuset.getD 0, allowedNodeset := img.content.dump.allowedNodeset.getD 0 }

/-- register a freshly adopted topology: its range becomes occupied, it gets the next handle -/
def World.addLive (w : World) (a : Adopted) : World :=
  { w with space := (a.addr, a.len) :: w.space, live := (w.next, a) :: w.live, next := w.next + 1 }

/-- does the segment at `off` carry this build's ABI number (hwloc_topology_abi_check) -/
def World.abiOk (w : World) (off : Nat) : Bool :=
  match w.segment off with
  | some img => img.abi == thisAbi
  | none => false

/-- hwloc_shmem_topology_adopt; returns the new handle on success -/
def World.adopt (w : World) (off addr len flags : Nat) : Err × Option Nat × World :=
  match adoptDecision flags (w.readHeader off) addr len (w.space.mmap addr len) (w.abiOk off), w.segment off with
  | .ok, some img =>
    (.ok, some w.next, w.addLive (adoptState img addr len))
  | .ok, none => (.sys, none, w)          -- unreachable: a zero header never passes headerOk (proved)
  | e, _ => (e, none, w)

def World.get (w : World) (h : Nat) : Option Adopted := (w.live.find? (fun r => r.1 == h)).map (·.2)

/-- hwloc_topology_destroy on an adopted topology: hwloc__topology_disadopt unmaps [addr, addr+len) -/
def World.destroy (w : World) (h : Nat) : World :=
  match w.get h with
  | none => w
  | some a => { w with space := w.space.unmap a.addr a.len, live := w.live.filter (fun r => r.1 != h) }

/-! ### calls on an adopted topology -/

inductive Outcome
  | ret (e : Err)          -- the call returned with this errno class
  | fault                  -- the call stores into / frees memory of the read-only mapping (SIGSEGV, invalid free)
deriving Repr, DecidableEq, Inhabited

def Outcome.toString : Outcome → String
  | .ret e => e.toString
  | .fault => "FAULT"

def errOfName (s : String) : Err :=
  if s = "EPERM" then .eperm else if s = "EINVAL" then .einval else if s = "EBUSY" then .ebusy
  else if s = "ENOSYS" then .enosys else .sys

/-- evaluate a guarded entry point on an adopted (hence loaded) topology: the preceding checks in source
    order, then the guard itself -/
def preFires (a : Adopted) (foreignDist : Bool) : Pre → Bool
  | .isLoaded => false                                  -- adopt asserts IS_LOADED, the copy keeps `state`
  | .miscFilterNone => a.content.miscFilter == 1        -- HWLOC_TYPE_FILTER_KEEP_NONE
  | .distNotFound => foreignDist                        -- the distances structure passed does not belong to this topology

def guardResult (a : Adopted) (foreignDist : Bool) (g : Guard) : Err :=
  match g.pre.find? (fun p => preFires a foreignDist p.1) with
  | some p => errOfName p.2
  | none => errOfName g.errno

def findGuard (fn : String) : Option Guard := guards.find? (fun g => g.fn == fn)

/-- configuration calls that every loaded topology refuses with EBUSY (checked by the harness, not extracted) -/
def refusedBusy : List String :=
  ["hwloc_topology_load", "hwloc_topology_set_flags", "hwloc_topology_set_type_filter", "hwloc_topology_set_all_types_filter",
   "hwloc_topology_set_synthetic", "hwloc_topology_set_xml", "hwloc_topology_set_xmlbuffer", "hwloc_topology_set_pid",
   "hwloc_topology_set_components"]

/-- every public structure-modifying entry point that receives the topology (hwloc.h, distances.h, memattrs.h,
    cpukinds.h, diff.h).  Not in this list, on purpose: `hwloc_distances_transform` (edits the caller's copy of a
    distances structure only), `hwloc_obj_add_info` / `hwloc_modify_infos` on object infos (no topology argument, so
    they cannot be guarded: objects of an adopted topology are documented as read-only), `hwloc_topology_set_userdata`
    and `hwloc_modify_infos` on the topology infos (fields / a copy private to the adopter). -/
def modifyingEntryPoints : List String :=
  ["hwloc_topology_restrict", "hwloc_topology_insert_misc_object", "hwloc_topology_alloc_group_object",
   "hwloc_topology_free_group_object", "hwloc_topology_insert_group_object", "hwloc_distances_add_create",
   "hwloc_distances_remove", "hwloc_distances_remove_by_depth", "hwloc_distances_release_remove",
   "hwloc_topology_diff_apply", "hwloc_memattr_register", "hwloc_memattr_set_value", "hwloc_cpukinds_register",
   "hwloc_topology_refresh", "hwloc_obj_set_subtype", "hwloc_topology_allow"]

def ALLOW_ALL : Nat := 1
def ALLOW_LOCAL : Nat := 2
def ALLOW_CUSTOM : Nat := 4
def FLAG_INCLUDE_DISALLOWED : Nat := 1

/-- hwloc_topology_allow: the checks before anything is written.  `thissystem` is false for every topology that
    can be shared deterministically here (synthetic / XML). -/
def allowDecision (a : Adopted) (flags : Nat) (cpuset nodeset : Option Nat) (thissystem hasHook : Bool) : Err :=
  if a.content.flags &&& FLAG_INCLUDE_DISALLOWED = 0 then .einval
  else if flags = ALLOW_ALL then (if cpuset.isSome || nodeset.isSome then .einval else .ok)
  else if flags = ALLOW_LOCAL then
    (if cpuset.isSome || nodeset.isSome then .einval else if !thissystem then .einval else if !hasHook then .enosys else .ok)
  else if flags = ALLOW_CUSTOM then
    (match cpuset with
     | some c => if a.content.rootCpuset &&& c = 0 then .einval else
        (match nodeset with
         | some n => if a.content.rootNodeset &&& n = 0 then .einval else .ok
         | none => .ok)
     | none =>
        (match nodeset with
         | some n => if a.content.rootNodeset &&& n = 0 then .einval else .ok
         | none => .ok))
  else .einval

/-- the new allowed sets of a successful ALL / CUSTOM call (ALL installs the root's main sets) -/
def allowApply (a : Adopted) (flags : Nat) (cpuset nodeset : Option Nat) : Adopted :=
  if flags = ALLOW_ALL then { a with allowedCpuset := a.content.rootCpuset, allowedNodeset := a.content.rootNodeset }
  else
    { a with allowedCpuset := (match cpuset with | some c => a.content.rootCpuset &&& c | none => a.allowedCpuset),
             allowedNodeset := (match nodeset with | some n => a.content.rootNodeset &&& n | none => a.allowedNodeset) }

inductive Op
  | call (fn : String) (foreignDist : Bool)              -- a modifying entry point; of its arguments only "the distances
                                                         -- structure belongs to another topology" is tested before a guard
  | setUserdata (v : Nat)                                -- hwloc_topology_set_userdata: field of the private struct
  | infosAdd (name value : String)                       -- hwloc_modify_infos(hwloc_topology_get_infos(t), ADD, …): private copy
  | allow (flags : Nat) (cpuset nodeset : Option Nat)    -- hwloc_topology_allow (topology not "thissystem")
  | memattrQuery                                         -- a query of a non-convenience memory attribute
deriving Repr, DecidableEq, Inhabited

/-- one public call on an adopted topology, following the code as it is -/
def stepAdopted (a : Adopted) : Op → Outcome × Adopted
  | .call fn fd =>
    match findGuard fn with
    | some g => (.ret (guardResult a fd g), a)
    | none => if refusedBusy.contains fn then (.ret .ebusy, a) else (.fault, a)
  | .setUserdata v => (.ret .ok, { a with userdata := v })
  | .infosAdd n v => (.ret .ok, { a with infos := a.infos ++ [(n, v)] })
  | .allow fl c n =>
    match allowDecision a fl c n false false with
    | .ok => if a.allowedInMapping then (.fault, a) else (.ret .ok, allowApply a fl c n)
    | e => (.ret e, a)
  | .memattrQuery => if a.memattrsCached then (.ret .ok, a) else (.fault, a)

def runAdopted (a : Adopted) : List Op → List Outcome × Adopted
  | [] => ([], a)
  | op :: ops =>
    let (o, a') := stepAdopted a op
    let (os, a'') := runAdopted a' ops
    (o :: os, a'')

/-- what the PROPERTY demands of a call on an adopted topology: refusal with EPERM for every modifying entry point,
    success for the documented exception `allow` and for memattr queries.  The driver answers with it; it coincides
    with `stepAdopted` whenever that does not fault (`C19_demanded_eq_step`), and on states produced by `adopt` nothing
    faults any more (`C19_adopted_never_faults`). -/
def demanded (a : Adopted) : Op → Outcome
  | .call fn fd =>
    match findGuard fn with
    | some g => .ret (guardResult a fd g)
    | none => if refusedBusy.contains fn then .ret .ebusy else .ret .eperm
  | .setUserdata _ => .ret .ok
  | .infosAdd _ _ => .ret .ok
  | .allow fl c n => .ret (allowDecision a fl c n false false)
  | .memattrQuery => .ret .ok

end Hw.Shmem
