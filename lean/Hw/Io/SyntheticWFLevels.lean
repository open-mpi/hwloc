/-
  Hw.Io.SyntheticWFLevels — the special levels of `toDump t` (NUMA nodes, memory-side caches).  `specialIds` lists a level by its
  own recursion and `toDump` gives the logical index of a memory object in closed form (`postPos`): the closed form is the
  position in the listing, because the start offsets `scOf` are a closed form that satisfies the recursion of the listing.
  The listing is also what is left of the object list when only that type is kept, hence strictly increasing in the id.
-/
import Hw.Io.SyntheticWFIds

/-! ### the objects a (depth, object) pair lists itself (`specialIds.own`) -/

namespace Hw.Syn
open Hw Hw.Topo

theorem own_eq (T : DTab) (numa : Bool) (d k : Nat) : specialIds.own T numa d k =
    ((List.range (memLen T d)).filter (fun s => numa || ((T.mem[d]?.getD [])[s]?.getD ⟨0, 0⟩).msc != 0)).map
      (fun s => if numa then (numaId T d k s : Int) else (memId T d k s : Int)) := by
  unfold specialIds.own memLen
  rw [← List.filterMap_eq_filter, List.map_filterMap]
  congr 1; funext s
  cases numa <;> by_cases h0 : ((T.mem[d]?.getD [])[s]?.getD ⟨0, 0⟩).msc = 0 <;> simp [Option.guard, h0]

theorem take_filter_len (ms : List MemChild) : ∀ s, s ≤ ms.length →
    ((List.range s).filter (fun i => (ms[i]?.getD ⟨0, 0⟩).msc != 0)).length = ((ms.take s).filter (fun m => m.msc != 0)).length := by
  intro s
  induction s with
  | zero => intro _; rfl
  | succ s ih =>
    intro hs
    have hlt : s < ms.length := by omega
    rw [List.range_succ, List.filter_append, List.length_append, ih (by omega), List.take_add_one, List.getElem?_eq_getElem hlt,
      List.filter_append, List.length_append]
    congr 1
    by_cases h0 : ms[s].msc = 0 <;> simp [List.getElem?_eq_getElem hlt, h0]

theorem own_numa_eq (T : DTab) (d k : Nat) :
    specialIds.own T true d k = (List.range (memLen T d)).map (fun s => (numaId T d k s : Int)) := by
  rw [own_eq]
  exact congrArg _ (List.filter_eq_self.2 fun _ _ => rfl)

theorem own_numa_length (T : DTab) (d k : Nat) : (specialIds.own T true d k).length = memLen T d := by
  rw [own_numa_eq, List.length_map, List.length_range]

theorem own_mc_length (T : DTab) (d k : Nat) : (specialIds.own T false d k).length = mcCnt T d := by
  rw [own_eq, List.length_map]
  simp only [Bool.false_or]
  rw [memLen, take_filter_len _ _ (Nat.le_refl _), List.take_length]; rfl

theorem own_numa_get (T : DTab) (d k s : Nat) (hs : s < memLen T d) :
    (specialIds.own T true d k)[s]? = some (numaId T d k s : Int) := by
  rw [own_numa_eq, List.getElem?_map, List.getElem?_range hs]; rfl

theorem own_mc_get (T : DTab) (d k s : Nat) (hs : s < memLen T d) (hm : ((T.mem[d]?.getD [])[s]?.getD ⟨0, 0⟩).msc ≠ 0) :
    (specialIds.own T false d k)[mcSlot T d s]? = some (memId T d k s : Int) := by
  have := getElem?_filter_countP_take (fun s => false || ((T.mem[d]?.getD [])[s]?.getD ⟨0, 0⟩).msc != 0) (List.range (memLen T d)) s s
    (List.getElem?_range hs) (by simpa using hm)
  rw [List.take_range, Nat.min_eq_left (Nat.le_of_lt hs), List.countP_eq_length_filter] at this
  simp only [Bool.false_or] at this
  rw [take_filter_len _ s (Nat.le_of_lt hs)] at this
  rw [own_eq, List.getElem?_map]
  simp only [Bool.false_or]
  rw [mcSlot, this]; rfl

theorem mcSlot_lt (T : DTab) (d s : Nat) (hs : s < memLen T d) (hm : ((T.mem[d]?.getD [])[s]?.getD ⟨0, 0⟩).msc ≠ 0) :
    mcSlot T d s < mcCnt T d := by
  have := Hw.Topo.Restrict.getElem?_lt (own_mc_get T d 0 s hs hm)
  rwa [own_mc_length] at this

/-! ### the recursive listing `specialIds` of a special level: its length, and its entries against the start offsets `scOf` -/

/-- objects of the special level per normal object of depth `e` -/
def wSel (T : DTab) (numa : Bool) : Nat → Nat := if numa then numaCnt T else mcCnt T

theorem own_length (T : DTab) (numa : Bool) (d k : Nat) : (specialIds.own T numa d k).length = wSel T numa d := by
  cases numa
  · exact own_mc_length T d k
  · exact own_numa_length T d k

/-- the test `d < D` of the definition is absorbed: the PU depth has arity 0 -/
theorem specialIds_succ (t : Topo) (numa : Bool) (f d k : Nat) (h1 : d + (f + 1) = (mkTab t).D + 1) :
    specialIds (mkTab t) numa (f + 1) d k =
      (List.range (arOf (mkTab t) d)).flatMap (fun r => specialIds (mkTab t) numa f (d + 1) (k * arOf (mkTab t) d + r)) ++
        specialIds.own (mkTab t) numa d k := by
  show (if d < (mkTab t).D then _ else []) ++ _ = _
  split
  · rfl
  · rw [show d = (mkTab t).D by omega, mkTab_ar_last]; rfl

theorem specialIds_mem (t : Topo) (numa : Bool) : ∀ f d k, d + f = (mkTab t).D + 1 → d ≤ (mkTab t).D → k < nOf (mkTab t) d →
    ∀ x ∈ specialIds (mkTab t) numa f d k, ∃ d' k', d' ≤ (mkTab t).D ∧ k' < nOf (mkTab t) d' ∧ x ∈ specialIds.own (mkTab t) numa d' k' := by
  refine fuel_ind _ fun f d h1 ih k hk x hx => ?_
  have h2 : d ≤ (mkTab t).D := by omega
  rw [specialIds_succ t numa f d k h1] at hx
  rcases List.mem_append.1 hx with hx | hx
  · obtain ⟨r, hr, hxr⟩ := List.mem_flatMap.1 hx
    have hd := ar_pos_lt t d h2 (List.mem_range.1 hr)
    exact ih hd _ (child_lt t d k r hd hk (List.mem_range.1 hr)) x hxr
  · exact ⟨d, k, h2, hk, hx⟩

/-- start of the listing of the subtree of (d, k) in a special level with `w e` objects per normal object of depth `e` -/
def scOf (T : DTab) (w : Nat → Nat) (d k : Nat) : Nat :=
  ((List.range (T.D + 1)).map (fun e => if e ≥ d then k * (nOf T e / nOf T d) * w e else (k / (nOf T d / nOf T e)) * w e)).sum

theorem postPos_eq (T : DTab) (w : Nat → Nat) (d k s : Nat) : postPos T w d k s =
    ((List.range (T.D + 1)).map (fun e => if e > d then (k + 1) * (nOf T e / nOf T d) * w e else if e = d then k * w e
      else (k / (nOf T d / nOf T e)) * w e)).sum + s := rfl

section
variable (t : Topo) (h : OK t)
include h

theorem postPos_closed (w : Nat → Nat) (d k s : Nat) (hd : d ≤ (mkTab t).D) :
    postPos (mkTab t) w d k s = scOf (mkTab t) w d k + arOf (mkTab t) d * sumW (mkTab t) w (d + 1) + s := by
  have hi := sum_indicator d (w d) ((mkTab t).D + 1)
  rw [if_pos (Nat.lt_succ_of_le hd)] at hi
  rw [postPos_eq]
  -- `w d` added on both sides, on the left as the sum of an indicator: the two sides then agree summand by summand
  refine congrArg (· + s) (Nat.add_right_cancel (m := w d) ?_)
  rw [Nat.add_assoc, ← sumW_rec t h w d hd, ← hi, scOf, sumW]
  refine sum_congr_add _ _ _ _ _ fun e he => ?_
  rcases Nat.lt_trichotomy e d with h1 | rfl | h1
  · rw [if_neg (Nat.lt_asymm h1), if_neg (Nat.ne_of_lt h1), if_neg (Nat.ne_of_lt h1), if_neg (Nat.not_le_of_lt h1), if_neg (Nat.not_le_of_lt h1)]
  · rw [if_neg (Nat.lt_irrefl _), if_pos rfl, if_pos rfl, if_pos (Nat.le_refl _), if_pos (Nat.le_refl _),
      Nat.div_self (nOf_pos t h e hd), Nat.mul_one, Nat.one_mul]
  · rw [if_pos h1, if_neg (Nat.ne_of_gt h1), if_pos (Nat.le_of_lt h1), if_pos (Nat.le_of_lt h1), Nat.add_zero, Nat.succ_mul, Nat.add_mul]

omit h in
theorem scOf_zero (w : Nat → Nat) : scOf (mkTab t) w 0 0 = 0 := by
  unfold scOf
  rw [Hw.Topo.Restrict.sum_map_range_const _ 0 _ (fun e _ => by simp), Nat.mul_zero]

theorem scOf_succ (w : Nat → Nat) (d k : Nat) (hd : d < (mkTab t).D) :
    scOf (mkTab t) w (d + 1) k = scOf (mkTab t) w d (k / arOf (mkTab t) d) + (k % arOf (mkTab t) d) * sumW (mkTab t) w (d + 1) := by
  have hpd := nOf_pos t h d (Nat.le_of_lt hd)
  have hkk := Nat.div_add_mod' k (arOf (mkTab t) d)
  unfold scOf sumW
  have hpt : ∀ e ∈ List.range ((mkTab t).D + 1),
      (if e ≥ d + 1 then k * (nOf (mkTab t) e / nOf (mkTab t) (d + 1)) * w e else (k / (nOf (mkTab t) (d + 1) / nOf (mkTab t) e)) * w e) =
      (k % arOf (mkTab t) d) * (if e ≥ d + 1 then (nOf (mkTab t) e / nOf (mkTab t) (d + 1)) * w e else 0) +
      (if e ≥ d then (k / arOf (mkTab t) d) * (nOf (mkTab t) e / nOf (mkTab t) d) * w e
        else ((k / arOf (mkTab t) d) / (nOf (mkTab t) d / nOf (mkTab t) e)) * w e) := by
    intro e he
    have he' : e ≤ (mkTab t).D := by have := List.mem_range.1 he; omega
    by_cases h1 : e ≥ d + 1
    · rw [if_pos h1, if_pos h1, if_pos (by omega), q_succ t h e d he' (by omega), ← Nat.mul_assoc, ← Nat.mul_assoc, ← Nat.add_mul,
        ← Nat.add_mul, Nat.add_comm (k % _), hkk]
    · rw [if_neg h1, if_neg h1, q_top t h d e hd (by omega), Nat.mul_comm (nOf (mkTab t) d / nOf (mkTab t) e), ← Nat.div_div_eq_div_mul]
      split
      · obtain rfl : e = d := by omega
        rw [Nat.div_self hpd]; simp
      · simp
  rw [List.map_congr_left hpt, sum_map_lin]
  omega

theorem specialIds_length (numa : Bool) : ∀ f d k, d + f = (mkTab t).D + 1 → d ≤ (mkTab t).D →
    (specialIds (mkTab t) numa f d k).length = sumW (mkTab t) (wSel (mkTab t) numa) d := by
  refine fuel_ind _ fun f d h1 ih k => ?_
  rw [specialIds_succ t numa f d k h1, List.length_append, own_length, sumW_rec t h _ d (by omega)]
  exact congrArg (· + _) (length_flatMap_const _ _ _ fun r hr => ih (ar_pos_lt t d (by omega) hr) _)

theorem specialIds_unfold (numa : Bool) (d k : Nat) (hd : d ≤ (mkTab t).D) :
    specialIds (mkTab t) numa ((mkTab t).D + 1 - d) d k =
      (List.range (arOf (mkTab t) d)).flatMap (fun r => specialIds (mkTab t) numa ((mkTab t).D + 1 - (d + 1)) (d + 1) (k * arOf (mkTab t) d + r)) ++
        specialIds.own (mkTab t) numa d k ∧
    ∀ r, r < arOf (mkTab t) d →
      (specialIds (mkTab t) numa ((mkTab t).D + 1 - (d + 1)) (d + 1) (k * arOf (mkTab t) d + r)).length =
        sumW (mkTab t) (wSel (mkTab t) numa) (d + 1) := by
  have hf : (mkTab t).D + 1 - d = ((mkTab t).D + 1 - (d + 1)) + 1 := by rw [Nat.add_sub_add_right, Nat.succ_sub hd]
  refine ⟨?_, fun r hr => specialIds_length t h numa _ (d + 1) _ (Nat.add_sub_of_le (Nat.succ_le_succ hd))
    (ar_pos_lt t d hd hr)⟩
  rw [hf]
  exact specialIds_succ t numa _ d k (by rw [← hf, Nat.add_sub_of_le (Nat.le_succ_of_le hd)])

theorem level_segment (numa : Bool) : ∀ d k, d ≤ (mkTab t).D → k < nOf (mkTab t) d → ∀ i, i < sumW (mkTab t) (wSel (mkTab t) numa) d →
    (specialIds (mkTab t) numa ((mkTab t).D + 1) 0 0)[scOf (mkTab t) (wSel (mkTab t) numa) d k + i]? =
      (specialIds (mkTab t) numa ((mkTab t).D + 1 - d) d k)[i]? := by
  intro d
  induction d with
  | zero =>
    intro k _ hk i _
    obtain rfl : k = 0 := Nat.lt_one_iff.1 (nOf_zero _ ▸ hk)
    rw [scOf_zero t, Nat.zero_add]; rfl
  | succ d ih =>
    intro k hd hk i hi
    have hd' : d < (mkTab t).D := hd
    have ⟨ha, hlt⟩ := div_lt_parent t d k hd' hk
    have hr : k % arOf (mkTab t) d < arOf (mkTab t) d := Nat.mod_lt _ ha
    have hrec := sumW_rec t h (wSel (mkTab t) numa) d (Nat.le_of_lt hd')
    obtain ⟨hunf, hblk⟩ := specialIds_unfold t h numa d (k / arOf (mkTab t) d) (Nat.le_of_lt hd')
    rw [scOf_succ t h _ d k hd']
    generalize sumW (mkTab t) (wSel (mkTab t) numa) (d + 1) = W at hi hrec hblk ⊢
    have hle := mul_add_lt_mul hr hi
    rw [Nat.add_assoc, ih (k / arOf (mkTab t) d) (Nat.le_of_lt hd') hlt _ (by rw [hrec]; exact Nat.lt_add_right _ hle), hunf,
      List.getElem?_append_left (by rw [length_flatMap_const _ _ _ hblk]; exact hle),
      getElem?_flatMap_const _ _ _ hblk _ _ hr hi, Nat.div_add_mod']

theorem level_own (numa : Bool) (d k : Nat) (hd : d ≤ (mkTab t).D) (hk : k < nOf (mkTab t) d) (j : Nat)
    (hj : j < wSel (mkTab t) numa d) :
    (specialIds (mkTab t) numa ((mkTab t).D + 1) 0 0)[scOf (mkTab t) (wSel (mkTab t) numa) d k +
        arOf (mkTab t) d * sumW (mkTab t) (wSel (mkTab t) numa) (d + 1) + j]? =
      (specialIds.own (mkTab t) numa d k)[j]? := by
  have hrec := sumW_rec t h (wSel (mkTab t) numa) d hd
  obtain ⟨hunf, hblk⟩ := specialIds_unfold t h numa d k hd
  have hkids := length_flatMap_const _ _ _ hblk
  rw [Nat.add_assoc, level_segment t h numa d k hd hk _ (by rw [hrec]; exact Nat.add_lt_add_left hj _), hunf,
    List.getElem?_append_right (by rw [hkids]; exact Nat.le_add_right _ _), hkids, Nat.add_sub_cancel_left]

theorem level_at_postPos (numa : Bool) (d k j : Nat) (hd : d ≤ (mkTab t).D) (hk : k < nOf (mkTab t) d)
    (hj : j < wSel (mkTab t) numa d) :
    (specialIds (mkTab t) numa ((mkTab t).D + 1) 0 0)[postPos (mkTab t) (wSel (mkTab t) numa) d k j]? =
      (specialIds.own (mkTab t) numa d k)[j]? := by
  rw [postPos_closed t h _ d k j hd]
  exact level_own t h numa d k hd hk j hj

end

/-- the fourth side condition: one distinct os_index per NUMA node -/
def numaOK (t : Topo) : Bool :=
  decide t.numaIdx.Nodup && t.numaIdx.length == (specialIds (mkTab t) true ((mkTab t).D + 1) 0 0).length

section
variable (t : Topo) (h : OK t)
include h

theorem numa_pos (d k s : Nat) (hd : d ≤ (mkTab t).D) (hk : k < nOf (mkTab t) d) (hs : s < memLen (mkTab t) d) :
    (envOf t).numaL[postPos (mkTab t) (numaCnt (mkTab t)) d k s]? = some (numaId (mkTab t) d k s : Int) ∧
    postPos (mkTab t) (numaCnt (mkTab t)) d k s < (envOf t).numaL.length := by
  have hat := level_at_postPos t h true d k s hd hk hs
  rw [own_numa_get _ d k s hs] at hat
  exact ⟨hat, Hw.Topo.Restrict.getElem?_lt hat⟩

end

/-! ### a NUMA object, its level position and (under `numaOK`) its os_index each determine (depth, object, slot) -/


section
variable (t : Topo) (h : OK t)
include h

/-- its parent is the memory-side cache of the slot or the object itself, and either carries (d, k) in its own fields -/
theorem numaObj_inj (d k s d' k' s' : Nat) (hd : d ≤ (mkTab t).D) (hk : k < nOf (mkTab t) d) (hs : s < memLen (mkTab t) d)
    (hd' : d' ≤ (mkTab t).D) (hk' : k' < nOf (mkTab t) d') (hs' : s' < memLen (mkTab t) d')
    (he : numaObj (envOf t) d k s = numaObj (envOf t) d' k' s') : d = d' ∧ k = k' ∧ s = s' := by
  have hr : (numaObj (envOf t) d k s).rank = (numaObj (envOf t) d' k' s').rank := congrArg Obj.rank he
  have hP := lookup_parent_numa t d k s hd hk hs
  rw [he, lookup_parent_numa t d' k' s' hd' hk' hs', Option.some.injEq] at hP
  have hnm : ∀ d k s d' k', d' ≤ (mkTab t).D → mcObj (envOf t) d k s ≠ normalObj (envOf t) d' k' := fun d k s d' k' hd' e =>
    (normal_facts _ (lt14_of_normal (ntype_normal t h d' hd'))).2.1 ((normalObj_type t d' k').symm.trans (congrArg Obj.type e).symm)
  by_cases hm : (slotM (envOf t) d s).msc ≠ 0 <;> by_cases hm' : (slotM (envOf t) d' s').msc ≠ 0
  · rw [if_pos hm, if_pos hm'] at hP
    have e1 : (nid (mkTab t) d' k' : Int) = (nid (mkTab t) d k : Int) := congrArg Obj.parent hP
    have e2 : s' = s := congrArg Obj.rank hP
    have := nid_inj t d k d' k' hd hk hd' hk' (by omega)
    exact ⟨this.1, this.2, e2.symm⟩
  · rw [if_pos hm, if_neg hm'] at hP
    exact absurd hP.symm (hnm d k s d' k' hd')
  · rw [if_neg hm, if_pos hm'] at hP
    exact absurd hP (hnm d' k' s' d k hd)
  · rw [if_neg hm, if_neg hm'] at hP
    have e1 : ((d' : Nat) : Int) = (d : Int) := congrArg Obj.depth hP
    have e2 : k' = k := congrArg Obj.lidx hP
    rw [(numaObj_nomc (envOf t) d k s hm).2.2.1, (numaObj_nomc (envOf t) d' k' s' hm').2.2.1] at hr
    exact ⟨by omega, e2.symm, hr⟩

theorem postPos_inj (d k s d' k' s' : Nat) (hd : d ≤ (mkTab t).D) (hk : k < nOf (mkTab t) d) (hs : s < memLen (mkTab t) d)
    (hd' : d' ≤ (mkTab t).D) (hk' : k' < nOf (mkTab t) d') (hs' : s' < memLen (mkTab t) d')
    (he : postPos (mkTab t) (numaCnt (mkTab t)) d k s = postPos (mkTab t) (numaCnt (mkTab t)) d' k' s') : d = d' ∧ k = k' ∧ s = s' := by
  obtain ⟨p1, _⟩ := numa_pos t h d k s hd hk hs
  obtain ⟨p2, _⟩ := numa_pos t h d' k' s' hd' hk' hs'
  rw [he, p2] at p1
  have hid : numaId (mkTab t) d' k' s' = numaId (mkTab t) d k s := by
    have := Option.some.inj p1; omega
  have h1 := lookup_numa t d k s hd hk hs
  have h2 := lookup_numa t d' k' s' hd' hk' hs'
  rw [hid, h1] at h2
  exact numaObj_inj t h d k s d' k' s' hd hk hs hd' hk' hs' (Option.some.inj h2)

theorem numaIdx_inj (hn : numaOK t = true) (d k s d' k' s' : Nat) (hd : d ≤ (mkTab t).D) (hk : k < nOf (mkTab t) d) (hs : s < memLen (mkTab t) d)
    (hd' : d' ≤ (mkTab t).D) (hk' : k' < nOf (mkTab t) d') (hs' : s' < memLen (mkTab t) d')
    (he : t.numaIdx[postPos (mkTab t) (numaCnt (mkTab t)) d k s]?.getD 0 = t.numaIdx[postPos (mkTab t) (numaCnt (mkTab t)) d' k' s']?.getD 0) :
    d = d' ∧ k = k' ∧ s = s' := by
  unfold numaOK at hn
  simp only [Bool.and_eq_true, decide_eq_true_eq, beq_iff_eq] at hn
  obtain ⟨hnd, hlen⟩ := hn
  obtain ⟨_, l1⟩ := numa_pos t h d k s hd hk hs
  obtain ⟨_, l2⟩ := numa_pos t h d' k' s' hd' hk' hs'
  have hL : (envOf t).numaL.length = t.numaIdx.length := hlen.symm
  rw [hL] at l1 l2
  rw [List.getElem?_eq_getElem l1, List.getElem?_eq_getElem l2] at he
  simp only [Option.getD_some] at he
  have hpos : postPos (mkTab t) (numaCnt (mkTab t)) d k s = postPos (mkTab t) (numaCnt (mkTab t)) d' k' s' :=
    (List.getElem_inj hnd).1 he
  exact postPos_inj t h d k s d' k' s' hd hk hs hd' hk' hs' hpos

theorem tc_numa_osindex_unique (hn : numaOK t = true) :
    topClause "numa-osindex-unique" (toDump t) (mkAux (toDump t)) = true := by
  rw [topClause_of_getElem? (k := 13) rfl]
  simp only [decide_eq_true_eq]
  refine osidx_nodup t tNUMA fun a ha b hb hta htb heq => ?_
  have key : ∀ x, x ∈ (toDump t).objs → x.type = tNUMA → ∃ d k s, d ≤ (mkTab t).D ∧ k < nOf (mkTab t) d ∧ s < memLen (mkTab t) d ∧
      x = numaObj (envOf t) d k s := by
    intro x hx hty
    cases objs_kind t x hx with
    | normal d k hd hk e =>
      rw [e, normalObj_type] at hty
      exact absurd hty (normal_facts _ (lt14_of_normal (ntype_normal t h d hd))).1
    | numa d k s hd hk hs e => exact ⟨d, k, s, hd, hk, hs, e⟩
    | mc d k s hd hk hs hm e =>
      rw [e, mcObj_type] at hty; exact absurd hty (by decide)
  obtain ⟨d, k, s, hd, hk, hs, ea⟩ := key a ha hta
  obtain ⟨d', k', s', hd', hk', hs', eb⟩ := key b hb htb
  have oa : a.osidx = ((t.numaIdx[postPos (mkTab t) (numaCnt (mkTab t)) d k s]?.getD 0 : Nat) : Int) := by rw [ea]; rfl
  have ob : b.osidx = ((t.numaIdx[postPos (mkTab t) (numaCnt (mkTab t)) d' k' s']?.getD 0 : Nat) : Int) := by rw [eb]; rfl
  rw [oa, ob] at heq
  obtain ⟨rfl, rfl, rfl⟩ := numaIdx_inj t h hn d k s d' k' s' hd hk hs hd' hk' hs' (by omega)
  rw [ea, eb]

end

/-! ### a special level is the sub-list of the object list of its type -/


def idsOfType (ty : Nat) (l : List Obj) : List Int := (l.filter (fun o => o.type == ty)).map (fun o => (o.id : Int))

theorem idsOfType_append (ty : Nat) (a b : List Obj) : idsOfType ty (a ++ b) = idsOfType ty a ++ idsOfType ty b := by
  simp [idsOfType]

theorem idsOfType_flatMap {α : Type} (ty : Nat) (l : List α) (g : α → List Obj) :
    idsOfType ty (l.flatMap g) = l.flatMap (fun x => idsOfType ty (g x)) := by
  induction l with
  | nil => rfl
  | cons a l ih => rw [List.flatMap_cons, idsOfType_append, ih, List.flatMap_cons]

def spTy (numa : Bool) : Nat := if numa then tNUMA else tMEMCACHE

theorem ids_memObjs (E : DEnv) (numa : Bool) (d k : Nat) : idsOfType (spTy numa) (memObjs E d k) = specialIds.own E.T numa d k := by
  unfold memObjs specialIds.own
  rw [idsOfType_flatMap]
  apply flatMap_eq_filterMap
  intro s
  rw [memSlot_eq]
  cases numa with
  | true => split <;> simp [idsOfType, spTy, numaObj_type, mcObj_type, numaObj_id, tNUMA, tMEMCACHE]
  | false =>
    show _ = (if (slotM E d s).msc ≠ 0 then some ((memId E.T d k s : Nat) : Int) else none).toList
    split <;> simp [idsOfType, spTy, numaObj_type, mcObj_type, mcObj_id, tNUMA, tMEMCACHE]

section
variable (t : Topo) (h : OK t)
include h

theorem normalObj_not_special (numa : Bool) (d k : Nat) (hd : d ≤ (mkTab t).D) : ((normalObj (envOf t) d k).type == spTy numa) = false := by
  have hf := normal_facts _ (lt14_of_normal (ntype_normal t h d hd))
  rw [normalObj_type]
  unfold spTy; cases numa <;> simp [hf.1, hf.2.1]

theorem ids_genObjs (numa : Bool) : ∀ f d k, d + f = (mkTab t).D + 1 → d ≤ (mkTab t).D →
    idsOfType (spTy numa) (genObjs (envOf t) f d k) = specialIds (mkTab t) numa f d k := by
  refine fuel_ind _ fun f d h1 ih k => ?_
  have h2 : d ≤ (mkTab t).D := by omega
  rw [genObjs_succ t f d k h1, specialIds_succ t numa f d k h1, show ∀ l, idsOfType (spTy numa) (normalObj (envOf t) d k :: l) =
    idsOfType (spTy numa) l from fun l => by simp [idsOfType, normalObj_not_special t h numa d k h2], idsOfType_append, ids_memObjs,
    idsOfType_flatMap]
  exact congrArg (· ++ _) (flatMap_congr_mem _ _ _ fun r hr =>
    ih (ar_pos_lt t d h2 (List.mem_range.1 hr)) _)

theorem special_sorted (numa : Bool) : ∀ f d k, d + f = (mkTab t).D + 1 → d ≤ (mkTab t).D →
    (specialIds (mkTab t) numa f d k).Pairwise (· < ·) ∧
    ∀ x ∈ specialIds (mkTab t) numa f d k, (nid (mkTab t) d k : Int) < x ∧ x < ((nid (mkTab t) d k + szOf (mkTab t) d : Nat) : Int) := by
  intro f d k h1 h2
  obtain ⟨f', rfl⟩ : ∃ f', f = f' + 1 := ⟨f - 1, by omega⟩
  have hids := genObjs_ids t (f' + 1) d k h1 h2
  rw [← ids_genObjs t h numa (f' + 1) d k h1 h2]
  -- the subtree is its root, which is not of that type, followed by objects with the ids nid + 1, …
  obtain ⟨rest, hrest⟩ : ∃ rest, genObjs (envOf t) (f' + 1) d k = normalObj (envOf t) d k :: rest := ⟨_, rfl⟩
  have hsz : szOf (mkTab t) d = (szOf (mkTab t) d - 1) + 1 := by
    have := congrArg List.length hids
    rw [hrest] at this; simp at this; omega
  rw [hrest, hsz, List.range'_succ, List.map_cons, List.cons.injEq] at hids
  have hsub : ((rest.filter (fun o => o.type == spTy numa)).map (·.id)).Sublist (List.range' (nid (mkTab t) d k + 1) (szOf (mkTab t) d - 1)) := by
    rw [← hids.2]; exact (List.filter_sublist).map _
  rw [hrest, show idsOfType (spTy numa) (normalObj (envOf t) d k :: rest) =
    ((rest.filter (fun o => o.type == spTy numa)).map (·.id)).map (fun (i : Nat) => (i : Int)) by
      simp [idsOfType, normalObj_not_special t h numa d k h2]]
  constructor
  · rw [List.pairwise_map]
    exact (List.Pairwise.sublist hsub List.pairwise_lt_range').imp (fun hab => by omega)
  · intro x hx
    obtain ⟨i, hi, rfl⟩ := List.mem_map.1 hx
    have := List.mem_range'_1.1 (hsub.subset hi)
    omega

theorem level_cover (numa : Bool) (i : Nat) (hi : i < (specialIds (mkTab t) numa ((mkTab t).D + 1) 0 0).length) :
    ∃ d k j, d ≤ (mkTab t).D ∧ k < nOf (mkTab t) d ∧ j < wSel (mkTab t) numa d ∧
      (specialIds (mkTab t) numa ((mkTab t).D + 1) 0 0)[i]? = (specialIds.own (mkTab t) numa d k)[j]? ∧
      postPos (mkTab t) (wSel (mkTab t) numa) d k j = i := by
  -- entry `i` is an own entry `j` of some (d, k), `level_at_postPos` puts that entry at `postPos`, and the level has no repetition
  have hnd := (special_sorted t h numa ((mkTab t).D + 1) 0 0 (by omega) (Nat.zero_le _)).1.imp Int.ne_of_lt
  obtain ⟨d, k, hd, hk, hx⟩ := specialIds_mem t numa _ 0 0 (Nat.zero_add _) (Nat.zero_le _) (by rw [nOf_zero]; exact Nat.one_pos)
    _ (List.getElem_mem hi)
  obtain ⟨j, hjx⟩ := List.mem_iff_getElem?.1 hx
  have hj : j < wSel (mkTab t) numa d := own_length _ numa d k ▸ Hw.Topo.Restrict.getElem?_lt hjx
  have hat := level_at_postPos t h numa d k j hd hk hj
  have hpos := (List.getElem?_inj hi hnd).1 ((List.getElem?_eq_getElem hi).trans (hjx.symm.trans hat.symm))
  exact ⟨d, k, j, hd, hk, hj, hpos ▸ hat, hpos.symm⟩

theorem ids_toDump :
    idsOfType tNUMA (toDump t).objs = (envOf t).numaL ∧ idsOfType tMEMCACHE (toDump t).objs = (envOf t).mcL :=
  ⟨ids_genObjs t h true _ 0 0 (by omega) (Nat.zero_le _), ids_genObjs t h false _ 0 0 (by omega) (Nat.zero_le _)⟩

end

/-- the third side condition: the topology has a NUMA node -/
def memOK (t : Topo) : Bool := (List.range (t.levels.length + 1)).any (fun e => decide (0 < memLen (mkTab t) e))

end Hw.Syn
