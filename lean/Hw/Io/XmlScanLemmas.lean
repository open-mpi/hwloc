/- Hw.XmlScanLemmas — memory safety and termination of the nolibxml scanner model (C06). -/
import Hw.Io.XmlScan
import Hw.Base.Cases
namespace Hw.XmlScan

@[simp] theorem ok_bind {α β} (a : α) (f : α → M β) : (Except.ok a >>= f) = f a := rfl
@[simp] theorem pure_bind' {α β} (a : α) (f : α → M β) : ((pure a : M α) >>= f) = f a := rfl
@[simp] theorem err_bind {α β} (e : Err) (f : α → M β) : ((Except.error e : M α) >>= f) = Except.error e := rfl

theorem rd_ok {b : Buf} {i : Nat} (h : i < b.size) : rd b i = .ok (gt b i) := by
  simp [rd, h, gt]

theorem wr_ok {b : Buf} {i : Nat} (v : Nat) (h : i < b.size) : wr b i v = .ok (b.set i v h) := by
  simp [wr, h]

theorem gt_set (b : Buf) (i v j : Nat) (h : i < b.size) :
    gt (b.set i v h) j = if i = j then v else gt b j := by
  simp only [gt, Array.getElem?_set]
  by_cases e : i = j <;> simp [e]

theorem HasNul.ne_last {b : Buf} (hn : HasNul b) {i : Nat} (hi : i < b.size) (h0 : gt b i ≠ 0) :
    i + 1 < b.size := by
  by_cases e : i = b.size - 1
  · rw [e, hn.last] at h0; exact absurd rfl h0
  · omega

theorem HasNul.set {b : Buf} (hn : HasNul b) {i : Nat} (v : Nat) (h : i < b.size)
    (hv : i + 1 < b.size ∨ v = 0) : HasNul (b.set i v h) := by
  refine ⟨by simpa using hn.pos, ?_⟩
  rw [Array.size_set, gt_set]
  by_cases e : i = b.size - 1
  · simp only [e, if_true]
    rcases hv with hv | hv
    · omega
    · exact hv
  · simp only [e, if_false]; exact hn.last

/-- `m` returns normally (no memory error, no fuel exhaustion) with a value that satisfies `Q` -/
def Ok {α : Type} (Q : α → Prop) (m : M α) : Prop := ∃ a, m = .ok a ∧ Q a

theorem Ok.bind {α β : Type} {P : α → Prop} {Q : β → Prop} {m : M α} {f : α → M β} (hm : Ok P m)
    (hf : ∀ a, P a → Ok Q (f a)) : Ok Q (m >>= f) := by
  obtain ⟨a, e, pa⟩ := hm
  rw [e]
  exact hf a pa

/-- The block of the scanner: `n` bytes, the last one NUL.  No store changes the length, so every cursor bound below is stated against
    `n`, once, and holds for the buffer after any number of stores. -/
structure Block (n : Nat) (b : Buf) : Prop where
  nul : HasNul b
  size : b.size = n

theorem Block.ne_last {n : Nat} {b : Buf} (hb : Block n b) {i : Nat} (hi : i < n) (h0 : gt b i ≠ 0) : i + 1 < n := by
  have := hb.nul.ne_last (hb.size.symm ▸ hi) h0
  rwa [hb.size] at this

theorem Ok.rd {β : Type} {Q : β → Prop} {n : Nat} {b : Buf} {i : Nat} {f : Nat → M β} (hb : Block n b) (hi : i < n)
    (h : Ok Q (f (gt b i))) : Ok Q (rd b i >>= f) := by
  rw [rd_ok (hb.size.symm ▸ hi)]
  exact h

/-- a store of a NUL, or anywhere but in the last cell: what follows runs on a block again -/
theorem Ok.wr {β : Type} {Q : β → Prop} {n : Nat} {b : Buf} {i v : Nat} {f : Buf → M β} (hb : Block n b) (hi : i < n)
    (hv : i + 1 < n ∨ v = 0) (h : ∀ b', Block n b' → Ok Q (f b')) : Ok Q (wr b i v >>= f) := by
  have hi' : i < b.size := hb.size.symm ▸ hi
  rw [wr_ok v hi']
  exact h _ ⟨hb.nul.set v hi' (hv.imp_left fun h => hb.size.symm ▸ h), (Array.size_set ..).trans hb.size⟩

theorem span_ok (p : Nat → Bool) {n : Nat} {b : Buf} (hb : Block n b) (hp : p 0 = false) :
    ∀ fuel i, i < n → n - i ≤ fuel → Ok (fun j => i ≤ j ∧ j < n ∧ p (gt b j) = false) (span p b fuel i)
  | 0, i, h1, h2 => by omega
  | f + 1, i, h1, h2 => by
    rw [span]
    refine Ok.rd hb h1 (ite_cases (fun hc => ?_) fun hc => ⟨i, rfl, Nat.le_refl _, h1, by simpa using hc⟩)
    have hi : i + 1 < n := hb.ne_last h1 (by intro e; rw [e, hp] at hc; cases hc)
    obtain ⟨j, e, a1, a2, a3⟩ := span_ok p hb hp f (i + 1) hi (by omega)
    exact ⟨j, e, by omega, a2, a3⟩

/-- the loops of the libc functions run on `b.size` passes of fuel -/
theorem span_size (p : Nat → Bool) {n : Nat} {b : Buf} (hb : Block n b) (hp : p 0 = false) {i : Nat} (hi : i < n) :
    Ok (fun j => i ≤ j ∧ j < n ∧ p (gt b j) = false) (span p b b.size i) :=
  span_ok p hb hp b.size i hi (by rw [hb.size]; omega)

theorem ignoreSpaces_ok {n : Nat} {b : Buf} (hb : Block n b) {i : Nat} (hi : i < n) :
    Ok (fun j => i ≤ j ∧ j < n) (ignoreSpaces b i) := by
  obtain ⟨j, e, a1, a2, _⟩ := span_size isSpace hb (by decide) hi
  exact ⟨j, e, a1, a2⟩

/-- strchr for a non-NUL byte: found positions hold a non-NUL byte, hence lie before the final NUL -/
theorem strchr_ok {n : Nat} {b : Buf} (hb : Block n b) {i : Nat} (hi : i < n) (c : Nat) (hc : c ≠ 0) :
    Ok (fun r => ∀ j, r = some j → i ≤ j ∧ j + 1 < n ∧ gt b j = c) (strchr b i c) := by
  rw [strchr]
  refine Ok.bind (span_size (fun x => x != c && x != 0) hb (by simp) hi) fun j hj =>
    Ok.rd hb hj.2.1 ⟨_, rfl, fun j' h => ?_⟩
  by_cases e : gt b j = c
  · rw [if_pos (beq_iff_eq.2 e)] at h
    cases h
    exact ⟨hj.1, hb.ne_last hj.2.1 (e ▸ hc), e⟩
  · rw [if_neg fun h' => e (beq_iff_eq.1 h')] at h
    cases h

theorem matchLit_ok {n : Nat} {b : Buf} (hb : Block n b) :
    ∀ (l : List Nat) (i : Nat), i < n → (∀ c ∈ l, c ≠ 0) →
    Ok (fun r => r = true → i + l.length < n) (matchLit b l i)
  | [], i, hi, _ => ⟨true, rfl, fun _ => hi⟩
  | c :: cs, i, hi, hl => by
    rw [matchLit]
    refine Ok.rd hb hi (ite_cases (fun h => ?_) fun _ => ⟨_, rfl, nofun⟩)
    have hi' : i + 1 < n := hb.ne_last hi (by rw [beq_iff_eq.1 h]; exact hl c (by simp))
    obtain ⟨r, e, hr⟩ := matchLit_ok hb cs (i + 1) hi' fun c' hc' => hl c' (by simp [hc'])
    exact ⟨r, e, fun h => by have := hr h; simp only [List.length_cons]; omega⟩

theorem lit_ne_zero (s : String) (h : (lit s).all (· != 0) = true) : ∀ c ∈ lit s, c ≠ 0 := by
  intro c hc
  have := List.all_eq_true.mp h c hc
  simpa using this

theorem strEqLit_ok {n : Nat} {b : Buf} (hb : Block n b) {i : Nat} (hi : i < n) (l : List Nat) (hl : ∀ c ∈ l, c ≠ 0) :
    Ok (fun _ => True) (strEqLit b i l) := by
  rw [strEqLit]
  refine Ok.bind (matchLit_ok hb l i hi hl) fun r hr => ?_
  exact ite_cases (fun h => Ok.rd hb (hr h) ⟨_, rfl, trivial⟩) fun _ => ⟨_, rfl, trivial⟩

theorem strEqBuf_ok {n : Nat} {b : Buf} (hb : Block n b) :
    ∀ fuel i j, i < n → j < n → n - i ≤ fuel → Ok (fun _ => True) (strEqBuf b fuel i j)
  | 0, i, j, hi, _, hf => by omega
  | f + 1, i, j, hi, hj, hf => by
    rw [strEqBuf]
    refine Ok.rd hb hi (Ok.rd hb hj (ite_cases (fun _ => ⟨_, rfl, trivial⟩) fun h => ite_cases (fun _ => ⟨_, rfl, trivial⟩) fun h0 => ?_))
    have e : gt b i = gt b j := by simpa using h
    have hz : gt b i ≠ 0 := by simpa using h0
    exact strEqBuf_ok hb f (i + 1) (j + 1) (hb.ne_last hi hz) (hb.ne_last hj (e ▸ hz)) (by omega)

theorem matchEntity_ok {n : Nat} {b : Buf} (hb : Block n b) {i : Nat} (hi : i < n) :
    ∀ (es : List (List Nat × Nat)), (∀ e ∈ es, ∀ c ∈ e.1, c ≠ 0) →
    Ok (fun r => ∀ k ch, r = some (k, ch) → i + k < n) (matchEntity b i es)
  | [], _ => ⟨none, rfl, nofun⟩
  | (l, ch) :: rest, hes => by
    rw [matchEntity]
    refine Ok.bind (matchLit_ok hb l i hi (hes (l, ch) (by simp))) fun r hr => ?_
    exact ite_cases (fun h => ⟨_, rfl, fun k ch' e => by cases e; exact hr h⟩) fun _ =>
      matchEntity_ok hb hi rest fun e he => hes e (by simp [he])

theorem entities_nz : ∀ e ∈ entities, ∀ c ∈ e.1, c ≠ 0 := by decide +kernel


/-! ### frames -/

structure FrameOk (n : Nat) (f : Frame) : Prop where
  tb : f.tagbuf < n
  ab : ∀ a, f.attrbuf = some a → a < n
  tn : ∀ t, f.tagname = .at t → t < n
  ct : f.content = true → f.tagbuf + 1 < n

theorem attrHeader_ok {n : Nat} {b : Buf} (hb : Block n b) {a : Nat} (ha : a < n) :
    Ok (fun r => ∀ p e, r = some (p, e) → e + 2 < n) (attrHeader b a) := by
  rw [attrHeader]
  refine Ok.bind (ignoreSpaces_ok hb ha) fun p hp =>
    Ok.bind (span_size isAttrChar hb (by decide) hp.2) fun e he => Ok.rd hb he.2.1 ?_
  refine ite_cases (fun _ => ⟨_, rfl, nofun⟩) fun c61 => ?_
  have he1 : e + 1 < n := hb.ne_last he.2.1 fun h0 => c61 (by rw [h0]; decide)
  refine Ok.rd hb he1 (ite_cases (fun _ => ⟨_, rfl, nofun⟩) fun c34 => ⟨_, rfl, fun p' e' h => ?_⟩)
  cases h
  exact hb.ne_last he1 fun h0 => c34 (by rw [h0]; decide)

theorem f05e_iff {b : Buf} {f : Frame} : f05e b f = true ↔
    ∃ a p e, f.attrbuf = some a ∧ attrHeader b a = .ok (some (p, e)) ∧ e + 2 = b.size - 1 := by
  simp only [f05e, attrValueStart, beq_iff_eq]
  refine ⟨fun hc => ?_, fun ⟨a, p, e, hab, eh, hv⟩ => by simp only [hab, eh, hv]⟩
  split at hc
  · cases hc
  · split at hc
    · exact ⟨_, _, _, ‹_›, ‹_›, Option.some.inj hc⟩
    · cases hc

def UnescOk (n : Nat) : M (Buf × Option (Nat × Nat)) → Prop :=
  Ok fun x => Block n x.1 ∧ ∀ w' r', x.2 = some (w', r') → w' ≤ r' ∧ r' + 1 < n

theorem unesc_ok (v : Variant) {n : Nat} :
    ∀ fuel (b : Buf) w r, Block n b → w ≤ r → r < n → v.fixE = true ∨ r + 1 < n → n - r ≤ fuel →
      UnescOk n (unesc v fuel b w r)
  | 0, _, _, _, _, _, _, _, hf => by omega
  | fu + 1, b, w, r, hb, hwr, hr, hpre, hf => by
    -- what both kinds of iteration end with: store `x` at `w`, look at the byte `k + 1` further on, stop on NUL or go on
    have cont : ∀ x k : Nat, r + k + 1 < n → UnescOk n
        (do let b1 ← wr b w x
            let c' ← rd b1 (r + k + 1)
            if c' == 0 then pure (b1, none) else unesc v fu b1 (w + 1) (r + k + 1)) := fun x k hk =>
      Ok.wr hb (by omega) (Or.inl (by omega)) fun b1 hb1 => Ok.rd hb1 hk <|
        ite_cases (P := UnescOk n) (fun _ => ⟨_, rfl, hb1, nofun⟩) fun c0 =>
          unesc_ok v fu b1 (w + 1) (r + k + 1) hb1 (by omega) hk (Or.inr (hb1.ne_last hk fun h => c0 (beq_iff_eq.2 h))) (by omega)
    rw [unesc]
    refine Ok.rd hb hr (ite_cases (P := UnescOk n) (fun c34 => ⟨_, rfl, hb, fun w' r' h => ?_⟩) fun _ =>
      ite_cases (fun _ => ⟨_, rfl, hb, nofun⟩) fun cfix => ite_cases (fun c38 => ?_) fun _ => ?_)
    · cases h
      exact ⟨hwr, hb.ne_last hr (by rw [beq_iff_eq.1 c34]; decide)⟩
    · have hr1 : r + 1 < n := hb.ne_last hr (by rw [beq_iff_eq.1 c38]; decide)
      refine Ok.bind (matchEntity_ok hb hr1 entities entities_nz) fun m hm => ?_
      cases m with
      | none => exact ⟨_, rfl, hb, nofun⟩
      | some kc => exact cont kc.2 kc.1 (by have := hm kc.1 kc.2 rfl; omega)
    · -- a plain byte, not the final NUL: the fixed code has just stopped on a NUL, the pinned code is never at the last cell
      refine Ok.rd hb hr (cont (gt b r) 0 (hpre.elim (fun hv => hb.ne_last hr fun z => cfix ?_) id))
      rw [hv, z]; rfl

def LitOk (f : Frame) : Prop := ∀ l, f.tagname = .lit l → ∀ c ∈ l, c ≠ 0

theorem FrameOk.set_attrbuf {n : Nat} {f : Frame} (hf : FrameOk n f) {x : Nat} (hx : x < n) :
    FrameOk n { f with attrbuf := some x } :=
  ⟨hf.tb, (fun a h => by cases h; exact hx), hf.tn, hf.ct⟩

def Kept (n : Nat) (f : Frame) (x : Buf × Frame) : Prop := Block n x.1 ∧ FrameOk n x.2 ∧ x.2.tagname = f.tagname

theorem nextAttr_ok (v : Variant) {n : Nat} {b : Buf} {f : Frame} (hb : Block n b) (hf : FrameOk n f)
    (hl : v.fixE = true ∨ f05e b f = false) : Ok (fun x => Kept n f x.2) (nextAttr v b f) := by
  have keep : ∀ (r : AttrRes) (b' : Buf), Block n b' → Ok (fun x => Kept n f x.2) (pure (r, b', f)) :=
    fun r b' hb' => ⟨_, rfl, hb', hf, rfl⟩
  unfold nextAttr
  cases hab : f.attrbuf with
  | none => exact keep _ b hb
  | some a =>
    obtain ⟨h, eh, hh⟩ := attrHeader_ok hb (hf.ab a hab)
    simp only [eh, ok_bind]
    cases h with
    | none => exact keep _ b hb
    | some pe =>
      obtain ⟨p, e⟩ := pe
      have he2 := hh p e rfl
      refine Ok.wr hb (by omega) (Or.inr rfl) fun b1 hb1 => ?_
      have hpre : v.fixE = true ∨ e + 2 + 1 < n := hl.imp_right fun hc => by
        have : e + 2 ≠ b.size - 1 := fun h => by rw [f05e_iff.2 ⟨a, p, e, hab, eh, h⟩] at hc; cases hc
        rw [hb.size] at this; omega
      refine Ok.bind (unesc_ok v b1.size b1 (e + 2) (e + 2) hb1 (Nat.le_refl _) he2 hpre (by rw [hb1.size]; omega)) fun x hx => ?_
      obtain ⟨b2, u⟩ := x
      obtain ⟨hb2, hu⟩ := hx
      cases u with
      | none => exact keep _ b2 hb2
      | some wr' =>
        obtain ⟨hwr, hr1⟩ := hu wr'.1 wr'.2 rfl
        refine Ok.wr hb2 (by omega) (Or.inr rfl) fun b3 hb3 => Ok.bind (ignoreSpaces_ok hb3 hr1) fun nx hnx => ?_
        exact ⟨_, rfl, hb3, hf.set_attrbuf hnx.2, rfl⟩

def ChildOk (n : Nat) : M (ChildRes × Buf × Option Frame) → Prop :=
  Ok fun x => Block n x.2.1 ∧ ∀ cf, x.2.2 = some cf → FrameOk n cf ∧ LitOk cf

theorem childTail_ok {n : Nat} {b : Buf} (hb : Block n b) {q e : Nat} (hq : q < n) (he : e + 1 < n)
    (closed : Bool) (pid : Nat) : ChildOk n (childTail b q e closed pid) := by
  have hfr : ∀ ab, (∀ a, ab = some a → a < n) → ∀ cf,
      some ({ tagbuf := e + 1, attrbuf := ab, tagname := TagName.at q, closed := closed, parent := some pid } : Frame) =
        some cf → FrameOk n cf ∧ LitOk cf := by
    intro ab hab cf h; cases h
    exact ⟨⟨he, hab, fun t h => by cases h; exact hq, nofun⟩, nofun⟩
  rw [childTail]
  refine Ok.bind (span_size isTagChar hb (by decide) hq) fun m hm => Ok.rd hb hm.2.1 ?_
  refine ite_cases (P := ChildOk n) (fun _ => ⟨_, rfl, hb, hfr none nofun⟩) fun z =>
    ite_cases (fun _ => ⟨_, rfl, hb, fun _ h => nomatch h⟩) fun _ => Ok.wr hb hm.2.1 (Or.inr rfl) fun b1 hb1 => ?_
  exact ⟨_, rfl, hb1, hfr _ fun a h => by cases h; exact hb.ne_last hm.2.1 fun h0 => z (beq_iff_eq.2 h0)⟩

theorem findChild_ok {n : Nat} {b : Buf} {f : Frame} (pid : Nat) (hb : Block n b) (hf : FrameOk n f) :
    ChildOk n (findChild b f pid) := by
  have hno : ∀ r, ChildOk n (pure (r, b, none)) := fun r => ⟨_, rfl, hb, fun _ h => nomatch h⟩   -- `nofun` would split the frame as well
  rw [findChild]
  refine ite_cases (fun _ => hno _) fun _ => Ok.bind (ignoreSpaces_ok hb hf.tb) fun p hp => Ok.rd hb hp.2 ?_
  refine ite_cases (fun _ => hno _) fun c60 => ?_
  have hq : p + 1 < n := hb.ne_last hp.2 fun h0 => c60 (by rw [h0]; decide)
  refine Ok.rd hb hq (ite_cases (fun _ => hno _) fun _ => Ok.bind (strchr_ok hb hq 62 (by decide)) fun eo he => ?_)
  cases eo with
  | none => exact hno _
  | some e =>
    obtain ⟨_, he1, _⟩ := he e rfl
    refine Ok.wr hb (by omega) (Or.inr rfl) fun b1 hb1 => Ok.rd hb1 (by omega) ?_
    exact ite_cases (fun _ => Ok.wr hb1 (by omega) (Or.inr rfl) fun b2 hb2 => childTail_ok hb2 hq he1 true pid) fun _ =>
      childTail_ok hb1 hq he1 false pid

theorem strEqName_ok {n : Nat} {b : Buf} (hb : Block n b) {i : Nat} (hi : i < n) (t : TagName)
    (ht : ∀ j, t = .at j → j < n) (hl : ∀ l, t = .lit l → ∀ c ∈ l, c ≠ 0) (hnn : t ≠ .null) :
    Ok (fun _ => True) (strEqName b i t) := by
  cases t with
  | lit l => exact strEqLit_ok hb hi l (hl l rfl)
  | «at» j => exact strEqBuf_ok hb b.size i j hi (ht j rfl) (by rw [hb.size]; omega)
  | null => exact absurd rfl hnn

/-- tag names are either in the buffer or NUL-free literals -/
def NameOk (f : Frame) : Prop := (∀ l, f.tagname = .lit l → ∀ c ∈ l, c ≠ 0) ∧ f.tagname ≠ .null

theorem closeTag_ok {n : Nat} {b : Buf} {f : Frame} (hb : Block n b) (hf : FrameOk n f) (hname : NameOk f) :
    Ok (fun x => Kept n f x.2) (closeTag b f) := by
  have keep : ∀ r : Int, Ok (fun x => Kept n f x.2) (pure (r, b, f)) := fun r => ⟨_, rfl, hb, hf, rfl⟩
  rw [closeTag]
  refine ite_cases (fun _ => keep 0) fun _ => Ok.bind (ignoreSpaces_ok hb hf.tb) fun p hp => Ok.rd hb hp.2 ?_
  refine ite_cases (fun _ => keep _) fun c60 => ?_
  have hq : p + 1 < n := hb.ne_last hp.2 fun h0 => c60 (by rw [h0]; decide)
  refine Ok.bind (strchr_ok hb hq 62 (by decide)) fun eo he => ?_
  cases eo with
  | none => exact keep _
  | some e =>
    obtain ⟨_, he1, _⟩ := he e rfl
    refine Ok.wr hb (by omega) (Or.inr rfl) fun b1 hb1 => Ok.rd hb1 hq ?_
    have hk : Kept n f (b1, { f with tagbuf := e + 1, content := false }) := ⟨hb1, ⟨he1, hf.ab, hf.tn, nofun⟩, rfl⟩
    refine ite_cases (fun _ => ⟨_, rfl, hk⟩) fun c47 => ?_
    have hq2 : p + 1 + 1 < n := hb1.ne_last hq fun h0 => c47 (by rw [h0]; decide)
    exact Ok.bind (strEqName_ok hb1 hq2 f.tagname hf.tn hname.1 hname.2) fun _ _ => ⟨_, rfl, hk⟩

theorem getContent_ok {n : Nat} {b : Buf} {f : Frame} (len : Nat) (hb : Block n b) (hf : FrameOk n f) :
    Ok (fun x => Kept n f x.2 ∧ (¬ x.1.ret < 0 → x.2.2.closed = true ∨ x.2.2.content = true))
      (getContent b f len) := by
  have hk : Kept n f (b, f) := ⟨hb, hf, rfl⟩
  rw [getContent]
  refine ite_cases (fun hc => ⟨_, rfl, hk, fun _ => Or.inl hc⟩) fun _ =>
    Ok.bind (strchr_ok hb hf.tb 60 (by decide)) fun eo he => ?_
  cases eo with
  | none => exact ⟨_, rfl, hk, fun h => absurd (by decide : (-1 : Int) < 0) h⟩
  | some e =>
    obtain ⟨_, he1, _⟩ := he e rfl
    exact ite_cases (fun _ => ⟨_, rfl, hk, fun h => absurd (by decide : (-1 : Int) < 0) h⟩) fun _ =>
      Ok.wr hb (by omega) (Or.inr rfl) fun b1 hb1 =>
        ⟨_, rfl, ⟨hb1, ⟨show e < n by omega, hf.ab, hf.tn, fun _ => he1⟩, rfl⟩, fun _ => Or.inr rfl⟩

theorem closeContent_ok {n : Nat} {b : Buf} {f : Frame} (hb : Block n b) (hf : FrameOk n f)
    (hl : f.closed = true ∨ f.content = true) : Ok (Kept n f) (closeContent b f) := by
  rw [closeContent]
  refine ite_cases (fun _ => ⟨_, rfl, hb, hf, rfl⟩) fun hc => ?_
  exact Ok.wr hb hf.tb (Or.inl (hf.ct (hl.resolve_left hc))) fun b1 hb1 => ⟨_, rfl, hb1, ⟨hf.tb, hf.ab, hf.tn, nofun⟩, rfl⟩


/-! ### look_init -/

theorem skipHeaders_ok {n : Nat} {b : Buf} (hb : Block n b) :
    ∀ fuel p, p < n → n - p ≤ fuel → Ok (fun r => ∀ q, r = some q → q < n) (skipHeaders b fuel p)
  | 0, p, hp, hf => by omega
  | fu + 1, p, hp, hf => by
    have line : Ok (fun r => ∀ q, r = some q → q < n) (strchr b p 10 >>= fun nl =>
        match nl with
        | none => pure none
        | some j => skipHeaders b fu (j + 1)) :=
      Ok.bind (strchr_ok hb hp 10 (by decide)) fun nl hnl => by
        cases nl with
        | none => exact ⟨_, rfl, nofun⟩
        | some j => exact skipHeaders_ok hb fu (j + 1) (hnl j rfl).2.1 (by have := (hnl j rfl).1; omega)
    rw [skipHeaders]
    refine Ok.bind (matchLit_ok hb (lit "<?xml ") p hp (by decide +kernel)) fun x _ => ?_
    cases x with
    | true => exact line
    | false =>
      refine Ok.bind (matchLit_ok hb (lit "<!DOCTYPE ") p hp (by decide +kernel)) fun y _ => ?_
      cases y with
      | true => exact line
      | false => exact ⟨_, rfl, fun q h => by cases h; exact hp⟩

theorem lookInit_variant (v : Variant) (b : Buf) :
    lookInit v b = bif f05a b && !v.fixA then .error .null else lookInit fixed b := by
  unfold lookInit f05a
  rcases skipHeaders b b.size 0 with _ | _ | p
  · rfl
  · rfl
  dsimp only [ok_bind]
  rcases span (fun x => x != 0) b b.size p with _ | z
  · rfl
  dsimp only [ok_bind]
  cases sscanfVersion ((b.extract p z).toList) with
  | none => rfl
  | some mm =>
    rcases strchr b p 62 with _ | _ | e
    · rfl
    · cases v.fixA <;> rfl   -- the one leaf where the two sources differ
    · rfl

def InitOk (n : Nat) : M (InitRes × Option Frame) → Prop :=
  Ok fun x => ∀ f, x.2 = some f → FrameOk n f ∧ LitOk f ∧ f.tagname ≠ .null

theorem lookInit_ok (v : Variant) {b : Buf} (hn : HasNul b) (hl : v.fixA = true ∨ f05a b = false) :
    InitOk b.size (lookInit v b) := by
  have hb : Block b.size b := ⟨hn, rfl⟩
  have fail : InitOk b.size (pure (⟨-1, 0, 0⟩, none)) := ⟨_, rfl, fun _ h => nomatch h⟩   -- `nofun` would split the frame as well
  have root : ∀ r tb l, tb < b.size → (∀ c ∈ l, c ≠ 0) →
      InitOk b.size (pure (r, some { tagbuf := tb, tagname := .lit l })) := fun r tb l htb hs =>
    ⟨_, rfl, fun f h => by cases h; exact ⟨⟨htb, nofun, nofun, nofun⟩, fun l h => by cases h; exact hs, nofun⟩⟩
  have off : (f05a b && !v.fixA) = false := by rcases hl with h | h <;> simp [h]
  rw [lookInit_variant, off, cond_false, lookInit]
  refine Ok.bind (skipHeaders_ok hb b.size 0 hn.pos (by omega)) fun po hpo => ?_
  cases po with
  | none => exact fail
  | some p =>
    have hp := hpo p rfl
    refine Ok.bind (span_size (fun x => x != 0) hb (by decide) hp) fun z _ => ?_
    rcases sscanfVersion ((b.extract p z).toList) with _ | ⟨ma, mi⟩
    · refine Ok.bind (matchLit_ok hb (lit "<topology>") p hp (by decide +kernel)) fun t ht =>
        ite_cases (fun h => root _ _ _ (ht h) (by decide +kernel)) fun _ => ?_
      exact Ok.bind (matchLit_ok hb (lit "<root>") p hp (by decide +kernel)) fun r hr =>
        ite_cases (fun h => root _ _ _ (hr h) (by decide +kernel)) fun _ => fail
    · refine Ok.bind (strchr_ok hb hp 62 (by decide)) fun eo he => ?_
      cases eo with
      | none => exact fail
      | some e => exact root _ _ _ (he e rfl).2.1 (by decide +kernel)


/-! ### the whole scanner state -/

structure Inv (s : St) : Prop where
  nul : HasNul s.buf
  fr : ∀ (i : Nat) (f : Frame), s.frames[i]? = some f → FrameOk s.buf.size f ∧ LitOk f

theorem Inv.update {s : St} (h : Inv s) {b' : Buf} (hn : HasNul b') (hs : b'.size = s.buf.size)
    (i : Nat) {f' : Frame} (hf : FrameOk s.buf.size f') (hl : LitOk f') :
    Inv { buf := b', frames := s.frames.setIfInBounds i f' } := by
  refine ⟨hn, ?_⟩
  intro j f hj
  simp only [Array.getElem?_setIfInBounds] at hj
  show FrameOk b'.size f ∧ LitOk f
  rw [hs]
  by_cases e : i = j
  · simp only [e, if_true] at hj
    by_cases l : j < s.frames.size
    · simp only [l, if_true] at hj; cases hj; exact ⟨hf, hl⟩
    · simp only [l] at hj; cases hj
  · simp only [e, if_false] at hj; exact h.fr j f hj

theorem Inv.setBuf {s : St} (h : Inv s) {b' : Buf} (hn : HasNul b') (hs : b'.size = s.buf.size) :
    Inv { s with buf := b' } :=
  ⟨hn, fun j f hj => by show FrameOk b'.size f ∧ LitOk f; rw [hs]; exact h.fr j f hj⟩

theorem Inv.push {s : St} (h : Inv s) {b' : Buf} (hn : HasNul b') (hs : b'.size = s.buf.size)
    {c : Frame} (hf : FrameOk s.buf.size c) (hl : LitOk c) :
    Inv { buf := b', frames := s.frames.push c } := by
  refine ⟨hn, ?_⟩
  intro j f hj
  simp only [Array.getElem?_push] at hj
  show FrameOk b'.size f ∧ LitOk f
  rw [hs]
  by_cases e : j = s.frames.size
  · simp only [e, if_true] at hj; cases hj; exact ⟨hf, hl⟩
  · simp only [e, if_false] at hj; exact h.fr j f hj

theorem Inv.kept {s : St} (h : Inv s) {i : Nat} {f : Frame} (hfi : s.frames[i]? = some f) {x : Buf × Frame}
    (hk : Kept s.buf.size f x) : Inv { buf := x.1, frames := s.frames.setIfInBounds i x.2 } ∧ x.1.size = s.buf.size :=
  ⟨h.update hk.1.nul hk.1.size i hk.2.1 fun l hl => (h.fr i f hfi).2 l (hk.2.2 ▸ hl), hk.1.size⟩

theorem step_ok (v : Variant) {s : St} (h : Inv s) (op : Op) (hl : legal v s op = true) :
    Ok (fun x => Inv x.2 ∧ x.2.buf.size = s.buf.size) (step v s op) := by
  have hb : Block s.buf.size s.buf := ⟨h.nul, rfl⟩
  cases op with
  | attr i =>
    simp only [step, legal] at hl ⊢
    cases hfi : s.frames[i]? with
    | none => exact ⟨_, rfl, h, rfl⟩
    | some f =>
      simp only [hfi, Bool.or_eq_true, Bool.not_eq_true'] at hl
      exact Ok.bind (nextAttr_ok v hb (h.fr i f hfi).1 hl) fun ⟨r, x⟩ hk => ⟨_, rfl, h.kept hfi hk⟩
  | child i =>
    simp only [step]
    cases hfi : s.frames[i]? with
    | none => exact ⟨_, rfl, h, rfl⟩
    | some f =>
      refine Ok.bind (findChild_ok i hb (h.fr i f hfi).1) fun ⟨r, b', c⟩ ⟨hb', hc⟩ => ?_
      cases c with
      | none => exact ⟨_, rfl, h.setBuf hb'.nul hb'.size, hb'.size⟩
      | some cf => exact ⟨_, rfl, h.push hb'.nul hb'.size (hc cf rfl).1 (hc cf rfl).2, hb'.size⟩
  | closeTag i =>
    simp only [step, legal] at hl ⊢
    cases hfi : s.frames[i]? with
    | none => exact ⟨_, rfl, h, rfl⟩
    | some f =>
      simp only [hfi, bne_iff_ne] at hl
      exact Ok.bind (closeTag_ok hb (h.fr i f hfi).1 ⟨(h.fr i f hfi).2, hl⟩) fun ⟨r, x⟩ hk => ⟨_, rfl, h.kept hfi hk⟩
  | closeChild i =>
    simp only [step, legal] at hl ⊢
    cases hfi : s.frames[i]? with
    | none => exact ⟨_, rfl, h, rfl⟩
    | some f =>
      simp only [hfi, Option.isSome_iff_exists] at hl
      obtain ⟨p, hp⟩ := hl
      simp only [hp]
      cases hpf : s.frames[p]? with
      | none => exact ⟨_, rfl, h, rfl⟩
      | some pf =>
        obtain ⟨hpf1, hpl⟩ := h.fr p pf hpf
        exact ⟨_, rfl, h.update (b' := s.buf) h.nul rfl p (f' := { pf with tagbuf := f.tagbuf, content := false })
          ⟨(h.fr i f hfi).1.tb, hpf1.ab, hpf1.tn, nofun⟩ hpl, rfl⟩
  | content i len =>
    simp only [step]
    cases hfi : s.frames[i]? with
    | none => exact ⟨_, rfl, h, rfl⟩
    | some f => exact Ok.bind (getContent_ok len hb (h.fr i f hfi).1) fun ⟨r, x⟩ hk => ⟨_, rfl, h.kept hfi hk.1⟩
  | closeContent i =>
    simp only [step, legal] at hl ⊢
    cases hfi : s.frames[i]? with
    | none => exact ⟨_, rfl, h, rfl⟩
    | some f =>
      simp only [hfi, Bool.or_eq_true] at hl
      exact Ok.bind (closeContent_ok hb (h.fr i f hfi).1 hl) fun x hk => ⟨_, rfl, h.kept hfi hk⟩

theorem run_ok (v : Variant) : ∀ (ops : List Op) (s : St), Inv s → legalRun v s ops = true →
    Ok (fun s' => Inv s' ∧ s'.buf.size = s.buf.size) (run v s ops) := by
  intro ops
  induction ops with
  | nil => intro s h _; exact ⟨s, rfl, h, rfl⟩
  | cons op ops ih =>
    intro s h hl
    simp only [legalRun, Bool.and_eq_true] at hl
    obtain ⟨⟨o, s'⟩, e, h', hs⟩ := step_ok v h op hl.1
    simp only [e] at hl
    obtain ⟨s'', e2, h2, hs2⟩ := ih s' h' hl.2
    exact ⟨s'', by simp only [run, e, ok_bind, e2], h2, by rw [hs2, hs]⟩


/-! ### distances array filling -/

theorem fillLoop_eq (cap : Nat) : ∀ (t : Toks) (nr : Nat), nr < cap →
    ∃ k, fillLoop cap nr t = (List.range' nr k, nr + k) ∧ nr + k ≤ cap
  | [], nr, h => ⟨0, rfl, by omega⟩
  | (_, sp) :: rest, nr, h => by
    rw [fillLoop]
    cases sp with
    | false => exact ⟨1, rfl, by omega⟩
    | true =>
      by_cases e : nr + 1 = cap
      · exact ⟨1, by simp only [Bool.not_true, Bool.false_eq_true, if_false, e, BEq.rfl, if_true, List.range'_one], by omega⟩
      · obtain ⟨k, ek, hk⟩ := fillLoop_eq cap rest (nr + 1) (by omega)
        exact ⟨k + 1, by simp only [Bool.not_true, Bool.false_eq_true, if_false, beq_iff_eq, e, ek, List.range'_succ, Prod.mk.injEq, true_and]; omega,
          by omega⟩

theorem fillAll_eq (cap : Nat) : ∀ (ts : List Toks) (nr : Nat) ws n, nr ≤ cap →
    fillAll cap nr ts = some (ws, n) → ∃ k, ws = List.range' nr k ∧ n = nr + k ∧ n ≤ cap
  | [], nr, ws, n, h, e => by
    cases e; exact ⟨0, rfl, rfl, h⟩
  | t :: rest, nr, ws, n, h, e => by
    simp only [fillAll, fillChild] at e
    by_cases g : nr ≥ cap
    · simp [g] at e
    · obtain ⟨k1, e1, h1⟩ := fillLoop_eq cap t nr (by omega)
      simp only [g, if_false, e1, Option.bind_eq_bind, Option.bind_some] at e
      cases hr : fillAll cap (nr + k1) rest with
      | none => simp [hr] at e
      | some r =>
        obtain ⟨k2, e2, e3, h2⟩ := fillAll_eq cap rest (nr + k1) r.1 r.2 h1 hr
        simp only [hr, Option.bind_some, Option.pure_def, Option.some.injEq, Prod.mk.injEq] at e
        exact ⟨k1 + k2, by rw [← e.1, e2, List.range'_append_1], by omega, by omega⟩

theorem fillAll_bounds (cap : Nat) (ts : List Toks) (nr : Nat) ws n (h : nr ≤ cap) (e : fillAll cap nr ts = some (ws, n)) :
    (∀ w ∈ ws, w < cap) ∧ n ≤ cap := by
  obtain ⟨k, rfl, rfl, hk⟩ := fillAll_eq cap ts nr ws n h e
  exact ⟨fun w hw => by have := List.mem_range'_1.1 hw; omega, hk⟩

/-! ### backend_init -/

theorem backendInit_ok (fixB : Bool) (src : Buf) (len : Int) (h : 1 ≤ len) :
    ∃ b, backendInit fixB src len = .ok (some b) ∧ HasNul b ∧ b.size = len.toNat := by
  have h1 : ¬ len < 0 := by omega
  have h2 : (len == 0) = false := by simp; omega
  have hsz : ((Array.range len.toNat).map (fun i => src.getD i 0)).size = len.toNat := by simp
  have hlt : len.toNat - 1 < ((Array.range len.toNat).map (fun i => src.getD i 0)).size := by rw [hsz]; omega
  refine ⟨_, by simp only [backendInit, h1, h2, if_false, wr_ok 0 hlt, ok_bind]; rfl, ?_, by simp⟩
  refine ⟨by simp; omega, ?_⟩
  rw [gt_set]; simp

theorem backendInit_zero_pinned (src : Buf) : backendInit false src 0 = .error .under := rfl


/-! ### F05e, exact: on the pinned source the overrun happens for EVERY member of the class -/

theorem rd_oob {b : Buf} {i : Nat} (h : ¬ i < b.size) : rd b i = .error (.oob i) := by
  simp [rd, h]

/-- the loop of the pinned source entered at the final NUL copies it and reads the byte behind the block -/
theorem unesc_pinned_last {b : Buf} (hn : HasNul b) (fuel : Nat) {w : Nat} (hw : w < b.size) :
    unesc pinned (fuel + 1) b w (b.size - 1) = .error (.oob b.size) := by
  have hr : b.size - 1 < b.size := Nat.sub_lt hn.pos Nat.one_pos
  have hoob : ¬ b.size < (b.set w 0 hw).size := by simp
  simp [unesc, rd_ok hr, hn.last, pinned, wr_ok _ hw, Nat.sub_add_cancel hn.pos, rd_oob hoob]

theorem nextAttr_pinned_f05e {b : Buf} {f : Frame} (hn : HasNul b) (hc : f05e b f = true) :
    nextAttr pinned b f = .error (.oob b.size) := by
  obtain ⟨a, p, e, hab, eh, hv⟩ := f05e_iff.1 hc
  have he : e < b.size := by have := hn.pos; omega
  have h1 := unesc_pinned_last (hn.set 0 he (Or.inr rfl)) (b.size - 1) (w := b.size - 1) (by simp; omega)
  rw [Array.size_set, Nat.sub_add_cancel hn.pos] at h1
  simp only [nextAttr, hab, eh, ok_bind, wr_ok 0 he, Array.size_set, hv, h1]
  rfl


/-! ### F05a, exact -/

theorem lookInit_pinned_f05a {b : Buf} (hc : f05a b = true) : lookInit pinned b = .error .null := by
  rw [lookInit_variant, hc]; rfl


/-! ### userdata base64 decoding: every write stays inside malloc(length+1) -/

theorem decWrites_bounds (targsize : Nat) : ∀ k state ti, ∀ w ∈ (decWrites targsize k state ti).1, w < targsize
  | 0, _, _ => nofun
  | k + 1, state, ti => by
    have ih := decWrites_bounds targsize k
    -- every turn of the decoder compares an index `g` with the size first and then stores at or below `g`
    have turn : ∀ {g : Nat} {r : List Nat × Bool}, (g < targsize → ∀ w ∈ r.1, w < targsize) →
        ∀ w ∈ (if g ≥ targsize then ([], false) else r).1, w < targsize := fun h =>
      ite_pred (fun r : List Nat × Bool => ∀ w ∈ r.1, w < targsize) (fun _ => nofun) fun g => h (Nat.lt_of_not_le g)
    unfold decWrites
    split
    · exact turn fun g => List.forall_mem_cons.2 ⟨g, ih 1 ti⟩
    · exact turn fun g => List.forall_mem_cons.2 ⟨by omega, List.forall_mem_cons.2 ⟨g, ih 2 (ti + 1)⟩⟩
    · exact turn fun g => List.forall_mem_cons.2 ⟨by omega, List.forall_mem_cons.2 ⟨g, ih 3 (ti + 1)⟩⟩
    · exact turn fun g => List.forall_mem_cons.2 ⟨g, ih 0 (ti + 1)⟩


/-! ### userdata importer (F05f, positive): get_content, then close_content, then close_tag -/

theorem userdataTail_ok {b : Buf} {f : Frame} (len : Nat) (hn : HasNul b) (hf : FrameOk b.size f) (hname : NameOk f) :
    ∃ r b' f', userdataTail b f len = .ok (r, b', f') ∧ HasNul b' ∧ b'.size = b.size ∧ FrameOk b.size f' := by
  suffices h : Ok (fun x => Kept b.size f x.2) (userdataTail b f len) from
    let ⟨⟨r, b', f'⟩, e, hb', hf', _⟩ := h; ⟨r, b', f', e, hb'.nul, hb'.size, hf'⟩
  rw [userdataTail]
  refine Ok.bind (getContent_ok len ⟨hn, rfl⟩ hf) fun x hx => ?_
  obtain ⟨r, b1, f1⟩ := x
  obtain ⟨⟨hb1, hf1, ht1⟩, hc1⟩ := hx
  refine ite_cases (fun _ => ⟨_, rfl, hb1, hf1, ht1⟩) fun hr => Ok.bind (closeContent_ok hb1 hf1 (hc1 hr)) fun x hx => ?_
  obtain ⟨b2, f2⟩ := x
  obtain ⟨hb2, hf2, ht2⟩ := hx
  have hname2 : NameOk f2 := by unfold NameOk at hname ⊢; rw [ht2, ht1]; exact hname
  obtain ⟨y, e, hy⟩ := closeTag_ok hb2 hf2 hname2
  exact ⟨y, e, hy.1, hy.2.1, hy.2.2.trans (ht2.trans ht1)⟩

end Hw.XmlScan
