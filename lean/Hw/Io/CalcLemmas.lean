import Hw.Io.Calc
import Hw.Bitmap.Combine
import Hw.Bitmap.Queries
import Hw.Topo.HelpersFirstLargest
import Hw.Topo.DistribLemmas
namespace Hw.Calc
open Hw Hw.Topo

/-! ### masks and bitmaps -/

theorem mem_ofMask (m i : Nat) : (ofMask m).mem i = m.testBit i := by
  unfold ofMask Bitmap.mem
  rw [Bitmap.readWord_build]
  by_cases h : i / 64 < m.log2 / 64 + 1
  · rw [if_pos h, BitVec.getLsbD_ofNat, Nat.testBit_shiftRight, Nat.div_add_mod, decide_eq_true (Nat.mod_lt i (by decide)),
      Bool.true_and]
  · rw [if_neg h]
    have hlt : m < 2 ^ i := Nat.lt_of_lt_of_le Nat.lt_log2_self (Nat.pow_le_pow_right (by omega) (by omega))
    rw [Nat.testBit_lt_two_pow hlt]
    simp
theorem words_testBit (ws : List Word) : ∀ i : Nat,
    (ws.foldr (fun (w : Word) (acc : Nat) => w.toNat + 2 ^ 64 * acc) 0).testBit i = ((ws[i / 64]?).map (fun (w : Word) => w.getLsbD (i % 64))).getD false := by
  induction ws with
  | nil => intro i; exact Nat.zero_testBit i
  | cons w r ih =>
    intro i
    rw [List.foldr_cons, Nat.add_comm, Nat.testBit_two_pow_mul_add _ w.isLt]
    by_cases h : i < 64
    · rw [if_pos h, BitVec.testBit_toNat, Nat.div_eq_of_lt h, Nat.mod_eq_of_lt h]
      rfl
    · obtain ⟨j, rfl⟩ : ∃ j, i = j + 64 := ⟨i - 64, (Nat.sub_add_cancel (Nat.le_of_not_lt h)).symm⟩
      rw [if_neg h, ih, Nat.add_sub_cancel, Nat.add_div_right _ (by decide), Nat.add_mod_right, List.getElem?_cons_succ]

theorem maskOf_testBit (b : Bitmap) (nw i : Nat) :
    (maskOf b nw).testBit i = (decide (i / 64 < max b.count nw) && b.mem i) := by
  unfold maskOf
  rw [words_testBit]
  by_cases h : i / 64 < max b.count nw
  · rw [List.getElem?_map, List.getElem?_range h]
    simp [h, Bitmap.mem]
  · have : (List.map b.readWord (List.range (max b.count nw)))[i / 64]? = none := by
      apply List.getElem?_eq_none
      simp; omega
    rw [this]
    simp [h]

theorem maskOf_testBit_fin {b : Bitmap} (hf : b.inf = false) (nw i : Nat) : (maskOf b nw).testBit i = b.mem i := by
  rw [maskOf_testBit]
  by_cases h : i / 64 < max b.count nw
  · simp [h]
  · have hc : b.count ≤ i / 64 := by omega
    unfold Bitmap.mem
    rw [Bitmap.readWord_ge b hc, hf]
    simp [h]

theorem mem_andnot_ofMask (b : Bitmap) (m j : Nat) : (b.andnot (ofMask m)).mem j = (b.mem j && !m.testBit j) := by
  rw [Bitmap.mem_andnot, mem_ofMask]

theorem andnot_inf (a b : Bitmap) : (a.andnot b).inf = (a.inf && !b.inf) := rfl
theorem ofMask_inf (m : Nat) : (ofMask m).inf = false := rfl

/-! ### accepted ranges -/

theorem strtolDigits_bound {neg : Bool} {orig : Bytes} {td : Nat × Nat × Bytes} {x : Int × Bool × Bytes}
    (h : strtolDigits neg orig td = some x) : -(2 : Int) ^ 31 < x.1 ∧ x.1 < 2 ^ 31 := by
  revert h
  fun_cases strtolDigits neg orig td <;> intro h <;> cases h
  · simp
  · dsimp only; split <;> omega

theorem strtolSuffix_bound {s : Bytes} {x : Int × Bool × Bytes} (h : strtolSuffix s = some x) :
    -(2 : Int) ^ 31 < x.1 ∧ x.1 < 2 ^ 31 := by
  revert h
  fun_cases strtolSuffix s <;> intro h
  · cases h; simp
  · cases h
  · exact strtolDigits_bound h

/-- an open-ended range (`amount = -1`) never has wrap-around: the C assertion `amount != -1 || !wrap` holds; the bound 2^31 on
    an explicit amount is reached by `0-2147483647` -/
theorem rangeTail_amount {first : Nat} {e : Bytes} {r : Range} (hf : first < 2 ^ 31) (h : rangeTail first e = .ok r) :
    r.first = first ∧ r.step = 1 ∧ ((r.amount = -1 ∧ r.wrap = false) ∨ (1 ≤ r.amount ∧ r.amount ≤ 2 ^ 31)) := by
  revert h
  fun_cases rangeTail first e <;> intro h <;> cases h
  · exact ⟨rfl, rfl, .inl ⟨rfl, rfl⟩⟩
  · rename_i x hx _ _ _
    have := strtolSuffix_bound hx
    exact ⟨rfl, rfl, .inr (by dsimp only; omega)⟩
  · rename_i x hx _ _ _
    have := strtolSuffix_bound hx
    exact ⟨rfl, rfl, .inr (by dsimp only; omega)⟩
  · exact ⟨rfl, rfl, .inr (by dsimp only; omega)⟩

theorem parseRange_amount {s : Bytes} {r : Range} (h : parseRange s = .ok r) :
    r.first < 2 ^ 31 ∧ 1 ≤ r.step ∧ r.step ≤ 2 ∧ ((r.amount = -1 ∧ r.wrap = false) ∨ (1 ≤ r.amount ∧ r.amount ≤ 2 ^ 31)) := by
  revert h
  fun_cases parseRange s <;> intro h
  case case7 =>
    unfold rangeOfDigits at h
    split at h
    · cases h
    · rename_i hlt
      obtain ⟨h1, h2, h3⟩ := rangeTail_amount (Nat.lt_of_not_ge hlt) h
      rw [h1, h2]
      exact ⟨Nat.lt_of_not_ge hlt, Nat.le_refl 1, by decide, h3⟩
  -- rejected, or a keyword with its constant range
  all_goals simp only [*, ↓reduceIte, reduceCtorEq, PR.ok.injEq] at h
  all_goals subst h
  all_goals decide

/-! ### the `--largest` loop -/

theorem largestLoop_spec (c : Ctx) (ht : Tree c.d) : ∀ (fuel : Nat) (rem : Bitmap) (acc objs : List Obj),
    largestLoop c fuel rem acc = (objs, true) →
      ∃ new, objs = acc ++ new ∧
        (∀ o ∈ new, o ∈ c.d.objs ∧ isNormal o.type = true ∧ ∀ i, (cs o).testBit i = true → rem.mem i = true) ∧
        (∀ i, rem.mem i = true → ∃ o ∈ new, (cs o).testBit i = true) := by
  intro fuel rem acc
  fun_induction largestLoop c fuel rem acc with
  | case1 rem acc => intro objs h; cases h
  | case2 f rem acc hz =>
    intro objs h; cases h
    refine ⟨[], (List.append_nil _).symm, (fun _ h => nomatch h), fun i hi => ?_⟩
    rw [(Bitmap.iszero_iff rem).mp hz i] at hi; cases hi
  | case3 f rem acc hz hf => intro objs h; cases h
  | case4 f rem acc hz o hf ih =>
    intro objs h
    obtain ⟨new, rfl, hin, hcov⟩ := ih _ h
    obtain ⟨ho, hn, hosub, _⟩ := ht.firstLargest_inside hf
    refine ⟨o :: new, by rw [List.append_assoc]; rfl, ?_, fun j hj => ?_⟩
    · intro x hx
      rcases List.mem_cons.1 hx with rfl | hx
      · refine ⟨ho, hn, fun j hj => ?_⟩
        have := subset_iff_bits.1 hosub j hj
        rw [Ctx.mask, maskOf_testBit] at this
        exact (Bool.and_eq_true _ _ ▸ this).2
      · obtain ⟨a, b, hxm⟩ := hin x hx
        exact ⟨a, b, fun j hj => (Bool.and_eq_true _ _ ▸ (mem_andnot_ofMask .. ▸ hxm j hj)).1⟩
    · cases hoj : (cs o).testBit j with
      | true => exact ⟨o, List.mem_cons_self, hoj⟩
      | false =>
        obtain ⟨x, hx, hxj⟩ := hcov j (by rw [mem_andnot_ofMask, hj, hoj]; rfl)
        exact ⟨x, List.mem_cons_of_mem _ hx, hxj⟩

theorem largestLoop_terminates (c : Ctx) (ht : Tree c.d) {r : Obj} (hr : c.d.rootObj? = some r) :
    ∀ (fuel : Nat) (rem : Bitmap) (acc : List Obj), rem.inf = false →
      (∀ i, rem.mem i = true → (cs r).testBit i = true) → weight (c.mask rem) < fuel →
      (largestLoop c fuel rem acc).2 = true := by
  intro fuel rem acc
  fun_induction largestLoop c fuel rem acc with
  | case1 rem acc => intro _ _ h; omega
  | case2 f rem acc hz => intro _ _ _; rfl
  | case3 f rem acc hz hf =>
    intro hfin hsub _
    obtain ⟨i, hi⟩ := Classical.not_forall.mp (mt (Bitmap.iszero_iff rem).mpr hz)
    rw [Bool.not_eq_false] at hi
    obtain ⟨o, hf'⟩ := firstLargest_some hr ((intersects_iff _ _).2 ⟨i, hsub i hi, (maskOf_testBit_fin hfin c.nw i).trans hi⟩)
    exact nomatch hf.symm.trans hf'
  | case4 f rem acc hz o hf ih =>
    intro hfin hsub hw
    obtain ⟨_, _, _, hoint⟩ := ht.firstLargest_inside hf
    have hfin' : (rem.andnot (ofMask (cs o))).inf = false := by rw [andnot_inf, hfin]; rfl
    have hmask' : c.mask (rem.andnot (ofMask (cs o))) = andnot (c.mask rem) (cs o) :=
      Nat.eq_of_testBit_eq fun j => by
        rw [Ctx.mask, maskOf_testBit_fin hfin', mem_andnot_ofMask, testBit_andnot, Ctx.mask, maskOf_testBit_fin hfin]
    exact ih hfin' (fun j hj => hsub j (Bool.and_eq_true _ _ ▸ (mem_andnot_ofMask .. ▸ hj)).1)
      (by rw [hmask']; have := weight_andnot_lt hoint; omega)
/-! ### the option loop of main() -/

/-- the outcome of the option loop as a function of the argument list alone (no topology, no option state):
    `fails` = `exit(EXIT_FAILURE)` (unknown option, option without its value, unknown / unsupported format name),
    `declines` = an option the model does not follow (--help, --version, --local-memory, …),
    `accepts` = the loop runs to the end.  Arguments that do not start with '-' are locations: the loop never fails on them
    (an invalid location is reported as "ignored unrecognized argument" and skipped). -/
inductive Scan | fails | declines | accepts
deriving Repr, DecidableEq

def optScan : List Bytes → Scan
  | [] => .accepts
  | a :: rest =>
    if a.head? == some 45 then
      if isOpt skipOpts a then .declines
      else if startsWith a (str "--no-smt=") then
        match atoiDigits (a.drop 9) with
        | some _ => optScan rest
        | none => .declines
      else if isOpt flagOpts a then optScan rest
      else if isOpt argOpts a then
        match rest with
        | [] => .fails
        | v :: rest' => if (stepArgOpt {} a v).isNone then .fails else optScan rest'
      else .fails
    else optScan rest

theorem isOpt_str {l : List String} {t : String} (h : t ∈ l) : isOpt l (str t) = true :=
  List.any_eq_true.mpr ⟨t, h, beq_self_eq_true _⟩

theorem ne_str_of_isOpt_false {l : List String} {a : Bytes} (h : isOpt l a = false) {t : String} (ht : t ∈ l) :
    (a == str t) = false := by
  cases hb : a == str t with
  | false => rfl
  | true => rw [eq_of_beq hb, isOpt_str ht] at h; cases h

theorem stepArgOpt_none_indep (s s' : St) (a v : Bytes) : (stepArgOpt s a v).isNone = (stepArgOpt s' a v).isNone := by
  fun_cases stepArgOpt s a v <;> simp [stepArgOpt, *]

theorem stepArgOpt_frame {s s' : St} {a v : Bytes} (h : stepArgOpt s a v = some s') :
    s'.cpuset = s.cpuset ∧ s'.nodeset = s.nodeset ∧ s'.nlocs = s.nlocs ∧ s'.verbose = s.verbose ∧ s'.outKnown = s.outKnown := by
  revert h
  fun_cases stepArgOpt s a v
  all_goals intro h; cases h
  all_goals exact ⟨rfl, rfl, rfl, rfl, rfl⟩

theorem stepFlag_frame (s : St) (a : Bytes) :
    (stepFlag s a).cpuset = s.cpuset ∧ (stepFlag s a).nodeset = s.nodeset ∧ (stepFlag s a).nlocs = s.nlocs ∧
      (stepFlag s a).outKnown = s.outKnown := by
  fun_cases stepFlag s a <;> exact ⟨rfl, rfl, rfl, rfl⟩

theorem stepFlag_verbose (s : St) {a : Bytes} (h1 : a ≠ str "-v") (h2 : a ≠ str "--verbose") :
    (stepFlag s a).verbose ≤ s.verbose := by
  fun_cases stepFlag s a
  · rename_i h; simp [h1, h2] at h
  · exact Int.sub_le_self _ (by decide)
  all_goals exact Int.le_refl _

theorem stepLoc_error {c : Ctx} {s : St} {a : Bytes} {e : Res} (h : stepLoc c s a = .error e) : e = .skip "location" := by
  unfold stepLoc at h
  cases hl : locSets c s.logicalI s.nodesetI s.cif (splitMode a).2 <;> simp only [hl] at h <;> cases h <;> rfl

theorem stepLoc_ok {c : Ctx} {s s' : St} {a : Bytes} (h : stepLoc c s a = .ok s') :
    (locSets c s.logicalI s.nodesetI s.cif (splitMode a).2 = .ignored ∧ s' = s) ∨
    ∃ cs ns, locSets c s.logicalI s.nodesetI s.cif (splitMode a).2 = .sets cs ns ∧
      s' = { s with cpuset := applyMode (splitMode a).1 s.cpuset cs, nodeset := applyMode (splitMode a).1 s.nodeset ns,
                    nlocs := s.nlocs + 1, outKnown := s.outKnown && decide (s.verbose ≤ 0) } := by
  unfold stepLoc at h
  cases hl : locSets c s.logicalI s.nodesetI s.cif (splitMode a).2 <;> simp only [hl] at h <;> cases h
  · exact Or.inr ⟨_, _, rfl, rfl⟩
  · exact Or.inl ⟨rfl, rfl⟩

/-- "no -v": the precondition under which nothing reaches stdout before the loop fails -/
def quietArgs (argv : List Bytes) : Prop := ∀ a ∈ argv, a ≠ str "-v" ∧ a ≠ str "--verbose"

/-- nothing unpredicted has reached stdout and no location will change that: kept by every step of the loop but `-v` -/
def Quiet (s : St) : Prop := s.verbose ≤ 0 ∧ s.outKnown = true

theorem stepFlag_quiet {s : St} {a : Bytes} (h : a ≠ str "-v" ∧ a ≠ str "--verbose") (hq : Quiet s) : Quiet (stepFlag s a) :=
  ⟨Int.le_trans (stepFlag_verbose s h.1 h.2) hq.1, (stepFlag_frame s a).2.2.2.trans hq.2⟩

theorem stepArgOpt_quiet {s s' : St} {a v : Bytes} (h : stepArgOpt s a v = some s') (hq : Quiet s) : Quiet s' := by
  obtain ⟨_, _, _, g1, g2⟩ := stepArgOpt_frame h
  exact ⟨g1 ▸ hq.1, g2.trans hq.2⟩

theorem stepLoc_quiet {c : Ctx} {s s' : St} {a : Bytes} (h : stepLoc c s a = .ok s') (hq : Quiet s) : Quiet s' := by
  rcases stepLoc_ok h with ⟨_, rfl⟩ | ⟨cs, ns, _, rfl⟩
  · exact hq
  · exact ⟨hq.1, by simp [hq.1, hq.2]⟩

/-- if the argument list makes the option loop fail, the model's loop ends in `exit 1` (or declines earlier because a location
    uses an unmodelled feature); `s'` is the option state at the point of failure -/
theorem argLoop_fails (c : Ctx) (s : St) (argv : List Bytes) : optScan argv = .fails →
    argLoop c s argv = .error (.skip "location") ∨
    (∃ s' : St, argLoop c s argv = .error (.exit 1 (if s'.outKnown then some [] else none)) ∧
      (quietArgs argv → Quiet s → s'.outKnown = true)) := by
  -- the cases of `argLoop`: 1 end of the list, 2 declined option, 3/4 `--no-smt=N`, 5 flag, 6–8 option with an argument,
  -- 9 unknown option, 10/11 location
  fun_induction argLoop c s argv with
  | case1 s => intro hs; cases hs
  | case2 s a rest hd hsk => intro hs; unfold optScan at hs; rw [if_pos hd, if_pos hsk] at hs; cases hs
  | case3 s a rest hd hsk hns k hk ih =>
    intro hs
    unfold optScan at hs
    rw [if_pos hd, if_neg hsk, if_pos hns, hk] at hs
    exact (ih hs).imp_right fun ⟨s', hs', hq⟩ => ⟨s', hs', fun q hQ => hq (List.forall_mem_cons.1 q).2 hQ⟩
  | case4 s a rest hd hsk hns hk =>
    intro hs; unfold optScan at hs; rw [if_pos hd, if_neg hsk, if_pos hns, hk] at hs; cases hs
  | case5 s a rest hd hsk hns hf ih =>
    intro hs
    unfold optScan at hs
    rw [if_pos hd, if_neg hsk, if_neg hns, if_pos hf] at hs
    exact (ih hs).imp_right fun ⟨s', hs', hq⟩ =>
      ⟨s', hs', fun q hQ => hq (List.forall_mem_cons.1 q).2 (stepFlag_quiet (List.forall_mem_cons.1 q).1 hQ)⟩
  | case6 s a hd hsk hns hf ha => intro _; exact Or.inr ⟨s, rfl, fun _ hQ => hQ.2⟩
  | case7 s a hd hsk hns hf ha v rest' hst => intro _; exact Or.inr ⟨s, rfl, fun _ hQ => hQ.2⟩
  | case8 s a hd hsk hns hf ha v rest' s1 hst ih =>
    intro hs
    unfold optScan at hs
    rw [if_pos hd, if_neg hsk, if_neg hns, if_neg hf, if_pos ha] at hs
    have hnn : (stepArgOpt {} a v).isNone = false := by rw [stepArgOpt_none_indep {} s, hst]; rfl
    simp only [hnn, Bool.false_eq_true, if_false] at hs
    exact (ih hs).imp_right fun ⟨s', hs', hq⟩ =>
      ⟨s', hs', fun q hQ => hq (List.forall_mem_cons.1 (List.forall_mem_cons.1 q).2).2 (stepArgOpt_quiet hst hQ)⟩
  | case9 s a rest hd hsk hns hf ha => intro _; exact Or.inr ⟨s, rfl, fun _ hQ => hQ.2⟩
  | case10 s a rest hd e he => intro _; rw [stepLoc_error he]; exact Or.inl rfl
  | case11 s a rest hd s1 hst ih =>
    intro hs
    unfold optScan at hs
    rw [if_neg hd] at hs
    exact (ih hs).imp_right fun ⟨s', hs', hq⟩ =>
      ⟨s', hs', fun q hQ => hq (List.forall_mem_cons.1 q).2 (stepLoc_quiet hst hQ)⟩

theorem calcMain_eq_go (d : Dump) {argv : List Bytes} (stdin : Bytes) (h : ∀ a, argv.head? = some a → isOpt topoOpts a = false) :
    calcMain d argv stdin = calcMain.go stdin (mkCtx d) argv := by
  unfold calcMain
  cases argv with
  | nil => rfl
  | cons a r => simp only [h a rfl, Bool.false_eq_true, if_false]

/-! ### hwloc-distrib -/

/-- inside the modelled domain (positive total weight, products below 2^32) the sets hwloc-distrib prints are those of C09
    `hwloc_distrib` over the objects of the `--from` level, so what C09 proves of them holds of the tool -/
theorem distribSets_eq (d : Dump) (s : DSt) (n : Nat) (fromD toD : Int) (htot : 0 < totWeight (levelObjs d fromD))
    (hsmall : n * totWeight (levelObjs d fromD) + totWeight (levelObjs d fromD) < 2 ^ 32) :
    distribSets d s n fromD toD = distrib d (levelObjs d fromD) n toD (if s.reverse then 1 else 0) := by
  unfold distribSets
  rw [if_neg (Nat.not_le.mpr hsmall), if_neg (Nat.ne_of_gt htot)]

end Hw.Calc
