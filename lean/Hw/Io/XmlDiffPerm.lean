/- Hw.Io.XmlDiffPerm — the attribute loop of hwloc__xml_import_diff_one does not depend on the ORDER of the attributes as long as no
   name is repeated (with a repeated name the last occurrence wins, which a permutation can change). -/
import Hw.Io.XmlDiffLemmas
namespace Hw.XmlDiff
open Hw Hw.Xml Hw.Diff

theorem eq_of_ite_some {α : Type} {c : Prop} [Decidable c] {a k : α} {r : Option α}
    (h : (if c then some a else r) = some k) : c ∧ a = k ∨ r = some k := by
  by_cases hc : c
  · rw [if_pos hc] at h; exact Or.inl ⟨hc, Option.some.inj h⟩
  · rw [if_neg hc] at h; exact Or.inr h

theorem attrKind_eq_some (n : Bytes) (k : AK) (h : attrKind n = some k) : n = k.name := by
  unfold attrKind at h
  obtain ⟨e, rfl⟩ | h := eq_of_ite_some h; exact e
  obtain ⟨e, rfl⟩ | h := eq_of_ite_some h; exact e
  obtain ⟨e, rfl⟩ | h := eq_of_ite_some h; exact e
  obtain ⟨e, rfl⟩ | h := eq_of_ite_some h; exact e
  obtain ⟨e, rfl⟩ | h := eq_of_ite_some h; exact e
  obtain ⟨e, rfl⟩ | h := eq_of_ite_some h; exact e
  obtain ⟨e, rfl⟩ | h := eq_of_ite_some h; exact e
  obtain ⟨e, rfl⟩ | h := eq_of_ite_some h; exact e
  cases h

theorem Slots.put_comm (s : Slots) (v w : Bytes) {k k' : AK} (h : k ≠ k') :
    (s.put v k).put w k' = (s.put w k').put v k := by
  simp only [Slots.put, Slots.upd_comm h]

theorem slotStep_comm (s : Slots) (a b : Bytes × Bytes) (hne : a.1 ≠ b.1) :
    (slotStep s a).bind (fun s' => slotStep s' b) = (slotStep s b).bind (fun s' => slotStep s' a) := by
  simp only [slotStep_eq]
  cases ha : attrKind a.1 with
  | none => cases attrKind b.1 <;> rfl
  | some ka =>
    cases hb : attrKind b.1 with
    | none => rfl
    | some kb =>
      have hk : ka ≠ kb := fun e => hne (by rw [attrKind_eq_some _ _ ha, attrKind_eq_some _ _ hb, e])
      simp only [Option.map_some, Option.bind_some, s.put_comm _ _ hk]

theorem slotsLoop_cons (s : Slots) (a : Bytes × Bytes) (r : AttrL) :
    slotsLoop s (a :: r) = (slotStep s a).bind (fun s' => slotsLoop s' r) := by
  simp only [slotsLoop]
  cases slotStep s a <;> rfl

theorem slotsLoop_perm {a b : AttrL} (hp : a.Perm b) : (a.map (·.1)).Nodup → ∀ s, slotsLoop s a = slotsLoop s b := by
  induction hp with
  | nil => intro _ s; rfl
  | cons x _ ih =>
    intro hn s
    simp only [List.map_cons, List.nodup_cons] at hn
    rw [slotsLoop_cons, slotsLoop_cons]
    cases slotStep s x with
    | none => rfl
    | some s' => exact ih hn.2 s'
  | swap x y l =>
    intro hn s
    simp only [List.map_cons, List.nodup_cons, List.mem_cons, not_or] at hn
    have hne : y.1 ≠ x.1 := hn.1.1
    have hc := slotStep_comm s y x hne
    simp only [slotsLoop_cons]
    rw [← Option.bind_assoc, ← Option.bind_assoc, hc]
  | trans h1 _ ih1 ih2 =>
    intro hn s
    have hn2 := (List.Perm.nodup_iff (h1.map (·.1))).1 hn
    rw [ih1 hn s, ih2 hn2 s]

theorem importOne_perm {a b : AttrL} (hp : a.Perm b) (hn : (a.map (·.1)).Nodup) : importOne a = importOne b := by
  unfold importOne
  rw [slotsLoop_perm hp hn]

end Hw.XmlDiff
