/- Hw.Io.TypeStr — model of the object-type string code of hwloc (C11):
   hwloc/traversal.c  hwloc_obj_type_string, hwloc__type_match, hwloc__osdev_type_sscanf,
   hwloc__osdev_types_sscanf, hwloc_type_sscanf, hwloc__osdev_type_snprintf_short/_normal,
   hwloc_obj_type_snprintf, hwloc_obj_attr_snprintf (+ private.h hwloc_memory_size_snprintf),
   hwloc/topology.c hwloc_compare_types, misc.h kind predicates.

   All tables / the match chain come from the GENERATED `Hw.Gen.TypeTables`; this file interprets them.
   Strings are byte lists (`List Nat`, every element < 256, no 0 inside); a C pointer into a string is the
   suffix it points to.  Pointer arithmetic that is not guarded by a NUL test in the C code goes through
   `ptrAdd`, which reports `oobS` when it would step beyond the terminating NUL; the pattern pointer of
   `hwloc__type_match` is a `TPos`, which reports `oobT` when it is dereferenced beyond the pattern's NUL.

   The cursor machine `emit` (snprintf into a caller buffer through the (tmp,tmplen,ret) triple) is a private
   copy (`Hw.TypeStr.emit`); C04 has its own in `Hw/Base/Snprintf.lean`. -/
import Hw.Gen.TypeTables
namespace Hw.TypeStr
open Hw.Gen.TypeTables

abbrev Bytes := List Nat

/-! ## results with out-of-bounds tracking -/

inductive R (α : Type) where
  | ok (a : α)
  | oobS            -- a read beyond the NUL of the input string
  | oobT            -- a read beyond the NUL of a pattern literal
  deriving Repr, DecidableEq

@[inline] def R.bind {α β : Type} : R α → (α → R β) → R β
  | .ok a, f => f a
  | .oobS, _ => .oobS
  | .oobT, _ => .oobT

instance : Monad R where
  pure := R.ok
  bind := R.bind

/-! ## bytes -/

def U32 : Nat := 4294967296
def u32m1 : Nat := 4294967295          -- (unsigned)-1
def longMax : Nat := 9223372036854775807

/-- value of a `char` promoted to `int` -/
def sval (c : Nat) : Int := if charSigned && decide (128 ≤ c) then (c : Int) - 256 else (c : Int)

def isAlphaDash (c : Nat) : Bool := (decide (97 ≤ c) && decide (c ≤ 122)) || (decide (65 ≤ c) && decide (c ≤ 90)) || c == 45
def isDigit (c : Nat) : Bool := decide (48 ≤ c) && decide (c ≤ 57)
def lower (c : Nat) : Nat := if 65 ≤ c ∧ c ≤ 90 then c + 32 else c

/-- `*p` for a pointer (suffix) into a NUL-terminated string -/
def hd (s : Bytes) : Nat := s.headD 0

/-- `p + k` where the C code does not test for NUL itself -/
def ptrAdd (s : Bytes) (k : Nat) : R Bytes := if k ≤ s.length then .ok (s.drop k) else .oobS

/-! ## decimal / hexadecimal rendering (printf %u %llu %d %x) -/

def decF : Nat → Nat → Bytes
  | 0, n => [48 + n % 10]
  | f + 1, n => if n < 10 then [48 + n] else decF f (n / 10) ++ [48 + n % 10]

/-- `%u` / `%llu` -/
def dec (n : Nat) : Bytes := decF n n

/-- `%d` -/
def decInt (i : Int) : Bytes := if i < 0 then 45 :: dec i.natAbs else dec i.toNat

def hexDigit (d : Nat) : Nat := if d < 10 then 48 + d else 87 + d

def hexF : Nat → Nat → Bytes
  | 0, n => [hexDigit (n % 16)]
  | f + 1, n => if n < 16 then [hexDigit n] else hexF f (n / 16) ++ [hexDigit (n % 16)]

/-- `%0<w>x` -/
def hexPad (w n : Nat) : Bytes :=
  let h := hexF n n
  List.replicate (w - h.length) 48 ++ h

/-- `strtol(p, &end, 10)` at a position holding digits only: accumulated value and `end` -/
def scanDigits : Bytes → Nat → Nat × Bytes
  | [], acc => (acc, [])
  | c :: r, acc => if isDigit c then scanDigits r (acc * 10 + (c - 48)) else (acc, c :: r)

/-- `(unsigned) strtol(...)`: saturation at LONG_MAX, then truncation to 32 bits -/
def strtolU32 (v : Nat) : Nat := (min v longMax) % U32

/-! ## hwloc__type_match -/

/-- the pattern pointer `t` -/
inductive TPos where
  | at (rest : Bytes)     -- points into the literal (or at its NUL when `rest = []`)
  | past                  -- points beyond the NUL
  deriving Repr, DecidableEq

def TPos.next : TPos → TPos
  | .at [] => .past
  | .at (_ :: r) => .at r
  | .past => .past

def TPos.read : TPos → Option Nat
  | .at [] => some 0
  | .at (c :: _) => some c
  | .past => none

inductive MRes where
  | fail                  -- NULL
  | stop (rest : Bytes)   -- pointer where matching stopped
  | oobT
  deriving Repr, DecidableEq

def typeMatchGo : Bytes → TPos → Nat → Nat → MRes
  | [], _, i, min => if i < min then .fail else .stop []
  | c :: s', t, i, min =>
    match t.read with
    | none => .oobT
    | some tc =>
      -- `if (!*t || (*s != *t && *s != *t + 'A' - 'a'))`  (the `!*t` test is fix 2710d74: before it, the byte
      -- 0xE0 = '\0' + 'A' - 'a' as a signed char "matched" the pattern's NUL and `t` ran past the literal)
      if tc = 0 ∨ (c ≠ tc ∧ sval c ≠ sval tc + 65 - 97) then
        if isAlphaDash c then .fail
        else if i < min then .fail else .stop (c :: s')
      else typeMatchGo s' t.next (i + 1) min

def typeMatch (s pat : Bytes) (min : Nat) : MRes := typeMatchGo s (.at pat) 0 min

/-- `a || b || ...` over type_match alternatives (short-circuit, in order) -/
def anyMatch : List (Bytes × Nat) → Bytes → R Bool
  | [], _ => .ok false
  | (p, m) :: r, s =>
    match typeMatch s p m with
    | .oobT => .oobT
    | .stop _ => .ok true
    | .fail => anyMatch r s

/-- first alternative that matches, with its end pointer -/
def firstMatch : List (Bytes × Nat) → Bytes → R (Option Bytes)
  | [], _ => .ok none
  | (p, m) :: r, s =>
    match typeMatch s p m with
    | .oobT => .oobT
    | .stop e => .ok (some e)
    | .fail => firstMatch r s

/-- `hwloc_strncasecmp(s, pat, n) == 0` (C locale) -/
def ciPrefix : Bytes → Bytes → Nat → Bool
  | _, _, 0 => true
  | s, pat, n + 1 =>
    if lower (hd s) ≠ lower (hd pat) then false
    else if hd s = 0 then true
    else ciPrefix s.tail pat.tail n

/-! ## OS-device type names -/

def osdevTypeSscanfIn : List (List (Bytes × Nat) × Nat) → Bytes → R (Option Nat)
  | [], _ => .ok none
  | (alts, bit) :: r, s =>
    match anyMatch alts s with
    | .ok true => .ok (some bit)
    | .ok false => osdevTypeSscanfIn r s
    | .oobS => .oobS
    | .oobT => .oobT

/-- hwloc__osdev_type_sscanf -/
def osdevTypeSscanf (s : Bytes) : R (Option Nat) := osdevTypeSscanfIn osdevSscanfChain s

/-- the pointers `next+1` for every ',' of the string, in order -/
def commaSuffixes : Bytes → List Bytes
  | [] => []
  | c :: r => if c = 44 then r :: commaSuffixes r else commaSuffixes r

def osdevTypesFold : List Bytes → Nat → R Nat
  | [], acc => .ok acc
  | s :: r, acc =>
    match osdevTypeSscanf s with
    | .ok (some b) => osdevTypesFold r (acc ||| b)
    | .ok none => osdevTypesFold r acc
    | .oobS => .oobS
    | .oobT => .oobT

/-- hwloc__osdev_types_sscanf (its return value is ignored by the only caller) -/
def osdevTypesSscanf (s : Bytes) : R Nat := osdevTypesFold (s :: commaSuffixes s) 0

/-! ## hwloc_type_sscanf -/

structure Parsed where
  type : Nat
  depth : Nat := u32m1
  ctype : Nat := u32m1
  ub : Nat := u32m1
  ostype : Nat := 0
  deriving Repr, DecidableEq

inductive StepRes where
  | next                  -- condition false: go to the next else-if
  | done (p : Parsed)
  | err                   -- return -1
  deriving Repr, DecidableEq

def inRange (lo hi d : Nat) : Bool := decide (lo ≤ d) && decide (d ≤ hi)

def evalStep (s : Bytes) : Step → R StepRes
  | .bracket pat n skip ty =>
    if ciPrefix s pat n then do
      let p ← ptrAdd s skip
      let w ← osdevTypesSscanf p
      pure (.done { type := ty, ostype := w })
    else pure .next
  | .osdevBare ty => do
    match ← osdevTypeSscanf s with
    | some b => pure (.done { type := ty, ostype := b })
    | none => pure .next
  | .plain alts ty ub => do
    if ← anyMatch alts s then
      pure (.done { type := ty, ub := match ub with | some u => u | none => u32m1 })
    else pure .next
  | .cache iLo iHi iBase iType dLo dHi dBase dType uType nType sufPat sufMin =>
    match s with
    | c0 :: c1 :: _ =>
      if (c0 = 108 ∨ c0 = 76) ∧ isDigit c1 then
        let (v, e) := scanDigits s.tail 0
        let d := strtolU32 v
        let ec := hd e
        let pick : Option (Nat × Nat × R Bytes) :=
          if ec = 105 ∨ ec = 73 then
            if inRange iLo iHi d then some (iBase + d - iLo, iType, ptrAdd e 1) else none
          else if inRange dLo dHi d then
            if ec = 100 ∨ ec = 68 then some (dBase + d - dLo, dType, ptrAdd e 1)
            else if ec = 117 ∨ ec = 85 then some (dBase + d - dLo, uType, ptrAdd e 1)
            else some (dBase + d - dLo, nType, .ok e)
          else none
        match pick with
        | none => pure .err
        | some (ty, ct, suf) => do
          let sf ← suf
          match typeMatch sf sufPat sufMin with
          | .oobT => .oobT
          | .fail => pure .err
          | .stop _ => pure (.done { type := ty, depth := d, ctype := ct })
      else pure .next
    | _ => pure .next
  | .group pat min ty =>
    match typeMatch s pat min with
    | .oobT => .oobT
    | .fail => pure .next
    | .stop e =>
      if isDigit (hd e) then pure (.done { type := ty, depth := strtolU32 (scanDigits e 0).1 })
      else pure (.done { type := ty })

def runChain (s : Bytes) : List Step → R (Option Parsed)
  | [] => .ok none
  | st :: r =>
    match evalStep s st with
    | .ok .next => runChain s r
    | .ok (.done p) => .ok (some p)
    | .ok .err => .ok none
    | .oobS => .oobS
    | .oobT => .oobT

/-- hwloc_type_sscanf up to (not including) the write-back; `ok none` is `return -1` -/
def typeSscanf (s : Bytes) : R (Option Parsed) := runChain s sscanfChain

def inKind (r : Option Nat × Nat) (t : Nat) : Bool :=
  (match r.1 with | some lo => decide (lo ≤ t) | none => true) && decide (t ≤ r.2)

def isNormal (t : Nat) : Bool := inKind range_normal t
def isMemory (t : Nat) : Bool := inKind range_memory t
def isSpecial (t : Nat) : Bool := inKind range_special t
def isIO (t : Nat) : Bool := inKind range_io t
def isCache (t : Nat) : Bool := inKind range_cache t
def isDCache (t : Nat) : Bool := inKind range_dcache t
def isICache (t : Nat) : Bool := inKind range_icache t
/-- Misc = special but not I/O -/
def isMisc (t : Nat) : Bool := isSpecial t && !isIO t

/-- what the write-back block stores through `attrp` -/
inductive Written where
  | nothing
  | cache (depth ctype : Nat)
  | group (depth : Nat)
  | bridge (up down : Nat)
  | osdev (types : Nat)
  deriving Repr, DecidableEq

/-- the attribute write-back of hwloc_type_sscanf; `attr = none` is `attrp == NULL` -/
def writeBack (p : Parsed) (attr : Option Nat) : Written :=
  match attr with
  | none => .nothing
  | some sz =>
    if isCache p.type && decide (sizeofCache ≤ sz) then .cache p.depth p.ctype
    else if p.type = wbGroup ∧ sizeofGroup ≤ sz then .group p.depth
    else if p.type = wbBridge ∧ sizeofBridge ≤ sz then .bridge p.ub wbDownstream
    else if p.type = wbOsdev ∧ sizeofOsdev ≤ sz then .osdev p.ostype
    else .nothing

/-! ## hwloc_obj_type_string / hwloc_compare_types -/

def lookup (tbl : List (Nat × Bytes)) (t : Nat) : Option Bytes :=
  match tbl with
  | [] => none
  | (k, v) :: r => if k = t then some v else lookup r t

def typeString (t : Nat) : Bytes := (lookup typeStringTable t).getD typeStringDefault

/-- hwloc_compare_types; `none` = HWLOC_TYPE_UNORDERED -/
def compareTypes (t1 t2 : Nat) : Option Int :=
  if !isNormal t1 && isNormal t2 && t2 != T_MACHINE then none
  else if !isNormal t2 && isNormal t1 && t1 != T_MACHINE then none
  else some ((objTypeOrder.getD t1 0 : Int) - (objTypeOrder.getD t2 0 : Int))

/-! ## objects -/

structure Obj where
  type : Nat
  depth : Nat := 0          -- cache.depth / group.depth (unsigned)
  ctype : Nat := 0          -- cache.type
  csize : Nat := 0          -- cache.size
  linesize : Nat := 0
  assoc : Int := 0
  total : Nat := 0          -- total_memory
  localMem : Nat := 0       -- numanode.local_memory
  upstream : Nat := 0       -- bridge.upstream_type
  pdomain : Nat := 0
  pbus : Nat := 0
  pdev : Nat := 0
  pfunc : Nat := 0
  vendor : Nat := 0
  device : Nat := 0
  classId : Nat := 0
  link : Option Bytes := none   -- `%.2f` rendering of a non-zero linkspeed (opaque token)
  className : Bytes := []       -- hwloc_pci_class_string(class_id) (opaque token)
  ddomain : Nat := 0
  secBus : Nat := 0
  subBus : Nat := 0
  ostypes : Nat := 0
  infos : List (Bytes × Bytes) := []
  deriving Repr, DecidableEq

def isLong (flags : Nat) : Bool := flags &&& (FLAG_OLD_VERBOSE ||| FLAG_LONG_NAMES) != 0
def isShort (flags : Nat) : Bool := flags &&& FLAG_SHORT_NAMES != 0
def isVerbose (flags : Nat) : Bool := flags &&& (FLAG_OLD_VERBOSE ||| FLAG_MORE_ATTRS) != 0

def sOSDev : Bytes := [79, 83, 68, 101, 118]
def sOS : Bytes := [79, 83]
def sCache : Bytes := [67, 97, 99, 104, 101]
def sUnknownLetter : Bytes := [117, 110, 107, 110, 111, 119, 110]
def sPCIBridge : Bytes := [80, 67, 73, 66, 114, 105, 100, 103, 101]
def sHostBridge : Bytes := [72, 111, 115, 116, 66, 114, 105, 100, 103, 101]
def sPCI : Bytes := [80, 67, 73]

def cacheLetter (ct : Nat) : Bytes :=
  if ct = CACHE_UNIFIED then [] else if ct = CACHE_DATA then [100] else if ct = CACHE_INSTRUCTION then [105]
  else sUnknownLetter

/-- hwloc__osdev_type_snprintf_short: one chunk -/
def osdevShort : List (Nat × Bytes × Bytes) → Nat → Bool → Bytes
  | [], _, long => if long then sOSDev else sOS
  | (bit, sn, ln) :: r, w, long => if w &&& bit ≠ 0 then (if long then ln else sn) else osdevShort r w long

/-- one `for` pass of hwloc__osdev_type_snprintf_normal over names[]: (ostype, prefix-is-comma, chunks) -/
def osdevPass : List (Nat × Bytes × Bytes) → Bool → Nat × Bool × List Bytes → Nat × Bool × List Bytes
  | [], _, st => st
  | (bit, sn, ln) :: r, long, (w, comma, acc) =>
    if w &&& bit ≠ 0 then
      osdevPass r long (w ^^^ (w &&& bit), true, acc ++ [(if comma then 44 else 91) :: (if long then ln else sn)])
    else osdevPass r long (w, comma, acc)

/-- hwloc__osdev_type_snprintf_normal as the list of chunks passed to hwloc_snprintf: `if (ostype)` + ONE pass over
    names[]; bits that are in no names[] entry are ignored (fix 56af888).  On the pinned tree this was
    `while (ostype)`, which never terminated for a word with a bit >= 7 (F06).  The result stays an `Option`
    (`none` = does not terminate) so that termination remains a stated theorem; it is always `some`. -/
def osdevNormal (w : Nat) (long : Bool) : Option (List Bytes) :=
  let st := osdevPass osdevNames long (w, false, [])
  some ([if long then sOSDev else sOS] ++ st.2.2 ++ (if st.2.1 then [[93]] else []))

/-- hwloc_obj_type_snprintf as a chunk list, over the fields it reads (type, cache/group depth, cache type,
    bridge upstream type, OS-device type word); `none` = does not terminate -/
def typeChunksK (t d ct up w : Nat) (long short : Bool) : Option (List Bytes) :=
  if t = T_MISC ∨ t = T_MACHINE ∨ t = T_NUMANODE ∨ t = T_MEMCACHE ∨ t = T_PACKAGE ∨ t = T_DIE ∨ t = T_CORE ∨ t = T_PU then
    some [typeString t]
  else if t = T_L1CACHE ∨ t = T_L2CACHE ∨ t = T_L3CACHE ∨ t = T_L4CACHE ∨ t = T_L5CACHE
       ∨ t = T_L1ICACHE ∨ t = T_L2ICACHE ∨ t = T_L3ICACHE then
    some [[76] ++ dec d ++ cacheLetter ct ++ (if long then sCache else [])]
  else if t = T_GROUP then
    if d ≠ u32m1 then some [typeString t ++ dec d] else some [typeString t]
  else if t = T_BRIDGE then
    some [if up = BRIDGE_PCI then sPCIBridge else sHostBridge]
  else if t = T_PCI_DEVICE then some [sPCI]
  else if t = T_OS_DEVICE then
    if short then some [osdevShort osdevNames w long] else osdevNormal w long
  else some [[]]      -- default: `*string = '\0'`, return 0

def typeChunks (o : Obj) (long short : Bool) : Option (List Bytes) :=
  typeChunksK o.type o.depth o.ctype o.upstream o.ostypes long short

/-- the text hwloc_obj_type_snprintf produces in a large enough buffer -/
def typeText (o : Obj) (flags : Nat) : Option Bytes :=
  (typeChunks o (isLong flags) (isShort flags)).map List.flatten

/-! ## the cursor machine -/

/-- caller buffer of `size` cells; `none` = never written.  `oob` records a write at an index ≥ size. -/
structure Cur where
  size : Nat
  buf : Nat → Option Nat
  pos : Nat          -- tmp - string
  len : Nat          -- tmplen
  ret : Nat
  oob : Bool

inductive Chunk where
  | cur (b : Bytes)     -- hwloc_snprintf(tmp, tmplen, ...)
  | start (b : Bytes)   -- hwloc_snprintf(string, size, ...)   (the Bridge/PCI branch of attr_snprintf)

def Chunk.bytes : Chunk → Bytes
  | .cur b => b
  | .start b => b

/-- C `snprintf(buf + p, n, "%s", chunk)` -/
def snprintfAt (size : Nat) (buf : Nat → Option Nat) (p n : Nat) (chunk : Bytes) : (Nat → Option Nat) × Bool :=
  if n = 0 then (buf, false)
  else
    let k := min chunk.length (n - 1)
    (fun i => if p ≤ i ∧ i < p + k then some (chunk.getD (i - p) 0) else if i = p + k then some 0 else buf i,
     decide (size ≤ p + k))

/-- `if (res >= tmplen) res = tmplen>0 ? tmplen-1 : 0;` -/
def advOf (len res : Nat) : Nat := if len ≤ res then (if 0 < len then len - 1 else 0) else res

def emit1 (c : Cur) (ch : Chunk) : Cur :=
  let r := match ch with
    | .cur b => snprintfAt c.size c.buf c.pos c.len b
    | .start b => snprintfAt c.size c.buf 0 c.size b
  let adv := advOf c.len ch.bytes.length
  { c with buf := r.1, pos := c.pos + adv, len := c.len - adv, ret := c.ret + ch.bytes.length, oob := c.oob || r.2 }

def Cur.init (size : Nat) : Cur := { size := size, buf := fun _ => none, pos := 0, len := size, ret := 0, oob := false }

def emit (size : Nat) (chunks : List Chunk) : Cur := chunks.foldl emit1 (Cur.init size)

/-- hwloc_obj_type_snprintf(string, size, obj, flags) -/
def typeSnprintf (o : Obj) (flags size : Nat) : Option Cur :=
  (typeChunks o (isLong flags) (isShort flags)).map (fun cs => emit size (cs.map Chunk.cur))

/-! ## hwloc_obj_attr_snprintf -/

def sKB : Bytes := [75, 66]
def unit (c : Nat) (bin : Bool) : Bytes := if bin then [c, 105, 66] else [c, 66]

/-- hwloc_memory_size_snprintf (never truncated: at most 23 bytes in a 25-byte buffer) -/
def memSize (size flags : Nat) : Bytes :=
  if flags &&& FLAG_NO_UNITS ≠ 0 then dec size
  else if flags &&& FLAG_OLD_VERBOSE ≠ 0 then dec (((size >>> 9) + 1) >>> 1) ++ sKB
  else if flags &&& FLAG_UNITS_1000 ≠ 0 then
    if size < 10000000 then dec ((size / 500 + 1) / 2) ++ unit 75 false
    else if size < 10000000000 then dec ((size / 500000 + 1) / 2) ++ unit 77 false
    else if size < 10000000000000 then dec ((size / 500000000 + 1) / 2) ++ unit 71 false
    else dec ((size / 500000000000 + 1) / 2) ++ unit 84 false
  else
    if size < 10 <<< 20 then dec (((size >>> 9) + 1) >>> 1) ++ unit 75 true
    else if size < 10 <<< 30 then dec (((size >>> 19) + 1) >>> 1) ++ unit 77 true
    else if size < 10 <<< 40 then dec (((size >>> 29) + 1) >>> 1) ++ unit 71 true
    else dec (((size >>> 39) + 1) >>> 1) ++ unit 84 true

/-- snprintf into a local array of `cap` bytes -/
def trunc (cap : Nat) (b : Bytes) : Bytes := b.take (cap - 1)

def str (s : String) : Bytes := s.toList.map Char.toNat

def pciText (o : Obj) (sep : Bytes) : Bytes :=
  let linkspeed : Bytes := match o.link with
    | none => []
    | some tok => trunc 64 (sep ++ str "link=" ++ tok ++ str "GB/s")
  str "busid=" ++ hexPad 4 o.pdomain ++ [58] ++ hexPad 2 o.pbus ++ [58] ++ hexPad 2 o.pdev ++ [46] ++ hexPad 1 o.pfunc
    ++ sep ++ str "id=" ++ hexPad 4 o.vendor ++ [58] ++ hexPad 4 o.device
    ++ sep ++ str "class=" ++ hexPad 4 o.classId ++ [40] ++ o.className ++ [41] ++ linkspeed

/-- memory attributes (the prefix is still "") : at most one call -/
def attrC1 (o : Obj) (sep : Bytes) (flags : Nat) : List Bytes :=
  let isNuma := o.type = T_NUMANODE ∧ o.localMem ≠ 0
  let totalS := memSize o.total flags
  let localS := memSize o.localMem flags
  if isVerbose flags then
    if isNuma then [str "local=" ++ localS ++ sep ++ str "total=" ++ totalS]
    else if o.total ≠ 0 then [str "total=" ++ totalS] else []
  else if isNuma then [localS] else []

def cacheAttrText (o : Obj) (sep : Bytes) (flags : Nat) (pre : Bytes) : Bytes :=
  let cs := memSize o.csize flags
  if isVerbose flags then
    let assoc : Bytes :=
      if o.assoc = -1 then trunc 32 (sep ++ str "fully-associative")
      else if o.assoc = 0 then []
      else trunc 32 (sep ++ str "ways=" ++ decInt o.assoc)
    pre ++ str "size=" ++ cs ++ sep ++ str "linesize=" ++ dec o.linesize ++ assoc
  else pre ++ cs

def bridgeAttrText (o : Obj) (sep : Bytes) : Bytes :=
  let up : Bytes := if o.upstream = BRIDGE_PCI then trunc 128 (pciText o sep) else []
  let down : Bytes := trunc 64 (str "buses=" ++ hexPad 4 o.ddomain ++ [58, 91] ++ hexPad 2 o.secBus ++ [45] ++ hexPad 2 o.subBus ++ [93])
  if up ≠ [] then up ++ sep ++ down else down

/-- type-specific attributes: at most one call; Bridge and PCI print at (string, size) -/
def attrC2 (o : Obj) (sep : Bytes) (flags : Nat) (pre : Bytes) : List Chunk :=
  if isCache o.type ∨ o.type = T_MEMCACHE then [.cur (cacheAttrText o sep flags pre)]
  else if o.type = T_BRIDGE then
    if isVerbose flags then [.start (bridgeAttrText o sep)] else []
  else if o.type = T_PCI_DEVICE then
    if isVerbose flags then [.start (pciText o sep)] else []
  else []

/-- info pairs (verbose only): one call each -/
def attrC3 (o : Obj) (sep : Bytes) (flags : Nat) (pre : Bytes) : List Bytes :=
  if isVerbose flags then
    match o.infos with
    | [] => []
    | (n, v) :: rest =>
      let one (pre : Bytes) (n v : Bytes) : Bytes :=
        let q : Bytes := if v.contains 32 then [34] else []
        pre ++ n ++ [61] ++ q ++ v ++ q
      one pre n v :: rest.map (fun nv => one sep nv.1 nv.2)
  else []

def lens (l : List Bytes) : Nat := (l.map List.length).sum

/-- the chunks of hwloc_obj_attr_snprintf in call order (calls that are skipped contribute nothing);
    the leading empty chunk is `if (size) *string = '\0'`; `prefix` becomes the separator once `ret > 0` -/
def attrChunks (o : Obj) (sep : Bytes) (flags : Nat) : List Chunk :=
  let c1 := attrC1 o sep flags
  let c2 := attrC2 o sep flags (if lens c1 > 0 then sep else [])
  let c3 := attrC3 o sep flags (if lens c1 + lens (c2.map Chunk.bytes) > 0 then sep else [])
  [Chunk.cur []] ++ c1.map Chunk.cur ++ c2 ++ c3.map Chunk.cur

/-- hwloc_obj_attr_snprintf(string, size, obj, separator, flags) -/
def attrSnprintf (o : Obj) (sep : Bytes) (flags size : Nat) : Cur := emit size (attrChunks o sep flags)

/-! ## the round-trip oracle of the property -/

/-- do the attributes parsed back equal those of the object?  (what C11 demands of a round trip) -/
def attrsAgree (o : Obj) (p : Parsed) : Bool :=
  p.type == o.type &&
  (if isCache o.type then p.depth == o.depth && p.ctype == o.ctype
   else if o.type = T_GROUP then p.depth == o.depth
   else if o.type = T_BRIDGE then p.ub == o.upstream
   else if o.type = T_OS_DEVICE then p.ostype == o.ostypes
   else true)


/-- what a caller passing a full-size attribute union must find after parsing the text of `o` -/
def expectedWritten (t d ct up w : Nat) : Written :=
  if isCache t then .cache d ct
  else if t = T_GROUP then .group d
  else if t = T_BRIDGE then .bridge up BRIDGE_PCI
  else if t = T_OS_DEVICE then .osdev w
  else .nothing

/-- round trip of one key without SHORT_NAMES: the printed text is accepted, gives the same type and,
    through a full-size attribute union, the same attributes -/
def rtCheckK (t d ct up w : Nat) (long : Bool) : Bool :=
  match typeChunksK t d ct up w long false with
  | none => false
  | some cs =>
    match typeSscanf cs.flatten with
    | .ok (some p) => p.type == t && writeBack p (some sizeofAttr) == expectedWritten t d ct up w
    | _ => false

end Hw.TypeStr
