import Hw.Io.LinuxNum
import Hw.Base.NumLemmas
import Hw.Io.LinuxParseList
namespace Hw.LinuxNum
open Hw Hw.LinuxParse

/-! ### hwloc_read_path_by_length -/

theorem readBytes_length (n : Nat) (c : List Byte) : (readBytes n c).length ≤ n - 1 := by
  unfold readBytes; rw [List.length_take]; exact Nat.min_le_left _ _

theorem readByLength_some (n : Nat) (c b : List Byte) (h : readByLength n c = some b) :
    b = c.take (n - 1) ∧ 0 < b.length ∧ b.length < n := by
  unfold readByLength at h
  split at h
  · cases h
  · rename_i hne
    have hb : b = readBytes n c := by injection h with h; exact h.symm
    subst hb
    have hl := readBytes_length n c
    have hp : 0 < (readBytes n c).length := List.length_pos_iff.mpr hne
    exact ⟨rfl, hp, by omega⟩

theorem readByLength_of_ne_nil (n : Nat) (hn : 2 ≤ n) (c : List Byte) (hc : c ≠ []) :
    readByLength n c = some (c.take (n - 1)) := by
  unfold readByLength readBytes
  rw [if_neg]
  exact fun h => (List.take_eq_nil_iff.mp h).elim (by omega) hc

theorem readByLength_prefix (n : Nat) (c c' : List Byte) (h : c.take (n - 1) = c'.take (n - 1)) :
    readByLength n c = readByLength n c' := by
  unfold readByLength readBytes; rw [h]

theorem readPath_prefix (n : Nat) (c c' : List Byte) (h : c.take (n - 1) = c'.take (n - 1)) :
    readPath n (some c) = readPath n (some c') := by
  unfold readPath; exact readByLength_prefix n c c' h

theorem readPath_some (n : Nat) (f : Option (List Byte)) (b : List Byte) (h : readPath n f = some b) :
    ∃ c, f = some c ∧ b = c.take (n - 1) ∧ 0 < b.length ∧ b.length < n := by
  cases f with
  | none => cases h
  | some c => exact ⟨c, rfl, readByLength_some n c b h⟩

/-! ### decimal digits -/

def decVal (ds : List Byte) : Nat := ds.foldl (fun a c => a * 10 + (c - 48)) 0

def NoDecHead (s : List Byte) : Prop := ∀ c cs, s = c :: cs → ¬ IsDecChar c

theorem noDecHead_nil : NoDecHead [] := by intro c cs h; cases h

theorem noDecHead_cons (c : Byte) (cs : List Byte) (h : ¬ IsDecChar c) : NoDecHead (c :: cs) := by
  intro c' cs' e; injection e with e1 _; subst e1; exact h

theorem takeDigits10_stop (rest : List Byte) (h : NoDecHead rest) (a k : Nat) :
    takeDigits 10 rest a k = (a, k, rest) := by
  cases rest with
  | nil => rfl
  | cons c cs => exact takeDigits10_nodec c cs a k (h c cs rfl)

theorem takeDigits10_decs (ds : List Byte) (hds : ∀ c ∈ ds, IsDecChar c) (rest : List Byte) (hr : NoDecHead rest) :
    ∀ a k, takeDigits 10 (ds ++ rest) a k = (ds.foldl (fun a c => a * 10 + (c - 48)) a, k + ds.length, rest) := by
  induction ds with
  | nil => intro a k; rw [List.nil_append, takeDigits10_stop rest hr]; rfl
  | cons d ds ih =>
    intro a k
    rw [List.cons_append, takeDigits10_dec d _ a k (hds d List.mem_cons_self),
      ih (fun c hc => hds c (List.mem_cons_of_mem _ hc)), List.foldl_cons, List.length_cons, Nat.add_assoc, Nat.add_comm 1]

theorem numBody10 (s : List Byte) : numBody 10 s = takeDigits 10 s 0 0 := by
  cases s with
  | nil => rfl
  | cons c cs => rw [numBody_eq, strtoBody, strtoBase_plain 10 c cs fun _ h => by omega]; rfl

theorem numBody10_decs (ds : List Byte) (hds : ∀ c ∈ ds, IsDecChar c) (rest : List Byte) (hr : NoDecHead rest) :
    numBody 10 (ds ++ rest) = (decVal ds, ds.length, rest) := by
  rw [numBody10, takeDigits10_decs ds hds rest hr, Nat.zero_add]; rfl

theorem decs_head (ds : List Byte) (hne : ds ≠ []) (hds : ∀ c ∈ ds, IsDecChar c) (rest : List Byte) :
    (ds ++ rest).dropWhile isSpace = ds ++ rest ∧ (∀ t, ds ++ rest ≠ 43 :: t) ∧ (∀ t, ds ++ rest ≠ 45 :: t) := by
  cases ds with
  | nil => exact absurd rfl hne
  | cons d ds' =>
    have hd := hds d List.mem_cons_self
    refine ⟨by rw [List.cons_append, List.dropWhile_cons, isSpace_hex d (Or.inl hd)]; rfl, ?_, ?_⟩ <;>
      (intro t e; injection e with e1 _; unfold IsDecChar at hd; unfold Byte at *; omega)

theorem scanNum10_decs (ds : List Byte) (hne : ds ≠ []) (hds : ∀ c ∈ ds, IsDecChar c) (rest : List Byte)
    (hr : NoDecHead rest) : scanNum 10 (ds ++ rest) = some (min (decVal ds) ulongMax, rest) := by
  obtain ⟨h1, h2, h3⟩ := decs_head ds hne hds rest
  have hl : ¬ ds.length = 0 := fun h => hne (List.eq_nil_of_length_eq_zero h)
  rw [scanNum_nosign 10 _ _ h1 h2 h3, numBody10_decs ds hds rest hr, if_neg hl]
  simp only [signedVal, Bool.false_eq_true, if_false]
  congr 2
  split <;> omega

theorem strtoulS10_decs (ds : List Byte) (hne : ds ≠ []) (hds : ∀ c ∈ ds, IsDecChar c) (rest : List Byte)
    (hr : NoDecHead rest) : strtoulS 10 (ds ++ rest) = (min (decVal ds) ulongMax, rest) := by
  rw [strtoulS, scanNum10_decs ds hne hds rest hr]

theorem splitSign_nosign (s s1 : List Byte) (hs : s.dropWhile isSpace = s1)
    (h43 : ∀ t, s1 ≠ 43 :: t) (h45 : ∀ t, s1 ≠ 45 :: t) : splitSign s = (false, s1) := by
  unfold splitSign
  simp only [hs]

theorem strtolVal10_decs (ds : List Byte) (hne : ds ≠ []) (hds : ∀ c ∈ ds, IsDecChar c) (rest : List Byte)
    (hr : NoDecHead rest) : strtolVal 10 (ds ++ rest) = ((min (decVal ds) (2^63 - 1) : Nat) : Int) := by
  obtain ⟨h1, h2, h3⟩ := decs_head ds hne hds rest
  unfold strtolVal
  rw [splitSign_nosign _ _ h1 h2 h3]
  simp only []
  rw [numBody10_decs ds hds rest hr]
  simp only []
  rw [if_neg (fun h => hne (List.eq_nil_of_length_eq_zero h))]
  simp only [Bool.false_eq_true, if_false]
  split
  · rename_i h; rw [Nat.min_eq_right (by omega)]; omega
  · rename_i h; rw [Nat.min_eq_left (by omega)]

theorem dropWhile_spaces (k : Nat) (l : List Byte) :
    (List.replicate k 32 ++ l).dropWhile isSpace = l.dropWhile isSpace :=
  List.dropWhile_append_of_pos (fun c hc => by rw [(List.mem_replicate.mp hc).2]; rfl)

theorem scanNum_spaces (base k : Nat) (l : List Byte) : scanNum base (List.replicate k 32 ++ l) = scanNum base l := by
  unfold scanNum
  rw [dropWhile_spaces]

theorem strtoulS10_spaces_decs (k : Nat) (ds : List Byte) (hne : ds ≠ []) (hds : ∀ c ∈ ds, IsDecChar c) (rest : List Byte)
    (hr : NoDecHead rest) : (strtoulS 10 (List.replicate k 32 ++ (ds ++ rest))).1 = min (decVal ds) ulongMax := by
  unfold strtoulS
  rw [scanNum_spaces, scanNum10_decs ds hne hds rest hr]

theorem wrapInt32_range (x : Int) : -(2^31 : Int) ≤ wrapInt32 x ∧ wrapInt32 x < 2^31 := by
  unfold wrapInt32
  simp only []
  have h1 : 0 ≤ x % 2^32 := Int.emod_nonneg _ (by decide)
  have h2 : x % 2^32 < 2^32 := Int.emod_lt_of_pos _ (by decide)
  split <;> omega

/-! ### what is left of a `digits ++ rest` file in an `n`-byte buffer -/

theorem noDecHead_cstr_take (rest : List Byte) (h : NoDecHead rest) (k : Nat) : NoDecHead (cstr (rest.take k)) := by
  cases rest with
  | nil => simp [cstr, noDecHead_nil]
  | cons c cs =>
    cases k with
    | zero => simp [cstr, noDecHead_nil]
    | succ k =>
      rw [List.take_succ_cons]
      unfold cstr
      rw [List.takeWhile_cons]
      split
      · exact noDecHead_cons _ _ (h c cs rfl)
      · exact noDecHead_nil

theorem dec_ne_zero (ds : List Byte) (hds : ∀ c ∈ ds, IsDecChar c) : ∀ c ∈ ds, c ≠ 0 := by
  intro c hc; have := hds c hc; unfold IsDecChar at this; unfold Byte at *; omega

theorem readPath_digits (n : Nat) (hn : 2 ≤ n) (ds rest : List Byte) (hne : ds ≠ []) (hds : ∀ c ∈ ds, IsDecChar c)
    (hr : NoDecHead rest) :
    ∃ b rest', readPath n (some (ds ++ rest)) = some b ∧ cstr b = ds.take (n - 1) ++ rest' ∧ NoDecHead rest' ∧
      ds.take (n - 1) ≠ [] ∧ ∀ c ∈ ds.take (n - 1), IsDecChar c := by
  have hne' : ds.take (n - 1) ≠ [] := fun h => (List.take_eq_nil_iff.mp h).elim (by omega) hne
  have hds' : ∀ c ∈ ds.take (n - 1), IsDecChar c := fun c hc => hds c (List.mem_of_mem_take hc)
  refine ⟨(ds ++ rest).take (n - 1), cstr (rest.take (n - 1 - ds.length)), ?_, ?_, noDecHead_cstr_take rest hr _, hne', hds'⟩
  · exact readByLength_of_ne_nil n hn _ (fun h => hne (List.append_eq_nil_iff.mp h).1)
  · rw [List.take_append, cstr_append_nonzero _ _ (dec_ne_zero _ hds')]

/-! ### strstr -/

def FirstOcc (pat s : List Byte) (i : Nat) : Prop :=
  pat <+: s.drop i ∧ i + pat.length ≤ s.length ∧ ∀ j, j < i → ¬ pat <+: s.drop j

theorem FirstOcc.zero {pat s : List Byte} (h : pat <+: s) : FirstOcc pat s 0 :=
  ⟨h, by simpa using h.length_le, fun _ hj => nomatch hj⟩

theorem FirstOcc.succ {pat cs : List Byte} {c : Byte} {i : Nat} (hn : ¬ pat <+: c :: cs) (h : FirstOcc pat cs i) :
    FirstOcc pat (c :: cs) (i + 1) :=
  ⟨h.1, by have := h.2.1; simp only [List.length_cons]; omega, fun j hj => by
    cases j with
    | zero => exact hn
    | succ j => exact h.2.2 j (Nat.lt_of_succ_lt_succ hj)⟩

theorem findSub_some (pat : List Byte) : ∀ (s : List Byte) (i : Nat), findSub pat s = some i → FirstOcc pat s i
  | [], i, h => by
    unfold findSub at h
    split at h
    · rename_i he
      cases h
      exact .zero (by rw [List.isEmpty_iff.mp he]; exact List.nil_prefix)
    · cases h
  | c :: cs, i, h => by
    unfold findSub at h
    split at h
    · rename_i hp
      cases h
      exact .zero (List.isPrefixOf_iff_prefix.mp hp)
    · rename_i hp
      cases hf : findSub pat cs with
      | none => rw [hf] at h; cases h
      | some k =>
        rw [hf] at h; cases h
        exact .succ (fun hpre => hp (List.isPrefixOf_iff_prefix.mpr hpre)) (findSub_some pat cs k hf)

theorem findSub_isSome (pat : List Byte) : ∀ (j : Nat) (s : List Byte), j ≤ s.length → pat <+: s.drop j →
    (findSub pat s).isSome = true
  | 0, [], _, h => by rw [findSub, List.prefix_nil.mp h]; rfl
  | _+1, [], hj, _ => nomatch hj
  | j, c :: cs, hj, h => by
    rw [findSub]
    split
    · rfl
    · rename_i hp
      cases j with
      | zero => exact absurd (List.isPrefixOf_iff_prefix.mpr h) hp
      | succ j =>
        rw [Option.isSome_map]
        exact findSub_isSome pat j cs (Nat.le_of_succ_le_succ hj) h

theorem findSub_none (pat s : List Byte) (h : findSub pat s = none) (j : Nat) (hj : j ≤ s.length) : ¬ pat <+: s.drop j := by
  intro hp
  have := findSub_isSome pat j s hj hp
  rw [h] at this; cases this

theorem firstOcc_unique (pat s : List Byte) (i j : Nat) (hi : FirstOcc pat s i) (hj : FirstOcc pat s j) : i = j := by
  rcases Nat.lt_trichotomy i j with h | h | h
  · exact absurd hi.1 (hj.2.2 i h)
  · exact h
  · exact absurd hj.1 (hi.2.2 j h)

theorem findSub_iff (pat s : List Byte) (i : Nat) : findSub pat s = some i ↔ FirstOcc pat s i := by
  constructor
  · exact findSub_some pat s i
  · intro h
    cases hf : findSub pat s with
    | none => exact absurd h.1 (findSub_none pat s hf i (by have := h.2.1; omega))
    | some k => rw [firstOcc_unique pat s k i (findSub_some pat s k hf) h]

theorem findSub_eq_none_iff (pat s : List Byte) : findSub pat s = none ↔ ∀ j, j ≤ s.length → ¬ pat <+: s.drop j := by
  refine ⟨findSub_none pat s, fun h => ?_⟩
  cases hf : findSub pat s with
  | none => rfl
  | some i =>
    have ho := findSub_some pat s i hf
    exact absurd ho.1 (h i (by have := ho.2.1; omega))

/-! ### hwloc_parse_meminfo_info -/

theorem memKey_length : memKey.length = 10 := by rw [memKey, str_ofList]; rfl

theorem meminfo_eq (f : Option (List Byte)) : meminfo f = (readPath memBuf f).bind fun b =>
    (findSub memKey (cstr b)).map fun i => ((strtoulS 10 ((cstr b).drop (i + 10))).1 <<< 10) % 2^64 := by
  unfold meminfo
  split
  · rename_i h; rw [h]; rfl
  · rename_i b h; rw [h, Option.bind_some]; cases findSub memKey (cstr b) <;> rfl

theorem meminfo_at (s : List Byte) (i : Nat) (hfit : s.length ≤ 4095) (hnz : ∀ c ∈ s, c ≠ 0) (hocc : FirstOcc memKey s i) :
    meminfo (some s) = some (((strtoulS 10 (s.drop (i + 10))).1 <<< 10) % 2^64) := by
  have hne : s ≠ [] := by
    intro h; have := hocc.2.1; rw [h, memKey_length, List.length_nil] at this; omega
  have hrp := readByLength_of_ne_nil memBuf (by decide) s hne
  rw [List.take_of_length_le (by unfold memBuf; omega)] at hrp
  rw [meminfo_eq, readPath, Option.bind_some, hrp, Option.bind_some, cstr_nonzero s hnz, (findSub_iff _ _ _).mpr hocc,
    Option.map_some]

theorem meminfo_prefix (c c' : List Byte) (h : c.take 4095 = c'.take 4095) : meminfo (some c) = meminfo (some c') := by
  unfold meminfo
  rw [readPath_prefix memBuf c c' h]

/-! ### hwloc_parse_hugepages_info -/

structure HPState.Ok (st : HPState) : Prop where
  alloc_pos : 1 ≤ st.alloc
  index_le : st.index ≤ st.alloc
  writes_ok : ∀ w ∈ st.writes, w.1 < w.2

theorem hpStep_ok (dirlen : Nat) (st : HPState) (e : HPEntry) (h : st.Ok) : (hpStep dirlen st e).Ok := by
  obtain ⟨h1, h2, h3⟩ := h
  unfold hpStep
  by_cases hp : (!(hpPrefix.isPrefixOf e.name)) = true
  · rw [if_pos hp]; exact ⟨h1, h2, h3⟩
  · rw [if_neg hp]
    generalize ha : (if st.index ≥ st.alloc then 2 * st.alloc else st.alloc) = alloc
    have halloc : st.index < alloc ∧ 1 ≤ alloc := by rw [← ha]; split <;> omega
    have hw : ∀ w ∈ (st.index, alloc) :: st.writes, w.1 < w.2 := List.forall_mem_cons.mpr ⟨halloc.1, h3⟩
    simp only []
    split
    · split
      · exact ⟨halloc.2, Nat.le_of_lt halloc.1, hw⟩
      · refine ⟨halloc.2, ?_, hw⟩
        simp only [HPState.index, List.length_append, List.length_singleton] at halloc ⊢
        omega
    · exact ⟨halloc.2, Nat.le_of_lt halloc.1, hw⟩

theorem hugepages_ok (dirlen alloc0 remaining : Nat) (h0 : 1 ≤ alloc0) (entries : List HPEntry) :
    (hugepages dirlen alloc0 remaining entries).Ok :=
  List.foldlRecOn entries (hpStep dirlen) (motive := HPState.Ok) ⟨h0, h0, fun _ h => nomatch h⟩
    fun st h e _ => hpStep_ok dirlen st e h

end Hw.LinuxNum
