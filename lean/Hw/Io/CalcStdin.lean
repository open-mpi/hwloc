/-
  Hw.Io.CalcStdin — lemmas on hwloc-calc's stdin mode (model: Hw/Io/Calc.lean `lineFold` / `lineOut` / `stdinLoop`):
  the loop output is the concatenation of per-line outputs, a line's output is a function of the line and of the option
  state only, and it is what the same options followed by the line's locations print when given on the command line.
-/
import Hw.Io.CalcLemmas
namespace Hw.Props.C20
open Hw Hw.Calc

/-- the model's processing of a list of location arguments (command line between two options, or one stdin line) -/
def locFold (c : Ctx) : St → List Bytes → Except Res St
  | s, [] => .ok s
  | s, a :: r => match stepLoc c s a with
    | .error e => .error e
    | .ok s' => locFold c s' r

end Hw.Props.C20

namespace Hw.Calc
open Hw Hw.Topo
open Hw.Props.C20 (locFold)

theorem lineFold_eq (c : Ctx) (s : St) (line : Bytes) :
    lineFold c s line = locFold c { s with cpuset := Bitmap.alloc, nodeset := Bitmap.alloc } (tokensOf line) := by
  have key : ∀ (l : List Bytes) (st : Except Res St),
      l.foldl (fun (st : Except Res St) t => match st with
        | .error e => .error e
        | .ok st => stepLoc c st t) st = match st with
        | .error e => .error e
        | .ok s => locFold c s l := by
    intro l
    induction l with
    | nil => intro st; cases st <;> rfl
    | cons a r ih =>
      intro st
      rw [List.foldl_cons, ih]
      cases st with
      | error e => rfl
      | ok s => simp only [locFold]
  exact key _ _

theorem locFold_error (c : Ctx) (l : List Bytes) (s : St) (e : Res) : locFold c s l = .error e → e = .skip "location" := by
  fun_induction locFold c s l with
  | case1 s => intro h; cases h
  | case2 s a r e' he => intro h; cases h; exact stepLoc_error he
  | case3 s a r s2 hs ih => exact ih

theorem lineOut_stop_ne (c : Ctx) (s : St) (cfg : OutCfg) (line : Bytes) (r : Res) (out : Bytes)
    (h : lineOut c s cfg line = .stop r) : r ≠ .exit 0 (some out) := by
  revert h
  fun_cases lineOut c s cfg line <;> intro h <;> cases h
  · rename_i he
    rw [lineFold_eq] at he
    rw [locFold_error c _ _ _ he]
    intro hh; cases hh
  · intro hh; cases hh
  · split <;> (intro hh; cases hh)
  · intro hh; cases hh
/-- `outs` are the per-line outputs of `lines`, each computed by `lineOut` from its own line alone -/
inductive LinesOut (c : Ctx) (s : St) (cfg : OutCfg) : List Bytes → List Bytes → Prop
  | nil : LinesOut c s cfg [] []
  | cons {l o : Bytes} {ls os : List Bytes} : lineOut c s cfg l = .out o → LinesOut c s cfg ls os → LinesOut c s cfg (l :: ls) (o :: os)

theorem LinesOut.length_eq {c : Ctx} {s : St} {cfg : OutCfg} {ls os : List Bytes} (h : LinesOut c s cfg ls os) :
    os.length = ls.length := by
  induction h with
  | nil => rfl
  | cons _ _ ih => simp [ih]

theorem LinesOut.get {c : Ctx} {s : St} {cfg : OutCfg} {ls os : List Bytes} (h : LinesOut c s cfg ls os) :
    ∀ (k : Nat) (h1 : k < ls.length) (h2 : k < os.length), lineOut c s cfg ls[k] = .out os[k] := by
  induction h with
  | nil => intro k h1; simp at h1
  | cons hl _ ih =>
    intro k h1 h2
    cases k with
    | zero => simpa using hl
    | succ k => simpa using ih k (by simpa using h1) (by simpa using h2)

theorem LinesOut.append {c : Ctx} {s : St} {cfg : OutCfg} {l1 o1 l2 o2 : List Bytes} (h1 : LinesOut c s cfg l1 o1)
    (h2 : LinesOut c s cfg l2 o2) : LinesOut c s cfg (l1 ++ l2) (o1 ++ o2) := by
  induction h1 with
  | nil => simpa using h2
  | cons hl _ ih => exact LinesOut.cons hl ih

theorem LinesOut.split {c : Ctx} {s : St} {cfg : OutCfg} : ∀ (l1 l2 os : List Bytes), LinesOut c s cfg (l1 ++ l2) os →
    ∃ o1 o2, os = o1 ++ o2 ∧ LinesOut c s cfg l1 o1 ∧ LinesOut c s cfg l2 o2 := by
  intro l1
  induction l1 with
  | nil => intro l2 os h; exact ⟨[], os, rfl, LinesOut.nil, h⟩
  | cons a r ih =>
    intro l2 os h
    cases h with
    | cons hl hr =>
      obtain ⟨o1, o2, rfl, h1, h2⟩ := ih l2 _ hr
      exact ⟨_ :: o1, o2, rfl, LinesOut.cons hl h1, h2⟩

theorem stdinLoop_ok_iff (c : Ctx) (s : St) (cfg : OutCfg) : ∀ (lines : List Bytes) (acc out : Bytes),
    stdinLoop c s cfg lines acc = .exit 0 (some out) ↔
      ∃ outs : List Bytes, LinesOut c s cfg lines outs ∧ out = acc ++ outs.flatten := by
  intro lines acc out
  constructor
  · fun_induction stdinLoop c s cfg lines acc with
    | case1 acc => intro h; cases h; exact ⟨[], LinesOut.nil, (List.append_nil _).symm⟩
    | case2 l r acc res hl => intro h; exact absurd h (lineOut_stop_ne c s cfg l res out hl)
    | case3 l r acc o hl ih =>
      intro h
      obtain ⟨outs, hf, rfl⟩ := ih h
      exact ⟨o :: outs, LinesOut.cons hl hf, List.append_assoc ..⟩
  · -- by induction on the derivation: each `cons` is one turn of the loop
    rintro ⟨outs, hf, rfl⟩
    induction hf generalizing acc with
    | nil => rw [stdinLoop, List.flatten_nil, List.append_nil]
    | cons hl _ ih =>
      rw [stdinLoop, hl, List.flatten_cons, ← List.append_assoc]
      exact ih _

/-! ### a stdin line against the same locations on the command line -/

theorem argLoop_append_ok (c : Ctx) (s : St) (a : List Bytes) (b : List Bytes) :
    ∀ s', argLoop c s a = .ok s' → argLoop c s (a ++ b) = argLoop c s' b := by
  -- the cases are numbered as listed in `argLoop_fails` (Hw/Io/CalcLemmas.lean); those left out end in an error
  fun_induction argLoop c s a with
  | case1 s => intro s' h; cases h; rfl
  | case3 s a rest hd hsk hns k hk ih =>
    intro s' h
    rw [List.cons_append]
    conv => lhs; unfold argLoop
    rw [if_pos hd, if_neg hsk, if_pos hns, hk]
    exact ih s' h
  | case5 s a rest hd hsk hns hf ih =>
    intro s' h
    rw [List.cons_append]
    conv => lhs; unfold argLoop
    rw [if_pos hd, if_neg hsk, if_neg hns, if_pos hf]
    exact ih s' h
  | case8 s a hd hsk hns hf ha v rest' s1 hs ih =>
    intro s' h
    rw [List.cons_append, List.cons_append]
    conv => lhs; unfold argLoop
    rw [if_pos hd, if_neg hsk, if_neg hns, if_neg hf, if_pos ha]
    simp only [hs]
    exact ih s' h
  | case11 s a rest hd s1 hs ih =>
    intro s' h
    rw [List.cons_append]
    conv => lhs; unfold argLoop
    rw [if_neg hd, hs]
    exact ih s' h
  | _ => intro s' h; cases h

theorem argLoop_locs (c : Ctx) : ∀ (toks : List Bytes) (s : St), (∀ t ∈ toks, t.head? ≠ some 45) →
    argLoop c s toks = locFold c s toks := by
  intro toks
  induction toks with
  | nil => intro s _; simp [argLoop, locFold]
  | cons a r ih =>
    intro s h
    have ha : (a.head? == some 45) = false := by simpa using h a List.mem_cons_self
    unfold argLoop locFold
    rw [ha]
    simp only [Bool.false_eq_true, if_false]
    cases stepLoc c s a with
    | error e => rfl
    | ok s1 => exact ih s1 (fun t ht => h t (List.mem_cons_of_mem _ ht))

/-- as long as no location was accepted the two accumulators are the freshly allocated (empty) bitmaps -/
def Fresh (s : St) : Prop := s.nlocs = 0 → s.cpuset = Bitmap.alloc ∧ s.nodeset = Bitmap.alloc

theorem stepLoc_fresh {c : Ctx} {s s' : St} {a : Bytes} (h : stepLoc c s a = .ok s') (hf : Fresh s) : Fresh s' := by
  rcases stepLoc_ok h with ⟨_, rfl⟩ | ⟨cs, ns, _, rfl⟩
  · exact hf
  · intro hn; cases hn

theorem Fresh.of_eq {s s' : St} (hf : Fresh s) (hc : s'.cpuset = s.cpuset) (hn : s'.nodeset = s.nodeset) (hl : s'.nlocs = s.nlocs) :
    Fresh s' := by
  intro h
  rw [hc, hn]
  exact hf (hl ▸ h)

theorem argLoop_fresh (c : Ctx) (s : St) (a : List Bytes) :
    ∀ s', Fresh s → argLoop c s a = .ok s' → Fresh s' := by
  fun_induction argLoop c s a with
  | case1 s => intro s' hf h; cases h; exact hf
  | case3 s a rest _ _ _ k _ ih => intro s' hf h; exact ih s' (hf.of_eq rfl rfl rfl) h
  | case5 s a rest _ _ _ _ ih =>
    intro s' hf h
    obtain ⟨f1, f2, f3, _⟩ := stepFlag_frame s a
    exact ih s' (hf.of_eq f1 f2 f3) h
  | case8 s a _ _ _ _ _ v rest' s1 hs ih =>
    intro s' hf h
    obtain ⟨f1, f2, f3, _⟩ := stepArgOpt_frame hs
    exact ih s' (hf.of_eq f1 f2 f3) h
  | case11 s a rest _ s1 hs ih => intro s' hf h; exact ih s' (stepLoc_fresh hs hf) h
  | _ => intro s' hf h; cases h

theorem fresh_init : Fresh {} := fun _ => ⟨rfl, rfl⟩

/-- what a location leaves untouched: every option field -/
theorem stepLoc_frame {c : Ctx} {s s1 : St} {a : Bytes} (h : stepLoc c s a = .ok s1) :
    ∃ cs ns n k, s1 = { s with cpuset := cs, nodeset := ns, nlocs := n, outKnown := k } := by
  rcases stepLoc_ok h with ⟨_, rfl⟩ | ⟨cs, ns, _, rfl⟩ <;> exact ⟨_, _, _, _, rfl⟩

theorem stepLoc_nodesetO {c : Ctx} {s s1 : St} {a : Bytes} (b : Bool) (h : stepLoc c s a = .ok s1) :
    stepLoc c { s with nodesetO := b } a = .ok { s1 with nodesetO := b } := by
  unfold stepLoc at h ⊢
  cases hl : locSets c s.logicalI s.nodesetI s.cif (splitMode a).2 <;> simp only [hl] at h ⊢ <;> cases h <;> rfl

theorem locFold_frame (c : Ctx) (l : List Bytes) (s s1 : St) : locFold c s l = .ok s1 →
    ∃ cs ns n k, s1 = { s with cpuset := cs, nodeset := ns, nlocs := n, outKnown := k } := by
  fun_induction locFold c s l with
  | case1 s => intro h; cases h; exact ⟨_, _, _, _, rfl⟩
  | case2 s a r e he => intro h; cases h
  | case3 s a r s2 hs ih =>
    intro h
    obtain ⟨_, _, _, _, rfl⟩ := stepLoc_frame hs
    exact ih h

theorem locFold_nodesetO (c : Ctx) (b : Bool) (l : List Bytes) (s s1 : St) : locFold c s l = .ok s1 →
    locFold c { s with nodesetO := b } l = .ok { s1 with nodesetO := b } := by
  fun_induction locFold c s l with
  | case1 s => intro h; cases h; rfl
  | case2 s a r e he => intro h; cases h
  | case3 s a r s2 hs ih => intro h; rw [locFold, stepLoc_nodesetO b hs]; exact ih h

/-- `--no`/`--nof` is dropped when an output conversion is requested without nodeset input (hwloc-calc.c, after the option loop) -/
def convO (s : St) : Bool :=
  if (s.largest || s.numberOf.isSome || s.intersect.isSome || s.hier.isSome) && s.nodesetO && !s.nodesetI then false else s.nodesetO
def convState (s : St) : St := { s with nodesetO := convO s }

def banner (s : St) : Bytes := if s.verbose ≥ 0 then str "Waiting for locations to process on stdin...\n" else []

/-- the adjustment as `calcMain.go` spells it -/
theorem convState_if (s : St) :
    (if ((s.largest || s.numberOf.isSome || s.intersect.isSome || s.hier.isSome) && s.nodesetO && !s.nodesetI) = true
      then { s with nodesetO := false } else s) = convState s := by
  unfold convState convO
  split <;> rfl

theorem go_of_calcMain_exit {d : Dump} {argv : List Bytes} {stdin : Bytes} {rc : Nat} {o : Option Bytes}
    (h : calcMain d argv stdin = .exit rc o) : calcMain.go stdin (mkCtx d) argv = .exit rc o := by
  unfold calcMain at h
  cases argv with
  | nil => exact h
  | cons a r =>
    simp only at h
    split at h
    · cases h
    · exact h

theorem strip_some {r : Res} {out : Bytes} {b : Bool}
    (h : (if b = true then r else match r with | .exit rc _ => .exit rc none | x => x) = .exit 0 (some out)) :
    r = .exit 0 (some out) := by
  cases b with
  | true => simpa using h
  | false =>
    simp only [Bool.false_eq_true, if_false] at h
    cases r with
    | exit rc o => simp at h
    | skip w => simp at h

theorem banner_neg {s : St} (h : s.verbose < 0) : banner s = [] := if_neg (Int.not_le.mpr h)

/-- what a run that ends well with its stdout predicted went through after the option loop left `s`: the output levels were
    parsed, and either no location was accepted and the stdin loop printed `out`, or `hwloc_calc_output` printed it for the two sets -/
theorem calcMain.go_ok {c : Ctx} {argv : List Bytes} {s : St} {stdin out : Bytes} (hl : argLoop c {} argv = .ok s)
    (h : calcMain.go stdin c argv = .exit 0 (some out)) :
    ∃ cfg, outCfg c.d (convState s) = .ok cfg ∧
      ((convState s).nlocs = 0 ∧ stdinLoop c (convState s) cfg (linesOf stdin) (banner (convState s)) = .exit 0 (some out) ∨
       (convState s).nlocs ≠ 0 ∧ ((convState s).noSmt.isSome && (convState s).cpuset.inf) = false ∧
         output c (convState s) cfg (convState s).cpuset (convState s).nodeset = (0, some out)) := by
  unfold calcMain.go at h
  rw [hl] at h
  simp only [convState_if] at h
  cases hc : outCfg c.d (convState s) with
  | unmodelled => simp only [hc] at h; cases h
  | out => simp only [hc] at h; cases h
  | ok cfg =>
    simp only [hc] at h
    have g := strip_some h
    refine ⟨cfg, rfl, ?_⟩
    by_cases hz : (convState s).nlocs = 0
    · rw [hz] at g
      exact .inl ⟨hz, g⟩
    · rw [if_pos (bne_iff_ne.mpr hz)] at g
      split at g
      · cases g
      · rename_i hsmt
        injection g with hrc hout
        exact .inr ⟨hz, Bool.eq_false_iff.mpr hsmt, Prod.ext hrc (by rw [hrc] at hout; exact hout)⟩

theorem convO_frame (s : St) (a b : Bitmap) (n : Nat) (k : Bool) :
    convO { s with cpuset := a, nodeset := b, nlocs := n, outKnown := k } = convO s := rfl

theorem outCfg_frame (d : Dump) (s : St) (a b : Bitmap) (n : Nat) (k x : Bool) :
    outCfg d { s with cpuset := a, nodeset := b, nlocs := n, outKnown := k, nodesetO := x } = outCfg d s := rfl


theorem lineOut_of_cmdline (d : Dump) (opts : List Bytes) (s : St) (cfg : OutCfg) (line o : Bytes)
    (hloop : argLoop (mkCtx d) {} opts = .ok s) (hn : s.nlocs = 0) (hq : s.verbose < 0)
    (hcfg : outCfg d (convState s) = .ok cfg)
    (hdash : ∀ t ∈ tokensOf line, t.head? ≠ some 45)
    (h2 : calcMain d (opts ++ tokensOf line) [] = .exit 0 (some o)) (ho : o ≠ []) :
    lineOut (mkCtx d) (convState s) cfg line = .out o := by
  have g2 := go_of_calcMain_exit h2
  have harg : argLoop (mkCtx d) {} (opts ++ tokensOf line) = locFold (mkCtx d) s (tokensOf line) := by
    rw [argLoop_append_ok (mkCtx d) {} opts (tokensOf line) s hloop, argLoop_locs (mkCtx d) _ s hdash]
  cases hseq : locFold (mkCtx d) s (tokensOf line) with
  | error e =>
    rw [hseq] at harg
    unfold calcMain.go at g2
    rw [harg, locFold_error _ _ _ _ hseq] at g2
    cases g2
  | ok s1 =>
    rw [hseq] at harg
    -- the locations leave alone what the conversion and the level parsing read (`convO_frame`, `outCfg_frame`)
    obtain ⟨cs, ns, n, k, rfl⟩ := locFold_frame (mkCtx d) _ s s1 hseq
    have hline : lineFold (mkCtx d) (convState s) line =
        .ok (convState { s with cpuset := cs, nodeset := ns, nlocs := n, outKnown := k }) := by
      obtain ⟨e1, e2⟩ := argLoop_fresh (mkCtx d) {} opts s fresh_init hloop hn
      have e : ({ convState s with cpuset := Bitmap.alloc, nodeset := Bitmap.alloc } : St) =
          { convState s with cpuset := s.cpuset, nodeset := s.nodeset } := by rw [e1, e2]
      rw [lineFold_eq, e]
      exact locFold_nodesetO (mkCtx d) (convO s) _ s _ hseq
    unfold lineOut
    rw [hline]
    obtain ⟨cfg1, hc1, hcase⟩ := calcMain.go_ok harg g2
    cases hc1.symm.trans hcfg
    rcases hcase with ⟨_, g3⟩ | ⟨_, hsmt, hout⟩
    · -- every location was ignored: the run read its (empty) stdin and printed nothing
      cases g3
      exact absurd (banner_neg hq) ho
    · simp only [hsmt, hout]
      rfl

end Hw.Calc
