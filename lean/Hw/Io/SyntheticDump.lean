/-
  Hw.Io.SyntheticDump — the complete observable topology (`Hw.Topo.Dump`, the format of harness/dump.h) that a
  `Regular` synthetic description loads into, computed from the abstract `Topo` of Hw.Io.SyntheticTopo:
  DFS numbering, parent/sibling/cousin links, levels, cpusets/nodesets, memory totals, attributes, type depths.
  Compared field by field with the public-API dump of the real topology and checked by the WF oracle on every case.
-/
import Hw.Io.SyntheticTopo
import Hw.Topo.WF
namespace Hw.Syn
open Hw Hw.Topo

def lget {α : Type} [Inhabited α] (l : List α) (i : Nat) : α := l[i]?.getD default
def orBits (l : List Nat) : Nat := l.foldl (fun s i => s ||| (1 <<< i)) 0

/-- per-depth tables (depth 0 = root, depth D = PU) -/
structure DTab where
  D : Nat
  ar : List Nat                   -- children per object
  n : List Nat                    -- objects per depth
  mem : List (List MemChild)      -- memory children of each object
  sz : List Nat                   -- objects in the subtree of one object (memory objects included)
  types : List Nat

def msz (m : MemChild) : Nat := if m.msc ≠ 0 then 2 else 1

def mkTab (t : Topo) : DTab :=
  let D := t.levels.length
  let ar := t.levels.map (·.arity) ++ [0]
  let n := (List.range D).foldl (fun (acc : List Nat) d => acc ++ [(acc.getLast?.getD 1) * (ar[d]?.getD 0)]) [1]
  let mem := t.rootMem :: t.levels.map (·.mem)
  let sz := (List.range (D + 1)).foldr (fun d (acc : List Nat) =>
    (1 + (ar[d]?.getD 0) * (acc.head?.getD 0) + ((mem[d]?.getD []).map msz).sum) :: acc) []
  { D := D, ar := ar, n := n, mem := mem, sz := sz, types := tMACHINE :: t.levels.map (·.type) }

/-- DFS id of the normal object (d, k) -/
def nid (T : DTab) : Nat → Nat → Nat
  | 0, _ => 0
  | d + 1, k =>
    let a := T.ar[d]?.getD 1
    nid T d (k / a) + 1 + (k % a) * (T.sz[d + 1]?.getD 0)

/-- id of the first object of memory child `s` of (d, k) -/
def memId (T : DTab) (d k s : Nat) : Nat :=
  nid T d k + 1 + (T.ar[d]?.getD 0) * (T.sz[d + 1]?.getD 0) + (((T.mem[d]?.getD []).take s).map msz).sum

def numaId (T : DTab) (d k s : Nat) : Nat :=
  memId T d k s + (if ((T.mem[d]?.getD [])[s]?.getD ⟨0, 0⟩).msc ≠ 0 then 1 else 0)

/-- position in a special level (post-order: children, then own) of slot `s` of (d, k), counting `cnt e` objects
per normal object of depth e -/
def postPos (T : DTab) (cnt : Nat → Nat) (d k s : Nat) : Nat :=
  let nd := T.n[d]?.getD 1
  ((List.range (T.D + 1)).map (fun e =>
    let ne := T.n[e]?.getD 1
    if e > d then (k + 1) * (ne / nd) * cnt e
    else if e = d then k * cnt e
    else (k / (nd / ne)) * cnt e)).sum + s

def numaCnt (T : DTab) (e : Nat) : Nat := (T.mem[e]?.getD []).length
def mcCnt (T : DTab) (e : Nat) : Nat := ((T.mem[e]?.getD []).filter (fun m => m.msc != 0)).length
/-- rank of slot `s` among the memory children of its object that have a memory-side cache -/
def mcSlot (T : DTab) (d s : Nat) : Nat := (((T.mem[d]?.getD []).take s).filter (fun m => m.msc != 0)).length

/-- ids of the objects of a special level, in level order -/
def specialIds (T : DTab) (numa : Bool) : Nat → Nat → Nat → List Int
  | 0, d, k => own d k
  | f + 1, d, k =>
    (if d < T.D then (List.range (T.ar[d]?.getD 0)).flatMap (fun r => specialIds T numa f (d + 1) (k * (T.ar[d]?.getD 0) + r)) else []) ++ own d k
where
  own (d k : Nat) : List Int :=
    (List.range (T.mem[d]?.getD []).length).filterMap (fun s =>
      let m := (T.mem[d]?.getD [])[s]?.getD ⟨0, 0⟩
      if numa then some (numaId T d k s : Int) else if m.msc ≠ 0 then some (memId T d k s : Int) else none)

def neighbour (l : List Int) (i : Nat) (next : Bool) : Int :=
  if next then l[i + 1]?.getD (-1) else if i = 0 then -1 else l[i - 1]?.getD (-1)

structure DEnv where
  t : Topo
  T : DTab
  numaL : List Int
  mcL : List Int
  groupNo : List Nat     -- per depth: number of Group levels above

/-- NUMA-level positions of the NUMA nodes at or below (d, k) and inherited from its ancestors -/
def numaPositions (E : DEnv) (d k : Nat) : List Nat :=
  let T := E.T
  let nd := T.n[d]?.getD 1
  (List.range (T.D + 1)).flatMap (fun e =>
    let ne := T.n[e]?.getD 1
    let ks := if e > d then (List.range (ne / nd)).map (· + k * (ne / nd)) else if e = d then [k] else [k / (nd / ne)]
    ks.flatMap (fun k' => (List.range (numaCnt T e)).map (fun s => postPos T (numaCnt T) e k' s)))

def memBelow (E : DEnv) (d k : Nat) : Nat :=
  let T := E.T
  let nd := T.n[d]?.getD 1
  ((List.range (T.D + 1)).map (fun e =>
    if e ≥ d then ((T.n[e]?.getD 1) / nd) * ((T.mem[e]?.getD []).map (·.mem)).sum else 0)).sum

def cpusetOf (E : DEnv) (d k : Nat) : Nat :=
  let w := (E.T.n[E.T.D]?.getD 1) / (E.T.n[d]?.getD 1)
  orBits ((List.range w).map (fun j => E.t.puIdx[k * w + j]?.getD 0))

def nodesetOf (E : DEnv) (d k : Nat) : Nat := orBits ((numaPositions E d k).map (fun p => E.t.numaIdx[p]?.getD 0))

def blankObj : Obj :=
  { id := 0, type := 0, depth := 0, lidx := 0, osidx := 0, gp := 0, parent := -1, rank := 0, arity := 0, marity := 0,
    ioarity := 0, miscarity := 0, nextSib := -1, prevSib := -1, nextCousin := -1, prevCousin := -1, firstChild := -1,
    lastChild := -1, memFirst := -1, ioFirst := -1, miscFirst := -1, symm := 0, cpuset := none, ccpuset := none,
    nodeset := none, cnodeset := none, totalMem := 0, attrs := [0, 0, 0, 0, 0, 0], children := [], subtype := none,
    name := none, infos := [] }

def normalObj (E : DEnv) (d k : Nat) : Obj :=
  let T := E.T
  let a := T.ar[d]?.getD 0
  let pa := if d = 0 then 1 else T.ar[d - 1]?.getD 1
  let nd := T.n[d]?.getD 1
  let lv : NLevel := if d = 0 then { type := tMACHINE, arity := 1 } else E.t.levels[d - 1]?.getD { type := 0, arity := 0 }
  let m := (T.mem[d]?.getD []).length
  let cs := cpusetOf E d k
  let ns := nodesetOf E d k
  let id := nid T d k
  { blankObj with
    id := id, type := lv.type, depth := d, lidx := k,
    osidx := if d = 0 then 0 else lv.osIdx[k]?.getD 0, gp := id,
    parent := if d = 0 then -1 else (nid T (d - 1) (k / pa) : Int), rank := if d = 0 then 0 else k % pa,
    arity := a, marity := m,
    nextSib := if d ≠ 0 ∧ k % pa + 1 < pa then (nid T d (k + 1) : Int) else -1,
    prevSib := if d ≠ 0 ∧ k % pa > 0 then (nid T d (k - 1) : Int) else -1,
    nextCousin := if k + 1 < nd then (nid T d (k + 1) : Int) else -1,
    prevCousin := if k > 0 then (nid T d (k - 1) : Int) else -1,
    firstChild := if a > 0 then (nid T (d + 1) (k * a) : Int) else -1,
    lastChild := if a > 0 then (nid T (d + 1) (k * a + a - 1) : Int) else -1,
    memFirst := if m > 0 then (memId T d k 0 : Int) else -1,
    symm := 1, cpuset := some cs, ccpuset := some cs, nodeset := some ns, cnodeset := some ns,
    totalMem := memBelow E d k,
    attrs := if isCacheT lv.type then [(lv.size : Int), (lv.cdepth : Int), 64, 0, lv.ctype, 0]
             else if lv.type = tGROUP then [((E.groupNo[d]?.getD 0 : Nat) : Int), (if lv.memGroup then 1001 else 10), (if lv.memGroup then 0 else (lv.gsub : Int)), 0, 0, 0]
             else [0, 0, 0, 0, 0, 0],
    children := (List.range a).map (fun r => (nid T (d + 1) (k * a + r) : Int)) }

/-- memory child `s` of (d, k): an optional MemCache followed by the NUMA node -/
def memSlot (E : DEnv) (d k s : Nat) : List Obj :=
  let T := E.T
  let ms := T.mem[d]?.getD []
  let cs := cpusetOf E d k
  let m := ms[s]?.getD ⟨0, 0⟩
  let pos := postPos T (numaCnt T) d k s
  let os := E.t.numaIdx[pos]?.getD 0
  let ns := 1 <<< os
  let mid := memId T d k s
  let nidd := numaId T d k s
  let hasmc := m.msc ≠ 0
  let sibNext : Int := if s + 1 < ms.length then (memId T d k (s + 1) : Int) else -1
  let sibPrev : Int := if s > 0 then (memId T d k (s - 1) : Int) else -1
  let numa : Obj := { blankObj with
    id := nidd, type := tNUMA, depth := -3, lidx := pos, osidx := os, gp := nidd,
    parent := if hasmc then (mid : Int) else (nid T d k : Int), rank := if hasmc then 0 else s,
    nextSib := if hasmc then -1 else sibNext, prevSib := if hasmc then -1 else sibPrev,
    nextCousin := neighbour E.numaL pos true, prevCousin := neighbour E.numaL pos false,
    cpuset := some cs, ccpuset := some cs, nodeset := some ns, cnodeset := some ns, totalMem := m.mem,
    attrs := [(m.mem : Int), 1, 0, 0, 0, 0] }
  if hasmc then
    let mpos := postPos T (mcCnt T) d k (mcSlot T d s)
    let mc : Obj := { blankObj with
      id := mid, type := tMEMCACHE, depth := -8, lidx := mpos, osidx := -1, gp := mid,
      parent := (nid T d k : Int), rank := s, marity := 1, nextSib := sibNext, prevSib := sibPrev,
      nextCousin := neighbour E.mcL mpos true, prevCousin := neighbour E.mcL mpos false,
      memFirst := (nidd : Int),
      cpuset := some cs, ccpuset := some cs, nodeset := some ns, cnodeset := some ns, totalMem := m.mem,
      attrs := [(m.msc : Int), 1, 64, 0, 0, 0] }
    [mc, numa]
  else [numa]

/-- the memory objects hanging from (d, k) -/
def memObjs (E : DEnv) (d k : Nat) : List Obj :=
  (List.range (E.T.mem[d]?.getD []).length).flatMap (memSlot E d k)

/-- objects of the subtree of (d, k) in the DFS order of harness/dump.h: the object, its normal children, its memory children -/
def genObjs (E : DEnv) : Nat → Nat → Nat → List Obj
  | 0, d, k => normalObj E d k :: memObjs E d k
  | f + 1, d, k =>
    normalObj E d k ::
      ((if d < E.T.D then (List.range (E.T.ar[d]?.getD 0)).flatMap (fun r => genObjs E f (d + 1) (k * (E.T.ar[d]?.getD 0) + r)) else [])
        ++ memObjs E d k)

def defaultFilters : List Nat := [0, 0, 0, 0, 0, 0, 0, 0, 0, 0, 0, 0, 0, 2, 0, 0, 1, 1, 1, 1]

/-- the complete dump of the topology a Regular description loads into (I-cache and MemCache filters KEEP_ALL) -/
def toDump (t : Topo) : Dump :=
  let T := mkTab t
  let numaL := specialIds T true (T.D + 1) 0 0
  let mcL := specialIds T false (T.D + 1) 0 0
  let groupNo := (List.range (T.D + 1)).map (fun d => ((T.types.take d).filter (· == tGROUP)).length)
  let E : DEnv := { t := t, T := T, numaL := numaL, mcL := mcL, groupNo := groupNo }
  let objs := genObjs E (T.D + 1) 0 0
  let root := normalObj E 0 0
  let levels : List Topo.Level :=
    (List.range (T.D + 1)).map (fun d => ⟨(d : Int), ((T.types[d]?.getD 0 : Nat) : Int), (List.range (T.n[d]?.getD 0)).map (fun k => (nid T d k : Int))⟩) ++
    [⟨-3, 14, numaL⟩, ⟨-4, 16, []⟩, ⟨-5, 17, []⟩, ⟨-6, 18, []⟩, ⟨-7, 19, []⟩, ⟨-8, 15, mcL⟩]
  let typeDepths : List Int := (List.range tMAX).map (fun ty =>
    match specialDepth ty with
    | some sd => sd
    | none =>
      match (List.range (T.D + 1)).filter (fun d => T.types[d]?.getD 99 == ty) with
      | [] => -1
      | [d] => (d : Int)
      | _ => -2)
  { flags := 0, depth := T.D + 1, root := 0, nobjs := objs.length, allowedCpuset := root.cpuset, allowedNodeset := root.nodeset,
    filters := defaultFilters, objs := objs, levels := levels, typeDepths := typeDepths }

/-- the first field in which two objects differ (ignoring gp_index, infos, name, subtype) -/
def objDiff (a b : Obj) : Option String :=
  if a.id ≠ b.id then some "id" else if a.type ≠ b.type then some "type" else if a.depth ≠ b.depth then some "depth"
  else if a.lidx ≠ b.lidx then some "lidx" else if a.osidx ≠ b.osidx then some "osidx" else if a.parent ≠ b.parent then some "parent"
  else if a.rank ≠ b.rank then some "rank" else if a.arity ≠ b.arity then some "arity" else if a.marity ≠ b.marity then some "marity"
  else if a.ioarity ≠ b.ioarity ∨ a.miscarity ≠ b.miscarity then some "ioarity"
  else if a.nextSib ≠ b.nextSib ∨ a.prevSib ≠ b.prevSib then some "sibling"
  else if a.nextCousin ≠ b.nextCousin ∨ a.prevCousin ≠ b.prevCousin then some "cousin"
  else if a.firstChild ≠ b.firstChild ∨ a.lastChild ≠ b.lastChild then some "child"
  else if a.memFirst ≠ b.memFirst ∨ a.ioFirst ≠ b.ioFirst ∨ a.miscFirst ≠ b.miscFirst then some "memfirst"
  else if a.symm ≠ b.symm then some "symm"
  else if a.cpuset ≠ b.cpuset ∨ a.ccpuset ≠ b.ccpuset then some "cpuset"
  else if a.nodeset ≠ b.nodeset ∨ a.cnodeset ≠ b.cnodeset then some "nodeset"
  else if a.totalMem ≠ b.totalMem then some "totalmem" else if a.attrs ≠ b.attrs then some "attrs"
  else if a.children ≠ b.children then some "children" else none

/-- the first difference between the model's dump and an observed one -/
def dumpDiff (m c : Dump) : Option String :=
  if m.depth ≠ c.depth then some "depth" else if m.nobjs ≠ c.nobjs then some "nobjs"
  else if m.flags ≠ c.flags ∨ m.root ≠ c.root then some "flags"
  else if m.allowedCpuset ≠ c.allowedCpuset ∨ m.allowedNodeset ≠ c.allowedNodeset then some "allowed"
  else if m.filters ≠ c.filters then some "filters"
  else if m.objs.length ≠ c.objs.length then some "objs.length"
  else
    match (List.range m.objs.length).findSome? (fun i =>
      match m.objs[i]?, c.objs[i]? with
      | some a, some b => (objDiff a b).map (fun f => f ++ "@" ++ toString i)
      | _, _ => some ("missing@" ++ toString i)) with
    | some d => some d
    | none => if m.levels ≠ c.levels then some "levels" else if m.typeDepths ≠ c.typeDepths then some "typedepths" else none

end Hw.Syn
