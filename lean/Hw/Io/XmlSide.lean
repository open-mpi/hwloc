/-
  Hw.Io.XmlSide — the SIDE structures of a topology document (v3 format) at token level, next to the object tree of Hw.Io.XmlTree:

  * `<cpukind cpuset= [forced_efficiency=]>` with `<info>` children      hwloc__xml_export_cpukinds / hwloc__xml_import_cpukind
  * `<memattr name= flags=>` with `<memattr_value ...>` children         hwloc__xml_export_memattrs (+ _memattr_target) /
                                                                          hwloc__xml_import_memattr (+ _memattr_value)
  * `<distances2 type= nbobjs= kind= [name=] indexing=>` / `<distances2hetero nbobjs= kind= [name=]>` with `<indexes length=>` and
    `<u64values length=>` children of at most 10 numbers each            hwloc___xml_v2export_distances (EXPORT_ARRAY /
                                                                          EXPORT_TYPE_GPINDEX_ARRAY, maxperline = 10) /
                                                                          hwloc__xml_import_distances
  * topology-level `<info>`                                               hwloc__xml_export_infos / the loop of hwloc_look_xml
  * the loop of hwloc_look_xml over the elements after the root object (`importSide`).

  The importers are total functions into `Res` (XmlTree): `.reject` mirrors a `return -1` / `goto out...` of the C (the whole load
  fails), `.outside` marks what the model does not follow (never reached from an export: a sign in front of a number, an infinite set,
  an `<info>` inside a distances element — the C hands the PARENT state to hwloc___xml_import_info there —, text or children inside a
  `<memattr_value>`, which the C never looks at).  What an importer returns is what it hands to the core:
  hwloc_internal_cpukinds_register (one `Kind` per element), hwloc_memattr_register / get_by_name + one
  hwloc_internal_memattr_set_value call per `<memattr_value>` (`Call`), hwloc_internal_distances_add_by_index (`Dist`); `rebuild`
  models the find-or-append of hwloc__internal_memattr_set_value on the target / initiator arrays.
  `<support>` elements are skipped by `importSide` (not modelled: they describe the loader).
-/
import Hw.Io.XmlTree
namespace Hw.XmlSide
open Hw Hw.Topo Hw.XmlObj Hw.XmlTree

def tagCpukind : Bytes := b "cpukind"
def tagMemattr : Bytes := b "memattr"
def tagMemattrValue : Bytes := b "memattr_value"
def tagDist : Bytes := b "distances2"
def tagDistHetero : Bytes := b "distances2hetero"
def tagIndexes : Bytes := b "indexes"
def tagU64 : Bytes := b "u64values"
def tagSupport : Bytes := b "support"

/-- an `<info>` child as hwloc___xml_import_info + close_tag see it: `none` = return -1 -/
def infoChild (e : Elem) : Option (Option (Bytes × Bytes)) :=
  match importInfo e.attrs with
  | .error => none
  | r =>
    if e.content.isSome || !e.kids.isEmpty then none
    else some (match r with | .pair p => some p | _ => Option.none)

/-! ### CPU kinds -/

/-- one entry of topology->cpukinds as the exporter reads it -/
structure Kind where
  cpuset : Nat                       -- mask of the (finite) cpuset
  eff : Int := -1                    -- forced_efficiency, HWLOC_CPUKIND_EFFICIENCY_UNKNOWN = -1
  infos : List (Bytes × Bytes) := []
deriving DecidableEq, Repr, Inhabited

/-- one iteration of hwloc__xml_export_cpukinds -/
def exportKind (k : Kind) : Elem :=
  .mk tagCpukind
    ([(b "cpuset", setText k.cpuset)] ++
      (if k.eff ≠ -1 then [(b "forced_efficiency", (Xml.printInt k.eff).take 10)] else []))     -- char tmp[11]; snprintf(tmp, 11, "%d")
    none (k.infos.map infoElem)

def exportKinds (l : List Kind) : List Elem := l.map exportKind

/-- attribute loop of hwloc__xml_import_cpukind -/
def kindLoop : List (Bytes × Bytes) → Option Nat → Int → Res (Option Nat × Int)
  | [], c, e => .ok (c, e)
  | (a, v) :: l, c, e =>
    if a = b "cpuset" then (match setScan v with | .ok m => kindLoop l (some m) e | _ => .outside)
    else if a = b "forced_efficiency" then kindLoop l c (Xml.atoi v)
    else .reject

/-- child loop of hwloc__xml_import_cpukind: only `<info>`; a pair is added when both name and value are present -/
def kindKids : List Elem → List (Bytes × Bytes) → Res (List (Bytes × Bytes))
  | [], acc => .ok acc
  | e :: es, acc =>
    if e.tag = tagInfo then
      match infoChild e with
      | none => .reject
      | some (some p) => kindKids es (acc ++ [p])
      | some Option.none => kindKids es acc
    else .reject

/-- hwloc__xml_import_cpukind: what is handed to hwloc_internal_cpukinds_register -/
def importKind (e : Elem) : Res Kind :=
  (kindLoop e.attrs none (-1)).bind (fun ce =>
    if e.content.isSome then .reject
    else (kindKids e.kids []).bind (fun infos =>
      match ce.1 with
      | none => .reject                    -- "ignoring cpukind without cpuset": goto error
      | some m => .ok { cpuset := m, eff := ce.2, infos := infos }))

/-- forced_efficiency is an `int` whose `%d` text fits the buffer of the exporter (char tmp[11]: 10 characters; only values below
    -999999999 do not, and hwloc_cpukinds_register stores nothing below -1) -/
def kindValid (k : Kind) : Bool :=
  decide (-(2 : Int) ^ 31 ≤ k.eff) && decide (k.eff < 2 ^ 31) && decide ((Xml.printInt k.eff).length ≤ 10)

def normKind (k : Kind) : Kind := { k with infos := k.infos.map sanPair }

/-! ### memory attributes -/

inductive Init where
  | cpuset (m : Nat)                 -- HWLOC_LOCATION_TYPE_CPUSET
  | obj (type gp : Nat)              -- HWLOC_LOCATION_TYPE_OBJECT (internal location: type + gp_index)
deriving DecidableEq, Repr, Inhabited

structure MTarget where
  type : Nat
  gp : Nat
  value : Nat := 0                   -- noinitiator_value
  inits : List (Init × Nat) := []    -- initiators[] with their values
deriving DecidableEq, Repr, Inhabited

structure MemAttr where
  name : Bytes
  flags : Nat
  targets : List MTarget := []
deriving DecidableEq, Repr, Inhabited

/-- HWLOC_MEMATTR_FLAG_NEED_INITIATOR = 1UL << 2 -/
def needInit (flags : Nat) : Bool := flags.testBit 2

def initAttrs : Init → List (Bytes × Bytes)
  | .obj t g => [(b "initiator_obj_gp_index", decDigits g), (b "initiator_obj_type", TypeStr.typeString t)]
  | .cpuset m => [(b "initiator_cpuset", setText m)]

def valueElem (type gp value : Nat) (i : Option Init) : Elem :=
  .mk tagMemattrValue
    ([(b "target_obj_type", TypeStr.typeString type), (b "target_obj_gp_index", decDigits gp), (b "value", decDigits value)] ++
      (match i with | some i => initAttrs i | none => []))
    none []

/-- hwloc__xml_export_memattr_target -/
def targetElems (flags : Nat) (t : MTarget) : List Elem :=
  if needInit flags then t.inits.map (fun iv => valueElem t.type t.gp iv.2 (some iv.1))
  else [valueElem t.type t.gp t.value none]

def exportMemAttr (a : MemAttr) : Elem :=
  .mk tagMemattr [(b "name", a.name), (b "flags", decDigits a.flags)] none (a.targets.flatMap (targetElems a.flags))

/-- HWLOC_MEMATTR_ID_MAX: ids below are the standard attributes -/
def memattrIdMax : Nat := 8

/-- the two `continue`s of hwloc__xml_export_memattrs: the virtual attributes (Capacity = 0, Locality = 1) and standard attributes
    without any target are not written -/
def exported (ia : Nat × MemAttr) : Bool :=
  !(ia.1 = 0 || ia.1 = 1) && !(decide (ia.1 < memattrIdMax) && ia.2.targets.isEmpty)

/-- hwloc__xml_export_memattrs over topology->memattrs[] (index = id) -/
def exportMemAttrs (l : List MemAttr) : List Elem :=
  (((List.range l.length).zip l).filter exported).map (fun ia => exportMemAttr ia.2)

/-- the six string pointers of hwloc__xml_import_memattr_value -/
structure VSt where
  tgp : Option Bytes := none
  tty : Option Bytes := none
  val : Option Bytes := none
  icpu : Option Bytes := none
  igp : Option Bytes := none
  ity : Option Bytes := none
deriving Repr, Inhabited

def mvLoop : List (Bytes × Bytes) → VSt → Option VSt
  | [], s => some s
  | (a, v) :: l, s =>
    if a = b "target_obj_gp_index" then mvLoop l { s with tgp := some v }
    else if a = b "target_obj_type" then mvLoop l { s with tty := some v }
    else if a = b "value" then mvLoop l { s with val := some v }
    else if a = b "initiator_cpuset" then mvLoop l { s with icpu := some v }
    else if a = b "initiator_obj_gp_index" then mvLoop l { s with igp := some v }
    else if a = b "initiator_obj_type" then mvLoop l { s with ity := some v }
    else none

/-- one call of hwloc_internal_memattr_set_value(topology, id, type, gp_index, -1, initiator, value) -/
structure Call where
  type : Nat
  gp : Nat
  init : Option Init
  value : Nat
deriving DecidableEq, Repr, Inhabited

def num (v : Bytes) (k : Nat → Res α) : Res α := match strtoulV v with | some n => k n | none => .outside

/-- the initiator part of hwloc__xml_import_memattr_value (flags has NEED_INITIATOR) -/
def importInit (s : VSt) : Res Init :=
  match s.icpu with
  | some cs => (match setScan cs with | .ok m => .ok (.cpuset m) | _ => .outside)
  | none =>
    match s.igp, s.ity with
    | some g, some t =>
      num g (fun g => match typeScan t with | some t => .ok (.obj t g) | none => .reject)
    | _, _ => .reject

/-- hwloc__xml_import_memattr_value; `flags` is the parent's flags variable ((unsigned long) -1 when the attribute was missing) -/
def importValue (flags : Nat) (e : Elem) : Res Call :=
  match mvLoop e.attrs {} with
  | none => .reject
  | some s =>
    match s.tty with
    | none => .reject
    | some tt =>
      match typeScan tt with
      | none => .reject
      | some ty =>
        match s.val, s.tgp with
        | some v, some g =>
          num g (fun g => num v (fun v =>
            (if needInit flags then (importInit s).bind (fun i => .ok (some i)) else .ok none).bind (fun i =>
              if e.content.isSome || !e.kids.isEmpty then .outside    -- the C never looks (no close_tag on this element)
              else .ok { type := ty, gp := g, init := i, value := v })))
        | _, _ => .reject

/-- attribute loop of hwloc__xml_import_memattr -/
def maLoop : List (Bytes × Bytes) → Option Bytes → Nat → Res (Option Bytes × Nat)
  | [], n, f => .ok (n, f)
  | (a, v) :: l, n, f =>
    if a = b "name" then maLoop l (some v) f
    else if a = b "flags" then num v (fun x => maLoop l n x)
    else .reject

def maKids (flags : Nat) : List Elem → List Call → Res (List Call)
  | [], acc => .ok acc
  | e :: es, acc =>
    if e.tag = tagMemattrValue then
      match importValue flags e with
      | .ok c => maKids flags es (acc ++ [c])
      | .reject => .reject
      | .outside => .outside
    else if e.tag = tagInfo then
      match infoChild e with
      | none => .reject
      | some _ => maKids flags es acc          -- ignored
    else .reject

/-- what hwloc__xml_import_memattr hands over: the name and flags for register / get_by_name (`name = none` or
    `flags = ULONG_MAX`: id stays -1 and the calls are dropped by the core) and the set_value calls in document order -/
structure MemAttrIn where
  name : Option Bytes
  flags : Nat
  calls : List Call
deriving DecidableEq, Repr, Inhabited

def ulongMax : Nat := 2 ^ 64 - 1

def importMemAttr (e : Elem) : Res MemAttrIn :=
  (maLoop e.attrs none ulongMax).bind (fun nf =>
    if e.content.isSome then .reject
    else (maKids nf.2 e.kids []).bind (fun cs => .ok { name := nf.1, flags := nf.2, calls := cs }))

/-- the calls the export of one attribute turns into -/
def callsOf (a : MemAttr) : List Call :=
  if needInit a.flags then
    a.targets.flatMap (fun t => t.inits.map (fun iv => { type := t.type, gp := t.gp, init := some iv.1, value := iv.2 }))
  else a.targets.map (fun t => { type := t.type, gp := t.gp, init := none, value := t.value })

def initValid : Init → Bool
  | .cpuset _ => true
  | .obj t g => decide (t < 20) && decide (g < 2 ^ 64)

def targetValid (t : MTarget) : Bool :=
  decide (t.type < 20) && decide (t.gp < 2 ^ 64) && decide (t.value < 2 ^ 64) &&
  t.inits.all (fun iv => initValid iv.1 && decide (iv.2 < 2 ^ 64))

def memAttrValid (a : MemAttr) : Bool := decide (a.flags < 2 ^ 64) && a.targets.all targetValid

/-- match_internal_location(new, existing): a cpuset initiator matches an existing one that INCLUDES it (hwloc_bitmap_isincluded),
    an object initiator one with the same type and gp_index -/
def matchInit (i x : Init) : Bool :=
  match i, x with
  | .cpuset m, .cpuset e => (m &&& e) == m
  | .obj t g, .obj t' g' => t == t' && g == g'
  | _, _ => false

/-- hwloc__memattr_target_get_initiator(create = 1) + the store of the value: the FIRST matching initiator, else a new last one -/
def setInit : List (Init × Nat) → Init → Nat → List (Init × Nat)
  | [], i, v => [(i, v)]
  | x :: l, i, v => if matchInit i x.1 then (x.1, v) :: l else x :: setInit l i v

def applyCall (t : MTarget) (c : Call) : MTarget :=
  match c.init with
  | some i => { t with inits := setInit t.inits i c.value }
  | none => { t with value := c.value }

def sameTarget (t : MTarget) (c : Call) : Bool := t.type == c.type && t.gp == c.gp

/-- hwloc__internal_memattr_set_value on the target array of one attribute: hwloc__memattr_get_target(create = 1) finds the FIRST
    target with that (type, gp_index) or appends one -/
def setValue : List MTarget → Call → List MTarget
  | [], c => [applyCall { type := c.type, gp := c.gp } c]
  | t :: l, c => if sameTarget t c then applyCall t c :: l else t :: setValue l c

def rebuild (cs : List Call) : List MTarget := cs.foldl setValue []

/-- the hypotheses under which the calls rebuild the exported array: the targets of an attribute are pairwise different objects
    (hwloc__memattr_get_target never creates a second entry for one object), and with NEED_INITIATOR every target has at least one
    initiator (a target without any is not written at all) and no initiator matches (match_internal_location: equal object, cpuset
    INCLUDED) one that precedes it in the array — otherwise the importer merges the two (known finding F59) -/
def distinctKeys : List MTarget → Bool
  | [] => true
  | t :: l => !(l.any (fun u => u.type == t.type && u.gp == t.gp)) && distinctKeys l

def distinctInits : List (Init × Nat) → Bool
  | [] => true
  | iv :: l => !(l.any (fun x => matchInit x.1 iv.1)) && distinctInits l        -- no later initiator matches an earlier one

def memAttrWF (a : MemAttr) : Bool :=
  distinctKeys a.targets && (!needInit a.flags || a.targets.all (fun t => !t.inits.isEmpty && distinctInits t.inits))

/-- what export + import keeps of one target: the initiator array when the attribute needs initiators, else the single value -/
def normTarget (flags : Nat) (t : MTarget) : MTarget :=
  if needInit flags then { t with value := 0 } else { t with inits := [] }

/-! ### distances -/

/-- one hwloc_internal_distances_s after hwloc_internal_distances_refresh -/
structure Dist where
  utype : Option Nat := none          -- unique_type (none = HWLOC_OBJ_TYPE_NONE)
  types : Option (List Nat) := none   -- different_types[] (some = heterogeneous)
  kind : Nat
  name : Option Bytes := none
  idx : List Nat                      -- indexes[] (os_index for PU / NUMA, gp_index otherwise; objs[]->gp_index when heterogeneous)
  values : List Nat                   -- nbobjs * nbobjs
deriving DecidableEq, Repr, Inhabited

def Dist.nbobjs (d : Dist) : Nat := d.idx.length

/-- maxperline of EXPORT_ARRAY / EXPORT_TYPE_GPINDEX_ARRAY as hwloc___xml_v2export_distances calls them -/
def perLine : Nat := 10

def chunksF {α : Type} (k : Nat) : Nat → List α → List (List α)
  | 0, _ => []
  | _ + 1, [] => []
  | f + 1, x :: l => (x :: l).take k :: chunksF k f ((x :: l).drop k)

/-- the `while (_i < nr)` loop of the macros: groups of `perLine` items, the last one shorter -/
def chunks {α : Type} (l : List α) : List (List α) := chunksF perLine l.length l

/-- one child element: every item is followed by a blank (`format " "`), `length` is the byte count -/
def chunkElem (tag : Bytes) (items : List Bytes) : Elem :=
  let ct := items.flatMap (fun s => s ++ [32])
  .mk tag [(b "length", decDigits ct.length)] (some ct) []

def homItem (i : Nat) : Bytes := decDigits i
def hetItem (ti : Nat × Nat) : Bytes := TypeStr.typeString ti.1 ++ [58] ++ decDigits ti.2

/-- HWLOC_DIST_TYPE_USE_OS_INDEX -/
def useOsIndex (t : Nat) : Bool := t == tPU || t == tNUMA

/-- the `name` attribute: through hwloc__xml_export_safestrdup, only when there is a name -/
def nameAttr : Option Bytes → List (Bytes × Bytes)
  | some s => [(b "name", Xml.sanitize s)]
  | none => []

/-- hwloc___xml_v2export_distances, v3 flags (no HOPS → LATENCY rewriting) -/
def exportDist (d : Dist) : Elem :=
  let n := d.nbobjs
  let nameA := nameAttr d.name
  match d.types with
  | some ts =>
    .mk tagDistHetero ([(b "nbobjs", decDigits n), (b "kind", decDigits d.kind)] ++ nameA) none
      ((chunks ((ts.zip d.idx).map hetItem)).map (chunkElem tagIndexes) ++ (chunks (d.values.map homItem)).map (chunkElem tagU64))
  | none =>
    .mk tagDist ([(b "type", TypeStr.typeString (d.utype.getD 0)), (b "nbobjs", decDigits n), (b "kind", decDigits d.kind)] ++ nameA ++
                 [(b "indexing", if useOsIndex (d.utype.getD 0) then b "os" else b "gp")]) none
      ((chunks (d.idx.map homItem)).map (chunkElem tagIndexes) ++ (chunks (d.values.map homItem)).map (chunkElem tagU64))

/-- hwloc__xml_v2export_distances: the homogeneous matrices first, then the heterogeneous ones -/
def exportDists (l : List Dist) : List Elem :=
  (l.filter (fun d => d.types.isNone)).map exportDist ++ (l.filter (fun d => d.types.isSome)).map exportDist

/-- the local variables of the attribute loop of hwloc__xml_import_distances -/
structure DSt where
  nbobjs : Nat := 0
  utype : Option Nat := none
  indexing : Bool
  os : Bool := false
  gp : Bool
  kind : Nat := 0
  gotkind : Bool := false
  name : Option Bytes := none
deriving Repr, Inhabited

def dLoop : List (Bytes × Bytes) → DSt → Res DSt
  | [], s => .ok s
  | (a, v) :: l, s =>
    if a = b "nbobjs" then num v (fun n => dLoop l { s with nbobjs := n % 2 ^ 32 })
    else if a = b "type" then (match typeScan v with | some t => dLoop l { s with utype := some t } | none => .reject)
    else if a = b "indexing" then
      dLoop l { s with indexing := true, os := s.os || v == b "os", gp := s.gp || v == b "gp" }
    else if a = b "kind" then num v (fun n => dLoop l { s with kind := n, gotkind := true })
    else if a = b "name" then dLoop l { s with name := some v }
    else dLoop l s                          -- unknown attributes are ignored

/-- the `while (1)` over one `<u64values>` / homogeneous `<indexes>` text: strtoull(tmp, &next, 0); stop when nothing was read, after a
    number not followed by a blank, or when `cap` numbers are there.  `none` = a sign (outside the strtoul model). -/
def numLoop : Nat → Bytes → List Nat → Nat → Option (List Nat)
  | 0, _, acc, _ => some acc
  | f + 1, s, acc, cap =>
    match strtoul 0 s with
    | .unsupported => none
    | .ok v rest =>
      if rest.length = s.length then some acc
      else
        let acc' := acc ++ [v]
        match rest with
        | 32 :: r => if acc'.length = cap then some acc' else numLoop f r acc' cap
        | _ => some acc'

/-- the same loop over a heterogeneous `<indexes>` text: `Type:index` items -/
def hetLoop : Nat → Bytes → List (Nat × Nat) → Nat → Res (List (Nat × Nat))
  | 0, _, acc, _ => .ok acc
  | f + 1, s, acc, cap =>
    if s.isEmpty then .ok acc
    else match typeScan s with
      | none => .reject
      | some t =>
        match (s.dropWhile (· ≠ 58)) with
        | [] => .reject                      -- no colon
        | _ :: s1 =>
          match strtoul 0 s1 with
          | .unsupported => .outside
          | .ok v rest =>
            if rest.length = s1.length then .ok acc
            else
              let acc' := acc ++ [(t, v)]
              match rest with
              | 32 :: r => if acc'.length = cap then .ok acc' else hetLoop f r acc' cap
              | _ => .ok acc'

structure DAcc where
  idx : List (Nat × Nat) := []        -- (different_types[i] (0 when homogeneous), indexes[i])
  vals : List Nat := []
deriving Repr, Inhabited

/-- `length` attribute + get_content of one child: the text the loops then walk (`none` = return -1) -/
def chunkText (e : Elem) : Option Bytes :=
  match e.attrs with
  | (a, v) :: _ =>
    if a ≠ b "length" then none
    else
      let len := Xml.atoi v
      if len < 0 then none
      else match e.content with
        | none => if len ≠ 0 then none else some []
        | some ct => if (ct.length : Int) ≠ len then none else some ct
  | [] => none

/-- the child loop of hwloc__xml_import_distances -/
def dKids (hetero : Bool) (n : Nat) : List Elem → DAcc → Res DAcc
  | [], acc => .ok acc
  | e :: es, acc =>
    if e.tag = tagInfo then .outside
    else if e.tag = tagIndexes then
      match chunkText e with
      | none => .reject
      | some ct =>
        if acc.idx.length ≥ n then .reject
        else
          let r : Res (List (Nat × Nat)) :=
            if hetero then hetLoop (ct.length + 1) ct acc.idx n
            else match numLoop (ct.length + 1) ct (acc.idx.map (·.2)) n with
              | some l => .ok (l.map (fun i => (0, i)))
              | none => .outside
          match r with
          | .ok idx => if !e.kids.isEmpty then .reject else dKids hetero n es { acc with idx := idx }
          | .reject => .reject
          | .outside => .outside
    else if e.tag = tagU64 then
      match chunkText e with
      | none => .reject
      | some ct =>
        if acc.vals.length ≥ n * n then .reject
        else match numLoop (ct.length + 1) ct acc.vals (n * n) with
          | some l => if !e.kids.isEmpty then .reject else dKids hetero n es { acc with vals := l }
          | none => .outside
    else .reject

/-- hwloc__xml_import_distances for a v3 document without HWLOC_TOPOLOGY_FLAG_NO_DISTANCES: `.ok none` = the element is valid but
    ignored (`goto out_ignore`), `.ok (some d)` = hwloc_internal_distances_add_by_index(name, unique_type, different_types, nbobjs,
    indexes, values, kind) -/
def importDist (hetero : Bool) (e : Elem) : Res (Option Dist) :=
  (dLoop e.attrs { indexing := hetero, gp := hetero }).bind (fun s =>
    if s.nbobjs = 0 || (!hetero && s.utype.isNone) || !s.indexing || !s.gotkind then .reject
    else if s.nbobjs > 0xffff then .reject
    else if e.content.isSome then .reject
    else (dKids hetero s.nbobjs e.kids {}).bind (fun acc =>
      if acc.idx.length ≠ s.nbobjs then .reject
      else if acc.vals.length ≠ s.nbobjs * s.nbobjs then .reject
      else if s.nbobjs < 2 then .ok none
      else if (match s.utype with | some t => useOsIndex t | none => false) then
        (if !s.os then .ok none else
          .ok (some { utype := s.utype, types := if hetero then some (acc.idx.map (·.1)) else none, kind := s.kind, name := s.name,
                      idx := acc.idx.map (·.2), values := acc.vals }))
      else if !s.gp then .ok none
      else .ok (some { utype := s.utype, types := if hetero then some (acc.idx.map (·.1)) else none, kind := s.kind, name := s.name,
                       idx := acc.idx.map (·.2), values := acc.vals })))

def distValid (d : Dist) : Bool :=
  decide (2 ≤ d.nbobjs) && decide (d.nbobjs ≤ 0xffff) && decide (d.values.length = d.nbobjs * d.nbobjs) &&
  decide (d.kind < 2 ^ 64) && d.idx.all (fun i => decide (i < 2 ^ 64)) && d.values.all (fun i => decide (i < 2 ^ 64)) &&
  (match d.types, d.utype with
   | none, some t => decide (t < 20)
   | some ts, none => decide (ts.length = d.nbobjs) && ts.all (fun t => decide (t < 20))
   | _, _ => false)

def normDist (d : Dist) : Dist := { d with name := d.name.map Xml.sanitize }

/-! ### the elements after the root object: the loop of hwloc_look_xml -/

structure Side where
  dists : List Dist := []
  memattrs : List MemAttrIn := []
  kinds : List Kind := []
  infos : List (Bytes × Bytes) := []
deriving DecidableEq, Repr, Inhabited

def exportSide (dists : List Dist) (memattrs : List MemAttr) (kinds : List Kind) (infos : List (Bytes × Bytes)) : List Elem :=
  exportDists dists ++ exportMemAttrs memattrs ++ exportKinds kinds ++ infos.map infoElem

def importSide : List Elem → Side → Res Side
  | [], s => .ok s
  | e :: es, s =>
    if e.tag = tagDist || e.tag = tagDistHetero then
      match importDist (e.tag = tagDistHetero) e with
      | .ok (some d) => importSide es { s with dists := s.dists ++ [d] }
      | .ok none => importSide es s
      | .reject => .reject
      | .outside => .outside
    else if e.tag = tagSupport then importSide es s           -- hwloc__xml_import_support: not modelled, never fails on an export
    else if e.tag = tagMemattr then
      match importMemAttr e with
      | .ok a => importSide es { s with memattrs := s.memattrs ++ [a] }
      | .reject => .reject
      | .outside => .outside
    else if e.tag = tagCpukind then
      match importKind e with
      | .ok k => importSide es { s with kinds := s.kinds ++ [k] }
      | .reject => .reject
      | .outside => .outside
    else if e.tag = tagInfo then
      match infoChild e with
      | none => .reject
      | some (some p) => importSide es { s with infos := s.infos ++ [p] }
      | some Option.none => importSide es s
    else .ok s                                                -- "ignoring unknown tag after root object": goto done

end Hw.XmlSide
