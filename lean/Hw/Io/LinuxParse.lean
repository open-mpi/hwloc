/-
  Hw.Io.LinuxParse — the pure parsers the Linux backend is built on (hwloc/topology-linux.c):

    hwloc__read_fd               buffer growth arithmetic for every pattern of read() return values
    hwloc__read_path_as_cpulist  "first[-last],…" kernel lists  (fill, then clear the gaps)
    hwloc__read_path_as_cpumask  comma-separated 32-bit hexadecimal groups, `maps[]` with its growth

  Files are byte lists.  The C code works on the NUL-terminated buffer returned by hwloc__read_fd, so
  only the bytes before the first NUL byte matter (`cstr`).  `strchr(current, ',')` + "continue after
  the comma" is rendered as splitting the buffer at commas (`splitComma`): neither `strtoul` nor
  `sscanf("%lx")` ever reads across a comma (a comma is no space, sign or digit).

  libc is modelled (trusted base, differential-tested through the parsers): `scanNum` is the number
  scanner shared by `strtoul(…, base)` and `sscanf("%lx")`, *with* sign characters (the C04 model
  `Hw.strtoul` declares them unsupported; `strtoulS_of_ok` shows the two agree wherever the latter is
  defined).
-/
import Hw.Base.Num
import Hw.Bitmap.Ops
namespace Hw.LinuxParse
open Hw

/-! ### libc: number scanning with signs -/

/-- optional `0x` prefix / octal detection, then the digits: (raw value, number of digits, rest) -/
def numBody (base : Nat) (s1 : List Byte) : Nat × Nat × List Byte :=
  let (b, s2) : Nat × List Byte :=
    match s1 with
    | 48 :: x :: d :: r =>
      if (x == 120 || x == 88) && isDigitIn 16 d && (base == 16 || base == 0) then (16, d :: r)
      else if base == 0 then (8, s1) else (base, s1)
    | 48 :: _ => if base == 0 then (8, s1) else (base, s1)
    | _ => if base == 0 then (10, s1) else (base, s1)
  takeDigits b s2 0 0

/-- value delivered by strtoul for raw digits value `v` and sign `neg`: saturation wins over negation -/
def signedVal (neg : Bool) (v : Nat) : Nat :=
  if ulongMax < v then ulongMax else if neg then (2^64 - v) % 2^64 else v

/-- the scanner: white space, optional sign, number.  `none` = no digits (no conversion) -/
def scanNum (base : Nat) (s : List Byte) : Option (Nat × List Byte) :=
  let s1 := s.dropWhile isSpace
  let (neg, s2) : Bool × List Byte :=
    match s1 with
    | 45 :: r => (true, r)
    | 43 :: r => (false, r)
    | _ => (false, s1)
  match numBody base s2 with
  | (v, n, rest) => if n = 0 then none else some (signedVal neg v, rest)

/-- `strtoul(s, &end, base)` with signs: (value, *end); no conversion = (0, s) -/
def strtoulS (base : Nat) (s : List Byte) : Nat × List Byte :=
  match scanNum base s with
  | some r => r
  | none => (0, s)

/-! ### the buffer -/

/-- the C string in the buffer: bytes before the first NUL -/
def cstr (bytes : List Byte) : List Byte := bytes.takeWhile (fun c => c != 0)

/-- pieces between commas; never empty -/
def splitComma : List Byte → List (List Byte)
  | [] => [[]]
  | c :: cs =>
    if c = 44 then [] :: splitComma cs
    else match splitComma cs with
      | p :: ps => (c :: p) :: ps
      | [] => [[c]]

/-! ### hwloc__read_fd -/

inductive RFRes
  | err                                           -- read() failed: -1, nothing returned
  | hang                                          -- the do/while loop never ends (only when *sizep = 0)
  | ok (filesize total alloc : Nat) (writes : List (Nat × Nat × Nat))
      -- final *sizep, totalread, bytes allocated, every read() as (offset, length stored, allocation then)
deriving Repr, DecidableEq

/-- one `read(fd, buf, count)`: the next scripted return value (clipped to `count`, as the kernel
guarantees); an exhausted script means end of file.  `none` = -1. -/
def nextRead (rets : List Int) (count : Nat) : Option Nat × List Int :=
  match rets with
  | [] => (some 0, [])
  | r :: rs => if r < 0 then (none, rs) else (some (min r.toNat count), rs)

/-- the `do { … } while (ret == toread)` loop; loop invariant on entry: `total = filesize + 1` -/
def rfLoop : Nat → List Int → Nat → Nat → List (Nat × Nat × Nat) → RFRes
  | 0, _, _, _, _ => .hang
  | fuel+1, rets, filesize, total, ws =>
    let toread := filesize
    let filesize := 2 * filesize
    let alloc := filesize + 1
    match nextRead rets toread with
    | (none, _) => .err
    | (some ret, rets) =>
      let ws := (toread + 1, ret, alloc) :: ws
      let total := total + ret
      if ret = toread then rfLoop fuel rets filesize total ws
      else .ok filesize total alloc ws

def readFd (size0 : Nat) (rets : List Int) : RFRes :=
  let alloc := size0 + 1
  match nextRead rets (size0 + 1) with
  | (none, _) => .err
  | (some ret, rets) =>
    let ws := [(0, ret, alloc)]
    if ret < size0 + 1 then .ok size0 ret alloc ws
    else rfLoop (rets.length + 2) rets size0 ret ws

/-! ### hwloc__read_path_as_cpulist -/

def intMax : Int := 2^31 - 1
def intMin : Int := -(2^31)

/-- `int x = (unsigned long) v` (gcc: reduction modulo 2^32 into the signed range) -/
def toInt32 (v : Nat) : Int :=
  let w : Nat := v % 2^32
  if w < 2^31 then (w : Int) else (w : Int) - 2^32

/-- bounds `(nextfirst, nextlast)` of one comma-separated piece -/
def parseSeg (p : List Byte) : Int × Int :=
  let r := strtoulS 0 p
  let first := toInt32 r.1
  match r.2 with
  | 45 :: t => (first, toInt32 (strtoulS 0 t).1)
  | _ => (first, first)

/-- `hwloc_bitmap_clr_range(set, (unsigned) b, (int) e)` for C `int`s b, e -/
def clrRangeC (s : Bitmap) (b e : Int) : Bitmap :=
  s.clrRange (b % 2^32).toNat (if e = -1 then none else some (e % 2^32).toNat)

structure CLState where
  set : Bitmap
  prevlast : Int
  ub : Bool := false          -- signed overflow in `prevlast+1` or `nextfirst-1` (undefined behaviour)
deriving Repr, DecidableEq

def clStep (st : CLState) (seg : Int × Int) : CLState :=
  if st.ub then st
  else if st.prevlast = intMax ∨ seg.1 = intMin then { st with ub := true }
  else
    { set := if st.prevlast + 1 ≤ seg.1 - 1 then clrRangeC st.set (st.prevlast + 1) (seg.1 - 1) else st.set,
      prevlast := seg.2, ub := false }

def clInit (dst : Bitmap) : CLState := { set := dst.fill, prevlast := -1 }

def clSegs (bytes : List Byte) : List (Int × Int) := (splitComma (cstr bytes)).map parseSeg

def clFinal (dst : Bitmap) (bytes : List Byte) : CLState := (clSegs bytes).foldl clStep (clInit dst)

/-- the whole parser on the content of an existing file; `none` = undefined behaviour (signed overflow) -/
def cpulist (dst : Bitmap) (bytes : List Byte) : Option Bitmap :=
  let st := clFinal dst bytes
  if st.ub ∨ st.prevlast = intMax then none
  else some (clrRangeC st.set (st.prevlast + 1) (-1))

/-- the control part of the loop alone (no bitmap): (prevlast, ub, largest unsigned index handed to an
effective `clr_range` call).  The differential domain is `maxIdx < 2^17` (the bitmap layer allocates up
to that index; C03 is stated below 2^31). -/
structure CLScan where
  prevlast : Int := -1
  ub : Bool := false
  maxIdx : Nat := 0
deriving Repr, DecidableEq

def scanStep (st : CLScan) (seg : Int × Int) : CLScan :=
  if st.ub then st
  else if st.prevlast = intMax ∨ seg.1 = intMin then { st with ub := true }
  else
    let b := ((st.prevlast + 1) % 2^32).toNat
    let e := ((seg.1 - 1) % 2^32).toNat
    let m := if st.prevlast + 1 ≤ seg.1 - 1 then
               (if seg.1 - 1 = -1 then max st.maxIdx b else if e < b then st.maxIdx else max st.maxIdx e)
             else st.maxIdx
    { prevlast := seg.2, ub := false, maxIdx := m }

def cpulistScan (bytes : List Byte) : CLScan := (clSegs bytes).foldl scanStep {}

/-- undefined behaviour is reached -/
def cpulistUB (bytes : List Byte) : Bool :=
  let r := cpulistScan bytes
  r.ub || decide (r.prevlast = intMax)

def cpulistMaxIdx (bytes : List Byte) : Nat :=
  let r := cpulistScan bytes
  if r.ub ∨ r.prevlast = intMax then r.maxIdx else max r.maxIdx ((r.prevlast + 1) % 2^32).toNat

/-! ### hwloc__read_path_as_cpumask -/

structure MState where
  maps : List Word := []                 -- maps[0 .. nr_maps)
  alloc : Nat                            -- nr_maps_allocated
  writes : List (Nat × Nat) := []        -- every `maps[i] = …` as (i, nr_maps_allocated at that time)
deriving Repr, DecidableEq

def MState.grow (st : MState) : MState :=
  if st.maps.length = st.alloc then { st with alloc := 2 * st.alloc } else st

def MState.push (st : MState) (m : Word) : MState :=
  { st with maps := st.maps ++ [m], writes := (st.maps.length, st.alloc) :: st.writes }

/-- the `while (sscanf(tmpbuf, "%lx", &map) == 1)` loop over the comma-separated pieces -/
def maskLoop : List (List Byte) → MState → MState
  | [], st => st
  | p :: ps, st =>
    match scanNum 16 p with
    | none => st
    | some (m, _) =>
      let st := st.grow
      match ps with
      | [] => st.push (BitVec.ofNat 64 m)                       -- no comma follows: store and stop
      | q :: qs =>
        if m = 0 ∧ st.maps.length = 0 then maskLoop (q :: qs) st  -- leading empty map: ignored
        else maskLoop (q :: qs) (st.push (BitVec.ofNat 64 m))

/-- `mask = maps[nr_maps-2i-1] | maps[nr_maps-2i-2] << 32` -/
def maskWord (maps : List Word) (i : Nat) : Word :=
  let n := maps.length
  let lo := maps.getD (n - 2*i - 1) 0#64
  if 2*i + 1 < n then lo ||| (maps.getD (n - 2*i - 2) 0#64 <<< 32) else lo

def maskState (alloc0 : Nat) (bytes : List Byte) : MState :=
  maskLoop (splitComma (cstr bytes)) { alloc := alloc0 }

def maskSet (dst : Bitmap) (maps : List Word) : Bitmap :=
  (List.range ((maps.length + 1) / 2)).foldl (fun s i => s.setIthUlong i (maskWord maps i)) dst.zero

/-- the whole parser on the content of an existing file (`alloc0` = the static `_nr_maps_allocated`) -/
def cpumask (dst : Bitmap) (alloc0 : Nat) (bytes : List Byte) : Bitmap :=
  maskSet dst (maskState alloc0 bytes).maps

/-! ### what the kernel writes (used by the specification theorems) -/

def renderItem (it : Nat × Nat) : List Byte :=
  if it.1 = it.2 then decDigits it.1 else decDigits it.1 ++ [45] ++ decDigits it.2

/-- `a` / `a-b` items joined by commas, then a newline -/
def renderList : List (Nat × Nat) → List Byte
  | [] => [10]
  | [it] => renderItem it ++ [10]
  | it :: rest => renderItem it ++ [44] ++ renderList rest

/-- ascending, disjoint, from `lo` on and below 2^31-1 -/
def AscFrom : Nat → List (Nat × Nat) → Prop
  | _, [] => True
  | lo, (a, b) :: rest => lo ≤ a ∧ a ≤ b ∧ b + 1 < 2^31 ∧ AscFrom (b + 1) rest

/-- 32-bit groups printed as the kernel does (`%08x`), most significant first, joined by commas, newline -/
def renderMask : List Nat → List Byte
  | [] => [10]
  | [g] => hexPad 8 g ++ [10]
  | g :: rest => hexPad 8 g ++ [44] ++ renderMask rest

end Hw.LinuxParse
