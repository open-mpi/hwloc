/-
  Hw.Io.SyntheticFilter — the type filters in force when a synthetic description is loaded, and the NUMA census of a
  description: which NUMA nodes (os_index, local memory, memory-side cache, PUs) must exist after load WHATEVER the filters
  of the normal object types are (hwloc__look_synthetic builds a level's objects only when the level's type is kept, but
  inserts the NUMA nodes attached to the level in any case; NUMA nodes and PUs cannot be filtered).

  * `effFilters`   hwloc__topology_filter_init + a sequence of hwloc_topology_set_type_filter calls (at most one per type)
  * `census`       the NUMA nodes of an accepted description, in level order / creation order
-/
import Hw.Io.Synthetic
namespace Hw.Syn
open Hw Hw.Topo

/-! ### type filters -/

def fKeepAll : Nat := 0
def fKeepNone : Nat := 1
def fKeepStructure : Nat := 2
def fKeepImportant : Nat := 3

/-- hwloc__topology_filter_init: everything kept except instruction caches, MemCache, I/O and Misc; Groups KEEP_STRUCTURE -/
def initFilters : List Nat := [0, 0, 0, 0, 0, 0, 0, 0, 0, 0, 1, 1, 1, 2, 0, 1, 1, 1, 1, 1]

/-- the configuration of the engine for a description given without filters: I-caches and MemCache KEEP_ALL on top of the
defaults -/
def legacyReq : List (Option Nat) :=
  (List.range tMAX).map (fun t => if (tL1I ≤ t ∧ t ≤ tL3I) ∨ t = tMEMCACHE then some 0 else none)

def isSpecialT (t : Nat) : Bool := t == tBRIDGE || t == tPCI || t == tOSDEV || t == tMISC

/-- hwloc__topology_set_type_filter on a topology whose filter of `t` is `cur`: the new filter (a refused request, -1/EINVAL,
leaves it unchanged) -/
def setFilter (t cur v : Nat) : Nat :=
  if t = tPU ∨ t = tNUMA ∨ t = tMACHINE then (if v ≠ fKeepAll then cur else fKeepAll)
  else if isSpecialT t then (if v = fKeepStructure then cur else v)
  else if t = tGROUP then (if v = fKeepAll ∨ v = fKeepImportant then cur else v)
  else if v = fKeepImportant then fKeepAll
  else v

def applyReq (t : Nat) (r : Option Nat) : Nat :=
  match r with
  | none => initFilters[t]?.getD 0
  | some v => setFilter t (initFilters[t]?.getD 0) v

/-- filters in force at load: `req[t] = some v` = hwloc_topology_set_type_filter(topology, t, v) was called after init -/
def effFilters (req : List (Option Nat)) : List Nat :=
  (List.range tMAX).map (fun t => applyReq t (req[t]?.getD none))

theorem effFilters_get (req : List (Option Nat)) (t : Nat) (ht : t < tMAX) :
    (effFilters req)[t]?.getD 0 = applyReq t (req[t]?.getD none) := by
  unfold effFilters
  simp [List.getElem?_map, List.getElem?_range ht]

/-- hwloc_filter_check_keep_object_type -/
def keeps (f : List Nat) (t : Nat) : Bool := f[t]?.getD 0 != fKeepNone

/-- hwloc_topology_set_type_filter refuses everything but KEEP_ALL for PUs, NUMA nodes and the Machine, and
hwloc__topology_filter_init keeps them all: whatever is requested, they are kept -/
theorem keeps_unfilterable (req : List (Option Nat)) (t : Nat) (ht : t = tPU ∨ t = tNUMA ∨ t = tMACHINE) :
    keeps (effFilters req) t = true := by
  have hinit : initFilters[t]?.getD 0 = fKeepAll := by rcases ht with rfl | rfl | rfl <;> rfl
  unfold keeps
  rw [effFilters_get req t (by rcases ht with rfl | rfl | rfl <;> decide)]
  cases req[t]?.getD none with
  | none => rw [applyReq, hinit]; rfl
  | some v => rw [applyReq, setFilter, if_pos ht, hinit, ite_self]; rfl

/-! ### the NUMA census -/

structure NumaRec where
  os : Nat       -- os_index
  mem : Nat      -- local memory
  msc : Nat      -- size of the memory-side cache in front of it (0 = none)
  cpus : Nat     -- bit mask of the PU os_indexes of its cpuset
deriving Repr, DecidableEq

/-- PUs below object `c` (creation number) of a level of `width` objects; `pu` = PU os_index by creation number -/
def cpusOf (pu : List Nat) (puW width c : Nat) : Nat :=
  let w := puW / width
  (List.range w).foldl (fun s j => s ||| (1 <<< (pu[c * w + j]?.getD 0))) 0

/-- creation number, among all attached NUMA nodes, of slot `s` of object `c` of level `i`: hwloc__look_synthetic inserts the
nodes attached to an object after the whole subtree of the object (`ws` = level widths, `att` = attached nodes per object) -/
def attPos (ws att : List Nat) (i c s : Nat) : Nat :=
  let wi := ws[i]?.getD 1
  ((List.range ws.length).map (fun e =>
    let we := ws[e]?.getD 1
    let ae := att[e]?.getD 0
    if e > i then (c + 1) * (we / wi) * ae
    else if e = i then c * ae
    else (c / (wi / we)) * ae)).sum + s

def idxAt (a : Option (List Nat)) (c : Nat) : Nat :=
  match a with
  | some arr => arr[c]?.getD 0
  | none => c

/-- the NUMA nodes contributed by level `i`: those attached to each of its objects, and the objects themselves for a
NUMANode level.  `mc` = the MemCache type is kept -/
def censusLevel (mc : Bool) (numaIdx : Option (List Nat)) (pu : List Nat) (puW : Nat) (ws att : List Nat) (i : Nat) (l : Level) :
    List NumaRec :=
  (List.range l.width).flatMap (fun c =>
    (List.range l.attached.length).map (fun s =>
      let a := l.attached[s]?.getD {}
      ({ os := idxAt numaIdx (attPos ws att i c s), mem := a.mem, msc := if mc then a.msc else 0,
         cpus := cpusOf pu puW l.width c } : NumaRec))) ++
  (if 1 ≤ i ∧ l.attr.type = tNUMA then
    (List.range l.width).map (fun c =>
      ({ os := idxAt l.idx.arr c, mem := l.attr.mem, msc := if mc then l.attr.msc else 0, cpus := cpusOf pu puW l.width c } : NumaRec))
   else [])

/-- every NUMA node an accepted description describes.  The filters of the normal types do not appear: a NUMA node exists
whether or not the level it is attached to is built -/
def census (mc : Bool) (p : Parsed) : List NumaRec :=
  let L := p.levels
  let pul := lvAt L (L.length - 1)
  let pu := pul.idx.arr.getD (List.range pul.width)
  let ws := L.map (·.width)
  let att := L.map (·.attached.length)
  (List.range L.length).flatMap (fun i => censusLevel mc p.numaIdx.arr pu pul.width ws att i (lvAt L i))

/-- number of NUMA nodes written in the description -/
def describedNumas (p : Parsed) : Nat :=
  ((List.range p.levels.length).map (fun i =>
    let l := lvAt p.levels i
    l.width * l.attached.length + (if 1 ≤ i ∧ l.attr.type = tNUMA then l.width else 0))).sum

theorem censusLevel_length (mc : Bool) (numaIdx : Option (List Nat)) (pu : List Nat) (puW : Nat) (ws att : List Nat) (i : Nat) (l : Level) :
    (censusLevel mc numaIdx pu puW ws att i l).length =
      l.width * l.attached.length + (if 1 ≤ i ∧ l.attr.type = tNUMA then l.width else 0) := by
  unfold censusLevel
  rw [List.length_append, List.length_flatMap]
  congr 1
  · simp only [List.length_map, List.length_range]
    rw [List.map_const', List.sum_replicate_nat, List.length_range]
  · split <;> simp

theorem census_length (mc : Bool) (p : Parsed) : (census mc p).length = describedNumas p := by
  unfold census describedNumas
  rw [List.length_flatMap]
  congr 1
  apply List.map_congr_left
  intro i _
  exact censusLevel_length ..

/-- only the memory-side cache sizes depend on a filter (the MemCache one) -/
theorem census_filter_indep (a b : Bool) (p : Parsed) :
    (census a p).map (fun r => (r.os, r.mem, r.cpus)) = (census b p).map (fun r => (r.os, r.mem, r.cpus)) := by
  unfold census
  simp only [List.map_flatMap]
  congr 1
  funext i
  unfold censusLevel
  simp only [List.map_append, List.map_flatMap, List.map_map]
  congr 1
  split <;> simp [Function.comp_def]

end Hw.Syn
