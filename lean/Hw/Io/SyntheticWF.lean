/-
  Hw.Io.SyntheticWF — the clauses of `Hw.Topo.WF` that are about the types, depths, attributes or the sets of one object, for
  `toDump t` under `topoOK` (`cl_*`, `tc_*`: one lemma per clause), and `lookup_*`: `obj?` of an arithmetic DFS id is the
  object it was computed for.
-/
import Hw.Io.SyntheticTree
import Hw.Topo.WFLemmas0
namespace Hw.Syn
open Hw Hw.Topo

/-! ### lookup by id -/

theorem lookup_of_mem (t : Topo) (o : Obj) (ho : o ∈ (toDump t).objs) : (toDump t).obj? (o.id : Int) = some o := by
  obtain ⟨i, hi, rfl⟩ := List.getElem_of_mem ho
  rw [toDump_getElem_id t i hi, Dump.obj?_natCast, List.getElem?_eq_getElem hi]

theorem lookup_normal (t : Topo) (d k : Nat) (hd : d ≤ (mkTab t).D) (hk : k < nOf (mkTab t) d) :
    (toDump t).obj? (nid (mkTab t) d k : Int) = some (normalObj (envOf t) d k) :=
  lookup_of_mem t _ (normalObj_mem t d k hd hk)

theorem lookup_mc (t : Topo) (d k s : Nat) (hd : d ≤ (mkTab t).D) (hk : k < nOf (mkTab t) d) (hs : s < memLen (mkTab t) d)
    (hm : (slotM (envOf t) d s).msc ≠ 0) : (toDump t).obj? (memId (mkTab t) d k s : Int) = some (mcObj (envOf t) d k s) := by
  rw [← envOf_T, ← mcObj_id]; exact lookup_of_mem t _ (mcObj_mem t d k s hd hk hs hm)

theorem lookup_numa (t : Topo) (d k s : Nat) (hd : d ≤ (mkTab t).D) (hk : k < nOf (mkTab t) d) (hs : s < memLen (mkTab t) d) :
    (toDump t).obj? (numaId (mkTab t) d k s : Int) = some (numaObj (envOf t) d k s) := by
  rw [← envOf_T, ← numaObj_id]; exact lookup_of_mem t _ (numaObj_mem t d k s hd hk hs)

/-! ### WF clauses, one lemma each (stated by clause name; the body is looked up by its position in `Hw.Topo.objClauses`) -/

section
variable (t : Topo) (h : OK t)
include h

theorem cl_type_in_range (o : Obj) (ho : o ∈ (toDump t).objs) :
    objClause "type-in-range" (toDump t) (mkAux (toDump t)) o = true := by
  rw [objClause_of_getElem? (k := 1) rfl]
  simp only [decide_eq_true_eq]
  cases objs_kind t o ho with
  | normal d k hd hk e =>
    rw [e, normalObj_type]
    exact (normal_facts _ (lt14_of_normal (ntype_normal t h d hd))).2.2.2.2.2.2.1
  | numa d k s hd hk hs e => rw [e]; show tNUMA < tMAX; decide
  | mc d k s hd hk hs hm e => rw [e]; show tMEMCACHE < tMAX; decide

theorem cl_not_filtered (o : Obj) (ho : o ∈ (toDump t).objs) :
    objClause "not-filtered-out" (toDump t) (mkAux (toDump t)) o = true := by
  rw [objClause_of_getElem? (k := 2) rfl]
  simp only [bne_iff_ne, ne_eq]
  show ¬ (defaultFilters[o.type]?).getD 0 = 1
  cases objs_kind t o ho with
  | normal d k hd hk e =>
    rw [e, normalObj_type]
    exact (normal_facts _ (lt14_of_normal (ntype_normal t h d hd))).2.2.2.2.2.2.2.1
  | numa d k s hd hk hs e => rw [e]; show ¬ (defaultFilters[tNUMA]?).getD 0 = 1; decide
  | mc d k s hd hk hs hm e => rw [e]; show ¬ (defaultFilters[tMEMCACHE]?).getD 0 = 1; decide

theorem cl_sets_presence (o : Obj) (ho : o ∈ (toDump t).objs) :
    objClause "sets-presence" (toDump t) (mkAux (toDump t)) o = true := by
  rw [objClause_of_getElem? (k := 14) rfl]
  cases objs_kind t o ho with
  | normal d k hd hk e =>
    have hf := normal_facts _ (lt14_of_normal (ntype_normal t h d hd))
    have hty := normalObj_type t d k
    simp only [e, hty, hf.2.2.2.2.2.1]
    rfl
  | numa d k s hd hk hs e => rw [e]; rfl
  | mc d k s hd hk hs hm e => rw [e]; rfl

omit h in
theorem cl_set_in_complete (o : Obj) (ho : o ∈ (toDump t).objs) :
    objClause "set-in-complete" (toDump t) (mkAux (toDump t)) o = true := by
  rw [objClause_of_getElem? (k := 15) rfl]
  cases objs_kind t o ho with
  | normal d k hd hk e => rw [e]; simp only [normalObj, Option.getD_some, subset_refl, Bool.and_self]
  | numa d k s hd hk hs e => rw [e]; simp only [numaObj, Option.getD_some, subset_refl, Bool.and_self]
  | mc d k s hd hk hs hm e => rw [e]; simp only [mcObj, Option.getD_some, subset_refl, Bool.and_self]

end

theorem cpusetOf_last (t : Topo) (h : OK t) (k : Nat) :
    cpusetOf (envOf t) (mkTab t).D k = single (t.puIdx[k]?.getD 0) := by
  unfold cpusetOf
  have hp := nOf_pos t h (mkTab t).D (Nat.le_refl _)
  have : (mkTab t).n[(mkTab t).D]?.getD 1 / (mkTab t).n[(mkTab t).D]?.getD 1 = 1 := Nat.div_self hp
  simp only [envOf_T, this]
  simp [orBits, single, envOf_t]

section
variable (t : Topo) (h : OK t)
include h

theorem puObj_osidx (k : Nat) : (normalObj (envOf t) (mkTab t).D k).osidx = ((t.puIdx[k]?.getD 0 : Nat) : Int) := by
  have hd0 : (mkTab t).D ≠ 0 := by rw [mkTab_D]; have := h.ne; omega
  rw [normalObj_osidx t _ k hd0, mkTab_D, h.puOs]
  simp only [List.getElem?_map]
  cases t.puIdx[k]? <;> rfl

theorem cl_pu_cpuset (o : Obj) (ho : o ∈ (toDump t).objs) :
    objClause "pu-cpuset" (toDump t) (mkAux (toDump t)) o = true := by
  rw [objClause_of_getElem? (k := 17) rfl]
  cases objs_kind t o ho with
  | normal d k hd hk e =>
    simp only [e, normalObj_type, beq_iff_eq]
    split
    · rename_i hpu
      obtain rfl := (ntype_pu t h d hd).1 hpu
      rw [puObj_osidx t h k, normalObj_cpuset, normalObj_ccpuset, cpusetOf_last t h]
      simp
    · rfl
  | numa d k s hd hk hs e => rw [e]; rfl
  | mc d k s hd hk hs hm e => rw [e]; rfl

theorem cl_numa_nodeset (o : Obj) (ho : o ∈ (toDump t).objs) :
    objClause "numa-nodeset" (toDump t) (mkAux (toDump t)) o = true := by
  rw [objClause_of_getElem? (k := 18) rfl]
  cases objs_kind t o ho with
  | normal d k hd hk e =>
    have hf := normal_facts _ (lt14_of_normal (ntype_normal t h d hd))
    simp only [e, normalObj_type, beq_iff_eq, hf.1, if_false]
  | numa d k s hd hk hs e =>
    rw [e]
    simp [numaObj, single, tNUMA]
  | mc d k s hd hk hs hm e => rw [e]; rfl

omit h in
theorem cache_is (x : Nat) : (isDCache x = true → isCacheT x = true) ∧ (isICache x = true → isCacheT x = true) := by
  unfold isDCache isICache isCacheT tL1 tL5 tL1I tL3I
  simp only [Bool.and_eq_true, decide_eq_true_eq]
  omega

theorem cl_cache_attrs (o : Obj) (ho : o ∈ (toDump t).objs) :
    objClause "cache-attrs" (toDump t) (mkAux (toDump t)) o = true := by
  rw [objClause_of_getElem? (k := 26) rfl]
  cases objs_kind t o ho with
  | normal d k hd hk e =>
    by_cases hd0 : d = 0
    · subst hd0; rw [e]; rfl
    · have hc := h.cache (d - 1) (Nat.sub_one_lt_of_le (Nat.pos_of_ne_zero hd0) hd)
      subst e
      simp only [normalObj_type, ntype, if_neg hd0, normalObj_attrs t d k hd0]
      -- on a cache level the clause is `OK.cache` with Boolean connectives
      by_cases h1 : isDCache (lvl t (d - 1)).type = true
      · simpa only [if_pos h1, if_pos ((cache_is _).1 h1), List.getElem?_cons_succ, List.getElem?_cons_zero, Option.getD_some,
          Bool.and_eq_true, Bool.or_eq_true, beq_iff_eq, Int.natCast_inj] using hc.1 h1
      · rw [if_neg h1]
        by_cases h2 : isICache (lvl t (d - 1)).type = true
        · simpa only [if_pos h2, if_pos ((cache_is _).2 h2), List.getElem?_cons_succ, List.getElem?_cons_zero, Option.getD_some,
            Bool.and_eq_true, beq_iff_eq, Int.natCast_inj] using hc.2 h2
        · rw [if_neg h2]
  | numa d k s hd hk hs e => rw [e]; rfl
  | mc d k s hd hk hs hm e => rw [e]; rfl

omit h in
theorem groupNo_le (t : Topo) (d : Nat) : (envOf t).groupNo[d]?.getD 0 ≤ (mkTab t).D := by
  show ((List.range ((mkTab t).D + 1)).map (fun d => (((mkTab t).types.take d).filter (· == tGROUP)).length))[d]?.getD 0 ≤ _
  by_cases hd : d < (mkTab t).D + 1
  · simp only [List.getElem?_map, List.getElem?_range hd, Option.map_some, Option.getD_some]
    refine Nat.le_trans (List.length_filter_le _ _) ?_
    rw [List.length_take]; omega
  · rw [List.getElem?_eq_none (by simpa using hd)]; simp

theorem cl_group_depth (o : Obj) (ho : o ∈ (toDump t).objs) :
    objClause "group-depth" (toDump t) (mkAux (toDump t)) o = true := by
  rw [objClause_of_getElem? (k := 27) rfl]
  cases objs_kind t o ho with
  | normal d k hd hk e =>
    by_cases hd0 : d = 0
    · subst hd0; rw [e]; rfl
    · have hty : ntype t d = (lvl t (d - 1)).type := by unfold ntype; rw [if_neg hd0]
      simp only [e, normalObj_type, hty, beq_iff_eq]
      by_cases hg : (lvl t (d - 1)).type = tGROUP
      · have hnc : isCacheT tGROUP = false := rfl
        simp only [normalObj_attrs t d k hd0, hnc, Bool.false_eq_true, if_false, hg, if_true, List.getElem?_cons_zero,
          Option.getD_some, bne_iff_ne, ne_eq]
        have h1 := groupNo_le t d
        have h2 := h.short
        rw [mkTab_D] at h1
        omega
      · rw [if_neg hg]
  | numa d k s hd hk hs e => rw [e]; rfl
  | mc d k s hd hk hs hm e => rw [e]; rfl

end

/-! ### parents -/

theorem lookup_parent_normal (t : Topo) (d k : Nat) (hd : d < (mkTab t).D) (hk : k < nOf (mkTab t) (d + 1)) :
    (toDump t).obj? (normalObj (envOf t) (d + 1) k).parent = some (normalObj (envOf t) d (k / arOf (mkTab t) d)) := by
  rw [(normalObj_parent t d k hd).1]
  exact lookup_normal t d _ (Nat.le_of_lt hd) (div_lt_parent t d k hd hk).2

theorem lookup_parent_root (t : Topo) (k : Nat) : (toDump t).obj? (normalObj (envOf t) 0 k).parent = none := rfl

theorem lookup_parent_numa (t : Topo) (d k s : Nat) (hd : d ≤ (mkTab t).D) (hk : k < nOf (mkTab t) d) (hs : s < memLen (mkTab t) d) :
    (toDump t).obj? (numaObj (envOf t) d k s).parent =
      some (if (slotM (envOf t) d s).msc ≠ 0 then mcObj (envOf t) d k s else normalObj (envOf t) d k) := by
  rw [numaObj_parent]
  split
  · rename_i hm; exact lookup_mc t d k s hd hk hs hm
  · exact lookup_normal t d k hd hk

theorem lookup_parent_mc (t : Topo) (d k s : Nat) (hd : d ≤ (mkTab t).D) (hk : k < nOf (mkTab t) d) :
    (toDump t).obj? (mcObj (envOf t) d k s).parent = some (normalObj (envOf t) d k) :=
  lookup_normal t d k hd hk

section
variable (t : Topo) (h : OK t)
include h

theorem cl_memory_child_cpuset (o : Obj) (ho : o ∈ (toDump t).objs) :
    objClause "memory-child-shares-cpuset" (toDump t) (mkAux (toDump t)) o = true := by
  rw [objClause_of_getElem? (k := 20) rfl]
  cases objs_kind t o ho with
  | normal d k hd hk e =>
    cases d with
    | zero => rw [e]; rfl
    | succ d =>
      have hd' : d < (mkTab t).D := hd
      have hf := normal_facts _ (lt14_of_normal (ntype_normal t h (d + 1) hd))
      simp only [e, lookup_parent_normal t d k hd' hk, normalObj_type, hf.2.2.1, Bool.false_eq_true, if_false]
  | numa d k s hd hk hs e =>
    simp only [e, lookup_parent_numa t d k s hd hk hs]
    have hmem : isMemory tNUMA = true := rfl
    by_cases hm : (slotM (envOf t) d s).msc ≠ 0
    · simp only [if_pos hm, numaObj_type, hmem, if_true, numaObj_cpuset, mcObj_cpuset, beq_self_eq_true]
    · simp only [if_neg hm, numaObj_type, hmem, if_true, numaObj_cpuset, normalObj_cpuset, beq_self_eq_true]
  | mc d k s hd hk hs hm e =>
    have hmem : isMemory tMEMCACHE = true := rfl
    simp only [e, lookup_parent_mc t d k s hd hk, mcObj_type, hmem, if_true, mcObj_cpuset, normalObj_cpuset, beq_self_eq_true]

end

/-! ### levels; `allowed-sets`, `gp-index-unique` -/

def normalLevel (t : Topo) (d : Nat) : Topo.Level :=
  ⟨(d : Int), (((mkTab t).types[d]?.getD 0 : Nat) : Int), (List.range ((mkTab t).n[d]?.getD 0)).map (fun k => (nid (mkTab t) d k : Int))⟩

def specialLevels (t : Topo) : List Topo.Level :=
  [⟨-3, 14, (envOf t).numaL⟩, ⟨-4, 16, []⟩, ⟨-5, 17, []⟩, ⟨-6, 18, []⟩, ⟨-7, 19, []⟩, ⟨-8, 15, (envOf t).mcL⟩]

theorem toDump_levels (t : Topo) :
    (toDump t).levels = (List.range ((mkTab t).D + 1)).map (normalLevel t) ++ specialLevels t := rfl

theorem types_get (t : Topo) (d : Nat) (hd : d ≤ (mkTab t).D) : (mkTab t).types[d]?.getD 0 = ntype t d := by
  show (tMACHINE :: t.levels.map NLevel.type)[d]?.getD 0 = _
  unfold ntype
  cases d with
  | zero => rfl
  | succ d =>
    rw [mkTab_D] at hd
    have hlt : d < t.levels.length := hd
    simp [lvl, List.getElem?_eq_getElem hlt]

section
variable (t : Topo) (h : OK t)
include h

omit h in
theorem tc_allowed_sets : topClause "allowed-sets" (toDump t) (mkAux (toDump t)) = true := by
  rw [topClause_of_getElem? (k := 11) rfl]
  have h0 : (toDump t).objs[0]? = some (normalObj (envOf t) 0 0) := by
    have := lookup_normal t 0 0 (Nat.zero_le _) (by rw [nOf_zero]; exact Nat.one_pos)
    exact this
  have h1 : (toDump t).allowedCpuset = some (cpusetOf (envOf t) 0 0) := rfl
  have h2 : (toDump t).allowedNodeset = some (nodesetOf (envOf t) 0 0) := rfl
  simp only [h0, h1, h2, normalObj_cpuset, normalObj_nodeset, Option.isSome_some, Option.getD_some, subset_refl, beq_self_eq_true,
    Bool.and_self, Bool.or_true]

omit h in
theorem obj_gp_id (o : Obj) (ho : o ∈ (toDump t).objs) : o.gp = o.id := by
  cases objs_kind t o ho with
  | normal d k hd hk e => rw [e]; rfl
  | numa d k s hd hk hs e => rw [e]; rfl
  | mc d k s hd hk hs hm e => rw [e]; rfl

omit h in
theorem tc_gp_unique : topClause "gp-index-unique" (toDump t) (mkAux (toDump t)) = true := by
  rw [topClause_of_getElem? (k := 14) rfl]
  simp only [decide_eq_true_eq]
  have : (toDump t).objs.map (·.gp) = (toDump t).objs.map (·.id) :=
    List.map_congr_left (fun o ho => obj_gp_id t o ho)
  rw [this, toDump_ids]
  exact List.nodup_range

end

end Hw.Syn
