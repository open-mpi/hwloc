/-
  Hw.Io.LinuxParseLemmas — safety facts about the Linux file parsers for ARBITRARY inputs:
  hwloc__read_fd stays inside its allocation for every pattern of read() return values; the cpulist
  parser's result is defined exactly when no signed overflow occurs, and is then a finite well-formed
  bitmap.  (The specification theorems for well-formed kernel files are in
  LinuxParseList.lean / LinuxParseMask.lean.)
-/
import Hw.Io.LinuxParseList
import Hw.Io.LinuxParseMask
namespace Hw.LinuxParse
open Hw

/-! ### hwloc__read_fd -/

/-- every read() stores inside the current allocation, the final NUL store `buffer[totalread]` too, and
the allocation is `*sizep + 1` -/
def RFRes.Safe : RFRes → Prop
  | .err => True
  | .hang => False
  | .ok filesize total alloc ws => alloc = filesize + 1 ∧ total < alloc ∧ ∀ w ∈ ws, w.1 + w.2.1 ≤ w.2.2

theorem nextRead_cases (rets : List Int) (count : Nat) :
    (∃ rs, nextRead rets count = (none, rs)) ∨
    ∃ ret rs, nextRead rets count = (some ret, rs) ∧ ret ≤ count ∧ (ret = 0 ∨ rs.length < rets.length) := by
  cases rets with
  | nil => exact .inr ⟨0, [], rfl, Nat.zero_le _, .inl rfl⟩
  | cons r rs =>
    by_cases hr : r < 0
    · exact .inl ⟨rs, by simp only [nextRead, hr, if_true]⟩
    · exact .inr ⟨min r.toNat count, rs, by simp only [nextRead, hr, if_false], Nat.min_le_right _ _,
        .inr (Nat.lt_succ_self _)⟩

theorem rfLoop_safe (fuel : Nat) : ∀ (rets : List Int) (filesize total : Nat) (ws : List (Nat × Nat × Nat)),
    rets.length < fuel → 0 < filesize → total = filesize + 1 → (∀ w ∈ ws, w.1 + w.2.1 ≤ w.2.2) →
    (rfLoop fuel rets filesize total ws).Safe := by
  induction fuel with
  | zero => exact fun _ _ _ _ h => absurd h (Nat.not_lt_zero _)
  | succ fuel ih =>
    intro rets filesize total ws hlen hpos htot hws
    unfold rfLoop
    rcases nextRead_cases rets filesize with ⟨rs, h⟩ | ⟨ret, rs, h, hle, hrs⟩ <;> simp only [h]
    · trivial
    · have hws' : ∀ w ∈ (filesize + 1, ret, 2 * filesize + 1) :: ws, w.1 + w.2.1 ≤ w.2.2 :=
        List.forall_mem_cons.mpr ⟨by simp only; omega, hws⟩
      by_cases he : ret = filesize
      · -- a full read is not empty, so it took an element off the script
        have hlt := Nat.lt_of_lt_of_le (hrs.resolve_left (he ▸ Nat.ne_of_gt hpos)) (Nat.le_of_lt_succ hlen)
        rw [if_pos he]
        exact ih rs _ _ _ hlt (Nat.mul_pos (by decide) hpos) (by omega) hws'
      · rw [if_neg he]
        exact ⟨rfl, by omega, hws'⟩

/-! ### cpulist on arbitrary bytes -/

/-- the state has reached (or will reach at the final `prevlast+1`) signed overflow -/
def CLState.Bad (st : CLState) : Prop := st.ub = true ∨ st.prevlast = intMax

theorem clStep_bad (st : CLState) (seg : Int × Int) :
    (clStep st seg).Bad ↔ st.Bad ∨ seg.1 = intMin ∨ seg.2 = intMax := by
  unfold clStep CLState.Bad
  by_cases hub : st.ub = true
  · simp [hub]
  · by_cases hc : st.prevlast = intMax ∨ seg.1 = intMin
    · simp only [hub, hc, if_true]
      rcases hc with h | h <;> simp [h]
    · simp only [hub, if_false, hc]
      have h1 : ¬ st.prevlast = intMax := fun h => hc (Or.inl h)
      have h2 : ¬ seg.1 = intMin := fun h => hc (Or.inr h)
      simp [h1, h2]

theorem clFold_bad (segs : List (Int × Int)) : ∀ st : CLState,
    (segs.foldl clStep st).Bad ↔ st.Bad ∨ ∃ seg ∈ segs, seg.1 = intMin ∨ seg.2 = intMax := by
  induction segs with
  | nil => intro st; simp
  | cons s rest ih =>
    intro st
    rw [List.foldl_cons, ih, clStep_bad]
    constructor
    · rintro ((h | h) | ⟨seg, hm, h⟩)
      · exact Or.inl h
      · exact Or.inr ⟨s, List.mem_cons_self, h⟩
      · exact Or.inr ⟨seg, List.mem_cons_of_mem _ hm, h⟩
    · rintro (h | ⟨seg, hm, h⟩)
      · exact Or.inl (Or.inl h)
      · rcases List.mem_cons.mp hm with e | e
        · subst e; exact Or.inl (Or.inr h)
        · exact Or.inr ⟨seg, e, h⟩

theorem clInit_not_bad (dst : Bitmap) : ¬ (clInit dst).Bad := by
  unfold CLState.Bad clInit intMax; simp

theorem clrRangeC_inv (s : Bitmap) (b e : Int) (h : s.Inv) : (clrRangeC s b e).Inv := by
  unfold clrRangeC; exact Bitmap.clrRange_inv _ _ _ h

theorem clStep_inv (st : CLState) (seg : Int × Int) (h : st.set.Inv) : (clStep st seg).set.Inv := by
  unfold clStep
  split
  · exact h
  · split
    · exact h
    · simp only
      split
      · exact clrRangeC_inv _ _ _ h
      · exact h

theorem clFold_inv (segs : List (Int × Int)) (st : CLState) (h : st.set.Inv) : (segs.foldl clStep st).set.Inv :=
  List.foldlRecOn segs clStep h fun st h seg _ => clStep_inv st seg h

theorem CLState.cut_eq_none (st : CLState) : st.cut = none ↔ st.Bad := by
  unfold CLState.cut CLState.Bad
  split <;> simp [*]

theorem CLState.cut_some (st : CLState) (b : Bitmap) (h : st.cut = some b) (hi : st.set.Inv) : b.Inv ∧ b.inf = false := by
  unfold CLState.cut at h
  split at h
  · cases h
  · cases h
    exact ⟨clrRangeC_inv _ _ _ hi, by unfold clrRangeC; rw [if_pos rfl]; exact Bitmap.clrRange_none_inf _ _⟩

theorem cpulist_dst (dst dst' : Bitmap) (bytes : List Byte) : cpulist dst bytes = cpulist dst' bytes := rfl

end Hw.LinuxParse
