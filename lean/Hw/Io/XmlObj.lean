/-
  Hw.Io.XmlObj — the object level of the XML round trip (v3 format): which attributes
  hwloc__xml_export_object_contents writes in the start tag of one `<object>` (`exportAttrs`: names, order, formatted
  values) and what hwloc__xml_import_object_attr + the checks of hwloc__xml_import_object make of an attribute list
  (`importAttrs`).

  `ObjFields` = the fields of an object that the start tag carries: type, os_index, gp_index, the four sets (and the
  topology's allowed sets on the root), name, subtype, the attribute union as harness/dump.h prints it (a0..a5) and, for PCI
  devices and bridges with a PCI upstream side, the `pcidev` fields (a0..a5 of a bridge describe its bridge part).
  OUTSIDE the start tag (child elements; `<info>` is here): infos, page types, userdata, children.
  Not modelled: floating point — `pci_link_speed` is carried as the text that `%f` printed (the importer's atof is trusted).

  Values are byte strings (`List Nat`), as in Hw.Io.Xml.
-/
import Hw.Io.Xml
import Hw.Io.TypeStr
import Hw.Io.Calc
import Hw.Bitmap.Print
import Hw.Bitmap.Scan
namespace Hw.XmlObj
open Hw Hw.Topo

abbrev Bytes := List Nat

structure PciFields where
  domain : Nat
  bus : Nat
  dev : Nat
  func : Nat
  classId : Nat
  vendor : Nat
  device : Nat
  subvendor : Nat
  subdevice : Nat
  revision : Nat
  progIf : Nat
  linkspeed : Bytes
deriving DecidableEq, Repr, Inhabited

structure ObjFields where
  type : Nat
  osidx : Option Nat            -- none = HWLOC_UNKNOWN_INDEX
  gp : Nat
  cpuset : Option Nat
  ccpuset : Option Nat
  nodeset : Option Nat
  cnodeset : Option Nat
  allowed : Option (Nat × Nat)  -- root only: topology->allowed_cpuset / allowed_nodeset
  name : Option Bytes
  subtype : Option Bytes
  attrs : List Int              -- a0..a5
  pci : Option PciFields
deriving DecidableEq, Repr, Inhabited

def ObjFields.a (f : ObjFields) (i : Nat) : Int := f.attrs.getD i 0
def ObjFields.n (f : ObjFields) (i : Nat) : Nat := (f.a i).toNat

def isCacheT (t : Nat) : Bool := decide (tL1 ≤ t) && decide (t ≤ tL3I)      -- hwloc__obj_type_is_cache
def isCacheLike (t : Nat) : Bool := isCacheT t || t == tMEMCACHE           -- the types whose attr union is `cache`
def isSpecialT (t : Nat) : Bool := t == tBRIDGE || t == tPCI || t == tOSDEV || t == tMISC
def isNormalT (t : Nat) : Bool := decide (t ≤ tGROUP)
def isMemoryT (t : Nat) : Bool := t == tNUMA || t == tMEMCACHE
def isIOT (t : Nat) : Bool := t == tBRIDGE || t == tPCI || t == tOSDEV

/-! ### formatting -/

/-- `hwloc_bitmap_asprintf` of a finite set given as a mask (hwloc format, C04 model) -/
def setText (m : Nat) : Bytes := text (Calc.ofMask m).chunksHwloc

inductive SetScan
  | ok (m : Nat)
  | infinite            -- outside `ObjFields` (never exported for a loaded topology)
  | unsupported
deriving DecidableEq, Repr

/-- `hwloc_bitmap_sscanf` into a (freshly allocated or existing) set; on a parse error the destination is zeroed -/
def setScan (s : Bytes) : SetScan :=
  match Bitmap.hwlocScan s with
  | .ok ws inf =>
    if inf then .infinite
    else match ws.mapM id with
      | some w => .ok (Calc.maskOf ⟨w, false⟩ 0)
      | none => .unsupported
  | .fail => .ok 0
  | .unsupported => .unsupported

/-- a `%x` conversion with field width `w` (`none` = unlimited): at least one, at most `w` hex digits, either case.
    (Leading white space, signs and `0x` prefixes, which scanf also accepts, are not modelled: the exporter writes none.) -/
def scanHex (w : Option Nat) (s : Bytes) : Option (Nat × Bytes) :=
  let pre := match w with | some k => s.take k | none => s
  let r := takeDigits 16 pre 0 0
  if r.2.1 = 0 then none else some (r.1, s.drop r.2.1)

/-- `%u` / `%lu` of sscanf on an unsigned decimal text -/
def scanDec (s : Bytes) : Option (Nat × Bytes) :=
  let r := takeDigits 10 s 0 0
  if r.2.1 = 0 then none else some (r.1, r.2.2)

def expect (c : Nat) (s : Bytes) : Option Bytes := match s with | x :: r => if x = c then some r else none | [] => none
/-- a blank in a scanf format: any amount of white space, also none -/
def skipWs (s : Bytes) : Bytes := s.dropWhile isSpace

/-- `sscanf(value, "%x:%02x:%02x.%01x", ...) == 4` -/
def scanBusid (s : Bytes) : Option (Nat × Nat × Nat × Nat) := do
  let (d, s) ← scanHex none s
  let s ← expect 58 s
  let (b, s) ← scanHex (some 2) s
  let s ← expect 58 s
  let (dv, s) ← scanHex (some 2) s
  let s ← expect 46 s
  let (f, _) ← scanHex (some 1) s
  pure (d, b, dv, f)

/-- `"%x [%04x:%04x] [%04x:%04x] %02x %02x"` (7 conversions) with the 6-conversion fallback of hwloc < 3 files -/
def scanPciType (s : Bytes) : Option (Nat × Nat × Nat × Nat × Nat × Nat × Nat) := do
  let (c, s) ← scanHex none s
  let s ← expect 91 (skipWs s)
  let (v, s) ← scanHex (some 4) s
  let s ← expect 58 s
  let (d, s) ← scanHex (some 4) s
  let s ← expect 93 s
  let s ← expect 91 (skipWs s)
  let (sv, s) ← scanHex (some 4) s
  let s ← expect 58 s
  let (sd, s) ← scanHex (some 4) s
  let s ← expect 93 s
  let (r, s) ← scanHex (some 2) (skipWs s)
  match scanHex (some 2) (skipWs s) with
  | some (p, _) => pure (c, v, d, sv, sd, r, p)
  | none => pure (c, v, d, sv, sd, r, 0)

/-- `sscanf(value, "%x:[%02x-%02x]", ...) == 3` -/
def scanBridgePci (s : Bytes) : Option (Nat × Nat × Nat) := do
  let (d, s) ← scanHex none s
  let s ← expect 58 s
  let s ← expect 91 s
  let (a, s) ← scanHex (some 2) s
  let s ← expect 45 s
  let (b, _) ← scanHex (some 2) s
  pure (d, a, b)

/-- `sscanf(value, "%u-%u", ...) == 2` -/
def scanBridgeType (s : Bytes) : Option (Nat × Nat) := do
  let (u, s) ← scanDec s
  let s ← expect 45 s
  let (d, _) ← scanDec s
  pure (u, d)

/-- strtoul / strtoull base 10 of a whole attribute value (`none` only for a sign: outside the modelled domain) -/
def strtoulV (s : Bytes) : Option Nat := match strtoul 10 s with | .ok v _ => some v | .unsupported => none

/-- `hwloc_type_sscanf(value, &type, NULL, 0)` -/
def typeScan (s : Bytes) : Option Nat :=
  match TypeStr.typeSscanf s with
  | .ok (some p) => some p.type
  | _ => none

/-! ### export -/

def b (s : String) : Bytes := str s

def pciAttrs (p : PciFields) : List (Bytes × Bytes) :=
  [ (b "pci_busid", hexPad 4 p.domain ++ [58] ++ hexPad 2 p.bus ++ [58] ++ hexPad 2 p.dev ++ [46] ++ hexPad 1 p.func),
    (b "pci_type", hexPad 4 p.classId ++ b " [" ++ hexPad 4 p.vendor ++ [58] ++ hexPad 4 p.device ++ b "] [" ++ hexPad 4 p.subvendor ++ [58] ++
        hexPad 4 p.subdevice ++ b "] " ++ hexPad 2 p.revision ++ [32] ++ hexPad 2 p.progIf),
    (b "pci_link_speed", p.linkspeed) ]

/-- the `switch (obj->type)` of the exporter -/
def typeAttrs (f : ObjFields) : List (Bytes × Bytes) :=
  if f.type = tNUMA then
    (if f.n 0 ≠ 0 then [(b "local_memory", decDigits (f.n 0))] else [])
  else if isCacheLike f.type then
    [ (b "cache_size", decDigits (f.n 0)), (b "depth", decDigits (f.n 1)), (b "cache_linesize", decDigits (f.n 2)),
      (b "cache_associativity", Xml.printInt (f.a 3)), (b "cache_type", Xml.printInt (f.a 4)) ]
  else if f.type = tGROUP then
    [ (b "kind", decDigits (f.n 1)), (b "subkind", decDigits (f.n 2)) ] ++ (if f.a 3 ≠ 0 then [(b "dont_merge", b "1")] else [])
  else if f.type = tBRIDGE then
    [ (b "bridge_type", Xml.printInt (f.a 0) ++ [45] ++ Xml.printInt (f.a 1)), (b "depth", decDigits (f.n 2)) ] ++
    (if f.a 1 = 1 then [(b "bridge_pci", hexPad 4 (f.n 3) ++ b ":[" ++ hexPad 2 (f.n 4) ++ [45] ++ hexPad 2 (f.n 5) ++ [93])] else []) ++
    (if f.a 0 = 1 then pciAttrs (f.pci.getD default) else [])
  else if f.type = tPCI then pciAttrs (f.pci.getD default)
  else if f.type = tOSDEV then [(b "osdev_type", decDigits (f.n 0))]
  else []

def strAttr (name : String) (v : Option Bytes) : List (Bytes × Bytes) :=
  match v with | some s => [(b name, Xml.sanitize s)] | none => []

def osSeg (os : Option Nat) : List (Bytes × Bytes) :=
  match os with | some i => [(b "os_index", decDigits i)] | none => []

/-- `if (obj->cpuset) { ... }`: the four sets, with the topology's allowed sets on the root -/
def setsSeg (root : Bool) (f : ObjFields) : List (Bytes × Bytes) :=
  match f.cpuset with
  | some c =>
    [(b "cpuset", setText c), (b "complete_cpuset", setText (f.ccpuset.getD 0))] ++
    (if root then [(b "allowed_cpuset", setText ((f.allowed.getD (0, 0)).1))] else []) ++
    [(b "nodeset", setText (f.nodeset.getD 0)), (b "complete_nodeset", setText (f.cnodeset.getD 0))] ++
    (if root then [(b "allowed_nodeset", setText ((f.allowed.getD (0, 0)).2))] else [])
  | none => []

/-- the attributes of the start tag of one object, in the order hwloc__xml_export_object_contents writes them (v3) -/
def exportAttrs (root : Bool) (f : ObjFields) : List (Bytes × Bytes) :=
  [(b "type", TypeStr.typeString f.type)] ++ osSeg f.osidx ++ setsSeg root f ++
  [(b "gp_index", decDigits f.gp), (b "id", b "obj" ++ decDigits f.gp)] ++
  strAttr "name" f.name ++ strAttr "subtype" f.subtype ++ typeAttrs f

/-! ### import -/

inductive ImportRes
  | ok (f : ObjFields)
  | ignored            -- *ignore = 1: the object is dropped, not an error
  | reject             -- goto error_with_object
  | outside            -- outside the modelled domain (infinite set, signed number, no type attribute)
deriving DecidableEq, Repr

structure ISt where
  f : ObjFields
  gotType : Bool := false
  ignored : Bool := false
  allowedC : Option Nat := none
  allowedN : Option Nat := none
  bad : Option ImportRes := none
deriving Repr

def setAttr (f : ObjFields) (i : Nat) (v : Int) : ObjFields := { f with attrs := f.attrs.set i v }
def updPci (f : ObjFields) (g : PciFields → PciFields) : ObjFields := { f with pci := some (g (f.pci.getD default)) }

def withNum (st : ISt) (v : Bytes) (k : Nat → ISt) : ISt :=
  match strtoulV v with | some n => k n | none => { st with bad := some .outside }

def withSet (st : ISt) (v : Bytes) (k : Nat → ISt) : ISt :=
  match setScan v with
  | .ok m => k m
  | .infinite => { st with bad := some .outside }
  | .unsupported => { st with bad := some .outside }

inductive AttrKind
  | osIndex | gpIndex | id | cpuset | ccpuset | allowedCpuset | nodeset | cnodeset | allowedNodeset | name | subtype
  | cacheSize | cacheLinesize | cacheAssoc | cacheType | localMemory | depth | kind | subkind | dontMerge
  | pciBusid | pciType | pciLinkSpeed | bridgeType | bridgePci | osdevType | other
deriving DecidableEq, Repr

/-- the `strcmp(name, ...)` chain of hwloc__xml_import_object_attr, in source order -/
def attrKind (name : Bytes) : AttrKind :=
  if name = b "os_index" then .osIndex
  else if name = b "gp_index" then .gpIndex
  else if name = b "id" then .id
  else if name = b "cpuset" then .cpuset
  else if name = b "complete_cpuset" then .ccpuset
  else if name = b "allowed_cpuset" then .allowedCpuset
  else if name = b "nodeset" then .nodeset
  else if name = b "complete_nodeset" then .cnodeset
  else if name = b "allowed_nodeset" then .allowedNodeset
  else if name = b "name" then .name
  else if name = b "subtype" then .subtype
  else if name = b "cache_size" then .cacheSize
  else if name = b "cache_linesize" then .cacheLinesize
  else if name = b "cache_associativity" then .cacheAssoc
  else if name = b "cache_type" then .cacheType
  else if name = b "local_memory" then .localMemory
  else if name = b "depth" then .depth
  else if name = b "kind" then .kind
  else if name = b "subkind" then .subkind
  else if name = b "dont_merge" then .dontMerge
  else if name = b "pci_busid" then .pciBusid
  else if name = b "pci_type" then .pciType
  else if name = b "pci_link_speed" then .pciLinkSpeed
  else if name = b "bridge_type" then .bridgeType
  else if name = b "bridge_pci" then .bridgePci
  else if name = b "osdev_type" then .osdevType
  else .other          -- numanode_type and unknown attributes are ignored

/-- hwloc__xml_import_object_attr for every attribute except `type`.  C truncations to the field widths are applied
    (`unsigned`, `unsigned char`, `unsigned short`). -/
def importAttr (root : Bool) (st : ISt) (name v : Bytes) : ISt :=
  let f := st.f
  let t := f.type
  match attrKind name with
  | .osIndex => withNum st v (fun n => { st with f := { f with osidx := if n % 2^32 = 2^32 - 1 then none else some (n % 2^32) } })
  | .gpIndex => withNum st v (fun n => { st with f := { f with gp := n } })
  | .id => (if (b "obj").isPrefixOf v then withNum st (v.drop 3) (fun n => { st with f := { f with gp := n } }) else st)
  | .cpuset => withSet st v (fun m => { st with f := { f with cpuset := some m } })
  | .ccpuset => withSet st v (fun m => { st with f := { f with ccpuset := some m } })
  | .allowedCpuset => (if root then withSet st v (fun m => { st with allowedC := some m }) else st)
  | .nodeset => withSet st v (fun m => { st with f := { f with nodeset := some m } })
  | .cnodeset => withSet st v (fun m => { st with f := { f with cnodeset := some m } })
  | .allowedNodeset => (if root then withSet st v (fun m => { st with allowedN := some m }) else st)
  | .name => { st with f := { f with name := some v } }
  | .subtype => { st with f := { f with subtype := some v } }
  | .cacheSize => withNum st v (fun n => if isCacheLike t then { st with f := setAttr f 0 n } else st)
  | .cacheLinesize => withNum st v (fun n => if isCacheLike t then { st with f := setAttr f 2 (n % 2^32) } else st)
  | .cacheAssoc => (if isCacheLike t then { st with f := setAttr f 3 (Xml.atoi v) } else st)
  | .cacheType => withNum st v (fun n => if isCacheLike t ∧ (n = 0 ∨ n = 1 ∨ n = 2) then { st with f := setAttr f 4 n } else st)
  | .localMemory => withNum st v (fun n => if t = tNUMA then { st with f := setAttr f 0 n } else st)
  | .depth => withNum st v (fun n => if isCacheLike t then { st with f := setAttr f 1 (n % 2^32) } else st)
  | .kind => withNum st v (fun n => if t = tGROUP then { st with f := setAttr f 1 (n % 2^32) } else st)
  | .subkind => withNum st v (fun n => if t = tGROUP then { st with f := setAttr f 2 (n % 2^32) } else st)
  | .dontMerge => withNum st v (fun n => if t = tGROUP then { st with f := setAttr f 3 (n % 256) } else st)
  | .pciBusid =>
    (if t = tPCI ∨ t = tBRIDGE then
      match scanBusid v with
      | some (d, bu, dv, fn) =>
        let f' := updPci f (fun p => { p with domain := d % 2^32, bus := bu % 256, dev := dv % 256, func := fn % 256 })
        { st with f := if t = tPCI then setAttr (setAttr (setAttr (setAttr f' 0 (d % 2^32)) 1 (bu % 256)) 2 (dv % 256)) 3 (fn % 256) else f' }
      | none => { st with ignored := true }
     else st)
  | .pciType =>
    (if t = tPCI ∨ t = tBRIDGE then
      match scanPciType v with
      | some (c, ve, de, sv, sd, r, p) =>
        let f' := updPci f (fun q => { q with classId := c % 65536, vendor := ve % 65536, device := de % 65536, subvendor := sv % 65536,
                                              subdevice := sd % 65536, revision := r % 256, progIf := p % 256 })
        { st with f := if t = tPCI then setAttr (setAttr f' 4 (c % 65536)) 5 ((ve % 65536) * 65536 + de % 65536) else f' }
      | none => st
     else st)
  | .pciLinkSpeed => (if t = tPCI ∨ t = tBRIDGE then { st with f := updPci f (fun p => { p with linkspeed := v }) } else st)
  | .bridgeType =>
    (if t = tBRIDGE then
      match scanBridgeType v with
      | some (u, d) => { st with f := setAttr (setAttr f 0 (u % 2^32)) 1 (d % 2^32) }
      | none => st
     else st)
  | .bridgePci =>
    (if t = tBRIDGE then
      match scanBridgePci v with
      | some (d, s1, s2) => { st with f := setAttr (setAttr (setAttr f 3 (d % 2^32)) 4 (s1 % 256)) 5 (s2 % 256) }
      | none => { st with ignored := true }
     else st)
  | .osdevType => (if t = tOSDEV then match scanDec v with | some (n, _) => { st with f := setAttr f 0 n } | none => st else st)
  | .other => st

def emptyFields (t : Nat) : ObjFields :=
  { type := t, osidx := none, gp := 0, cpuset := none, ccpuset := none, nodeset := none, cnodeset := none, allowed := none,
    name := none, subtype := none, attrs := [0, 0, 0, 0, 0, 0], pci := none }

/-- the attribute loop of hwloc__xml_import_object: `type` may come only once (a second one is an error); the other
    attributes are interpreted with the type known so far (objects are allocated with HWLOC_OBJ_TYPE_MAX, the root is the
    Machine object) -/
def importLoop (root : Bool) : ISt → List (Bytes × Bytes) → ISt
  | st, [] => st
  | st, (name, v) :: rest =>
    if st.bad.isSome then st
    else if name = b "type" then
      if st.gotType then { st with bad := some .reject }
      else match typeScan v with
        | some t => importLoop root { st with gotType := true, f := { st.f with type := t } } rest
        | none => { st with bad := some .reject }     -- (the Tile / Module / Cluster spellings of future types are not modelled)
    else importLoop root (importAttr root st name v) rest

/-- hwloc_cache_type_by_depth_type -/
def cacheTypeBy (depth : Nat) (ty : Int) : Option Nat :=
  if ty = 2 then (if 1 ≤ depth ∧ depth ≤ 3 then some (tL1I + depth - 1) else none)
  else (if 1 ≤ depth ∧ depth ≤ 5 then some (tL1 + depth - 1) else none)

def popcountIs1 (m : Nat) : Bool := m ≠ 0 && (m &&& (m - 1)) == 0

/-- context of the object inside the file -/
structure Ctx where
  root : Bool
  parentType : Nat := 0            -- meaningful when not root
  parentHasSets : Bool := true     -- parent->cpuset / parent->nodeset non-NULL

/-- the checks of hwloc__xml_import_object after the attributes (v3 files; the type filter, applied afterwards, is outside) -/
def checks (c : Ctx) (f : ObjFields) : Bool :=
  let t := f.type
  (if c.root then t == tMACHINE else t != tMACHINE) &&
  (c.root ||
    (!(c.parentType == tPU && isNormalT t) &&
     (if isNormalT t then isNormalT c.parentType
      else if isMemoryT t then !(isIOT c.parentType || c.parentType == tMISC || c.parentType == tNUMA)
      else if isIOT t then !(isMemoryT c.parentType || c.parentType == tMISC)
      else true))) &&
  (!isCacheT t || cacheTypeBy (f.n 1) (f.a 4) == some t) &&
  (t != tBRIDGE || (f.a 1 == 1 && (f.a 0 == 0 || f.a 0 == 1))) &&
  (isSpecialT t || (f.cpuset.isSome && f.nodeset.isSome && f.ccpuset.isSome && f.cnodeset.isSome)) &&
  (!isSpecialT t || (f.cpuset.isNone && f.nodeset.isNone)) &&
  (t != tPU || (match f.cpuset, f.osidx with | some m, some i => popcountIs1 m && m.testBit i | _, _ => false)) &&
  (t != tNUMA || (match f.nodeset, f.osidx with | some m, some i => popcountIs1 m && m.testBit i | _, _ => false)) &&
  (c.root || c.parentHasSets || (f.cpuset.isNone && f.nodeset.isNone))

/-- what the importer makes of the attribute list of one `<object>` start tag -/
def importAttrs (c : Ctx) (l : List (Bytes × Bytes)) : ImportRes :=
  let st := importLoop c.root { f := emptyFields (if c.root then tMACHINE else tMAX) } l
  match st.bad with
  | some r => r
  | none =>
    if !st.gotType && !c.root then .outside
    else
      let f := { st.f with allowed := if c.root then some (st.allowedC.getD 0, st.allowedN.getD 0) else none }
      if !checks c f then .reject
      else if st.ignored then .ignored
      else .ok f

/-! ### validity and normalisation -/

/-- what the exporter does to the strings, and the two derived attributes the importer leaves to the core
    (a Group's and a Bridge's `depth`) -/
def normalise (f : ObjFields) : ObjFields :=
  { f with name := f.name.map Xml.sanitize, subtype := f.subtype.map Xml.sanitize,
           attrs := if f.type = tGROUP then f.attrs.set 0 0 else if f.type = tBRIDGE then f.attrs.set 2 0 else f.attrs }

def pciValid (p : PciFields) : Bool :=
  decide (p.domain < 2^32) && decide (p.bus < 256) && decide (p.dev < 256) && decide (p.func < 16) && decide (p.classId < 65536) &&
  decide (p.vendor < 65536) && decide (p.device < 65536) && decide (p.subvendor < 65536) && decide (p.subdevice < 65536) &&
  decide (p.revision < 256) && decide (p.progIf < 256) && p.linkspeed.all (· != 0)

def nonneg (f : ObjFields) : Bool := f.attrs.all (fun x => decide (0 ≤ x))

/-- the attribute union (a0..a5 and the pcidev part) holds what the object's type allows, within the C field widths -/
def attrsValid (f : ObjFields) : Bool :=
  f.attrs.length == 6 &&
  (if f.type = tNUMA then decide (0 ≤ f.a 0) && decide (f.n 0 < 2^64) && f.a 1 == 0 && f.a 2 == 0 && f.a 3 == 0 && f.a 4 == 0 && f.a 5 == 0 && f.pci.isNone
   else if isCacheLike f.type then
     decide (0 ≤ f.a 0) && decide (f.n 0 < 2^64) && decide (0 ≤ f.a 1) && decide (f.n 1 < 2^32) && decide (0 ≤ f.a 2) && decide (f.n 2 < 2^32) &&
     decide (-(2^31 : Int) ≤ f.a 3) && decide (f.a 3 < 2^31) && (f.a 4 == 0 || f.a 4 == 1 || f.a 4 == 2) && f.a 5 == 0 && f.pci.isNone
   else if f.type = tGROUP then
     decide (0 ≤ f.a 0) && decide (0 ≤ f.a 1) && decide (f.n 1 < 2^32) && decide (0 ≤ f.a 2) && decide (f.n 2 < 2^32) && (f.a 3 == 0 || f.a 3 == 1) &&
     f.a 4 == 0 && f.a 5 == 0 && f.pci.isNone
   else if f.type = tBRIDGE then
     (f.a 0 == 0 || f.a 0 == 1) && f.a 1 == 1 && decide (0 ≤ f.a 2) && decide (f.n 2 < 2^32) && decide (0 ≤ f.a 3) && decide (f.n 3 < 2^32) && decide (0 ≤ f.a 4) && decide (f.n 4 < 256) &&
     decide (0 ≤ f.a 5) && decide (f.n 5 < 256) &&
     (if f.a 0 = 1 then (match f.pci with | some p => pciValid p | none => false) else f.pci.isNone)
   else if f.type = tPCI then
     (match f.pci with
      | some p => pciValid p && f.a 0 == p.domain && f.a 1 == p.bus && f.a 2 == p.dev && f.a 3 == p.func && f.a 4 == p.classId &&
                  f.a 5 == (p.vendor * 65536 + p.device : Nat)
      | none => false)
   else if f.type = tOSDEV then decide (0 ≤ f.a 0) && decide (f.n 0 < 2^64) && f.a 1 == 0 && f.a 2 == 0 && f.a 3 == 0 && f.a 4 == 0 && f.a 5 == 0 && f.pci.isNone
   else f.attrs == [0, 0, 0, 0, 0, 0] && f.pci.isNone)

/-- what a well-formed object of a loaded topology satisfies, as far as the start tag is concerned (decidable):
    field widths, NUL-free strings, the four sets present together, allowed sets on the root only, a consistent attribute
    union, and the structural checks the importer itself makes (`checks`) -/
def Valid (c : Ctx) (f : ObjFields) : Bool :=
  decide (f.type < tMAX) && decide (f.gp < 2^64) &&
  (match f.osidx with | some i => decide (i < 2^32 - 1) | none => true) &&
  (match f.name with | some s => s.all (· != 0) | none => true) && (match f.subtype with | some s => s.all (· != 0) | none => true) &&
  (if c.root then f.allowed.isSome else f.allowed.isNone) &&
  (f.cpuset.isSome == f.ccpuset.isSome) && (f.cpuset.isSome == f.nodeset.isSome) && (f.cpuset.isSome == f.cnodeset.isSome) &&
  attrsValid f && checks c f

/-! ### `<info>` child elements (object infos, topology infos, cpukind infos) -/

/-- hwloc__xml_export_info_attr: both strings go through safestrdup -/
def exportInfo (p : Bytes × Bytes) : List (Bytes × Bytes) := [(b "name", Xml.sanitize p.1), (b "value", Xml.sanitize p.2)]

inductive InfoRes
  | pair (p : Bytes × Bytes)     -- the pair is added
  | none                         -- name or value missing: nothing is added (not an error)
  | error                        -- an attribute other than name / value: return -1
deriving DecidableEq, Repr

def infoLoop : List (Bytes × Bytes) → Option Bytes → Option Bytes → Option (Option Bytes × Option Bytes)
  | [], n, v => some (n, v)
  | (a, x) :: l, n, v =>
    if a = b "name" then infoLoop l (some x) v
    else if a = b "value" then infoLoop l n (some x)
    else Option.none

/-- hwloc___xml_import_info + hwloc__xml_import_obj_info for a v3 file -/
def importInfo (l : List (Bytes × Bytes)) : InfoRes :=
  match infoLoop l Option.none Option.none with
  | some (some n, some v) => .pair (n, v)
  | some _ => .none
  | Option.none => .error

end Hw.XmlObj
