/-
  Hw.Io.SyntheticMkNode — what `mkNode` builds, as far as the PU order is concerned: the leaves of the subtree are a
  permutation of the window of the PU index sequence that it consumes (`mkNode_perm`), arranged so that `Ord` holds as soon as
  they are duplicate-free (`mkNode_ord_of_nodup`).
-/
import Hw.Io.SyntheticOrd
import Hw.Io.SyntheticDumpLemmas
import Hw.Base.InsertSort
import Hw.Io.SyntheticTopo
namespace Hw.Syn
open Hw Hw.Topo

/-! ### the pieces of `mkNode` -/

def kidStep (pu : List Nat) (rest att' : List Nat) (osf' : List (Nat → Int)) (acc : List Node × (Nat × Nat)) (_ : Nat) :
    List Node × (Nat × Nat) :=
  (acc.1 ++ [(mkNode pu rest att' osf' acc.2).1], (mkNode pu rest att' osf' acc.2).2)

def kidsFold (pu : List Nat) (rest att' : List Nat) (osf' : List (Nat → Int)) (n : Nat) (st : Nat × Nat) :
    List Node × (Nat × Nat) :=
  (List.range n).foldl (kidStep pu rest att' osf') ([], st)

def sortK (kids : List Node) : List Node := kids.foldl (fun l n => insertNode n l) []

theorem mkNode_cons_leaves (pu a rest att osf st) : (mkNode pu (a :: rest) att osf st).1.leaves =
    ((sortK (kidsFold pu rest (att.drop 1) (osf.drop 1) a st).1).map (·.leaves)).flatten := by
  rw [mkNode]; rfl
theorem mkNode_cons_key (pu a rest att osf st) : (mkNode pu (a :: rest) att osf st).1.key =
    ((sortK (kidsFold pu rest (att.drop 1) (osf.drop 1) a st).1).head?.getD {}).key := by
  rw [mkNode]; rfl
theorem mkNode_cons_st (pu a rest att osf st) : (mkNode pu (a :: rest) att osf st).2.1 =
    (kidsFold pu rest (att.drop 1) (osf.drop 1) a st).2.1 := by
  rw [mkNode]; rfl

theorem minL_singleton (x : Nat) : minL [x] = x := rfl

def DisjL (a b : List Nat) : Prop := ∀ x, x ∈ a → x ∈ b → False

theorem nodup_flatten_iff (LL : List (List Nat)) : LL.flatten.Nodup ↔ (∀ l ∈ LL, l.Nodup) ∧ LL.Pairwise DisjL := by
  unfold List.Nodup
  rw [List.pairwise_flatten]
  exact and_congr_right fun _ => ⟨fun h => h.imp fun hab x ha hb => hab x ha x hb rfl,
    fun h => h.imp fun hab x ha y hb e => hab x ha (by rw [e]; exact hb)⟩

theorem blockOf_flatten (W : Nat) (LL : List (List Nat)) (hl : ∀ l ∈ LL, l.length = W) (r : Nat) (hr : r < LL.length) :
    blockOf LL.flatten W r = LL[r] := by
  have hlen : LL[r].length = W := hl _ (List.getElem_mem hr)
  apply List.ext_getElem
  · simp [blockOf, hlen]
  · intro j h1 h2
    have hj : j < W := by simpa [blockOf] using h1
    simp only [blockOf, List.getElem_map, List.getElem_range]
    rw [getElem?_flatten_const W LL hl r j hj]
    simp [hr, hlen, hj]

theorem ord_flatten (rest : List Nat) (LL : List (List Nat)) (hl : ∀ l ∈ LL, l.length = prodL rest) (ho : ∀ l ∈ LL, Ord rest l)
    (hm : LL.Pairwise fun x y => minL x < minL y) : Ord (LL.length :: rest) LL.flatten :=
  ⟨fun r hr => by rw [blockOf_flatten _ _ hl r hr]; exact ho _ (List.getElem_mem hr),
    fun r hr => by
      rw [blockOf_flatten _ _ hl r (Nat.lt_of_succ_lt hr), blockOf_flatten _ _ hl (r + 1) hr]
      exact List.pairwise_iff_getElem.1 hm r (r + 1) _ hr (Nat.lt_succ_self r)⟩

/-! ### insertion sort -/

theorem insertNode_eq (n : Node) (l : List Node) :
    insertNode n l = l.takeWhile (fun m => decide (m.key ≤ n.key)) ++ n :: l.dropWhile (fun m => decide (m.key ≤ n.key)) :=
  InsertSort.insertRec_eq _ n (insertNode n) rfl (fun _ _ h => if_neg (by simpa using h)) (fun _ _ h => if_pos (by simpa using h)) l

theorem insertNode_perm (n : Node) (l : List Node) : (insertNode n l).Perm (n :: l) :=
  insertNode_eq n l ▸ InsertSort.split_perm _ n l

theorem insertNode_sorted (n : Node) (l : List Node) (hp : l.Pairwise (fun x y => x.key ≤ y.key)) :
    (insertNode n l).Pairwise (fun x y => x.key ≤ y.key) := by
  rw [insertNode_eq]
  exact InsertSort.split_pairwise (R := fun x y => x.key ≤ y.key) (fun m => decide (m.key ≤ n.key)) n (fun _ _ _ => Nat.le_trans)
    l hp (fun x _ hx => of_decide_eq_true hx) (fun x _ hx => by have := of_decide_eq_false hx; omega)

theorem sortK_perm (kids : List Node) : (sortK kids).Perm kids :=
  InsertSort.foldl_perm insertNode_perm kids []

theorem sortK_sorted (kids : List Node) : (sortK kids).Pairwise (fun x y => x.key ≤ y.key) :=
  InsertSort.foldl_keeps (fun c l => insertNode_sorted c l) kids [] List.Pairwise.nil

/-! ### the kids -/

def DisjN (a b : Node) : Prop := DisjL a.leaves b.leaves

theorem kidsFold_succ (pu : List Nat) (rest att' : List Nat) (osf' : List (Nat → Int)) (n : Nat) (st : Nat × Nat) :
    kidsFold pu rest att' osf' (n + 1) st = kidStep pu rest att' osf' (kidsFold pu rest att' osf' n st) n := by
  unfold kidsFold
  rw [List.range_succ, List.foldl_append]; rfl

theorem kidsFold_perm (pu : List Nat) (rest att' : List Nat) (osf' : List (Nat → Int))
    (ih : ∀ (lp ns : Nat), lp + prodL rest ≤ pu.length →
      (mkNode pu rest att' osf' (lp, ns)).2.1 = lp + prodL rest ∧
      (mkNode pu rest att' osf' (lp, ns)).1.leaves.Perm ((pu.drop lp).take (prodL rest)))
    (lp0 ns0 : Nat) : ∀ n, lp0 + n * prodL rest ≤ pu.length →
    (kidsFold pu rest att' osf' n (lp0, ns0)).2.1 = lp0 + n * prodL rest ∧
    (((kidsFold pu rest att' osf' n (lp0, ns0)).1.map (·.leaves)).flatten).Perm ((pu.drop lp0).take (n * prodL rest)) := by
  intro n
  induction n with
  | zero => intro _; simp [kidsFold]
  | succ n ihn =>
    intro hle
    have hsm : (n + 1) * prodL rest = n * prodL rest + prodL rest := Nat.succ_mul _ _
    obtain ⟨h1, h3⟩ := ihn (by omega)
    rw [kidsFold_succ]
    generalize kidsFold pu rest att' osf' n (lp0, ns0) = res at h1 h3
    obtain ⟨ks, lp1, ns1⟩ := res
    simp only at h1 h3
    subst h1
    obtain ⟨g1, g2⟩ := ih (lp0 + n * prodL rest) ns1 (by omega)
    simp only [kidStep]
    refine ⟨by rw [g1]; omega, ?_⟩
    rw [List.map_append, List.flatten_append, hsm, List.take_add, List.drop_drop]
    simp only [List.map_cons, List.map_nil, List.flatten_cons, List.flatten_nil, List.append_nil]
    exact h3.append g2

theorem kidsFold_form (pu : List Nat) (rest att' : List Nat) (osf' : List (Nat → Int)) (st : Nat × Nat) : ∀ n,
    (kidsFold pu rest att' osf' n st).1.length = n ∧
    ∀ k ∈ (kidsFold pu rest att' osf' n st).1, ∃ lp' ns', k = (mkNode pu rest att' osf' (lp', ns')).1 := by
  intro n
  induction n with
  | zero => simp [kidsFold]
  | succ n ihn =>
    rw [kidsFold_succ]
    obtain ⟨h1, h2⟩ := ihn
    generalize kidsFold pu rest att' osf' n st = res at h1 h2
    simp only [kidStep]
    refine ⟨by simp [h1], ?_⟩
    intro k hk
    rcases List.mem_append.mp hk with hk | hk
    · exact h2 k hk
    · rw [List.mem_singleton] at hk
      exact ⟨res.2.1, res.2.2, hk⟩

/-! ### assembling a node from its sorted kids -/

theorem assemble (rest : List Nat) (a : Nat) (ha : 1 ≤ a) (hW : 1 ≤ prodL rest) (L : List Node)
    (hlen : L.length = a)
    (hgood : ∀ k ∈ L, k.leaves.length = prodL rest ∧ k.key = minL k.leaves ∧ Ord rest k.leaves)
    (hdis : L.Pairwise DisjN) (hsort : L.Pairwise (fun x y => x.key ≤ y.key)) :
    ((L.map (·.leaves)).flatten).length = prodL (a :: rest) ∧
    (L.head?.getD {}).key = minL ((L.map (·.leaves)).flatten) ∧
    Ord (a :: rest) ((L.map (·.leaves)).flatten) := by
  have hlenW : ∀ l ∈ L.map (·.leaves), l.length = prodL rest := List.forall_mem_map.2 fun k hk => (hgood k hk).1
  have hkeymem : ∀ k ∈ L, k.key ∈ k.leaves ∧ ∀ y ∈ k.leaves, k.key ≤ y := fun k hk => by
    rw [(hgood k hk).2.1]
    exact minL_spec _ (List.ne_nil_of_length_pos (by rw [(hgood k hk).1]; exact hW))
  refine ⟨?_, ?_, ?_⟩
  · rw [length_flatten_const _ _ hlenW, List.length_map, hlen, prodL_cons]
  · obtain ⟨k0, L', rfl⟩ := List.exists_cons_of_length_pos (hlen ▸ ha)
    refine (minL_unique _ _ (List.mem_flatten_of_mem (List.mem_map_of_mem List.mem_cons_self) (hkeymem k0 List.mem_cons_self).1)
      fun y hy => ?_).symm
    obtain ⟨l, hl, hyl⟩ := List.mem_flatten.1 hy
    obtain ⟨k, hk, rfl⟩ := List.mem_map.1 hl
    have hle : k0.key ≤ k.key := (List.mem_cons.1 hk).elim (fun e => e ▸ Nat.le_refl _) (List.rel_of_pairwise_cons hsort)
    exact Nat.le_trans hle ((hkeymem k hk).2 y hyl)
  · rw [← hlen, ← List.length_map (·.leaves)]
    refine ord_flatten rest _ hlenW (List.forall_mem_map.2 fun k hk => (hgood k hk).2.2) (List.pairwise_map.2 ?_)
    -- a key is a member of its leaf list and the leaf lists are pairwise disjoint: the sorted keys are distinct
    refine (hdis.and hsort).imp_of_mem fun {x y} hx hy hxy => ?_
    rw [← (hgood x hx).2.1, ← (hgood y hy).2.1]
    exact Nat.lt_of_le_of_ne hxy.2 fun he => hxy.1 x.key (hkeymem x hx).1 (he ▸ (hkeymem y hy).1)

theorem mkNode_perm (pu : List Nat) : ∀ (as : List Nat) (att : List Nat) (osf : List (Nat → Int)) (lp ns : Nat),
    lp + prodL as ≤ pu.length →
    (mkNode pu as att osf (lp, ns)).2.1 = lp + prodL as ∧
    (mkNode pu as att osf (lp, ns)).1.leaves.Perm ((pu.drop lp).take (prodL as)) := by
  intro as
  induction as with
  | nil =>
    intro att osf lp ns hle
    rw [prodL_nil] at hle ⊢
    have hlt : lp < pu.length := by omega
    simp [mkNode, hlt]
    rw [List.drop_eq_getElem_cons hlt]; rfl
  | cons a rest ih =>
    intro att osf lp ns hle
    rw [prodL_cons] at hle ⊢
    obtain ⟨k1, k3⟩ := kidsFold_perm pu rest (att.drop 1) (osf.drop 1) (ih (att.drop 1) (osf.drop 1)) lp ns a hle
    rw [mkNode_cons_st, k1, mkNode_cons_leaves]
    exact ⟨rfl, (((sortK_perm _).map _).flatten).trans k3⟩

theorem window_facts (pu : List Nat) (hnd : pu.Nodup) (l : List Nat) (lp n : Nat) (hle : lp + n ≤ pu.length)
    (hp : l.Perm ((pu.drop lp).take n)) :
    l.length = n ∧ l.Nodup ∧ ∀ x ∈ l, ∃ i, lp ≤ i ∧ i < lp + n ∧ pu[i]? = some x := by
  refine ⟨by rw [hp.length_eq, List.length_take, List.length_drop]; omega,
    hp.nodup_iff.2 (((List.take_sublist _ _).trans (List.drop_sublist _ _)).nodup hnd), fun x hx => ?_⟩
  obtain ⟨j, hj⟩ := List.getElem?_of_mem (hp.mem_iff.1 hx)
  rw [List.getElem?_take] at hj
  split at hj
  · rw [List.getElem?_drop] at hj
    exact ⟨lp + j, by omega, by omega, hj⟩
  · cases hj

/-- the order of the leaves that `mkNode` builds, from the duplicate-freeness of the result alone -/
theorem mkNode_ord_of_nodup (pu : List Nat) : ∀ (as : List Nat) (att : List Nat) (osf : List (Nat → Int)) (lp ns : Nat),
    (∀ a ∈ as, 1 ≤ a) → (mkNode pu as att osf (lp, ns)).1.leaves.Nodup →
    (mkNode pu as att osf (lp, ns)).1.leaves.length = prodL as ∧
    (mkNode pu as att osf (lp, ns)).1.key = minL (mkNode pu as att osf (lp, ns)).1.leaves ∧
    Ord as (mkNode pu as att osf (lp, ns)).1.leaves := by
  intro as
  induction as with
  | nil =>
    intro att osf lp ns _ _
    simp only [mkNode]
    refine ⟨rfl, rfl, ?_⟩
    unfold Ord; trivial
  | cons a rest ih =>
    intro att osf lp ns hpos hnd
    obtain ⟨ha, hrest⟩ := List.forall_mem_cons.1 hpos
    obtain ⟨f1, f2⟩ := kidsFold_form pu rest (att.drop 1) (osf.drop 1) (lp, ns) a
    have hperm := sortK_perm (kidsFold pu rest (att.drop 1) (osf.drop 1) a (lp, ns)).1
    rw [mkNode_cons_leaves] at hnd ⊢
    rw [mkNode_cons_key]
    obtain ⟨n1, n2⟩ := (nodup_flatten_iff _).1 hnd
    rw [List.pairwise_map] at n2
    refine assemble rest a ha (prodL_pos rest hrest) _ (by rw [hperm.length_eq, f1]) (fun k hk => ?_) n2 (sortK_sorted _)
    obtain ⟨lp', ns', rfl⟩ := f2 k (hperm.mem_iff.mp hk)
    exact ih _ _ lp' ns' hrest (n1 _ (List.mem_map_of_mem hk))

theorem mkNode_spec (pu : List Nat) (hnd : pu.Nodup) : ∀ (as : List Nat) (att : List Nat) (osf : List (Nat → Int)) (lp ns : Nat),
    (∀ a ∈ as, 1 ≤ a) → lp + prodL as ≤ pu.length →
    (mkNode pu as att osf (lp, ns)).2.1 = lp + prodL as ∧
    (mkNode pu as att osf (lp, ns)).1.leaves.length = prodL as ∧
    (mkNode pu as att osf (lp, ns)).1.leaves.Nodup ∧
    (∀ x ∈ (mkNode pu as att osf (lp, ns)).1.leaves, ∃ i, lp ≤ i ∧ i < lp + prodL as ∧ pu[i]? = some x) ∧
    (mkNode pu as att osf (lp, ns)).1.key = minL (mkNode pu as att osf (lp, ns)).1.leaves ∧
    Ord as (mkNode pu as att osf (lp, ns)).1.leaves := by
  intro as att osf lp ns hpos hle
  obtain ⟨w1, hp⟩ := mkNode_perm pu as att osf lp ns hle
  obtain ⟨w2, w3, w4⟩ := window_facts pu hnd _ lp _ hle hp
  obtain ⟨_, o2, o3⟩ := mkNode_ord_of_nodup pu as att osf lp ns hpos w3
  exact ⟨w1, w2, w3, w4, o2, o3⟩

end Hw.Syn
