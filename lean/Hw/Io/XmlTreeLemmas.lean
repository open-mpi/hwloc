/-
  Hw.Io.XmlTreeLemmas — the tree-level round trip of Hw.Io.XmlTree: for every tree of valid objects (any depth, any arities),
  importing the exported element tree gives the normalised tree back, children lists preserved in order per kind.
-/
import Hw.Io.XmlTree
import Hw.Io.XmlObjLemmas
import Hw.Io.Base64Lemmas
import Hw.Io.XmlLemmas
namespace Hw.XmlTree
open Hw Hw.Topo Hw.XmlObj

theorem importKids_nil (cc : Ctx) (ptOk : Bool) (acc : Acc) : importKids cc ptOk [] acc = .ok acc := by
  rw [importKids]

theorem importKids_cons (cc : Ctx) (ptOk : Bool) (e : Elem) (es : List Elem) (acc : Acc) :
    importKids cc ptOk (e :: es) acc =
      if e.tag = tagObject then
        match importObj cc e with
        | .ok t => importKids cc ptOk es { acc with kids := acc.kids ++ [t], seenObj := true }
        | .reject => .reject
        | .outside => .outside
      else if acc.seenObj then .reject
      else match importSub ptOk acc e with
        | .ok acc' => importKids cc ptOk es acc'
        | .reject => .reject
        | .outside => .outside := by
  rw [importKids]; rfl

theorem importObj_mk (c : Ctx) (tag : Bytes) (attrs : List (Bytes × Bytes)) (content : Option Bytes) (kids : List Elem) :
    importObj c (.mk tag attrs content kids) =
    if content.isSome then .reject
    else match importAttrs c attrs with
      | .reject => .reject
      | .outside => .outside
      | .ignored => .outside
      | .ok f =>
        (importKids { root := false, parentType := f.type, parentHasSets := f.cpuset.isSome } (f.type == tNUMA || c.root) kids {}).bind
          (finish f) := by
  rw [importObj]; rfl

theorem exportTree_mk (root : Bool) (d : Node) (mem nor io misc : List Tree) :
    exportTree root (.mk d mem nor io misc) = .mk tagObject (exportAttrs root d.f) none
      (subElems d ++ (exportList mem ++ (exportList nor ++ (exportList io ++ exportList misc)))) := by
  rw [exportTree]
theorem exportList_cons (t : Tree) (ts : List Tree) : exportList (t :: ts) = exportTree false t :: exportList ts := by rw [exportList]
theorem exportList_nil : exportList [] = [] := by rw [exportList]
theorem normList_eq_map : ∀ l : List Tree, normList l = l.map normTree
  | [] => by rw [normList]; rfl
  | t :: ts => by rw [normList, normList_eq_map ts]; rfl
theorem normTree_mk (d : Node) (mem nor io misc : List Tree) :
    normTree (.mk d mem nor io misc) = .mk (normNode d) (normList mem) (normList nor) (normList io) (normList misc) := by rw [normTree]
theorem TreeValid_mk (c : Ctx) (d : Node) (mem nor io misc : List Tree) :
    TreeValid c (.mk d mem nor io misc) = (Valid c d.f && nodeValid d &&
    mem.all (fun t => isMemoryT t.type) && nor.all (fun t => isNormalT t.type) &&
    io.all (fun t => isIOT t.type) && misc.all (fun t => isMiscT t.type) &&
    !outOfOrder nor &&
    ListValid (childCtx d.f) mem && ListValid (childCtx d.f) nor && ListValid (childCtx d.f) io && ListValid (childCtx d.f) misc) := by
  rw [TreeValid]
theorem ListValid_cons (c : Ctx) (t : Tree) (ts : List Tree) : ListValid c (t :: ts) = (TreeValid c t && ListValid c ts) := by rw [ListValid]

/-! ### the non-object child elements -/

theorem treeTags_ne : tagPageType ≠ tagObject ∧ tagInfo ≠ tagObject ∧ tagUserdata ≠ tagObject ∧ tagInfo ≠ tagPageType ∧
    tagUserdata ≠ tagPageType ∧ tagUserdata ≠ tagInfo := by
  simp only [tagPageType, tagObject, tagInfo, tagUserdata, ne_eq, b_inj, String.reduceEq, not_false_eq_true, and_self]

theorem infoElem_tag (p : Bytes × Bytes) : (infoElem p).tag = tagInfo := by rw [infoElem, Elem.tag]

theorem ptLoop_export (p : Nat × Nat) (h1 : p.1 < 2 ^ 64) (h2 : p.2 < 2 ^ 64) :
    ptLoop [(b "size", decDigits p.1), (b "count", decDigits p.2)] 0 0 = .ok p := by
  simp only [ptLoop, b_inj, String.reduceEq, if_false, if_true, strtoulV_decDigits _ h1, strtoulV_decDigits _ h2]

theorem importSub_pt (acc : Acc) (p : Nat × Nat) (h1 : p.1 < 2 ^ 64) (h2 : p.2 < 2 ^ 64) :
    importSub true acc (ptElem p) = .ok (if p.1 ≠ 0 then { acc with pts := acc.pts ++ [p] } else acc) := by
  simp only [importSub, ptElem, Elem.tag, Elem.attrs, Elem.content, Elem.kids, if_true, ptLoop_export p h1 h2, Res.bind]
  simp

theorem importSub_info (ptOk : Bool) (acc : Acc) (p : Bytes × Bytes) :
    importSub ptOk acc (infoElem p) = .ok { acc with infos := acc.infos ++ [sanPair p] } := by
  simp only [importSub, infoElem, Elem.tag, Elem.attrs, Elem.content, Elem.kids, treeTags_ne, if_false, if_true, importInfo_exportInfo p.1 p.2]
  simp [sanPair]

theorem udLoop_step (v : Bytes) (l : List (Bytes × Bytes)) (len : Nat) (enc : Bool) (name : Option Bytes) :
    udLoop ((b "length", v) :: l) len enc name = (match strtoulV v with | some n => udLoop l n enc name | none => .outside) ∧
    udLoop ((b "encoding", v) :: l) len enc name = udLoop l len (v == b "base64") name ∧
    udLoop ((b "name", v) :: l) len enc name = udLoop l len enc (some v) := by
  refine ⟨?_, ?_, ?_⟩ <;> rw [udLoop] <;> simp only [b_inj, String.reduceEq, if_false, if_true]
  rfl

theorem udLoop_export (u : UData) (h : u.data.length < 2 ^ 64) :
    udLoop (udElem u).attrs 0 false none = .ok (u.data.length, u.b64, u.name) := by
  obtain ⟨name, b64, data⟩ := u
  cases name <;> cases b64 <;>
    simp only [udElem, Elem.attrs, udLoop_step, udLoop.eq_1, beq_self_eq_true, strtoulV_decDigits _ h, List.nil_append, List.append_nil,
      List.cons_append, if_true, Bool.false_eq_true, if_false]

theorem udContent_export (u : UData) (hb : ∀ x ∈ u.data, x < 256) :
    udContent u.data.length u.b64 u.name (udElem u).content = .ok u := by
  obtain ⟨name, b64, data⟩ := u
  simp only [udElem, Elem.content]
  by_cases h0 : data.length = 0
  · have hd : data = [] := List.eq_nil_of_length_eq_zero h0
    subst hd
    cases b64 <;> simp [udContent]
  · cases b64
    · simp [udContent, h0]
    · obtain ⟨tg', hdec, _, htake⟩ := B64.decode_encText data { cells := List.replicate (data.length + 1) 0 } hb
        (by simp [B64.Tgt.size])
      simp only [udContent, h0, if_false, if_true, B64.encText_length, hdec, Bool.true_and, bne_iff_ne, ne_eq, not_false_eq_true, not_true_eq_false,
        Option.map_some, Option.getD_some, htake]

theorem importSub_ud (ptOk : Bool) (acc : Acc) (u : UData) (hv : udValid u = true) :
    importSub ptOk acc (udElem u) = .ok { acc with uds := acc.uds ++ [u] } := by
  simp only [udValid, Bool.and_eq_true, decide_eq_true_eq, List.all_eq_true] at hv
  have hk : (udElem u).kids = [] := rfl
  have ht : (udElem u).tag = tagUserdata := rfl
  simp only [importSub, ht, treeTags_ne, if_false, if_true, udLoop_export u hv.1, Res.bind, udContent_export u hv.2, hk]
  simp

theorem importKids_sub (cc : Ctx) (ptOk : Bool) (e : Elem) (es : List Elem) (acc acc' : Acc) (ht : e.tag ≠ tagObject)
    (hs : acc.seenObj = false) (h : importSub ptOk acc e = .ok acc') :
    importKids cc ptOk (e :: es) acc = importKids cc ptOk es acc' := by
  rw [importKids_cons, if_neg ht, hs, h]; rfl

/-- A loop `L` reads the elements `ex x` written for the items of a list one after the other, whatever follows: `st acc` is its state
    when it has read the items `acc`, `hstep` what it does on one element. -/
theorem map_run {ε σ ρ γ : Type} (L : List ε → σ → ρ) (ex : γ → ε) (st : List γ → σ) (P : γ → Prop)
    (hstep : ∀ x acc es, P x → L (ex x :: es) (st acc) = L es (st (acc ++ [x]))) (rest : List ε) :
    ∀ (xs acc : List γ), (∀ x ∈ xs, P x) → L (xs.map ex ++ rest) (st acc) = L rest (st (acc ++ xs))
  | [], acc, _ => by rw [List.map_nil, List.nil_append, List.append_nil]
  | x :: xs, acc, h => by
    rw [List.map_cons, List.cons_append, hstep x acc _ (h x (List.mem_cons_self ..)),
      map_run L ex st P hstep rest xs _ fun y hy => h y (List.mem_cons_of_mem _ hy), List.append_assoc]; rfl

theorem importKids_pts (cc : Ctx) (rest : List Elem) (pts : List (Nat × Nat)) (acc : Acc) (hs : acc.seenObj = false)
    (hv : ∀ p ∈ pts, p.1 < 2 ^ 64 ∧ p.2 < 2 ^ 64) :
    importKids cc true (pts.map ptElem ++ rest) acc =
      importKids cc true rest { acc with pts := acc.pts ++ pts.filter (fun p => p.1 ≠ 0) } := by
  simpa using map_run (importKids cc true) ptElem (fun l => { acc with pts := acc.pts ++ l.filter (fun p => p.1 ≠ 0) }) _
    (fun p l es hp => by
      rw [importKids_sub cc true (ptElem p) es _ _ treeTags_ne.1 (by exact hs) (importSub_pt _ p hp.1 hp.2)]
      by_cases h0 : p.1 = 0 <;> simp [h0, List.filter_append]) rest pts [] hv

theorem importKids_infos (cc : Ctx) (ptOk : Bool) (rest : List Elem) (infos : List (Bytes × Bytes)) (acc : Acc) (hs : acc.seenObj = false) :
    importKids cc ptOk (infos.map infoElem ++ rest) acc =
      importKids cc ptOk rest { acc with infos := acc.infos ++ infos.map sanPair } := by
  simpa using map_run (importKids cc ptOk) infoElem (fun l => { acc with infos := acc.infos ++ l.map sanPair }) (fun _ => True)
    (fun p l es _ => by rw [importKids_sub cc ptOk (infoElem p) es _ _ treeTags_ne.2.1 (by exact hs) (importSub_info ptOk _ p)]; simp)
    rest infos [] fun _ _ => trivial

theorem importKids_uds (cc : Ctx) (ptOk : Bool) (rest : List Elem) (uds : List UData) (acc : Acc) (hs : acc.seenObj = false)
    (hv : ∀ u ∈ uds, udValid u = true) :
    importKids cc ptOk (uds.map udElem ++ rest) acc = importKids cc ptOk rest { acc with uds := acc.uds ++ uds } := by
  simpa using map_run (importKids cc ptOk) udElem (fun l => { acc with uds := acc.uds ++ l }) _
    (fun u l es hu => by rw [importKids_sub cc ptOk (udElem u) es _ _ treeTags_ne.2.2.1 (by exact hs) (importSub_ud ptOk _ u hu)]; simp)
    rest uds [] hv

theorem importKids_subElems (cc : Ctx) (ptOk : Bool) (d : Node) (hv : nodeValid d = true) (hpt : d.f.type = tNUMA → ptOk = true)
    (rest : List Elem) :
    importKids cc ptOk (subElems d ++ rest) {} =
      importKids cc ptOk rest { pts := (normNode d).pts, infos := (normNode d).infos, uds := (normNode d).uds } := by
  simp only [nodeValid, Bool.and_eq_true, List.all_eq_true, decide_eq_true_eq] at hv
  have hu : ∀ u ∈ d.uds.filter udExportable, udValid u = true := fun u hu => hv.2 u (List.mem_filter.mp hu).1
  unfold subElems
  by_cases ht : d.f.type = tNUMA
  · have := hpt ht; subst this
    rw [if_pos ht, List.append_assoc, List.append_assoc, importKids_pts cc _ d.pts {} rfl hv.1,
      importKids_infos cc true _ d.infos _ rfl, importKids_uds cc true rest _ _ rfl hu]
    simp [normNode, ht]
  · rw [if_neg ht, List.nil_append, List.append_assoc, importKids_infos cc ptOk _ d.infos _ rfl, importKids_uds cc ptOk rest _ _ rfl hu]
    simp [normNode, ht]

/-! ### kinds, order, `finish` -/

theorem normTree_type (t : Tree) : (normTree t).type = t.type := by
  cases t with | mk d mem nor io misc => rw [normTree_mk]; rfl
theorem normTree_cc (t : Tree) : (normTree t).d.f.ccpuset = t.d.f.ccpuset := by
  cases t with | mk d mem nor io misc => rw [normTree_mk]; rfl

theorem outOfOrder_norm : ∀ l : List Tree, outOfOrder (l.map normTree) = outOfOrder l
  | [] => rfl
  | [_] => rfl
  | x :: y :: r => by
    have ih := outOfOrder_norm (y :: r)
    simp only [List.map_cons] at ih ⊢
    simp only [outOfOrder, normTree_cc, ih]

theorem isMemoryT_iff (t : Nat) : isMemoryT t = true ↔ t = 14 ∨ t = 15 := by simp [isMemoryT, tNUMA, tMEMCACHE]
theorem isNormalT_iff (t : Nat) : isNormalT t = true ↔ t ≤ 13 := by unfold isNormalT tGROUP; exact decide_eq_true_iff
theorem isIOT_iff (t : Nat) : isIOT t = true ↔ t = 16 ∨ t = 17 ∨ t = 18 := by simp [isIOT, tBRIDGE, tPCI, tOSDEV, or_assoc]
theorem isMiscT_iff (t : Nat) : isMiscT t = true ↔ t = 19 := by simp [isMiscT, tMISC]

theorem kinds_excl (t : Nat) :
    (isMemoryT t = true → isNormalT t = false ∧ isIOT t = false ∧ isMiscT t = false) ∧
    (isNormalT t = true → isMemoryT t = false ∧ isIOT t = false ∧ isMiscT t = false) ∧
    (isIOT t = true → isMemoryT t = false ∧ isNormalT t = false ∧ isMiscT t = false) ∧
    (isMiscT t = true → isMemoryT t = false ∧ isNormalT t = false ∧ isIOT t = false) := by
  simp only [← Bool.not_eq_true, isMemoryT_iff, isNormalT_iff, isIOT_iff, isMiscT_iff]
  omega

theorem filter_all (p q : Nat → Bool) (l : List Tree) (h : l.all (fun t => q t.type) = true) (hpq : ∀ n, q n = true → p n = true) :
    (l.map normTree).filter (fun t => p t.type) = l.map normTree := by
  rw [List.filter_eq_self]
  intro a ha
  obtain ⟨t, ht, rfl⟩ := List.mem_map.mp ha
  rw [normTree_type]; exact hpq _ (List.all_eq_true.mp h t ht)

theorem filter_none (p q : Nat → Bool) (l : List Tree) (h : l.all (fun t => q t.type) = true) (hpq : ∀ n, q n = true → p n = false) :
    (l.map normTree).filter (fun t => p t.type) = [] := by
  rw [List.filter_eq_nil_iff]
  intro a ha
  obtain ⟨t, ht, rfl⟩ := List.mem_map.mp ha
  rw [normTree_type, hpq _ (List.all_eq_true.mp h t ht)]; simp

theorem finish_ok (f : ObjFields) (pts : List (Nat × Nat)) (infos : List (Bytes × Bytes)) (uds : List UData) (s : Bool)
    (mem nor io misc : List Tree)
    (hm : mem.all (fun t => isMemoryT t.type) = true) (hn : nor.all (fun t => isNormalT t.type) = true)
    (hi : io.all (fun t => isIOT t.type) = true) (hx : misc.all (fun t => isMiscT t.type) = true) (ho : outOfOrder nor = false) :
    finish f { pts := pts, infos := infos, uds := uds, seenObj := s,
               kids := mem.map normTree ++ (nor.map normTree ++ (io.map normTree ++ misc.map normTree)) } =
      .ok (.mk { f := f, infos := infos, pts := pts, uds := uds } (mem.map normTree) (nor.map normTree) (io.map normTree) (misc.map normTree)) := by
  unfold finish
  have k := kinds_excl
  simp only [List.filter_append,
    filter_all isMemoryT isMemoryT mem hm (fun _ h => h), filter_none isMemoryT isNormalT nor hn (fun n h => ((k n).2.1 h).1),
    filter_none isMemoryT isIOT io hi (fun n h => ((k n).2.2.1 h).1), filter_none isMemoryT isMiscT misc hx (fun n h => ((k n).2.2.2 h).1),
    filter_none isNormalT isMemoryT mem hm (fun n h => ((k n).1 h).1), filter_all isNormalT isNormalT nor hn (fun _ h => h),
    filter_none isNormalT isIOT io hi (fun n h => ((k n).2.2.1 h).2.1), filter_none isNormalT isMiscT misc hx (fun n h => ((k n).2.2.2 h).2.1),
    filter_none isIOT isMemoryT mem hm (fun n h => ((k n).1 h).2.1), filter_none isIOT isNormalT nor hn (fun n h => ((k n).2.1 h).2.1),
    filter_all isIOT isIOT io hi (fun _ h => h), filter_none isIOT isMiscT misc hx (fun n h => ((k n).2.2.2 h).2.2),
    filter_none isMiscT isMemoryT mem hm (fun n h => ((k n).1 h).2.2), filter_none isMiscT isNormalT nor hn (fun n h => ((k n).2.1 h).2.2),
    filter_none isMiscT isIOT io hi (fun n h => ((k n).2.2.1 h).2.2), filter_all isMiscT isMiscT misc hx (fun _ h => h),
    List.append_nil, List.nil_append, outOfOrder_norm, ho]
  simp

/-! ### the round trip -/

theorem exportTree_tag (root : Bool) (t : Tree) : (exportTree root t).tag = tagObject := by
  cases t with | mk d mem nor io misc => rw [exportTree_mk]; rfl

mutual
theorem importObj_exportTree : ∀ (c : Ctx) (t : Tree), TreeValid c t = true → importObj c (exportTree c.root t) = .ok (normTree t)
  | c, .mk d mem nor io misc, hv => by
    rw [TreeValid_mk] at hv
    simp only [Bool.and_eq_true, Bool.not_eq_true'] at hv
    obtain ⟨⟨⟨⟨⟨⟨⟨⟨⟨⟨hV, hN⟩, hm⟩, hn⟩, hi⟩, hx⟩, ho⟩, vm⟩, vn⟩, vi⟩, vx⟩ := hv
    have hctx : ({ root := false, parentType := (normalise d.f).type, parentHasSets := (normalise d.f).cpuset.isSome } : Ctx) = childCtx d.f := rfl
    have hpt : d.f.type = tNUMA → ((normalise d.f).type == tNUMA || c.root) = true := by
      intro h; show (d.f.type == tNUMA || c.root) = true; simp [h]
    rw [exportTree_mk, importObj_mk]
    simp only [Option.isSome_none, Bool.false_eq_true, if_false, importAttrs_exportAttrs c d.f hV]
    rw [hctx, importKids_subElems _ _ d hN hpt,
      importKids_exportList (childCtx d.f) _ rfl mem vm, importKids_exportList (childCtx d.f) _ rfl nor vn,
      importKids_exportList (childCtx d.f) _ rfl io vi]
    have h4 := importKids_exportList (childCtx d.f) ((normalise d.f).type == tNUMA || c.root) rfl misc vx []
    rw [List.append_nil] at h4
    rw [h4, importKids_nil]
    simp only [Res.bind, List.nil_append, List.append_assoc]
    rw [normTree_mk, normList_eq_map, normList_eq_map, normList_eq_map, normList_eq_map]
    exact finish_ok _ _ _ _ _ mem nor io misc hm hn hi hx ho
theorem importKids_exportList : ∀ (cc : Ctx) (ptOk : Bool), cc.root = false → ∀ (ts : List Tree), ListValid cc ts = true →
    ∀ (rest : List Elem) (acc : Acc),
    importKids cc ptOk (exportList ts ++ rest) acc =
      importKids cc ptOk rest { acc with kids := acc.kids ++ ts.map normTree, seenObj := acc.seenObj || !ts.isEmpty }
  | cc, ptOk, _, [], _, rest, acc => by
    rw [exportList_nil]; simp
  | cc, ptOk, hr, t :: ts, hv, rest, acc => by
    rw [ListValid_cons, Bool.and_eq_true] at hv
    have h1 := importObj_exportTree cc t hv.1
    rw [hr] at h1
    rw [exportList_cons, List.cons_append, importKids_cons, if_pos (exportTree_tag false t), h1]
    simp only []
    rw [importKids_exportList cc ptOk hr ts hv.2 rest]
    simp
end

/-! ### the normalised tree is valid again and a fixpoint of the normalisation -/

theorem attrsValid_normalise (f : ObjFields) (h : attrsValid f = true) : attrsValid (normalise f) = true := by
  unfold attrsValid at h ⊢
  obtain ⟨a0, a1, a2, a3, a4, a5, ha⟩ := six f.attrs (beq_iff_eq.1 (Bool.and_eq_true_iff.1 h).1)
  rw [show (normalise f).type = f.type from rfl]
  -- in the two arms whose entries `normalise` touches, the goal is `h` with `0` for an entry that `h` only bounds
  by_cases hG : f.type = tGROUP
  · rw [hG, if_neg (by decide), if_neg (by decide), if_pos rfl] at h ⊢
    simp only [normalise, hG, ha, if_true, ObjFields.a, ObjFields.n, List.set_cons_zero, List.getD_cons_zero,
      List.getD_cons_succ, List.length_cons, List.length_nil, Bool.and_eq_true, decide_eq_true_eq] at h ⊢
    simp only [h, Int.le_refl, and_self]
  · by_cases hB : f.type = tBRIDGE
    · rw [hB, if_neg (by decide), if_neg (by decide), if_neg (by decide), if_pos rfl] at h ⊢
      simp only [normalise, hB, ha, if_true, (by decide : (tBRIDGE = tGROUP) = False), if_false, ObjFields.a, ObjFields.n,
        List.set_cons_zero, List.set_cons_succ, List.getD_cons_zero, List.getD_cons_succ, List.length_cons, List.length_nil,
        Bool.and_eq_true, decide_eq_true_eq] at h ⊢
      simp only [h, Int.le_refl, Int.toNat_zero, Nat.two_pow_pos, and_self]
    · have ha : (normalise f).attrs = f.attrs := by simp only [normalise, hG, hB, if_false]
      unfold ObjFields.n ObjFields.a at h ⊢
      rw [ha]; exact h

theorem Valid_normalise (c : Ctx) (f : ObjFields) (h : Valid c f = true) : Valid c (normalise f) = true := by
  unfold Valid at h ⊢
  simp only [Bool.and_eq_true] at h ⊢
  obtain ⟨⟨⟨⟨⟨⟨⟨⟨⟨⟨h1, h2⟩, h3⟩, _⟩, _⟩, h6⟩, h7⟩, h8⟩, h9⟩, h10⟩, h11⟩ := h
  refine ⟨⟨⟨⟨⟨⟨⟨⟨⟨⟨h1, h2⟩, h3⟩, ?_⟩, ?_⟩, h6⟩, h7⟩, h8⟩, h9⟩, attrsValid_normalise f h10⟩, by rw [checks_normalise]; exact h11⟩
  · show (match f.name.map Xml.sanitize with | some s => s.all (· != 0) | none => true) = true
    cases f.name <;> simp [all_nz_sanitize]
  · show (match f.subtype.map Xml.sanitize with | some s => s.all (· != 0) | none => true) = true
    cases f.subtype <;> simp [all_nz_sanitize]

theorem sanPair_idem (p : Bytes × Bytes) : sanPair (sanPair p) = sanPair p := by
  simp [sanPair, Xml.sanitize_idem]

theorem normNode_idem (d : Node) : normNode (normNode d) = normNode d := by
  have ht : (normalise d.f).type = d.f.type := rfl
  unfold normNode
  simp only [normalise_idem, ht, List.map_map, Function.comp_def, sanPair_idem, List.filter_filter, Bool.and_self]
  by_cases h : d.f.type = tNUMA <;> simp [h, List.filter_filter]

theorem nodeValid_normNode (d : Node) (h : nodeValid d = true) : nodeValid (normNode d) = true := by
  simp only [nodeValid, Bool.and_eq_true, List.all_eq_true] at h ⊢
  refine ⟨?_, fun u hu => h.2 u (List.mem_filter.mp hu).1⟩
  intro p hp
  by_cases ht : d.f.type = tNUMA
  · simp only [normNode, ht, if_true] at hp
    exact h.1 p (List.mem_filter.mp hp).1
  · simp [normNode, ht] at hp

theorem all_norm (p : Nat → Bool) (l : List Tree) (h : l.all (fun t => p t.type) = true) :
    (l.map normTree).all (fun t => p t.type) = true := by
  rw [List.all_eq_true] at h ⊢
  intro a ha
  obtain ⟨t, ht, rfl⟩ := List.mem_map.mp ha
  rw [normTree_type]; exact h t ht

mutual
theorem TreeValid_normTree : ∀ (c : Ctx) (t : Tree), TreeValid c t = true → TreeValid c (normTree t) = true
  | c, .mk d mem nor io misc, hv => by
    rw [TreeValid_mk] at hv
    simp only [Bool.and_eq_true, Bool.not_eq_true'] at hv
    obtain ⟨⟨⟨⟨⟨⟨⟨⟨⟨⟨hV, hN⟩, hm⟩, hn⟩, hi⟩, hx⟩, ho⟩, vm⟩, vn⟩, vi⟩, vx⟩ := hv
    have hctx : childCtx (normNode d).f = childCtx d.f := rfl
    rw [normTree_mk, TreeValid_mk, hctx]
    simp only [Bool.and_eq_true, Bool.not_eq_true']
    rw [normList_eq_map, normList_eq_map, normList_eq_map, normList_eq_map]
    refine ⟨⟨⟨⟨⟨⟨⟨⟨⟨⟨Valid_normalise c d.f hV, nodeValid_normNode d hN⟩, all_norm _ mem hm⟩, all_norm _ nor hn⟩, all_norm _ io hi⟩,
      all_norm _ misc hx⟩, by rw [outOfOrder_norm]; exact ho⟩, ?_⟩, ?_⟩, ?_⟩, ?_⟩
    · rw [← normList_eq_map]; exact ListValid_normList _ mem vm
    · rw [← normList_eq_map]; exact ListValid_normList _ nor vn
    · rw [← normList_eq_map]; exact ListValid_normList _ io vi
    · rw [← normList_eq_map]; exact ListValid_normList _ misc vx
theorem ListValid_normList : ∀ (c : Ctx) (ts : List Tree), ListValid c ts = true → ListValid c (normList ts) = true
  | _, [], _ => by rw [normList, ListValid]
  | c, t :: ts, hv => by
    rw [ListValid_cons, Bool.and_eq_true] at hv
    rw [normList, ListValid_cons, Bool.and_eq_true]
    exact ⟨TreeValid_normTree c t hv.1, ListValid_normList c ts hv.2⟩
end

mutual
theorem normTree_idem : ∀ t : Tree, normTree (normTree t) = normTree t
  | .mk d mem nor io misc => by
    rw [normTree_mk, normTree_mk, normNode_idem, normList_idem mem, normList_idem nor, normList_idem io, normList_idem misc]
theorem normList_idem : ∀ ts : List Tree, normList (normList ts) = normList ts
  | [] => by rw [normList, normList]
  | t :: ts => by rw [normList, normList, normTree_idem t, normList_idem ts]
end

theorem importTree_exportTree (t : Tree) (hv : TreeValid { root := true } t = true) :
    importTree (exportTree true t) = .ok (normTree t) := by
  unfold importTree
  rw [if_pos (exportTree_tag true t)]
  exact importObj_exportTree { root := true } t hv

/-! ### start tags as bytes -/

mutual
def ElemOk : Elem → Prop
  | .mk _ a _ ks => AllOk a ∧ ElemsOk ks
def ElemsOk : List Elem → Prop
  | [] => True
  | e :: es => ElemOk e ∧ ElemsOk es
end

mutual
theorem rescan_ok : ∀ e : Elem, ElemOk e → rescan e = e
  | .mk t a c ks, h => by
    rw [ElemOk] at h
    rw [rescan, Xml.scanAttrs_renderAttrs a _ (Nat.lt_succ_self _) h.1, rescanList_ok ks h.2]
theorem rescanList_ok : ∀ es : List Elem, ElemsOk es → rescanList es = es
  | [], _ => by rw [rescanList]
  | e :: es, h => by
    rw [ElemsOk] at h
    rw [rescanList, rescan_ok e h.1, rescanList_ok es h.2]
end

theorem ElemsOk_append : ∀ (l1 l2 : List Elem), ElemsOk l1 → ElemsOk l2 → ElemsOk (l1 ++ l2)
  | [], _, _, h2 => h2
  | e :: es, l2, h1, h2 => by
    rw [ElemsOk] at h1
    rw [List.cons_append, ElemsOk]; exact ⟨h1.1, ElemsOk_append es l2 h1.2 h2⟩

theorem ElemsOk_map {α : Type} (f : α → Elem) : ∀ l : List α, (∀ x ∈ l, ElemOk (f x)) → ElemsOk (l.map f)
  | [], _ => by rw [List.map_nil, ElemsOk]; trivial
  | x :: xs, h => by
    rw [List.map_cons, ElemsOk]
    exact ⟨h x (List.mem_cons_self ..), ElemsOk_map f xs (fun y hy => h y (List.mem_cons_of_mem _ hy))⟩

theorem tree_names_ok : NameOk (b "size") ∧ NameOk (b "count") ∧ NameOk (b "length") ∧ NameOk (b "encoding") ∧
    NZ (b "base64") := by
  simp -index only [b, str_ofList]  -- only the unifier, not the index, sees a literal as `String.ofList _`
  unfold NameOk NZ; decide +kernel

theorem ptElem_ok (p : Nat × Nat) : ElemOk (ptElem p) := by
  simp only [ptElem, ElemOk, ElemsOk, xml_ok, tree_names_ok]

theorem infoElem_ok (p : Bytes × Bytes) : ElemOk (infoElem p) := by
  rw [infoElem, ElemOk, ElemsOk]
  exact ⟨exportInfo_ok p.1 p.2, trivial⟩

theorem nz_of_allValid (s : Bytes) (h : allValid s = true) : NZ s := by
  intro x hx
  have := List.all_eq_true.mp h x hx
  intro h0; subst h0; revert this; decide

theorem udElem_ok (u : UData) (h : udExportable u = true) : ElemOk (udElem u) := by
  simp only [udElem, ElemOk, ElemsOk, xml_ok, tree_names_ok]
  cases hn : u.name with
  | none => simp only [xml_ok]
  | some n =>
    simp only [udExportable, hn, Bool.and_eq_true] at h
    simp only [xml_ok, nz_of_allValid n h.1]

theorem subElems_ok (d : Node) : ElemsOk (subElems d) := by
  unfold subElems
  refine ElemsOk_append _ _ (ElemsOk_append _ _ ?_ (ElemsOk_map _ _ (fun p _ => infoElem_ok p)))
    (ElemsOk_map _ _ (fun u hu => udElem_ok u (List.mem_filter.mp hu).2))
  split
  · exact ElemsOk_map _ _ (fun p _ => ptElem_ok p)
  · rw [ElemsOk]; trivial

mutual
theorem exportTree_ok : ∀ (c : Ctx) (t : Tree), TreeValid c t = true → ElemOk (exportTree c.root t)
  | c, .mk d mem nor io misc, hv => by
    rw [TreeValid_mk] at hv
    simp only [Bool.and_eq_true, Bool.not_eq_true'] at hv
    obtain ⟨⟨⟨⟨⟨⟨⟨⟨⟨⟨hV, _⟩, _⟩, _⟩, _⟩, _⟩, _⟩, vm⟩, vn⟩, vi⟩, vx⟩ := hv
    rw [exportTree_mk, ElemOk]
    exact ⟨exportAttrs_ok c d.f hV, ElemsOk_append _ _ (subElems_ok d)
      (ElemsOk_append _ _ (exportList_ok _ rfl mem vm) (ElemsOk_append _ _ (exportList_ok _ rfl nor vn)
        (ElemsOk_append _ _ (exportList_ok _ rfl io vi) (exportList_ok _ rfl misc vx))))⟩
theorem exportList_ok : ∀ (c : Ctx), c.root = false → ∀ (ts : List Tree), ListValid c ts = true → ElemsOk (exportList ts)
  | _, _, [], _ => by rw [exportList, ElemsOk]; trivial
  | c, hr, t :: ts, hv => by
    rw [ListValid_cons, Bool.and_eq_true] at hv
    have h1 := exportTree_ok c t hv.1
    rw [hr] at h1
    rw [exportList, ElemsOk]; exact ⟨h1, exportList_ok c hr ts hv.2⟩
end

theorem importTree_rescan_exportTree (t : Tree) (hv : TreeValid { root := true } t = true) :
    importTree (rescan (exportTree true t)) = .ok (normTree t) := by
  rw [rescan_ok _ (exportTree_ok { root := true } t hv)]
  exact importTree_exportTree t hv

/-! ### the export of the reimported tree -/

theorem exportAttrs_normalise (root : Bool) (f : ObjFields) : exportAttrs root (normalise f) = exportAttrs root (clearDerived f) := by
  have h1 : typeAttrs (normalise f) = typeAttrs (clearDerived f) := typeAttrs_congr _ _ rfl rfl rfl
  have h2 : setsSeg root (normalise f) = setsSeg root (clearDerived f) := rfl
  have h3 : strAttr "name" (normalise f).name = strAttr "name" (clearDerived f).name := strAttr_sanitize "name" f.name
  have h4 : strAttr "subtype" (normalise f).subtype = strAttr "subtype" (clearDerived f).subtype := strAttr_sanitize "subtype" f.subtype
  unfold exportAttrs
  rw [h1, h2, h3, h4]; rfl

theorem infoElem_sanPair (p : Bytes × Bytes) : infoElem (sanPair p) = infoElem p := by
  simp [infoElem, exportInfo, sanPair, Xml.sanitize_idem]

theorem subElems_normNode (d : Node) : subElems (normNode d) = subElems (clearNode d) := by
  have ht : (normNode d).f.type = d.f.type := rfl
  have ht2 : (clearNode d).f.type = d.f.type := rfl
  unfold subElems
  rw [ht, ht2]
  have hi : (normNode d).infos.map infoElem = (clearNode d).infos.map infoElem := by
    simp [normNode, clearNode, List.map_map, Function.comp_def, infoElem_sanPair]
  have hu : ((normNode d).uds.filter udExportable).map udElem = ((clearNode d).uds.filter udExportable).map udElem := by
    simp [normNode, clearNode, List.filter_filter]
  rw [hi, hu]
  by_cases h : d.f.type = tNUMA <;> simp [h, normNode, clearNode]

mutual
theorem exportTree_normTree : ∀ (root : Bool) (t : Tree), exportTree root (normTree t) = exportTree root (clearTree t)
  | root, .mk d mem nor io misc => by
    rw [normTree_mk, clearTree, exportTree_mk, exportTree_mk, subElems_normNode,
      exportList_normList mem, exportList_normList nor, exportList_normList io, exportList_normList misc]
    have : exportAttrs root (normNode d).f = exportAttrs root (clearNode d).f := exportAttrs_normalise root d.f
    rw [this]
theorem exportList_normList : ∀ ts : List Tree, exportList (normList ts) = exportList (clearList ts)
  | [] => by rw [normList, clearList]
  | t :: ts => by rw [normList, clearList, exportList_cons, exportList_cons, exportTree_normTree false t, exportList_normList ts]
end

theorem clearDerived_id (f : ObjFields) (hG : f.type ≠ tGROUP) (hB : f.type ≠ tBRIDGE) : clearDerived f = f := by
  simp [clearDerived, normalise, hG, hB]

end Hw.XmlTree
