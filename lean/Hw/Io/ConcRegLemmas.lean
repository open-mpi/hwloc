import Hw.Io.Conc
import Hw.Base.Cases
import Hw.Base.ListLemmas

/- Hw.Io.ConcRegLemmas — the invariant `Hw.Conc.Reg.Inv` of the lock-protected reference count model is
   inductive for the model programs, and its consequences. -/
namespace Hw.Conc.Reg

theorem csInv_congr (c c' : Cfg) (th : Thr) (hu : c'.users = c.users) (hr : c'.reg = c.reg) :
    csInv c' th ↔ csInv c th := by
  unfold csInv
  rw [hu, hr]

theorem inv_start (n : Nat) : Inv (start n) := by
  refine ⟨rfl, ?_, ?_, ?_, ?_⟩
  · show 0 = (List.replicate n ({} : Thr)).countP holding
    rw [List.countP_replicate]
    simp [holding]
  · intro t th ht hcs
    simp only [start, List.getElem?_replicate] at ht
    split at ht
    · cases ht; simp [inCS] at hcs
    · cases ht
  · intro _; simp [start]
  · intro t ht; simp [start] at ht

/-! ### generic preservation lemma: thread `t` goes from `th` to `th'`, shared state changes to that of `c'` -/

theorem inv_set (c c' : Cfg) (t : Nat) (th th' : Thr) (h : Inv c) (ht : c.thr[t]? = some th)
    (hthr : c'.thr = c.thr.set t th') (hbad : c'.bad = c.bad)
    (hcount : c'.users + (if holding th then 1 else 0) = c.users + (if holding th' then 1 else 0))
    (hother : ∀ t', t' ≠ t → (c'.lock = some t' ↔ c.lock = some t'))
    (hshared : c.lock ≠ some t → c'.users = c.users ∧ c'.reg = c.reg)
    (hex : inCS th' = true → c'.lock = some t)
    (hfree : c'.lock = none → (c'.reg = true ↔ 0 < c'.users))
    (hheld : c'.lock = some t → inCS th' = true ∧ csInv c' th') :
    Inv c' := by
  refine ⟨hbad.trans h.notBad, ?_, ?_, hfree, ?_⟩
  · have := countP_set_add holding c.thr t th th' ht
    rw [hthr]
    have := h.count
    omega
  · intro t' th'' ht' hcs
    rw [hthr] at ht'
    by_cases e : t' = t
    · subst e
      rw [getElem?_set_self_of_some ht] at ht'
      cases ht'
      exact hex hcs
    · rw [List.getElem?_set_ne (Ne.symm e)] at ht'
      exact (hother t' e).mpr (h.excl t' th'' ht' hcs)
  · intro t' hl
    rw [hthr]
    by_cases e : t' = t
    · subst e
      exact ⟨th', getElem?_set_self_of_some ht, hheld hl⟩
    · have hl0 := (hother t' e).mp hl
      obtain ⟨hu, hr⟩ := hshared fun h => e (Option.some.inj (hl0.symm.trans h))
      obtain ⟨th'', ht'', hcs, hinv⟩ := h.held t' hl0
      rw [List.getElem?_set_ne (Ne.symm e)]
      exact ⟨th'', ht'', hcs, (csInv_congr c c' th'' hu hr).mpr hinv⟩

theorem Inv.owner {c : Cfg} {t : Nat} {th : Thr} (h : Inv c) (ht : c.thr[t]? = some th) (hl : c.lock = some t) :
    inCS th = true ∧ csInv c th := by
  obtain ⟨th', ht', hcs, hinv⟩ := h.held t hl
  rw [ht] at ht'
  cases ht'
  exact ⟨hcs, hinv⟩

theorem Inv.users_pos {c : Cfg} {t : Nat} {th : Thr} (h : Inv c) (ht : c.thr[t]? = some th) (hh : holding th = true) :
    0 < c.users := by
  rw [h.count]
  exact countP_pos_of_getElem? holding c.thr t th ht hh

theorem not_owner {c : Cfg} {t : Nat} {th : Thr} (h : Inv c) (ht : c.thr[t]? = some th) (h0 : inCS th = false) :
    c.lock ≠ some t := by
  intro hl
  have := h.owner ht hl
  rw [h0] at this
  cases this.1

theorem inv_outside {c : Cfg} {t : Nat} {th : Thr} (h : Inv c) (ht : c.thr[t]? = some th) (th' : Thr)
    (h0 : inCS th = false) (h1 : inCS th' = false) (hh : holding th' = holding th) : Inv (setThr c t th') :=
  inv_set c _ t th th' h ht rfl rfl (by rw [hh]; rfl) (fun _ _ => Iff.rfl) (fun _ => ⟨rfl, rfl⟩)
    (fun hcs => nomatch h1.symm.trans hcs) h.free (fun hl => (not_owner h ht h0 hl).elim)

theorem inv_acquire {c : Cfg} {t : Nat} {th : Thr} (h : Inv c) (ht : c.thr[t]? = some th) (th' : Thr)
    (hl : c.lock = none) (hh : holding th' = holding th) (h1 : inCS th' = true)
    (hpost : (c.reg = true ↔ 0 < c.users) → csInv c th') : Inv { setThr c t th' with lock := some t } := by
  refine inv_set c _ t th th' h ht rfl rfl (by rw [hh]; rfl) (fun t' e => ?_) (fun _ => ⟨rfl, rfl⟩) (fun _ => rfl)
    nofun (fun _ => ⟨h1, hpost (h.free hl)⟩)
  rw [hl]; exact ⟨fun h => absurd (Option.some.inj h).symm e, nofun⟩

theorem inv_inside {c : Cfg} {t : Nat} {th : Thr} (h : Inv c) (ht : c.thr[t]? = some th) (th' : Thr) (u : Nat) (r : Bool)
    (hl : c.lock = some t) (hcount : u + (if holding th then 1 else 0) = c.users + (if holding th' then 1 else 0))
    (h1 : inCS th' = true) (hpost : csInv c th → csInv { setThr c t th' with users := u, reg := r } th') :
    Inv { setThr c t th' with users := u, reg := r } :=
  inv_set c _ t th th' h ht rfl rfl hcount (fun _ _ => Iff.rfl) (fun hn => absurd hl hn) (fun _ => hl)
    (fun hn => nomatch hl.symm.trans hn) (fun _ => ⟨h1, hpost (h.owner ht hl).2⟩)

theorem inv_release {c : Cfg} {t : Nat} {th : Thr} (h : Inv c) (ht : c.thr[t]? = some th) (th' : Thr)
    (hl : c.lock = some t) (hh : holding th' = holding th) (h1 : inCS th' = false)
    (hpost : csInv c th → (c.reg = true ↔ 0 < c.users)) : Inv { setThr c t th' with lock := none } := by
  refine inv_set c _ t th th' h ht rfl rfl (by rw [hh]; rfl) (fun t' e => ?_) (fun hn => absurd hl hn)
    (fun hcs => nomatch h1.symm.trans hcs) (fun _ => hpost (h.owner ht hl).2) nofun
  rw [hl]; exact ⟨nofun, fun h => absurd (Option.some.inj h).symm e⟩

theorem inv_ite_pos {p : Prop} [Decidable p] (hp : p) {c₁ c₂ : Cfg} (h : Inv c₁) : Inv (if p then c₁ else c₂) :=
  ite_pred Inv (fun _ => h) (fun hn => absurd hp hn)

theorem inv_ite_neg {p : Prop} [Decidable p] (hp : ¬p) {c₁ c₂ : Cfg} (h : Inv c₂) : Inv (if p then c₁ else c₂) :=
  ite_pred Inv (fun h' => absurd h' hp) (fun _ => h)

/-- one case per program point: the instruction's guard is decided by `Inv.excl` / `Inv.owner`, the move lemma applies, and what
    is left is the step of `csInv` from this point to the next -/
theorem step_inv (c : Cfg) (t : Nat) (h : Inv c) : Inv (step Model.initProg Model.finiProg c t) := by
  unfold step
  split
  · exact h
  · rename_i th ht
    have hown := h.excl t th ht
    have hcs := h.owner ht
    have hpos := h.users_pos ht
    obtain ⟨ph, pc, fl⟩ := th
    cases ph
    · exact inv_outside h ht _ rfl rfl rfl
    · rcases pc with _ | _ | _ | _ | _ | _ | _ | _ | _ | pc
      · -- lock
        exact ite_pred Inv (fun hl => inv_acquire h ht _ hl rfl rfl id) (fun _ => h)
      · -- test
        exact inv_ite_pos (hown rfl) (inv_inside h ht _ _ _ (hown rfl) rfl rfl (fun hi => ⟨rfl, hi⟩))
      · -- inc
        refine inv_ite_pos (hown rfl) (inv_inside h ht _ _ _ (hown rfl) rfl rfl (fun hi => ?_))
        obtain ⟨rfl, hr⟩ : fl = decide (c.users ≠ 0) ∧ (c.reg = true ↔ 0 < c.users) := hi
        exact ⟨Nat.le_add_left _ _, by simp, hr.trans ⟨Nat.succ_lt_succ, Nat.lt_of_succ_lt_succ⟩⟩
      · -- brIfNot 6
        have hi : 1 ≤ c.users ∧ fl = decide (c.users ≠ 1) ∧ (c.reg = true ↔ 1 < c.users) := (hcs (hown rfl)).2
        cases fl
        · have hu : c.users = 1 := by simpa using hi.2.1
          have hr : c.reg = false := Bool.eq_false_iff.mpr fun hc => by have := hi.2.2.mp hc; omega
          exact inv_inside h ht _ _ _ (hown rfl) rfl rfl (fun _ => ⟨hr, hu⟩)
        · have hu : c.users ≠ 1 := by simpa using hi.2.1
          exact inv_inside h ht _ _ _ (hown rfl) rfl rfl (fun _ => ⟨hi.2.2.mpr (by omega), hi.1⟩)
      · -- unlock
        exact inv_ite_pos (hown rfl) (inv_release h ht _ (hown rfl) rfl rfl (fun hi => iff_of_true hi.1 hi.2))
      · -- ret
        exact inv_ite_neg (not_owner h ht rfl) (inv_outside h ht _ rfl rfl rfl)
      · -- initReg
        have hi : c.reg = false ∧ c.users = 1 := (hcs (hown rfl)).2
        exact inv_ite_pos ⟨hown rfl, hi.1⟩
          (inv_inside h ht _ _ _ (hown rfl) rfl rfl (fun _ => ⟨rfl, Nat.le_of_eq hi.2.symm⟩))
      · -- unlock
        exact inv_ite_pos (hown rfl) (inv_release h ht _ (hown rfl) rfl rfl (fun hi => iff_of_true hi.1 hi.2))
      · -- ret
        exact inv_ite_neg (not_owner h ht rfl) (inv_outside h ht _ rfl rfl rfl)
      · -- past the end: no instruction
        exact h
    · exact inv_outside h ht _ rfl rfl rfl
    · rcases pc with _ | _ | _ | _ | _ | _ | _ | _ | _ | pc
      · -- lock
        exact ite_pred Inv (fun hl => inv_acquire h ht _ hl rfl rfl id) (fun _ => h)
      · -- dec
        have hu : 0 < c.users := hpos rfl
        refine inv_ite_pos ⟨hown rfl, Nat.ne_of_gt hu⟩ (inv_inside h ht _ _ _ (hown rfl) ?_ rfl (fun hi => ?_))
        · show c.users - 1 + 1 = c.users + 0
          omega
        · exact (show c.reg = true ↔ 0 < c.users from hi).mpr hu
      · -- test
        exact inv_ite_pos (hown rfl) (inv_inside h ht _ _ _ (hown rfl) rfl rfl (fun hi => ⟨hi, rfl⟩))
      · -- brIfNot 6
        have hi : c.reg = true ∧ fl = decide (c.users ≠ 0) := (hcs (hown rfl)).2
        cases fl
        · have hu : c.users = 0 := by simpa using hi.2
          exact inv_inside h ht _ _ _ (hown rfl) rfl rfl (fun _ => ⟨hi.1, hu⟩)
        · have hu : c.users ≠ 0 := by simpa using hi.2
          exact inv_inside h ht _ _ _ (hown rfl) rfl rfl (fun _ => ⟨hi.1, hu⟩)
      · -- unlock
        exact inv_ite_pos (hown rfl)
          (inv_release h ht _ (hown rfl) rfl rfl (fun hi => iff_of_true hi.1 (Nat.pos_of_ne_zero hi.2)))
      · -- ret
        exact inv_ite_neg (not_owner h ht rfl) (inv_outside h ht _ rfl rfl rfl)
      · -- destroyReg
        have hi : c.reg = true ∧ c.users = 0 := (hcs (hown rfl)).2
        exact inv_ite_pos ⟨hown rfl, hi.1⟩ (inv_inside h ht _ _ _ (hown rfl) rfl rfl (fun _ => ⟨rfl, hi.2⟩))
      · -- unlock
        refine inv_ite_pos (hown rfl) (inv_release h ht _ (hown rfl) rfl rfl (fun hi => ?_))
        obtain ⟨hr, hu⟩ : c.reg = false ∧ c.users = 0 := hi
        rw [hr, hu]; decide
      · -- ret
        exact inv_ite_neg (not_owner h ht rfl) (inv_outside h ht _ rfl rfl rfl)
      · -- past the end: no instruction
        exact h

theorem run_inv_of (c : Cfg) (h : Inv c) (sched : List Nat) :
    Inv (run Model.initProg Model.finiProg c sched) :=
  List.foldlRecOn sched _ h fun c hc t _ => step_inv c t hc

theorem run_inv (n : Nat) (sched : List Nat) : Inv (run Model.initProg Model.finiProg (start n) sched) :=
  run_inv_of _ (inv_start n) sched

theorem between_sees_reg (c : Cfg) (h : Inv c) (t : Nat) (th : Thr) (ht : c.thr[t]? = some th)
    (hb : th.phase = .between) : c.reg = true := by
  have hh : holding th = true := by simp [holding, hb]
  have hpos : 0 < c.users := h.users_pos ht hh
  cases hl : c.lock with
  | none => exact (h.free hl).mpr hpos
  | some t' =>
    obtain ⟨th', ht', hcs, hinv⟩ := h.held t' hl
    have hne : t ≠ t' := fun e => not_owner h ht (by simp [inCS, hb]) (e ▸ hl)
    have htwo : holding th' = true → 2 ≤ c.users := by
      intro hh'
      -- with `t` taken out of the count the lock holder is still in it
      have h1 := countP_set_add holding c.thr t th {} ht
      have h2 := countP_pos_of_getElem? holding (c.thr.set t {}) t' th' (by rw [List.getElem?_set_ne hne]; exact ht') hh'
      rw [hh, if_pos rfl, show holding {} = false from rfl, if_neg Bool.false_ne_true] at h1
      rw [h.count]
      omega
    obtain ⟨ph, pc, fl⟩ := th'
    simp only [inCS, Bool.and_eq_true, Bool.or_eq_true, decide_eq_true_eq] at hcs
    obtain ⟨hph, hpc⟩ := hcs
    rcases hph with rfl | rfl <;> rcases hpc with ((((rfl | rfl) | rfl) | rfl) | rfl) | rfl
    -- `hinv` is the annotation `csInv` of the holder's program point: init 1,2,3,4,6,7, then fini 1,2,3,4,6,7
    · exact Iff.mpr hinv hpos
    · exact Iff.mpr (And.right hinv) hpos
    · exact Iff.mpr (And.right (And.right hinv)) (htwo rfl)
    · exact And.left hinv
    · exact absurd (And.right hinv) (Nat.ne_of_gt (htwo rfl))
    · exact And.left hinv
    · exact Iff.mpr hinv hpos
    · exact hinv
    · exact And.left hinv
    · exact And.left hinv
    · exact And.left hinv
    · exact absurd (And.right hinv) (Nat.ne_of_gt hpos)

theorem holding_sees_reg_when_free (c : Cfg) (h : Inv c) (hl : c.lock = none) :
    (c.reg = true ↔ 0 < c.thr.countP holding) := by
  rw [← h.count]; exact h.free hl

theorem quiescent (c : Cfg) (h : Inv c) (hidle : ∀ th ∈ c.thr, th.phase = .idle) : c.users = 0 ∧ c.reg = false := by
  have hcnt : c.thr.countP holding = 0 := List.countP_eq_zero.2 fun th hth => by simp [holding, hidle th hth]
  have hl : c.lock = none := by
    cases hl : c.lock with
    | none => rfl
    | some t =>
      obtain ⟨th, ht, hcs, _⟩ := h.held t hl
      simp [inCS, hidle th (List.mem_of_getElem? ht)] at hcs
  exact ⟨h.count.trans hcnt, Bool.eq_false_iff.mpr fun hr =>
    absurd ((holding_sees_reg_when_free c h hl).mp hr) (by rw [hcnt]; exact Nat.lt_irrefl 0)⟩

end Hw.Conc.Reg
