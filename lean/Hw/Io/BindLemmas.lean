/-
  Hw.Io.BindLemmas — lemmas about the bind.c model: set semantics of the argument checks, what the
  prologue lets through, what the dispatch chains log.
-/
import Hw.Io.Bind
import Hw.Base.Bits
import Hw.Base.Cases
namespace Hw.Bind
open Hw.Gen.BindConsts

/-! ### finite-or-cofinite argument sets: the boolean tests mean what their names say -/

theorem bne_true' (b : Bool) : (b != true) = !b := Bool.bne_true b

namespace ASet

theorem isZero_iff (a : ASet) : a.isZero = true ↔ ∀ i, a.mem i = false := by
  cases a with
  | mk bits inf =>
  cases inf
  · simp only [isZero, mem, Bool.not_false, Bool.true_and, beq_iff_eq, Bool.bne_false]
    exact Bits.eq_zero_iff
  · simp only [isZero, mem, Bool.not_true, Bool.false_and, Bool.false_eq_true, false_iff]
    intro h
    have := h (bits + 0)
    rw [Bits.testBit_big] at this
    simp at this

theorem inclIn_iff (a : ASet) (c : Nat) :
    a.inclIn c = true ↔ ∀ i, a.mem i = true → c.testBit i = true := by
  cases a with
  | mk bits inf =>
  cases inf
  · simp only [inclIn, mem, Bool.not_false, Bool.true_and, beq_iff_eq, Bool.bne_false]
    exact Bits.and_eq_left_iff
  · simp only [inclIn, mem, Bool.not_true, Bool.false_and, Bool.false_eq_true, false_iff]
    intro h
    have := h (c + bits) (by rw [Nat.add_comm, Bits.testBit_big]; rfl)
    rw [Bits.testBit_big] at this
    cases this

theorem covers_iff (a : ASet) (t : Nat) :
    a.covers t = true ↔ ∀ i, t.testBit i = true → a.mem i = true := by
  cases a with
  | mk bits inf =>
  cases inf
  · simp only [covers, mem, Bool.false_eq_true, if_false, beq_iff_eq, Bool.bne_false]
    exact Bits.and_eq_left_iff
  · simp only [covers, mem, if_true, beq_iff_eq, bne_true', Bool.not_eq_true']
    exact Bits.and_eq_zero_iff

theorem inf_of_inclIn {a : ASet} {c : Nat} (h : a.inclIn c = true) : a.inf = false := by
  cases hinf : a.inf
  · rfl
  · rw [inclIn, hinf] at h; cases h

end ASet

/-! ### hwloc_fix_cpubind / hwloc_fix_membind -/

theorem fixSet_none_iff (c t : Nat) (a : ASet) :
    fixSet c t a = none ↔ (a.isZero = true ∨ a.inclIn c = false) := by
  unfold fixSet
  cases hz : a.isZero
  · cases hi : a.inclIn c
    · simp
    · cases hc : a.covers t <;> simp
  · simp

theorem fixSet_some {c t : Nat} {a : ASet} {s : Nat} (h : fixSet c t a = some s) :
    a.inf = false ∧ s ≠ 0 ∧ s &&& c = s ∧ s = if a.covers t then c else a.bits := by
  cases hz : a.isZero
  case true => rw [fixSet, hz] at h; cases h
  cases hi : a.inclIn c
  case false => rw [fixSet, hz, hi] at h; cases h
  have hinf := ASet.inf_of_inclIn hi
  have hbits : a.bits &&& c = a.bits := by simpa [ASet.inclIn, hinf] using hi
  have hnz : a.bits ≠ 0 := fun h0 => by simp [ASet.isZero, hinf, h0] at hz
  have hc0 : c ≠ 0 := fun h0 => hnz (by rw [← hbits, h0, Nat.and_zero])
  refine ⟨hinf, ?_⟩
  rw [fixSet, hz, hi] at h
  cases hc : a.covers t <;> rw [hc] at h <;> cases h
  · exact ⟨hnz, hbits, rfl⟩
  · exact ⟨hc0, Nat.and_self _, rfl⟩

theorem fixSet_mem {c t : Nat} {a : ASet} {s : Nat} (h : fixSet c t a = some s) (i : Nat) :
    s.testBit i = if a.covers t then c.testBit i else a.mem i := by
  have ⟨hinf, _, _, hs⟩ := fixSet_some h
  rw [hs]
  cases a.covers t
  · simp [ASet.mem, hinf]
  · simp

theorem fixMembindCpuset_eq (t : Topo) (a : ASet) : fixMembindCpuset t a = (fixCpubind t a).map fun _ =>
    if a.covers t.topologyCpuset then t.completeNodeset else cpusetToNodeset t.nodes a.bits := by
  unfold fixMembindCpuset fixCpubind fixSet
  cases a.isZero
  case true => rfl
  cases a.inclIn t.completeCpuset
  case false => rfl
  cases a.covers t.topologyCpuset <;> rfl

theorem fixSet_fin_complete {c t s : Nat} (h : fixSet c t (ASet.fin c) = some s) : s = c :=
  (fixSet_some h).2.2.2.trans (ite_self c)

theorem memFix_none {t : Topo} {req : Req}
    (h : req.set.isZero = true ∨
      req.set.inclIn (if req.byNodeset then t.completeNodeset else t.completeCpuset) = false) :
    (memPrologueSet t req).bind (fixMembind t) = none := by
  unfold memPrologueSet
  cases hb : req.byNodeset
  · rw [hb, if_neg Bool.false_ne_true] at h
    rw [if_neg Bool.false_ne_true, fixMembindCpuset_eq, fixCpubind, (fixSet_none_iff ..).mpr h]
    rfl
  · rw [hb, if_pos rfl] at h
    rw [if_pos rfl]
    exact (fixSet_none_iff ..).mpr h

theorem class_cpuGet {e : Entry} (h : e.isCpuGet = true) : e.isCpuSet = false := by
  cases e <;> first | exact Bool.noConfusion h | rfl
theorem class_memSet {e : Entry} (h : e.isMemSet = true) : e.isCpuSet = false ∧ e.isCpuGet = false := by
  cases e <;> first | exact Bool.noConfusion h | exact ⟨rfl, rfl⟩
theorem class_memGet {e : Entry} (h : e.isMemGet = true) :
    e.isCpuSet = false ∧ e.isCpuGet = false ∧ e.isMemSet = false := by
  cases e <;> first | exact Bool.noConfusion h | exact ⟨rfl, rfl, rfl⟩

theorem prologue_go {t : Topo} {e : Entry} {req : Req} {a : Args} (h : prologue t e req = .go a) :
    a.flags = req.flags ∧
    if e.isCpuSet then fixCpubind t req.set = some a.set
    else if e.isMemSet then (memPrologueSet t req).bind (fixMembind t) = some a.set
    else a.set = 0 := by
  revert h
  -- every exit of `prologue` is a `ret` or a `fallback` but five, one for each class of entry point
  fun_cases prologue t e req <;> intro h <;> cases h <;> refine ⟨rfl, ?_⟩
  · rename_i h1 _ _ hf
    rw [if_pos h1]; exact hf
  · rename_i h1 h2 _
    rw [if_neg h1, if_neg fun h3 => by rw [(class_memSet h3).2] at h2; cases h2]
  · rename_i h1 _ h3 _ hm _ _ _ hf _
    rw [if_neg h1, if_pos h3, hm]; exact hf
  · rename_i h1 _ h3 _ _ _ _
    rw [if_neg h1, if_neg h3]
  · rename_i h1 _ h3 _
    rw [if_neg h1, if_neg h3]

/-! ### results that the epilogue leaves alone -/

theorem epilogue_of_ne_zero (t : Topo) (e : Entry) (req : Req) (r : Ret) (h : r.rc ≠ 0) :
    epilogue t e req r = r := by
  rw [epilogue, beq_eq_false_iff_ne.mpr h, Bool.and_false]
  rfl

@[simp] theorem epilogue_fail (t : Topo) (e : Entry) (req : Req) (err : Errno) :
    epilogue t e req (failRet err) = failRet err :=
  epilogue_of_ne_zero t e req _ (show (-1 : Int) ≠ 0 by decide)

theorem epilogue_not_memget (t : Topo) (e : Entry) (req : Req) (r : Ret) (h : e.isMemGet = false) :
    epilogue t e req r = r := by
  rw [epilogue, h, Bool.false_and, Bool.false_and]
  rfl

theorem epilogue_rc (t : Topo) (e : Entry) (req : Req) (r : Ret) : (epilogue t e req r).rc = r.rc := by
  unfold epilogue
  split <;> rfl

/-! ### the dispatch chains, branch by branch -/

section
variable {σ} {env : Env σ} {a : Args} {s : St σ} {h hp ht : Hook} {pb tb : Nat}

theorem dispatch1_present (hh : env.present h = true) : dispatch1 env h a s = invoke env h a s := if_pos hh

theorem dispatch1_absent (hh : env.present h = false) : dispatch1 env h a s = (failRet .enosys, s) := by
  rw [dispatch1, hh]; rfl

theorem dispatch3_process (h1 : a.flags &&& pb ≠ 0) : dispatch3 env pb tb hp ht a s = dispatch1 env hp a s :=
  if_pos h1

theorem dispatch3_thread (h1 : a.flags &&& pb = 0) (h2 : a.flags &&& tb ≠ 0) :
    dispatch3 env pb tb hp ht a s = dispatch1 env ht a s := by
  rw [dispatch3, if_neg (not_not_intro h1), if_pos h2]

theorem dispatch3_absent (h1 : a.flags &&& pb = 0) (h2 : a.flags &&& tb = 0) (hh : env.present hp = false) :
    dispatch3 env pb tb hp ht a s = dispatch1 env ht a s := by
  rw [dispatch3, if_neg (not_not_intro h1), if_neg (not_not_intro h2), hh]; rfl

theorem dispatch3_present (h1 : a.flags &&& pb = 0) (h2 : a.flags &&& tb = 0) (hh : env.present hp = true) :
    dispatch3 env pb tb hp ht a s =
      if (invoke env hp a s).1.rc ≥ 0 ∨ (invoke env hp a s).1.err ≠ .enosys then invoke env hp a s
      else dispatch1 env ht a (invoke env hp a s).2 := by
  rw [dispatch3, if_neg (not_not_intro h1), if_neg (not_not_intro h2), if_pos hh]

end

theorem dummyRet_rc (t : Topo) (h : Hook) : (dummyRet t h).rc = 0 := by cases h <;> rfl

theorem dummy_dispatch1 {σ} (t : Topo) (h : Hook) (a : Args) (s : St σ) (hh : dummyPresent h = true) :
    (dispatch1 (dummyEnv σ t) h a s).1 = dummyRet t h := by
  rw [dispatch1_present (env := dummyEnv σ t) hh]; rfl

/-! ### everything a dispatch does to the state is a sequence of hook invocations -/

def Preserved {σ} (env : Env σ) (a : Args) (hs : List Hook) (P : St σ → Prop) : Prop :=
  ∀ h ∈ hs, ∀ s, P s → P (invoke env h a s).2

/-- the hooks an entry point may consult -/
def Entry.hooks : Entry → List Hook
  | .setCpubind => [.setThisprocCpubind, .setThisthreadCpubind]
  | .getCpubind => [.getThisprocCpubind, .getThisthreadCpubind]
  | .setProcCpubind => [.setProcCpubind]
  | .getProcCpubind => [.getProcCpubind]
  | .setThreadCpubind => [.setThreadCpubind]
  | .getThreadCpubind => [.getThreadCpubind]
  | .getLastCpuLocation => [.getThisprocLastCpu, .getThisthreadLastCpu]
  | .getProcLastCpuLocation => [.getProcLastCpu]
  | .setMembind => [.setThisprocMembind, .setThisthreadMembind]
  | .getMembind => [.getThisprocMembind, .getThisthreadMembind]
  | .setProcMembind => [.setProcMembind]
  | .getProcMembind => [.getProcMembind]
  | .setAreaMembind => [.setAreaMembind]
  | .getAreaMembind => [.getAreaMembind]
  | .getAreaMemlocation => [.getAreaMemlocation]
  | .alloc => [.alloc]
  | .allocMembind => [.allocMembind, .setAreaMembind, .alloc]
  | .free => [.freeMembind]

theorem hooks_takes (e : Entry) : ∀ h ∈ e.hooks,
    (h.takesCpuset = true → e.isCpuSet = true) ∧ (h.takesNodeset = true → e.isMemSet = true) := by
  cases e <;> decide

section
variable {σ} {env : Env σ} {a : Args} {hs : List Hook} {P : St σ → Prop} {s : St σ}

/-- a single hook or a fixed answer: `dispatch1`, `allocPlain`, hwloc_free -/
theorem hook_inv (hP : Preserved env a hs P) (h0 : P s) {h : Hook} (hm : h ∈ hs) (r : Ret) :
    P (if env.present h then invoke env h a s else (r, s)).2 :=
  ite_pred (P ∘ Prod.snd) (fun _ => hP h hm s h0) fun _ => h0

theorem dispatch3_inv (hP : Preserved env a hs P) (h0 : P s) {pb tb : Nat} {hp ht : Hook}
    (hmp : hp ∈ hs) (hmt : ht ∈ hs) : P (dispatch3 env pb tb hp ht a s).2 := by
  unfold dispatch3
  refine ite_pred (P ∘ Prod.snd) (fun _ => hook_inv hP h0 hmp _) fun _ => ?_
  refine ite_pred (P ∘ Prod.snd) (fun _ => hook_inv hP h0 hmt _) fun _ => ?_
  refine ite_pred (P ∘ Prod.snd) (fun _ => ?_) fun _ => hook_inv hP h0 hmt _
  exact ite_pred (P ∘ Prod.snd) (fun _ => hP hp hmp s h0) fun _ => hook_inv hP (hP hp hmp s h0) hmt _

theorem allocFallback_inv (hP : Preserved env a hs P) (h0 : P s) (hm : .alloc ∈ hs) (st : Bool) (err : Errno) :
    P (allocFallback env st err a s).2 :=
  ite_pred (P ∘ Prod.snd) (fun _ => h0) fun _ => hook_inv hP h0 hm _

theorem dispatch_inv {e : Entry} (hP : Preserved env a e.hooks P) (h0 : P s) : P (dispatch env e a s).2 := by
  cases e
  case setCpubind | getCpubind | getLastCpuLocation | setMembind | getMembind =>
    exact dispatch3_inv hP h0 (.head _) (.tail _ (.head _))
  case allocMembind =>
    have h1 : P (allocPlain env a s).2 := hook_inv hP h0 (.tail _ (.tail _ (.head _))) _
    have h2 := hP .setAreaMembind (.tail _ (.head _)) _ h1
    refine ite_pred (P ∘ Prod.snd) (fun _ => hP _ (.head _) s h0) fun _ => ?_
    refine ite_pred (P ∘ Prod.snd) (fun _ => ?_) fun _ => allocFallback_inv hP h0 (.tail _ (.tail _ (.head _))) _ _
    refine ite_pred (P ∘ Prod.snd) (fun _ => h1) fun _ => ?_
    exact ite_pred (P ∘ Prod.snd) (fun _ => h2) fun _ => h2
  all_goals exact hook_inv hP h0 (.head _) _   -- a single hook: the ten plain entry points, alloc, free

theorem callEntry_inv {t : Topo} {e : Entry} {req : Req}
    (hgo : ∀ a, prologue t e req = .go a → Preserved env a e.hooks P)
    (hfb : ∀ err, prologue t e req = .fallback err →
      Preserved env { flags := req.flags, pid := req.pid, len := req.len } [.alloc] P)
    (h0 : P s) : P (callEntry env t e req s).2 := by
  unfold callEntry
  cases hp : prologue t e req with
  | ret r => exact h0
  | fallback err => exact allocFallback_inv (hfb err hp) h0 (.head _) _ _
  | go a => exact dispatch_inv (hgo a hp) h0

end

/-! ### the effect log -/

def Logged {σ} (Q : Call → Prop) (s s' : St σ) : Prop :=
  ∃ l, s'.log = s.log ++ l ∧ ∀ c ∈ l, Q c

theorem Logged.preserved {σ} (env : Env σ) (s : St σ) {a : Args} {hs : List Hook} {Q : Call → Prop}
    (hQ : ∀ h ∈ hs, Q ⟨h, a⟩) : Preserved env a hs (Logged Q s) := by
  rintro h hm s' ⟨l, e, p⟩
  refine ⟨l ++ [⟨h, a⟩], by rw [← List.append_assoc, ← e]; rfl, fun c hc => ?_⟩
  rcases List.mem_append.mp hc with hc | hc
  · exact p c hc
  · cases List.mem_singleton.mp hc; exact hQ h hm

theorem callEntry_logged {σ} (env : Env σ) (t : Topo) (e : Entry) (req : Req) (s : St σ) {Q : Call → Prop}
    (hgo : ∀ a, prologue t e req = .go a → ∀ h ∈ e.hooks, Q ⟨h, a⟩)
    (hfb : ∀ err, prologue t e req = .fallback err → Q ⟨.alloc, { flags := req.flags, pid := req.pid, len := req.len }⟩) :
    Logged Q s (callEntry env t e req s).2 := by
  refine callEntry_inv (fun a hp => Logged.preserved env s (hgo a hp))
    (fun err hp => Logged.preserved env s fun h hm => ?_) ⟨[], (List.append_nil _).symm, fun _ h => nomatch h⟩
  cases List.mem_singleton.mp hm
  exact hfb err hp

/-! ### an unchanged log means that no hook ran -/

theorem invoke_log {σ} (env : Env σ) (h : Hook) (a : Args) (s : St σ) :
    (invoke env h a s).2.log = s.log ++ [⟨h, a⟩] := rfl

theorem invoke_log_ne {σ} (env : Env σ) (h : Hook) (a : Args) (s : St σ) : (invoke env h a s).2.log ≠ s.log := by
  rw [invoke_log]; simp

theorem dispatch1_noHook {σ} (env : Env σ) (h : Hook) (a : Args) (s : St σ) :
    ((dispatch1 env h a s).2.log = s.log ↔ env.present h = false) ∧
    (env.present h = false → dispatch1 env h a s = (failRet .enosys, s)) := by
  refine ⟨?_, dispatch1_absent⟩
  cases hh : env.present h
  · rw [dispatch1_absent hh]; exact iff_of_true rfl rfl
  · rw [dispatch1_present hh]; exact iff_of_false (invoke_log_ne env h a s) Bool.noConfusion

/-- no hook that the PROCESS / THREAD / fall-back chain would select is present -/
def noHook3 {σ} (env : Env σ) (pb tb : Nat) (hp ht : Hook) (flags : Nat) : Prop :=
  if flags &&& pb ≠ 0 then env.present hp = false
  else if flags &&& tb ≠ 0 then env.present ht = false
  else env.present hp = false ∧ env.present ht = false

theorem dispatch3_noHook {σ} (env : Env σ) (pb tb : Nat) (hp ht : Hook) (a : Args) (s : St σ) :
    ((dispatch3 env pb tb hp ht a s).2.log = s.log ↔ noHook3 env pb tb hp ht a.flags) ∧
    (noHook3 env pb tb hp ht a.flags → dispatch3 env pb tb hp ht a s = (failRet .enosys, s)) := by
  unfold noHook3
  by_cases h1 : a.flags &&& pb = 0
  case neg => rw [dispatch3_process h1, if_pos h1]; exact dispatch1_noHook env hp a s
  by_cases h2 : a.flags &&& tb = 0
  case neg => rw [dispatch3_thread h1 h2, if_neg (not_not_intro h1), if_pos h2]; exact dispatch1_noHook env ht a s
  rw [if_neg (not_not_intro h1), if_neg (not_not_intro h2)]
  cases hh : env.present hp
  · rw [dispatch3_absent h1 h2 hh]
    simp only [true_and]
    exact dispatch1_noHook env ht a s
  · -- the process hook ran: the log has grown, whatever follows
    have hlog : (dispatch3 env pb tb hp ht a s).2.log ≠ s.log := by
      rw [dispatch3_present h1 h2 hh]
      split
      · exact invoke_log_ne env hp a s
      · cases ht' : env.present ht
        · rw [dispatch1_absent ht', invoke_log]; simp
        · rw [dispatch1_present ht', invoke_log, invoke_log]; simp
    exact ⟨iff_of_false hlog (fun h => nomatch h.1), fun h => nomatch h.1⟩

end Hw.Bind
