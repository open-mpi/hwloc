/-
  Hw.Io.SyntheticWFSib — `siblings-ordered` for `toDump t`: normal children are listed by increasing first bit of their
  complete_cpuset, memory children by increasing first bit of their complete_nodeset.  This is NOT implied by
  `topoOK`/`puOK`/`numaOK` (a PU index sequence such as [1, 0] under a two-PU root lists the children in the wrong order:
  hwloc reorders the children, which is what `orderTopo` does before `toDump` is applied); the exact extra condition is the
  decidable `sibOK`: for consecutive normal siblings the smallest PU os_index below the first is smaller than the smallest
  below the second, and the NUMA os_indexes of the memory children of one object increase.
-/
import Hw.Io.SyntheticWFAggr
import Hw.Io.SyntheticOrd

namespace Hw.Syn
open Hw Hw.Topo

/-! ### the first bit of a mask -/

theorem firstI_eq (m i : Nat) (hi : m.testBit i = true) (hlt : ∀ j, j < i → m.testBit j = false) : firstI m = (i : Int) := by
  have hm : m ≠ 0 := by
    intro h0; rw [h0, Nat.zero_testBit] at hi; cases hi
  have hge : 2 ^ i ≤ m := Nat.ge_two_pow_of_testBit hi
  have hlog : i ≤ m.log2 := (Nat.le_log2 hm).2 hge
  unfold firstI
  have hf := find?_map_range id (fun i => m.testBit i) i hi hlt (m.log2 + 1) (by omega)
  rw [List.map_id] at hf
  rw [if_neg hm, hf]
  rfl

theorem firstI_single (i : Nat) : firstI (1 <<< i) = (i : Int) := by
  apply firstI_eq
  · rw [Bits.testBit_one_shl]; simp
  · intro j hj; rw [Bits.testBit_one_shl]; simp; omega

theorem firstI_orBits (l : List Nat) (hne : l ≠ []) : firstI (orBits l) = (minL l : Int) := by
  obtain ⟨h1, h2⟩ := minL_spec l hne
  apply firstI_eq
  · rw [testBit_orBits]; simpa using h1
  · intro j hj
    rw [testBit_orBits]
    cases hc : l.contains j
    · rfl
    · have := h2 j (by simpa using hc); omega

/-- PU os_indexes below (d, k), in logical order -/
def cpuList (t : Topo) (d k : Nat) : List Nat :=
  (List.range (wOf (mkTab t) d)).map (fun j => pu t (k * wOf (mkTab t) d + j))

/-- the fifth side condition (what the core's ordering of children establishes): consecutive normal siblings are in the
order of their smallest PU os_index; the NUMA os_indexes of the memory children of one object increase -/
def sibOK (t : Topo) : Bool :=
  (List.range (mkTab t).D).all (fun d => (List.range (nOf (mkTab t) (d + 1))).all (fun k =>
    !(decide (k % arOf (mkTab t) d + 1 < arOf (mkTab t) d)) ||
      decide (minL (cpuList t (d + 1) k) < minL (cpuList t (d + 1) (k + 1))))) &&
  (List.range ((mkTab t).D + 1)).all (fun d => (List.range (nOf (mkTab t) d)).all (fun k =>
    (List.range (memLen (mkTab t) d)).all (fun s =>
      !(decide (s + 1 < memLen (mkTab t) d)) ||
        decide (nu t (postPos (mkTab t) (numaCnt (mkTab t)) d k s) < nu t (postPos (mkTab t) (numaCnt (mkTab t)) d k s + 1)))))

theorem sibOK_normal (t : Topo) (hs : sibOK t = true) (d k : Nat) (hd : d < (mkTab t).D) (hk : k < nOf (mkTab t) (d + 1))
    (hn : k % arOf (mkTab t) d + 1 < arOf (mkTab t) d) :
    minL (cpuList t (d + 1) k) < minL (cpuList t (d + 1) (k + 1)) := by
  unfold sibOK at hs
  simp only [Bool.and_eq_true, List.all_eq_true, List.mem_range, Bool.or_eq_true, Bool.not_eq_true', decide_eq_false_iff_not,
    decide_eq_true_eq] at hs
  rcases hs.1 d hd k hk with h1 | h1
  · exact absurd hn h1
  · exact h1

theorem sibOK_mem (t : Topo) (hs : sibOK t = true) (d k s : Nat) (hd : d ≤ (mkTab t).D) (hk : k < nOf (mkTab t) d)
    (hn : s + 1 < memLen (mkTab t) d) :
    nu t (postPos (mkTab t) (numaCnt (mkTab t)) d k s) < nu t (postPos (mkTab t) (numaCnt (mkTab t)) d k (s + 1)) := by
  unfold sibOK at hs
  simp only [Bool.and_eq_true, List.all_eq_true, List.mem_range, Bool.or_eq_true, Bool.not_eq_true', decide_eq_false_iff_not,
    decide_eq_true_eq] at hs
  rcases hs.2 d (by omega) k hk s (by omega) with h1 | h1
  · exact absurd hn h1
  · exact h1

theorem firstObj_cnodeset (t : Topo) (d k s : Nat) :
    (firstObj (envOf t) d k s).cnodeset = some (1 <<< nu t (postPos (mkTab t) (numaCnt (mkTab t)) d k s)) := by
  unfold firstObj; split <;> rfl

section
variable (t : Topo) (h : OK t)
include h

theorem firstI_cpuset (d k : Nat) (hd : d ≤ (mkTab t).D) :
    firstI (cpusetOf (envOf t) d k) = (minL (cpuList t d k) : Int) := by
  rw [cpusetOf_eq]
  apply firstI_orBits
  have := wOf_pos t h d hd
  intro he
  have hl := congrArg List.length he
  simp only [List.length_map, List.length_range, List.length_nil] at hl
  omega

omit h in
theorem next_sib_lt (d k : Nat) (hd : d < (mkTab t).D) (hk : k < nOf (mkTab t) (d + 1))
    (hn : k % arOf (mkTab t) d + 1 < arOf (mkTab t) d) : k + 1 < nOf (mkTab t) (d + 1) := by
  have h1 := div_lt_parent t d k hd hk
  rw [nOf_succ t d hd] at hk ⊢
  have h2 := Nat.div_add_mod k (arOf (mkTab t) d)
  have h3 : arOf (mkTab t) d * (k / arOf (mkTab t) d + 1) ≤ arOf (mkTab t) d * nOf (mkTab t) d := Nat.mul_le_mul_left _ h1.2
  rw [Nat.mul_succ] at h3
  rw [Nat.mul_comm (nOf (mkTab t) d)]
  omega

/-- the "siblings-ordered" clause of Hw.Topo.objClauses, as a function -/
def sibClause : Dump → Aux → Obj → Bool := fun d _ o => match d.obj? o.nextSib with
      | none => true
      | some nx =>
        if isNormal o.type && isNormal nx.type then
          decide (firstI (nx.ccpuset.getD 0) < 0) ||
          (decide (0 ≤ firstI (o.ccpuset.getD 0)) && decide (firstI (o.ccpuset.getD 0) < firstI (nx.ccpuset.getD 0)))
        else if isMemory o.type && isMemory nx.type then
          decide (firstI (o.cnodeset.getD 0) < firstI (nx.cnodeset.getD 0))
        else true

theorem sib_normal_iff (d k : Nat) (hd : d < (mkTab t).D) (hk : k < nOf (mkTab t) (d + 1))
    (hn : k % arOf (mkTab t) d + 1 < arOf (mkTab t) d) :
    sibClause (toDump t) (mkAux (toDump t)) (normalObj (envOf t) (d + 1) k) = true ↔
      minL (cpuList t (d + 1) k) < minL (cpuList t (d + 1) (k + 1)) := by
  simp only [sibClause, (normalObj_sibs t d k hd).2, if_pos hn, lookup_normal t (d + 1) (k + 1) hd (next_sib_lt t d k hd hk hn),
    normalObj_type, ntype_normal t h (d + 1) hd, Bool.and_self, if_true, normalObj_ccpuset, Option.getD_some,
    firstI_cpuset t h (d + 1) _ hd, Bool.or_eq_true, Bool.and_eq_true, decide_eq_true_eq]
  omega

omit h in
theorem sib_mem_iff (d k s : Nat) (hd : d ≤ (mkTab t).D) (hk : k < nOf (mkTab t) d) (hn : s + 1 < memLen (mkTab t) d) :
    sibClause (toDump t) (mkAux (toDump t)) (firstObj (envOf t) d k s) = true ↔
      nu t (postPos (mkTab t) (numaCnt (mkTab t)) d k s) < nu t (postPos (mkTab t) (numaCnt (mkTab t)) d k (s + 1)) := by
  have hn' : s + 1 < memLen (envOf t).T d := hn
  have hl : (toDump t).obj? ((memId (envOf t).T d k (s + 1) : Nat) : Int) = some (firstObj (envOf t) d k (s + 1)) :=
    lookup_first t d k (s + 1) hd hk hn
  have hty := firstObj_type (envOf t) d k s
  have hty' := firstObj_type (envOf t) d k (s + 1)
  simp only [sibClause, (firstObj_fields (envOf t) d k s).2.2.2.1, if_pos hn', hl, hty.1, hty.2, hty'.1, hty'.2, Bool.and_self,
    Bool.false_eq_true, if_false, if_true, firstObj_cnodeset, Option.getD_some, firstI_single, decide_eq_true_eq]
  omega

theorem cl_siblings_ordered (hs : sibOK t = true) (o : Obj) (ho : o ∈ (toDump t).objs) :
    (fun (d : Dump) (_ : Aux) (o : Obj) => match d.obj? o.nextSib with
      | none => true
      | some nx =>
        if isNormal o.type && isNormal nx.type then
          decide (firstI (nx.ccpuset.getD 0) < 0) ||
          (decide (0 ≤ firstI (o.ccpuset.getD 0)) && decide (firstI (o.ccpuset.getD 0) < firstI (nx.ccpuset.getD 0)))
        else if isMemory o.type && isMemory nx.type then
          decide (firstI (o.cnodeset.getD 0) < firstI (nx.cnodeset.getD 0))
        else true) (toDump t) (mkAux (toDump t)) o = true := by
  show sibClause (toDump t) (mkAux (toDump t)) o = true
  rcases mem_kind t o ho with ⟨d, k, hd, hk, e⟩ | ⟨d, k, s, hd, hk, hs', e⟩ | ⟨d, k, s, hd, hk, hs', hm, e⟩
  · cases d with
    | zero => rw [e]; rfl
    | succ d =>
      have hd' : d < (mkTab t).D := hd
      by_cases hn : k % arOf (mkTab t) d + 1 < arOf (mkTab t) d
      · rw [e]; exact (sib_normal_iff t h d k hd' hk hn).2 (sibOK_normal t hs d k hd' hk hn)
      · simp only [sibClause, e, (normalObj_sibs t d k hd').2, if_neg hn, Dump.obj?_neg_one]
  · by_cases hn : s + 1 < memLen (mkTab t) d
    · rw [e]; exact (sib_mem_iff t d k s hd hk hn).2 (sibOK_mem t hs d k s hd hk hn)
    · simp only [sibClause, e, (firstObj_fields (envOf t) d k s).2.2.2.1, show ¬ s + 1 < memLen (envOf t).T d from hn, if_false,
        Dump.obj?_neg_one]
  · simp only [sibClause, e, (numaObj_mc (envOf t) d k s hm).2.2.2.1, Dump.obj?_neg_one]

theorem sibOK_of_clause (hc : ∀ o ∈ (toDump t).objs, sibClause (toDump t) (mkAux (toDump t)) o = true) : sibOK t = true := by
  unfold sibOK
  simp only [Bool.and_eq_true, List.all_eq_true, List.mem_range, Bool.or_eq_true, Bool.not_eq_true', decide_eq_false_iff_not,
    decide_eq_true_eq, ← Decidable.imp_iff_not_or]
  exact ⟨fun d hd k hk hn => (sib_normal_iff t h d k hd hk hn).1 (hc _ (normalObj_mem t (d + 1) k hd hk)),
    fun d hd k hk s hs' hn => (sib_mem_iff t d k s (by omega) hk hn).1 (hc _ (firstObj_mem t d k s (by omega) hk hs'))⟩

theorem sibOK_iff_clause : sibOK t = true ↔ ∀ o ∈ (toDump t).objs, sibClause (toDump t) (mkAux (toDump t)) o = true :=
  ⟨fun hs o ho => cl_siblings_ordered t h hs o ho, sibOK_of_clause t h⟩

end

end Hw.Syn
