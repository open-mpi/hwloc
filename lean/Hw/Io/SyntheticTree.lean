/-
  Hw.Io.SyntheticTree — the object tree of a regular synthetic topology as a four-list tree (`Hw.Topo.Restrict.Tree`), built
  from the objects `toDump` itself emits (`treeOfTopo`), and what hwloc_connect_children and hwloc_connect_levels compute on it:
  the occurrence list, rendered, is `genObjs` up to the level fields (`occs_regT`: every link that `toDump` gives in closed form
  by `nid`, `memId`, `k / arity`, `k % arity` is the link of the tree), and the levels are the rows `nid d 0, nid d 1, …`
  (`normalLevels_tree`).  Hw.Io.SyntheticRender concludes that `toDump t` is the rendering of this tree.
-/
import Hw.Io.SyntheticObjs
import Hw.Topo.RenderUniform
import Hw.Topo.RenderTop
import Hw.Topo.RestrictTyping
namespace Hw.Syn
open Hw Hw.Topo Hw.Topo.Restrict

/-! ### the tree -/

def numaT (E : DEnv) (d k s : Nat) : Tree := .node (robjOf (numaObj E d k s)) [] [] [] []

/-- memory child `s` of (d, k): the NUMA node, below its memory-side cache if it has one -/
def slotT (E : DEnv) (d k s : Nat) : Tree :=
  if (slotM E d s).msc ≠ 0 then .node (robjOf (mcObj E d k s)) [] [numaT E d k s] [] [] else numaT E d k s

def memT (t : Topo) (d k : Nat) : List Tree := (List.range (memLen (mkTab t) d)).map (slotT (envOf t) d k)

/-- the subtree of (d, k), by the recursion of `genObjs` (the PU level has arity 0) -/
def regT (t : Topo) : Nat → Nat → Nat → Tree
  | 0, d, k => .node (robjOf (normalObj (envOf t) d k)) [] (memT t d k) [] []
  | f + 1, d, k =>
    .node (robjOf (normalObj (envOf t) d k))
      ((List.range (arOf (mkTab t) d)).map (fun r => regT t f (d + 1) (k * arOf (mkTab t) d + r))) (memT t d k) [] []

def kidsT (t : Topo) (f d k : Nat) : List Tree :=
  (List.range (arOf (mkTab t) d)).map (fun r => regT t f (d + 1) (k * arOf (mkTab t) d + r))

theorem regT_succ (t : Topo) (f d k : Nat) :
    regT t (f + 1) d k = .node (robjOf (normalObj (envOf t) d k)) (kidsT t f d k) (memT t d k) [] [] := rfl

def treeOfTopo (t : Topo) : Tree := regT t ((mkTab t).D + 1) 0 0

/-! ### sizes and starting ids: `sizeT` is the `sz` table, the children start at `nid`, the memory children at `memId` -/

theorem sizeT_slotT (E : DEnv) (d k s : Nat) : sizeT (slotT E d k s) = msz (slotM E d s) := by
  unfold slotT msz
  split <;> simp [numaT, sizeT, sizeL]

theorem msz_take (t : Topo) (d k j : Nat) (hj : j ≤ memLen (mkTab t) d) :
    (List.range j).map (fun s => sizeT (slotT (envOf t) d k s)) = (((mkTab t).mem[d]?.getD []).take j).map msz := by
  unfold memLen at hj
  apply List.ext_getElem?
  intro i
  simp only [List.getElem?_map, List.getElem?_take, sizeT_slotT, slotM, envOf_T]
  by_cases hi : i < j
  · simp [hi, List.getElem?_eq_getElem (show i < ((mkTab t).mem[d]?.getD []).length by omega)]
  · simp [hi]

theorem memId_zero (T : DTab) (d k : Nat) : memId T d k 0 = nid T d k + 1 + arOf T d * szOf T (d + 1) := by
  unfold memId arOf szOf; simp

theorem startN_memT (t : Topo) (d k j : Nat) (hj : j ≤ memLen (mkTab t) d) :
    startN (memId (mkTab t) d k 0) (memT t d k) j = memId (mkTab t) d k j := by
  unfold memT
  rw [startN_map_range _ _ _ _ hj, msz_take t d k j hj, memId_zero]; rfl

theorem sizeL_memT (t : Topo) (d k : Nat) : sizeL (memT t d k) = memSz (mkTab t) d := by
  unfold memT memSz
  rw [sizeL_map_range, msz_take t d k _ (Nat.le_refl _)]
  unfold memLen
  rw [List.take_length]

theorem sizeT_regT (t : Topo) : ∀ (f d k : Nat), d + f = (mkTab t).D + 1 → d ≤ (mkTab t).D →
    sizeT (regT t f d k) = szOf (mkTab t) d := by
  refine fuel_ind _ fun f d h1 ih k => ?_
  have h2 : d ≤ (mkTab t).D := by omega
  rw [regT_succ, sizeT, sizeL_memT, mkTab_sz t d h2, kidsT,
    sizeL_uniform _ (szOf (mkTab t) (d + 1)) _ (fun r hr => ih (ar_pos_lt t d h2 hr) _)]
  simp only [sizeL]; omega

theorem sizeT_kid (t : Topo) (f d k : Nat) (h1 : d + (f + 1) = (mkTab t).D + 1) (r : Nat) (hr : r < arOf (mkTab t) d) :
    sizeT (regT t f (d + 1) (k * arOf (mkTab t) d + r)) = szOf (mkTab t) (d + 1) :=
  sizeT_regT t f (d + 1) _ (by omega) (ar_pos_lt t d (by omega) hr)

theorem startN_kidsT (t : Topo) (f d k : Nat) (h1 : d + (f + 1) = (mkTab t).D + 1) (j : Nat) (hj : j < arOf (mkTab t) d) :
    startN (nid (mkTab t) d k + 1) (kidsT t f d k) j = nid (mkTab t) (d + 1) (k * arOf (mkTab t) d + j) := by
  rw [kidsT, startN_uniform _ _ _ (sizeT_kid t f d k h1) _ j (Nat.le_of_lt hj), nid_child _ d k j hj]

theorem sizeL_kidsT (t : Topo) (f d k : Nat) (h1 : d + (f + 1) = (mkTab t).D + 1) :
    sizeL (kidsT t f d k) = arOf (mkTab t) d * szOf (mkTab t) (d + 1) :=
  sizeL_uniform _ _ _ (sizeT_kid t f d k h1)

/-! ### links -/

theorem link_normal (t : Topo) (f d k : Nat) (h1 : d + (f + 1) = (mkTab t).D + 1)
    (nl : List (Nat × List Nat)) (os : List Occ) (ex : RObj → Extra) :
    linkPart (renderObj nl os ex (occOf (normalObj (envOf t) d k) (regT t (f + 1) d k))) = linkPart (normalObj (envOf t) d k) := by
  rw [regT_succ]
  refine linkPart_render (normalObj (envOf t) d k) _ _ nl os ex ⟨rfl, rfl, rfl, rfl⟩ ⟨?_, ?_, rfl, rfl, rfl, rfl⟩ ⟨?_, ?_, ?_, ?_⟩
  · simp [kidsT, normalObj_arity, envOf_T]
  · simp [memT, normalObj_marity, envOf_T]
  · rw [kidsT, normalObj_children, normalObj_id, envOf_T, startsL_uniform _ _ _ (sizeT_kid t f d k h1)]
    exact List.map_congr_left fun r hr => by rw [nid_child _ d k r (List.mem_range.1 hr)]
  · rw [normalObj_children, normalObj_firstChild]
    cases arOf (envOf t).T d with
    | zero => rfl
    | succ b => simp [List.range_succ_eq_map]
  · rw [normalObj_children, normalObj_lastChild]
    cases arOf (envOf t).T d with
    | zero => rfl
    | succ b => rw [List.range_succ, List.map_append]; simp
  · rw [normalObj_memFirst, normalObj_id, envOf_T, sizeL_kidsT t f d k h1, ← memId_zero]
    unfold memT
    cases memLen (mkTab t) d with
    | zero => rfl
    | succ m => simp

theorem occs_slotT (E : DEnv) (d k s : Nat) (nl : List (Nat × List Nat)) (os : List Occ) (ex : RObj → Extra) :
    (occsAt (occOf (firstObj E d k s) (slotT E d k s))).map (fun oc => linkPart (renderObj nl os ex oc)) = (memSlot E d k s).map linkPart := by
  have h2 := linkPart_render (numaObj E d k s) [] [] nl os ex ⟨rfl, rfl, rfl, rfl⟩ ⟨rfl, rfl, rfl, rfl, rfl, rfl⟩ ⟨rfl, rfl, rfl, rfl⟩
  rw [memSlot_eq]
  unfold firstObj slotT
  split
  · rename_i hm
    have hn := numaObj_mc E d k s hm
    have h1 := linkPart_render (mcObj E d k s) [] [numaT E d k s] nl os ex ⟨rfl, rfl, rfl, rfl⟩ ⟨rfl, rfl, rfl, rfl, rfl, rfl⟩
      ⟨rfl, rfl, rfl, by show ((numaId E.T d k s : Nat) : Int) = _; rw [show numaId E.T d k s = memId E.T d k s + 1 from hn.1]; rfl⟩
    unfold occOf at h1 h2
    rw [hn.1, hn.2.1, hn.2.2.1, hn.2.2.2.1, hn.2.2.2.2] at h2
    unfold numaT at h1
    simp only [occsAt, occOf, occsT, occsL, numaT, sizeL, sizeT, List.isEmpty_nil, if_true, List.append_nil, List.nil_append, List.map_cons,
      List.map_nil, Nat.add_zero]
    rw [h1, mcObj_id, h2]
  · simp only [occsAt, occOf, numaT, occsT, occsL, List.append_nil, List.map_cons, List.map_nil]
    rw [← h2]; rfl

theorem sibRec_normal (t : Topo) (f d k r : Nat) (h1 : d + (f + 1) = (mkTab t).D + 1) (hr : r < arOf (mkTab t) d) (c : Tree) :
    sibRecAt (nid (mkTab t) d k + 1) (nid (mkTab t) d k) 0 (-1) (kidsT t f d k) r c =
      occOf (normalObj (envOf t) (d + 1) (k * arOf (mkTab t) d + r)) c := by
  have hd : d < (mkTab t).D := ar_pos_lt t d (by omega) hr
  have hlen : (kidsT t f d k).length = arOf (mkTab t) d := by simp [kidsT]
  have hp := normalObj_parent t d (k * arOf (mkTab t) d + r) hd
  have hs := normalObj_sibs t d (k * arOf (mkTab t) d + r) hd
  rw [sibRecAt_ids _ (fun j => nid (mkTab t) (d + 1) (k * arOf (mkTab t) d + j)) _ _
    (fun j hj => startN_kidsT t f d k h1 j (hlen ▸ hj)) r (hlen ▸ hr) c, occOf, hp.1, hp.2, hs.1, hs.2, mul_add_div_of_lt hr,
    Nat.mul_add_mod_of_lt hr, normalObj_id, envOf_T, hlen, Nat.add_assoc]
  rcases Nat.eq_zero_or_pos r with rfl | h0
  · rfl
  · rw [Nat.add_sub_assoc h0]

theorem sibRec_mem (t : Topo) (d k s : Nat) (hs : s < memLen (mkTab t) d) (c : Tree) :
    sibRecAt (memId (mkTab t) d k 0) (nid (mkTab t) d k) 0 (-1) (memT t d k) s c = occOf (firstObj (envOf t) d k s) c := by
  obtain ⟨f1, f2, f3, f4, f5, _⟩ := firstObj_fields (envOf t) d k s
  have hlen : (memT t d k).length = memLen (mkTab t) d := by simp [memT]
  rw [sibRecAt_ids _ (memId (mkTab t) d k) _ _ (fun j hj => startN_memT t d k j (by omega)) s (hlen ▸ hs) c,
    occOf, f1, f2, f3, f4, f5, envOf_T, hlen]

theorem occs_regT (t : Topo) (nl : List (Nat × List Nat)) (os : List Occ) (ex : RObj → Extra) :
    ∀ (f d k : Nat), d + f = (mkTab t).D + 1 → d ≤ (mkTab t).D →
    (occsAt (occOf (normalObj (envOf t) d k) (regT t f d k))).map (fun oc => linkPart (renderObj nl os ex oc)) =
    (genObjs (envOf t) f d k).map linkPart := by
  refine fuel_ind _ fun f d h1 ih k => ?_
  have h2 : d ≤ (mkTab t).D := by omega
  have hh := link_normal t f d k h1 nl os ex
  rw [regT_succ] at hh ⊢
  rw [occsAt, occOf, occsT, genObjs_succ t f d k h1]
  simp only [List.map_cons, List.map_append, occsL, List.append_nil]
  rw [show (⟨(normalObj (envOf t) d k).id, (normalObj (envOf t) d k).parent, (normalObj (envOf t) d k).rank,
      (normalObj (envOf t) d k).prevSib, (normalObj (envOf t) d k).nextSib, _⟩ : Occ) = occOf (normalObj (envOf t) d k) _ from rfl,
    hh, normalObj_id, envOf_T, sizeL_kidsT t f d k h1, ← memId_zero, kidsT, memT,
    occsL_map_range _ _ _ _ _ _ _ (fun r hr => sibRec_normal t f d k r h1 hr _),
    occsL_map_range _ _ _ _ _ _ _ (fun s hs => sibRec_mem t d k s hs _), List.map_flatMap, List.map_flatMap, List.map_flatMap]
  unfold memObjs
  rw [List.map_flatMap]
  congr 2
  · exact flatMap_congr_mem _ _ _ fun r hr => ih (ar_pos_lt t d h2 (List.mem_range.1 hr)) _
  · exact flatMap_congr_mem _ _ _ fun s _ => occs_slotT (envOf t) d k s nl os ex

/-! ### ids are positions -/

theorem genObjs_ids (t : Topo) : ∀ (f d k : Nat), d + f = (mkTab t).D + 1 → d ≤ (mkTab t).D →
    (genObjs (envOf t) f d k).map (·.id) = List.range' (nid (mkTab t) d k) (szOf (mkTab t) d) := by
  intro f d k h1 h2
  have h := congrArg (List.map (·.id)) (occs_regT t [] [] (fun _ => default) f d k h1 h2)
  rw [List.map_map, List.map_map] at h
  rw [← sizeT_regT t f d k h1 h2]
  exact h.symm.trans ((List.map_congr_left fun oc _ => ro_id _ _ _ oc).trans (occs_map_id.1 _ _ _ _ _ _))

theorem toDump_ids (t : Topo) : (toDump t).objs.map (·.id) = List.range (toDump t).nobjs := by
  have h := genObjs_ids t ((mkTab t).D + 1) 0 0 (by omega) (Nat.zero_le _)
  have hn : (toDump t).nobjs = szOf (mkTab t) 0 := by
    have := congrArg List.length h
    rw [List.length_map, List.length_range'] at this
    exact this
  rw [hn, List.range_eq_range']
  exact h

theorem toDump_getElem_id (t : Topo) (i : Nat) (hi : i < (toDump t).objs.length) : ((toDump t).objs[i]).id = i := by
  have := congrArg (fun l => l[i]?) (toDump_ids t)
  simpa [List.getElem?_eq_getElem hi, List.getElem?_range (show i < (toDump t).nobjs from hi)] using this

/-- the WF clause `id-is-position` for every object of every dump -/
theorem toDump_id_is_position (t : Topo) : ∀ o ∈ (toDump t).objs, ((toDump t).objs[o.id]?).map (·.id) = some o.id := by
  intro o ho
  obtain ⟨i, hi, rfl⟩ := List.getElem_of_mem ho
  rw [toDump_getElem_id t i hi, List.getElem?_eq_getElem hi, Option.map_some, toDump_getElem_id t i hi]

/-! ### the tree carries the ids as gp -/

theorem relabel_slotT (E : DEnv) (d k s : Nat) : relabelT (memId E.T d k s) (slotT E d k s) = slotT E d k s := by
  unfold slotT
  split
  · rename_i hm
    have h2 : ({ robjOf (numaObj E d k s) with gp := memId E.T d k s + 1 } : RObj) = robjOf (numaObj E d k s) := by
      rw [← (numaObj_mc E d k s hm).1]; rfl
    simp only [relabelT, relabelL, numaT, sizeL, Nat.add_zero, h2]; rfl
  · rename_i hm
    have h2 : ({ robjOf (numaObj E d k s) with gp := memId E.T d k s } : RObj) = robjOf (numaObj E d k s) := by
      rw [← (numaObj_nomc E d k s hm).1]; rfl
    simp only [relabelT, relabelL, numaT, h2]

theorem relabel_regT (t : Topo) : ∀ (f d k : Nat), d + f = (mkTab t).D + 1 → d ≤ (mkTab t).D →
    relabelT (nid (mkTab t) d k) (regT t f d k) = regT t f d k := by
  refine fuel_ind _ fun f d h1 ih k => ?_
  have h2 : d ≤ (mkTab t).D := by omega
  rw [regT_succ, relabelT, sizeL_kidsT t f d k h1, ← memId_zero]
  simp only [relabelL]
  congr 1
  · apply relabelL_id
    intro j c hj
    have hjl : j < arOf (mkTab t) d := by simpa [kidsT] using getElem?_lt hj
    obtain rfl : regT t f (d + 1) (k * arOf (mkTab t) d + j) = c := by simpa [kidsT, hjl] using hj
    rw [startN_kidsT t f d k h1 j hjl]
    exact ih (ar_pos_lt t d h2 hjl) _
  · apply relabelL_id
    intro j c hj
    have hjl : j < memLen (mkTab t) d := by simpa [memT] using getElem?_lt hj
    obtain rfl : slotT (envOf t) d k j = c := by simpa [memT, hjl] using hj
    rw [startN_memT t d k j (Nat.le_of_lt hjl)]
    exact relabel_slotT (envOf t) d k j

/-! ### levels: hwloc_connect_levels on the rows of the tree -/

def rowT (t : Topo) (d : Nat) : List Tree :=
  (List.range (nOf (mkTab t) d)).map (fun k => regT t ((mkTab t).D + 1 - d) d k)

theorem row_next (t : Topo) (d : Nat) (hd : d < (mkTab t).D) : (rowT t d).flatMap (·.ns) = rowT t (d + 1) := by
  unfold rowT
  rw [List.flatMap_map, nOf_succ t d hd, show (mkTab t).D + 1 - d = ((mkTab t).D + 1 - (d + 1)) + 1 by rw [Nat.add_sub_add_right, Nat.succ_sub (Nat.le_of_lt hd)],
    ← flatMap_range_mul]
  rfl

theorem row_last (t : Topo) : (rowT t (mkTab t).D).flatMap (·.ns) = [] := by
  unfold rowT
  rw [List.flatMap_map, List.flatMap_eq_nil_iff, show (mkTab t).D + 1 - (mkTab t).D = 0 + 1 by omega]
  intro k _
  show kidsT t 0 (mkTab t).D k = []
  rw [kidsT, mkTab_ar_last]; rfl

theorem row_obj (t : Topo) (d : Nat) (hd : d ≤ (mkTab t).D) :
    (rowT t d).map (·.obj) = (List.range (nOf (mkTab t) d)).map (fun k => robjOf (normalObj (envOf t) d k)) := by
  unfold rowT
  rw [List.map_map, Nat.succ_sub hd]
  rfl

theorem row_ne_nil (t : Topo) (h : OK t) (d : Nat) (hd : d ≤ (mkTab t).D) : rowT t d ≠ [] := by
  have := nOf_pos t h d hd
  intro h0
  have := congrArg List.length h0
  simp [rowT] at this; omega

/-- the objects of one depth compare equal: same type, same Group attributes -/
theorem row_uniform (t : Topo) (d : Nat) (hd : d ≤ (mkTab t).D) :
    ∀ a ∈ rowT t d, ∀ b ∈ rowT t d, typeEq a.obj b.obj = true := by
  intro a ha b hb
  have ha' : a.obj ∈ (rowT t d).map (·.obj) := List.mem_map_of_mem ha
  have hb' : b.obj ∈ (rowT t d).map (·.obj) := List.mem_map_of_mem hb
  rw [row_obj t d hd] at ha' hb'
  obtain ⟨k, _, e1⟩ := List.mem_map.1 ha'
  obtain ⟨k', _, e2⟩ := List.mem_map.1 hb'
  rw [← e1, ← e2]
  have h1 : (robjOf (normalObj (envOf t) d k)).type = (robjOf (normalObj (envOf t) d k')).type := rfl
  have h2 : (robjOf (normalObj (envOf t) d k)).gkind = (robjOf (normalObj (envOf t) d k')).gkind := rfl
  have h3 : (robjOf (normalObj (envOf t) d k)).gsubkind = (robjOf (normalObj (envOf t) d k')).gsubkind := rfl
  unfold typeEq
  rw [h1, h2, h3]; simp

theorem levels_rows (t : Topo) (h : OK t) : ∀ j d fuel, d + j = (mkTab t).D → j < fuel →
    levelsLoop fuel (rowT t d) = (List.range' d (j + 1)).map (fun e => (rowT t e).map (·.obj)) := by
  intro j
  induction j with
  | zero =>
    intro d fuel hd hf
    obtain ⟨fuel', rfl⟩ := Nat.exists_eq_succ_of_ne_zero (Nat.ne_of_gt hf)
    obtain rfl : d = (mkTab t).D := hd
    rw [levelsLoop_uniform _ _ (row_ne_nil t h _ (Nat.le_refl _)) (row_uniform t _ (Nat.le_refl _)), row_last]
    cases fuel' <;> rfl
  | succ j ih =>
    intro d fuel hd hf
    obtain ⟨fuel', rfl⟩ := Nat.exists_eq_succ_of_ne_zero (Nat.ne_of_gt (Nat.zero_lt_of_lt hf))
    have hlt : d < (mkTab t).D := hd ▸ Nat.lt_add_of_pos_right (Nat.succ_pos j)
    rw [levelsLoop_uniform _ _ (row_ne_nil t h d (Nat.le_of_lt hlt)) (row_uniform t d (Nat.le_of_lt hlt)), row_next t d hlt,
      ih (d + 1) fuel' (by rw [← hd, Nat.add_assoc, Nat.add_comm 1]) (Nat.lt_of_succ_lt_succ hf), List.range'_succ (n := j + 1)]
    rfl

theorem row_zero (t : Topo) : rowT t 0 = [treeOfTopo t] := by
  unfold rowT treeOfTopo
  rw [nOf_zero]; rfl

def idsAt (t : Topo) (d : Nat) : List Nat := (List.range (nOf (mkTab t) d)).map (nid (mkTab t) d)

theorem normalLevels_tree (t : Topo) (h : OK t) :
    normalLevels (treeOfTopo t) = (List.range ((mkTab t).D + 1)).map (fun d => (ntype t d, idsAt t d)) := by
  have hfuel : (mkTab t).D < (objsT (treeOfTopo t)).length + 1 := by
    have h2 := sz_ge t h 0 (mkTab t).D (Nat.zero_add _)
    rw [← occs_map_obj, List.length_map, occs, occsT_length, treeOfTopo, sizeT_regT t _ 0 0 (Nat.zero_add _) (Nat.zero_le _)]; omega
  -- the level loop started on row 0, the root alone, runs through all the rows
  rw [normalLevels, show relabelT 0 (treeOfTopo t) = treeOfTopo t from relabel_regT t _ 0 0 (Nat.zero_add _) (Nat.zero_le _),
    connectLevels_eq_loop, ← row_zero, levels_rows t h _ 0 _ (Nat.zero_add _) hfuel, ← List.range_eq_range', List.map_map]
  refine List.map_congr_left fun d hd => ?_
  have hd' : d ≤ (mkTab t).D := Nat.le_of_lt_succ (List.mem_range.1 hd)
  rw [Function.comp, row_obj t d hd', List.head?_map, List.head?_range, if_neg (Nat.ne_of_gt (nOf_pos t h d hd')), List.map_map]
  exact congrArg (·, _) (normalObj_type t d 0)

/-! ### the tree is typed -/

theorem typed_slotT (E : DEnv) (d k s : Nat) : isMemory (slotT E d k s).obj.type = true ∧ typedT (slotT E d k s) = true := by
  unfold slotT
  split <;> exact ⟨rfl, rfl⟩

theorem typed_regT (t : Topo) (h : OK t) : ∀ (f d k : Nat), d + f = (mkTab t).D + 1 → d ≤ (mkTab t).D →
    isNormal (regT t f d k).obj.type = true ∧ typedT (regT t f d k) = true := by
  refine fuel_ind _ fun f d h1 ih k => ?_
  have h2 : d ≤ (mkTab t).D := by omega
  have hty : isNormal (robjOf (normalObj (envOf t) d k)).type = true := by
    show isNormal (normalObj (envOf t) d k).type = true
    rw [normalObj_type]; exact ntype_normal t h d h2
  have hlt : (robjOf (normalObj (envOf t) d k)).type < tMAX := by have := lt14_of_normal hty; unfold tMAX; omega
  refine ⟨hty, ?_⟩
  rw [regT_succ, typedT, hty, kidsT, memT,
    typedL_map_range isNormal _ _ (fun r hr => ih (ar_pos_lt t d h2 hr) _),
    typedL_map_range isMemory _ _ (fun s _ => typed_slotT (envOf t) d k s)]
  simp [typedL, hlt]

theorem typed_tree (t : Topo) (h : OK t) : typedT (treeOfTopo t) = true :=
  (typed_regT t h _ 0 0 (by omega) (Nat.zero_le _)).2

/-! ### PUs are leaves -/

theorem puLeaf_slotT (E : DEnv) (d k s : Nat) : puLeafT (slotT E d k s) = true := by
  unfold slotT; split <;> rfl

theorem puLeaf_regT (t : Topo) (h : OK t) : ∀ (f d k : Nat), d + f = (mkTab t).D + 1 → d ≤ (mkTab t).D →
    puLeafT (regT t f d k) = true := by
  refine fuel_ind _ fun f d h1 ih k => ?_
  have h2 : d ≤ (mkTab t).D := by omega
  rw [regT_succ, puLeafT_node]
  refine ⟨fun hpu => ?_, (puLeafL_iff _).2 fun c hc => ?_, (puLeafL_iff _).2 fun c hc => ?_, rfl, rfl⟩
  · obtain rfl := (ntype_pu t h d h2).1 ((normalObj_type t d k).symm.trans (hpu : (normalObj (envOf t) d k).type = tPU))
    exact ⟨by rw [kidsT, mkTab_ar_last]; rfl, by rw [memT, memLen_last t h]; rfl⟩
  · obtain ⟨r, hr, rfl⟩ := List.mem_map.1 hc
    exact ih (ar_pos_lt t d h2 (List.mem_range.1 hr)) _
  · obtain ⟨s, _, rfl⟩ := List.mem_map.1 hc
    exact puLeaf_slotT _ d k s

theorem puLeaf_tree (t : Topo) (h : OK t) : puLeafT (treeOfTopo t) = true :=
  puLeaf_regT t h _ 0 0 (Nat.zero_add _) (Nat.zero_le _)

end Hw.Syn
