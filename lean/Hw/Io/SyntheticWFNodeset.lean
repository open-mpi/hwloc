/-
  Hw.Io.SyntheticWFNodeset — `nodeset-decomposition` for `toDump t`: for every normal object the memory children's nodesets are
  pairwise disjoint, the nodes attached at or below it (the bottom-up fold `below` of `Hw.Topo.mkAux`) are accumulated from
  pairwise disjoint parts, the nodes inherited from its ancestors' memory children (the top-down fold `inh`) are disjoint from
  them, and its nodeset is exactly the union of the two — for every `t` with `topoOK t` and `numaOK t`.

  The generic recurrences `Hw.Topo.inh_rec` / `Hw.Topo.below_rec` (any dump whose ids are positions and whose parents come
  first) are instantiated on `toDump t`; the bits of both folds are then the NUMA nodes (depth e, object x, slot s) on the path
  through the object (e above for `inh`, e at or below for `below`), which is what the closed form `nodesetOf` lists;
  disjointness is injectivity of the os_index in (e, x, s), from `numaOK`.
-/
import Hw.Io.SyntheticWFAggr
import Hw.Topo.AuxBelow
import Hw.Io.SyntheticWFSib
import Hw.Io.SyntheticWFSets
import Hw.Io.SyntheticWFLevels
import Hw.Topo.AuxInh

/-! ### the memory aggregates (`memOr` / `memDisj`) of a normal object -/

namespace Hw.Syn
open Hw Hw.Topo
set_option linter.unusedSectionVars false

/-- nodesets of the memory children of (d, k), slot by slot -/
def singles (t : Topo) (d k : Nat) : List Nat :=
  (List.range (memLen (mkTab t) d)).map (fun s => 1 <<< (t.numaIdx[postPos (mkTab t) (numaCnt (mkTab t)) d k s]?.getD 0))

theorem firstObj_nodeset (E : DEnv) (d k s : Nat) :
    (firstObj E d k s).nodeset = some (1 <<< (E.t.numaIdx[postPos E.T (numaCnt E.T) d k s]?.getD 0)) := by
  unfold firstObj; split <;> rfl

section
variable (t : Topo) (h : OK t)
include h

theorem memOr_normal (d k : Nat) (hd : d ≤ (mkTab t).D) (hk : k < nOf (mkTab t) d) :
    getN (auxFold (toDump t)).memOr (nid (mkTab t) d k) = (singles t d k).foldl (· ||| ·) 0 ∧
    getB (auxFold (toDump t)).memDisj (nid (mkTab t) d k) = seqDisj 0 (singles t d k) := by
  obtain ⟨-, -, c3, c4, -⟩ := cell_kids t h d k hd hk
  have hs : (List.range (memLen (mkTab t) d)).map (fun s => nsOf (firstObj (envOf t) d k s)) = singles t d k :=
    List.map_congr_left fun s _ => by unfold nsOf; rw [firstObj_nodeset]; rfl
  -- stated for any `Aux`: at `auxFold (toDump t)` the unifier unfolds the fold before `cellOf`
  rw [← hs, ← (cellOf_mem _ _).1, ← (cellOf_mem _ _).2]
  exact ⟨c3, c4⟩

theorem normalKids_toDump (d k : Nat) (hd : d ≤ (mkTab t).D) (hk : k < nOf (mkTab t) d) :
    normalKids (toDump t) (nid (mkTab t) d k) =
      (List.range (arOf (mkTab t) d)).map (fun r => normalObj (envOf t) (d + 1) (k * arOf (mkTab t) d + r)) := by
  have e : normalKids (toDump t) (nid (mkTab t) d k) =
      ((toDump t).objs.filter (hasParent (nid (mkTab t) d k))).filter (fun c => isNormal c.type) := by
    unfold normalKids
    rw [List.filter_filter, parentIs_eq]
  rw [e, kids_filter t h d k hd hk, (kidsOf_kinds t h d k hd).1]

end

/-- nodes at or below (d, k): the value of the bottom-up fold at its index -/
def Bv (t : Topo) (d k : Nat) : Nat := getN (belowFold (toDump t)).1 (nid (mkTab t) d k)
/-- nodes inherited by (d, k): the value of the top-down fold at its index -/
def Iv (t : Topo) (d k : Nat) : Nat := getN (inhFold (toDump t)) (nid (mkTab t) d k)
/-- nodes of the memory children of (d, k) -/
def Ov (t : Topo) (d k : Nat) : Nat := (singles t d k).foldl (· ||| ·) 0

theorem Ov_bits (t : Topo) (d k b : Nat) : (Ov t d k).testBit b = true ↔ ∃ s, nodeAt t d k s b := by
  unfold Ov singles nodeAt nu
  rw [testBit_foldl_or]
  simp only [Nat.zero_testBit, Bool.false_or, List.any_map, List.any_eq_true, List.mem_range, Function.comp, Bits.testBit_one_shl,
    decide_eq_true_eq]

theorem disjoint_comm (a b : Nat) : disjoint a b = disjoint b a := Topo.disjoint_comm a b

section
variable (t : Topo) (h : OK t)
include h

omit h in
theorem toDump_parent_lt : ∀ o ∈ (toDump t).objs, isNormal o.type = true → 0 ≤ o.parent → o.parent.toNat < o.id := by
  intro o ho hn hp
  cases objs_kind t o ho with
  | normal d k hd hk e =>
    cases d with
    | zero =>
      have hm : (normalObj (envOf t) 0 k).parent = -1 := rfl
      rw [e, hm] at hp; omega
    | succ d =>
      have hd' : d < (mkTab t).D := hd
      rw [e, (normalObj_parent t d k hd').1, normalObj_id, envOf_T, nid_succ, ar_getD1 t d hd']
      simp only [Int.toNat_natCast]
      omega
  | numa d k s hd hk hs e => rw [e] at hn; cases hn
  | mc d k s hd hk hs hm e => rw [e] at hn; cases hn

theorem normalObj_isNormal (d k : Nat) (hd : d ≤ (mkTab t).D) : isNormal (normalObj (envOf t) d k).type = true := by
  rw [normalObj_type]; exact ntype_normal t h d hd

theorem Iv_zero : Iv t 0 0 = 0 := by
  have hk : 0 < nOf (mkTab t) 0 := by rw [nOf_zero]; exact Nat.one_pos
  have := inh_rec (toDump t) (toDump_getElem_id t) (toDump_parent_lt t) (normalObj (envOf t) 0 0) (normalObj_mem t 0 0 (Nat.zero_le _) hk)
    (normalObj_isNormal t h 0 0 (Nat.zero_le _))
  have hm : (normalObj (envOf t) 0 0).parent = -1 := rfl
  have hp : ¬ (0 ≤ (normalObj (envOf t) 0 0).parent) := by rw [hm]; omega
  rw [if_neg hp] at this
  exact this

theorem Iv_succ (d k : Nat) (hd : d < (mkTab t).D) (hk : k < nOf (mkTab t) (d + 1)) :
    Iv t (d + 1) k = Iv t d (k / arOf (mkTab t) d) ||| Ov t d (k / arOf (mkTab t) d) := by
  have := inh_rec (toDump t) (toDump_getElem_id t) (toDump_parent_lt t) (normalObj (envOf t) (d + 1) k) (normalObj_mem t (d + 1) k hd hk)
    (normalObj_isNormal t h (d + 1) k hd)
  rw [(normalObj_parent t d k hd).1, if_pos (Int.natCast_nonneg _), Int.toNat_natCast,
    (memOr_normal t h d _ (Nat.le_of_lt hd) (div_lt_parent t d k hd hk).2).1] at this
  exact this

/-- the list of values OR-ed into the `below` cell of (d, k): the children's values, last child first, then the memory children -/
def belowVals (t : Topo) (d k : Nat) : List Nat :=
  (List.range (arOf (mkTab t) d)).reverse.map (fun r => Bv t (d + 1) (k * arOf (mkTab t) d + r)) ++ [Ov t d k]

theorem Bv_rec (d k : Nat) (hd : d ≤ (mkTab t).D) (hk : k < nOf (mkTab t) d) :
    Bv t d k = (belowVals t d k).foldl (· ||| ·) 0 ∧
    getB (belowFold (toDump t)).2 (nid (mkTab t) d k) = seqDisj 0 (belowVals t d k) := by
  have := below_rec (toDump t) (toDump_getElem_id t) (toDump_parent_lt t) (normalObj (envOf t) d k) (normalObj_mem t d k hd hk)
    (normalObj_isNormal t h d k hd)
  simp only [normalObj_id, envOf_T, normalKids_toDump t h d k hd hk, (memOr_normal t h d k hd hk).1, ← List.map_reverse,
    List.map_map, Function.comp_def] at this
  exact this

theorem Bv_step (d k b : Nat) (hd : d ≤ (mkTab t).D) (hk : k < nOf (mkTab t) d) :
    (Bv t d k).testBit b = true ↔
      (∃ r, r < arOf (mkTab t) d ∧ (Bv t (d + 1) (k * arOf (mkTab t) d + r)).testBit b = true) ∨ (Ov t d k).testBit b = true := by
  rw [(Bv_rec t h d k hd hk).1, testBit_foldl_or]
  unfold belowVals
  simp only [Nat.zero_testBit, Bool.false_or, List.any_append, List.any_map, List.any_reverse, List.any_cons, List.any_nil,
    Bool.or_false, Bool.or_eq_true, List.any_eq_true, List.mem_range, Function.comp]

theorem self_ks (d k x : Nat) (hx : x ∈ ksOf (mkTab t) d k d) : x = k := by
  rw [ksOf_self] at hx; exact List.mem_singleton.1 hx

theorem Bv_bits : ∀ j d, d + j = (mkTab t).D → ∀ k, k < nOf (mkTab t) d → ∀ b,
    ((Bv t d k).testBit b = true ↔ ∃ e x s, d ≤ e ∧ e ≤ (mkTab t).D ∧ x ∈ ksOf (mkTab t) d k e ∧ nodeAt t e x s b) := by
  have key : ∀ f d k, d + f = (mkTab t).D + 1 → d ≤ (mkTab t).D → k < nOf (mkTab t) d → ∀ b,
      ((Bv t d k).testBit b = true ↔ ∃ e x s, d ≤ e ∧ e ≤ (mkTab t).D ∧ x ∈ ksOf (mkTab t) d k e ∧ nodeAt t e x s b) := by
    refine fuel_ind _ fun f d hf ih k hk b => ?_
    have hd' : d ≤ (mkTab t).D := by omega
    have hkid : ∀ r, r < arOf (mkTab t) d → d < (mkTab t).D ∧ k * arOf (mkTab t) d + r < nOf (mkTab t) (d + 1) := fun r hr =>
      have hlt := ar_pos_lt t d hd' hr
      ⟨hlt, child_lt t d k r hlt hk hr⟩
    rw [Bv_step t h d k b hd' hk, Ov_bits]
    constructor
    · intro hb
      rcases hb with ⟨r, hr, hb⟩ | ⟨s, hs⟩
      · obtain ⟨hlt, hkc⟩ := hkid r hr
        obtain ⟨e, x, s, h1, h2, h3, h4⟩ := (ih hlt _ hkc b).1 hb
        exact ⟨e, x, s, Nat.le_of_succ_le h1, h2, (mem_ksOf_kids t h d k e x hlt h1 h2).2 ⟨r, hr, h3⟩, h4⟩
      · exact ⟨d, k, s, Nat.le_refl _, hd', mem_ksOf_self _ d k, hs⟩
    · intro ⟨e, x, s, h1, h2, h3, h4⟩
      by_cases he : e = d
      · subst he
        rw [self_ks t h e k x h3] at h4
        exact .inr ⟨s, h4⟩
      · have hlt : d + 1 ≤ e := Nat.lt_of_le_of_ne h1 (Ne.symm he)
        obtain ⟨r, hr, hx⟩ := (mem_ksOf_kids t h d k e x (Nat.lt_of_lt_of_le hlt h2) hlt h2).1 h3
        obtain ⟨hd1, hkc⟩ := hkid r hr
        exact .inl ⟨r, hr, (ih hd1 _ hkc b).2 ⟨e, x, s, hlt, h2, hx, h4⟩⟩
  exact fun j d hj k => key (j + 1) d k (by omega) (by omega)

theorem Iv_bits : ∀ d, d ≤ (mkTab t).D → ∀ k, k < nOf (mkTab t) d → ∀ b,
    ((Iv t d k).testBit b = true ↔ ∃ e x s, e < d ∧ x ∈ ksOf (mkTab t) d k e ∧ nodeAt t e x s b) := by
  intro d
  induction d with
  | zero =>
    intro _ k hk b
    rw [nOf_zero] at hk
    have : k = 0 := by omega
    subst this
    rw [Iv_zero t h, Nat.zero_testBit]
    constructor
    · intro hb; cases hb
    · intro ⟨e, _, _, he, _⟩; omega
  | succ d ih =>
    intro hd k hk b
    have hd' : d < (mkTab t).D := hd
    have hp := (div_lt_parent t d k hd' hk).2
    rw [Iv_succ t h d k hd' hk, Nat.testBit_or, Bool.or_eq_true, ih (Nat.le_of_lt hd') _ hp b, Ov_bits]
    -- e < d + 1 is e < d or e = d: above the parent the two paths agree, and at depth d the path is the parent alone
    simp only [exists_and_left, Nat.exists_lt_succ_right, ksOf_parent t h d k d hd' (Nat.le_refl d), ksOf_self, List.mem_singleton,
      exists_eq_left]
    exact or_congr_left (exists_congr fun e => and_congr_right fun he => by rw [ksOf_parent t h d k e hd' (Nat.le_of_lt he)])

theorem node_unique (hn : numaOK t = true) (d k d' k' e x s e' x' s' b : Nat) (hd : d ≤ (mkTab t).D) (hk : k < nOf (mkTab t) d)
    (hd' : d' ≤ (mkTab t).D) (hk' : k' < nOf (mkTab t) d')
    (he : e ≤ (mkTab t).D) (hx : x ∈ ksOf (mkTab t) d k e) (h1 : nodeAt t e x s b)
    (he' : e' ≤ (mkTab t).D) (hx' : x' ∈ ksOf (mkTab t) d' k' e') (h2 : nodeAt t e' x' s' b) : e = e' ∧ x = x' ∧ s = s' :=
  numaIdx_inj t h hn e x s e' x' s' he (ksOf_lt t h d k e x hd hk he hx) h1.1 he' (ksOf_lt t h d' k' e' x' hd' hk' he' hx') h2.1
    (by have := h1.2; have := h2.2; unfold nu at *; omega)

theorem Bv_disjoint (hn : numaOK t = true) (d k k' : Nat) (hd : d ≤ (mkTab t).D) (hk : k < nOf (mkTab t) d)
    (hk' : k' < nOf (mkTab t) d) (hne : k ≠ k') : disjoint (Bv t d k) (Bv t d k') = true := by
  rw [disjoint_iff]
  intro c ⟨h1, h2⟩
  obtain ⟨e1, x1, s1, a1, a2, a3, a4⟩ := (Bv_bits t h _ d (Nat.add_sub_cancel' hd) k hk c).1 h1
  obtain ⟨e2, x2, s2, _, b2, b3, b4⟩ := (Bv_bits t h _ d (Nat.add_sub_cancel' hd) k' hk' c).1 h2
  obtain ⟨rfl, rfl, _⟩ := node_unique t h hn d k d k' e1 x1 s1 e2 x2 s2 c hd hk hd hk' a2 a3 a4 b2 b3 b4
  exact ksOf_disjoint t h d k k' e1 x1 a1 a2 hne a3 b3

theorem Iv_Bv_disjoint (hn : numaOK t = true) (d k : Nat) (hd : d ≤ (mkTab t).D) (hk : k < nOf (mkTab t) d) :
    disjoint (Iv t d k) (Bv t d k) = true := by
  rw [disjoint_iff]
  intro c ⟨h1, h2⟩
  obtain ⟨e1, x1, s1, a1, a3, a4⟩ := (Iv_bits t h d hd k hk c).1 h1
  obtain ⟨e2, x2, s2, b1, b2, b3, b4⟩ := (Bv_bits t h _ d (Nat.add_sub_cancel' hd) k hk c).1 h2
  obtain ⟨q, _, _⟩ := node_unique t h hn d k d k e1 x1 s1 e2 x2 s2 c hd hk hd hk (by omega) a3 a4 b2 b3 b4
  omega

theorem cl_nodeset_decomposition (hn : numaOK t = true) (o : Obj) (ho : o ∈ (toDump t).objs) :
    (fun (_ : Dump) (a : Aux) (o : Obj) =>
      if isNormal o.type then
        getB a.memDisj o.id && getB a.belowDisj o.id && disjoint (getN a.inh o.id) (getN a.below o.id) &&
        o.nodeset == some (getN a.inh o.id ||| getN a.below o.id)
      else true) (toDump t) (mkAux (toDump t)) o = true := by
  cases objs_kind t o ho with
  | numa d k s hd hk hs e => rw [e]; rfl
  | mc d k s hd hk hs hm e => rw [e]; rfl
  | normal d k hd hk e =>
    obtain ⟨_, _, _, e4, _⟩ := mkAux_fold (toDump t)
    simp only [e, normalObj_isNormal t h d k hd, if_true, e4, mkAux_inh, (mkAux_below (toDump t)).1, (mkAux_below (toDump t)).2,
      normalObj_id, envOf_T, normalObj_nodeset, Bool.and_eq_true, beq_iff_eq]
    show ((getB (auxFold (toDump t)).memDisj (nid (mkTab t) d k) = true ∧ getB (belowFold (toDump t)).2 (nid (mkTab t) d k) = true) ∧
      disjoint (Iv t d k) (Bv t d k) = true) ∧ some (nodesetOf (envOf t) d k) = some (Iv t d k ||| Bv t d k)
    refine ⟨⟨⟨?_, ?_⟩, Iv_Bv_disjoint t h hn d k hd hk⟩, ?_⟩
    · -- the memory children's nodesets are pairwise disjoint
      rw [(memOr_normal t h d k hd hk).2]
      apply seqDisj_zero
      unfold singles
      rw [List.pairwise_map]
      refine pairwise_range_of_lt _ _ fun i j hij hj' => single_disjoint fun he => ?_
      exact Nat.ne_of_lt hij (numaIdx_inj t h hn d k i d k j hd hk (Nat.lt_trans hij hj') hd hk hj' he).2.2
    · -- the parts of `below` are pairwise disjoint
      rw [(Bv_rec t h d k hd hk).2]
      apply seqDisj_zero
      unfold belowVals
      rw [List.pairwise_append, List.pairwise_map, List.pairwise_reverse]
      refine ⟨pairwise_range_of_lt _ _ fun i j hij hj' => ?_, List.pairwise_singleton _ _, ?_⟩
      · have hd' := ar_pos_lt t d hd hj'
        exact Bv_disjoint t h hn (d + 1) _ _ hd' (child_lt t d k j hd' hk hj') (child_lt t d k i hd' hk (Nat.lt_trans hij hj')) (by omega)
      · simp only [List.mem_map, List.mem_reverse, List.mem_range, List.mem_singleton]
        rintro _ ⟨r, hr', rfl⟩ _ rfl
        have hd' := ar_pos_lt t d hd hr'
        have hcr := child_lt t d k r hd' hk hr'
        -- a child inherits the nodes of its parent's memory children, and they are not below it
        have := Iv_Bv_disjoint t h hn (d + 1) _ hd' hcr
        rw [Iv_succ t h d _ hd' hcr, mul_add_div_of_lt hr', or_disjoint] at this
        rw [disjoint_comm]
        exact this.2
    · -- the nodeset is their union
      refine congrArg some (Nat.eq_of_testBit_eq fun c => ?_)
      rw [Bool.eq_iff_iff, Nat.testBit_or, Bool.or_eq_true, nodesetOf_bits t h d k c, Iv_bits t h d hd k hk c,
        Bv_bits t h _ d (Nat.add_sub_cancel' hd) k hk c]
      -- a depth e ≤ D is above d, or from d on
      simp only [← exists_or, ← and_assoc, ← or_and_right]
      exact exists_congr fun e => exists_congr fun x => exists_congr fun s => and_congr_left' (and_congr_left'
        ⟨fun he => (Nat.lt_or_ge e d).imp_right fun hde => ⟨hde, he⟩, fun he => he.elim (fun hlt => Nat.le_trans (Nat.le_of_lt hlt) hd) (·.2)⟩)

end

end Hw.Syn
