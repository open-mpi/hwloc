/-
  Hw.Io.SyntheticWFSets — the nodesets along the path through an object of `toDump t`: the bits of `nodesetOf` are the NUMA nodes
  on the path (`nodesetOf_bits`), so a path that is part of another carries part of its nodes; `numa-allowed`, `set-in-parent`.
-/
import Hw.Io.SyntheticWFAggr

namespace Hw.Syn
open Hw Hw.Topo

set_option linter.unusedSectionVars false

theorem numaPositions_eq (E : DEnv) (d k : Nat) : numaPositions E d k =
    (List.range (E.T.D + 1)).flatMap (fun e =>
      (ksOf E.T d k e).flatMap (fun k' => (List.range (numaCnt E.T e)).map (fun s => postPos E.T (numaCnt E.T) e k' s))) := rfl

/-- the NUMA node in slot `s` of object `x` of depth `e` has os_index `b` -/
def nodeAt (t : Topo) (e x s b : Nat) : Prop :=
  s < memLen (mkTab t) e ∧ nu t (postPos (mkTab t) (numaCnt (mkTab t)) e x s) = b

section
variable (t : Topo) (h : OK t)
include h

theorem nodesetOf_bits (d k b : Nat) :
    (nodesetOf (envOf t) d k).testBit b = true ↔ ∃ e x s, e ≤ (mkTab t).D ∧ x ∈ ksOf (mkTab t) d k e ∧ nodeAt t e x s b := by
  unfold nodesetOf
  rw [testBit_orBits, numaPositions_eq]
  simp only [List.contains_eq_mem, List.mem_map, List.mem_flatMap, List.mem_range, decide_eq_true_eq, envOf_T, envOf_t]
  constructor
  · intro ⟨p, ⟨e, he, x, hx, s, hs, hp⟩, hb⟩
    exact ⟨e, x, s, by omega, hx, hs, by rw [← hb, ← hp]; rfl⟩
  · intro ⟨e, x, s, he, hx, hs, hb⟩
    exact ⟨_, ⟨e, by omega, x, hx, s, hs, rfl⟩, hb⟩

theorem nodesetOf_mono (d k d' k' : Nat) (hs : ∀ e, e ≤ (mkTab t).D → ∀ x ∈ ksOf (mkTab t) d' k' e, x ∈ ksOf (mkTab t) d k e) :
    subset (nodesetOf (envOf t) d' k') (nodesetOf (envOf t) d k) = true := by
  rw [subset_iff_bits]
  intro b hb
  obtain ⟨e, x, s, he, hx, hn⟩ := (nodesetOf_bits t h d' k' b).1 hb
  exact (nodesetOf_bits t h d k b).2 ⟨e, x, s, he, hs e he x hx, hn⟩

theorem slot_nodeset_sub (d k s : Nat) (hd : d ≤ (mkTab t).D) (hs : s < memLen (mkTab t) d) :
    subset (1 <<< (t.numaIdx[postPos (mkTab t) (numaCnt (mkTab t)) d k s]?.getD 0)) (nodesetOf (envOf t) d k) = true := by
  rw [subset_iff_bits]
  intro b hb
  rw [Bits.testBit_one_shl] at hb
  exact (nodesetOf_bits t h d k b).2 ⟨d, k, s, hd, mem_ksOf_self _ d k, hs, by simpa [nu] using hb⟩

theorem cl_set_in_parent (o : Obj) (ho : o ∈ (toDump t).objs) :
    objClause "set-in-parent" (toDump t) (mkAux (toDump t)) o = true := by
  rw [objClause_of_getElem? (k := 16) rfl]
  cases objs_kind t o ho with
  | normal d k hd hk e =>
    cases d with
    | zero => rw [e]; rfl
    | succ d =>
      have hd' : d < (mkTab t).D := hd
      have hf := normal_facts _ (lt14_of_normal (ntype_normal t h (d + 1) hd))
      have hcs : subset (cpusetOf (envOf t) (d + 1) k) (cpusetOf (envOf t) d (k / arOf (mkTab t) d)) = true :=
        cpusetOf_mono t h _ _ _ _ (Nat.le_of_lt hd') hd (ksOf_child t h d k hd' _ (Nat.le_refl _))
      have hns : subset (nodesetOf (envOf t) (d + 1) k) (nodesetOf (envOf t) d (k / arOf (mkTab t) d)) = true :=
        nodesetOf_mono t h _ _ _ _ (ksOf_child t h d k hd')
      simp only [e, lookup_parent_normal t d k hd' hk, normalObj_type, hf.2.2.2.2.2.1, Bool.false_eq_true, if_false]
      simp only [normalObj_cpuset, normalObj_ccpuset, normalObj_nodeset, normalObj_cnodeset, Option.getD_some, hcs, hns, Bool.and_self]
  | numa d k s hd hk hs e =>
    have hty : isSpecial (numaObj (envOf t) d k s).type = false := rfl
    simp only [e, lookup_parent_numa t d k s hd hk hs, hty, Bool.false_eq_true, if_false]
    by_cases hm : (slotM (envOf t) d s).msc ≠ 0
    · rw [if_pos hm]
      simp only [numaObj_cpuset, numaObj_ccpuset, numaObj_cnodeset, mcObj_cpuset, mcObj_ccpuset, mcObj_nodeset, mcObj_cnodeset,
        Option.getD_some, subset_refl, Bool.and_self]
    · rw [if_neg hm]
      simp only [numaObj_cpuset, numaObj_ccpuset, numaObj_cnodeset, numaObj_nodeset, normalObj_cpuset, normalObj_ccpuset,
        normalObj_nodeset, normalObj_cnodeset, Option.getD_some, subset_refl,
        slot_nodeset_sub t h d k s hd hs, Bool.and_self]
  | mc d k s hd hk hs hm e =>
    have hty : isSpecial (mcObj (envOf t) d k s).type = false := rfl
    simp only [e, lookup_parent_mc t d k s hd hk, hty, Bool.false_eq_true, if_false]
    simp only [mcObj_cpuset, mcObj_ccpuset, mcObj_nodeset, mcObj_cnodeset, numaObj_nodeset, normalObj_cpuset, normalObj_ccpuset,
      normalObj_nodeset, normalObj_cnodeset, Option.getD_some, subset_refl,
      slot_nodeset_sub t h d k s hd hs, Bool.and_self]

theorem cl_numa_allowed (o : Obj) (ho : o ∈ (toDump t).objs) :
    objClause "numa-allowed" (toDump t) (mkAux (toDump t)) o = true := by
  rw [objClause_of_getElem? (k := 24) rfl]
  have hal : (toDump t).allowedNodeset = some (nodesetOf (envOf t) 0 0) := rfl
  simp only [hal, Option.getD_some]
  split
  · rename_i hc
    cases objs_kind t o ho with
    | normal d k hd hk e =>
      rw [e, normalObj_type] at hc
      have := (normal_facts _ (lt14_of_normal (ntype_normal t h d hd))).1
      simp [this] at hc
    | numa d k s hd hk hs e =>
      -- the node is in the nodeset of its object, which is part of the root's: every path lies on one through the root
      rw [e, numaObj_nodeset, Option.getD_some]
      exact subset_trans (slot_nodeset_sub t h d k s hd hs) (nodesetOf_mono t h _ _ _ _
        fun e he x hx => (mem_ksOf_root t h e x he).2 (ksOf_lt t h d k e x hd hk he hx))
    | mc d k s hd hk hs hm e =>
      rw [e] at hc
      have : ((mcObj (envOf t) d k s).type == tNUMA) = false := rfl
      rw [this] at hc; simp at hc
  · rfl

end

end Hw.Syn
