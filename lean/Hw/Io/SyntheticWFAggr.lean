/-
  Hw.Io.SyntheticWFAggr — the clauses of `Hw.Topo.WF` that go through the aggregates of `mkAux`, for `toDump t`: the aggregates
  of a normal object in closed form (`cell_kids`), memory-side-cache nodesets, cpuset = disjoint union of the children's cpusets
  (under `puOK`), total memory; with them the PU clauses `pu-allowed` and `pu-osindex-unique`.
-/
import Hw.Io.SyntheticKids
import Hw.Topo.AuxFold
import Hw.Io.SyntheticBits
import Hw.Topo.AuxCell

/-! ### the aggregates of one object; memory-side-cache nodesets -/

namespace Hw.Syn
open Hw Hw.Topo

theorem parentIs_eq : parentIs = hasParent := rfl

section
variable (t : Topo) (h : OK t)
include h

omit h in
theorem obj_id_lt (o : Obj) (ho : o ∈ (toDump t).objs) : o.id < (toDump t).objs.length := by
  obtain ⟨i, hi, rfl⟩ := List.getElem_of_mem ho
  rw [toDump_getElem_id t i hi]; exact hi

omit h in
theorem cell_of_mem (o : Obj) (ho : o ∈ (toDump t).objs) :
    cellOf (auxFold (toDump t)) o.id = ((toDump t).objs.filter (hasParent o.id)).foldl cellStep cell0 := by
  rw [auxFold_cell _ _ (obj_id_lt t o ho), parentIs_eq]

theorem cell_normal (d k : Nat) (hd : d ≤ (mkTab t).D) (hk : k < nOf (mkTab t) d) :
    cellOf (auxFold (toDump t)) (nid (mkTab t) d k) = (kidsOf (envOf t) d k).foldl cellStep cell0 :=
  (cell_of_mem t _ (normalObj_mem t d k hd hk)).trans (congrArg _ (kids_filter t h d k hd hk))

theorem cell_mc (d k s : Nat) (hd : d ≤ (mkTab t).D) (hk : k < nOf (mkTab t) d) (hs : s < memLen (mkTab t) d)
    (hm : (slotM (envOf t) d s).msc ≠ 0) :
    cellOf (auxFold (toDump t)) (memId (mkTab t) d k s) = cellStep cell0 (numaObj (envOf t) d k s) :=
  (cell_of_mem t _ (mcObj_mem t d k s hd hk hs hm)).trans (congrArg (List.foldl cellStep cell0) (mc_kids_filter t h d k s hd hk hs hm))

theorem cell_numa (d k s : Nat) (hd : d ≤ (mkTab t).D) (hk : k < nOf (mkTab t) d) (hs : s < memLen (mkTab t) d) :
    cellOf (auxFold (toDump t)) (numaId (mkTab t) d k s) = cell0 :=
  (cell_of_mem t _ (numaObj_mem t d k s hd hk hs)).trans (congrArg (List.foldl cellStep cell0) (numa_kids_filter t h d k s hd hk hs))

theorem kidsOf_kinds (d k : Nat) (hd : d ≤ (mkTab t).D) :
    (kidsOf (envOf t) d k).filter (fun o => isNormal o.type) =
      (List.range (arOf (mkTab t) d)).map (fun r => normalObj (envOf t) (d + 1) (k * arOf (mkTab t) d + r)) ∧
    (kidsOf (envOf t) d k).filter (fun o => !isNormal o.type && isMemory o.type) =
      (List.range (memLen (mkTab t) d)).map (firstObj (envOf t) d k) ∧
    ∀ x ∈ kidsOf (envOf t) d k, (isNormal x.type || isMemory x.type) = true := by
  have hn : ∀ x ∈ (List.range (arOf (mkTab t) d)).map (fun r => normalObj (envOf t) (d + 1) (k * arOf (mkTab t) d + r)),
      isNormal x.type = true := by
    intro x hx
    obtain ⟨r, hr, rfl⟩ := List.mem_map.1 hx
    rw [normalObj_type]
    exact ntype_normal t h (d + 1) (ar_pos_lt t d hd (List.mem_range.1 hr))
  have hm : ∀ x ∈ (List.range (memLen (mkTab t) d)).map (firstObj (envOf t) d k), isNormal x.type = false ∧ isMemory x.type = true := by
    intro x hx
    obtain ⟨s, _, rfl⟩ := List.mem_map.1 hx
    exact firstObj_type (envOf t) d k s
  unfold kidsOf
  rw [envOf_T, List.filter_append, List.filter_append]
  exact ⟨by rw [List.filter_eq_self.2 hn, List.filter_eq_nil_iff.2 (fun x hx => by rw [(hm x hx).1]; simp), List.append_nil],
    by rw [List.filter_eq_nil_iff.2 (fun x hx => by rw [hn x hx]; simp), List.filter_eq_self.2 (fun x hx => by rw [(hm x hx).1, (hm x hx).2]; rfl),
      List.nil_append],
    fun x hx => (List.mem_append.1 hx).elim (fun hx => by rw [hn x hx]; rfl) (fun hx => by rw [(hm x hx).2]; exact Bool.or_true _)⟩

theorem cell_kids (d k : Nat) (hd : d ≤ (mkTab t).D) (hk : k < nOf (mkTab t) d) :
    (cellOf (auxFold (toDump t)) (nid (mkTab t) d k)).cpuOr =
      ((List.range (arOf (mkTab t) d)).map (fun r => cpusetOf (envOf t) (d + 1) (k * arOf (mkTab t) d + r))).foldl (· ||| ·) 0 ∧
    (cellOf (auxFold (toDump t)) (nid (mkTab t) d k)).cpuDisj =
      seqDisj 0 ((List.range (arOf (mkTab t) d)).map (fun r => cpusetOf (envOf t) (d + 1) (k * arOf (mkTab t) d + r))) ∧
    (cellOf (auxFold (toDump t)) (nid (mkTab t) d k)).memOr =
      ((List.range (memLen (mkTab t) d)).map (fun s => nsOf (firstObj (envOf t) d k s))).foldl (· ||| ·) 0 ∧
    (cellOf (auxFold (toDump t)) (nid (mkTab t) d k)).memDisj =
      seqDisj 0 ((List.range (memLen (mkTab t) d)).map (fun s => nsOf (firstObj (envOf t) d k s))) ∧
    (cellOf (auxFold (toDump t)) (nid (mkTab t) d k)).totSum = ((kidsOf (envOf t) d k).map (·.totalMem)).sum := by
  obtain ⟨k1, k2, hall⟩ := kidsOf_kinds t h d k hd
  rw [cell_normal t h d k hd hk, foldl_cellStep, k1, k2, List.map_congr_left fun o ho => if_pos (hall o ho), List.map_map, List.map_map]
  exact ⟨rfl, rfl, rfl, rfl, Nat.zero_add _⟩

theorem cl_memcache_nodeset (o : Obj) (ho : o ∈ (toDump t).objs) :
    objClause "memcache-nodeset" (toDump t) (mkAux (toDump t)) o = true := by
  rw [objClause_of_getElem? (k := 21) rfl]
  simp only [mkAux_memOr, mkAux_memDisj]
  cases objs_kind t o ho with
  | normal d k hd hk e =>
    have := (normal_facts _ (lt14_of_normal (ntype_normal t h d hd))).2.1
    rw [e, normalObj_type]
    simp [this]
  | numa d k s hd hk hs e => rw [e]; rfl
  | mc d k s hd hk hs hm e =>
    rw [e, mcObj_id, envOf_T, cell_mc t h d k s hd hk hs hm]
    -- its one child is the NUMA node, which carries the same nodeset
    show (some _ == some (0 ||| (numaObj (envOf t) d k s).nodeset.getD 0) && (true && disjoint 0 _)) = true
    rw [Nat.zero_or, zero_disjoint, Bool.and_true, Bool.and_true]
    exact beq_self_eq_true _

end

/-! ### `cpuset-is-disjoint-union-of-children` (under `puOK`) -/


/-- PUs below one object of depth `d` -/
def wOf (T : DTab) (d : Nat) : Nat := nOf T T.D / nOf T d

/-- the second side condition: one distinct os_index per PU -/
def puOK (t : Topo) : Bool := decide t.puIdx.Nodup && t.puIdx.length == nOf (mkTab t) (mkTab t).D

def pu (t : Topo) (i : Nat) : Nat := t.puIdx[i]?.getD 0
def nu (t : Topo) (p : Nat) : Nat := t.numaIdx[p]?.getD 0

theorem cpusetOf_eq (t : Topo) (d k : Nat) :
    cpusetOf (envOf t) d k = orBits ((List.range (wOf (mkTab t) d)).map (fun j => pu t (k * wOf (mkTab t) d + j))) := rfl

section
variable (t : Topo) (h : OK t)
include h

theorem w_succ (d : Nat) (hd : d < (mkTab t).D) : wOf (mkTab t) d = arOf (mkTab t) d * wOf (mkTab t) (d + 1) :=
  q_succ t h (mkTab t).D d (Nat.le_refl _) hd

theorem wOf_pos (d : Nat) (hd : d ≤ (mkTab t).D) : 0 < wOf (mkTab t) d :=
  q_pos t h (mkTab t).D d (Nat.le_refl _) hd

omit h in
theorem w_total (d : Nat) (hd : d ≤ (mkTab t).D) : nOf (mkTab t) (mkTab t).D = nOf (mkTab t) d * wOf (mkTab t) d :=
  q_total t (mkTab t).D d (Nat.le_refl _) hd

theorem testBit_cpusetOf (d k b : Nat) (hd : d ≤ (mkTab t).D) :
    (cpusetOf (envOf t) d k).testBit b = true ↔ ∃ i ∈ ksOf (mkTab t) d k (mkTab t).D, pu t i = b := by
  rw [cpusetOf_eq, testBit_orBits]
  simp only [List.contains_eq_mem, List.mem_map, List.mem_range, decide_eq_true_eq]
  rcases Nat.eq_or_lt_of_le hd with rfl | hlt
  · rw [ksOf_self, wOf, Nat.div_self (nOf_pos t h _ hd)]
    simp
  · unfold ksOf wOf
    rw [if_pos hlt]
    simp only [List.mem_map, List.mem_range]
    exact ⟨fun ⟨j, hj, hb⟩ => ⟨_, ⟨j, hj, rfl⟩, by rw [Nat.add_comm]; exact hb⟩,
      fun ⟨_, ⟨j, hj, e⟩, hb⟩ => ⟨j, hj, by rw [Nat.add_comm, e]; exact hb⟩⟩

theorem cpuset_union (d k b : Nat) (hd : d < (mkTab t).D) :
    (cpusetOf (envOf t) d k).testBit b = true ↔
      ∃ r, r < arOf (mkTab t) d ∧ (cpusetOf (envOf t) (d + 1) (k * arOf (mkTab t) d + r)).testBit b = true := by
  simp only [testBit_cpusetOf t h d k b (Nat.le_of_lt hd), testBit_cpusetOf t h (d + 1) _ b hd,
    mem_ksOf_kids t h d k _ _ hd hd (Nat.le_refl _)]
  exact ⟨fun ⟨i, ⟨r, hr, hi⟩, hb⟩ => ⟨r, hr, i, hi, hb⟩, fun ⟨r, hr, i, hi, hb⟩ => ⟨i, ⟨r, hr, hi⟩, hb⟩⟩

omit h in
theorem pu_inj (hp : puOK t = true) (i j : Nat) (hi : i < nOf (mkTab t) (mkTab t).D) (hj : j < nOf (mkTab t) (mkTab t).D)
    (he : pu t i = pu t j) : i = j := by
  unfold puOK at hp
  simp only [Bool.and_eq_true, decide_eq_true_eq, beq_iff_eq] at hp
  obtain ⟨hnd, hlen⟩ := hp
  unfold pu at he
  rw [← hlen] at hi hj
  rw [List.getElem?_eq_getElem hi, List.getElem?_eq_getElem hj] at he
  simp only [Option.getD_some] at he
  exact (List.getElem_inj hnd).1 he

theorem cpuset_disjoint (hp : puOK t = true) (d k k' : Nat) (hd : d ≤ (mkTab t).D) (hk : k < nOf (mkTab t) d)
    (hk' : k' < nOf (mkTab t) d) (hne : k < k') : disjoint (cpusetOf (envOf t) d k) (cpusetOf (envOf t) d k') = true := by
  rw [disjoint_iff]
  intro b ⟨h1, h2⟩
  obtain ⟨i, hi, hb⟩ := (testBit_cpusetOf t h d k b hd).1 h1
  obtain ⟨i', hi', hb'⟩ := (testBit_cpusetOf t h d k' b hd).1 h2
  obtain rfl := pu_inj t hp i i' (ksOf_lt t h d k _ i hd hk (Nat.le_refl _) hi) (ksOf_lt t h d k' _ i' hd hk' (Nat.le_refl _) hi')
    (hb.trans hb'.symm)
  exact ksOf_disjoint t h d k k' _ i hd (Nat.le_refl _) (Nat.ne_of_lt hne) hi hi'

end

section
variable (t : Topo) (h : OK t)
include h

theorem cl_cpuset_union (hp : puOK t = true) (o : Obj) (ho : o ∈ (toDump t).objs) :
    objClause "cpuset-is-disjoint-union-of-children" (toDump t) (mkAux (toDump t)) o = true := by
  rw [objClause_of_getElem? (k := 19) rfl]
  simp only [mkAux_cpuOr, mkAux_cpuDisj]
  cases objs_kind t o ho with
  | normal d k hd hk e =>
    rw [e, normalObj_type, ntype_normal t h d hd, Bool.true_and]
    by_cases hpu : ntype t d = tPU
    · simp [hpu]
    · have hne : (ntype t d != tPU) = true := by simp [hpu]
      have hd' : d < (mkTab t).D := Nat.lt_of_le_of_ne hd fun e => hpu ((ntype_pu t h d hd).2 e)
      obtain ⟨c1, c2, -⟩ := cell_kids t h d k hd hk
      rw [hne, if_pos rfl, normalObj_id, envOf_T, c1, c2, normalObj_cpuset]
      simp only [Bool.and_eq_true, beq_iff_eq, Option.some.injEq]
      constructor
      · apply Nat.eq_of_testBit_eq
        intro b
        rw [testBit_foldl_or, Nat.zero_testBit, Bool.false_or, Bool.eq_iff_iff, cpuset_union t h d k b hd']
        simp only [List.any_map, List.any_eq_true, List.mem_range, Function.comp]
      · apply seqDisj_zero
        rw [List.pairwise_map]
        refine pairwise_range_of_lt _ _ fun r r' hlt hr' => ?_
        exact cpuset_disjoint t h hp (d + 1) _ _ hd' (child_lt t d k r hd' hk (Nat.lt_trans hlt hr')) (child_lt t d k r' hd' hk hr')
          (Nat.add_lt_add_left hlt _)
  | numa d k s hd hk hs e => rw [e]; rfl
  | mc d k s hd hk hs hm e => rw [e]; rfl

end

section
variable (t : Topo) (h : OK t)
include h

theorem cpusetOf_mono (d k d' k' : Nat) (hd : d ≤ (mkTab t).D) (hd' : d' ≤ (mkTab t).D)
    (hs : ∀ x ∈ ksOf (mkTab t) d' k' (mkTab t).D, x ∈ ksOf (mkTab t) d k (mkTab t).D) :
    subset (cpusetOf (envOf t) d' k') (cpusetOf (envOf t) d k) = true := by
  rw [subset_iff_bits]
  intro b hb
  obtain ⟨i, hi, hb⟩ := (testBit_cpusetOf t h d' k' b hd').1 hb
  exact (testBit_cpusetOf t h d k b hd).2 ⟨i, hs i hi, hb⟩

theorem cl_pu_allowed (o : Obj) (ho : o ∈ (toDump t).objs) :
    objClause "pu-allowed" (toDump t) (mkAux (toDump t)) o = true := by
  rw [objClause_of_getElem? (k := 23) rfl]
  have hal : (toDump t).allowedCpuset = some (cpusetOf (envOf t) 0 0) := rfl
  simp only [hal, Option.getD_some]
  split
  · cases objs_kind t o ho with
    | normal d k hd hk e => rw [e, normalObj_cpuset, Option.getD_some]; exact cpusetOf_mono t h 0 0 d k (Nat.zero_le _) hd fun i hi =>
        (mem_ksOf_root t h _ i (Nat.le_refl _)).2 (ksOf_lt t h d k _ i hd hk (Nat.le_refl _) hi)
    | numa d k s hd hk hs e =>
      rename_i hc; rw [e] at hc
      have : ((numaObj (envOf t) d k s).type == tPU) = false := rfl
      rw [this] at hc; simp at hc
    | mc d k s hd hk hs hm e =>
      rename_i hc; rw [e] at hc
      have : ((mcObj (envOf t) d k s).type == tPU) = false := rfl
      rw [this] at hc; simp at hc
  · rfl

end

/-! ### `total-memory` -/


/-- local memory of the memory children of one object of depth `e` -/
def mOf (T : DTab) (e : Nat) : Nat := ((T.mem[e]?.getD []).map (·.mem)).sum

/-- memory below one object of depth `d` (it does not depend on `k`) -/
def mbOf (T : DTab) (d : Nat) : Nat :=
  ((List.range (T.D + 1)).map (fun e => if e ≥ d then (nOf T e / nOf T d) * mOf T e else 0)).sum

theorem memBelow_eq (E : DEnv) (d k : Nat) : memBelow E d k = mbOf E.T d := rfl

theorem normalObj_totalMem (E : DEnv) (d k : Nat) : (normalObj E d k).totalMem = mbOf E.T d := rfl

section
variable (t : Topo) (h : OK t)
include h

theorem mb_rec (d : Nat) (hd : d ≤ (mkTab t).D) :
    mbOf (mkTab t) d = arOf (mkTab t) d * mbOf (mkTab t) (d + 1) + mOf (mkTab t) d :=
  sumW_rec t h (mOf (mkTab t)) d hd

theorem cl_total_memory (o : Obj) (ho : o ∈ (toDump t).objs) :
    objClause "total-memory" (toDump t) (mkAux (toDump t)) o = true := by
  rw [objClause_of_getElem? (k := 25) rfl]
  simp only [mkAux_totSum]
  rw [beq_iff_eq]
  cases objs_kind t o ho with
  | normal d k hd hk e =>
    have hnn : (ntype t d == tNUMA) = false := beq_false_of_ne (normal_facts _ (lt14_of_normal (ntype_normal t h d hd))).1
    rw [e, normalObj_type, hnn, normalObj_id, envOf_T, (cell_kids t h d k hd hk).2.2.2.2, normalObj_totalMem, envOf_T, mb_rec t h d hd]
    simp only [kidsOf, List.map_append, List.sum_append, List.map_map, Function.comp_def, normalObj_totalMem, firstObj_totalMem]
    rw [Hw.Topo.Restrict.sum_map_range_const _ _ _ (fun _ _ => rfl), if_neg Bool.false_ne_true, Nat.zero_add]
    exact congrArg _ (congrArg List.sum (map_range_getD ((mkTab t).mem[d]?.getD []) ⟨0, 0⟩ (·.mem))).symm
  | numa d k s hd hk hs e =>
    rw [e, numaObj_id, envOf_T, cell_numa t h d k s hd hk hs]
    rfl
  | mc d k s hd hk hs hm e =>
    rw [e, mcObj_id, envOf_T, cell_mc t h d k s hd hk hs hm]
    show (slotM (envOf t) d s).mem = 0 + (0 + (slotM (envOf t) d s).mem)
    rw [Nat.zero_add, Nat.zero_add]

end

section
variable (t : Topo) (h : OK t)
include h

theorem tc_pu_osindex_unique (hp : puOK t = true) :
    topClause "pu-osindex-unique" (toDump t) (mkAux (toDump t)) = true := by
  rw [topClause_of_getElem? (k := 12) rfl]
  simp only [decide_eq_true_eq]
  refine osidx_nodup t tPU fun a ha b hb hta htb heq => ?_
  have key : ∀ x, x ∈ (toDump t).objs → x.type = tPU → ∃ k, k < nOf (mkTab t) (mkTab t).D ∧ x = normalObj (envOf t) (mkTab t).D k ∧
      x.osidx = ((pu t k : Nat) : Int) := by
    intro x hx hty
    cases objs_kind t x hx with
    | normal d k hd hk e =>
      rw [e, normalObj_type] at hty
      have hD := (ntype_pu t h d hd).1 hty
      subst hD
      exact ⟨k, hk, e, by rw [e]; exact puObj_osidx t h k⟩
    | numa d k s hd hk hs e =>
      rw [e, numaObj_type] at hty; exact absurd hty (by decide)
    | mc d k s hd hk hs hm e =>
      rw [e, mcObj_type] at hty; exact absurd hty (by decide)
  obtain ⟨k, hk, ea, oa⟩ := key a ha hta
  obtain ⟨k', hk', eb, ob⟩ := key b hb htb
  rw [oa, ob] at heq
  obtain rfl := pu_inj t hp k k' hk hk' (by omega)
  rw [ea, eb]

end

end Hw.Syn
