/-
  Hw.Io.LinuxParseList — specification of hwloc__read_path_as_cpulist (model: Hw.Io.LinuxParse): on every
  well-formed kernel list (ascending disjoint items `a` / `a-b`, all below 2^31-1, decimal, comma separated,
  newline terminated) the parser is defined (no signed overflow), the result is finite and denotes exactly
  the union of the items.

  The fold over the pieces is characterised relative to its start state, together with the final
  `clr_range(prevlast+1, -1)` that cuts the infinite tail (`CLState.cut`, `clFold_spec`).  The result is first
  stated for ANY bytes whose pieces parse to such items; the kernel's rendering is put in last.
-/
import Hw.Io.LinuxParse
import Hw.Base.NumLemmas
import Hw.Base.Snprintf
import Hw.Bitmap.Combine
namespace Hw.LinuxParse
open Hw

/-! ### the signed scanner agrees with the C04 `strtoul` model -/

theorem numBody_eq (base : Nat) (s1 : List Byte) : numBody base s1 = strtoBody base s1 := rfl

theorem scanNum_nosign (base : Nat) (s s1 : List Byte) (hs : s.dropWhile isSpace = s1)
    (h43 : ∀ t, s1 ≠ 43 :: t) (h45 : ∀ t, s1 ≠ 45 :: t) :
    scanNum base s =
      (if (numBody base s1).2.1 = 0 then none
       else some (signedVal false (numBody base s1).1, (numBody base s1).2.2)) := by
  unfold scanNum
  simp only [hs]

theorem strtoul_eq_strtoulS (base : Nat) (s : List Byte) (h43 : ∀ t, s.dropWhile isSpace ≠ 43 :: t)
    (h45 : ∀ t, s.dropWhile isSpace ≠ 45 :: t) : strtoul base s = .ok (strtoulS base s).1 (strtoulS base s).2 := by
  rw [strtoul_nosign base s h43 h45, strtoulS, scanNum_nosign base s _ rfl h43 h45, numBody_eq]
  generalize strtoBody base (s.dropWhile isSpace) = nb
  obtain ⟨v, n, rest⟩ := nb
  by_cases hn : n = 0
  · simp only [hn, if_true]
  · simp only [hn, if_false, signedVal, Bool.false_eq_true, min_ulongMax]

theorem strtoulS_of_ok (base : Nat) (s : List Byte) (v : Nat) (r : List Byte)
    (h : strtoul base s = .ok v r) : strtoulS base s = (v, r) := by
  rw [strtoul_eq_strtoulS base s (nosign_of_strtoul_ok h).1 (nosign_of_strtoul_ok h).2] at h
  cases h; rfl


/-- `hlen`: `strtoulS` answers `(0, s)` also when nothing was converted -/
theorem scanNum_of_strtoulS (base : Nat) (s : List Byte) (v : Nat) (r : List Byte) (h : strtoulS base s = (v, r))
    (hlen : r.length < s.length) : scanNum base s = some (v, r) := by
  unfold strtoulS at h
  cases hs : scanNum base s with
  | some p => rw [hs] at h; exact congrArg some h
  | none =>
    rw [hs] at h
    injection h with _ h2
    rw [h2] at hlen; omega

/-! ### the rendered text -/

theorem renderItem_chars (it : Nat × Nat) : ∀ c : Nat, c ∈ renderItem it → IsDecChar c ∨ c = 45 := by
  intro c hc
  unfold renderItem at hc
  split at hc
  · exact Or.inl (decDigits_chars _ c hc)
  · simp only [List.mem_append, List.mem_singleton] at hc
    rcases hc with (hc | hc) | hc
    · exact Or.inl (decDigits_chars _ c hc)
    · exact Or.inr hc
    · exact Or.inl (decDigits_chars _ c hc)

theorem renderItem_ne_comma (it : Nat × Nat) : ∀ c : Nat, c ∈ renderItem it → c ≠ 44 := by
  intro c hc
  rcases renderItem_chars it c hc with h | h
  · unfold IsDecChar at h; omega
  · omega

theorem renderItem_ne_nul (it : Nat × Nat) : ∀ c : Nat, c ∈ renderItem it → c ≠ 0 := by
  intro c hc
  rcases renderItem_chars it c hc with h | h
  · unfold IsDecChar at h; omega
  · omega

theorem cstr_append_nonzero (ds rest : List Byte) (h : ∀ c ∈ ds, c ≠ 0) : cstr (ds ++ rest) = ds ++ cstr rest :=
  List.takeWhile_append_of_pos (fun c hc => by simpa using h c hc)

theorem cstr_nonzero (l : List Byte) (h : ∀ c ∈ l, c ≠ 0) : cstr l = l := by
  have := cstr_append_nonzero l [] h
  rwa [List.append_nil, show cstr [] = [] from rfl, List.append_nil] at this

theorem cstr_length_le (b : List Byte) : (cstr b).length ≤ b.length := by
  unfold cstr; exact (List.takeWhile_prefix _).length_le

theorem splitComma_ne_nil (s : List Byte) : splitComma s ≠ [] := by
  induction s with
  | nil => simp [splitComma]
  | cons c cs ih =>
    unfold splitComma
    split
    · simp
    · split <;> simp

theorem splitComma_cons_ne (c : Nat) (cs : List Byte) (h : c ≠ 44) :
    splitComma (c :: cs) = (match splitComma cs with
      | p :: ps => (c :: p) :: ps
      | [] => [[c]]) := by
  rw [splitComma, if_neg h]
  cases splitComma cs <;> rfl

theorem splitComma_nocomma (s : List Byte) (h : ∀ c : Nat, c ∈ s → c ≠ 44) : splitComma s = [s] := by
  induction s with
  | nil => rfl
  | cons c cs ih =>
    rw [splitComma_cons_ne c cs (h c (by simp)), ih (fun c hc => h c (by simp [hc]))]

theorem splitComma_append_comma (s t : List Byte) (h : ∀ c : Nat, c ∈ s → c ≠ 44) :
    splitComma (s ++ 44 :: t) = s :: splitComma t := by
  induction s with
  | nil => rw [List.nil_append, splitComma, if_pos rfl]
  | cons c cs ih =>
    rw [List.cons_append, splitComma_cons_ne c _ (h c (by simp)), ih (fun c hc => h c (by simp [hc]))]

/-! ### the two kernel formats: items joined by commas, closed by a newline -/

structure SepRender {α : Type} (r : α → List Byte) (render : List α → List Byte) : Prop where
  nil : render [] = [10]
  one : ∀ x, render [x] = r x ++ [10]
  more : ∀ x y l, render (x :: y :: l) = r x ++ 44 :: render (y :: l)

theorem SepRender.chars {α : Type} {r : α → List Byte} {render : List α → List Byte} (h : SepRender r render)
    (P : Byte → Prop) (h10 : P 10) (h44 : P 44) (hr : ∀ x, ∀ c ∈ r x, P c) : ∀ l, ∀ c ∈ render l, P c
  | [], c, hc => by
    rw [h.nil, List.mem_singleton] at hc
    rw [hc]; exact h10
  | [x], c, hc => by
    rw [h.one, List.mem_append, List.mem_singleton] at hc
    rcases hc with hc | hc
    · exact hr x c hc
    · rw [hc]; exact h10
  | x :: y :: l, c, hc => by
    rw [h.more, List.mem_append, List.mem_cons] at hc
    rcases hc with hc | hc | hc
    · exact hr x c hc
    · rw [hc]; exact h44
    · exact h.chars P h10 h44 hr (y :: l) c hc

theorem SepRender.split_one {α : Type} {r : α → List Byte} {render : List α → List Byte} (h : SepRender r render)
    (hr : ∀ x, ∀ c ∈ r x, c ≠ 44) (x : α) : splitComma (render [x]) = [r x ++ [10]] := by
  rw [h.one]
  apply splitComma_nocomma
  intro c hc
  rw [List.mem_append, List.mem_singleton] at hc
  rcases hc with hc | hc
  · exact hr x c hc
  · rw [hc]; decide

theorem SepRender.split_more {α : Type} {r : α → List Byte} {render : List α → List Byte} (h : SepRender r render)
    (hr : ∀ x, ∀ c ∈ r x, c ≠ 44) (x y : α) (l : List α) :
    splitComma (render (x :: y :: l)) = r x :: splitComma (render (y :: l)) := by
  rw [h.more]
  exact splitComma_append_comma _ _ (hr x)

theorem renderList_sep : SepRender renderItem renderList :=
  ⟨rfl, fun _ => rfl, fun _ _ _ => List.append_assoc _ _ _⟩

theorem cstr_renderList (items : List (Nat × Nat)) : cstr (renderList items) = renderList items :=
  cstr_nonzero _ (renderList_sep.chars (· ≠ 0) (by decide) (by decide) renderItem_ne_nul items)

/-! ### one piece -/

theorem noDigitHead_nl (s : List Byte) : NoDigitHead (10 :: s) := noDigitHead_cons 10 s (by decide)

theorem strtoulS0_dec (n : Nat) (rest : List Byte) (hn : n < 2 ^ 64) (h : NoDigitHead rest) :
    strtoulS 0 (decDigits n ++ rest) = (n, rest) :=
  strtoulS_of_ok _ _ _ _ (strtoul0_decDigits n rest hn h)

theorem toInt32_small (v : Nat) (h : v < 2 ^ 31) : toInt32 v = (v : Int) := by
  unfold toInt32
  have e : v % 2 ^ 32 = v := Nat.mod_eq_of_lt (by omega)
  simp only [e]
  rw [if_pos h]

theorem parseSeg_render (a b : Nat) (tail : List Byte) (hab : a ≤ b) (hb : b < 2 ^ 31)
    (hnd : NoDigitHead tail) (ht45 : ∀ t, tail ≠ 45 :: t) :
    parseSeg (renderItem (a, b) ++ tail) = ((a : Int), (b : Int)) := by
  have ha : a < 2 ^ 31 := by omega
  unfold renderItem
  simp only
  split
  · rename_i e
    subst e
    unfold parseSeg
    rw [strtoulS0_dec a tail (by omega) hnd]
    simp only
    rw [toInt32_small a ha]
  · have e : decDigits a ++ [45] ++ decDigits b ++ tail = decDigits a ++ (45 :: (decDigits b ++ tail)) := by
      simp
    rw [e]
    unfold parseSeg
    rw [strtoulS0_dec a _ (by omega) (noDigitHead_minus _)]
    simp only
    rw [strtoulS0_dec b tail (by omega) hnd, toInt32_small a ha, toInt32_small b hb]

/-! ### all pieces -/

def toSeg (it : Nat × Nat) : Int × Int := ((it.1 : Int), (it.2 : Int))

theorem segs_renderList (items : List (Nat × Nat)) : ∀ lo, items ≠ [] → AscFrom lo items →
    (splitComma (renderList items)).map parseSeg = items.map toSeg := by
  induction items with
  | nil => intro lo h; exact absurd rfl h
  | cons it rest ih =>
    intro lo _ hasc
    obtain ⟨a, b⟩ := it
    obtain ⟨_, hab, hb, hrest⟩ := hasc
    cases rest with
    | nil =>
      rw [renderList_sep.split_one renderItem_ne_comma, List.map_cons, List.map_nil,
        parseSeg_render a b [10] hab (by omega) (noDigitHead_nl _) (fun _ e => nomatch e)]
      rfl
    | cons it2 rest2 =>
      rw [renderList_sep.split_more renderItem_ne_comma, List.map_cons, ih (b + 1) (by simp) hrest]
      have := parseSeg_render a b [] hab (by omega) noDigitHead_nil (fun _ e => nomatch e)
      rw [List.append_nil] at this
      rw [this]
      rfl

theorem clSegs_renderList (items : List (Nat × Nat)) (lo : Nat) (hne : items ≠ [])
    (h : AscFrom lo items) : clSegs (renderList items) = items.map toSeg := by
  unfold clSegs
  rw [cstr_renderList, segs_renderList items lo hne h]

/-! ### the bitmap side -/

theorem toNat_emod (n : Nat) (h : n < 2 ^ 32) : ((n : Int) % 2 ^ 32).toNat = n := by
  rw [Int.emod_eq_of_lt (Int.natCast_nonneg n) (by exact_mod_cast h), Int.toNat_natCast]

theorem clrRangeC_nat (s : Bitmap) (b e : Nat) (hb : b < 2 ^ 32) (he : e < 2 ^ 32) :
    clrRangeC s (b : Int) (e : Int) = s.clrRange b (some e) := by
  unfold clrRangeC
  rw [toNat_emod b hb, toNat_emod e he, if_neg (by omega)]

theorem clrRangeC_neg1 (s : Bitmap) (b : Nat) (hb : b < 2 ^ 32) : clrRangeC s (b : Int) (-1) = s.clrRange b none := by
  unfold clrRangeC
  rw [toNat_emod b hb, if_pos rfl]
/-! ### the loop -/

theorem clStep_spec (st : CLState) (lo a b : Nat) (hub : st.ub = false)
    (hp : st.prevlast = (lo : Int) - 1) (hlo : lo ≤ a) (ha : a < 2 ^ 31) :
    (clStep st (toSeg (a, b))).ub = false ∧ (clStep st (toSeg (a, b))).prevlast = (b : Int) ∧
      ∀ n, (clStep st (toSeg (a, b))).set.mem n
            = (st.set.mem n && !(decide (lo ≤ n) && decide (n < a))) := by
  have h1 : ¬ (st.ub = true) := by rw [hub]; decide
  have h2 : ¬ (st.prevlast = intMax ∨ (toSeg (a, b)).1 = intMin) := by
    unfold intMax intMin toSeg
    rw [hp]
    simp only
    omega
  unfold clStep
  rw [if_neg h1, if_neg h2]
  refine ⟨rfl, rfl, fun n => ?_⟩
  simp only [toSeg, hp, Int.sub_add_cancel]
  split
  · -- the gap is not empty, so `a` is a successor and `a - 1` needs no truncated subtraction
    obtain ⟨a', rfl⟩ : ∃ a', a = a' + 1 := ⟨a - 1, by omega⟩
    rw [Int.natCast_add, Int.natCast_one, Int.add_sub_cancel, clrRangeC_nat _ _ _ (by omega) (by omega),
      Bitmap.mem_clrRange_some]
    simp only [Nat.lt_succ_iff]
  · rw [← Bool.decide_and, decide_eq_false (by omega), Bool.not_false, Bool.and_true]

/-- what `cpulist` returns for the state the loop ends in: the infinite tail is cut at `prevlast+1`, unless that overflows -/
def CLState.cut (st : CLState) : Option Bitmap :=
  if st.ub ∨ st.prevlast = intMax then none else some (clrRangeC st.set (st.prevlast + 1) (-1))

theorem cpulist_eq_cut (dst : Bitmap) (bytes : List Byte) : cpulist dst bytes = (clFinal dst bytes).cut := rfl

theorem ascFrom_le_of_any (items : List (Nat × Nat)) : ∀ lo, AscFrom lo items → ∀ n,
    items.any (fun it => decide (it.1 ≤ n) && decide (n ≤ it.2)) = true → lo ≤ n := by
  induction items with
  | nil => intro lo _ n h; simp at h
  | cons it rest ih =>
    intro lo hasc n h
    obtain ⟨hlo, hab, _, hrest⟩ := hasc
    rw [List.any_cons, Bool.or_eq_true, Bool.and_eq_true, decide_eq_true_eq] at h
    rcases h with h | h
    · omega
    · have := ih _ hrest n h; omega

private theorem bool_step (m r : Bool) (lo a b n : Nat) (hlo : lo ≤ a) (hab : a ≤ b) (hr : r = true → b + 1 ≤ n) :
    ((m && !(decide (lo ≤ n) && decide (n < a))) && (decide (n < b + 1) || r))
      = (m && (decide (n < lo) || ((decide (a ≤ n) && decide (n ≤ b)) || r))) := by
  cases m with
  | false => rfl
  | true =>
    cases r with
    | true =>
      have := hr rfl
      have f1 : ¬ n < a := by omega
      simp [f1]
    | false =>
      simp only [Bool.true_and, Bool.or_false]
      rw [Bool.eq_iff_iff]
      simp only [Bool.and_eq_true, Bool.or_eq_true, Bool.not_eq_true', decide_eq_true_eq,
        Bool.and_eq_false_iff, decide_eq_false_iff_not]
      omega

/-- The loop read together with the final cut: from a state whose next gap starts at `lo`, the items leave of the
bits below `lo` what was there and above `lo` exactly their union.  (With the cut inside the statement no upper end
of the items has to be named.) -/
theorem clFold_spec (items : List (Nat × Nat)) : ∀ (st : CLState) (lo : Nat), st.ub = false →
    st.prevlast = (lo : Int) - 1 → lo < 2 ^ 31 → AscFrom lo items →
    ∃ b, ((items.map toSeg).foldl clStep st).cut = some b ∧ b.inf = false ∧
      ∀ n, b.mem n = (st.set.mem n && (decide (n < lo) ||
        items.any (fun it => decide (it.1 ≤ n) && decide (n ≤ it.2)))) := by
  induction items with
  | nil =>
    intro st lo hub hp hlo _
    refine ⟨st.set.clrRange lo none, ?_, Bitmap.clrRange_none_inf _ _, fun n => ?_⟩
    · have hc : ¬ (st.ub = true ∨ st.prevlast = intMax) := by
        rw [hub, hp]; unfold intMax; rintro (h | h)
        · cases h
        · omega
      rw [List.map_nil, List.foldl_nil, CLState.cut, if_neg hc, hp, Int.sub_add_cancel, clrRangeC_neg1 _ lo (by omega)]
    · rw [Bitmap.mem_clrRange_none, List.any_nil, Bool.or_false]
      rw [← decide_not, decide_eq_decide.2 Nat.not_le]
  | cons it rest ih =>
    intro st lo hub hp hlo hasc
    obtain ⟨a, b⟩ := it
    obtain ⟨hloa, hab, hb, hrest⟩ := hasc
    obtain ⟨s1, s2, s3⟩ := clStep_spec st lo a b hub hp hloa (by omega)
    obtain ⟨r, hcut, hinf, hm⟩ := ih (clStep st (toSeg (a, b))) (b + 1) s1 (by rw [s2]; omega) hb hrest
    refine ⟨r, by rw [List.map_cons, List.foldl_cons]; exact hcut, hinf, fun n => ?_⟩
    rw [hm n, s3 n, List.any_cons]
    exact bool_step _ _ lo a b n hloa hab (ascFrom_le_of_any rest _ hrest n)

/-! ### the specification -/

theorem cpulist_of_segs (dst : Bitmap) (bytes : List Byte) (items : List (Nat × Nat))
    (hs : clSegs bytes = items.map toSeg) (h : AscFrom 0 items) :
    ∃ b, cpulist dst bytes = some b ∧ b.inf = false ∧
      ∀ n, b.mem n = items.any (fun it => decide (it.1 ≤ n) && decide (n ≤ it.2)) := by
  obtain ⟨b, hcut, hinf, hm⟩ := clFold_spec items (clInit dst) 0 rfl rfl (by omega) h
  refine ⟨b, ?_, hinf, fun n => ?_⟩
  · rw [cpulist_eq_cut, clFinal, hs]; exact hcut
  · rw [hm n, show (clInit dst).set.mem n = true from Bitmap.mem_fill dst n]; simp

theorem cpulist_spec (dst : Bitmap) (items : List (Nat × Nat)) (hne : items ≠ []) (h : AscFrom 0 items) :
    ∃ b, cpulist dst (renderList items) = some b ∧ b.inf = false ∧
      ∀ n, b.mem n = items.any (fun it => decide (it.1 ≤ n) && decide (n ≤ it.2)) :=
  cpulist_of_segs dst _ items (clSegs_renderList items 0 hne h) h

end Hw.LinuxParse
