/-
  Hw.Io.SyntheticRender — `toDump t` is the rendering of its tree: `toDump t = render (treeOfTopo t) (hdrOfTopo t) (exOfTopo t)`
  (`toDump_eq_render`).  The links are `occs_regT` (Hw.Io.SyntheticTree); here the level fields: a normal object (d, k) is entry `k`
  of level `d` of hwloc_connect_levels (`normalLevels_tree`, also there), a memory object is found in the list of the objects of its
  type (`specialLevel_tree`; `ids_toDump`, Hw.Io.SyntheticWFLevels) at its closed-form position `postPos` (`level_at_postPos`, same
  file).  Every clause of `WF` that
  Hw/Topo/Render*.lean proves for the rendering of a typed tree therefore holds for `toDump t`.
-/
import Hw.Io.SyntheticTree
import Hw.Io.SyntheticWFLevels
import Hw.Topo.RenderOf
namespace Hw.Syn
open Hw Hw.Topo Hw.Topo.Restrict

/-- attributes, names, total memory: read back from the dump's own object of that gp (= id) -/
def exOfTopo (t : Topo) (r : RObj) : Extra :=
  let o := ((toDump t).objs[r.gp]?).getD blankObj
  { symm := o.symm, totalMem := o.totalMem, attrs := o.attrs, subtype := o.subtype, name := o.name, infos := o.infos }

def hdrOfTopo (t : Topo) : Hdr := hdrOf (toDump t)

theorem render_objs_linkPart (t : Topo) (hd : Hdr) (ex : RObj → Extra) :
    (render (treeOfTopo t) hd ex).objs.map linkPart = (toDump t).objs.map linkPart := by
  rw [render_objs, List.map_map, toDump_objs]
  exact occs_regT t _ _ ex ((mkTab t).D + 1) 0 0 (by omega) (Nat.zero_le _)

/-! ### special levels -/

theorem idsOfType_linkPart (ty : Nat) (l : List Obj) : idsOfType ty (l.map linkPart) = idsOfType ty l := by
  unfold idsOfType
  rw [List.filter_map, List.map_map]
  rfl

theorem specialLevel_tree (t : Topo) (ty : Nat) :
    (specialLevel (occs (treeOfTopo t)) ty).map (fun (i : Nat) => (i : Int)) = idsOfType ty (toDump t).objs := by
  rw [← idsOfType_linkPart, ← render_objs_linkPart t ⟨0, [], none, none⟩ (fun _ => default), idsOfType_linkPart, render_objs]
  unfold specialLevel idsOfType
  rw [List.filter_map, List.map_map, List.map_map]
  congr 1
  · funext oc; simp [rObj, ro_id]
  · congr 1
    funext oc; simp [rObj, ro_type]

theorem no_other_type (t : Topo) (h : OK t) (ty : Nat) (h1 : 14 ≤ ty) (h2 : ty ≠ tNUMA) (h3 : ty ≠ tMEMCACHE) :
    idsOfType ty (toDump t).objs = [] := by
  unfold idsOfType
  rw [List.map_eq_nil_iff, List.filter_eq_nil_iff]
  intro o ho
  simp only [beq_iff_eq]
  cases objs_kind t o ho with
  | normal d k hd hk e => rw [e, normalObj_type]; have := lt14_of_normal (ntype_normal t h d hd); omega
  | numa d k s hd hk hs e => rw [e, numaObj_type]; exact fun hh => h2 hh.symm
  | mc d k s hd hk hs hm e => rw [e, mcObj_type]; exact fun hh => h3 hh.symm

/-! ### the level fields of one object -/

/-- what `renderObj` derives from the levels for an object with the id and the type of `o` -/
structure LvlOK (nl : List (Nat × List Nat)) (os : List Occ) (o : Obj) : Prop where
  depth : o.depth = (placeOf nl os o.id o.type).1
  lidx : o.lidx = idxOf (placeOf nl os o.id o.type).2 o.id
  next : o.nextCousin = (((placeOf nl os o.id o.type).2[o.lidx + 1]?).map (fun (i : Nat) => (i : Int))).getD (-1)
  prev : o.prevCousin = if o.lidx = 0 then -1 else (((placeOf nl os o.id o.type).2[o.lidx - 1]?).map (fun (i : Nat) => (i : Int))).getD (-2)

theorem normalLevels_at (t : Topo) (h : OK t) (d : Nat) (hd : d ≤ (mkTab t).D) :
    ∃ hk : d < (normalLevels (treeOfTopo t)).length, (normalLevels (treeOfTopo t))[d] = (ntype t d, idsAt t d) := by
  have hk : d < (normalLevels (treeOfTopo t)).length := by rw [normalLevels_tree t h]; simp; omega
  refine ⟨hk, Option.some.inj ?_⟩
  rw [← List.getElem?_eq_getElem hk, normalLevels_tree t h]
  simp [show d < (mkTab t).D + 1 by omega]

theorem zip_rows (t : Topo) (h : OK t) :
    (List.range (normalLevels (treeOfTopo t)).length).zip (normalLevels (treeOfTopo t)) =
      (List.range ((mkTab t).D + 1)).map (fun d => (d, (ntype t d, idsAt t d))) := by
  rw [normalLevels_tree t h]
  simp only [List.length_map, List.length_range]
  apply List.ext_getElem?; intro i
  by_cases hi : i < (mkTab t).D + 1 <;> simp [hi]

theorem lvl_of_place (nl : List (Nat × List Nat)) (os : List Occ) (x : Obj) (sd : Int) (SL : List Nat) (pos : Nat)
    (hp : placeOf nl os x.id x.type = (sd, SL)) (hnd : SL.Nodup) (hget : SL[pos]? = some x.id) (f0 : x.depth = sd) (f1 : x.lidx = pos)
    (f2 : x.prevCousin = neighbour (SL.map (fun (i : Nat) => (i : Int))) pos false)
    (f3 : x.nextCousin = neighbour (SL.map (fun (i : Nat) => (i : Int))) pos true) : LvlOK nl os x := by
  have hlt : pos < SL.length := getElem?_lt hget
  refine ⟨by rw [hp, f0], ?_, ?_, ?_⟩
  · rw [hp, f1]; exact (idxOf_of_nodup _ hnd pos _ hget).symm
  · rw [hp, f1, f3]; unfold neighbour; simp
  · rw [hp, f1, f2]; unfold neighbour
    rcases Nat.eq_zero_or_pos pos with h0 | h0
    · subst h0; rfl
    · simp [show pos ≠ 0 by omega, List.getElem?_eq_getElem (show pos - 1 < SL.length by omega)]

theorem lvl_normal (t : Topo) (h : OK t) (d k : Nat) (hd : d ≤ (mkTab t).D) (hk : k < nOf (mkTab t) d) :
    LvlOK (normalLevels (treeOfTopo t)) (occs (treeOfTopo t)) (normalObj (envOf t) d k) := by
  obtain ⟨hd', hlev⟩ := normalLevels_at t h d hd
  have hnd : (idsAt t d).Nodup := by have := level_nodup (treeOfTopo t) d hd'; rwa [hlev] at this
  have hp : placeOf (normalLevels (treeOfTopo t)) (occs (treeOfTopo t)) (normalObj (envOf t) d k).id (normalObj (envOf t) d k).type =
      ((d : Int), idsAt t d) := by
    rw [placeOf_listed (treeOfTopo t) d hd' _ _ (by rw [normalObj_type]; exact ntype_normal t h d hd)
      (by rw [hlev]; exact List.mem_map.2 ⟨k, List.mem_range.2 hk, rfl⟩), hlev]
  refine lvl_of_place _ _ _ _ _ k hp hnd (by simp [idsAt, hk, normalObj_id, envOf_T]) rfl rfl ?_ ?_
  · show (if k > 0 then (nid (mkTab t) d (k - 1) : Int) else -1) = _
    unfold neighbour idsAt
    rcases Nat.eq_zero_or_pos k with h0 | h0
    · subst h0; rfl
    · simp [show k ≠ 0 by omega, h0, show k - 1 < nOf (mkTab t) d by omega]
  · show (if k + 1 < nOf (mkTab t) d then (nid (mkTab t) d (k + 1) : Int) else -1) = _
    unfold neighbour idsAt
    by_cases hn : k + 1 < nOf (mkTab t) d <;> simp [hn]

theorem lvl_special (t : Topo) (nl : List (Nat × List Nat)) (x : Obj) (ty : Nat) (sd : Int) (L : List Int) (pos i : Nat)
    (hsd : specialDepth ty = some sd) (hL : idsOfType ty (toDump t).objs = L) (hat : L[pos]? = some (i : Int))
    (f4 : x.id = i) (f0 : x.depth = sd) (f1 : x.lidx = pos) (f5 : x.type = ty)
    (f2 : x.prevCousin = neighbour L pos false) (f3 : x.nextCousin = neighbour L pos true) :
    LvlOK nl (occs (treeOfTopo t)) x := by
  have hSL : (specialLevel (occs (treeOfTopo t)) ty).map (fun (i : Nat) => (i : Int)) = L := by rw [specialLevel_tree, hL]
  refine lvl_of_place nl _ x sd (specialLevel (occs (treeOfTopo t)) ty) pos (by unfold placeOf; rw [f5, hsd])
    ((specialLevel_increasing (treeOfTopo t) ty).imp (fun hab => Nat.ne_of_lt hab)) ?_ f0 f1 (hSL ▸ f2) (hSL ▸ f3)
  rw [← hSL, List.getElem?_map] at hat
  cases hs : (specialLevel (occs (treeOfTopo t)) ty)[pos]? with
  | none => rw [hs] at hat; cases hat
  | some j => rw [hs] at hat; simp only [Option.map_some, Option.some.injEq] at hat; rw [f4, show j = i by omega]

theorem lvl_all (t : Topo) (h : OK t) : ∀ o ∈ (toDump t).objs, LvlOK (normalLevels (treeOfTopo t)) (occs (treeOfTopo t)) o := by
  intro o ho
  cases objs_kind t o ho with
  | normal d k hd hk e => rw [e]; exact lvl_normal t h d k hd hk
  | numa d k s hd hk hs e =>
    rw [e]
    exact lvl_special t _ _ tNUMA (-3) (envOf t).numaL _ _ rfl (ids_toDump t h).1 (numa_pos t h d k s hd hk hs).1 rfl rfl rfl rfl rfl rfl
  | mc d k s hd hk hs hm e =>
    have hm' : (((mkTab t).mem[d]?.getD [])[s]?.getD ⟨0, 0⟩).msc ≠ 0 := hm
    have hat := level_at_postPos t h false d k (mcSlot (mkTab t) d s) hd hk (mcSlot_lt _ d s hs hm')
    rw [own_mc_get _ d k s hs hm'] at hat
    rw [e]
    exact lvl_special t _ _ tMEMCACHE (-8) (envOf t).mcL _ _ rfl (ids_toDump t h).2 hat rfl rfl rfl rfl rfl rfl

/-! ### the dump -/

/-- a rendered occurrence that agrees with an object of the dump on the links is that object: id, type and gp survive `linkPart`,
the level fields are `lvl_all`, the `Extra` fields are read from the dump at that gp -/
theorem rObj_eq (t : Topo) (h : OK t) (oc : Occ) (o : Obj) (hmem : o ∈ (toDump t).objs)
    (hi : linkPart (rObj (treeOfTopo t) (exOfTopo t) oc) = linkPart o) : rObj (treeOfTopo t) (exOfTopo t) oc = o := by
  have hx := ro_extra (normalLevels (treeOfTopo t)) (occs (treeOfTopo t)) (exOfTopo t) oc
  have hid : oc.id = o.id := by
    have : (rObj (treeOfTopo t) (exOfTopo t) oc).id = o.id := (congrArg Obj.id hi :)
    rwa [rObj, ro_id] at this
  have hty : oc.t.obj.type = o.type := by
    have : (rObj (treeOfTopo t) (exOfTopo t) oc).type = o.type := (congrArg Obj.type hi :)
    rwa [rObj, ro_type] at this
  have hgp : oc.t.obj.gp = o.id := by
    have : (rObj (treeOfTopo t) (exOfTopo t) oc).gp = o.gp := (congrArg Obj.gp hi :)
    rwa [rObj, hx.2.2.2.2.2.2, obj_gp_id t o hmem] at this
  have hlv := lvl_all t h o hmem
  have hex : exOfTopo t oc.t.obj = ⟨o.symm, o.totalMem, o.attrs, o.subtype, o.name, o.infos⟩ := by
    have hlk := lookup_of_mem t o hmem
    unfold Dump.obj? at hlk
    rw [if_neg (by omega), Int.toNat_natCast] at hlk
    unfold exOfTopo
    rw [hgp, hlk]; rfl
  rw [hex] at hx
  refine eq_of_linkPart _ _ hi ?_ ?_ ?_ ?_ hx.1 hx.2.1 hx.2.2.1 hx.2.2.2.1 hx.2.2.2.2.1 hx.2.2.2.2.2.1
  · rw [rObj, ro_depth, hid, hty]; exact hlv.depth.symm
  · rw [rObj, ro_lidx, hid, hty]; exact hlv.lidx.symm
  · rw [rObj, ro_nextCousin, hid, hty, ← hlv.lidx]; exact hlv.next.symm
  · rw [rObj, ro_prevCousin, hid, hty, ← hlv.lidx]; exact hlv.prev.symm

theorem toDump_objs_eq (t : Topo) (h : OK t) :
    (render (treeOfTopo t) (hdrOfTopo t) (exOfTopo t)).objs = (toDump t).objs := by
  have hl := render_objs_linkPart t (hdrOfTopo t) (exOfTopo t)
  rw [render_objs, List.map_map] at hl
  rw [render_objs]
  exact map_eq_of_map_eq _ _ _ _ _ hl fun oc _ o ho hi => rObj_eq t h oc o ho hi

theorem toDump_levels_eq (t : Topo) (h : OK t) : renderLevels (treeOfTopo t) = (toDump t).levels := by
  have h1 : normalPart (treeOfTopo t) = (List.range ((mkTab t).D + 1)).map (normalLevel t) := by
    rw [normalPart, zip_rows t h, List.map_map]
    apply List.map_congr_left
    intro d hd
    have hd' : d ≤ (mkTab t).D := by have := List.mem_range.1 hd; omega
    simp only [Function.comp, mkLevel, normalLevel, types_get t d hd', n_getD0 t d hd', idsAt, List.map_map]
    rfl
  have hno : ∀ ty, 14 ≤ ty → ty ≠ tNUMA → ty ≠ tMEMCACHE →
      (specialLevel (occs (treeOfTopo t)) ty).map (fun (i : Nat) => (i : Int)) = [] :=
    fun ty h1 h2 h3 => by rw [specialLevel_tree, no_other_type t h ty h1 h2 h3]
  have h2 : specialPart (treeOfTopo t) = specialLevels t := by
    simp only [specialPart, specialTypes, List.map_cons, List.map_nil]
    rw [specialLevel_tree t tNUMA, specialLevel_tree t tMEMCACHE, (ids_toDump t h).1, (ids_toDump t h).2,
      hno tBRIDGE (by decide) (by decide) (by decide), hno tPCI (by decide) (by decide) (by decide),
      hno tOSDEV (by decide) (by decide) (by decide), hno tMISC (by decide) (by decide) (by decide)]
    rfl
  exact (show normalPart (treeOfTopo t) ++ specialPart (treeOfTopo t) = _ by rw [h1, h2]).trans (toDump_levels t).symm

theorem toDump_typeDepths (t : Topo) : (toDump t).typeDepths = (List.range tMAX).map (fun ty =>
    match specialDepth ty with
    | some sd => sd
    | none =>
      match (List.range ((mkTab t).D + 1)).filter (fun d => (mkTab t).types[d]?.getD 99 == ty) with
      | [] => -1
      | [d] => (d : Int)
      | _ => -2) := rfl

theorem types_get99 (t : Topo) (d : Nat) (hd : d ≤ (mkTab t).D) : (mkTab t).types[d]?.getD 99 = ntype t d := by
  rw [← types_get t d hd]
  have hl : d < (mkTab t).types.length := by
    show d < (tMACHINE :: t.levels.map NLevel.type).length
    rw [mkTab_D] at hd; simp; omega
  rw [List.getElem?_eq_getElem hl]; rfl

theorem toDump_typeDepths_eq (t : Topo) (h : OK t) :
    (List.range tMAX).map (typeDepthOf (normalLevels (treeOfTopo t))) = (toDump t).typeDepths := by
  rw [toDump_typeDepths]
  apply List.map_congr_left
  intro ty _
  unfold typeDepthOf
  cases specialDepth ty with
  | some sd => rfl
  | none =>
    simp only []
    rw [zip_rows t h, List.filter_map,
      show (List.range ((mkTab t).D + 1)).filter ((fun (x : Nat × Nat × List Nat) => x.2.1 == ty) ∘ fun d => (d, (ntype t d, idsAt t d))) =
        (List.range ((mkTab t).D + 1)).filter (fun d => (mkTab t).types[d]?.getD 99 == ty) from
        List.filter_congr fun d hd => by
          have hd' : d ≤ (mkTab t).D := by have := List.mem_range.1 hd; omega
          simp only [Function.comp, types_get99 t d hd']]
    generalize (List.range ((mkTab t).D + 1)).filter (fun d => (mkTab t).types[d]?.getD 99 == ty) = l
    match l with
    | [] => rfl
    | [d] => rfl
    | _ :: _ :: _ => rfl

/-- the closed-form dump of a regular synthetic topology is what hwloc_connect_children, hwloc_connect_levels and
hwloc_connect_special_levels compute on its object tree -/
theorem toDump_eq_render (t : Topo) (h : OK t) : toDump t = render (treeOfTopo t) (hdrOfTopo t) (exOfTopo t) := by
  have h1 : (occs (treeOfTopo t)).map (renderObj (normalLevels (treeOfTopo t)) (occs (treeOfTopo t)) (exOfTopo t)) = (toDump t).objs :=
    toDump_objs_eq t h
  have h4 : (normalLevels (treeOfTopo t)).length = (mkTab t).D + 1 := by rw [normalLevels_tree t h]; simp
  have h5 : (occs (treeOfTopo t)).length = (toDump t).objs.length := by rw [← h1, List.length_map]
  unfold render
  simp only []
  rw [toDump_levels_eq t h, toDump_typeDepths_eq t h, h4, h5, h1]
  rfl

/-! ### the objects of the tree by type: what the clause theorems of `render` ask beyond typing -/

theorem objsT_types (t : Topo) (h : OK t) : (objsT (treeOfTopo t)).map (·.type) = (toDump t).objs.map (·.type) := by
  rw [← occs_map_obj, ← toDump_objs_eq t h, render_objs, List.map_map, List.map_map]
  exact List.map_congr_left fun oc _ => (ro_type ..).symm

theorem tree_has_type (t : Topo) (h : OK t) (o : Obj) (ho : o ∈ (toDump t).objs) : ∃ x ∈ objsT (treeOfTopo t), x.type = o.type := by
  have : o.type ∈ (objsT (treeOfTopo t)).map (·.type) := by rw [objsT_types t h]; exact List.mem_map_of_mem ho
  exact List.mem_map.1 this

theorem tree_has_pu (t : Topo) (h : OK t) : ∃ x ∈ objsT (treeOfTopo t), x.type = tPU := by
  have := tree_has_type t h _ (normalObj_mem t (mkTab t).D 0 (Nat.le_refl _) (nOf_pos t h _ (Nat.le_refl _)))
  rwa [normalObj_type, (ntype_pu t h _ (Nat.le_refl _)).2 rfl] at this

/-- under `memOK` some depth `e` has a memory slot: its first NUMA node is an object of the dump -/
theorem tree_has_numa (t : Topo) (h : OK t) (hm : memOK t = true) : ∃ x ∈ objsT (treeOfTopo t), x.type = tNUMA := by
  unfold memOK at hm
  obtain ⟨e, he, hpos⟩ := List.any_eq_true.1 hm
  have he' : e ≤ (mkTab t).D := by have := List.mem_range.1 he; rw [mkTab_D]; omega
  exact tree_has_type t h _ (numaObj_mem t e 0 0 he' (nOf_pos t h e he') (by simpa using hpos))

/-- the Machine object is object 0, and ids are distinct -/
theorem machineOnce_tree (t : Topo) (h : OK t) : machineOnce (treeOfTopo t) := by
  have h0 : ∀ o ∈ (toDump t).objs.filter (fun o => o.type == tMACHINE), o.id = 0 := by
    intro o ho
    obtain ⟨ho, hty⟩ := List.mem_filter.1 ho
    cases objs_kind t o ho with
    | normal d k hd hk e =>
      rw [e, normalObj_type, beq_iff_eq, ntype_machine t h d hd] at hty
      subst hty; rw [nOf_zero] at hk
      rw [e, show k = 0 by omega]; rfl
    | numa d k s hd hk hs e => rw [e] at hty; cases hty
    | mc d k s hd hk hs hm e => rw [e] at hty; cases hty
  have hp := (objs_pairwise t).filter (fun o => o.type == tMACHINE)
  unfold machineOnce Restrict.cnt
  rw [objsT_types t h, List.count_eq_countP, List.countP_map, List.countP_eq_length_filter]
  show ((toDump t).objs.filter (fun o => o.type == tMACHINE)).length ≤ 1
  generalize (toDump t).objs.filter (fun o => o.type == tMACHINE) = l at h0 hp
  match l, hp, h0 with
  | [], _, _ => exact Nat.zero_le _
  | [_], _, _ => exact Nat.le_refl _
  | a :: b :: _, hp, h0 =>
    have := (List.pairwise_cons.1 hp).1 b List.mem_cons_self
    rw [h0 a List.mem_cons_self, h0 b (List.mem_cons_of_mem _ List.mem_cons_self)] at this
    omega

end Hw.Syn
