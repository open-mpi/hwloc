/-
  Hw.Io.SyntheticKids — the children of every object of `toDump t` as the sub-list of the object list selected by the parent
  link (`kids_filter`, `mc_kids_filter`, `numa_kids_filter`), on which the aggregate clauses rest.  They are read off the tree:
  `toDump t` is the rendering of `treeOfTopo t`, in a rendering the objects whose parent is a given occurrence start where the
  members of its children lists start (`render_kids_ids`), and an object of the dump is determined by its id; what is left
  is to say which occurrence carries a given object (`occ_normal`, `occ_first`, `occ_numa`).
-/
import Hw.Io.SyntheticRender
namespace Hw.Syn
open Hw Hw.Topo Hw.Topo.Restrict

def hasParent (i : Nat) (o : Obj) : Bool := decide (0 ≤ o.parent) && o.parent.toNat == i

def kidsOf (E : DEnv) (d k : Nat) : List Obj :=
  (List.range (arOf E.T d)).map (fun r => normalObj E (d + 1) (k * arOf E.T d + r)) ++
  (List.range (memLen E.T d)).map (fun s => firstObj E d k s)

/-! ### the occurrence of an object -/

theorem occ_normal (t : Topo) : ∀ d f, d + (f + 1) = (mkTab t).D + 1 → ∀ k, k < nOf (mkTab t) d →
    occOf (normalObj (envOf t) d k) (regT t (f + 1) d k) ∈ occs (treeOfTopo t) := by
  intro d
  induction d with
  | zero =>
    intro f hf k hk
    obtain rfl : f = (mkTab t).D := by omega
    obtain rfl : k = 0 := by rw [nOf_zero] at hk; omega
    exact occs_root_mem _
  | succ d ih =>
    intro f hf k hk
    have hd : d < (mkTab t).D := by omega
    obtain ⟨ha, hlt⟩ := div_lt_parent t d k hd hk
    have hr := Nat.mod_lt k ha
    have hc : occOf (normalObj (envOf t) (d + 1) (k / arOf (mkTab t) d * arOf (mkTab t) d + k % arOf (mkTab t) d))
        (regT t (f + 1) (d + 1) (k / arOf (mkTab t) d * arOf (mkTab t) d + k % arOf (mkTab t) d)) ∈ occs (treeOfTopo t) :=
      occ_child_mem _ _ (ih (f + 1) (by omega) _ hlt) _ ⟨0, by omega, k % arOf (mkTab t) d,
        regT t (f + 1) (d + 1) (k / arOf (mkTab t) d * arOf (mkTab t) d + k % arOf (mkTab t) d),
        by show (kidsT t (f + 1) d (k / arOf (mkTab t) d))[k % arOf (mkTab t) d]? = _; simp [kidsT, hr],
        (sibRec_normal t (f + 1) d _ _ (by omega) hr _).symm⟩
    rwa [Nat.div_add_mod'] at hc

theorem occ_first (t : Topo) (d k s : Nat) (hd : d ≤ (mkTab t).D) (hk : k < nOf (mkTab t) d) (hs : s < memLen (mkTab t) d) :
    occOf (firstObj (envOf t) d k s) (slotT (envOf t) d k s) ∈ occs (treeOfTopo t) := by
  have hf : d + ((mkTab t).D - d + 1) = (mkTab t).D + 1 := by omega
  refine occ_child_mem _ _ (occ_normal t d _ hf k hk) _ ⟨1, by omega, s, slotT (envOf t) d k s, ?_, ?_⟩
  · show (memT t d k)[s]? = _
    simp [memT, hs]
  · rw [← sibRec_mem t d k s hs, memId_zero, ← sizeL_kidsT t _ d k hf, ← envOf_T, ← normalObj_id]
    rfl

theorem occ_numa (t : Topo) (d k s : Nat) (hd : d ≤ (mkTab t).D) (hk : k < nOf (mkTab t) d) (hs : s < memLen (mkTab t) d)
    (hm : (slotM (envOf t) d s).msc ≠ 0) : occOf (numaObj (envOf t) d k s) (numaT (envOf t) d k s) ∈ occs (treeOfTopo t) := by
  have hp := occ_first t d k s hd hk hs
  unfold firstObj slotT at hp
  rw [if_pos hm, if_pos hm] at hp
  obtain ⟨h1, h2, h3, h4, h5⟩ := numaObj_mc (envOf t) d k s hm
  refine occ_child_mem _ _ hp _ ⟨1, by omega, 0, numaT (envOf t) d k s, rfl, ?_⟩
  rw [occOf, h1, h2, h3, h4, h5]
  rfl

/-! ### the objects whose parent is a given object -/

section
variable (t : Topo) (h : OK t)
include h

theorem filter_parent (oc : Occ) (hoc : oc ∈ occs (treeOfTopo t)) (l : List Obj) (hl : ∀ x ∈ l, x ∈ (toDump t).objs)
    (hid : l.map (·.id) = (List.range oc.t.ns.length).map (startN (oc.id + 1) oc.t.ns) ++
      (List.range oc.t.ms.length).map (startN (oc.id + 1 + sizeL oc.t.ns) oc.t.ms) ++
      (List.range oc.t.ios.length).map (startN (oc.id + 1 + sizeL oc.t.ns + sizeL oc.t.ms) oc.t.ios) ++
      (List.range oc.t.mis.length).map (startN (oc.id + 1 + sizeL oc.t.ns + sizeL oc.t.ms + sizeL oc.t.ios) oc.t.mis)) :
    (toDump t).objs.filter (hasParent oc.id) = l := by
  have e := render_kids_ids (treeOfTopo t) (hdrOfTopo t) (exOfTopo t) oc hoc
  rw [toDump_objs_eq t h, ← hid] at e
  have := map_eq_of_map_eq (·.id) (·.id) id _ l e fun a ha b hb e =>
    Option.some.inj ((lookup_of_mem t a (List.mem_filter.1 ha).1).symm.trans (e ▸ lookup_of_mem t b (hl b hb)))
  rwa [List.map_id] at this

theorem kids_filter (d k : Nat) (hd : d ≤ (mkTab t).D) (hk : k < nOf (mkTab t) d) :
    (toDump t).objs.filter (hasParent (nid (mkTab t) d k)) = kidsOf (envOf t) d k := by
  have hf : d + ((mkTab t).D - d + 1) = (mkTab t).D + 1 := by omega
  refine filter_parent t h _ (occ_normal t d _ hf k hk) _ (fun x hx => ?_) ?_
  · rcases List.mem_append.1 hx with hx | hx
    · obtain ⟨r, hr, rfl⟩ := List.mem_map.1 hx
      have hd' := ar_pos_lt t d hd (List.mem_range.1 hr)
      exact normalObj_mem t (d + 1) _ hd' (child_lt t d k r hd' hk (List.mem_range.1 hr))
    · obtain ⟨s, hs, rfl⟩ := List.mem_map.1 hx
      exact firstObj_mem t d k s hd hk (List.mem_range.1 hs)
  · show _ = (List.range (kidsT t _ d k).length).map (startN (nid (mkTab t) d k + 1) (kidsT t _ d k)) ++
      (List.range (memT t d k).length).map (startN (nid (mkTab t) d k + 1 + sizeL (kidsT t _ d k)) (memT t d k)) ++ [] ++ []
    rw [sizeL_kidsT t _ d k hf, ← memId_zero, List.append_nil, List.append_nil, kidsOf, List.map_append, List.map_map, List.map_map,
      show (kidsT t ((mkTab t).D - d) d k).length = arOf (mkTab t) d by simp [kidsT],
      show (memT t d k).length = memLen (mkTab t) d by simp [memT]]
    exact congr (congrArg _ (List.map_congr_left fun r hr => (startN_kidsT t _ d k hf r (List.mem_range.1 hr)).symm))
      (List.map_congr_left fun s hs => ((firstObj_fields (envOf t) d k s).1.trans
        (startN_memT t d k s (Nat.le_of_lt (List.mem_range.1 hs))).symm))

theorem mc_kids_filter (d k s : Nat) (hd : d ≤ (mkTab t).D) (hk : k < nOf (mkTab t) d) (hs : s < memLen (mkTab t) d)
    (hm : (slotM (envOf t) d s).msc ≠ 0) :
    (toDump t).objs.filter (hasParent (memId (mkTab t) d k s)) = [numaObj (envOf t) d k s] := by
  have hp := occ_first t d k s hd hk hs
  unfold firstObj slotT at hp
  rw [if_pos hm, if_pos hm] at hp
  refine filter_parent t h _ hp _ (fun x hx => ?_) ?_
  · rw [List.mem_singleton.1 hx]; exact numaObj_mem t d k s hd hk hs
  · rw [List.map_singleton, (numaObj_mc (envOf t) d k s hm).1]; rfl

theorem numa_kids_filter (d k s : Nat) (hd : d ≤ (mkTab t).D) (hk : k < nOf (mkTab t) d) (hs : s < memLen (mkTab t) d) :
    (toDump t).objs.filter (hasParent (numaId (mkTab t) d k s)) = [] := by
  by_cases hm : (slotM (envOf t) d s).msc ≠ 0
  · exact filter_parent t h _ (occ_numa t d k s hd hk hs hm) [] (fun _ hx => nomatch hx) rfl
  · have hp := occ_first t d k s hd hk hs
    unfold firstObj slotT at hp
    rw [if_neg hm, if_neg hm] at hp
    exact filter_parent t h _ hp [] (fun _ hx => nomatch hx) rfl

end

end Hw.Syn
