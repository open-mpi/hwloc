/-
  Hw.XmlScan — the minimalistic (nolibxml) XML scanner of hwloc AS IT IS
  (hwloc/topology-xml-nolibxml.c, import side), plus two small index-checked models of consumer
  code of hwloc/topology-xml.c (distances array filling, userdata length arithmetic).

  Memory model.  The XML text lives in ONE mutable byte buffer `b : Array Nat` of length n
  (`nbdata->buffer`, a heap block of exactly `xmlbuflen` bytes).  Pointers into it are indexes.
  EVERY read and write of the C code goes through `rd` / `wr`, which are *bounds-checked*: an access
  at an index ≥ n does not return a byte, it makes the whole callback return `.error (.oob i)`
  (C: undefined behaviour / ASan report).  `.error .null` = dereference of a NULL(+1) pointer,
  `.error .under` = write before the block, `.error .fuel` = a loop did not terminate within its
  fuel (fuel is `b.size`, enough for any loop that stops at the final NUL).  "Memory safe and
  terminating" is therefore exactly "the callback returns `.ok _`".

  The model follows the CURRENT source (`fixed`).  The functions keep a `Variant` parameter only so that
  the four defects of the formerly pinned source (F05a look_init dereferenced a failed strchr, F05b
  backend_init wrote buffer[-1] for size 0, F05e next_attr did not test the first value byte for NUL,
  F05f the userdata importer called close_content without get_content) stay provable as NEGATIVE lemmas
  about `pinned`; the driver and every positive theorem use `fixed`.

  libc functions are modelled by their specification on NUL-terminated strings, reading byte by
  byte and stopping at the first byte that decides the result (strspn, strchr, strncmp, strcmp,
  strlen); sscanf("<topology version=\"%u.%u\">") first takes the strlen of its input (as glibc
  does) and then parses.
-/
namespace Hw.XmlScan

inductive Err
  | oob (i : Nat)   -- read or write at index i ≥ n
  | under           -- write before the start of the block (buffer[-1])
  | null            -- dereference of NULL / NULL+1
  | fuel            -- loop ran out of fuel (non-termination)
deriving Repr, DecidableEq

abbrev M := Except Err

abbrev Buf := Array Nat

/-- checked read of one byte -/
def rd (b : Buf) (i : Nat) : M Nat :=
  if h : i < b.size then .ok b[i] else .error (.oob i)

/-- checked write of one byte -/
def wr (b : Buf) (i v : Nat) : M Buf :=
  if h : i < b.size then .ok (b.set i v) else .error (.oob i)

/-- unchecked read (0 outside), only used in statements -/
def gt (b : Buf) (i : Nat) : Nat := b[i]?.getD 0

/-- the buffer is non-empty and its last byte is NUL (established by backend_init) -/
structure HasNul (b : Buf) : Prop where
  pos : 0 < b.size
  last : gt b (b.size - 1) = 0

/-! ### libc -/

/-- scan forward from `i` while `p byte`; index of the first byte with `¬ p`.  (`strspn`, and the
    search loops of `strchr` / `strlen`.)  `p 0` must be false for it to stop at a NUL. -/
def span (p : Nat → Bool) (b : Buf) : Nat → Nat → M Nat
  | 0, _ => .error .fuel
  | fuel+1, i => do
    let c ← rd b i
    if p c then span p b fuel (i+1) else pure i

def isSpace (c : Nat) : Bool := c == 32 || c == 9 || c == 10 || c == 13
/-- "abcdefghijklmnopqrstuvwxyz_" -/
def isAttrChar (c : Nat) : Bool := (97 ≤ c && c ≤ 122) || c == 95
/-- "abcdefghijklmnopqrstuvwxyz1234567890_" -/
def isTagChar (c : Nat) : Bool := (97 ≤ c && c ≤ 122) || (48 ≤ c && c ≤ 57) || c == 95

/-- `buffer + strspn(buffer, " \t\n\r")` -/
def ignoreSpaces (b : Buf) (i : Nat) : M Nat := span isSpace b b.size i

/-- `strchr(b+i, c)` for c ≠ 0: `some j` (first j ≥ i with b[j] = c before any NUL) or `none` (NULL) -/
def strchr (b : Buf) (i c : Nat) : M (Option Nat) := do
  let j ← span (fun x => x != c && x != 0) b b.size i
  let x ← rd b j
  pure (if x == c then some j else none)

/-- `!strncmp(b+i, lit, lit.length)` for a literal without NUL: reads stop at the first mismatch -/
def matchLit (b : Buf) : List Nat → Nat → M Bool
  | [], _ => pure true
  | c :: cs, i => do
    let x ← rd b i
    if x == c then matchLit b cs (i+1) else pure false

/-- `!strcmp(b+i, lit)` for a literal: the prefix as `matchLit`, then the terminating NUL -/
def strEqLit (b : Buf) (i : Nat) (lit : List Nat) : M Bool := do
  let r ← matchLit b lit i
  if r then do
    let x ← rd b (i + lit.length)
    pure (x == 0)
  else pure false

/-- `!strcmp(b+i, b+j)`: both strings live in the buffer -/
def strEqBuf (b : Buf) : Nat → Nat → Nat → M Bool
  | 0, _, _ => .error .fuel
  | fuel+1, i, j => do
    let x ← rd b i
    let y ← rd b j
    if x != y then pure false
    else if x == 0 then pure true
    else strEqBuf b fuel (i+1) (j+1)

def lit (s : String) : List Nat := s.toList.map Char.toNat

/-! ### scanner state -/

inductive TagName
  | lit (s : List Nat)   -- a string constant ("topology", "root")
  | at (i : Nat)         -- points into the buffer
  | null                 -- NULL (root state of the diff importer)
deriving Repr, DecidableEq

/-- `struct hwloc__nolibxml_import_state_data_s` + `state->parent`; `content` is a ghost flag: the
    last successful operation that moved `tagbuf` was a `get_content` that returned 1. -/
structure Frame where
  tagbuf : Nat
  attrbuf : Option Nat := none
  tagname : TagName := .null
  closed : Bool := false
  parent : Option Nat := none
  content : Bool := false
deriving Repr, DecidableEq

structure Variant where
  fixA : Bool   -- look_init: `if (!end) goto failed;` after strchr
  fixE : Bool   -- next_attr: `if (value[len+escaped] == '\0') return -1;` at the top of the loop
deriving Repr, DecidableEq

def pinned : Variant := ⟨false, false⟩
def fixed : Variant := ⟨true, true⟩

/-! ### hwloc__nolibxml_import_next_attr -/

/-- the entities tried by next_attr, in source order: (text after '&', replacement byte) -/
def entities : List (List Nat × Nat) :=
  [(lit "#10;", 10), (lit "#13;", 13), (lit "#9;", 9), (lit "quot;", 34), (lit "lt;", 60),
   (lit "gt;", 62), (lit "amp;", 38)]

/-- the `if (!strncmp(..)) else if ...` chain at position `i` (= just after the '&') -/
def matchEntity (b : Buf) (i : Nat) : List (List Nat × Nat) → M (Option (Nat × Nat))
  | [] => pure none
  | (l, ch) :: rest => do
    let r ← matchLit b l i
    if r then pure (some (l.length, ch)) else matchEntity b i rest

/-- first part of next_attr: skip spaces, the name, `="`.  `some (p, e)`: name starts at p, '=' at e. -/
def attrHeader (b : Buf) (a : Nat) : M (Option (Nat × Nat)) := do
  let p ← ignoreSpaces b a
  let e ← span isAttrChar b b.size p
  let c ← rd b e
  if c != 61 then pure none else do
    let c2 ← rd b (e+1)
    if c2 != 34 then pure none else pure (some (p, e))

/-- the unescaping loop.  `w` = &value[len] (write cursor), `r` = &value[len+escaped] (read cursor).
    Returns the buffer (the in-place copy is observable also when the C code returns -1 half-way) and
    `none` = return -1, `some (w, r)` = left the loop with b[r] = '"'. -/
def unesc (v : Variant) : Nat → Buf → Nat → Nat → M (Buf × Option (Nat × Nat))
  | 0, _, _, _ => .error .fuel
  | fuel+1, b, w, r => do
    let c ← rd b r
    if c == 34 then pure (b, some (w, r)) else
    if v.fixE && c == 0 then pure (b, none) else
    if c == 38 then do
      let m ← matchEntity b (r+1) entities
      match m with
      | none => pure (b, none)
      | some (k, ch) => do
        let b ← wr b w ch
        let c' ← rd b (r + k + 1)
        if c' == 0 then pure (b, none) else unesc v fuel b (w+1) (r + k + 1)
    else do
      let c1 ← rd b r
      let b ← wr b w c1
      let c' ← rd b (r+1)
      if c' == 0 then pure (b, none) else unesc v fuel b (w+1) (r+1)

structure AttrRes where
  ret : Int
  name : Nat := 0    -- *namep  (valid when ret = 0)
  value : Nat := 0   -- *valuep
deriving Repr, DecidableEq

def nextAttr (v : Variant) (b : Buf) (f : Frame) : M (AttrRes × Buf × Frame) :=
  match f.attrbuf with
  | none => pure (⟨-1, 0, 0⟩, b, f)
  | some a => do
    let h ← attrHeader b a
    match h with
    | none => pure (⟨-1, 0, 0⟩, b, f)
    | some (p, e) => do
      let b ← wr b e 0
      let val := e + 2
      let (b, u) ← unesc v b.size b val val
      match u with
      | none => pure (⟨-1, 0, 0⟩, b, f)
      | some (w, r) => do
        let b ← wr b w 0
        let nxt ← ignoreSpaces b (r+1)
        pure (⟨0, p, val⟩, b, { f with attrbuf := some nxt })

/-- where the attribute value would start, if next_attr gets as far as the unescape loop -/
def attrValueStart (b : Buf) (f : Frame) : Option Nat :=
  match f.attrbuf with
  | none => none
  | some a => match attrHeader b a with
    | .ok (some (_, e)) => some (e + 2)
    | _ => none

/-- F05e class: the value starts exactly at the final NUL -/
def f05e (b : Buf) (f : Frame) : Bool := attrValueStart b f == some (b.size - 1)

/-! ### find_child / close_tag / close_child / get_content / close_content -/

structure ChildRes where
  ret : Int
  tag : Nat := 0
deriving Repr, DecidableEq

/-- tail of find_child: the tag name and the start of the attributes -/
def childTail (b : Buf) (q e : Nat) (closed : Bool) (pid : Nat) : M (ChildRes × Buf × Option Frame) := do
  let m ← span isTagChar b b.size q
  let c ← rd b m
  if c == 0 then
    pure (⟨1, q⟩, b, some { tagbuf := e + 1, attrbuf := none, tagname := .at q, closed := closed, parent := some pid })
  else if c != 32 then pure (⟨-1, 0⟩, b, none)
  else do
    let b ← wr b m 0
    pure (⟨1, q⟩, b, some { tagbuf := e + 1, attrbuf := some (m + 1), tagname := .at q, closed := closed, parent := some pid })

/-- returns (ret, tag index, buffer, child frame when ret = 1).  `pid` = index of the parent frame. -/
def findChild (b : Buf) (f : Frame) (pid : Nat) : M (ChildRes × Buf × Option Frame) :=
  if f.closed then pure (⟨0, 0⟩, b, none) else do
  let p ← ignoreSpaces b f.tagbuf
  let c ← rd b p
  if c != 60 then pure (⟨-1, 0⟩, b, none) else do
  let c ← rd b (p + 1)
  if c == 47 then pure (⟨0, 0⟩, b, none) else do
  let eo ← strchr b (p + 1) 62
  match eo with
  | none => pure (⟨-1, 0⟩, b, none)
  | some e => do
    let b ← wr b e 0
    let c ← rd b (e - 1)
    if c == 47 then do
      let b ← wr b (e - 1) 0
      childTail b (p + 1) e true pid
    else childTail b (p + 1) e false pid

def strEqName (b : Buf) (i : Nat) : TagName → M Bool
  | .lit s => strEqLit b i s
  | .at j => strEqBuf b b.size i j
  | .null => .error .null

def closeTag (b : Buf) (f : Frame) : M (Int × Buf × Frame) :=
  if f.closed then pure (0, b, f) else do
  let p ← ignoreSpaces b f.tagbuf
  let c ← rd b p
  if c != 60 then pure (-1, b, f) else do
  let q := p + 1
  let eo ← strchr b q 62
  match eo with
  | none => pure (-1, b, f)
  | some e => do
    let b ← wr b e 0
    let f := { f with tagbuf := e + 1, content := false }
    let c ← rd b q
    if c != 47 then pure (-1, b, f) else do
    let eq ← strEqName b (q + 1) f.tagname
    pure (if eq then 0 else -1, b, f)

structure ContentRes where
  ret : Int
  begin : Option Nat := none   -- *beginp as an index; `none` = the constant "" (or unset)
deriving Repr, DecidableEq

def getContent (b : Buf) (f : Frame) (len : Nat) : M (ContentRes × Buf × Frame) :=
  if f.closed then pure (⟨if len != 0 then -1 else 0, none⟩, b, f) else do
  let eo ← strchr b f.tagbuf 60
  match eo with
  | none => pure (⟨-1, none⟩, b, f)
  | some e =>
    if e - f.tagbuf != len then pure (⟨-1, none⟩, b, f) else do
    let b ← wr b e 0
    pure (⟨1, some f.tagbuf⟩, b, { f with tagbuf := e, content := true })

def closeContent (b : Buf) (f : Frame) : M (Buf × Frame) :=
  if f.closed then pure (b, f) else do
  let b ← wr b f.tagbuf 60
  pure (b, { f with content := false })

/-! ### sscanf(buffer, "<topology version=\"%u.%u\">", &major, &minor) -/

def isCSpace (c : Nat) : Bool := c == 32 || (9 ≤ c && c ≤ 13)
def isDigit (c : Nat) : Bool := 48 ≤ c && c ≤ 57

def dropLit : List Nat → List Nat → Option (List Nat)
  | [], s => some s
  | _ :: _, [] => none
  | c :: cs, x :: xs => if x == c then dropLit cs xs else none

/-- `%u`: skip white space, optional sign, at least one decimal digit; value as glibc computes it
    (strtoul semantics: saturate at ULONG_MAX, negate modulo 2^64, then truncate to 32 bits) -/
def scanU (s : List Nat) : Option (Nat × List Nat) :=
  let s := s.dropWhile isCSpace
  let (neg, s) := match s with
    | 45 :: t => (true, t)
    | 43 :: t => (false, t)
    | _ => (false, s)
  let ds := s.takeWhile isDigit
  if ds.isEmpty then none else
  let d := ds.foldl (fun a c => a * 10 + (c - 48)) 0
  let ul := if d ≥ 2^64 then 2^64 - 1 else if neg then (2^64 - d) % 2^64 else d
  some (ul % 2^32, s.dropWhile isDigit)

/-- number of conversions = 2 → `some (major, minor)` -/
def sscanfVersion (s : List Nat) : Option (Nat × Nat) := do
  let s ← dropLit (lit "<topology") s
  let s := s.dropWhile isCSpace
  let s ← dropLit (lit "version=\"") s
  let (ma, s) ← scanU s
  let s ← dropLit [46] s
  let (mi, _) ← scanU s
  pure (ma, mi)

/-! ### hwloc_nolibxml_look_init -/

/-- the header-skipping loop; `none` = goto failed -/
def skipHeaders (b : Buf) : Nat → Nat → M (Option Nat)
  | 0, _ => .error .fuel
  | fuel+1, p => do
    let x ← matchLit b (lit "<?xml ") p
    let y ← if x then pure true else matchLit b (lit "<!DOCTYPE ") p
    if y then do
      let nl ← strchr b p 10
      match nl with
      | none => pure none
      | some j => skipHeaders b fuel (j + 1)
    else pure (some p)

structure InitRes where
  ret : Int
  major : Nat := 0
  minor : Nat := 0
deriving Repr, DecidableEq

def lookInit (v : Variant) (b : Buf) : M (InitRes × Option Frame) := do
  let po ← skipHeaders b b.size 0
  match po with
  | none => pure (⟨-1, 0, 0⟩, none)
  | some p => do
    let z ← span (fun x => x != 0) b b.size p          -- sscanf: strlen of its input
    match sscanfVersion ((b.extract p z).toList) with
    | some (ma, mi) => do
      let eo ← strchr b p 62
      match eo with
      | none => if v.fixA then pure (⟨-1, 0, 0⟩, none) else .error .null   -- F05a: NULL + 1
      | some e => pure (⟨0, ma, mi⟩, some { tagbuf := e + 1, tagname := .lit (lit "topology") })
    | none => do
      let t ← matchLit b (lit "<topology>") p
      if t then pure (⟨0, 1, 0⟩, some { tagbuf := p + 10, tagname := .lit (lit "topology") }) else do
      let r ← matchLit b (lit "<root>") p
      if r then pure (⟨0, 0, 9⟩, some { tagbuf := p + 6, tagname := .lit (lit "root") }) else
      pure (⟨-1, 0, 0⟩, none)

/-- F05a class, as a predicate on the buffer -/
def f05a (b : Buf) : Bool :=
  match skipHeaders b b.size 0 with
  | .ok (some p) =>
    match span (fun x => x != 0) b b.size p with
    | .ok z => (sscanfVersion ((b.extract p z).toList)).isSome &&
               (match strchr b p 62 with | .ok none => true | _ => false)
    | _ => false
  | _ => false

/-! ### hwloc_nolibxml_backend_init (buffer case) / hwloc_nolibxml_import_diff (buffer case) -/

/-- `malloc(xmlbuflen); memcpy; buffer[xmlbuflen-1] = 0`.  `src` is the caller's buffer (at least
    `len` readable bytes is the API contract).  `none` = -1 (malloc failed: negative length converted
    to a huge size_t).  `fixB` = the `if (xmlbuflen <= 0)` test of the current source (F05b). -/
def backendInit (fixB : Bool) (src : Buf) (len : Int) : M (Option Buf) :=
  if len < 0 then pure none
  else if len == 0 then (if fixB then pure none else .error .under)
  else
    let n := len.toNat
    let b : Buf := (Array.range n).map (fun i => src.getD i 0)
    do let b ← wr b (n - 1) 0
       pure (some b)

/-! ### hwloc__xml_import_userdata (topology-xml.c), the part that talks to the scanner after the attributes:
    every branch of the current source calls get_content exactly once (also for length 0), gives up when it
    returns -1, and only then calls close_content and close_tag. -/
def userdataTail (b : Buf) (f : Frame) (len : Nat) : M (Int × Buf × Frame) := do
  let (r, b, f) ← getContent b f len
  if r.ret < 0 then pure (-1, b, f) else do
  let (b, f) ← closeContent b f
  closeTag b f

/-- the formerly pinned source in the `length == 0`, callback-set, not-encoded branch: no get_content -/
def userdataTailPinned0 (b : Buf) (f : Frame) : M (Int × Buf × Frame) := do
  let (b, f) ← closeContent b f
  closeTag b f

/-! ### engine: frames addressed by index, the op language of the consumer -/

inductive Op
  | attr (f : Nat)              -- next_attr(frame f)
  | child (f : Nat)             -- find_child(frame f, new frame)
  | closeTag (f : Nat)
  | closeChild (f : Nat)        -- close_child(frame f): parent.tagbuf := f.tagbuf
  | content (f : Nat) (len : Nat)
  | closeContent (f : Nat)
deriving Repr, DecidableEq

structure St where
  buf : Buf
  frames : Array Frame
deriving Repr

/-- observable result of one op -/
inductive Obs
  | attr (r : AttrRes)
  | child (r : ChildRes) (newFrame : Option Nat)
  | ret (r : Int)
  | content (r : ContentRes)
  | unit
  | badFrame
deriving Repr, DecidableEq

def step (v : Variant) (s : St) : Op → M (Obs × St)
  | .attr i => match s.frames[i]? with
    | none => pure (.badFrame, s)
    | some f => do
      let (r, b, f') ← nextAttr v s.buf f
      pure (.attr r, { buf := b, frames := s.frames.setIfInBounds i f' })
  | .child i => match s.frames[i]? with
    | none => pure (.badFrame, s)
    | some f => do
      let (r, b, c) ← findChild s.buf f i
      match c with
      | none => pure (.child r none, { s with buf := b })
      | some cf => pure (.child r (some s.frames.size), { buf := b, frames := s.frames.push cf })
  | .closeTag i => match s.frames[i]? with
    | none => pure (.badFrame, s)
    | some f => do
      let (r, b, f') ← closeTag s.buf f
      pure (.ret r, { buf := b, frames := s.frames.setIfInBounds i f' })
  | .closeChild i => match s.frames[i]? with
    | none => pure (.badFrame, s)
    | some f => match f.parent with
      | none => .error .null
      | some p => match s.frames[p]? with
        | none => pure (.badFrame, s)
        | some pf => pure (.unit, { s with frames := s.frames.setIfInBounds p { pf with tagbuf := f.tagbuf, content := false } })
  | .content i len => match s.frames[i]? with
    | none => pure (.badFrame, s)
    | some f => do
      let (r, b, f') ← getContent s.buf f len
      pure (.content r, { buf := b, frames := s.frames.setIfInBounds i f' })
  | .closeContent i => match s.frames[i]? with
    | none => pure (.badFrame, s)
    | some f => do
      let (b, f') ← closeContent s.buf f
      pure (.unit, { buf := b, frames := s.frames.setIfInBounds i f' })

/-- run a list of ops; stops at the first memory error -/
def run (v : Variant) : St → List Op → M St
  | s, [] => pure s
  | s, op :: ops => do
    let (_, s') ← step v s op
    run v s' ops

/-- what the consumer state machine of topology-xml.c may issue in state `s`:
    * `close_content(f)` only directly after a `get_content(f)` that returned 1, or on an
      auto-closed tag (F05f: the one consumer path that violated this, in the formerly pinned source);
    * `close_child(f)` only on a state that has a parent, `close_tag(f)` only on a state with a tag name;
    * for the pinned next_attr, not the F05e class. -/
def legal (v : Variant) (s : St) : Op → Bool
  | .closeContent i => match s.frames[i]? with
    | none => true
    | some f => f.closed || f.content
  | .attr i => match s.frames[i]? with
    | none => true
    | some f => v.fixE || !f05e s.buf f
  | .closeChild i => match s.frames[i]? with
    | none => true
    | some f => f.parent.isSome
  | .closeTag i => match s.frames[i]? with
    | none => true
    | some f => f.tagname != .null
  | _ => true

/-- a whole history is legal when every op is legal in the state it is issued in -/
def legalRun (v : Variant) : St → List Op → Bool
  | _, [] => true
  | s, op :: ops => legal v s op && (match step v s op with
    | .ok (_, s') => legalRun v s' ops
    | .error _ => true)

/-! ### hwloc__xml_import_distances: the array-filling loops (topology-xml.c) -/

/-- one `<indexes>` / `<u64values>` child as the loop sees it: the successive successful `strtoull`
    results, each with "the byte after the number is a space"; the list ends where strtoull fails
    (`next == tmp`) or the string ends. -/
abbrev Toks := List (Nat × Bool)

/-- the inner `while (1)` loop: writes `arr[nr++] = u` — returns the write indexes and the new nr -/
def fillLoop (cap : Nat) : Nat → Toks → List Nat × Nat
  | nr, [] => ([], nr)
  | nr, (_, sp) :: rest =>
    let nr' := nr + 1
    if !sp then ([nr], nr')
    else if nr' == cap then ([nr], nr')
    else let (ws, n) := fillLoop cap nr' rest; (nr :: ws, n)

/-- one child: the guard `if (nr >= cap) goto out_with_arrays;` then the loop.  `none` = error. -/
def fillChild (cap nr : Nat) (t : Toks) : Option (List Nat × Nat) :=
  if nr ≥ cap then none else some (fillLoop cap nr t)

/-- all children of one kind in document order; `none` = import aborted.  Result: every write index, final nr -/
def fillAll (cap : Nat) : Nat → List Toks → Option (List Nat × Nat)
  | nr, [] => some ([], nr)
  | nr, t :: ts => do
    let (w1, n1) ← fillChild cap nr t
    let (w2, n2) ← fillAll cap n1 ts
    pure (w1 ++ w2, n2)

/-- capacities as the C computes them: `nbobjs` is `unsigned` (strtoul truncated), the values array
    has `nbobjs*nbobjs` (32-bit wrapping product) elements -/
def idxCap (nbobjs : Nat) : Nat := nbobjs % 2^32
def valCap (nbobjs : Nat) : Nat := (idxCap nbobjs * idxCap nbobjs) % 2^32
/-- the attribute gate of the current source: `!nbobjs` → error, `nbobjs > 0xffff` → error (added for F05j) -/
def nbobjsAccepted (nbobjs : Nat) : Bool := idxCap nbobjs != 0 && idxCap nbobjs ≤ 0xffff

/-! ### hwloc__xml_import_userdata: length arithmetic -/

/-- BASE64_ENCODED_LENGTH(length) on size_t -/
def base64EncLen (length : Nat) : Nat := (4 * (((length + 2) % 2^64) / 3)) % 2^64


/-- the decoded-buffer side of the `encoded && length` path: `decoded_buffer = malloc(length+1)` and
    `hwloc_decode_from_base64(encoded, decoded_buffer, length+1)`, both on size_t -/
def udAlloc (length : Nat) : Nat := (length + 1) % 2^64

/-- write indexes of hwloc_decode_from_base64 (hwloc/base64.c) for `k` consecutive base64 symbols,
    starting in `state` with `tarindex = ti`: each write is guarded by the comparison with `targsize`
    that the C code makes; `false` = the guard failed (return -1).  Returns the writes made. -/
def decWrites (targsize : Nat) : Nat → Nat → Nat → List Nat × Bool
  | 0, _, _ => ([], true)
  | k+1, state, ti =>
    match state % 4 with
    | 0 => if ti ≥ targsize then ([], false) else
           let (w, ok) := decWrites targsize k 1 ti; (ti :: w, ok)
    | 1 => if ti + 1 ≥ targsize then ([], false) else
           let (w, ok) := decWrites targsize k 2 (ti + 1); (ti :: (ti + 1) :: w, ok)
    | 2 => if ti + 1 ≥ targsize then ([], false) else
           let (w, ok) := decWrites targsize k 3 (ti + 1); (ti :: (ti + 1) :: w, ok)
    | _ => if ti ≥ targsize then ([], false) else
           let (w, ok) := decWrites targsize k 0 (ti + 1); (ti :: w, ok)

end Hw.XmlScan
