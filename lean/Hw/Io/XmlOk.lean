/-
  Hw.Io.XmlOk — "every attribute of this list has a name over `[a-z_]` and a NUL-free value": the hypothesis under which the
  nolibxml `next_attr` loop reads back what `new_prop` wrote (`Xml.scanAttrs_renderAttrs`), with the rules (`xml_ok`) that reduce it
  to its pieces for any exported list: cons, append, `if`, and NUL-freeness of what each value printer writes.  Shared by the
  object / tree exporters (XmlObjLemmas, XmlTreeLemmas) and the diff exporter (XmlDiffLemmas).
-/
import Hw.Io.XmlObj
import Hw.Io.XmlLemmas
import Hw.Io.XmlSimp
namespace Hw.XmlObj
open Hw

def NZ (v : Bytes) : Prop := ∀ x ∈ v, x ≠ 0
def NameOk (n : Bytes) : Prop := ∀ x ∈ n, Xml.isAttrNameChar x = true
def AttrOk (a : Bytes × Bytes) : Prop := NameOk a.1 ∧ NZ a.2
def AllOk (l : List (Bytes × Bytes)) : Prop := ∀ a ∈ l, AttrOk a

attribute [xml_ok] ite_self and_self

@[xml_ok] theorem nz_nil : NZ [] := by intro x h; cases h
@[xml_ok] theorem nz_append {u v : Bytes} : NZ (u ++ v) ↔ NZ u ∧ NZ v := by
  simp only [NZ, List.mem_append, or_imp, forall_and]
theorem nz_cons {c : Nat} {v : Bytes} (hc : c ≠ 0) (hv : NZ v) : NZ (c :: v) := by
  intro x hx; rcases List.mem_cons.mp hx with h | h; rw [h]; exact hc; exact hv x h
theorem nz_of_all {v : Bytes} (h : v.all (· != 0) = true) : NZ v := by
  intro x hx; have := List.all_eq_true.mp h x hx; simpa using this
@[xml_ok] theorem nz_dec (n : Nat) : NZ (decDigits n) := by
  intro x hx; have := decDigits_chars n x hx; unfold IsDecChar at this; omega
@[xml_ok] theorem nz_hexPad (k n : Nat) : NZ (hexPad k n) := by
  intro x hx; have := hexPad_chars k n x hx; unfold IsHexChar at this; omega
@[xml_ok] theorem nz_printInt (i : Int) : NZ (Xml.printInt i) := by
  unfold Xml.printInt; split
  · exact nz_cons (by decide) (nz_dec _)
  · exact nz_dec _
@[xml_ok] theorem nz_sanitize (s : Bytes) : NZ (Xml.sanitize s) := by
  intro x hx
  have := (List.mem_filter.mp hx).2
  intro e; subst e; revert this; decide
theorem all_nz_sanitize (s : Bytes) : (Xml.sanitize s).all (· != 0) = true := by
  rw [List.all_eq_true]; intro x hx
  have := nz_sanitize s x hx
  simpa using this

@[xml_ok] theorem ok_nil : AllOk [] := by intro a h; cases h
@[xml_ok] theorem ok_cons {a : Bytes × Bytes} {l : List (Bytes × Bytes)} : AllOk (a :: l) ↔ AttrOk a ∧ AllOk l := by
  simp only [AllOk, List.mem_cons, forall_eq_or_imp]
@[xml_ok] theorem ok_append {l1 l2 : List (Bytes × Bytes)} : AllOk (l1 ++ l2) ↔ AllOk l1 ∧ AllOk l2 := by
  simp only [AllOk, List.mem_append, or_imp, forall_and]
@[xml_ok] theorem ok_mk (n v : Bytes) : AttrOk (n, v) ↔ NameOk n ∧ NZ v := Iff.rfl

@[xml_ok] theorem ok_ite {p : Prop} [Decidable p] {l1 l2 : List (Bytes × Bytes)} :
    AllOk (if p then l1 else l2) ↔ if p then AllOk l1 else AllOk l2 := by
  split <;> rfl



end Hw.XmlObj
