/-
  Hw.Io.SyntheticBits — bit-level facts about the masks of Hw.Topo (`disjoint`, OR of singletons, OR of sets) used for the
  cpuset clauses of the synthetic dump.
-/
import Hw.Io.SyntheticDump
import Hw.Topo.Sets
namespace Hw.Syn
open Hw Hw.Topo

theorem testBit_foldl_or_single (l : List Nat) (s b : Nat) :
    (l.foldl (fun s i => s ||| (1 <<< i)) s).testBit b = (s.testBit b || l.contains b) := by
  rw [Bits.testBit_foldl_or (1 <<< ·)]; congr 1
  induction l with
  | nil => rfl
  | cons x xs ih =>
    rw [List.any_cons, List.contains_cons, ih, Bits.testBit_one_shl]; congr 1
    by_cases h : x = b
    · subst h; simp
    · simp [h, Ne.symm h]

theorem testBit_orBits (l : List Nat) (b : Nat) : (orBits l).testBit b = l.contains b := by
  unfold orBits; rw [testBit_foldl_or_single]; simp

theorem testBit_foldl_or (l : List Nat) (s b : Nat) :
    (l.foldl (· ||| ·) s).testBit b = (s.testBit b || l.any (·.testBit b)) := Bits.testBit_foldl_or id l s b

theorem disjoint_iff (a b : Nat) : disjoint a b = true ↔ ∀ i, ¬ (a.testBit i = true ∧ b.testBit i = true) :=
  Topo.disjoint_iff a b

/-- the disjointness flag accumulated by `orInto` over a sequence of sets -/
def seqDisj : Nat → List Nat → Bool
  | _, [] => true
  | s, x :: xs => disjoint s x && seqDisj (s ||| x) xs

theorem seqDisj_iff_pairwise : ∀ (xs : List Nat) (s : Nat),
    seqDisj s xs = true ↔ (s :: xs).Pairwise fun a b => disjoint a b = true
  | [], s => by simp [seqDisj]
  | x :: xs, s => by
    rw [seqDisj, Bool.and_eq_true, seqDisj_iff_pairwise xs (s ||| x)]
    simp only [List.pairwise_cons, List.forall_mem_cons, or_disjoint]
    exact ⟨fun ⟨h1, h2, h3⟩ => ⟨⟨h1, fun y hy => (h2 y hy).1⟩, fun y hy => (h2 y hy).2, h3⟩,
      fun ⟨⟨h1, h2⟩, h3, h4⟩ => ⟨h1, fun y hy => ⟨h2 y hy, h3 y hy⟩, h4⟩⟩

theorem seqDisj_zero (xs : List Nat) (hx : xs.Pairwise fun a b => disjoint a b = true) : seqDisj 0 xs = true :=
  (seqDisj_iff_pairwise xs 0).2 (List.pairwise_cons.2 ⟨fun y _ => zero_disjoint y, hx⟩)

end Hw.Syn
