/-
  Hw.Io.XmlSideLemmas — round trips of the side-structure elements of Hw.Io.XmlSide: what the importer hands to the core for the
  element the exporter writes is the exported structure (strings through safestrdup), for every list of CPU kinds / memory
  attributes / distances matrix.
-/
import Hw.Io.XmlSide
import Hw.Io.XmlTreeLemmas
namespace Hw.XmlSide
open Hw Hw.Topo Hw.XmlObj Hw.XmlTree

theorem tags_ne :
    tagIndexes ≠ tagInfo ∧ tagU64 ≠ tagInfo ∧ tagU64 ≠ tagIndexes ∧ tagDist ≠ tagDistHetero ∧ tagMemattr ≠ tagDist ∧
    tagMemattr ≠ tagDistHetero ∧ tagMemattr ≠ tagSupport ∧ tagCpukind ≠ tagDist ∧ tagCpukind ≠ tagDistHetero ∧
    tagCpukind ≠ tagSupport ∧ tagCpukind ≠ tagMemattr ∧ tagInfo ≠ tagDist ∧ tagInfo ≠ tagDistHetero ∧ tagInfo ≠ tagSupport ∧
    tagInfo ≠ tagMemattr ∧ tagInfo ≠ tagCpukind := by
  simp only [tagIndexes, tagInfo, tagU64, tagDist, tagDistHetero, tagMemattr, tagSupport, tagCpukind, ne_eq, b_inj, String.reduceEq,
    not_false_eq_true, and_self]

theorem infoChild_infoElem (p : Bytes × Bytes) : infoChild (infoElem p) = some (some (sanPair p)) := by
  simp only [infoChild, infoElem, Elem.attrs, Elem.content, Elem.kids, importInfo_exportInfo p.1 p.2]
  simp [sanPair]

/-! ### CPU kinds -/

theorem kindKids_infos (infos acc : List (Bytes × Bytes)) : kindKids (infos.map infoElem) acc = .ok (acc ++ infos.map sanPair) := by
  simpa [kindKids] using map_run kindKids infoElem (fun l => acc ++ l.map sanPair) (fun _ => True)
    (fun p l es _ => by rw [kindKids, if_pos (show (infoElem p).tag = tagInfo from rfl), infoChild_infoElem]; simp)
    [] infos [] fun _ _ => trivial

/-- hwloc__xml_import_cpukind ∘ (one iteration of hwloc__xml_export_cpukinds) -/
theorem importKind_exportKind (k : Kind) (hv : kindValid k = true) : importKind (exportKind k) = .ok (normKind k) := by
  have h1 : kindLoop (exportKind k).attrs none (-1) = .ok (some k.cpuset, k.eff) := by
    simp only [kindValid, Bool.and_eq_true, decide_eq_true_eq] at hv
    have htk : (Xml.printInt k.eff).take 10 = Xml.printInt k.eff := List.take_of_length_le hv.2
    by_cases h : k.eff = -1
    · simp only [exportKind, Elem.attrs, h, ne_eq, not_true_eq_false, if_false, List.append_nil, kindLoop, if_true, setScan_setText]
    · simp only [exportKind, Elem.attrs, h, ne_eq, not_false_eq_true, if_true, List.cons_append, List.nil_append, kindLoop,
        setScan_setText, b_inj, String.reduceEq, if_false, htk, Xml.atoi_printInt]
  unfold importKind
  rw [h1]
  simp only [Res.bind, exportKind, Elem.content, Elem.kids, Option.isSome_none, Bool.false_eq_true, if_false, kindKids_infos,
    List.nil_append, normKind]

/-- a list of results, in order (`Res` has no Monad instance) -/
def mapRes {α β : Type} (f : α → Res β) : List α → Res (List β)
  | [] => .ok []
  | a :: l => (f a).bind (fun x => (mapRes f l).bind (fun xs => .ok (x :: xs)))

theorem mapRes_ok {α β γ : Type} (f : α → Res β) (g : γ → α) (h : γ → β) :
    ∀ l : List γ, (∀ x ∈ l, f (g x) = .ok (h x)) → mapRes f (l.map g) = .ok (l.map h)
  | [], _ => rfl
  | a :: l, hf => by
    simp only [List.map_cons, mapRes, hf a (by simp), Res.bind, mapRes_ok f g h l (fun x hx => hf x (by simp [hx]))]

/-! ### memory attributes -/

/-- stated turn by turn: unfolding the loop over a whole list first would expand all six branches at every attribute -/
theorem mvLoop_step (v : Bytes) (l : List (Bytes × Bytes)) (s : VSt) :
    mvLoop ((b "target_obj_gp_index", v) :: l) s = mvLoop l { s with tgp := some v } ∧
    mvLoop ((b "target_obj_type", v) :: l) s = mvLoop l { s with tty := some v } ∧
    mvLoop ((b "value", v) :: l) s = mvLoop l { s with val := some v } ∧
    mvLoop ((b "initiator_cpuset", v) :: l) s = mvLoop l { s with icpu := some v } ∧
    mvLoop ((b "initiator_obj_gp_index", v) :: l) s = mvLoop l { s with igp := some v } ∧
    mvLoop ((b "initiator_obj_type", v) :: l) s = mvLoop l { s with ity := some v } := by
  simp only [mvLoop, b_inj, String.reduceEq, if_false, if_true, and_self]

theorem num_dec {α : Type} (n : Nat) (h : n < 2 ^ 64) (k : Nat → Res α) : num (decDigits n) k = k n := by
  unfold num; rw [strtoulV_decDigits n h]

/-- stated apart: an export unfolded below the `match` of `importValue` makes the kernel run the loop on it, names as byte lists -/
theorem mvLoop_valueElem (ty gp v : Nat) (oi : Option Init) :
    mvLoop (valueElem ty gp v oi).attrs {} = some
      { tty := some (TypeStr.typeString ty), tgp := some (decDigits gp), val := some (decDigits v),
        icpu := match oi with | some (.cpuset m) => some (setText m) | _ => none,
        igp := match oi with | some (.obj _ g) => some (decDigits g) | _ => none,
        ity := match oi with | some (.obj t _) => some (TypeStr.typeString t) | _ => none } := by
  rcases oi with _ | _ | _ <;>
    simp only [valueElem, Elem.attrs, initAttrs, List.cons_append, List.nil_append, List.append_nil, mvLoop_step, mvLoop.eq_1]

theorem importValue_noinit (flags ty gp v : Nat) (hf : needInit flags = false) (ht : ty < 20) (hg : gp < 2 ^ 64) (hv : v < 2 ^ 64) :
    importValue flags (valueElem ty gp v none) = .ok { type := ty, gp := gp, init := none, value := v } := by
  rw [importValue, mvLoop_valueElem]
  simp only [typeScan_typeString ty ht, num_dec gp hg, num_dec v hv, hf, Bool.false_eq_true, if_false, Res.bind]
  rfl

theorem importValue_init (flags ty gp v : Nat) (i : Init) (hf : needInit flags = true) (ht : ty < 20) (hg : gp < 2 ^ 64)
    (hv : v < 2 ^ 64) (hi : initValid i = true) :
    importValue flags (valueElem ty gp v (some i)) = .ok { type := ty, gp := gp, init := some i, value := v } := by
  rw [importValue, mvLoop_valueElem]
  cases i with
  | cpuset m =>
    simp only [typeScan_typeString ty ht, num_dec gp hg, num_dec v hv, hf, if_true, importInit, setScan_setText, Res.bind]
    rfl
  | obj t g =>
    simp only [initValid, Bool.and_eq_true, decide_eq_true_eq] at hi
    simp only [typeScan_typeString ty ht, typeScan_typeString t hi.1, num_dec gp hg, num_dec v hv, num_dec g hi.2, hf, if_true,
      importInit, Res.bind]
    rfl

theorem maKids_value (flags : Nat) (e : Elem) (es : List Elem) (acc : List Call) (c : Call) (ht : e.tag = tagMemattrValue)
    (h : importValue flags e = .ok c) : maKids flags (e :: es) acc = maKids flags es (acc ++ [c]) := by
  rw [maKids, if_pos ht, h]

theorem maKids_inits (flags ty gp : Nat) (hf : needInit flags = true) (ht : ty < 20) (hg : gp < 2 ^ 64) (rest : List Elem)
    (inits : List (Init × Nat)) (acc : List Call) (h : inits.all (fun iv => initValid iv.1 && decide (iv.2 < 2 ^ 64)) = true) :
    maKids flags (inits.map (fun iv => valueElem ty gp iv.2 (some iv.1)) ++ rest) acc =
      maKids flags rest (acc ++ inits.map (fun iv => { type := ty, gp := gp, init := some iv.1, value := iv.2 })) := by
  simpa using map_run (maKids flags) (fun iv => valueElem ty gp iv.2 (some iv.1))
    (fun l => acc ++ l.map (fun iv => ({ type := ty, gp := gp, init := some iv.1, value := iv.2 } : Call))) _
    (fun iv l es hiv => by
      simp only [Bool.and_eq_true, decide_eq_true_eq] at hiv
      rw [maKids_value flags _ _ _ _ rfl (importValue_init flags ty gp iv.2 iv.1 hf ht hg hiv.2 hiv.1)]; simp)
    rest inits [] (List.all_eq_true.1 h)

def callsT (flags : Nat) (t : MTarget) : List Call :=
  if needInit flags then t.inits.map (fun iv => { type := t.type, gp := t.gp, init := some iv.1, value := iv.2 })
  else [{ type := t.type, gp := t.gp, init := none, value := t.value }]

theorem callsOf_eq (a : MemAttr) : callsOf a = a.targets.flatMap (callsT a.flags) := by
  unfold callsOf callsT; split <;> simp [List.map_eq_flatMap]

theorem maKids_target (flags : Nat) (t : MTarget) (h : targetValid t = true) (rest : List Elem) (acc : List Call) :
    maKids flags (targetElems flags t ++ rest) acc = maKids flags rest (acc ++ callsT flags t) := by
  simp only [targetValid, Bool.and_eq_true, decide_eq_true_eq] at h
  unfold targetElems callsT
  cases hf : needInit flags
  · exact maKids_value flags _ rest acc _ rfl (importValue_noinit flags t.type t.gp t.value hf h.1.1.1 h.1.1.2 h.1.2)
  · exact maKids_inits flags t.type t.gp hf h.1.1.1 h.1.1.2 rest t.inits acc h.2

theorem maKids_targets (flags : Nat) : ∀ (ts : List MTarget) (acc : List Call), ts.all targetValid = true →
    maKids flags (ts.flatMap (targetElems flags)) acc = .ok (acc ++ ts.flatMap (callsT flags))
  | [], acc, _ => by simp [maKids]
  | t :: l, acc, h => by
    simp only [List.all_cons, Bool.and_eq_true] at h
    rw [List.flatMap_cons, maKids_target flags t h.1, maKids_targets flags l _ h.2]
    simp

/-- hwloc__xml_import_memattr ∘ (one iteration of hwloc__xml_export_memattrs) -/
theorem importMemAttr_exportMemAttr (a : MemAttr) (hv : memAttrValid a = true) :
    importMemAttr (exportMemAttr a) = .ok { name := some a.name, flags := a.flags, calls := callsOf a } := by
  simp only [memAttrValid, Bool.and_eq_true, decide_eq_true_eq] at hv
  have h1 : maLoop (exportMemAttr a).attrs none ulongMax = .ok (some a.name, a.flags) := by
    simp only [exportMemAttr, Elem.attrs, maLoop, if_true, b_inj, String.reduceEq, if_false, num_dec a.flags hv.1]
  unfold importMemAttr
  rw [h1]
  simp only [Res.bind, exportMemAttr, Elem.content, Elem.kids, Option.isSome_none, Bool.false_eq_true, if_false]
  rw [maKids_targets a.flags a.targets [] hv.2, callsOf_eq]; rfl

/-! ### memory attributes: hwloc_internal_memattr_set_value rebuilds the target array from the calls -/

def noKey (acc : List MTarget) (ty gp : Nat) : Prop := ∀ u ∈ acc, ¬ (u.type = ty ∧ u.gp = gp)

theorem sameTarget_false (u : MTarget) (c : Call) (h : ¬ (u.type = c.type ∧ u.gp = c.gp)) : sameTarget u c = false := by
  simp only [sameTarget, Bool.and_eq_false_iff, beq_eq_false_iff_ne, ne_eq]
  by_cases e : u.type = c.type
  · exact Or.inr (fun g => h ⟨e, g⟩)
  · exact Or.inl e

theorem setValue_new : ∀ (acc : List MTarget) (c : Call), noKey acc c.type c.gp →
    setValue acc c = acc ++ [applyCall { type := c.type, gp := c.gp } c]
  | [], c, _ => rfl
  | u :: acc, c, h => by
    have hu : sameTarget u c = false := sameTarget_false u c (h u (by simp))
    rw [setValue, hu, setValue_new acc c (fun w hw => h w (by simp [hw]))]
    simp

theorem setValue_last : ∀ (acc : List MTarget) (t : MTarget) (c : Call), noKey acc c.type c.gp → (t.type = c.type ∧ t.gp = c.gp) →
    setValue (acc ++ [t]) c = acc ++ [applyCall t c]
  | [], t, c, _, ht => by
    have hs : sameTarget t c = true := by simp [sameTarget, ht.1, ht.2]
    simp [setValue, hs]
  | u :: acc, t, c, h, ht => by
    have hu : sameTarget u c = false := sameTarget_false u c (h u (by simp))
    rw [List.cons_append, setValue, hu, setValue_last acc t c (fun w hw => h w (by simp [hw])) ht]
    simp

theorem setInit_new : ∀ (l : List (Init × Nat)) (i : Init) (v : Nat), (∀ x ∈ l, matchInit i x.1 = false) → setInit l i v = l ++ [(i, v)]
  | [], _, _, _ => rfl
  | x :: l, i, v, h => by
    rw [setInit, h x (by simp), setInit_new l i v (fun y hy => h y (by simp [hy]))]
    simp

/-- the calls of one target with initiators, after its first one created the entry -/
theorem rebuild_block (acc : List MTarget) (ty gp : Nat) (hk : noKey acc ty gp) :
    ∀ (inits pre : List (Init × Nat)), (∀ iv ∈ inits, ∀ x ∈ pre, matchInit iv.1 x.1 = false) → distinctInits inits = true →
      (inits.map (fun iv => ({ type := ty, gp := gp, init := some iv.1, value := iv.2 } : Call))).foldl setValue
          (acc ++ [{ type := ty, gp := gp, value := 0, inits := pre }]) =
        acc ++ [{ type := ty, gp := gp, value := 0, inits := pre ++ inits }]
  | [], pre, _, _ => by simp
  | iv :: l, pre, hp, hd => by
    simp only [distinctInits, Bool.and_eq_true, Bool.not_eq_true', List.any_eq_false, Bool.not_eq_true] at hd
    rw [List.map_cons, List.foldl_cons, setValue_last acc _ _ hk ⟨rfl, rfl⟩]
    simp only [applyCall]
    rw [setInit_new pre iv.1 iv.2 (fun x hx => hp iv (by simp) x hx)]
    have := rebuild_block acc ty gp hk l (pre ++ [iv])
      (fun jv hj x hx => by
        rcases List.mem_append.mp hx with hx | hx
        · exact hp jv (by simp [hj]) x hx
        · simp only [List.mem_singleton] at hx; subst hx; exact hd.1 jv hj)
      hd.2
    rw [this]; simp

theorem normTarget_key (flags : Nat) (t : MTarget) : (normTarget flags t).type = t.type ∧ (normTarget flags t).gp = t.gp := by
  unfold normTarget; split <;> exact ⟨rfl, rfl⟩

theorem rebuild_target (flags : Nat) (acc : List MTarget) (t : MTarget) (hk : noKey acc t.type t.gp)
    (hi : needInit flags = true → t.inits ≠ [] ∧ distinctInits t.inits = true) :
    (callsT flags t).foldl setValue acc = acc ++ [normTarget flags t] := by
  unfold callsT normTarget
  cases hf : needInit flags
  · exact setValue_new acc _ hk
  · obtain ⟨hne, hdi⟩ := hi hf
    obtain ⟨ty, gp, v, ins⟩ := t
    cases ins with
    | nil => exact absurd rfl hne
    | cons iv ivs =>
      simp only [distinctInits, Bool.and_eq_true, Bool.not_eq_true', List.any_eq_false, Bool.not_eq_true] at hdi
      simp only [if_true, List.map_cons, List.foldl_cons]
      rw [setValue_new acc _ hk]
      simp only [applyCall]
      rw [setInit_new [] iv.1 iv.2 (by simp), List.nil_append, rebuild_block acc ty gp hk ivs [iv]
        (fun jv hj x hx => by simp only [List.mem_singleton] at hx; subst hx; exact hdi.1 jv hj) hdi.2]
      rfl

theorem rebuild_targets (flags : Nat) : ∀ (ts acc : List MTarget), (∀ t ∈ ts, noKey acc t.type t.gp) → distinctKeys ts = true →
    (∀ t ∈ ts, needInit flags = true → t.inits ≠ [] ∧ distinctInits t.inits = true) →
    (ts.flatMap (callsT flags)).foldl setValue acc = acc ++ ts.map (normTarget flags)
  | [], acc, _, _, _ => by simp
  | t :: l, acc, hk, hd, hi => by
    simp only [distinctKeys, Bool.and_eq_true, Bool.not_eq_true', List.any_eq_false, beq_iff_eq, not_and] at hd
    have hk' : ∀ u ∈ l, noKey (acc ++ [normTarget flags t]) u.type u.gp := by
      intro u hu w hw
      rcases List.mem_append.mp hw with hw | hw
      · exact hk u (by simp [hu]) w hw
      · simp only [List.mem_singleton] at hw; subst hw
        rw [(normTarget_key flags t).1, (normTarget_key flags t).2]
        intro e; exact hd.1 u hu e.1.symm e.2.symm
    rw [List.flatMap_cons, List.foldl_append, rebuild_target flags acc t (hk t (by simp)) (hi t (by simp)),
      rebuild_targets flags l _ hk' hd.2 fun u hu => hi u (by simp [hu])]
    simp

/-- the find-or-append of hwloc__internal_memattr_set_value, run over the calls the importer makes for an exported attribute,
    rebuilds its target array -/
theorem rebuild_callsOf (a : MemAttr) (h : memAttrWF a = true) : rebuild (callsOf a) = a.targets.map (normTarget a.flags) := by
  simp only [memAttrWF, Bool.and_eq_true, Bool.or_eq_true, Bool.not_eq_true', List.all_eq_true, List.isEmpty_eq_false_iff] at h
  rw [rebuild, callsOf_eq, rebuild_targets a.flags a.targets [] (fun _ _ _ hu => nomatch hu) h.1 fun t ht hf =>
    (h.2.resolve_left (by rw [hf]; nofun)) t ht]
  rfl

/-! ### distances: the chunked number lists -/

theorem noDigitHead_blank (s : Bytes) : NoDigitHead (32 :: s) := noDigitHead_cons 32 s (by decide)

theorem nil_of_full {α : Type} {acc l : List α} {x : α} {cap : Nat} (hcap : (acc ++ [x]).length = cap)
    (hc : (acc ++ x :: l).length ≤ cap) : l = [] := by
  cases l with
  | nil => rfl
  | cons y l' => simp only [List.length_append, List.length_cons, List.length_nil] at hc hcap; omega

/-- A text loop `L` of hwloc__xml_import_distances reads the items `g x ++ " "` that EXPORT_ARRAY wrote into one child one after the
    other, whatever it is: `hstep` is what it does on ONE item whatever text follows (it stops by itself when the array is full),
    `hnil` at the end of the text. -/
theorem items_run {α ρ : Type} (L : Nat → Bytes → List α → Nat → ρ) (ret : List α → ρ) (g : α → Bytes) (P : α → Prop) (cap : Nat)
    (hnil : ∀ f acc, L (f + 1) [] acc cap = ret acc)
    (hstep : ∀ f x text acc, P x → L (f + 1) (g x ++ 32 :: text) acc cap =
      if (acc ++ [x]).length = cap then ret (acc ++ [x]) else L f text (acc ++ [x]) cap) :
    ∀ (items : List α) (f : Nat) (acc : List α), (∀ x ∈ items, P x) → ((items.map g).flatMap (fun s => s ++ [32])).length < f →
      (acc ++ items).length ≤ cap → L f ((items.map g).flatMap (fun s => s ++ [32])) acc cap = ret (acc ++ items)
  | [], f, acc, _, hf, _ => by
    cases f with
    | zero => simp at hf
    | succ f => simp [hnil]
  | x :: l, f, acc, hb, hf, hc => by
    cases f with
    | zero => simp at hf
    | succ f =>
      have e : ((x :: l).map g).flatMap (fun s => s ++ [32]) = g x ++ 32 :: (l.map g).flatMap (fun s => s ++ [32]) := by simp
      rw [e] at hf ⊢
      rw [hstep f x _ acc (hb x (by simp))]
      by_cases hcap : (acc ++ [x]).length = cap
      · rw [if_pos hcap]
        cases nil_of_full hcap hc; simp
      · rw [if_neg hcap, items_run L ret g P cap hnil hstep l f (acc ++ [x]) (fun y hy => hb y (by simp [hy]))
          (by simp only [List.length_append, List.length_cons] at hf; omega) (by simpa using hc)]
        simp

theorem strtoul0_item (i : Nat) (text : Bytes) (hi : i < 2 ^ 64) :
    strtoul 0 (decDigits i ++ 32 :: text) = .ok i (32 :: text) ∧
      ¬ (32 :: text).length = (decDigits i ++ 32 :: text).length := by
  refine ⟨strtoul0_decDigits i _ hi (noDigitHead_blank _), ?_⟩
  have := List.length_pos_iff.2 (decDigits_ne_nil i)
  simp only [List.length_append, List.length_cons]; omega

theorem numLoop_items (cap : Nat) : ∀ (items : List Nat) (f : Nat) (acc : List Nat),
    (∀ i ∈ items, i < 2 ^ 64) → ((items.map homItem).flatMap (fun s => s ++ [32])).length < f → (acc ++ items).length ≤ cap →
    numLoop f ((items.map homItem).flatMap (fun s => s ++ [32])) acc cap = some (acc ++ items) :=
  items_run numLoop some homItem (· < 2 ^ 64) cap
    (fun f acc => by simp [numLoop, (by decide : strtoul 0 [] = .ok 0 [])])
    (fun f i text acc hi => by
      rw [numLoop]
      simp only [homItem, (strtoul0_item i text hi).1, (strtoul0_item i text hi).2, if_false])

theorem chunkText_chunkElem (tag : Bytes) (items : List Bytes) :
    chunkText (chunkElem tag items) = some (items.flatMap (fun s => s ++ [32])) := by
  simp only [chunkText, chunkElem, Elem.attrs, Elem.content, ne_eq, not_true_eq_false, if_false, Xml.atoi_decDigits]
  rw [if_neg (by omega)]

/-- A child loop `L` reads the children that `chunks` cuts a list into one after the other, whatever it is: `st acc` is its state when
    its array holds `acc`, `hstep` what it does on ONE child, given that the array is not full and has room for the piece `c`. -/
theorem chunks_run {σ ρ α : Type} (L : List Elem → σ → ρ) (g : α → Bytes) (tag : Bytes) (st : List α → σ) (P : α → Prop) (cap : Nat)
    (hstep : ∀ (c acc : List α) (es : List Elem), (∀ x ∈ c, P x) → acc.length < cap → (acc ++ c).length ≤ cap →
      L (chunkElem tag (c.map g) :: es) (st acc) = L es (st (acc ++ c)))
    (rest : List Elem) (l acc : List α) (hP : ∀ x ∈ l, P x) (hn : (acc ++ l).length ≤ cap) :
    L ((chunks (l.map g)).map (chunkElem tag) ++ rest) (st acc) = L rest (st (acc ++ l)) := by
  have go : ∀ (f : Nat) (l acc : List α), l.length ≤ f → (∀ x ∈ l, P x) → (acc ++ l).length ≤ cap →
      L ((chunksF perLine f (l.map g)).map (chunkElem tag) ++ rest) (st acc) = L rest (st (acc ++ l)) := by
    intro f
    induction f with
    | zero => intro l acc hl _ _; cases List.eq_nil_of_length_eq_zero (Nat.le_zero.1 hl); simp [chunksF]
    | succ f ih =>
      intro l acc hl hP hn
      cases l with
      | nil => simp [chunksF]
      | cons x l =>
        have hsplit : (x :: l).take perLine ++ (x :: l).drop perLine = x :: l := List.take_append_drop _ _
        rw [List.map_cons, chunksF, ← List.map_cons, ← List.map_take, ← List.map_drop, List.map_cons, List.cons_append,
          hstep _ acc _ (fun y hy => hP y (List.mem_of_mem_take hy)) (by simp only [List.length_append, List.length_cons] at hn; omega)
            (by rw [← hsplit] at hn; simp only [List.length_append] at hn ⊢; omega),
          ih _ _ (by simp only [List.length_drop, List.length_cons, perLine] at hl ⊢; omega)
            (fun y hy => hP y (List.mem_of_mem_drop hy)) (by rw [List.append_assoc, hsplit]; exact hn),
          List.append_assoc, hsplit]
  rw [chunks, List.length_map]
  exact go l.length l acc (Nat.le_refl _) hP hn

theorem dKids_indexes (n : Nat) (vals : List Nat) : ∀ (rest : List Elem) (l is : List Nat), (∀ i ∈ l, i < 2 ^ 64) → (is ++ l).length ≤ n →
    dKids false n ((chunks (l.map homItem)).map (chunkElem tagIndexes) ++ rest) { idx := is.map (fun i => (0, i)), vals := vals } =
      dKids false n rest { idx := (is ++ l).map (fun i => (0, i)), vals := vals } :=
  chunks_run (dKids false n) homItem tagIndexes (fun is => { idx := is.map (fun i => (0, i)), vals := vals }) (· < 2 ^ 64) n
    fun c is es hb hlt hn => by
      have hid : (is.map (fun i => ((0 : Nat), i))).map (·.2) = is := by simp [List.map_map, Function.comp_def]
      rw [dKids]
      simp only [show (chunkElem tagIndexes (c.map homItem)).tag = tagIndexes from rfl, tags_ne, if_false, if_true, chunkText_chunkElem,
        List.length_map, ge_iff_le, Nat.not_le.mpr hlt, hid, numLoop_items n c _ is hb (Nat.lt_succ_self _) hn]
      simp only [chunkElem, Elem.kids, List.isEmpty_nil, Bool.not_true, Bool.false_eq_true, if_false]

theorem dKids_values (het : Bool) (n : Nat) (idx : List (Nat × Nat)) : ∀ (rest : List Elem) (l vs : List Nat), (∀ i ∈ l, i < 2 ^ 64) →
    (vs ++ l).length ≤ n * n →
    dKids het n ((chunks (l.map homItem)).map (chunkElem tagU64) ++ rest) { idx := idx, vals := vs } =
      dKids het n rest { idx := idx, vals := vs ++ l } :=
  chunks_run (dKids het n) homItem tagU64 (fun vs => { idx := idx, vals := vs }) (· < 2 ^ 64) (n * n)
    fun c vs es hb hlt hn => by
      rw [dKids]
      simp only [show (chunkElem tagU64 (c.map homItem)).tag = tagU64 from rfl, tags_ne, if_false, if_true, chunkText_chunkElem,
        ge_iff_le, Nat.not_le.mpr hlt, numLoop_items (n * n) c _ vs hb (Nat.lt_succ_self _) hn]
      simp only [chunkElem, Elem.kids, List.isEmpty_nil, Bool.not_true, Bool.false_eq_true, if_false]

theorem dLoop_step (v : Bytes) (l : List (Bytes × Bytes)) (s : DSt) :
    dLoop ((b "nbobjs", v) :: l) s = num v (fun n => dLoop l { s with nbobjs := n % 2 ^ 32 }) ∧
    dLoop ((b "type", v) :: l) s = (match typeScan v with | some t => dLoop l { s with utype := some t } | none => .reject) ∧
    dLoop ((b "indexing", v) :: l) s =
      dLoop l { s with indexing := true, os := s.os || v == b "os", gp := s.gp || v == b "gp" } ∧
    dLoop ((b "kind", v) :: l) s = num v (fun n => dLoop l { s with kind := n, gotkind := true }) ∧
    dLoop ((b "name", v) :: l) s = dLoop l { s with name := some v } := by
  simp only [dLoop, b_inj, String.reduceEq, if_false, if_true, true_and, and_true]
  rfl

theorem dLoop_nil (st : DSt) : dLoop [] st = .ok st := by rw [dLoop]

theorem dLoop_name (name : Option Bytes) (rest : List (Bytes × Bytes)) (st : DSt) (hn : st.name = none) :
    dLoop (nameAttr name ++ rest) st = dLoop rest { st with name := name.map Xml.sanitize } := by
  cases name with
  | none => obtain ⟨a, b1, c, d, e, f, g, h⟩ := st; simp only at hn; subst hn; rfl
  | some s => simp only [nameAttr, List.cons_append, List.nil_append, dLoop_step, Option.map_some]

theorem dLoop_export (n kind : Nat) (name : Option Bytes) (rest : List (Bytes × Bytes)) (s : DSt) (hn : n < 2 ^ 32) (hk : kind < 2 ^ 64)
    (h0 : s.name = none) :
    dLoop ((b "nbobjs", decDigits n) :: (b "kind", decDigits kind) :: (nameAttr name ++ rest)) s =
      dLoop rest { s with nbobjs := n, kind := kind, gotkind := true, name := name.map Xml.sanitize } := by
  simp only [dLoop_step, num_dec n (Nat.lt_trans hn (by decide)), num_dec kind hk, Nat.mod_eq_of_lt hn]
  exact dLoop_name name rest _ h0

theorem dLoop_export_hom (t kind n : Nat) (name : Option Bytes) (ht : t < 20) (hk : kind < 2 ^ 64) (hn : n < 2 ^ 32) :
    dLoop ([(b "type", TypeStr.typeString t), (b "nbobjs", decDigits n), (b "kind", decDigits kind)] ++ nameAttr name ++
           [(b "indexing", if useOsIndex t then b "os" else b "gp")]) { indexing := false, gp := false } =
      .ok { nbobjs := n, utype := some t, indexing := true, os := useOsIndex t, gp := !useOsIndex t, kind := kind, gotkind := true,
            name := name.map Xml.sanitize } := by
  have vals : (b "os" == b "gp") = false ∧ (b "gp" == b "os") = false := by decide +kernel
  simp only [List.cons_append, List.nil_append, (dLoop_step _ _ _).2.1, typeScan_typeString t ht]
  rw [dLoop_export n kind name _ _ hn hk rfl]
  cases useOsIndex t <;>
    simp only [dLoop_step, dLoop_nil, vals, beq_self_eq_true, Bool.false_eq_true, if_false, if_true, Bool.or_false, Bool.or_true,
      Bool.not_false, Bool.not_true]

theorem dKids_nil (het : Bool) (n : Nat) (acc : DAcc) : dKids het n [] acc = .ok acc := by rw [dKids]

/-- hwloc__xml_import_distances on an element of either kind, given what its attribute loop ends in (`s`) and what its `<indexes>`
    children leave in the index array (`pairs`); the `<u64values>` children are those the exporter writes for `values` -/
theorem importDist_kids (het : Bool) (tag : Bytes) (attrs : List (Bytes × Bytes)) (idxKids : List Elem) (s : DSt)
    (pairs : List (Nat × Nat)) (values : List Nat) (hattrs : dLoop attrs { indexing := het, gp := het } = .ok s)
    (hidx : ∀ rest, dKids het s.nbobjs (idxKids ++ rest) {} = dKids het s.nbobjs rest { idx := pairs }) (hn : pairs.length = s.nbobjs)
    (h2 : 2 ≤ s.nbobjs) (hmax : s.nbobjs ≤ 0xffff) (hvl : values.length = s.nbobjs * s.nbobjs) (hvb : ∀ v ∈ values, v < 2 ^ 64)
    (hgate : s.indexing = true ∧ s.gotkind = true ∧ (het = false → s.utype.isSome = true))
    (hos : ∀ t, s.utype = some t → useOsIndex t = true → s.os = true)
    (hgp : (∀ t, s.utype = some t → useOsIndex t = false) → s.gp = true) :
    importDist het (.mk tag attrs none (idxKids ++ (chunks (values.map homItem)).map (chunkElem tagU64))) =
      .ok (some { utype := s.utype, types := if het then some (pairs.map (·.1)) else none, kind := s.kind, name := s.name,
                  idx := pairs.map (·.2), values := values }) := by
  have hv := dKids_values het s.nbobjs pairs [] values [] hvb (by simp [hvl])
  rw [List.nil_append, List.append_nil] at hv
  have hu : (!het && s.utype.isNone) = false := by
    cases het
    · have := hgate.2.2 rfl; cases hs : s.utype <;> simp_all
    · rfl
  unfold importDist
  simp only [Elem.attrs, Elem.content, Elem.kids, hattrs, Res.bind, hidx _, hv, dKids_nil, hn, hvl, hu,
    hgate.1, hgate.2.1, show (s.nbobjs = 0) = False from eq_false (by omega), show (s.nbobjs > 0xffff) = False from eq_false (by omega),
    show (s.nbobjs < 2) = False from eq_false (by omega), decide_false, Bool.or_self, Bool.not_true, Option.isSome_none,
    Bool.false_eq_true, if_false, ne_eq, not_true_eq_false]
  cases hs : s.utype with
  | none => simp only [Bool.false_eq_true, if_false, hgp (by simp [hs]), Bool.not_true]
  | some t =>
    cases hu : useOsIndex t with
    | true => simp only [hu, if_true, hos t hs hu, Bool.not_true, Bool.false_eq_true, if_false]
    | false => simp only [hu, Bool.false_eq_true, if_false, hgp (fun t' e => by rw [hs] at e; cases e; exact hu), Bool.not_true]

theorem distValid_iff (d : Dist) : distValid d = true ↔
    (2 ≤ d.idx.length ∧ d.idx.length ≤ 0xffff ∧ d.values.length = d.idx.length * d.idx.length ∧ d.kind < 2 ^ 64 ∧
      (∀ i ∈ d.idx, i < 2 ^ 64) ∧ ∀ v ∈ d.values, v < 2 ^ 64) ∧
    match d.types with
    | none => ∃ t, d.utype = some t ∧ t < 20
    | some ts => d.utype = none ∧ ts.length = d.idx.length ∧ ∀ t ∈ ts, t < 20 := by
  rw [distValid, Bool.and_eq_true]
  refine and_congr ?_ ?_
  · -- `Dist.nbobjs` stays folded until the `decide`s are gone: their instances mention it
    simp only [Bool.and_eq_true, decide_eq_true_eq, List.all_eq_true]
    simp only [Dist.nbobjs, and_assoc]
  · obtain ⟨utype, types, kind, name, idx, values⟩ := d
    cases types <;> cases utype <;>
      simp only [Bool.and_eq_true, decide_eq_true_eq, List.all_eq_true, Bool.false_eq_true, reduceCtorEq, false_and, exists_false,
        Option.some.injEq, exists_eq_left', true_and]
    exact Iff.rfl

theorem importDist_exportDist_hom (d : Dist) (hv : distValid d = true) (hh : d.types = none) :
    importDist false (exportDist d) = .ok (some (normDist d)) := by
  obtain ⟨⟨h2, hmax, hvl, hk, hib, hvb⟩, hty⟩ := (distValid_iff d).1 hv
  rw [hh] at hty
  obtain ⟨t, hu, ht⟩ := hty
  have := importDist_kids false tagDist _ ((chunks (d.idx.map homItem)).map (chunkElem tagIndexes)) _ (d.idx.map fun i => (0, i)) d.values
    (dLoop_export_hom t d.kind d.idx.length d.name ht hk (by omega))
    (fun rest => by simpa using dKids_indexes d.idx.length [] rest d.idx [] hib (by simp))
    (by simp) h2 hmax hvl hvb ⟨rfl, rfl, fun _ => rfl⟩ (fun t' e hu => by cases e; exact hu) (fun h => by simp [h t rfl])
  simpa [exportDist, Dist.nbobjs, normDist, hh, hu, Function.comp_def] using this

/-! ### heterogeneous matrices: `Type:gp_index` items.  hwloc_type_sscanf is handed the REST of the text, not one item. -/

theorem typeString_no_colon : ∀ t, t < 20 → (TypeStr.typeString t).all (fun x => decide (x ≠ 58)) = true := by decide

theorem hetLoop_items (cap : Nat) : ∀ (items : List (Nat × Nat)) (f : Nat) (acc : List (Nat × Nat)),
    (∀ ti ∈ items, ti.1 < 20 ∧ ti.2 < 2 ^ 64) → ((items.map hetItem).flatMap (fun s => s ++ [32])).length < f →
    (acc ++ items).length ≤ cap →
    hetLoop f ((items.map hetItem).flatMap (fun s => s ++ [32])) acc cap = .ok (acc ++ items) :=
  items_run hetLoop .ok hetItem (fun ti => ti.1 < 20 ∧ ti.2 < 2 ^ 64) cap
    (fun f acc => by simp [hetLoop])
    (fun f ti text acc ⟨ht, hi⟩ => by
      have hemp : (TypeStr.typeString ti.1 ++ 58 :: (decDigits ti.2 ++ 32 :: text)).isEmpty = false := by
        cases TypeStr.typeString ti.1 <;> rfl
      have hdw : (TypeStr.typeString ti.1 ++ 58 :: (decDigits ti.2 ++ 32 :: text)).dropWhile (fun x => decide (x ≠ 58)) =
          58 :: (decDigits ti.2 ++ 32 :: text) := by
        rw [List.dropWhile_append_of_pos (List.all_eq_true.mp (typeString_no_colon ti.1 ht))]; simp
      rw [hetLoop]
      simp only [hetItem, List.append_assoc, List.cons_append, List.nil_append, hemp, Bool.false_eq_true, if_false, typeScan_typeString_colon ti.1 ht _, hdw,
        (strtoul0_item ti.2 text hi).1, (strtoul0_item ti.2 text hi).2])

theorem dKids_indexes_het (n : Nat) (vals : List Nat) : ∀ (rest : List Elem) (l is : List (Nat × Nat)),
    (∀ ti ∈ l, ti.1 < 20 ∧ ti.2 < 2 ^ 64) → (is ++ l).length ≤ n →
    dKids true n ((chunks (l.map hetItem)).map (chunkElem tagIndexes) ++ rest) { idx := is, vals := vals } =
      dKids true n rest { idx := is ++ l, vals := vals } :=
  chunks_run (dKids true n) hetItem tagIndexes (fun is => { idx := is, vals := vals }) (fun ti => ti.1 < 20 ∧ ti.2 < 2 ^ 64) n
    fun c is es hb hlt hn => by
      rw [dKids]
      simp only [show (chunkElem tagIndexes (c.map hetItem)).tag = tagIndexes from rfl, tags_ne, if_false, if_true, chunkText_chunkElem,
        ge_iff_le, Nat.not_le.mpr hlt, hetLoop_items n c _ is hb (Nat.lt_succ_self _) hn]
      simp only [chunkElem, Elem.kids, List.isEmpty_nil, Bool.not_true, Bool.false_eq_true, if_false]

theorem importDist_exportDist_het (d : Dist) (hv : distValid d = true) (ts : List Nat) (hh : d.types = some ts) :
    importDist true (exportDist d) = .ok (some (normDist d)) := by
  obtain ⟨⟨h2, hmax, hvl, hk, hib, hvb⟩, hty⟩ := (distValid_iff d).1 hv
  rw [hh] at hty
  obtain ⟨hu, htl, htb⟩ := hty
  have hzl : (ts.zip d.idx).length = d.idx.length := by simp [List.length_zip, htl]
  have hk1 : ∀ rest, dKids true d.idx.length ((chunks ((ts.zip d.idx).map hetItem)).map (chunkElem tagIndexes) ++ rest) {} =
      dKids true d.idx.length rest { idx := ts.zip d.idx } := fun rest => by
    simpa using dKids_indexes_het d.idx.length [] rest (ts.zip d.idx) []
      (fun ti hi => ⟨htb ti.1 (List.of_mem_zip hi).1, hib ti.2 (List.of_mem_zip hi).2⟩) (by simp [hzl])
  have hattrs : dLoop ([(b "nbobjs", decDigits d.idx.length), (b "kind", decDigits d.kind)] ++ nameAttr d.name)
      { indexing := true, gp := true } =
      .ok { nbobjs := d.idx.length, indexing := true, gp := true, kind := d.kind, gotkind := true, name := d.name.map Xml.sanitize } := by
    have := dLoop_export d.idx.length d.kind d.name [] { indexing := true, gp := true } (by omega) hk rfl
    rwa [List.append_nil, dLoop_nil] at this
  have := importDist_kids true tagDistHetero _ _ _ _ d.values hattrs hk1 hzl h2 hmax hvl hvb ⟨rfl, rfl, nofun⟩ nofun (fun _ => rfl)
  simpa [exportDist, Dist.nbobjs, normDist, hh, hu, List.map_fst_zip (Nat.le_of_eq htl), List.map_snd_zip (Nat.le_of_eq htl.symm)] using this

/-- hwloc__xml_import_distances ∘ hwloc___xml_v2export_distances, both element kinds -/
theorem importDist_exportDist (d : Dist) (hv : distValid d = true) :
    importDist d.types.isSome (exportDist d) = .ok (some (normDist d)) := by
  cases hh : d.types with
  | none => exact importDist_exportDist_hom d hv hh
  | some ts => exact importDist_exportDist_het d hv ts hh

/-! ### the whole list of elements after the root object -/

theorem exportDist_tag (d : Dist) : (exportDist d).tag = if d.types.isSome then tagDistHetero else tagDist := by
  unfold exportDist
  cases d.types <;> rw [Elem.tag] <;> rfl   -- by its equation: left to `rfl`, the projection is compared with the tag's bytes

theorem exportMemAttr_tag (a : MemAttr) : (exportMemAttr a).tag = tagMemattr := by rw [exportMemAttr, Elem.tag]

theorem exportKind_tag (k : Kind) : (exportKind k).tag = tagCpukind := by rw [exportKind, Elem.tag]

theorem importSide_dists (rest : List Elem) (ds : List Dist) (s : Side) (h : ∀ d ∈ ds, distValid d = true) :
    importSide (ds.map exportDist ++ rest) s = importSide rest { s with dists := s.dists ++ ds.map normDist } := by
  simpa using map_run importSide exportDist (fun l => { s with dists := s.dists ++ l.map normDist }) _
    (fun d l es hd => by
      have hi := importDist_exportDist d hd
      rw [importSide, exportDist_tag]
      cases ht : d.types.isSome <;> rw [ht] at hi <;>
        simp [tags_ne, hi]) rest ds [] h

def toIn (a : MemAttr) : MemAttrIn := { name := some a.name, flags := a.flags, calls := callsOf a }

theorem importSide_memattrs (rest : List Elem) (as : List MemAttr) (s : Side) (h : ∀ a ∈ as, memAttrValid a = true) :
    importSide (as.map exportMemAttr ++ rest) s = importSide rest { s with memattrs := s.memattrs ++ as.map toIn } := by
  simpa using map_run importSide exportMemAttr (fun l => { s with memattrs := s.memattrs ++ l.map toIn }) _
    (fun a l es ha => by
      rw [importSide, exportMemAttr_tag, importMemAttr_exportMemAttr a ha]
      simp [tags_ne, toIn]) rest as [] h

theorem importSide_kinds (rest : List Elem) (ks : List Kind) (s : Side) (h : ∀ k ∈ ks, kindValid k = true) :
    importSide (ks.map exportKind ++ rest) s = importSide rest { s with kinds := s.kinds ++ ks.map normKind } := by
  simpa using map_run importSide exportKind (fun l => { s with kinds := s.kinds ++ l.map normKind }) _
    (fun k l es hk => by
      rw [importSide, exportKind_tag, importKind_exportKind k hk]
      simp [tags_ne]) rest ks [] h

theorem importSide_infos (is : List (Bytes × Bytes)) (s : Side) :
    importSide (is.map infoElem) s = .ok { s with infos := s.infos ++ is.map sanPair } := by
  simpa [importSide] using map_run importSide infoElem (fun l => { s with infos := s.infos ++ l.map sanPair }) (fun _ => True)
    (fun p l es _ => by
      rw [importSide, infoElem_tag, infoChild_infoElem]
      simp [tags_ne]) [] is [] fun _ _ => trivial

/-- what the loop of hwloc_look_xml collects from the side elements the exporter writes -/
def sideOf (dists : List Dist) (memattrs : List MemAttr) (kinds : List Kind) (infos : List (Bytes × Bytes)) : Side :=
  { dists := ((dists.filter (fun d => d.types.isNone)) ++ (dists.filter (fun d => d.types.isSome))).map normDist,
    memattrs := ((((List.range memattrs.length).zip memattrs).filter exported).map (fun ia => toIn ia.2)),
    kinds := kinds.map normKind,
    infos := infos.map sanPair }

theorem importSide_exportSide (dists : List Dist) (memattrs : List MemAttr) (kinds : List Kind) (infos : List (Bytes × Bytes))
    (hd : ∀ d ∈ dists, distValid d = true) (hm : ∀ a ∈ memattrs, memAttrValid a = true) (hk : ∀ k ∈ kinds, kindValid k = true) :
    importSide (exportSide dists memattrs kinds infos) {} = .ok (sideOf dists memattrs kinds infos) := by
  unfold exportSide exportDists exportMemAttrs exportKinds
  have hm' : ∀ a ∈ (((List.range memattrs.length).zip memattrs).filter exported).map (·.2), memAttrValid a = true := by
    intro a ha
    obtain ⟨ia, hia, rfl⟩ := List.mem_map.mp ha
    exact hm ia.2 (List.of_mem_zip (List.mem_filter.mp hia).1).2
  have hmap : (((List.range memattrs.length).zip memattrs).filter exported).map (fun ia => exportMemAttr ia.2) =
      ((((List.range memattrs.length).zip memattrs).filter exported).map (·.2)).map exportMemAttr := by simp
  rw [List.append_assoc, List.append_assoc, List.append_assoc,
    importSide_dists _ _ _ (fun d h => hd d (List.mem_filter.mp h).1),
    importSide_dists _ _ _ (fun d h => hd d (List.mem_filter.mp h).1),
    hmap, importSide_memattrs _ _ _ hm', importSide_kinds _ _ _ hk, importSide_infos]
  simp [sideOf]

end Hw.XmlSide
