/-
  Hw.Io.CalcAttr — hwloc-calc with the options that read CPU kinds and memory attributes
  (utils/hwloc/hwloc-calc.c: `--cpukind <n>` / `--cpukind <name>=<value>` in the first option loop and the code after
  `hwloc_topology_restrict`; `--default-nodes`, `--local-memory`, `--local-memory-flags <f>`, `--best-memattr <a>[,default][,strict]`
  in the second loop; the `cpukind` / `memorytier` pseudo levels of `-N` / `-I`; `hwloc_calc_output`;
  utils/hwloc/misc.h: `hwloc_utils_parse_flags`, `hwloc_utils_parse_local_numanode_flags`, `hwloc_utils_parse_best_node_flags`,
  `hwloc_utils_parse_memattr_name`, `hwloc_utils__update_best_node`, `hwloc_utils_get_best_node_in_array_by_memattr`).

  `Extra` is what the harness reads through the public API on the topology the tool loads (`hwloc_cpukinds_get_nr/get_info`,
  `hwloc_memattr_get_name/get_flags/get_value/get_initiators`); the NUMA level, the local-node selection and the default nodeset
  come from the C14 model (`Hw.MemAttrs.localNodes`, `Hw.MemAttrs.defaultNodeset`) over the `Dump`.

  The order inside `hwloc_calc_output` is: (1) cpuset &= cpukind cpuset, (2) --no-smt, (3) nodeset &= default nodeset, (4) --single,
  then the first of: --largest, -N cpukind, -I cpukind, -N memorytier, -I memorytier, -N level, -I level, -H, --local-memory, plain set.
  (1) and (3) touch different accumulators than what lies between them, so `outputX` applies both first and hands the rest to
  `Hw.Calc.output` (the pseudo levels need the cpuset after (2) and (4): `finalCpuset`).
-/
import Hw.Io.Calc
import Hw.Attr.MemAttrs
namespace Hw.Calc
open Hw Hw.Topo

/-! ### what the harness reads through the public API -/

structure XKind where
  cpuset : Nat
  eff : Int
  infos : List (Bytes × Bytes)
deriving Repr, DecidableEq, Inhabited

inductive XInit
  | cpuset (m : Nat)
  | obj (type gp : Nat)
deriving Repr, DecidableEq, Inhabited

/-- one memory attribute: `values` = (NUMA node gp_index, `hwloc_memattr_get_value(id, node, NULL)`) where that call succeeds,
    `inits` = (NUMA node gp_index, `hwloc_memattr_get_initiators(id, node)`; `none` = the call fails) -/
structure XAttr where
  name : Bytes
  flags : Nat
  values : List (Nat × Nat) := []
  inits : List (Nat × Option (List (XInit × Nat))) := []
deriving Repr, DecidableEq, Inhabited

structure Extra where
  kinds : List XKind := []
  attrs : List XAttr := []
deriving Repr, DecidableEq, Inhabited

/-! ### `--cpukind` (first option loop of main) -/

structure KSel where
  index : Option Nat := none                 -- cpukind_index (-1 = none)
  info : Option (Bytes × Bytes) := none      -- cpukind_infoname / cpukind_infovalue
deriving Repr, DecidableEq, Inhabited

/-- the argument of one `--cpukind`: `none` = "Failed to recognize" (exit), `some none` = outside the modelled `atoi` domain -/
def cpukindArg (k : KSel) (v : Bytes) : Option (Option KSel) :=
  if v.any (· == 61) then
    some (some { k with info := some (v.takeWhile (· != 61), (v.dropWhile (· != 61)).drop 1) })
  else match v.head? with
    | none => none
    | some c0 =>
      if isDigitB c0 then
        let ds := v.takeWhile isDigitB
        if ds.length ≤ 9 then some (some { k with index := some (takeDigits 10 ds 0 0).1 }) else some none
      else none

/-- the leading `--cpukind <arg>` pairs; the other topology options (`-i …`, `--restrict` are given to the harness) end the model -/
def topoLoop : KSel → List Bytes → Except Res (KSel × List Bytes)
  | k, [] => .ok (k, [])
  | k, a :: rest =>
    if a == str "--cpukind" then
      match rest with
      | [] => .error (.exit 1 (some []))
      | v :: rest' =>
        match cpukindArg k v with
        | none => .error (.exit 1 (some []))
        | some none => .error (.skip "cpukind-value")
        | some (some k') => topoLoop k' rest'
    else if isOpt topoOpts a then .error (.skip "topology-option")
    else .ok (k, a :: rest)

def kindMatches (nm vl : Bytes) (kd : XKind) : Bool := kd.infos.any (fun i => i.1 == nm && i.2 == vl)

/-- `cpukind_cpuset` after the topology is loaded (`none` = NULL: no filter) -/
def kindSet (x : Extra) (k : KSel) : Option Nat :=
  match k.index with
  | some n => some (match x.kinds[n]? with | some kd => kd.cpuset | none => 0)
  | none =>
    match k.info with
    | some (nm, vl) => some ((x.kinds.filter (kindMatches nm vl)).foldl (fun acc kd => acc ||| kd.cpuset) 0)
    | none => none

/-! ### the second option loop with the memory options -/

structure XSt where
  defaultNodes : Bool := false
  localMem : Bool := false
  localFlags : Option Bytes := none      -- last `--local-memory-flags` argument
  best : Option Bytes := none            -- last `--best-memattr` argument
deriving Repr, DecidableEq, Inhabited

def failRes (s : St) : Res := .exit 1 (if s.outKnown then some [] else none)

/-- what one argument starting with `-` does in the second option loop (non-recursive part of the loop body) -/
inductive OptK
  | stop (r : St → Res)                                  -- the run ends here
  | flag (f : St → XSt → St × XSt)                       -- option without argument
  | arg (f : St → XSt → Bytes → Option (St × XSt))       -- option with one argument (`none` = exit(EXIT_FAILURE))

def optKind (a : Bytes) : OptK :=
  if a == str "--default-nodes" then .flag (fun s xs => (s, { xs with defaultNodes := true }))
  else if a == str "--local-memory" then .flag (fun s xs => (s, { xs with localMem := true }))
  else if a == str "--local-memory-flags" then .arg (fun s xs v => some (s, { xs with localMem := true, localFlags := some v }))
  else if a == str "--best-memattr" then .arg (fun s xs v => some (s, { xs with localMem := true, best := some v }))
  else if isOpt skipOpts a then .stop (fun _ => .skip "option")
  else if startsWith a (str "--no-smt=") then
    match atoiDigits (a.drop 9) with
    | some n => .flag (fun s xs => ({ s with noSmt := some n }, xs))
    | none => .stop (fun _ => .skip "no-smt-value")
  else if isOpt flagOpts a then .flag (fun s xs => (stepFlag s a, xs))
  else if isOpt argOpts a then .arg (fun s xs v => (stepArgOpt s a v).map (fun s' => (s', xs)))
  else .stop failRes

/-- `argLoop` of Hw.Io.Calc with `--default-nodes`, `--local-memory`, `--local-memory-flags`, `--best-memattr` followed
    (`argLoopX_eq_argLoop` in Hw/Io/CalcAttrRefine.lean: it agrees with `argLoop` wherever that one declines no option) -/
def argLoopX (c : Ctx) : St → XSt → List Bytes → Except Res (St × XSt)
  | s, xs, [] => .ok (s, xs)
  | s, xs, a :: rest =>
    if a.head? == some 45 then
      match optKind a with
      | .stop r => .error (r s)
      | .flag f => argLoopX c (f s xs).1 (f s xs).2 rest
      | .arg f =>
        match rest with
        | [] => .error (failRes s)
        | v :: rest' =>
          match f s xs v with
          | none => .error (failRes s)
          | some p => argLoopX c p.1 p.2 rest'
    else
      match stepLoc c s a with
      | .error e => .error e
      | .ok s' => argLoopX c s' xs rest

/-! ### hwloc_utils_parse_flags -/

def upperB (c : Byte) : Byte := if 97 ≤ c ∧ c ≤ 122 then c - 32 else c

def isInfix (p s : Bytes) : Bool := (List.range (s.length + 1)).any (fun i => startsWith (s.drop i) p && decide (i + p.length ≤ s.length))

def isSepA (c : Byte) : Bool := c == 44 || c == 124 || c == 43            -- ",|+"
def isSepB (c : Byte) : Bool := c == 32 || isSepA c                        -- " ,|+"

/-- one token against the table: `none` = duplicate match (return -1), `some flags'` -/
def matchFlags (table : List (Bytes × Nat)) (tok : Bytes) (nosuffix : Bool) (flags : Nat) : Option Nat :=
  let hits := table.filter (fun e => if nosuffix then e.1.drop (e.1.length - tok.length) == tok else isInfix tok e.1)
  match hits with
  | [] => some flags
  | [e] => some (flags ||| e.2)
  | _ => none

/-- the token loop; result `none` = `(unsigned long) -1`; `Except` error = outside the model (`$` token longer than a flag name) -/
def parseFlagsLoop (table : List (Bytes × Nat)) : Nat → Bytes → Nat → Except Unit (Option Nat)
  | 0, _, flags => .ok (some flags)
  | f+1, ptr, flags =>
    let ptr := ptr.dropWhile isSepA
    let tok := ptr.takeWhile (fun c => !isSepB c)
    if tok.isEmpty then .ok (some flags) else
    let next : Option Bytes := if tok.length < ptr.length then some (ptr.drop (tok.length + 1)) else none
    let nosuffix := tok.any (· == 36)
    let tok := tok.takeWhile (· != 36)
    if nosuffix && table.any (fun e => e.1.length < tok.length) then .error () else
    match matchFlags table tok nosuffix flags with
    | none => .ok none
    | some fl =>
      if fl == flags then .ok none else
      match next with
      | none => .ok (some fl)
      | some n => parseFlagsLoop table f n fl

/-- `hwloc_utils_parse_flags`: `.ok none` = `(unsigned long)-1`, error = outside the modelled domain (`strtoul` base 0 on anything but
    a plain decimal number of at most 9 digits) -/
def parseFlags (table : List (Bytes × Nat)) (s : Bytes) : Except Unit (Option Nat) :=
  match s.head? with
  | none => .ok (some 0)                       -- "": strtoul consumes nothing, the loop ends at once
  | some c0 =>
    if isDigitB c0 then
      if s.all isDigitB && s.length ≤ 9 && (c0 != 48 || s.length == 1) then .ok (some (takeDigits 10 s 0 0).1) else .error ()
    else if c0 == 32 || c0 == 43 || c0 == 45 || (9 ≤ c0 ∧ c0 ≤ 13) || c0 ≥ 128 then .error ()
    else
      let u := s.map upperB
      if u.any (· ≥ 128) then .error () else
      if u == str "NONE" then .ok (some 0) else parseFlagsLoop table (u.length + 1) u 0

def localFlagTable : List (Bytes × Nat) :=
  [(str "HWLOC_LOCAL_NUMANODE_FLAG_LARGER_LOCALITY", 1), (str "HWLOC_LOCAL_NUMANODE_FLAG_SMALLER_LOCALITY", 2),
   (str "HWLOC_LOCAL_NUMANODE_FLAG_ALL", 4)]

/-- `local_numanode_flags` at output time (default SMALLER | LARGER); `.ok none` = ULONG_MAX -/
def localFlagsOf (xs : XSt) : Except Unit (Option Nat) :=
  match xs.localFlags with
  | none => .ok (some 3)
  | some v => parseFlags localFlagTable v

/-! ### `--best-memattr` -/

/-- remove the first occurrence of `p` from `s` (`strstr` + `memmove`) -/
def removeFirst (p : Bytes) : Nat → Bytes → Bytes × Bool
  | 0, s => (s, false)
  | f+1, s =>
    if startsWith s p && decide (p.length ≤ s.length) then (s.drop p.length, true) else
    match s with
    | [] => ([], false)
    | c :: r => let (r', b) := removeFirst p f r; (c :: r', b)

/-- `hwloc_utils_parse_best_node_flags`: (string left, DEFAULT, STRICT) -/
def parseBestFlags (s : Bytes) : Bytes × Bool × Bool :=
  let (s1, d) := removeFirst (str ",default") (s.length + 1) s
  let (s2, t) := removeFirst (str ",strict") (s1.length + 1) s1
  (s2, d, t)

/-- `hwloc_utils_parse_memattr_name`: `some none` = -1; `none` = outside the `atoi` domain -/
def parseMemattrName (x : Extra) (s : Bytes) : Option (Option Nat) :=
  match x.attrs.findIdx? (fun a => ciEq a.name s) with
  | some id => some (some id)
  | none =>
    match s.head? with
    | none => some none
    | some c0 =>
      if !isDigitB c0 then some none else
      let ds := s.takeWhile isDigitB
      if ds.length > 9 then none else
      let id := (takeDigits 10 ds 0 0).1
      some (if id < x.attrs.length then some id else none)

/-- `hwloc_utils__update_best_node` on (bestvalue, best nodeset) -/
def updBest (higher : Bool) (st : Nat × Nat) (os v : Nat) : Nat × Nat :=
  if st.2 == 0 then (v, 1 <<< os)
  else if higher then (if v > st.1 then (v, 1 <<< os) else if v == st.1 then (st.1, st.2 ||| (1 <<< os)) else st)
  else (if v < st.1 then (v, 1 <<< os) else if v == st.1 then (st.1, st.2 ||| (1 <<< os)) else st)

/-- does a stored initiator match the CPUSET location hwloc-calc passes (`cs` = its members, `inf` = it is infinite) -/
def initMatches (strict : Bool) (cs : Nat) (inf : Bool) (i : XInit) : Bool :=
  match i with
  | .obj _ _ => false
  | .cpuset m => if strict then (!inf && (cs &&& m == cs)) else (cs &&& m != 0)

/-- the need-initiator loop over the local nodes: `none` = a `hwloc_memattr_get_initiators` call failed (`goto none`) -/
def bestInitLoop (a : XAttr) (strict : Bool) (cs : Nat) (inf : Bool) : List Obj → Nat × Nat → Option (Nat × Nat)
  | [], st => some st
  | n :: rest, st =>
    match a.inits.find? (fun e => e.1 == n.gp) with
    | none => none
    | some (_, none) => none
    | some (_, some is) =>
      match is.find? (fun iv => initMatches strict cs inf iv.1) with
      | none => bestInitLoop a strict cs inf rest st
      | some iv => bestInitLoop a strict cs inf rest (updBest (a.flags.testBit 0) st n.osidx.toNat iv.2)

def bestValueLoop (a : XAttr) (nodes : List Obj) : Nat × Nat :=
  nodes.foldl (fun st n => match a.values.find? (fun e => e.1 == n.gp) with
    | none => st
    | some e => updBest (a.flags.testBit 0) st n.osidx.toNat e.2) (0, 0)

def osMask (nodes : List Obj) : Nat := nodes.foldl (fun acc n => acc ||| (1 <<< n.osidx.toNat)) 0

/-- `hwloc_utils_get_best_node_in_array_by_memattr`: the nodeset filter (`dns` = the default nodeset, flags 0) -/
def bestNodeFilter (a : XAttr) (dflt strict : Bool) (cs : Nat) (inf : Bool) (dns : Nat) (nodes : List Obj) : Nat :=
  let best : Nat := if a.flags.testBit 2 then
      match bestInitLoop a strict cs inf nodes (0, 0) with
      | none => 0
      | some st => st.2
    else (bestValueLoop a nodes).2
  if best != 0 then best
  else if dflt then
    let m := osMask (nodes.filter (fun n => dns.testBit n.osidx.toNat))
    if m != 0 then m else osMask nodes
  else 0

/-! ### the C14 environment of a dump -/

def maObj (o : Obj) : MemAttrs.Obj :=
  { type := o.type, gp := o.gp, os := if o.osidx < 0 then none else some o.osidx.toNat, cpuset := o.cpuset, effCpuset := cs o,
    mem := 0, subtype := o.subtype }

/-- the NUMA level in logical order (`hwloc_get_obj_by_type(NUMANODE, 0)` and `next_cousin`) -/
def numaObjs (d : Dump) : List Obj := cousinsFrom d (objByDepth d (-3) 0)

def envOf (d : Dump) : MemAttrs.Env :=
  { numaType := tNUMA, root := match d.rootObj? with | some r => cs r | none => 0, objs := d.objs.map maObj,
    nodes := (numaObjs d).map maObj }

/-- `hwloc_topology_get_default_nodeset(topology, set, 0)` -/
def defaultNodes (d : Dump) : Nat :=
  match MemAttrs.defaultNodeset (envOf d) 0 with
  | .ok m => m
  | .error _ => 0

/-- the location hwloc-calc hands to `hwloc_get_local_numanode_objs`: the members of the cpuset, plus one bit above every set of
    the topology when the cpuset is infinite (an infinite set is included in no node cpuset, equals none, and includes exactly the
    node cpusets its finite part includes) -/
def locMask (nw : Nat) (b : Bitmap) : Nat :=
  if b.inf then maskOf b nw ||| (1 <<< (64 * max b.count nw)) else maskOf b nw

/-- `hwloc_get_local_numanode_objs(topology, {CPUSET, cpuset}, &nrnodes, nodes, flags)` with room for every node -/
def localNumaObjs (d : Dump) (cs flags : Nat) : Option (List Obj) :=
  match MemAttrs.localNodes (envOf d) (.cpuset cs) flags (numaObjs d).length false with
  | .error _ => none
  | .ok _ => some ((numaObjs d).filter (fun o => MemAttrs.matchLocal flags cs (maObj o)))

/-! ### output -/

inductive Pseudo | cpukind | memtier
deriving Repr, DecidableEq

def pseudoOf (s : Option Bytes) : Option Pseudo :=
  match s with
  | none => none
  | some t => if ciEq (t.take 10) (str "memorytier") then some .memtier else if ciEq (t.take 7) (str "cpukind") then some .cpukind else none

structure XCfg where
  numP : Option Pseudo := none
  intP : Option Pseudo := none
  best : Option (Nat × Bool × Bool) := none       -- attribute id, DEFAULT, STRICT
deriving Repr, DecidableEq

/-- number of words that cover every set of the topology and of the extras -/
def xnw (c : Ctx) (x : Extra) : Nat :=
  let m := x.kinds.foldl (fun acc k => acc ||| k.cpuset) 0
  let m := x.attrs.foldl (fun acc a => a.inits.foldl (fun acc e => match e.2 with
    | none => acc
    | some is => is.foldl (fun acc iv => match iv.1 with | .cpuset m => acc ||| m | _ => acc) acc) acc) m
  max c.nw (m.log2 / 64 + 1)

/-- the cpuset after `--cpukind` … `--single` (steps 1, 2, 4 of hwloc_calc_output) -/
def finalCpuset (c : Ctx) (s : St) (cpuset : Bitmap) : Bitmap :=
  let cpuset := match s.noSmt with
    | none => cpuset
    | some w => if typeDepth c.d tCORE == depthUnknown then cpuset
                else if cpuset.inf then cpuset
                else ofMask (singlifyPerCore c.d (c.mask cpuset) w)
  if s.single then cpuset.singlify else cpuset

/-- the first info named `MemoryTier` of a node, through `atoi` (`none` = outside the modelled domain) -/
def memTier (o : Obj) : Option (Option Nat) :=
  match o.infos.find? (fun i => i.1 == "MemoryTier") with
  | none => some none
  | some i => let b := str i.2
              if b.all isDigitB && !b.isEmpty && b.length ≤ 4 then some (some (takeDigits 10 b 0 0).1) else none

/-- hwloc_calc_get_memtier_bitmap -/
def memTierSet (c : Ctx) (nm : Nat) : Option Nat :=
  ((numaObjs c.d).filter (fun o => intersects nm (nsOf o))).foldl (fun acc o => match acc, memTier o with
    | some m, some (some t) => some (m ||| (1 <<< t))
    | some m, some none => some m
    | _, _ => none) (some 0)

def cpusetAfterKind (k : Option Nat) (cpuset : Bitmap) : Bitmap :=
  match k with
  | none => cpuset
  | some m => cpuset.and (ofMask m)

def nodesetAfterDefault (d : Dump) (xs : XSt) (nodeset : Bitmap) : Bitmap :=
  if xs.defaultNodes then nodeset.and (ofMask (defaultNodes d)) else nodeset

/-- the `--local-memory` branch: the nodes printed (`none` = `hwloc_get_local_numanode_objs` failed: only the newline is printed) -/
def localMemNodes (c : Ctx) (x : Extra) (xcfg : XCfg) (flags : Option Nat) (cpuset : Bitmap) : Option (List Obj) :=
  let nw := xnw c x
  let csm := locMask nw cpuset
  match flags with
  | none => none                                   -- ULONG_MAX: EINVAL
  | some fl =>
    match localNumaObjs c.d csm fl with
    | none => none
    | some nodes =>
      match xcfg.best with
      | none => some nodes
      | some (id, dflt, strict) =>
        match x.attrs[id]? with
        | none => some []
        | some a =>
          let filter := bestNodeFilter a dflt strict (maskOf cpuset nw) cpuset.inf (defaultNodes c.d) nodes
          some (nodes.filter (fun n => filter.testBit n.osidx.toNat))

def idxList (s : St) (sep : Bytes) (prefix_ : Bytes) (l : List Nat) : Bytes :=
  joinSep sep (l.map (fun i => (if s.objectO then prefix_ else []) ++ decDigits i))

/-- `hwloc_calc_output` with the cpukind filter `k`, the memory options `xs` and the pseudo levels / best attribute `xcfg` -/
def outputX (c : Ctx) (x : Extra) (k : Option Nat) (s : St) (xs : XSt) (cfg : OutCfg) (xcfg : XCfg) (cpuset nodeset : Bitmap) :
    Nat × Option Bytes :=
  let cpuset1 := cpusetAfterKind k cpuset
  let nodeset1 := nodesetAfterDefault c.d xs nodeset
  let nl := str "\n"
  if s.largest then output c s cfg cpuset1 nodeset1
  else
    let fc := finalCpuset c s cpuset1
    let cm := maskOf fc (xnw c x)
    let hitKinds := (List.range x.kinds.length).filter (fun i => match x.kinds[i]? with
      | some kd => intersects cm kd.cpuset | none => false)
    if xcfg.numP == some .cpukind then (0, some (decDigits hitKinds.length ++ nl))
    else if xcfg.intP == some .cpukind then (0, some (idxList s (s.sep.getD (str ",")) (str "cpukind:") hitKinds ++ nl))
    else if xcfg.numP == some .memtier then
      match memTierSet c (c.mask nodeset1) with
      | none => (0, none)
      | some m => (0, some (decDigits (weight m) ++ nl))
    else if xcfg.intP == some .memtier then
      match memTierSet c (c.mask nodeset1) with
      | none => (0, none)
      | some m => (0, some (idxList s (s.sep.getD (str ",")) (str "MemoryTier:") (bits m) ++ nl))
    else
      let numOn := match cfg.numberOf with | some l => l.depth != depthUnknown | none => false
      let intOn := match cfg.intersect with | some l => l.depth != depthUnknown | none => false
      if numOn || intOn || !cfg.hier.isEmpty || !xs.localMem then output c s cfg cpuset1 nodeset1
      else
        match localFlagsOf xs with
        | .error _ => (0, none)
        | .ok flags =>
          if xcfg.best.isSome && decide (s.verbose > 0) then (0, none) else
          match localMemNodes c x xcfg flags fc with
          | none => (0, some nl)
          | some nodes =>
            let sep := s.sep.getD (str ",")
            let items := nodes.mapM (fun o =>
              let idx := if s.logicalO then decDigits o.lidx else decDigits o.osidx.toNat
              if s.objectO then (typeName o 0).map (fun ty => ty ++ str ":" ++ idx) else some idx)
            (0, items.map (fun it => joinSep sep it ++ nl))

/-! ### stdin mode and main -/

def lineOutX (c : Ctx) (x : Extra) (k : Option Nat) (s : St) (xs : XSt) (cfg : OutCfg) (xcfg : XCfg) (line : Bytes) : LineRes :=
  match lineFold c s line with
  | .error e => .stop e
  | .ok s1 =>
    if s1.noSmt.isSome && (cpusetAfterKind k s1.cpuset).inf then .stop (.skip "no-smt-infinite") else
    match outputX c x k s1 xs cfg xcfg s1.cpuset s1.nodeset with
    | (rc, none) => .stop (if rc == 2 then .exit 1 none else .exit 0 none)
    | (rc, some o) => if rc != 0 then .stop (.exit rc none) else .out o

def stdinLoopX (c : Ctx) (x : Extra) (k : Option Nat) (s : St) (xs : XSt) (cfg : OutCfg) (xcfg : XCfg) : List Bytes → Bytes → Res
  | [], acc => .exit 0 (some acc)
  | line :: rest, acc =>
    match lineOutX c x k s xs cfg xcfg line with
    | .stop r => r
    | .out o => stdinLoopX c x k s xs cfg xcfg rest (acc ++ o)

/-- the `--best-memattr` argument, parsed after the output levels: `none` = outside the model, `some none` = exit(EXIT_FAILURE) -/
def bestCfg (x : Extra) (xs : XSt) : Option (Option (Option (Nat × Bool × Bool))) :=
  match xs.best with
  | none => some (some none)
  | some v =>
    let (name, d, t) := parseBestFlags v
    match parseMemattrName x name with
    | none => none
    | some none => some none
    | some (some id) => some (some (some (id, d, t)))

/-- "ignoring --nodeset-output when output conversion is enabled" -/
def adjustNodesetO (s : St) (convert : Bool) : St :=
  if convert && s.nodesetO && !s.nodesetI then { s with nodesetO := false } else s

/-- the -N / -I arguments the level parser sees: the pseudo levels are recognised before it -/
def dropPseudo (s : St) : St :=
  { s with numberOf := if (pseudoOf s.numberOf).isSome then none else s.numberOf,
           intersect := if (pseudoOf s.intersect).isSome then none else s.intersect }

/-- main() after the second option loop -/
def calcTailX (c : Ctx) (x : Extra) (k : Option Nat) (s0 : St) (xs : XSt) (stdin : Bytes) : Res :=
  let s := adjustNodesetO s0 (s0.largest || s0.numberOf.isSome || s0.intersect.isSome || s0.hier.isSome || xs.localMem)
  match outCfg c.d (dropPseudo s) with
  | .unmodelled => .skip "output-level"
  | .out => failRes s
  | .ok cfg =>
    match bestCfg x xs with
    | none => .skip "memattr-name"
    | some none => failRes s
    | some (some best) =>
      let xcfg : XCfg := { numP := pseudoOf s.numberOf, intP := pseudoOf s.intersect, best := best }
      let r : Res :=
        if s.nlocs != 0 then
          if s.noSmt.isSome && (cpusetAfterKind k s.cpuset).inf then .skip "no-smt-infinite" else
          let (rc, out) := outputX c x k s xs cfg xcfg s.cpuset s.nodeset
          .exit rc (if rc == 0 then out else none)
        else
          let banner := if s.verbose ≥ 0 then str "Waiting for locations to process on stdin...\n" else []
          stdinLoopX c x k s xs cfg xcfg (linesOf stdin) banner
      if s.outKnown && (s.nlocs != 0 || decide (s.verbose ≤ 0)) then r else match r with
        | .exit rc _ => .exit rc none
        | x => x

/-- hwloc-calc's main() after `-i <input> [--if <fmt>] [--restrict <set>]` -/
def calcMainX (d : Dump) (x : Extra) (argv : List Bytes) (stdin : Bytes) : Res :=
  let c := mkCtx d
  match topoLoop {} argv with
  | .error e => e
  | .ok (ks, argv) =>
    match argLoopX c {} {} argv with
    | .error e => e
    | .ok (s, xs) => calcTailX c x (kindSet x ks) s xs stdin

end Hw.Calc
