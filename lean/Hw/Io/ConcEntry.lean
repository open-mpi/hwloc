import Hw.Io.Conc

/- Hw.Io.ConcEntry — the PUBLIC entry points that reach the process-wide component registry (C17 (b)).

   `Hw.Conc.Reg` models hwloc_components_init / hwloc_components_fini themselves (the two critical sections, any number
   of threads).  This file models who calls them: every public function of topology.c, topology-xml.c and shmem.c that
   contains a call of hwloc_components_init or hwloc_components_fini (directly or through hwloc__topology_init /
   hwloc__topology_dup / hwloc_topology_destroy), WITH the path taken through it, as the sequence of registry calls
   the path performs:

     hwloc_topology_init                     init                       (hwloc__topology_init)
     hwloc_topology_destroy                  fini                       (plain, or hwloc__topology_disadopt)
     hwloc_topology_dup                      init on success; nothing when the source is not loaded (EINVAL first)
     hwloc_topology_diff_load_xml[buffer]    init .. fini               whatever the parser answers
     hwloc_topology_diff_export_xml[buffer]  init .. fini               nothing when the list holds a TOO_COMPLEX entry
                                                                        (rejected with EINVAL before the init)
     hwloc_shmem_topology_get_length         init .. fini               (dup into a counting allocator + destroy); nothing on flags
     hwloc_shmem_topology_write              init .. fini               (dup into the mapping + the explicit fini); nothing when
                                                                        rejected before the dup (flags, fd, mmap)
     hwloc_shmem_topology_adopt              init on success; init .. fini when it fails after the init; nothing when
                                                                        rejected before it (flags, fd, header, mmap, abi)
     hwloc_free_xmlbuffer                    init .. fini in the C (the buffer may outlive every topology); listed under
                                                                        `exportXml` with no call: the count it leaves is the same
     everything else (set_synthetic / set_xml / set_xmlbuffer / set_components / load / export_xml / export_xmlbuffer /
     diff_build / diff_apply / diff_destroy) USES the registry without taking a reference.

   The table is tied to the real code by engine `readonly` (ops `reg ...`): the harness calls the entry point on the path
   named by the op line, reads hwloc_components_users / hwloc_disc_components afterwards, and the driver answers the same
   line by running `calls` through the GENERATED init / fini programs (`runHist`).

   `runProg` is the sequential execution of one critical section by one thread while nobody else is inside one: the
   instruction semantics is `Reg.exec`, the same one the interleaving theorems are about. -/
namespace Hw.Conc.Reg

inductive RCall | init | fini
  deriving DecidableEq, Repr

inductive AdoptPath | early | failedAfterInit | ok
  deriving DecidableEq, Repr

inductive Entry
  | topologyInit
  | topologyDestroy
  | topologyDup (ok : Bool)
  | setSource                       -- set_synthetic / set_xml / set_xmlbuffer / set_components, any outcome
  | load                            -- any outcome
  | exportXml                       -- export_xml / export_xmlbuffer / free_xmlbuffer
  | diffBuild | diffApply | diffDestroy
  | diffLoadXml | diffLoadXmlbuffer -- any outcome (no such file, malformed, not a diff, ok)
  | diffExportXml (tooComplex : Bool)
  | diffExportXmlbuffer (tooComplex : Bool)
  | shmemGetLength (reachedDup : Bool)
  | shmemWrite (reachedDup : Bool)
  | shmemAdopt (p : AdoptPath)
  deriving DecidableEq, Repr

def calls : Entry → List RCall
  | .topologyInit => [.init]
  | .topologyDestroy => [.fini]
  | .topologyDup ok => if ok then [.init] else []
  | .setSource | .load | .exportXml | .diffBuild | .diffApply | .diffDestroy => []
  | .diffLoadXml | .diffLoadXmlbuffer => [.init, .fini]
  | .diffExportXml tc | .diffExportXmlbuffer tc => if tc then [] else [.init, .fini]
  | .shmemGetLength r | .shmemWrite r => if r then [.init, .fini] else []
  | .shmemAdopt .early => []
  | .shmemAdopt .failedAfterInit => [.init, .fini]
  | .shmemAdopt .ok => [.init]

/-- the entry point hands a new topology (one registry reference) to the caller -/
def creates : Entry → Nat
  | .topologyInit | .topologyDup true | .shmemAdopt .ok => 1
  | _ => 0

/-- the entry point consumes a topology of the caller -/
def releases : Entry → Nat
  | .topologyDestroy => 1
  | _ => 0

/-- what is observable of the registry between calls -/
structure RS where
  users : Nat
  reg : Bool
  bad : Bool := false
  deriving DecidableEq, Repr

/-- the registry holds exactly `n` references and is in the state the invariant demands -/
def good (n : Nat) : RS := { users := n, reg := decide (0 < n) }

/-- one instruction of the only running thread (thread 0, phase `.init` = inside the call, `.idle` = returned) -/
def stepProg (p : Prog) (c : Cfg) : Cfg :=
  match c.thr[0]? with
  | some th =>
    if th.phase = .init then
      match p[th.pc]? with
      | some i => exec c 0 th .idle i
      | none => { c with bad := true }
    else c
  | none => c

def iterProg (p : Prog) : Nat → Cfg → Cfg
  | 0, c => c
  | k + 1, c => iterProg p k (stepProg p c)

/-- run one critical-section program from call to return; anything but a clean return (lock released, no failed
    assert, returned within the fuel) is `bad` -/
def runProg (p : Prog) (s : RS) : RS :=
  let c := iterProg p 12 { users := s.users, reg := s.reg, thr := [{ phase := .init }], bad := s.bad }
  { users := c.users, reg := c.reg, bad := c.bad || c.lock.isSome || c.thr != [{ phase := .idle }] }

def runCall (ip fp : Prog) (s : RS) : RCall → RS
  | .init => runProg ip s
  | .fini => runProg fp s

def runEntry (ip fp : Prog) (s : RS) (e : Entry) : RS := (calls e).foldl (runCall ip fp) s

def runHist (ip fp : Prog) (s : RS) (h : List Entry) : RS := h.foldl (runEntry ip fp) s

/-- bookkeeping of the CALLER: the number of topologies it owns after a history, `none` when it destroys a topology it
    does not have -/
def liveAfter : Nat → List Entry → Option Nat
  | k, [] => some k
  | k, e :: es => if releases e ≤ k then liveAfter (k + creates e - releases e) es else none

/-! ### the two critical sections, run sequentially -/

theorem runProg_init (n : Nat) : runProg Model.initProg (good n) = good (n + 1) := by
  cases n with
  | zero => decide +kernel
  | succ m =>
    simp [runProg, iterProg, stepProg, exec, setThr, Model.initProg, good]

theorem runProg_fini (n : Nat) : runProg Model.finiProg (good (n + 1)) = good n := by
  cases n with
  | zero => decide +kernel
  | succ m =>
    simp [runProg, iterProg, stepProg, exec, setThr, Model.finiProg, good]

/-- a fini that nobody's init paid for, on an empty registry: the assert of hwloc_components_fini fails -/
theorem runProg_fini_zero : (runProg Model.finiProg (good 0)).bad = true := by decide +kernel

/-! ### entry points and histories -/

attribute [local simp] runEntry calls runCall runProg_init runProg_fini creates releases in
theorem runEntry_good (e : Entry) (n : Nat) (h : releases e ≤ n) :
    runEntry Model.initProg Model.finiProg (good n) e = good (n + creates e - releases e) := by
  cases e with
  | topologyDestroy =>
    obtain ⟨m, rfl⟩ : ∃ m, n = m + 1 := ⟨n - 1, by simp at h; omega⟩
    simp
  | topologyDup ok => cases ok <;> simp
  | diffExportXml tc => cases tc <;> simp
  | diffExportXmlbuffer tc => cases tc <;> simp
  | shmemGetLength r => cases r <;> simp
  | shmemWrite r => cases r <;> simp
  | shmemAdopt p => cases p <;> simp
  | _ => simp

theorem runHist_good (h : List Entry) (k k' : Nat) (hl : liveAfter k h = some k') :
    runHist Model.initProg Model.finiProg (good k) h = good k' := by
  induction h generalizing k with
  | nil => simp [liveAfter] at hl; simp [runHist, hl]
  | cons e es ih =>
    simp only [liveAfter] at hl
    split at hl
    · rename_i hle
      simp only [runHist, List.foldl_cons]
      rw [runEntry_good e k hle]
      exact ih _ hl
    · cases hl

theorem liveAfter_append (k : Nat) (h₁ h₂ : List Entry) :
    liveAfter k (h₁ ++ h₂) = (liveAfter k h₁).bind fun j => liveAfter j h₂ := by
  induction h₁ generalizing k with
  | nil => rfl
  | cons e es ih =>
    simp only [List.cons_append, liveAfter]
    split
    · exact ih _
    · rfl

theorem liveAfter_take (h : List Entry) (k k' : Nat) (hl : liveAfter k h = some k') (i : Nat) :
    ∃ j, liveAfter k (h.take i) = some j := by
  rw [← List.take_append_drop i h, liveAfter_append] at hl
  obtain ⟨j, hj, _⟩ := Option.bind_eq_some_iff.mp hl
  exact ⟨j, hj⟩

end Hw.Conc.Reg
