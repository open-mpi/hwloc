/-
  Hw.Io.SyntheticWidths — the level array `data->level[0..count-1]` as a list (`updLevel`, `lvAt`), and the invariant of its
  total widths: `WOK L T` says that `totalwidth` of every slot is the product of the arities above it as a natural number,
  positive, with the running total `T` < 2^64 in the last slot.  It is kept by the three ways the parser changes the array:
  a change of the last arity, a level appended (the parser rejects an arity that would make the total wrap), the NUMA level
  inserted below the root.
-/
import Hw.Io.Synthetic
namespace Hw.Syn
open Hw Hw.Topo

/-! ### list view of the slot array -/

theorem updLevel_length (l : List Level) (i : Nat) (f : Level → Level) : (updLevel l i f).length = l.length := by
  unfold updLevel
  split <;> simp

theorem lvAt_updLevel (l : List Level) (i : Nat) (f : Level → Level) (j : Nat) :
    lvAt (updLevel l i f) j = if j = i ∧ i < l.length then f (lvAt l i) else lvAt l j := by
  unfold updLevel lvAt
  by_cases hi : i < l.length
  · have h1 : l[i]? = some l[i] := List.getElem?_eq_getElem hi
    rw [h1]
    simp only [List.getElem?_set]
    by_cases hj : j = i
    · subst hj; simp [hi]
    · have : ¬ (i = j) := fun h => hj h.symm
      simp [hj, this]
  · have h1 : l[i]? = none := List.getElem?_eq_none (by omega)
    rw [h1]
    simp [hi]

def SameShape (l l' : List Level) : Prop :=
  l'.length = l.length ∧ (∀ j, (lvAt l' j).arity = (lvAt l j).arity) ∧ ∀ j, (lvAt l' j).width = (lvAt l j).width

theorem SameShape.refl (l : List Level) : SameShape l l := ⟨rfl, fun _ => rfl, fun _ => rfl⟩
theorem SameShape.trans {a b c : List Level} (h1 : SameShape a b) (h2 : SameShape b c) : SameShape a c :=
  ⟨h2.1.trans h1.1, fun j => (h2.2.1 j).trans (h1.2.1 j), fun j => (h2.2.2 j).trans (h1.2.2 j)⟩

theorem lvAt_updLevel_keeps {β : Type} (g : Level → β) {f : Level → Level} (hf : ∀ x, g (f x) = g x) (l : List Level)
    (i j : Nat) : g (lvAt (updLevel l i f) j) = g (lvAt l j) := by
  rw [lvAt_updLevel]
  split
  · rename_i h; rw [hf, h.1]
  · rfl

theorem SameShape.upd (l : List Level) (i : Nat) (f : Level → Level) (hf : ∀ x, (f x).arity = x.arity)
    (hw : ∀ x, (f x).width = x.width) : SameShape l (updLevel l i f) :=
  ⟨updLevel_length l i f, lvAt_updLevel_keeps (·.arity) hf l i, lvAt_updLevel_keeps (·.width) hw l i⟩
theorem setType_same (l : List Level) (i t depth : Nat) (ctype : Int) (keep : Bool) :
    SameShape l (setType l i t depth ctype keep) := by
  unfold setType
  exact SameShape.upd l i _ (fun x => rfl) (fun x => rfl)

theorem mem_updLevel (L : List Level) (i : Nat) (f : Level → Level) (x : Level) (h : x ∈ updLevel L i f) :
    x ∈ L ∨ ∃ y, L[i]? = some y ∧ x = f y := by
  unfold updLevel at h
  split at h
  · rename_i y hy
    rcases List.mem_or_eq_of_mem_set h with h | h
    · exact Or.inl h
    · exact Or.inr ⟨y, hy, h⟩
  · exact Or.inl h

theorem forall_updLevel {Q : Level → Prop} {L : List Level} (h : ∀ x ∈ L, Q x) (i : Nat) (f : Level → Level)
    (hf : ∀ y, L[i]? = some y → Q (f y)) : ∀ x ∈ updLevel L i f, Q x := by
  intro x hx
  rcases mem_updLevel L i f x hx with hx | ⟨y, hy, rfl⟩
  · exact h x hx
  · exact hf y hy

theorem lvAt_of_getElem? {L : List Level} {i : Nat} {y : Level} (h : L[i]? = some y) : lvAt L i = y := by
  unfold lvAt; rw [h]; rfl

theorem lvAt_append (A : List Level) (x : Level) (j : Nat) :
    lvAt (A ++ [x]) j = if j < A.length then lvAt A j else if j = A.length then x else {} := by
  unfold lvAt
  by_cases h1 : j < A.length
  · simp [h1, List.getElem?_append_left h1]
  · by_cases h2 : j = A.length
    · subst h2; simp
    · have : A.length < j := by omega
      simp only [h1, h2, if_false]
      rw [List.getElem?_eq_none (by simp; omega)]
      rfl

theorem updLevel_last' (init : List Level) (lst : Level) (f : Level → Level) :
    updLevel (init ++ [lst]) init.length f = init ++ [f lst] := by
  unfold updLevel
  rw [show (init ++ [lst])[init.length]? = some lst by simp]
  simp

theorem lvAt_last (init : List Level) (lst : Level) : lvAt (init ++ [lst]) ((init ++ [lst]).length - 1) = lst := by
  rw [lvAt_append, List.length_append, List.length_singleton, Nat.add_sub_cancel, if_neg (Nat.lt_irrefl _), if_pos rfl]

theorem map_updLevel {β : Type} (g : Level → β) (L : List Level) (i : Nat) (f : Level → Level)
    (h : ∀ y, L[i]? = some y → g (f y) = g y) : (updLevel L i f).map g = L.map g := by
  unfold updLevel
  split
  · rename_i y hy
    obtain ⟨hi, rfl⟩ := List.getElem?_eq_some_iff.1 hy
    rw [List.map_set, h _ hy, ← List.getElem_map g (h := by simpa using hi), List.set_getElem_self]
  · rfl

/-! ### exact widths -/

structure WOK (L : List Level) (T : Nat) : Prop where
  tpos : 1 ≤ T
  tlt : T < u64
  pos : ∀ j, j < L.length → 1 ≤ (lvAt L j).width
  le : ∀ j, j < L.length → (lvAt L j).width ≤ T
  mono : ∀ i j, i ≤ j → j < L.length → (lvAt L i).width ≤ (lvAt L j).width
  chain : ∀ j, j + 1 < L.length → (lvAt L (j + 1)).width = (lvAt L j).width * (lvAt L j).arity
  last : 1 ≤ L.length → (lvAt L (L.length - 1)).width = T

theorem WOK.congr {L L' : List Level} {T : Nat} (h : WOK L T) (hl : L'.length = L.length)
    (hw : ∀ j, (lvAt L' j).width = (lvAt L j).width)
    (ha : ∀ j, j + 1 < L.length → (lvAt L' j).arity = (lvAt L j).arity) : WOK L' T := by
  refine ⟨h.tpos, h.tlt, ?_, ?_, ?_, ?_, ?_⟩
  · intro j hj; rw [hw]; exact h.pos j (by omega)
  · intro j hj; rw [hw]; exact h.le j (by omega)
  · intro i j hij hj; rw [hw, hw]; exact h.mono i j hij (by omega)
  · intro j hj; rw [hw, hw, ha j (by omega)]; exact h.chain j (by omega)
  · intro h1; rw [hl, hw]; exact h.last (by omega)

theorem WOK.same {L L' : List Level} {T : Nat} (h : WOK L T) (hs : SameShape L L') : WOK L' T :=
  h.congr hs.1 hs.2.2 (fun j _ => hs.2.1 j)

theorem WOK.setLastArity {L : List Level} {T : Nat} (h : WOK L T) (a : Nat) :
    WOK (updLevel L (L.length - 1) (fun l => { l with arity := a })) T := by
  refine h.congr (updLevel_length _ _ _) (lvAt_updLevel_keeps (·.width) (f := fun l => { l with arity := a }) (fun _ => rfl) L _) (fun j hj => ?_)
  · rw [lvAt_updLevel]
    split
    · rename_i hj'; omega
    · rfl

/-- `pos`, `chain` and `last` are the independent fields: a positive product has positive factors, so the widths do not decrease -/
theorem WOK.of_chain {L : List Level} {T : Nat} (hne : 1 ≤ L.length) (tlt : T < u64)
    (pos : ∀ j, j < L.length → 1 ≤ (lvAt L j).width)
    (chain : ∀ j, j + 1 < L.length → (lvAt L (j + 1)).width = (lvAt L j).width * (lvAt L j).arity)
    (last : (lvAt L (L.length - 1)).width = T) : WOK L T := by
  have mono : ∀ i j, i ≤ j → j < L.length → (lvAt L i).width ≤ (lvAt L j).width := by
    intro i j hij
    induction j with
    | zero => intro _; rw [Nat.le_zero.1 hij]; exact Nat.le_refl _
    | succ j ih =>
      intro hj
      rcases Nat.lt_or_ge i (j + 1) with h | h
      · -- w(j+1) = w(j) * a(j) is positive, so a(j) is
        have h1 := pos (j + 1) hj
        rw [chain j hj] at h1 ⊢
        exact Nat.le_trans (ih (by omega) (by omega)) (Nat.le_mul_of_pos_right _ (Nat.pos_of_mul_pos_left h1))
      · rw [Nat.le_antisymm hij h]; exact Nat.le_refl _
  exact ⟨last ▸ pos _ (by omega), tlt, pos, fun j hj => last ▸ mono j _ (by omega) (by omega), mono, chain, fun _ => last⟩

theorem WOK.append {L : List Level} {T : Nat} (h : WOK L T) (hne : 1 ≤ L.length) (item : Nat) (hi : 1 ≤ item)
    (hfit : T * item < u64) (nl : Level) (hnl : nl.width = T * item) :
    WOK (updLevel L (L.length - 1) (fun l => { l with arity := item }) ++ [nl]) (T * item) := by
  have h0 := h.setLastArity item
  generalize hM : updLevel L (L.length - 1) (fun l => { l with arity := item }) = M at h0
  have hlen : M.length = L.length := by rw [← hM, updLevel_length]
  have hlastA : (lvAt M (M.length - 1)).arity = item := by
    rw [← hM, updLevel_length, lvAt_updLevel, if_pos ⟨rfl, by omega⟩]
  have hl : (M ++ [nl]).length = M.length + 1 := by simp
  refine WOK.of_chain (by omega) hfit (fun j hj => ?_) (fun j hj => ?_) ?_
  · rw [lvAt_append]
    split
    · rename_i hj'; exact h0.pos j hj'
    · rw [if_pos (by omega), hnl]; exact Nat.mul_pos h.tpos hi
  · rw [lvAt_append, lvAt_append, if_pos (show j < M.length by omega)]
    split
    · rename_i hj'; exact h0.chain j hj'
    · rw [if_pos (by omega), hnl, show j = M.length - 1 by omega, hlastA, h0.last (by omega)]
  · rw [hl, Nat.add_sub_cancel, lvAt_append, if_neg (Nat.lt_irrefl _), if_pos rfl, hnl]

theorem WOK.singleton (l0 : Level) (h : l0.width = 1) : WOK [l0] 1 :=
  WOK.of_chain (by simp) (by unfold u64; omega)
    (fun j hj => by rw [show j = 0 by simpa using hj]; exact Nat.le_of_eq h.symm) (fun j hj => by simp at hj) h

theorem WOK.cons {M : List Level} {T : Nat} (h : WOK M T) (hne : 1 ≤ M.length) (x : Level) (hx : 1 ≤ x.width)
    (hxa : (lvAt M 0).width = x.width * x.arity) : WOK (x :: M) T := by
  refine WOK.of_chain (by simp) h.tlt (fun j hj => ?_) (fun j hj => ?_) ?_
  · cases j with
    | zero => exact hx
    | succ j => exact h.pos j (by simpa using hj)
  · cases j with
    | zero => exact hxa
    | succ j => exact h.chain j (by simpa using hj)
  · obtain ⟨k, hk⟩ : ∃ k, M.length = k + 1 := ⟨M.length - 1, by omega⟩
    have := h.last hne
    rw [hk] at this
    simpa [hk, lvAt] using this

/-- the NUMA level takes the place of the root, with its arity and width, below a root of arity 1 -/
theorem insertNuma_wok (levels : List Level) (count T : Nat) (h : WOK levels T) (hne : 1 ≤ levels.length)
    (h0 : (lvAt levels 0).width = 1) : WOK (insertNuma levels count).1 T ∧ (lvAt (insertNuma levels count).1 0).width = 1 := by
  unfold insertNuma
  cases levels with
  | nil => simp at hne
  | cons l0 rest =>
    have hw0 : l0.width = 1 := by simpa [lvAt] using h0
    simp only
    refine ⟨WOK.cons ?_ (by simp) _ (Nat.le_of_eq hw0.symm) (Nat.mul_one _).symm, hw0⟩
    exact h.same ⟨rfl, fun j => by cases j <;> rfl, fun j => by cases j <;> rfl⟩

end Hw.Syn
