/- Hw.Io.TypeStrPrefix — hwloc_type_sscanf on a text of which only the beginning is known.

   The printer's texts for Groups and OS devices have a fixed head and a tail that ranges over all depths / all type
   words.  Each matcher of the model gets a twin that runs on the known head alone and says either what the outcome is
   (whatever follows) or where the matcher stands when the head is used up; one equation per twin ties it to the
   matcher.  The generated chain is then evaluated on the heads only (`groupReady`, `bracketReady`, `osdevNames_ok`:
   re-decided on every run), and the tails are handled by induction: `typeSscanf_group` for every depth,
   `typeSscanf_osdev` for every OS-device type word. -/
import Hw.Io.TypeStrLemmas
import Hw.Base.Bits
namespace Hw.TypeStr
open Hw.Gen.TypeTables

/-- where `typeMatchGo` stands after the known prefix -/
inductive Pre where
  | done (r : MRes)            -- the outcome, reached inside the prefix; a `stop` pointer is relative to the prefix
  | more (t : TPos) (i : Nat)  -- prefix used up: pattern pointer and count to go on with
  deriving DecidableEq

def MRes.app : MRes → Bytes → MRes
  | .stop e, rest => .stop (e ++ rest)
  | .fail, _ => .fail
  | .oobT, _ => .oobT

def matchPre : Bytes → TPos → Nat → Nat → Pre
  | [], t, i, _ => .more t i
  | c :: s', t, i, min =>
    match t.read with
    | none => .done .oobT
    | some tc =>
      if tc = 0 ∨ (c ≠ tc ∧ sval c ≠ sval tc + 65 - 97) then
        .done (if isAlphaDash c then .fail else if i < min then .fail else .stop (c :: s'))
      else matchPre s' t.next (i + 1) min

theorem matchPre_sound : ∀ (p : Bytes) (t : TPos) (i min : Nat) (rest : Bytes),
    typeMatchGo (p ++ rest) t i min =
      match matchPre p t i min with
      | .done r => r.app rest
      | .more t' i' => typeMatchGo rest t' i' min
  | [], _, _, _, _ => rfl
  | c :: s', t, i, min, rest => by
    rw [List.cons_append, typeMatchGo, matchPre]
    cases t.read with
    | none => rfl
    | some tc =>
      simp only []
      split
      · split
        · rfl
        · split <;> rfl
      · exact matchPre_sound s' t.next (i + 1) min rest

def anyMatchPre : List (Bytes × Nat) → Bytes → Option Bool
  | [], _ => some false
  | (pat, m) :: r, p =>
    match matchPre p (.at pat) 0 m with
    | .done (.stop _) => some true
    | .done .fail => anyMatchPre r p
    | _ => none

theorem anyMatchPre_sound (p : Bytes) : ∀ (alts : List (Bytes × Nat)) (b : Bool), anyMatchPre alts p = some b →
    ∀ rest, anyMatch alts (p ++ rest) = .ok b
  | [], b, h, rest => by cases h; rfl
  | (pat, m) :: r, b, h, rest => by
    rw [anyMatch, typeMatch, matchPre_sound]
    rw [anyMatchPre] at h
    split at h
    · cases h; rename_i he; rw [he]; rfl
    · rename_i he; rw [he]; exact anyMatchPre_sound p r b h rest
    · cases h

def osdevInPre : List (List (Bytes × Nat) × Nat) → Bytes → Option (Option Nat)
  | [], _ => some none
  | (alts, bit) :: r, p =>
    match anyMatchPre alts p with
    | some true => some (some bit)
    | some false => osdevInPre r p
    | none => none

theorem osdevInPre_sound (p : Bytes) : ∀ (ch : List (List (Bytes × Nat) × Nat)) (o : Option Nat), osdevInPre ch p = some o →
    ∀ rest, osdevTypeSscanfIn ch (p ++ rest) = .ok o
  | [], o, h, rest => by cases h; rfl
  | (alts, bit) :: r, o, h, rest => by
    rw [osdevInPre] at h
    rw [osdevTypeSscanfIn]
    split at h
    · rename_i he; cases h; rw [anyMatchPre_sound p alts true he rest]
    · rename_i he; rw [anyMatchPre_sound p alts false he rest]; exact osdevInPre_sound p r o h rest
    · cases h

def ciPre : Bytes → Bytes → Nat → Option Bool
  | _, _, 0 => some true
  | [], _, _ + 1 => none
  | c :: r, pat, n + 1 => if lower c ≠ lower (hd pat) then some false else if c = 0 then some true else ciPre r pat.tail n

theorem ciPre_sound : ∀ (p pat : Bytes) (n : Nat) (b : Bool), ciPre p pat n = some b → ∀ rest, ciPrefix (p ++ rest) pat n = b
  | p, _, 0, b, h, rest => by
    have : b = true := by cases p <;> (rw [ciPre] at h; cases h; rfl)
    rw [this, ciPrefix]
  | [], _, _ + 1, b, h, _ => by cases h
  | c :: r, pat, n + 1, b, h, rest => by
    have hhd : hd (c :: (r ++ rest)) = c := rfl
    rw [ciPre] at h
    rw [List.cons_append, ciPrefix, hhd, List.tail_cons]
    split at h
    · cases h; rename_i hl; rw [if_pos hl]
    · rename_i hl; rw [if_neg hl]
      split at h
      · cases h; rename_i h0; rw [if_pos h0]
      · rename_i h0; rw [if_neg h0]; exact ciPre_sound r pat.tail n b h rest

def stepSkipsPre (p : Bytes) : Step → Bool
  | .bracket pat n _ _ => ciPre p pat n == some false
  | .osdevBare _ => osdevInPre osdevSscanfChain p == some none
  | .plain alts _ _ => anyMatchPre alts p == some false
  | .cache .. => match p with
    | c0 :: _ :: _ => !(c0 == 108 || c0 == 76)
    | _ => false
  | .group pat min _ => matchPre p (.at pat) 0 min == .done .fail

theorem stepSkipsPre_sound (p : Bytes) (st : Step) (h : stepSkipsPre p st = true) (rest : Bytes) :
    evalStep (p ++ rest) st = .ok .next := by
  cases st with
  | bracket pat n skip ty =>
    simp [evalStep, ciPre_sound p pat n false (beq_iff_eq.mp h) rest, pure]
  | osdevBare ty =>
    simp [evalStep, osdevTypeSscanf, osdevInPre_sound p _ none (beq_iff_eq.mp h) rest, bind, R.bind, pure]
  | plain alts ty ub =>
    simp [evalStep, anyMatchPre_sound p alts false (beq_iff_eq.mp h) rest, bind, R.bind, pure]
  | cache iLo iHi iBase iType dLo dHi dBase dType uType nType sufPat sufMin =>
    simp only [stepSkipsPre] at h
    split at h
    · rename_i c0 c1 r
      simp only [Bool.not_eq_true', Bool.or_eq_false_iff, beq_eq_false_iff_ne] at h
      simp [evalStep, h.1, h.2, pure]
    · cases h
  | group pat min ty =>
    simp [evalStep, typeMatch, matchPre_sound, beq_iff_eq.mp h, MRes.app, pure]

theorem runChain_skip (p rest : Bytes) : ∀ (ch : List Step),
    runChain (p ++ rest) ch = runChain (p ++ rest) (ch.dropWhile (stepSkipsPre p))
  | [] => rfl
  | st :: r => by
    rw [List.dropWhile_cons]
    split
    · rename_i h
      rw [runChain, stepSkipsPre_sound p st h rest]
      exact runChain_skip p rest r
    · rfl

/-! ## Group<d> for every depth -/

def sGroup : Bytes := typeString T_GROUP

/-- on "Group..." every branch of the generated chain before `group<d>` is skipped, and "Group" uses up the group
    pattern (re-decided against the generated chain on every run) -/
def groupReady : Bool :=
  match sscanfChain.dropWhile (stepSkipsPre sGroup) with
  | .group pat min ty :: _ =>
    matchPre sGroup (.at pat) 0 min == .more (.at []) sGroup.length && decide (min ≤ sGroup.length) && ty == T_GROUP
  | _ => false

theorem groupReady_holds : groupReady = true := by decide +kernel

theorem typeChunksK_group (d ct up w : Nat) (long short : Bool) :
    typeChunksK T_GROUP d ct up w long short = if d ≠ u32m1 then some [sGroup ++ dec d] else some [sGroup] := by
  unfold typeChunksK
  rw [if_neg (by decide), if_neg (by decide), if_pos rfl]; rfl

theorem writeBack_group (d : Nat) : writeBack { type := T_GROUP, depth := d } (some sizeofAttr) = .group d := by
  simp only [writeBack]
  rw [if_neg (by decide), if_pos (by decide)]

theorem expectedWritten_group (d ct up w : Nat) : expectedWritten T_GROUP d ct up w = .group d := by
  unfold expectedWritten
  rw [if_neg (by decide), if_pos rfl]

theorem dec_cons (d : Nat) : ∃ c r, dec d = c :: r ∧ isDigit c = true := decF_cons d d

theorem strtolU32_small (d : Nat) (h : d < U32) : strtolU32 d = d := by
  unfold strtolU32
  have : d ≤ longMax := by unfold longMax; unfold U32 at h; omega
  rw [Nat.min_eq_left this, Nat.mod_eq_of_lt h]

theorem typeSscanf_group (d : Nat) (h : d < U32) :
    typeSscanf (sGroup ++ dec d) = .ok (some { type := T_GROUP, depth := d }) := by
  have hg := groupReady_holds
  unfold groupReady at hg
  unfold typeSscanf
  rw [runChain_skip]
  split at hg
  · rename_i pat min ty rest hch
    simp only [Bool.and_eq_true, decide_eq_true_eq, beq_iff_eq] at hg
    obtain ⟨⟨hm, hmin⟩, hty⟩ := hg
    obtain ⟨c, r, hdec, hc⟩ := dec_cons d
    -- the pattern is used up and a digit follows: the match stops there
    have hstop : typeMatchGo (sGroup ++ c :: r) (.at pat) 0 min = .stop (c :: r) := by
      have hc' : 48 ≤ c ∧ c ≤ 57 := by simpa [isDigit] using hc
      have hna : isAlphaDash c = false := by simp [isAlphaDash]; omega
      rw [matchPre_sound, hm]
      simp only [typeMatchGo, TPos.read, true_or, if_true, hna, Bool.false_eq_true, if_false, if_neg (Nat.not_lt.mpr hmin)]
    have hsd : (scanDigits (c :: r) 0).1 = d := by
      have := scanDigits_dec d []
      rw [List.append_nil, hdec] at this
      rw [this]; simp [scanDigits]
    simp only [hch, runChain, evalStep, typeMatch, hdec, hstop, hd, List.headD_cons, hc, if_true, pure, hsd,
      strtolU32_small d h, hty]
  · cases hg

theorem typeSscanf_group_nodepth : typeSscanf sGroup = .ok (some { type := T_GROUP }) := by decide +kernel

/-! ## OS devices for every type word -/

/-- the names[] entries one pass of the printer prints for the word `w` -/
def sel : List (Nat × Bytes × Bytes) → Nat → List (Nat × Bytes × Bytes)
  | [], _ => []
  | e :: r, w => if w &&& e.1 ≠ 0 then e :: sel r (w ^^^ (w &&& e.1)) else sel r w

def osName (long : Bool) (e : Nat × Bytes × Bytes) : Bytes := if long then e.2.2 else e.2.1

/-- the chunks handed to snprintf for these entries: `[` before the first one printed, `,` before the others -/
def chunksOf (long : Bool) : Bool → List (Nat × Bytes × Bytes) → List Bytes
  | _, [] => []
  | comma, e :: r => ((if comma then 44 else 91) :: osName long e) :: chunksOf long true r

theorem osdevPass_sel (long : Bool) : ∀ (names : List (Nat × Bytes × Bytes)) (w : Nat) (comma : Bool) (acc : List Bytes),
    (osdevPass names long (w, comma, acc)).2 = (comma || !(sel names w).isEmpty, acc ++ chunksOf long comma (sel names w))
  | [], w, comma, acc => by simp [osdevPass, sel, chunksOf]
  | (bit, sn, ln) :: r, w, comma, acc => by
    rw [osdevPass, sel]
    split
    · rw [osdevPass_sel long r]; simp [chunksOf, osName]
    · exact osdevPass_sel long r w comma acc

theorem osdevNames_mask : ∀ e ∈ osdevNames, e.1 &&& 127 = e.1 := by decide

theorem sel_mask : ∀ (names : List (Nat × Bytes × Bytes)), (∀ e ∈ names, e.1 &&& 127 = e.1) → ∀ w,
    sel names (w &&& 127) = sel names w
  | [], _, _ => rfl
  | e :: r, hall, w => by
    have hb : e.1 &&& 127 = e.1 := hall e List.mem_cons_self
    have h1 : (w &&& 127) &&& e.1 = w &&& e.1 := by rw [Nat.and_assoc, Nat.and_comm 127, hb]
    have h2 : (w &&& 127) ^^^ (w &&& e.1) = (w ^^^ (w &&& e.1)) &&& 127 := by
      rw [Nat.and_xor_distrib_right, Nat.and_assoc, hb]
    have ih := sel_mask r (fun x hx => hall x (List.mem_cons_of_mem _ hx))
    rw [sel, sel, h1, h2, ih, ih w]

/-- unknown bits are simply not printed -/
theorem osdevNormal_mask (w : Nat) (long : Bool) : osdevNormal w long = osdevNormal (w &&& 127) long := by
  simp only [osdevNormal, osdevPass_sel, sel_mask osdevNames osdevNames_mask w]

theorem sel_sub : ∀ (names : List (Nat × Bytes × Bytes)) (w : Nat), ∀ e ∈ sel names w, e ∈ names
  | [], _, _, h => h
  | x :: r, w, e, h => by
    rw [sel] at h
    split at h
    · rcases List.mem_cons.mp h with rfl | h
      · exact List.mem_cons_self
      · exact List.mem_cons_of_mem _ (sel_sub r _ e h)
    · exact List.mem_cons_of_mem _ (sel_sub r _ e h)

theorem any_sel (i : Nat) : ∀ (names : List (Nat × Bytes × Bytes)), (∀ e ∈ names, ∃ k, e.1 = 2 ^ k) → ∀ w,
    (sel names w).any (fun e => e.1.testBit i) = (w.testBit i && names.any fun e => e.1.testBit i)
  | [], _, _ => by simp [sel]
  | e :: r, h1, w => by
    have ih := any_sel i r (fun x hx => h1 x (List.mem_cons_of_mem _ hx))
    obtain ⟨k, hk⟩ := h1 e List.mem_cons_self
    rw [sel, List.any_cons]
    split
    · rename_i hne
      rw [List.any_cons, ih, Bits.testBit_andnot]
      cases hb : e.1.testBit i
      · simp
      · rw [hk] at hne hb; simp [Bits.meets_two_pow hne hb]
    · rename_i h0
      rw [ih]
      cases hw : w.testBit i
      · simp
      · rw [Bits.and_eq_zero_iff.mp (Decidable.not_not.mp h0) i hw]; simp

theorem osdevNames_bits : (∀ e ∈ osdevNames, ∃ k, k < 7 ∧ e.1 = 2 ^ k) ∧ osdevNames.foldr (fun e a => e.1 ||| a) 0 = 127 := by
  decide

theorem sel_bits (w : Nat) : (sel osdevNames w).foldl (fun a e => a ||| e.1) 0 = w &&& 127 :=
  Nat.eq_of_testBit_eq fun i => by
    rw [Bits.testBit_foldl_or, any_sel i osdevNames (fun e he => (osdevNames_bits.1 e he).imp fun _ h => h.2),
      Nat.testBit_and, ← osdevNames_bits.2, Bits.testBit_foldr_or]
    simp

/-- what the round trip needs of one names[] spelling: no comma inside, and in front of ',' or ']' it is recognised as
    its bit before the parser looks any further -/
def nameOK (bit : Nat) (nm : Bytes) : Bool :=
  nm.all (· != 44) && osdevInPre osdevSscanfChain (nm ++ [44]) == some (some bit) &&
    osdevInPre osdevSscanfChain (nm ++ [93]) == some (some bit)

theorem osdevNames_ok : ∀ long, ∀ e ∈ osdevNames, nameOK e.1 (osName long e) = true := by decide +kernel

theorem commaSuffixes_name : ∀ (n t : Bytes), n.all (· != 44) = true → commaSuffixes (n ++ t) = commaSuffixes t
  | [], _, _ => rfl
  | c :: n, t, h => by
    simp only [List.all_cons, Bool.and_eq_true, bne_iff_ne] at h
    rw [List.cons_append, commaSuffixes, if_neg h.1, commaSuffixes_name n t h.2]

/-- what follows a printed name: `]`, or `,name…]` -/
def closeList (long : Bool) (r : List (Nat × Bytes × Bytes)) : Bytes := (chunksOf long true r).flatten ++ [93]

theorem closeList_cons (long : Bool) (x : Nat × Bytes × Bytes) (r : List (Nat × Bytes × Bytes)) :
    closeList long (x :: r) = 44 :: (osName long x ++ closeList long r) := by
  simp [closeList, chunksOf]

/-- hwloc__osdev_types_sscanf on printed names: every name adds its bit -/
theorem fold_names (long : Bool) : ∀ (e : Nat × Bytes × Bytes) (r : List (Nat × Bytes × Bytes)),
    (∀ x ∈ e :: r, nameOK x.1 (osName long x) = true) → ∀ acc,
    osdevTypesFold ((osName long e ++ closeList long r) :: commaSuffixes (osName long e ++ closeList long r)) acc =
      .ok ((e :: r).foldl (fun a x => a ||| x.1) acc)
  | e, [], h, acc => by
    have he := h e List.mem_cons_self
    simp only [nameOK, Bool.and_eq_true, beq_iff_eq] at he
    have hnm := osdevInPre_sound _ _ _ he.2 []
    rw [List.append_nil] at hnm
    rw [commaSuffixes_name _ _ he.1.1, osdevTypesFold, osdevTypeSscanf, show closeList long [] = [93] from rfl, hnm]
    rfl
  | e, x :: r, h, acc => by
    have he := h e List.mem_cons_self
    simp only [nameOK, Bool.and_eq_true, beq_iff_eq] at he
    have hnm := osdevInPre_sound _ _ _ he.1.2 (osName long x ++ closeList long r)
    rw [List.append_assoc, List.singleton_append] at hnm
    rw [closeList_cons, commaSuffixes_name _ _ he.1.1, commaSuffixes, if_pos rfl, osdevTypesFold, osdevTypeSscanf, hnm]
    exact fold_names long x r (fun y hy => h y (List.mem_cons_of_mem _ hy)) _

/-- on `p…` every branch of the generated chain in front of a bracket branch is skipped, that branch accepts `p`
    and hands the text behind it to hwloc__osdev_types_sscanf (re-decided against the generated chain on every run) -/
def bracketReady (p : Bytes) : Bool :=
  match sscanfChain.dropWhile (stepSkipsPre p) with
  | .bracket pat n skip ty :: _ => ciPre p pat n == some true && skip == p.length && ty == T_OS_DEVICE
  | _ => false

theorem typeSscanf_bracket (p body : Bytes) (b : Nat) (h : bracketReady p = true) (hb : osdevTypesSscanf body = .ok b) :
    typeSscanf (p ++ body) = .ok (some { type := T_OS_DEVICE, ostype := b }) := by
  unfold bracketReady at h
  unfold typeSscanf
  rw [runChain_skip]
  split at h
  · rename_i pat n skip ty rest hch
    simp only [Bool.and_eq_true, beq_iff_eq] at h
    obtain ⟨⟨hci, hskip⟩, hty⟩ := h
    have hp : ptrAdd (p ++ body) skip = .ok body := by simp [ptrAdd, hskip]
    simp only [hch, runChain, evalStep, ciPre_sound p pat n true hci body, if_true, hp, hb, bind, R.bind, pure, hty]
  · cases h

theorem osdev_heads : ∀ long : Bool, bracketReady ((if long then sOSDev else sOS) ++ [91]) = true ∧
    typeSscanf (if long then sOSDev else sOS) = .ok (some { type := T_OS_DEVICE }) := by
  decide +kernel

theorem writeBack_osdev (b : Nat) : writeBack { type := T_OS_DEVICE, ostype := b } (some sizeofAttr) = .osdev b := by
  simp only [writeBack]
  rw [if_neg (by decide), if_neg (by decide), if_neg (by decide), if_pos (by decide)]

theorem typeSscanf_osdev (w : Nat) (long : Bool) : ∃ cs, osdevNormal w long = some cs ∧
    typeSscanf cs.flatten = .ok (some { type := T_OS_DEVICE, ostype := w &&& 127 }) := by
  refine ⟨_, rfl, ?_⟩
  have hbits := sel_bits w
  rw [osdevPass_sel]
  cases hl : sel osdevNames w with
  | nil =>
    rw [hl] at hbits
    rw [← hbits]
    simpa [chunksOf] using (osdev_heads long).2
  | cons e r =>
    have hok : ∀ x ∈ e :: r, nameOK x.1 (osName long x) = true := fun x hx =>
      osdevNames_ok long x (sel_sub _ w x (hl ▸ hx))
    have hb : osdevTypesSscanf (osName long e ++ closeList long r) = .ok (w &&& 127) := by
      rw [← hbits, hl]; exact fold_names long e r hok 0
    have htxt : ∀ pre : Bytes, ([pre] ++ ([] ++ chunksOf long false (e :: r)) ++
        (if (false || !(e :: r).isEmpty) = true then [[93]] else [])).flatten =
          (pre ++ [91]) ++ (osName long e ++ closeList long r) := by
      intro pre; simp [chunksOf, closeList]
    rw [htxt]
    exact typeSscanf_bracket _ _ _ (osdev_heads long).1 hb

end Hw.TypeStr
