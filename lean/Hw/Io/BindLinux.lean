/-
  Hw.Io.BindLinux — the Linux binding hooks of hwloc/topology-linux.c as far as the C10 harness observes
  them: which libc / syscall entry points a hook ends in, with which masks, and how the kernel's answers
  are turned into the hook's result.  The kernel is an INPUT: a script of answers (`ok` or an errno, the last
  entry repeats) plus the data a successful get-call returns (`km` mask, `kp` policy, `ks` page status).

  Scope (stated as assumptions of the correspondence): a single-threaded process (so /proc/<pid>/task holds
  exactly the main thread), thread arguments equal to pthread_self(), page-aligned area addresses, the
  process-wide caches of hwloc_linux_find_kernel_nr_cpus / _max_numnodes already filled (`nrcpus`,
  `maxnodes`).  The two `preferred_many_notsupported` statics are modelled (`pmThread`, `pmArea`).
-/
import Hw.Io.Bind
namespace Hw.Bind.Linux
open Hw.Bind Hw.Gen.BindConsts

/-- a kernel answer -/
inductive K
  | ok | err (e : Errno)
  deriving DecidableEq, Repr, Inhabited

/-- an observed libc / syscall entry (printed by the driver exactly as the harness prints it) -/
inductive Sys
  | sa (tid : Nat) (mask : Nat)                       -- sched_setaffinity
  | ga (tid : Nat) (size : Nat)                       -- sched_getaffinity
  | sm (mode : Int) (mask : Option Nat) (maxnode : Nat)   -- set_mempolicy
  | gm (maxnode : Nat) (addr : Bool) (flags : Nat)    -- get_mempolicy
  | mb (len : Nat) (mode : Int) (mask : Option Nat) (maxnode : Nat) (flags : Nat)   -- mbind
  | mg (maxnode : Nat) (old new : Nat)                -- migrate_pages
  | mp (count : Nat)                                  -- move_pages
  deriving DecidableEq, Repr

/-- thread ids as the harness names them: 0 = "0" (calling thread), 1 = "self" (getpid()), 2 = "bad" -/
abbrev tidZero : Nat := 0
abbrev tidSelf : Nat := 1
abbrev tidBad : Nat := 2

structure World where
  script : List K := [.ok]
  km : Nat := 0
  kp : Int := 0
  ks : Int := 0
  slog : List Sys := []
  pmThread : Int := -1
  pmArea : Int := -1
  nrcpus : Nat := 64
  maxnodes : Nat := 64
  tpid : Bool := false
  deriving Repr

/-- kernel constants (Linux ABI, also #defined in topology-linux.c) -/
def MPOL_DEFAULT : Int := 0
def MPOL_PREFERRED : Int := 1
def MPOL_BIND : Int := 2
def MPOL_INTERLEAVE : Int := 3
def MPOL_LOCAL : Int := 4
def MPOL_PREFERRED_MANY : Int := 5
def MPOL_WEIGHTED_INTERLEAVE : Int := 6
def MPOL_MF_STRICT : Nat := 1
def MPOL_MF_MOVE : Nat := 2
def MPOL_F_ADDR : Nat := 2
def pageSize : Nat := 4096

/-- one interposed call: log it, consume one kernel answer (the last one repeats) -/
def sys (c : Sys) (w : World) : K × World :=
  match w.script with
  | [] => (.ok, { w with slog := w.slog ++ [c] })
  | [k] => (k, { w with slog := w.slog ++ [c] })
  | k :: rest => (k, { w with slog := w.slog ++ [c], script := rest })

def kret (k : K) : Ret :=
  match k with
  | .ok => okRet
  | .err e => failRet e

def bitLen (n : Nat) : Nat := if n = 0 then 0 else Nat.log2 n + 1

def lowMask (n : Nat) : Nat := 2 ^ n - 1

/-- hwloc_linux_set_tid_cpubind -/
def setTid (tid : Nat) (set : Nat) (w : World) : Ret × World :=
  if set = 0 then (failRet .einval, w)
  else let r := sys (.sa tid set) w; (kret r.1, r.2)

/-- hwloc_linux_get_tid_cpubind: the kernel mask cut at the last CPU of the complete cpuset -/
def getTid (t : Topo) (tid : Nat) (w : World) : Ret × World :=
  let r := sys (.ga tid (w.nrcpus / 8)) w
  match r.1 with
  | .err e => (failRet e, r.2)
  | .ok =>
    let n := if t.completeCpuset = 0 then w.nrcpus else bitLen t.completeCpuset
    ({ rc := 0, set := (w.km % 2 ^ w.nrcpus) &&& lowMask n }, r.2)

/-- the pid a *_proc_* hook works on: 0 is replaced by topology->pid -/
def procPid (w : World) (pid : Nat) : Nat := if pid = 0 then (if w.tpid then tidSelf else tidZero) else pid

/-- hwloc_linux_foreach_proc_tid over a single-threaded process: `none` = the task directory does not exist -/
def procTid (pid : Nat) : Option Nat := if pid = tidBad then none else some tidSelf

/-- hwloc_linux_membind_policy_from_hwloc -/
def policyFromHwloc (policy : Int) (flags : Nat) : Option Int :=
  if policy = membindDefault then some MPOL_DEFAULT
  else if policy = membindFirsttouch then some MPOL_LOCAL
  else if policy = membindBind then
    (if flags &&& membindStrict ≠ 0 then some MPOL_BIND else some MPOL_PREFERRED_MANY)
  else if policy = membindInterleave then some MPOL_INTERLEAVE
  else if policy = membindWeightedInterleave then some MPOL_WEIGHTED_INTERLEAVE
  else none

/-- hwloc_linux_membind_policy_to_hwloc -/
def policyToHwloc (lp : Int) : Option Int :=
  if lp = MPOL_DEFAULT ∨ lp = MPOL_LOCAL then some membindFirsttouch
  else if lp = MPOL_PREFERRED ∨ lp = MPOL_PREFERRED_MANY ∨ lp = MPOL_BIND then some membindBind
  else if lp = MPOL_INTERLEAVE then some membindInterleave
  else if lp = MPOL_WEIGHTED_INTERLEAVE then some membindWeightedInterleave
  else none

/-- hwloc_linux_membind_mask_from_nodeset: max_os_index (a multiple of 64) for a finite nodeset -/
def maxOsIndex (nodeset : Nat) : Nat :=
  let last := if nodeset = 0 then 0 else Nat.log2 nodeset
  (last + 1 + 63) / 64 * 64

/-- `memset(fullmask, 0xf, n)`: n bytes 0x0f -/
def fullMask (bytes : Nat) : Nat := (List.range bytes).foldl (fun acc i => acc + 0x0f * 256 ^ i) 0

/-- the common tail of set_thisthread_membind / set_area_membind once the policy needs a mask.
`call mode` issues the policy-setting syscall; `pm` is the preferred_many_notsupported static. -/
def setWithMask (call : Int → World → K × World) (lp : Int) (pm : Int) (w : World) : Ret × Int × World :=
  let r := call lp w
  if lp = MPOL_PREFERRED_MANY ∧ pm = -1 then
    match r.1 with
    | .ok => (okRet, 0, r.2)
    | .err e =>
      if e = .einval then
        let r2 := call MPOL_PREFERRED r.2
        match r2.1 with
        | .ok => (okRet, 1, r2.2)
        | .err e2 => (failRet e2, pm, r2.2)
      else (failRet e, pm, r.2)
  else (kret r.1, pm, r.2)

/-- hwloc_linux_set_thisthread_membind -/
def setThisthreadMembind (t : Topo) (a : Args) (w : World) : Ret × World :=
  match policyFromHwloc a.policy a.flags with
  | none => (failRet .enosys, w)
  | some lp0 =>
    let lp := if w.pmThread = 1 ∧ lp0 = MPOL_PREFERRED_MANY then MPOL_PREFERRED else lp0
    if lp = MPOL_DEFAULT then
      let r := sys (.sm lp none 0) w; (kret r.1, r.2)
    else if lp = MPOL_LOCAL then
      if a.set ≠ t.completeNodeset then (failRet .exdev, w)
      else let r := sys (.sm MPOL_PREFERRED none 0) w; (kret r.1, r.2)
    else
      let mx := maxOsIndex a.set
      let go := fun (w : World) =>
        let r := setWithMask (fun m w => sys (.sm m (some a.set) (mx + 1)) w) lp w.pmThread w
        (r.1, { r.2.2 with pmThread := r.2.1 })
      if a.flags &&& membindMigrate ≠ 0 then
        let r := sys (.mg (mx + 1) (fullMask (mx / 8)) a.set) w
        match r.1 with
        | .err e => if a.flags &&& membindStrict ≠ 0 then (failRet e, r.2) else go r.2
        | .ok => go r.2
      else go w

/-- hwloc_linux_set_area_membind (page-aligned address) -/
def setAreaMembind (t : Topo) (a : Args) (w : World) : Ret × World :=
  match policyFromHwloc a.policy a.flags with
  | none => (failRet .enosys, w)
  | some lp0 =>
    let lp := if w.pmArea = 1 ∧ lp0 = MPOL_PREFERRED_MANY then MPOL_PREFERRED else lp0
    if lp = MPOL_DEFAULT then
      let r := sys (.mb a.len lp none 0 0) w; (kret r.1, r.2)
    else if lp = MPOL_LOCAL then
      if a.set ≠ t.completeNodeset then (failRet .exdev, w)
      else let r := sys (.mb a.len MPOL_PREFERRED none 0 0) w; (kret r.1, r.2)
    else
      let mx := maxOsIndex a.set
      let lf := if a.flags &&& membindMigrate ≠ 0 then
                  MPOL_MF_MOVE ||| (if a.flags &&& membindStrict ≠ 0 then MPOL_MF_STRICT else 0)
                else 0
      let r := setWithMask (fun m w => sys (.mb a.len m (some a.set) (mx + 1) lf) w) lp w.pmArea w
      (r.1, { r.2.2 with pmArea := r.2.1 })

/-- the (policy, mask) a successful get_mempolicy yields, after the "PREFERRED + empty mask = LOCAL" rule -/
def kernelPolicy (w : World) : Int × Nat :=
  let mask := w.km % 2 ^ w.maxnodes
  (if w.kp = MPOL_PREFERRED ∧ mask = 0 then MPOL_LOCAL else w.kp, mask)

/-- hwloc_linux_get_thisthread_membind -/
def getThisthreadMembind (t : Topo) (w : World) : Ret × World :=
  let r := sys (.gm w.maxnodes false 0) w
  match r.1 with
  | .err e => (failRet e, r.2)
  | .ok =>
    let (lp, mask) := kernelPolicy w
    let ns := if lp = MPOL_DEFAULT ∨ lp = MPOL_LOCAL then t.topologyNodeset else mask
    match policyToHwloc lp with
    | none => (failRet .einval, r.2)
    | some p => ({ rc := 0, set := ns, policy := p }, r.2)

/-- the per-page loop of hwloc_linux_get_area_membind; every successful page yields the same answer -/
def areaPages : Nat → World → Option Errno × World
  | 0, w => (none, w)
  | n + 1, w =>
    let r := sys (.gm w.maxnodes true MPOL_F_ADDR) w
    match r.1 with
    | .err e => (some e, r.2)
    | .ok => areaPages n r.2

def getAreaMembind (t : Topo) (a : Args) (w : World) : Ret × World :=
  let pages := (a.len + pageSize - 1) / pageSize
  let r := areaPages pages w
  match r.1 with
  | some e => (failRet e, r.2)
  | none =>
    let (lp, mask) := kernelPolicy w
    match policyToHwloc lp with
    | none => (failRet .einval, r.2)
    | some p =>
      let full := lp = MPOL_DEFAULT ∨ lp = MPOL_LOCAL
      ({ rc := 0, set := if full then t.topologyNodeset else mask, policy := p }, r.2)

/-- hwloc_linux_get_area_memlocation -/
def getAreaMemlocation (a : Args) (w : World) : Ret × World :=
  let count := (a.len + pageSize - 1) / pageSize
  let r := sys (.mp count) w
  match r.1 with
  | .err e => (failRet e, r.2)
  | .ok => ({ rc := 0, set := if w.ks ≥ 0 then 1 <<< w.ks.toNat else 0 }, r.2)

/-- which hooks hwloc_set_linuxfs_hooks installs is an input (`native` line); this is their behaviour -/
def run (t : Topo) (h : Hook) (a : Args) (w : World) : Ret × World :=
  match h with
  | .setThisprocCpubind => setTid tidSelf a.set w
  | .getThisprocCpubind => getTid t tidSelf w
  | .setThisthreadCpubind | .setThreadCpubind => if w.tpid then (failRet .enosys, w) else setTid tidZero a.set w
  | .getThisthreadCpubind | .getThreadCpubind => if w.tpid then (failRet .enosys, w) else getTid t tidZero w
  | .setProcCpubind =>
    let pid := procPid w a.pid
    if a.flags &&& cpubindThread ≠ 0 then setTid pid a.set w
    else match procTid pid with
      | none => (failRet .einval, w)
      | some tid => setTid tid a.set w
  | .getProcCpubind =>
    let pid := procPid w a.pid
    if a.flags &&& cpubindThread ≠ 0 then getTid t pid w
    else match procTid pid with
      | none => (failRet .einval, w)
      | some tid => getTid t tid w
  -- last-CPU locations read /proc or sched_getcpu: the location itself is not predicted (rc only)
  | .getThisprocLastCpu => (okRet, w)
  | .getThisthreadLastCpu => if w.tpid then (failRet .enosys, w) else (okRet, w)
  | .getProcLastCpu =>
    let pid := procPid w a.pid
    if a.flags &&& cpubindThread ≠ 0 then (if pid = tidBad then (failRet .enosys, w) else (okRet, w))
    else (if pid = tidBad then (failRet .einval, w) else (okRet, w))
  | .setThisthreadMembind => setThisthreadMembind t a w
  | .getThisthreadMembind => getThisthreadMembind t w
  | .setAreaMembind => setAreaMembind t a w
  | .getAreaMembind => getAreaMembind t a w
  | .getAreaMemlocation => getAreaMemlocation a w
  | .alloc => if a.len = 0 then (failRet .einval, w) else (okRet, w)            -- mmap
  | .allocMembind =>
    if a.len = 0 then (failRet .einval, w)
    else
      let r := setAreaMembind t a w
      if r.1.rc < 0 ∧ a.flags &&& membindStrict ≠ 0 then (failRet r.1.err, r.2) else (okRet, r.2)
  | .freeMembind => (okRet, w)                                                   -- munmap
  -- not provided by Linux
  | .setThisprocMembind | .getThisprocMembind | .setProcMembind | .getProcMembind => (failRet .enosys, w)

end Hw.Bind.Linux
