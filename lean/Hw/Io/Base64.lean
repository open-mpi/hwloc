/-
  Hw.Io.Base64 — literal model of hwloc/base64.c (`hwloc_encode_to_base64`, `hwloc_decode_from_base64`).

  Bytes are `Nat`, the caller's target is a `List Nat` of length `targsize` (its initial
  content is arbitrary: the harness pre-fills it with 0xAA and compares the whole buffer afterwards).
  Every store goes through `wr`, which also logs the index, so that "never writes at or beyond
  targsize" is a statement about the log and not an artefact of `List.set` ignoring bad indexes.
  Shifts and masks of the C code are written arithmetically (`x >> k = x / 2^k`, `x & (2^k-1) = x % 2^k`,
  `x << k = x * 2^k`); `|=` stays a bitwise or.
-/
import Hw.Base.Num
namespace Hw.B64

/-- `static const char Base64[]` -/
def alphabet : List Nat := str "ABCDEFGHIJKLMNOPQRSTUVWXYZabcdefghijklmnopqrstuvwxyz0123456789+/"
def pad64 : Nat := 61

/-- `Base64[i]` -/
def b64char (i : Nat) : Nat :=
  if i < 26 then 65 + i else if i < 52 then 97 + (i - 26) else if i < 62 then 48 + (i - 52) else if i = 62 then 43 else 47

/-- `strchr(Base64, ch) - Base64` for a non-NUL `ch` -/
def b64index (c : Nat) : Option Nat :=
  if 65 ≤ c ∧ c ≤ 90 then some (c - 65)
  else if 97 ≤ c ∧ c ≤ 122 then some (c - 97 + 26)
  else if 48 ≤ c ∧ c ≤ 57 then some (c - 48 + 52)
  else if c = 43 then some 62
  else if c = 47 then some 63
  else none

/-- a target buffer with the log of written indexes -/
structure Tgt where
  cells : List Nat
  writes : List Nat := []
deriving Repr, DecidableEq

def Tgt.size (t : Tgt) : Nat := t.cells.length
def Tgt.wr (t : Tgt) (i : Nat) (c : Nat) : Tgt := { cells := t.cells.set i c, writes := i :: t.writes }
def Tgt.rd (t : Tgt) (i : Nat) : Nat := t.cells.getD i 0

/-! ### encoder -/

/-- the two loops of the encoder: full 3-byte groups, then the padded tail.  `(ok, datalength, target)`;
    `ok = false` is the `return -1` of a `datalength + 4 > targsize` check -/
def encGo : List Nat → Nat → Tgt → Bool × Nat × Tgt
  | a :: b :: c :: rest, dl, t =>
    if dl + 4 > t.size then (false, dl, t)
    else encGo rest (dl + 4)
      ((((t.wr dl (b64char (a / 4))).wr (dl + 1) (b64char ((a % 4) * 16 + b / 16))).wr (dl + 2)
        (b64char ((b % 16) * 4 + c / 64))).wr (dl + 3) (b64char (c % 64)))
  | [a, b], dl, t =>
    if dl + 4 > t.size then (false, dl, t)
    else (true, dl + 4,
      ((((t.wr dl (b64char (a / 4))).wr (dl + 1) (b64char ((a % 4) * 16 + b / 16))).wr (dl + 2)
        (b64char ((b % 16) * 4 + 0 / 64))).wr (dl + 3) pad64))
  | [a], dl, t =>
    if dl + 4 > t.size then (false, dl, t)
    else (true, dl + 4,
      ((((t.wr dl (b64char (a / 4))).wr (dl + 1) (b64char ((a % 4) * 16 + 0 / 16))).wr (dl + 2) pad64).wr (dl + 3) pad64))
  | [], dl, t => (true, dl, t)

/-- `hwloc_encode_to_base64(src, srclength, target, targsize)`: return value (−1 on error) and the target afterwards -/
def encode (src : List Nat) (t : Tgt) : Int × Tgt :=
  match encGo src 0 t with
  | (false, _, t') => (-1, t')
  | (true, dl, t') => if dl ≥ t.size then (-1, t') else ((dl : Int), t'.wr dl 0)

/-- the text the encoder produces (without the NUL) when the target is large enough -/
def encText : List Nat → List Nat
  | a :: b :: c :: rest =>
    b64char (a / 4) :: b64char ((a % 4) * 16 + b / 16) :: b64char ((b % 16) * 4 + c / 64) :: b64char (c % 64) :: encText rest
  | [a, b] => [b64char (a / 4), b64char ((a % 4) * 16 + b / 16), b64char ((b % 16) * 4), pad64]
  | [a] => [b64char (a / 4), b64char ((a % 4) * 16), pad64, pad64]
  | [] => []

/-- `BASE64_ENCODED_LENGTH(n)` of topology-xml.c -/
def encodedLength (n : Nat) : Nat := 4 * ((n + 2) / 3)

/-! ### decoder -/

/-- `isspace()` in the C locale -/
def isspaceC (c : Nat) : Bool := c == 32 || (9 ≤ c && c ≤ 13)

inductive DecOut
  | err (t : Option Tgt)                                   -- return -1 inside the main loop
  | eos (state tarindex : Nat) (t : Option Tgt)            -- the terminating NUL was read
  | pad (rest : List Nat) (state tarindex : Nat) (t : Option Tgt)   -- a '=' was read; `rest` follows it
deriving Repr, DecidableEq

/-- the main `while ((ch = *src++) != '\0')` loop; `t = none` models `target == NULL` -/
def decGo : List Nat → Nat → Nat → Option Tgt → DecOut
  | [], st, ti, t => .eos st ti t
  | ch :: r, st, ti, t =>
    if isspaceC ch then decGo r st ti t
    else if ch = pad64 then .pad r st ti t
    else match b64index ch with
      | none => .err t
      | some p =>
        if st = 0 then
          match t with
          | none => decGo r 1 ti none
          | some tg => if ti ≥ tg.size then .err t else decGo r 1 ti (some (tg.wr ti (p * 4)))
        else if st = 1 then
          match t with
          | none => decGo r 2 (ti + 1) none
          | some tg =>
            if ti + 1 ≥ tg.size then .err t
            else decGo r 2 (ti + 1) (some ((tg.wr ti (tg.rd ti ||| p / 16)).wr (ti + 1) ((p % 16) * 16)))
        else if st = 2 then
          match t with
          | none => decGo r 3 (ti + 1) none
          | some tg =>
            if ti + 1 ≥ tg.size then .err t
            else decGo r 3 (ti + 1) (some ((tg.wr ti (tg.rd ti ||| p / 4)).wr (ti + 1) ((p % 4) * 64)))
        else
          match t with
          | none => decGo r 0 (ti + 1) none
          | some tg => if ti ≥ tg.size then .err t else decGo r 0 (ti + 1) (some (tg.wr ti (tg.rd ti ||| p)))

/-- "case 3" of the pad handling: only whitespace may follow, and the slop bits must be zero -/
def tail3 (r : List Nat) (ti : Nat) (t : Option Tgt) : Int :=
  if r.all isspaceC then
    match t with
    | some tg => if tg.rd ti ≠ 0 then -1 else (ti : Int)
    | none => (ti : Int)
  else -1

/-- what follows the first '=' -/
def decTail (r : List Nat) (st ti : Nat) (t : Option Tgt) : Int :=
  if st = 0 ∨ st = 1 then -1
  else if st = 2 then
    match r.dropWhile isspaceC with
    | c :: r2 => if c = pad64 then tail3 r2 ti t else -1
    | [] => -1
  else tail3 r ti t

/-- `hwloc_decode_from_base64(src, target, targsize)` on a NUL-free `src` (the NUL terminator is the end of the list) -/
def decode (src : List Nat) (t : Option Tgt) : Int × Option Tgt :=
  match decGo src 0 0 t with
  | .err t' => (-1, t')
  | .eos st ti t' => (if st ≠ 0 then -1 else (ti : Int), t')
  | .pad r st ti t' => (decTail r st ti t', t')

end Hw.B64
