/-
  Hw.Io.SyntheticOrd — the order that `orderTopo` (the model of the core's ordering of children by the first bit of their
  cpuset) establishes on the PU index sequence, as a recursive predicate over the arity list, and its closed
  (non-recursive) form `ord_slices`: consecutive siblings at every depth are in the order of their smallest leaf.
-/
import Hw.Base.ListLemmas
namespace Hw.Syn

/-- smallest element of a list (0 for the empty list) -/
def minL : List Nat → Nat
  | [] => 0
  | x :: xs => xs.foldl min x

theorem foldl_min_spec : ∀ (xs : List Nat) (a : Nat), xs.foldl min a ∈ a :: xs ∧ ∀ y ∈ a :: xs, xs.foldl min a ≤ y := by
  intro xs
  induction xs with
  | nil => intro a; exact ⟨List.mem_cons_self, fun y hy => by simp at hy; subst hy; exact Nat.le_refl _⟩
  | cons x xs ih =>
    intro a
    obtain ⟨h1, h2⟩ := ih (min a x)
    rw [List.foldl_cons]
    constructor
    · rcases List.mem_cons.1 h1 with h1 | h1
      · rw [h1]
        rcases Nat.le_total a x with h3 | h3
        · rw [Nat.min_eq_left h3]; exact List.mem_cons_self
        · rw [Nat.min_eq_right h3]; exact List.mem_cons_of_mem _ List.mem_cons_self
      · exact List.mem_cons_of_mem _ (List.mem_cons_of_mem _ h1)
    · intro y hy
      have h0 := h2 (min a x) List.mem_cons_self
      rcases List.mem_cons.1 hy with rfl | hy
      · exact Nat.le_trans h0 (Nat.min_le_left _ _)
      · rcases List.mem_cons.1 hy with rfl | hy
        · exact Nat.le_trans h0 (Nat.min_le_right _ _)
        · exact h2 y (List.mem_cons_of_mem _ hy)

theorem minL_spec (l : List Nat) (hne : l ≠ []) : minL l ∈ l ∧ ∀ y ∈ l, minL l ≤ y := by
  cases l with
  | nil => exact absurd rfl hne
  | cons x xs => exact foldl_min_spec xs x

theorem minL_unique (l : List Nat) (m : Nat) (hm : m ∈ l) (hle : ∀ y ∈ l, m ≤ y) : minL l = m := by
  have hne : l ≠ [] := by intro h; subst h; simp at hm
  obtain ⟨h1, h2⟩ := minL_spec l hne
  exact Nat.le_antisymm (h2 m hm) (hle _ h1)

/-- product of an arity list (the fold used by `mkNode`) -/
def prodL (as : List Nat) : Nat := as.foldl (· * ·) 1

theorem prodL_nil : prodL [] = 1 := rfl
theorem prodL_cons (a : Nat) (rest : List Nat) : prodL (a :: rest) = a * prodL rest := by
  unfold prodL; rw [List.foldl_cons, foldl_mul_init, Nat.one_mul]

theorem prodL_pos : ∀ (as : List Nat), (∀ a ∈ as, 1 ≤ a) → 1 ≤ prodL as := by
  intro as
  induction as with
  | nil => intro _; exact Nat.le_refl _
  | cons a rest ih =>
    intro h
    rw [prodL_cons]
    exact Nat.mul_pos (h a List.mem_cons_self) (ih (fun x hx => h x (List.mem_cons_of_mem _ hx)))

/-- block `r` of width `w` of a list (0 beyond its end) -/
def blockOf (l : List Nat) (w r : Nat) : List Nat := (List.range w).map (fun j => l[r * w + j]?.getD 0)

/-- `l` lists the leaves of a regular tree with arities `as` (root arity first) in such a way that at every object the
children are in the order of their smallest leaf -/
def Ord : List Nat → List Nat → Prop
  | [], _ => True
  | a :: rest, l =>
    (∀ r, r < a → Ord rest (blockOf l (prodL rest) r)) ∧
    (∀ r, r + 1 < a → minL (blockOf l (prodL rest) r) < minL (blockOf l (prodL rest) (r + 1)))

/-- objects of depth d / leaves below one object of depth d, for an arity list -/
def cntA (as : List Nat) (d : Nat) : Nat := prodL (as.take d)
def widA (as : List Nat) (d : Nat) : Nat := prodL (as.drop d)

theorem prodL_append : ∀ (l1 l2 : List Nat), prodL (l1 ++ l2) = prodL l1 * prodL l2 := by
  intro l1 l2
  induction l1 with
  | nil => rw [List.nil_append, prodL_nil, Nat.one_mul]
  | cons a l1 ih => rw [List.cons_append, prodL_cons, prodL_cons, ih, Nat.mul_assoc]

theorem cntA_zero (as : List Nat) : cntA as 0 = 1 := by
  unfold cntA; rw [List.take_zero, prodL_nil]

theorem cntA_cons_succ (a : Nat) (rest : List Nat) (d : Nat) : cntA (a :: rest) (d + 1) = a * cntA rest d := by
  unfold cntA; rw [List.take_succ_cons, prodL_cons]

theorem widA_cons_succ (a : Nat) (rest : List Nat) (d : Nat) : widA (a :: rest) (d + 1) = widA rest d := by
  unfold widA; rw [List.drop_succ_cons]

theorem cntA_succ (as : List Nat) (d : Nat) (hd : d < as.length) :
    cntA as (d + 1) = cntA as d * (as[d]?.getD 0) := by
  induction as generalizing d with
  | nil => simp at hd
  | cons a rest ih =>
    cases d with
    | zero =>
      rw [cntA_cons_succ, cntA_zero, cntA_zero]
      simp
    | succ d' =>
      have hd' : d' < rest.length := by simpa using hd
      rw [cntA_cons_succ, cntA_cons_succ, ih d' hd', Nat.mul_assoc]
      simp

theorem widA_len (as : List Nat) : widA as as.length = 1 := by
  unfold widA; rw [List.drop_length, prodL_nil]

theorem widA_succ (as : List Nat) (d : Nat) (hd : d < as.length) :
    widA as d = (as[d]?.getD 0) * widA as (d + 1) := by
  induction as generalizing d with
  | nil => simp at hd
  | cons a rest ih =>
    cases d with
    | zero =>
      rw [widA_cons_succ]
      unfold widA
      rw [List.drop_zero, List.drop_zero, prodL_cons]
      simp
    | succ d' =>
      have hd' : d' < rest.length := by simpa using hd
      rw [widA_cons_succ, widA_cons_succ, ih d' hd']
      simp

theorem cntA_widA (as : List Nat) (d : Nat) : cntA as d * widA as d = prodL as := by
  unfold cntA widA
  rw [← prodL_append, List.take_append_drop]

theorem blockOf_blockOf (l : List Nat) (W w r k c : Nat) (hW : W = c * w) (hk : k < c) :
    blockOf (blockOf l W r) w k = blockOf l w (r * c + k) := by
  subst hW
  unfold blockOf
  apply List.map_congr_left
  intro j hj
  have hjw : j < w := List.mem_range.mp hj
  have h1 : (k + 1) * w ≤ c * w := Nat.mul_le_mul_right w hk
  have h2 : (k + 1) * w = k * w + w := Nat.succ_mul k w
  have hlt : k * w + j < c * w := by omega
  rw [List.getElem?_map, List.getElem?_range hlt]
  have h3 : r * (c * w) + (k * w + j) = (r * c + k) * w + j := by
    rw [Nat.add_mul, Nat.mul_assoc, Nat.add_assoc]
  simp only [Option.map_some, Option.getD_some, h3]

/-- `Ord` reads its list only through the first `prodL as` entries -/
theorem ord_block_zero : ∀ (as l : List Nat), Ord as l → Ord as (blockOf l (prodL as) 0)
  | [], _, _ => trivial
  | a :: rest, l, hord => by
    obtain ⟨h1, h2⟩ : (∀ r, r < a → Ord rest (blockOf l (prodL rest) r)) ∧
        (∀ r, r + 1 < a → minL (blockOf l (prodL rest) r) < minL (blockOf l (prodL rest) (r + 1))) := hord
    have e : ∀ r, r < a → blockOf (blockOf l (prodL (a :: rest)) 0) (prodL rest) r = blockOf l (prodL rest) r := fun r hr => by
      rw [blockOf_blockOf l _ (prodL rest) 0 r a (prodL_cons a rest) hr, Nat.zero_mul, Nat.zero_add]
    exact ⟨fun r hr => by rw [e r hr]; exact h1 r hr, fun r hr => by rw [e r (by omega), e (r + 1) hr]; exact h2 r hr⟩

theorem ord_at (as l : List Nat) (hord : Ord as l) : ∀ d, d ≤ as.length → ∀ k, k < cntA as d →
    Ord (as.drop d) (blockOf l (widA as d) k) := by
  intro d
  induction d with
  | zero =>
    intro _ k hk
    obtain rfl : k = 0 := by rw [cntA_zero] at hk; omega
    exact ord_block_zero as l hord
  | succ d ih =>
    intro hd k hk
    have hd' : d < as.length := hd
    have hx : as[d]?.getD 0 = as[d] := by rw [List.getElem?_eq_getElem hd']; rfl
    rw [cntA_succ as d hd', hx] at hk
    have hpos : 0 < as[d] := Nat.pos_of_ne_zero fun h0 => by rw [h0] at hk; omega
    have hk1 : k / as[d] < cntA as d := (Nat.div_lt_iff_lt_mul hpos).2 hk
    have h1 := ih (Nat.le_of_lt hd') _ hk1
    rw [List.drop_eq_getElem_cons hd'] at h1
    have h2 := h1.1 (k % as[d]) (Nat.mod_lt _ hpos)
    rwa [show prodL (as.drop (d + 1)) = widA as (d + 1) from rfl,
      blockOf_blockOf l _ _ _ _ as[d] (by rw [widA_succ as d hd', hx]) (Nat.mod_lt _ hpos), Nat.div_add_mod'] at h2

theorem ord_slices : ∀ (as : List Nat) (l : List Nat), (∀ a ∈ as, 1 ≤ a) → Ord as l →
    ∀ d, d < as.length → ∀ k, k < cntA as (d + 1) → k % (as[d]?.getD 0) + 1 < as[d]?.getD 0 →
      minL (blockOf l (widA as (d + 1)) k) < minL (blockOf l (widA as (d + 1)) (k + 1)) := by
  intro as l _ hord d hd k hk hmod
  have hx : as[d]?.getD 0 = as[d] := by rw [List.getElem?_eq_getElem hd]; rfl
  rw [hx] at hmod
  rw [cntA_succ as d hd, hx] at hk
  have hpos : 0 < as[d] := by omega
  have h1 := ord_at as l hord d (Nat.le_of_lt hd) _ ((Nat.div_lt_iff_lt_mul hpos).2 hk)
  rw [List.drop_eq_getElem_cons hd] at h1
  have h2 := h1.2 (k % as[d]) hmod
  have hw : widA as d = as[d] * widA as (d + 1) := by rw [widA_succ as d hd, hx]
  rwa [show prodL (as.drop (d + 1)) = widA as (d + 1) from rfl, blockOf_blockOf l _ _ _ _ as[d] hw (Nat.mod_lt _ hpos),
    blockOf_blockOf l _ _ _ _ as[d] hw (by omega), Nat.div_add_mod',
    show k / as[d] * as[d] + (k % as[d] + 1) = k + 1 by have := Nat.div_add_mod' k as[d]; omega] at h2

end Hw.Syn
