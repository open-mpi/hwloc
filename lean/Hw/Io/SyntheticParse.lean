/-
  Hw.Io.SyntheticParse — hwloc_backend_synthetic_init (`parse` of Hw.Io.Synthetic) as a whole, on EVERY input string.

  The parsing loop changes its state in three ways (`Step`) and keeps one invariant (`PInv`).  What follows the loop (sanity
  checks, default types, implicit NUMA level, defaults loop, index arrays) keeps `LevelsOK` (last arity 0, exact widths), which
  is what hwloc_synthetic_process_indexes needs to stay inside the initialised slots and not to divide by zero.  `parse_spec` is
  the postcondition of every run; the statements about `parse` that Hw.Props.C07 quotes are its parts.
-/
import Hw.Io.SyntheticIndexes
import Hw.Io.SyntheticWidths
namespace Hw.Syn
open Hw Hw.Topo

theorem SameShape.lastZero {l l' : List Level} (h : SameShape l l') (hz : LastZero l) : LastZero l' := by
  unfold LastZero at *
  rw [h.1, h.2.1]; exact hz

def NoArr (levels : List Level) : Prop := ∀ l ∈ levels, l.idx.arr = none
def ArrOK (levels : List Level) : Prop := ∀ l ∈ levels, ∀ a, l.idx.arr = some a → a.length = l.width

theorem NoArr.arrOK {levels : List Level} (h : NoArr levels) : ArrOK levels := by
  intro l hl a ha; rw [h l hl] at ha; cases ha

theorem NoArr.upd {L : List Level} (h : NoArr L) (i : Nat) (f : Level → Level) (hf : ∀ x, (f x).idx = x.idx) :
    NoArr (updLevel L i f) :=
  forall_updLevel h i f (fun y hy => by rw [hf]; exact h y (List.mem_of_getElem? hy))

theorem setType_noArr {L : List Level} (h : NoArr L) (i t depth : Nat) (ctype : Int) (keep : Bool) :
    NoArr (setType L i t depth ctype keep) := by
  unfold setType; exact h.upd _ _ (fun x => rfl)

/-! ### the parsing loop: what one iteration does -/

theorem attrsLoop_err (ic : Bool) : ∀ (fuel : Nat) (s : Bytes) (acc : AttrsAcc) (e : Err),
    attrsLoop ic fuel s acc = .error e → e = .einval := by
  intro fuel
  induction fuel with
  | zero => intro s acc e h; simp [attrsLoop] at h; exact h.symm
  | succ f ih =>
    intro s acc e h
    unfold attrsLoop at h
    split at h
    · cases h
    · simp only at h
      split at h
      · exact ih _ _ _ h
      · cases h
      · simp only [Except.error.injEq] at h; exact h.symm

theorem parseAttrs_err (s : Bytes) (a : Attr) (ix : Idx) (e : Err) (h : parseAttrs s a ix = .error e) : e = .einval := by
  unfold parseAttrs at h
  split at h
  · simp only [Except.error.injEq] at h; exact h.symm
  · split at h
    · rename_i e' he
      simp only [Except.error.injEq] at h; subst h
      exact attrsLoop_err _ _ _ _ _ he
    · cases h

theorem parseAttrs_arr (s : Bytes) (a : Attr) (ix : Idx) (n : Bytes) (a' : Attr) (ix' : Idx)
    (h : parseAttrs s a ix = .ok (n, a', ix')) : ix'.arr = ix.arr := by
  unfold parseAttrs at h
  split at h
  · cases h
  · split at h
    · cases h
    · simp only [Except.ok.injEq, Prod.mk.injEq] at h
      obtain ⟨_, _, rfl⟩ := h
      split <;> rfl

/-- the entries of `log` were logged by `st` or are slots of `st`, up to the one the loop is filling -/
def Logged (st : Loop) (log : Log) : Prop := ∀ j ∈ log, j ∈ st.log ∨ j ≤ st.levels.length

theorem Logged.refl (st : Loop) : Logged st st.log := fun _ hj => Or.inl hj

theorem Logged.cons {st : Loop} {log : Log} {i : Nat} (h : Logged st log) (hi : i ≤ st.levels.length) :
    Logged st (i :: log) :=
  List.forall_mem_cons.2 ⟨Or.inr hi, h⟩

def RSafe {α : Type} (I : Loop → Prop) (r : R α) (P : α → Prop) : Prop :=
  match r with
  | .ok a => P a
  | .error (e, log) => e = .einval ∧ ∃ st0, I st0 ∧ Logged st0 log

/-- The parsing loop changes its state in three ways only: `level[count-1].arity = 0` at the head of an iteration, a NUMA
node attached to the last level, a level appended (with the guards that let the C code get there). -/
inductive Step : Loop → Loop → Prop
  | zero (st : Loop) :
    Step st { st with levels := updLevel st.levels (st.levels.length - 1) (fun l => { l with arity := 0 }),
                      log := (st.levels.length - 1) :: st.log }
  | attach (st : Loop) (a : Attr) (ix : Idx) : ix.arr = st.numaIdx.arr →
    Step st { st with numaIdx := ix, numaNr := (st.numaNr + (lvAt st.levels (st.levels.length - 1)).width) % u64,
                      levels := updLevel st.levels (st.levels.length - 1) (fun l => { l with attached := l.attached ++ [a] }),
                      log := (st.levels.length - 1) :: (st.levels.length - 1) :: st.log }
  | level (st : Loop) (item : Nat) (attr : Attr) (ix : Idx) : item ≠ 0 → item ≤ ulongMax / st.total →
    st.levels.length + 1 < maxDepth → ix.arr = none →
    Step st { st with total := (st.total * item) % u64, log := (st.levels.length - 1) :: st.levels.length :: st.log,
                      levels := updLevel st.levels (st.levels.length - 1) (fun l => { l with arity := item }) ++
                        [{ arity := 0, width := (st.total * item) % u64, attr := attr, idx := ix, attached := [] }] }

theorem attachedStep_cases {P : R (Loop × Bytes) → Prop} {p : Bytes} {st : Loop}
    (herr : ∀ log, Logged st log → P (.error (.einval, log)))
    (hok : ∀ st' next, Step st st' → P (.ok (st', next))) :
    P (attachedStep p st) := by
  have h0 := Logged.refl st
  have h2 := (h0.cons (Nat.sub_le _ 1)).cons (Nat.sub_le _ 1)
  unfold attachedStep
  split
  · exact herr _ h0
  · refine ite_cases (fun _ => herr _ h0) (fun _ => ?_)
    split
    · exact herr _ h2
    · split
      · split
        · dsimp only
          generalize hpa : parseAttrs _ _ _ = pa
          rcases pa with e | ⟨n, a, ix⟩
          · rw [parseAttrs_err _ _ _ _ hpa]
            exact herr _ h2
          · exact hok _ _ (.attach st a ix (parseAttrs_arr _ _ _ _ _ _ hpa))
        · exact hok _ _ (.attach st _ _ rfl)
      · exact hok _ _ (.attach st _ _ rfl)


theorem levelStep_cases {P : R (Loop × Bytes) → Prop} {c : Byte} {pos : Bytes} {st : Loop}
    (herr : ∀ log, Logged st log → P (.error (.einval, log)))
    (hok : ∀ st' next, Step st st' → P (.ok (st', next))) :
    P (levelStep c pos st) := by
  have herr := herr _ (((Logged.refl st).cons (Nat.le_refl _)).cons (Nat.sub_le _ 1))
  unfold levelStep
  dsimp only
  generalize htr : (if (!isDig c) = true then _ else _ : Except Err (TypeRes × Bytes)) = tr
  rcases tr with e | ⟨t, pos'⟩
  · have : e = .einval := by
      split at htr
      · split at htr
        · cases htr; rfl
        · split at htr
          · cases htr; rfl
          · split at htr
            · cases htr; rfl
            · cases htr
      · cases htr
    subst this
    exact herr
  · dsimp only
    generalize strtoulS 0 pos' = q
    obtain ⟨item, next⟩ := q
    dsimp only
    refine ite_cases (fun _ => herr) (fun _ => ?_)
    refine ite_cases (fun _ => herr) (fun h0 => ?_)
    refine ite_cases (fun _ => herr) (fun hfit => ?_)
    split
    · rename_i e hres
      have : e = .einval := by
        split at hres
        · exact parseAttrs_err _ _ _ _ hres
        · cases hres
      subst this
      exact herr
    · rename_i next' attr ix hres
      refine ite_cases (fun _ => herr) (fun _ => ite_cases (fun _ => herr) (fun _ =>
        hok _ next' (.level st item attr ix h0 (by omega) (by omega) ?_)))
      split at hres
      · exact parseAttrs_arr _ _ _ _ _ _ hres
      · cases hres; rfl

theorem loopBody_cases {P : R (Loop × Option Bytes) → Prop} {pos : Bytes} {st : Loop}
    (herr : ∀ st0 log, Step st st0 → Logged st0 log → P (.error (.einval, log)))
    (hok : ∀ st0 st' next, Step st st0 → st' = st0 ∨ Step st0 st' → P (.ok (st', next))) :
    P (loopBody pos st) := by
  unfold loopBody
  dsimp only
  split
  · exact hok _ _ none (.zero st) (Or.inl rfl)
  · refine ite_cases (fun _ => ?_) (fun _ => ?_)
    · exact attachedStep_cases (P := fun r => P (match r with | .ok (st', next) => .ok (st', some next) | .error e => .error e))
        (fun log hl => herr _ log (.zero st) hl) (fun st' next h => hok _ st' (some next) (.zero st) (Or.inr h))
    · exact levelStep_cases (P := fun r => P (match r with | .ok (st', next) => .ok (st', some next) | .error e => .error e))
        (fun log hl => herr _ log (.zero st) hl) (fun st' next h => hok _ st' (some next) (.zero st) (Or.inr h))

theorem mainLoop_step {f : Nat} {pos next : Bytes} {st st' : Loop} (hpos : pos ≠ [])
    (h : loopBody pos st = .ok (st', some next)) : mainLoop (f + 1) pos st = mainLoop f next st' := by
  rw [mainLoop, h]
  exact hpos

theorem mainLoop_inv {I : Loop → Prop} (hI : ∀ st st', I st → Step st st' → I st') :
    ∀ (fuel : Nat) (pos : Bytes) (st : Loop), I st → RSafe I (mainLoop fuel pos st) I := by
  intro fuel
  induction fuel with
  | zero => intro pos st h; exact h
  | succ f ih =>
    intro pos st h
    unfold mainLoop
    split
    · exact h
    · refine loopBody_cases (P := fun r => RSafe I (match r with | .error e => .error e | .ok (st', none) => .ok st' | .ok (st', some next) => mainLoop f next st') I)
        (fun st0 log h0 hl => ⟨rfl, st0, hI _ _ h h0, hl⟩) (fun st0 st' next h0 h1 => ?_)
      have h' : I st' := by
        rcases h1 with rfl | h1
        · exact hI _ _ h h0
        · exact hI _ _ (hI _ _ h h0) h1
      cases next with
      | none => exact h'
      | some n => exact ih n st' h'

/-- invariant of `for (pos = description, count = 1; *pos; pos = next_pos)` -/
structure PInv (st : Loop) : Prop where
  pos : 1 ≤ st.levels.length
  le : st.levels.length < maxDepth
  log : AllLt maxDepth st.log
  noArr : NoArr st.levels
  numaArr : st.numaIdx.arr = none
  wok : WOK st.levels st.total
  w0 : (lvAt st.levels 0).width = 1

theorem PInv.step {st st' : Loop} (h : PInv st) (hs : Step st st') : PInv st' := by
  have hc : st.levels.length - 1 < maxDepth := by have := h.le; omega
  have hlen := fun f => updLevel_length st.levels (st.levels.length - 1) f
  have hw0 := fun (f : Level → Level) hf => (lvAt_updLevel_keeps (·.width) (f := f) hf st.levels (st.levels.length - 1) 0).trans h.w0
  cases hs with
  | zero =>
    exact ⟨(hlen _).symm ▸ h.pos, (hlen _).symm ▸ h.le, .cons hc h.log, h.noArr.upd _ _ (fun _ => rfl), h.numaArr,
      h.wok.setLastArity 0, hw0 _ (fun _ => rfl)⟩
  | attach a ix hix =>
    exact ⟨(hlen _).symm ▸ h.pos, (hlen _).symm ▸ h.le, .cons hc (.cons hc h.log), h.noArr.upd _ _ (fun _ => rfl),
      hix.trans h.numaArr, h.wok.same (SameShape.upd _ _ _ (fun _ => rfl) (fun _ => rfl)), hw0 _ (fun _ => rfl)⟩
  | level item attr ix hitem0 hfit hcount hix =>
    -- `item ≤ ULONG_MAX / total` is what keeps the new total below 2^64
    have hlt : st.total * item < u64 :=
      Nat.lt_of_le_of_lt (Nat.mul_comm item st.total ▸ Nat.mul_le_of_le_div _ _ _ hfit) (by decide)
    refine ⟨by rw [List.length_append, hlen]; exact Nat.le_add_left 1 _, by rw [List.length_append, hlen]; exact hcount,
      .cons hc (.cons h.le h.log), List.forall_mem_append.2 ⟨h.noArr.upd _ _ (fun _ => rfl), List.forall_mem_singleton.2 hix⟩,
      h.numaArr, ?_, ?_⟩
    · simp only [Nat.mod_eq_of_lt hlt]
      exact h.wok.append h.pos item (by omega) hlt _ rfl
    · simp only
      rw [lvAt_append, if_pos (by rw [hlen]; exact h.pos)]
      exact hw0 _ (fun _ => rfl)

/-! ### after the loop: sanity checks, default types, implicit NUMA level -/

structure LevelsOK (T : Nat) (L : List Level) : Prop where
  pos : 1 ≤ L.length
  lastZero : LastZero L
  wok : WOK L T
  w0 : (lvAt L 0).width = 1

theorem LevelsOK.same {T : Nat} {L L' : List Level} (h : LevelsOK T L) (hs : SameShape L L') : LevelsOK T L' :=
  ⟨hs.1 ▸ h.pos, hs.lastZero h.lastZero, h.wok.same hs, (hs.2.2 0).trans h.w0⟩

theorem LevelsOK.indexes {T : Nat} {L : List Level} (h : LevelsOK T L) (ix : Idx) (total : Nat) :
    AllLt L.length (processIndexes L ix total).2 ∧ ∀ e, (processIndexes L ix total).1 = .err e → e = .abort :=
  ⟨processIndexes_log L ix total h.pos h.lastZero,
    fun e he => processIndexes_err L ix total e h.lastZero h.wok.pos h.wok.mono he⟩

def sanityLevels (st : Loop) : List Level :=
  setType (updLevel st.levels (st.levels.length - 1) (fun l => { l with arity := 0 })) (st.levels.length - 1) tPU

def sanityLog (st : Loop) : Log :=
  (List.range (st.levels.length - 1)).drop 1 ++ ((List.range st.levels.length).drop 1 ++
    ((st.levels.length - 1) :: (st.levels.length - 1) :: (st.levels.length - 1) :: (st.levels.length - 1) :: st.log))

theorem sanity_cases (st : Loop) {P : R (List Level × Log) → Prop}
    (herr : ∀ log, log <:+ sanityLog st → P (.error (.einval, log)))
    (hok : P (.ok (sanityLevels st, sanityLog st))) : P (sanity st) := by
  have s2 : ((List.range st.levels.length).drop 1 ++ ((st.levels.length - 1) :: (st.levels.length - 1) ::
      (st.levels.length - 1) :: (st.levels.length - 1) :: st.log)) <:+ sanityLog st := List.suffix_append _ _
  have s1 := (List.suffix_append ((List.range st.levels.length).drop 1) ((st.levels.length - 1) ::
    (st.levels.length - 1) :: (st.levels.length - 1) :: (st.levels.length - 1) :: st.log)).trans s2
  unfold sanity
  refine ite_cases (fun _ => herr _ s1) (fun _ => ?_)
  iterate 7 refine ite_cases (fun _ => herr _ s2) (fun _ => ?_)
  exact ite_cases (fun _ => herr _ (List.suffix_refl _)) (fun _ => hok)

theorem sanity_ok {st : Loop} {levels : List Level} {log : Log} (h : sanity st = .ok (levels, log)) :
    levels = sanityLevels st ∧ log = sanityLog st := by
  revert h
  refine sanity_cases (P := fun r => r = .ok (levels, log) → _) st (fun _ _ h => nomatch h) (fun h => ?_)
  cases h; exact ⟨rfl, rfl⟩

theorem PInv.sanity {st : Loop} (h : PInv st) :
    LevelsOK st.total (sanityLevels st) ∧ NoArr (sanityLevels st) ∧ (sanityLevels st).length = st.levels.length ∧
    AllLt maxDepth (sanityLog st) := by
  -- `sanity` starts like an iteration of the loop, with `level[count-1].arity = 0`
  have h0 := h.step (.zero st)
  have hle := h.le
  have hc : st.levels.length - 1 < maxDepth := by omega
  have hsl : SameShape (updLevel st.levels (st.levels.length - 1) (fun l => { l with arity := 0 })) (sanityLevels st) :=
    setType_same _ _ _ _ _ _
  refine ⟨⟨hsl.1 ▸ h0.pos, hsl.lastZero ?_, h0.wok.same hsl, (hsl.2.2 0).trans h0.w0⟩, setType_noArr h0.noArr _ _ _ _ _,
    hsl.1.trans (updLevel_length _ _ _), ?_⟩
  · unfold LastZero
    rw [updLevel_length, lvAt_updLevel, if_pos ⟨rfl, by have := h.pos; omega⟩]
  · exact (AllLt.range_drop maxDepth (st.levels.length - 1) 1 (by omega)).append
      ((AllLt.range_drop maxDepth st.levels.length 1 (by omega)).append
        (.cons hc (.cons hc (.cons hc h0.log))))

/-! The default types are put in by `setType` only: whatever `setType` preserves (`J` below) survives. -/

theorem condSet_spec {J : List Level → Prop} (hJ : ∀ L i t d c k, J L → J (setType L i t d c k)) {n : Nat}
    (c : Bool) (i t depth : Nat) (ctype : Int) (keep : Bool) (p : List Level × Log) (hi : c = true → i < n)
    (h : J p.1 ∧ AllLt n p.2) : J (condSet c i t depth ctype keep p).1 ∧ AllLt n (condSet c i t depth ctype keep p).2 := by
  unfold condSet
  split
  · rename_i hc; exact ⟨hJ _ _ _ _ _ _ h.1, AllLt.cons (hi hc) h.2⟩
  · exact h

theorem groupsFold_spec {J : List Level → Prop} (hJ : ∀ L i t d c k, J L → J (setType L i t d c k)) (n : Nat) :
    ∀ (is : List Nat) (p : List Level × Log), (∀ i ∈ is, 1 + i < n) → J p.1 ∧ AllLt n p.2 →
    J (is.foldl (fun p i => condSet true (1 + i) tGROUP 4294967295 (-1) true p) p).1 ∧
      AllLt n (is.foldl (fun p i => condSet true (1 + i) tGROUP 4294967295 (-1) true p) p).2 := by
  intro is
  induction is with
  | nil => intro p _ h; exact h
  | cons i rest ih =>
    intro p his h
    exact ih _ (fun j hj => his j (List.mem_cons_of_mem _ hj))
      (condSet_spec hJ _ _ _ _ _ _ _ (fun _ => his i List.mem_cons_self) h)

/-- each kind of default level takes at most what is left of the `count - 2` untyped levels, so nothing is lost in the
truncated subtractions -/
theorem needs_sum (count numaNr : Nat) :
    (needs count numaNr).1 + (needs count numaNr).2.1 + (needs count numaNr).2.2.1 + (needs count numaNr).2.2.2.1 +
      (needs count numaNr).2.2.2.2 = count - 2 := by
  have e0 : ∀ (c : Nat) (p : Prop) [Decidable p], (if c ≥ 1 ∧ p then 1 else 0) ≤ c := by intro c p _; split <;> omega
  have e1 : ∀ c : Nat, (if c ≥ 1 then 1 else 0) ≤ c := by intro c; split <;> omega
  have e4 : ∀ c : Nat, (if c > 4 then 4 else c) ≤ c := by intro c; split <;> omega
  unfold needs
  dsimp only
  -- the groups get what is left, and `x + (c - x) = c` for `x ≤ c`, from the innermost subtraction outwards
  rw [Nat.add_assoc, Nat.add_assoc, Nat.add_assoc, Nat.add_sub_cancel' (e4 _), Nat.add_sub_cancel' (e1 _),
    Nat.add_sub_cancel' (e1 _), Nat.add_sub_cancel' (e0 _ _)]

/-- The default types change types only, in the slots `1 .. count-2`: the slot of each kind lies below the number of levels
of its own kind and of the kinds placed above it, and these numbers add up to `count - 2`. -/
theorem assignDefaultTypes_spec {J : List Level → Prop} (hJ : ∀ L i t d c k, J L → J (setType L i t d c k))
    (levels : List Level) (count numaNr : Nat) (h : J levels) :
    J (assignDefaultTypes levels count numaNr).1 ∧ AllLt (1 + (count - 2)) (assignDefaultTypes levels count numaNr).2.1 := by
  unfold assignDefaultTypes
  rw [← needs_sum count numaNr]
  generalize needs count numaNr = nd
  obtain ⟨neednuma, needpack, needcore, needcaches, needgroups⟩ := nd
  dsimp only
  refine condSet_spec hJ _ _ _ _ _ _ _ (fun hc => by simp only [beq_iff_eq] at hc; omega) ?_
  refine condSet_spec hJ _ _ _ _ _ _ _ (fun hc => by simp only [decide_eq_true_eq] at hc; split <;> omega) ?_
  refine condSet_spec hJ _ _ _ _ _ _ _ (fun hc => by simp only [decide_eq_true_eq] at hc; split <;> omega) ?_
  refine condSet_spec hJ _ _ _ _ _ _ _ (fun hc => by simp only [decide_eq_true_eq] at hc; split <;> omega) ?_
  refine condSet_spec hJ _ _ _ _ _ _ _ (fun hc => by simp only [decide_eq_true_eq] at hc; omega) ?_
  refine condSet_spec hJ _ _ _ _ _ _ _ (fun hc => by simp only [beq_iff_eq] at hc; omega) ?_
  refine condSet_spec hJ _ _ _ _ _ _ _ (fun hc => by simp only [beq_iff_eq] at hc; omega) ?_
  exact groupsFold_spec hJ _ _ (levels, []) (fun i hi => by have := List.mem_range.1 hi; omega) ⟨h, AllLt.nil _⟩

theorem typesAndNuma_cases {P : List Level × Log × Int → Prop} {J : List Level → Prop} {st : Loop} {levels : List Level}
    {log : Log} (hJ : ∀ L i t d c k, J L → J (setType L i t d c k)) (h0 : J levels) (hpos : 1 ≤ levels.length)
    (h : ∀ r rlog g, J r → AllLt levels.length rlog →
      P (r, rlog ++ log, g) ∧
      P ((insertNuma r levels.length).1, (insertNuma r levels.length).2 ++ (rlog ++ log), g)) :
    P (typesAndNuma st levels log) := by
  unfold typesAndNuma
  dsimp only
  generalize hrd : (if (((levels.drop 1).take (levels.length - 2)).filter (fun l => l.attr.type == tNONE)).length ≠ 0
      then assignDefaultTypes levels levels.length st.numaNr else (levels, [], typeCount levels tNUMA ≠ 0, 0)) = r
  have hr : J r.1 ∧ AllLt levels.length r.2.1 := by
    subst hrd
    split
    · exact ⟨(assignDefaultTypes_spec hJ _ _ _ h0).1, (assignDefaultTypes_spec hJ _ _ _ h0).2.mono (by omega)⟩
    · exact ⟨h0, AllLt.nil _⟩
  exact ite_cases (fun _ => (h _ _ _ hr.1 hr.2).2) (fun _ => (h _ _ _ hr.1 hr.2).1)

/-- the slots the implicit-NUMA `memmove` and the assignments after it touch: 0, 1 and `1 .. count` -/
theorem insertNuma_log (L : List Level) (n : Nat) : ∀ i ∈ (insertNuma L n).2, i ≤ 1 ∨ i ≤ n := by
  unfold insertNuma
  split
  · intro i hi
    rcases List.mem_append.1 hi with hi | hi
    · simp only [List.mem_cons, List.not_mem_nil, or_false] at hi; omega
    · have := List.mem_range.1 (List.mem_of_mem_drop hi); omega
  · nofun

theorem insertNuma_levelsOK {T n : Nat} {L : List Level} (h : LevelsOK T L) (hn : NoArr L) (hlen : L.length = n) :
    LevelsOK T (insertNuma L n).1 ∧ NoArr (insertNuma L n).1 ∧ (insertNuma L n).1.length = n + 1 ∧
    AllLt (n + 1) (insertNuma L n).2 := by
  obtain ⟨hw, hw0⟩ := insertNuma_wok L n T h.wok h.pos h.w0
  have hz := h.lastZero
  have hlog := insertNuma_log L n
  unfold insertNuma at hw hw0 ⊢
  cases L with
  | nil => exact absurd h.pos (by simp)
  | cons l0 rest =>
    simp only [List.length_cons] at hlen
    refine ⟨⟨by simp, ?_, hw, hw0⟩, fun x hx => ?_, by simp only [List.length_cons]; omega, ?_⟩
    · unfold LastZero at hz ⊢
      cases rest with
      | nil => simpa [lvAt] using hz
      | cons r rs => simpa [lvAt] using hz
    · simp only [List.mem_cons] at hx
      rcases hx with rfl | rfl | hx
      · exact hn l0 List.mem_cons_self
      · rfl
      · exact hn x (List.mem_cons_of_mem _ hx)
    · exact fun j hj => by have := hlog j hj; omega

theorem typesAndNuma_levelsOK (st : Loop) {T : Nat} {L : List Level} {log : Log} (h : LevelsOK T L) (hn : NoArr L)
    (hle : L.length < maxDepth) (hl : AllLt maxDepth log) :
    LevelsOK T (typesAndNuma st L log).1 ∧ NoArr (typesAndNuma st L log).1 ∧ (typesAndNuma st L log).1.length ≤ maxDepth ∧
    AllLt maxDepth (typesAndNuma st L log).2.1 := by
  refine typesAndNuma_cases (P := fun t => LevelsOK T t.1 ∧ NoArr t.1 ∧ t.1.length ≤ maxDepth ∧ AllLt maxDepth t.2.1)
    (J := fun r => SameShape L r ∧ NoArr r)
    (fun M i t d c k hM => ⟨hM.1.trans (setType_same M i t d c k), setType_noArr hM.2 i t d c k⟩) ⟨SameShape.refl _, hn⟩ h.pos
    (fun r rlog g ⟨hs, hnr⟩ hrl => ?_)
  have hlg : AllLt maxDepth (rlog ++ log) := (hrl.mono (by omega)).append hl
  obtain ⟨i1, i2, i3, i4⟩ := insertNuma_levelsOK (h.same hs) hnr hs.1
  exact ⟨⟨h.same hs, hnr, by rw [hs.1]; omega, hlg⟩, i1, i2, by rw [i3]; omega, (i4.mono (by omega)).append hlg⟩

/-! ### the defaults loop -/

/-- the levels in round `i` of the defaults loop at the call of hwloc_synthetic_process_indexes -/
def withDefaults (st : Fin2) (i : Nat) : List Level :=
  updLevel st.levels i (fun l => { l with
    attr := (setDefaultAttrs (lvAt st.levels i).attr st.gcount).1,
    attached := (lvAt st.levels i).attached.map
      (fun x => (setDefaultAttrs x (setDefaultAttrs (lvAt st.levels i).attr st.gcount).2).1) })

theorem defaultsLoop_inv {I : Fin2 → Prop} {E : Err × Log → Prop} {is : List Nat}
    (h : ∀ i ∈ is, ∀ st pi rl, I st →
      processIndexes (withDefaults st i) (lvAt st.levels i).idx (lvAt st.levels i).width = (pi, rl) →
      match pi with
      | .err e => E (e, rl ++ i :: st.log)
      | .arr arr => I { levels := updLevel (withDefaults st i) i (fun l => { l with idx := { l.idx with arr := arr } }),
                        gcount := (setDefaultAttrs (lvAt st.levels i).attr st.gcount).2, log := rl ++ i :: st.log }) :
    ∀ st, I st → match defaultsLoop is st with | .ok f => I f | .error e => E e := by
  induction is with
  | nil => intro st hst; exact hst
  | cons i rest ih =>
    intro st hst
    unfold defaultsLoop
    dsimp only
    generalize hpr : processIndexes _ (lvAt st.levels i).idx (lvAt st.levels i).width = pr
    obtain ⟨pi, rl⟩ := pr
    have hi := h i List.mem_cons_self st pi rl hst hpr
    cases pi with
    | err e => exact hi
    | arr arr => exact ih (fun j hj => h j (List.mem_cons_of_mem _ hj)) _ hi

theorem withDefaults_same (st : Fin2) (i : Nat) : SameShape st.levels (withDefaults st i) :=
  SameShape.upd _ _ _ (fun _ => rfl) (fun _ => rfl)

theorem setArr_same (st : Fin2) (i : Nat) (arr : Option (List Nat)) :
    SameShape st.levels (updLevel (withDefaults st i) i (fun l => { l with idx := { l.idx with arr := arr } })) :=
  (withDefaults_same st i).trans (SameShape.upd _ _ _ (fun _ => rfl) (fun _ => rfl))

theorem arrOK_round (st : Fin2) (i : Nat) (arr : Option (List Nat)) (rl : Log) (h : ArrOK st.levels)
    (hpi : processIndexes (withDefaults st i) (lvAt st.levels i).idx (lvAt st.levels i).width = (.arr arr, rl)) :
    ArrOK (updLevel (withDefaults st i) i (fun l => { l with idx := { l.idx with arr := arr } })) := by
  have h1 : ArrOK (withDefaults st i) :=
    forall_updLevel h i _ (fun y hy => h y (List.mem_of_getElem? hy))
  refine forall_updLevel h1 i _ (fun y hy b hb => ?_)
  -- y, the level `i` of `withDefaults st i`, has the width and the old `idx` of level `i` of `st.levels`
  have hi : i < st.levels.length := (withDefaults_same st i).1 ▸ (List.getElem?_eq_some_iff.1 hy).1
  have hw : y.width = (lvAt st.levels i).width := by
    rw [← lvAt_of_getElem? hy, (withDefaults_same st i).2.2]
  have hl : lvAt st.levels i ∈ st.levels := by
    rw [lvAt_of_getElem? (List.getElem?_eq_getElem hi)]; exact List.getElem_mem hi
  simp only at hb ⊢
  rw [hw]
  subst hb
  exact processIndexes_length _ _ _ b rl (fun c hc => h _ hl c hc) hpi

theorem defaultsLoop_arrOK (is : List Nat) (st f : Fin2) (ha : ArrOK st.levels) (h : defaultsLoop is st = .ok f) :
    ArrOK f.levels := by
  have := defaultsLoop_inv (I := fun s => ArrOK s.levels) (E := fun _ => True) (is := is)
    (fun i _ s pi rl ha hpi => by
      cases pi with
      | err e => trivial
      | arr arr => exact arrOK_round s i arr rl ha hpi) st ha
  rw [h] at this; exact this

theorem defaultsLoop_levelsOK (is : List Nat) (st : Fin2) (T n : Nat) (hn : st.levels.length = n) (hnm : n ≤ maxDepth)
    (his : ∀ i ∈ is, i < n) (hg : LevelsOK T st.levels) (hl : AllLt maxDepth st.log) :
    match defaultsLoop is st with
    | .ok f => f.levels.length = n ∧ LevelsOK T f.levels ∧ AllLt maxDepth f.log
    | .error e => AllLt maxDepth e.2 ∧ e.1 = .abort := by
  refine defaultsLoop_inv (I := fun s => s.levels.length = n ∧ LevelsOK T s.levels ∧ AllLt maxDepth s.log)
    (E := fun e => AllLt maxDepth e.2 ∧ e.1 = .abort) (fun i hi s pi rl ⟨hn, hg, hl⟩ hpi => ?_) st ⟨hn, hg, hl⟩
  have hs := withDefaults_same s i
  have hix := (hg.same hs).indexes (lvAt s.levels i).idx (lvAt s.levels i).width
  rw [hpi, hs.1, hn] at hix
  have hlog : AllLt maxDepth (rl ++ i :: s.log) :=
    (hix.1.mono hnm).append (.cons (Nat.lt_of_lt_of_le (his i hi) hnm) hl)
  cases pi with
  | err e => exact ⟨hlog, hix.2 e rfl⟩
  | arr arr => exact ⟨(setArr_same s i arr).1.trans hn, hg.same (setArr_same s i arr), hlog⟩

theorem defaultsLoop_visits (is : List Nat) (st f : Fin2) (h : defaultsLoop is st = .ok f) :
    ∀ i, i ∈ is ∨ i ∈ st.log → i ∈ f.log := by
  induction is generalizing st with
  | nil => cases h; exact fun i hi => hi.resolve_left (by simp)
  | cons j rest ih =>
    unfold defaultsLoop at h
    dsimp only at h
    split at h
    · cases h
    · intro i hi
      refine ih _ h i ?_
      rcases hi with hi | hi
      · rcases List.mem_cons.1 hi with rfl | hi
        · exact Or.inr (List.mem_append_right _ List.mem_cons_self)
        · exact Or.inl hi
      · exact Or.inr (List.mem_append_right _ (List.mem_cons_of_mem _ hi))

/-! ### the whole parser -/

/-- `F` stands for the state after the default types and the implicit NUMA level: a statement that mentions
`List.range (typesAndNuma st _ _).1.length` makes the elaborator evaluate everything that follows the parsing loop, each time
it is instantiated -/
theorem finish_cases {P : R Parsed → Prop} {st : Loop} {F : Fin2}
    (hF : typesAndNuma st (sanityLevels st) (sanityLog st) = (F.levels, F.log, F.gcount))
    (hsan : ∀ log, log <:+ sanityLog st → P (.error (.einval, log)))
    (hdef : ∀ e, defaultsLoop (List.range F.levels.length) F = .error e → P (.error e))
    (hnuma : ∀ f e rl, defaultsLoop (List.range F.levels.length) F = .ok f →
      processIndexes f.levels st.numaIdx st.numaNr = (.err e, rl) → P (.error (e, rl ++ f.log)))
    (hok : ∀ f arr rl, defaultsLoop (List.range F.levels.length) F = .ok f →
      processIndexes f.levels st.numaIdx st.numaNr = (.arr arr, rl) →
      P (.ok { levels := f.levels, numaNr := st.numaNr, numaIdx := { st.numaIdx with arr := arr }, log := rl ++ f.log })) :
    P (finish st) := by
  unfold finish
  split
  · rename_i e heq
    exact sanity_cases (P := fun r => r = .error e → P (.error e)) st (fun log hl h => by cases h; exact hsan log hl)
      (fun h => nomatch h) heq
  · rename_i levels log heq
    obtain ⟨rfl, rfl⟩ := sanity_ok heq
    rw [hF]
    dsimp only
    split
    · exact hdef _ ‹_›
    · rename_i f hf
      generalize hpi : processIndexes f.levels st.numaIdx st.numaNr = pr
      obtain ⟨r, rl⟩ := pr
      cases r with
      | err e => exact hnuma f e rl hf hpi
      | arr arr => exact hok f arr rl hf hpi

structure ParsedOK (p : Parsed) : Prop where
  log : AllLt maxDepth p.log
  covers : ∀ i, i < p.levels.length → i ∈ p.log
  arrays : ArrOK p.levels
  numaArr : ∀ a, p.numaIdx.arr = some a → a.length = p.numaNr
  widths : ∃ T, WOK p.levels T ∧ (lvAt p.levels 0).width = 1

/-- every run of hwloc_backend_synthetic_init: the `level[i]` indexes are below 128; a failing run is a rejection or the
failed `assert(nbs)`; an accepted description has every level of the result among the indexes used (the defaults loop goes
through all of them), index arrays of one entry per object and exact widths -/
def ParsePost (r : R Parsed) : Prop :=
  match r with
  | .ok p => ParsedOK p
  | .error e => AllLt maxDepth e.2 ∧ (e.1 = .einval ∨ e.1 = .abort)

theorem finish_spec (st : Loop) (h : PInv st) : ParsePost (finish st) := by
  obtain ⟨s1, s2, s3, s4⟩ := h.sanity
  obtain ⟨t1, t2, t3, t4⟩ := typesAndNuma_levelsOK st s1 s2 (s3 ▸ h.le) s4
  generalize hT : typesAndNuma st (sanityLevels st) (sanityLog st) = T at t1 t2 t3 t4
  obtain ⟨L, lg, g⟩ := T
  have hd := defaultsLoop_levelsOK (List.range L.length) ⟨L, g, lg⟩ st.total _ rfl t3 (fun i hi => List.mem_range.1 hi) t1 t4
  have hnuma : ∀ f pi rl, defaultsLoop (List.range L.length) ⟨L, g, lg⟩ = .ok f →
      processIndexes f.levels st.numaIdx st.numaNr = (pi, rl) →
      LevelsOK st.total f.levels ∧ AllLt maxDepth (rl ++ f.log) ∧ ∀ e, pi = .err e → e = .abort := by
    intro f pi rl hf hpi
    rw [hf] at hd
    have hix := hd.2.1.indexes st.numaIdx st.numaNr
    rw [hpi, hd.1] at hix
    exact ⟨hd.2.1, (hix.1.mono t3).append hd.2.2, hix.2⟩
  refine finish_cases (P := ParsePost) (F := ⟨L, g, lg⟩) hT (fun log hs => ⟨s4.of_suffix hs, Or.inl rfl⟩) (fun e he => ?_)
    (fun f e rl hf hpi => ?_) (fun f arr rl hf hpi => ?_)
  · rw [he] at hd; exact ⟨hd.1, Or.inr hd.2⟩
  · exact ⟨(hnuma f _ rl hf hpi).2.1, Or.inr ((hnuma f _ rl hf hpi).2.2 e rfl)⟩
  · obtain ⟨d, dl, _⟩ := hnuma f _ rl hf hpi
    rw [hf] at hd
    refine ⟨dl, fun i hi => List.mem_append_right _ (defaultsLoop_visits _ _ f hf i (Or.inl (List.mem_range.2 (hd.1 ▸ hi)))),
      defaultsLoop_arrOK _ _ f t2.arrOK hf, fun a ha' => ?_, st.total, d.wok, d.w0⟩
    cases ha'
    exact processIndexes_length f.levels st.numaIdx st.numaNr a rl (fun b hb => by rw [h.numaArr] at hb; cases hb) hpi

theorem parse_cases {P : R Parsed → Prop} (s : Bytes) (herr : ∀ log, AllLt maxDepth log → P (.error (.einval, log)))
    (hfin : ∀ st, PInv st → P (finish st)) : P (parse s) := by
  have hz : AllLt maxDepth [0, 0, 0, 0, 0, 0, 0, 0, 0] := by
    intro j hj; simp only [List.mem_cons, List.not_mem_nil, or_false] at hj; unfold maxDepth; omega
  have hloop : ∀ (pos : Bytes) (l0 : Level), l0.width = 1 → l0.idx.arr = none →
      P (match mainLoop (pos.length + 1) pos { levels := [l0], log := [0, 0, 0, 0, 0, 0, 0] } with
        | .error e => .error e
        | .ok st => finish st) := by
    intro pos l0 hw ha
    have hm := mainLoop_inv (fun _ _ h hs => PInv.step h hs) (pos.length + 1) pos { levels := [l0], log := [0, 0, 0, 0, 0, 0, 0] }
      ⟨by simp, (by decide : 1 < maxDepth), hz.of_suffix ⟨[0, 0], rfl⟩,
        by intro l hl; rw [List.mem_singleton.1 hl]; exact ha, rfl, WOK.singleton l0 hw, by simpa [lvAt] using hw⟩
    generalize mainLoop _ _ _ = r at hm
    rcases r with ⟨e, log⟩ | st
    · obtain ⟨rfl, st0, h0, hl⟩ := hm
      refine herr log (fun j hj => ?_)
      rcases hl j hj with hj | hj
      · exact h0.log j hj
      · have := h0.le; omega
    · exact hfin st hm
  unfold parse
  dsimp only
  by_cases h40 : s.head? = some 40
  · rw [if_pos h40]
    generalize hpa : parseAttrs _ _ _ = pa
    rcases pa with e | ⟨next, a, ix⟩
    · rw [parseAttrs_err _ _ _ _ hpa]
      exact herr _ hz
    · exact hloop next _ rfl (parseAttrs_arr _ _ _ _ _ _ hpa)
  · rw [if_neg h40]
    exact hloop s _ rfl rfl

theorem parse_spec (s : Bytes) : ParsePost (parse s) :=
  parse_cases s (fun _ hl => ⟨hl, Or.inl rfl⟩) finish_spec

/-- **level[] safety**: whatever the description and however hwloc_backend_synthetic_init ends, every index
used in a `data->level[i]` expression is below HWLOC_SYNTHETIC_MAX_DEPTH = 128 -/
theorem parse_log_safe (s : Bytes) : AllLt maxDepth (logOf (parse s)) := by
  have := parse_spec s
  unfold logOf
  cases hr : parse s with
  | ok p => rw [hr] at this; exact this.log
  | error e => rw [hr] at this; exact this.1

/-- every level of an accepted result is among the indexes used: with `parse_log_safe`, the largest index used in a result of
128 levels is exactly 127 -/
theorem parse_log_covers (s : Bytes) (p : Parsed) (h : parse s = .ok p) : ∀ i, i < p.levels.length → i ∈ p.log := by
  have := parse_spec s
  rw [h] at this; exact this.covers

/-- **error kinds of the whole parser**: hwloc_backend_synthetic_init either rejects (EINVAL) or fails `assert(nbs)`;
it never divides by zero and never writes past `loops[]` -/
theorem parse_err_kinds (s : Bytes) (e : Err) (log : Log) (h : parse s = .error (e, log)) : e = .einval ∨ e = .abort := by
  have := parse_spec s
  rw [h] at this; exact this.2

/-- **array safety**: in the result of an accepted description every index array has exactly one entry per object
of its level (`array[next++]` of hwloc_synthetic_next_index is in bounds), for the levels and for the attached NUMA nodes -/
theorem parse_arrays_ok (s : Bytes) (p : Parsed) (h : parse s = .ok p) :
    (∀ l ∈ p.levels, ∀ a, l.idx.arr = some a → a.length = l.width) ∧
    (∀ a, p.numaIdx.arr = some a → a.length = p.numaNr) := by
  have := parse_spec s
  rw [h] at this; exact ⟨this.arrays, this.numaArr⟩

/-- **no wrap**: in the result of every accepted description the total width of every level is positive, below 2^64,
non-decreasing with the depth and equal to the width of the level above times its arity — as natural numbers; the root
has width 1 (so `totalwidth` = the product of the arities above, never reduced modulo 2^64) -/
theorem parse_widths (s : Bytes) (p : Parsed) (h : parse s = .ok p) :
    ∃ T, WOK p.levels T ∧ (lvAt p.levels 0).width = 1 := by
  have := parse_spec s
  rw [h] at this; exact this.widths

end Hw.Syn
