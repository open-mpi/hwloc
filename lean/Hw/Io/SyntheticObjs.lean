/-
  Hw.Io.SyntheticObjs — the objects of `toDump t`: the tables of `mkTab` (objects per depth `nOf` and the exact quotients
  `nOf e / nOf d`), the side condition `topoOK` (evaluated by the driver on every built topology) in the form `OK`, and the
  three kinds of objects (`objs_kind`): a normal object `normalObj d k`, a NUMA node `numaObj d k s`, a memory-side cache
  `mcObj d k s`, each with the values `toDump` gives its fields; the path through an object (`ksOf`: the objects of one depth
  below, at or above (d, k)), on which the closed forms of cpusets and nodesets rest.
-/
import Hw.Io.SyntheticDumpLemmas
import Hw.Topo.WFLemmas0
namespace Hw.Syn
open Hw Hw.Topo

/-- the environment `toDump` builds its objects in -/
def envOf (t : Topo) : DEnv :=
  let T := mkTab t
  { t := t, T := T, numaL := specialIds T true (T.D + 1) 0 0, mcL := specialIds T false (T.D + 1) 0 0,
    groupNo := (List.range (T.D + 1)).map (fun d => ((T.types.take d).filter (· == tGROUP)).length) }

theorem toDump_objs (t : Topo) : (toDump t).objs = genObjs (envOf t) ((mkTab t).D + 1) 0 0 := rfl
theorem envOf_T (t : Topo) : (envOf t).T = mkTab t := rfl
theorem envOf_t (t : Topo) : (envOf t).t = t := rfl
theorem mkTab_D (t : Topo) : (mkTab t).D = t.levels.length := rfl

/-! ### the objects-per-depth table -/

def nStep (ar : List Nat) (acc : List Nat) (d : Nat) : List Nat := acc ++ [(acc.getLast?.getD 1) * (ar[d]?.getD 0)]

theorem nfold_spec (ar : List Nat) : ∀ m,
    ((List.range m).foldl (nStep ar) [1]).length = m + 1 ∧ ((List.range m).foldl (nStep ar) [1])[0]? = some 1 ∧
    ∀ i, i < m → ((List.range m).foldl (nStep ar) [1])[i + 1]? =
      some ((((List.range m).foldl (nStep ar) [1])[i]?.getD 1) * (ar[i]?.getD 0)) := by
  intro m
  induction m with
  | zero => exact ⟨rfl, rfl, fun i hi => by omega⟩
  | succ m ih =>
    obtain ⟨hl, h0, hs⟩ := ih
    rw [List.range_succ, List.foldl_append]
    simp only [List.foldl_cons, List.foldl_nil]
    generalize (List.range m).foldl (nStep ar) [1] = r at hl h0 hs
    have hlast : r.getLast? = r[m]? := by rw [List.getLast?_eq_getElem?, hl]; rfl
    unfold nStep
    refine ⟨by simp [hl], ?_, ?_⟩
    · rw [List.getElem?_append_left (by omega)]; exact h0
    · intro i hi
      by_cases him : i < m
      · rw [List.getElem?_append_left (by omega), List.getElem?_append_left (by omega)]; exact hs i him
      · have : i = m := by omega
        subst this
        rw [List.getElem?_append_right (by omega), List.getElem?_append_left (by omega), hlast]
        simp [hl]

def nOf (T : DTab) (d : Nat) : Nat := T.n[d]?.getD 1

theorem mkTab_n (t : Topo) : (mkTab t).n = (List.range t.levels.length).foldl (nStep (mkTab t).ar) [1] := rfl

theorem nOf_zero (t : Topo) : nOf (mkTab t) 0 = 1 := by
  unfold nOf; rw [mkTab_n, (nfold_spec _ _).2.1]; rfl

theorem nOf_succ (t : Topo) (d : Nat) (hd : d < (mkTab t).D) : nOf (mkTab t) (d + 1) = nOf (mkTab t) d * arOf (mkTab t) d := by
  have hd' : d < t.levels.length := hd
  unfold nOf arOf; rw [mkTab_n, (nfold_spec _ _).2.2 d hd']; rfl

theorem n_getD0 (t : Topo) (d : Nat) (hd : d ≤ (mkTab t).D) : (mkTab t).n[d]?.getD 0 = nOf (mkTab t) d := by
  unfold nOf
  have hl : (mkTab t).n.length = t.levels.length + 1 := by rw [mkTab_n]; exact (nfold_spec _ _).1
  have : d < (mkTab t).n.length := by rw [hl]; exact Nat.lt_succ_of_le hd
  rw [List.getElem?_eq_getElem this]; rfl

def lvl (t : Topo) (j : Nat) : NLevel := t.levels[j]?.getD { type := 0, arity := 0 }

theorem arOf_lt (t : Topo) (d : Nat) (hd : d < t.levels.length) : arOf (mkTab t) d = (lvl t d).arity := by
  unfold arOf lvl
  show (t.levels.map (·.arity) ++ [0])[d]?.getD 0 = _
  rw [List.getElem?_append_left (by simpa using hd)]
  simp [List.getElem?_eq_getElem hd]

theorem memOf_tab (t : Topo) (d : Nat) : (mkTab t).mem[d]?.getD [] = if d = 0 then t.rootMem else (t.levels[d - 1]?.map (·.mem)).getD [] := by
  show (t.rootMem :: t.levels.map (·.mem))[d]?.getD [] = _
  cases d with
  | zero => rfl
  | succ d => simp

/-- what the theorems below assume about `t` (decidable; the driver evaluates it on every topology `buildTopo` returns):
positive arities, normal non-Machine level types, the PU level is the last one and the only one of type PU, it carries no
memory and its os_indexes are `puIdx`; cache levels carry the depth and kind of their type -/
def topoOK (t : Topo) : Bool :=
  !t.levels.isEmpty && decide (t.levels.length < 4294967295) &&
  t.levels.all (fun l => decide (1 ≤ l.arity) && isNormal l.type && l.type != tMACHINE &&
    (if isDCache l.type then (l.ctype == 0 || l.ctype == 1) && l.cdepth == l.type - tL1 + 1
     else if isICache l.type then l.ctype == 2 && l.cdepth == l.type - tL1I + 1 else true)) &&
  (List.range t.levels.length).all (fun j => ((lvl t j).type == tPU) == (j + 1 == t.levels.length)) &&
  (lvl t (t.levels.length - 1)).mem.isEmpty &&
  (lvl t (t.levels.length - 1)).osIdx == t.puIdx.map (fun (v : Nat) => (v : Int))

structure OK (t : Topo) : Prop where
  ne : 0 < t.levels.length
  short : t.levels.length < 4294967295
  ar : ∀ j, j < t.levels.length → 1 ≤ (lvl t j).arity
  norm : ∀ j, j < t.levels.length → isNormal (lvl t j).type = true ∧ (lvl t j).type ≠ tMACHINE
  cache : ∀ j, j < t.levels.length →
    (isDCache (lvl t j).type = true → ((lvl t j).ctype = 0 ∨ (lvl t j).ctype = 1) ∧ (lvl t j).cdepth = (lvl t j).type - tL1 + 1) ∧
    (isICache (lvl t j).type = true → (lvl t j).ctype = 2 ∧ (lvl t j).cdepth = (lvl t j).type - tL1I + 1)
  pu : ∀ j, j < t.levels.length → ((lvl t j).type = tPU ↔ j + 1 = t.levels.length)
  puMem : (lvl t (t.levels.length - 1)).mem = []
  puOs : (lvl t (t.levels.length - 1)).osIdx = t.puIdx.map (fun (v : Nat) => (v : Int))

theorem lvl_mem (t : Topo) (j : Nat) (hj : j < t.levels.length) : lvl t j ∈ t.levels := by
  unfold lvl; rw [List.getElem?_eq_getElem hj]; exact List.getElem_mem hj

theorem topoOK_OK (t : Topo) (h : topoOK t = true) : OK t := by
  unfold topoOK at h
  simp only [Bool.and_eq_true, List.all_eq_true, decide_eq_true_eq, bne_iff_ne, ne_eq, List.mem_range, beq_iff_eq,
    Bool.not_eq_true', List.isEmpty_eq_false_iff, List.isEmpty_iff, Bool.ite_eq_true_distrib, Bool.or_eq_true] at h
  obtain ⟨⟨⟨⟨⟨hne, hshort⟩, hall⟩, hpu⟩, hmem⟩, hos⟩ := h
  refine ⟨List.length_pos_iff.2 hne, hshort, ?_, ?_, ?_, ?_, hmem, hos⟩
  · intro j hj; exact (hall _ (lvl_mem t j hj)).1.1.1
  · intro j hj; exact ⟨(hall _ (lvl_mem t j hj)).1.1.2, (hall _ (lvl_mem t j hj)).1.2⟩
  · intro j hj
    have := (hall _ (lvl_mem t j hj)).2
    refine ⟨fun hd => by rwa [if_pos hd] at this, fun hi => ?_⟩
    have hnd : ¬ isDCache (lvl t j).type = true := by
      unfold isDCache isICache tL1 tL5 tL1I tL3I at *
      simp only [Bool.and_eq_true, decide_eq_true_eq] at hi ⊢
      omega
    rwa [if_neg hnd, if_pos hi] at this
  · intro j hj
    exact beq_iff_eq.symm.trans ((Bool.eq_iff_iff.1 (hpu j hj)).trans beq_iff_eq)

theorem nOf_pos (t : Topo) (h : OK t) : ∀ d, d ≤ (mkTab t).D → 0 < nOf (mkTab t) d := by
  intro d
  induction d with
  | zero => intro _; rw [nOf_zero]; exact Nat.one_pos
  | succ d ih =>
    intro hd
    rw [nOf_succ t d hd, arOf_lt t d hd]
    exact Nat.mul_pos (ih (Nat.le_of_lt hd)) (h.ar d hd)

/-- weighted number of objects below one object of depth `d`: Σ_{e ≥ d} (objects of depth e per object of depth d) * w e -/
def sumW (T : DTab) (w : Nat → Nat) (d : Nat) : Nat :=
  ((List.range (T.D + 1)).map (fun e => if e ≥ d then (nOf T e / nOf T d) * w e else 0)).sum

section
variable (t : Topo) (h : OK t)
include h

omit h in
theorem nOf_dvd (d : Nat) : ∀ j, d + j ≤ (mkTab t).D → nOf (mkTab t) d ∣ nOf (mkTab t) (d + j) := by
  intro j
  induction j with
  | zero => intro _; exact Nat.dvd_refl _
  | succ j ih =>
    intro hj
    rw [← Nat.add_assoc, nOf_succ t (d + j) (by omega)]
    exact Nat.dvd_mul_right_of_dvd (ih (by omega)) _

omit h in
/-- the objects of depth `e` per object of depth `d ≤ e`: the quotient `nOf e / nOf d` is exact and is the product of the
arities of the depths `d … e - 1` (`toDump` writes subtree widths, cpuset windows and level offsets with it) -/
theorem q_total (e d : Nat) (he : e ≤ (mkTab t).D) (hd : d ≤ e) :
    nOf (mkTab t) e = nOf (mkTab t) d * (nOf (mkTab t) e / nOf (mkTab t) d) := by
  have := nOf_dvd t d (e - d) (by omega)
  rw [show d + (e - d) = e by omega] at this
  exact (Nat.mul_div_cancel' this).symm

theorem q_succ (e d : Nat) (he : e ≤ (mkTab t).D) (hd : d < e) :
    nOf (mkTab t) e / nOf (mkTab t) d = arOf (mkTab t) d * (nOf (mkTab t) e / nOf (mkTab t) (d + 1)) := by
  refine Nat.eq_of_mul_eq_mul_left (nOf_pos t h d (by omega)) ?_
  rw [← q_total t e d he (Nat.le_of_lt hd), ← Nat.mul_assoc, ← nOf_succ t d (by omega)]
  exact q_total t e (d + 1) he hd

theorem q_pos (e d : Nat) (he : e ≤ (mkTab t).D) (hd : d ≤ e) : 0 < nOf (mkTab t) e / nOf (mkTab t) d := by
  have hq := q_total t e d he hd
  have := nOf_pos t h e he
  rcases Nat.eq_zero_or_pos (nOf (mkTab t) e / nOf (mkTab t) d) with h0 | h0
  · rw [h0, Nat.mul_zero] at hq; omega
  · exact h0

theorem q_top (d e : Nat) (hd : d < (mkTab t).D) (he : e ≤ d) :
    nOf (mkTab t) (d + 1) / nOf (mkTab t) e = (nOf (mkTab t) d / nOf (mkTab t) e) * arOf (mkTab t) d := by
  have hde := q_total t d e (Nat.le_of_lt hd) he
  rw [nOf_succ t d hd]
  conv => lhs; rw [hde]
  rw [Nat.mul_assoc, Nat.mul_div_cancel_left _ (nOf_pos t h e (by omega))]

theorem sumW_rec (w : Nat → Nat) (d : Nat) (hd : d ≤ (mkTab t).D) :
    sumW (mkTab t) w d = arOf (mkTab t) d * sumW (mkTab t) w (d + 1) + w d := by
  unfold sumW
  have hpt : ∀ e ∈ List.range ((mkTab t).D + 1),
      (if e ≥ d then (nOf (mkTab t) e / nOf (mkTab t) d) * w e else 0) =
      arOf (mkTab t) d * (if e ≥ d + 1 then (nOf (mkTab t) e / nOf (mkTab t) (d + 1)) * w e else 0) +
        (if e = d then w d else 0) := by
    intro e he
    have he' : e ≤ (mkTab t).D := by have := List.mem_range.1 he; omega
    by_cases h1 : e < d
    · rw [if_neg (by omega), if_neg (by omega), if_neg (by omega)]; simp
    · by_cases h2 : e = d
      · subst h2
        rw [if_pos (by omega), if_neg (by omega), if_pos rfl, Nat.div_self (nOf_pos t h e he')]; simp
      · rw [if_pos (by omega), if_pos (by omega), if_neg h2, q_succ t h e d he' (by omega), Nat.mul_assoc]
        simp
  rw [List.map_congr_left hpt, sum_map_lin, sum_indicator, if_pos (by omega)]

end

/-! ### the objects of the dump -/

def memLen (T : DTab) (d : Nat) : Nat := (T.mem[d]?.getD []).length

theorem child_lt (t : Topo) (d k r : Nat) (hd : d < (mkTab t).D) (hk : k < nOf (mkTab t) d) (hr : r < arOf (mkTab t) d) :
    k * arOf (mkTab t) d + r < nOf (mkTab t) (d + 1) := by
  rw [nOf_succ t d hd]
  exact mul_add_lt_mul hk hr

theorem ar_pos_lt (t : Topo) (d : Nat) (hd : d ≤ (mkTab t).D) {r : Nat} (hr : r < arOf (mkTab t) d) : d < (mkTab t).D := by
  refine Nat.lt_of_le_of_ne hd fun e => ?_
  rw [e, mkTab_ar_last] at hr
  exact Nat.not_lt_zero _ hr

theorem div_lt_parent (t : Topo) (d k : Nat) (hd : d < (mkTab t).D) (hk : k < nOf (mkTab t) (d + 1)) :
    0 < arOf (mkTab t) d ∧ k / arOf (mkTab t) d < nOf (mkTab t) d := by
  rw [nOf_succ t d hd] at hk
  have ha : 0 < arOf (mkTab t) d := by
    rcases Nat.eq_zero_or_pos (arOf (mkTab t) d) with h0 | h0
    · rw [h0] at hk; omega
    · exact h0
  exact ⟨ha, by rw [Nat.div_lt_iff_lt_mul ha]; exact hk⟩

def slotM (E : DEnv) (d s : Nat) : MemChild := (E.T.mem[d]?.getD [])[s]?.getD ⟨0, 0⟩

def numaObj (E : DEnv) (d k s : Nat) : Obj :=
  let T := E.T
  let ms := T.mem[d]?.getD []
  let cs := cpusetOf E d k
  let m := ms[s]?.getD ⟨0, 0⟩
  let pos := postPos T (numaCnt T) d k s
  let os := E.t.numaIdx[pos]?.getD 0
  let ns := 1 <<< os
  let mid := memId T d k s
  let nidd := numaId T d k s
  let hasmc := m.msc ≠ 0
  let sibNext : Int := if s + 1 < ms.length then (memId T d k (s + 1) : Int) else -1
  let sibPrev : Int := if s > 0 then (memId T d k (s - 1) : Int) else -1
  { blankObj with
    id := nidd, type := tNUMA, depth := -3, lidx := pos, osidx := os, gp := nidd,
    parent := if hasmc then (mid : Int) else (nid T d k : Int), rank := if hasmc then 0 else s,
    nextSib := if hasmc then -1 else sibNext, prevSib := if hasmc then -1 else sibPrev,
    nextCousin := neighbour E.numaL pos true, prevCousin := neighbour E.numaL pos false,
    cpuset := some cs, ccpuset := some cs, nodeset := some ns, cnodeset := some ns, totalMem := m.mem,
    attrs := [(m.mem : Int), 1, 0, 0, 0, 0] }

def mcObj (E : DEnv) (d k s : Nat) : Obj :=
  let T := E.T
  let ms := T.mem[d]?.getD []
  let cs := cpusetOf E d k
  let m := ms[s]?.getD ⟨0, 0⟩
  let pos := postPos T (numaCnt T) d k s
  let os := E.t.numaIdx[pos]?.getD 0
  let ns := 1 <<< os
  let mid := memId T d k s
  let nidd := numaId T d k s
  let sibNext : Int := if s + 1 < ms.length then (memId T d k (s + 1) : Int) else -1
  let sibPrev : Int := if s > 0 then (memId T d k (s - 1) : Int) else -1
  let mpos := postPos T (mcCnt T) d k (mcSlot T d s)
  { blankObj with
    id := mid, type := tMEMCACHE, depth := -8, lidx := mpos, osidx := -1, gp := mid,
    parent := (nid T d k : Int), rank := s, marity := 1, nextSib := sibNext, prevSib := sibPrev,
    nextCousin := neighbour E.mcL mpos true, prevCousin := neighbour E.mcL mpos false,
    memFirst := (nidd : Int),
    cpuset := some cs, ccpuset := some cs, nodeset := some ns, cnodeset := some ns, totalMem := m.mem,
    attrs := [(m.msc : Int), 1, 64, 0, 0, 0] }

theorem memSlot_eq (E : DEnv) (d k s : Nat) :
    memSlot E d k s = if (slotM E d s).msc ≠ 0 then [mcObj E d k s, numaObj E d k s] else [numaObj E d k s] := rfl

inductive Kind (t : Topo) (o : Obj) : Prop
  | normal (d k : Nat) (hd : d ≤ (mkTab t).D) (hk : k < nOf (mkTab t) d) (h : o = normalObj (envOf t) d k)
  | numa (d k s : Nat) (hd : d ≤ (mkTab t).D) (hk : k < nOf (mkTab t) d) (hs : s < memLen (mkTab t) d) (h : o = numaObj (envOf t) d k s)
  | mc (d k s : Nat) (hd : d ≤ (mkTab t).D) (hk : k < nOf (mkTab t) d) (hs : s < memLen (mkTab t) d)
      (hm : (slotM (envOf t) d s).msc ≠ 0) (h : o = mcObj (envOf t) d k s)

/-- induction over the recursion of `genObjs` / `specialIds`: the subtree of (d, k) is listed with fuel `D + 1 - d`, and a step may
use the subtrees of depth `d + 1` where there is such a depth -/
theorem fuel_ind (D : Nat) {P : Nat → Nat → Nat → Prop}
    (step : ∀ f d, d + (f + 1) = D + 1 → (d < D → ∀ k, P f (d + 1) k) → ∀ k, P (f + 1) d k) :
    ∀ f d k, d + f = D + 1 → d ≤ D → P f d k := by
  intro f
  induction f with
  | zero => intro d k h1 h2; omega
  | succ f ih => exact fun d k h1 _ => step f d h1 (fun hd k' => ih (d + 1) k' (by omega) hd) k

/-- the test `d < D` of the definition is absorbed: the PU depth has arity 0 -/
theorem genObjs_succ (t : Topo) (f d k : Nat) (h1 : d + (f + 1) = (mkTab t).D + 1) : genObjs (envOf t) (f + 1) d k =
    normalObj (envOf t) d k :: ((List.range (arOf (mkTab t) d)).flatMap (fun r => genObjs (envOf t) f (d + 1) (k * arOf (mkTab t) d + r)) ++
      memObjs (envOf t) d k) := by
  show normalObj (envOf t) d k :: ((if d < (mkTab t).D then _ else []) ++ _) = _
  split
  · rfl
  · rw [show d = (mkTab t).D by omega, mkTab_ar_last]; rfl

theorem genObjs_kind (t : Topo) : ∀ (f d k : Nat), d + f = (mkTab t).D + 1 → d ≤ (mkTab t).D →
    k < nOf (mkTab t) d → ∀ o ∈ genObjs (envOf t) f d k, Kind t o := by
  refine fuel_ind _ fun f d h1 ih k hk o ho => ?_
  have h2 : d ≤ (mkTab t).D := by omega
  rw [genObjs_succ t f d k h1] at ho
  rcases List.mem_cons.1 ho with rfl | ho
  · exact .normal d k h2 hk rfl
  · rcases List.mem_append.1 ho with ho | ho
    · obtain ⟨r, hr, hor⟩ := List.mem_flatMap.1 ho
      have hd := ar_pos_lt t d h2 (List.mem_range.1 hr)
      exact ih hd _ (child_lt t d k r hd hk (List.mem_range.1 hr)) o hor
    · obtain ⟨s, hs, h⟩ := List.mem_flatMap.1 ho
      have hs : s < memLen (mkTab t) d := List.mem_range.1 hs
      rw [memSlot_eq] at h
      split at h
      · rename_i hm
        simp only [List.mem_cons, List.not_mem_nil, or_false] at h
        exact h.elim (.mc d k s h2 hk hs hm) (.numa d k s h2 hk hs)
      · exact .numa d k s h2 hk hs (by simpa using h)

theorem objs_kind (t : Topo) : ∀ o ∈ (toDump t).objs, Kind t o :=
  genObjs_kind t _ 0 0 (Nat.zero_add _) (Nat.zero_le _) (by rw [nOf_zero]; exact Nat.one_pos)

theorem genObjs_sub_objs (t : Topo) : ∀ d, d ≤ (mkTab t).D → ∀ k, k < nOf (mkTab t) d →
    ∀ o ∈ genObjs (envOf t) ((mkTab t).D + 1 - d) d k, o ∈ (toDump t).objs := by
  intro d
  induction d with
  | zero =>
    intro _ k hk o ho
    obtain rfl : k = 0 := by rw [nOf_zero] at hk; omega
    exact ho
  | succ d ih =>
    intro hd k hk o ho
    obtain ⟨ha, hk1⟩ := div_lt_parent t d k hd hk
    apply ih (Nat.le_of_lt hd) _ hk1
    rw [Nat.add_sub_add_right] at ho
    rw [Nat.succ_sub (Nat.le_of_lt hd), genObjs_succ t _ d _ (by rw [← Nat.add_assoc, Nat.add_sub_of_le (Nat.le_of_lt hd)])]
    exact List.mem_cons_of_mem _ (List.mem_append_left _ (List.mem_flatMap.2 ⟨k % arOf (mkTab t) d, List.mem_range.2 (Nat.mod_lt _ ha),
      by rwa [Nat.div_add_mod']⟩))

theorem normalObj_mem (t : Topo) (d k : Nat) (hd : d ≤ (mkTab t).D) (hk : k < nOf (mkTab t) d) :
    normalObj (envOf t) d k ∈ (toDump t).objs := by
  apply genObjs_sub_objs t d hd k hk
  rw [Nat.succ_sub hd, genObjs_succ t _ d k (by rw [← Nat.add_assoc, Nat.add_sub_of_le hd])]
  exact List.mem_cons_self

theorem memSlot_mem (t : Topo) (d k s : Nat) (hd : d ≤ (mkTab t).D) (hk : k < nOf (mkTab t) d) (hs : s < memLen (mkTab t) d) :
    ∀ o ∈ memSlot (envOf t) d k s, o ∈ (toDump t).objs := by
  intro o ho
  apply genObjs_sub_objs t d hd k hk
  rw [Nat.succ_sub hd, genObjs_succ t _ d k (by rw [← Nat.add_assoc, Nat.add_sub_of_le hd])]
  exact List.mem_cons_of_mem _ (List.mem_append_right _ (List.mem_flatMap.2 ⟨s, List.mem_range.2 hs, ho⟩))

theorem numaObj_mem (t : Topo) (d k s : Nat) (hd : d ≤ (mkTab t).D) (hk : k < nOf (mkTab t) d) (hs : s < memLen (mkTab t) d) :
    numaObj (envOf t) d k s ∈ (toDump t).objs := by
  apply memSlot_mem t d k s hd hk hs
  rw [memSlot_eq]; split <;> simp

theorem mcObj_mem (t : Topo) (d k s : Nat) (hd : d ≤ (mkTab t).D) (hk : k < nOf (mkTab t) d) (hs : s < memLen (mkTab t) d)
    (hm : (slotM (envOf t) d s).msc ≠ 0) : mcObj (envOf t) d k s ∈ (toDump t).objs := by
  apply memSlot_mem t d k s hd hk hs
  rw [memSlot_eq, if_pos hm]; simp

theorem mcObj_id (E : DEnv) (d k s : Nat) : (mcObj E d k s).id = memId E.T d k s := rfl

theorem numaObj_id (E : DEnv) (d k s : Nat) : (numaObj E d k s).id = numaId E.T d k s := rfl

theorem mcObj_type (E : DEnv) (d k s : Nat) : (mcObj E d k s).type = tMEMCACHE := rfl

theorem numaObj_type (E : DEnv) (d k s : Nat) : (numaObj E d k s).type = tNUMA := rfl

theorem mcObj_cpuset (E : DEnv) (d k s : Nat) : (mcObj E d k s).cpuset = some (cpusetOf E d k) := rfl

theorem numaObj_cpuset (E : DEnv) (d k s : Nat) : (numaObj E d k s).cpuset = some (cpusetOf E d k) := rfl

theorem mcObj_ccpuset (E : DEnv) (d k s : Nat) : (mcObj E d k s).ccpuset = some (cpusetOf E d k) := rfl

theorem numaObj_ccpuset (E : DEnv) (d k s : Nat) : (numaObj E d k s).ccpuset = some (cpusetOf E d k) := rfl

theorem numaObj_nodeset (t : Topo) (d k s : Nat) : (numaObj (envOf t) d k s).nodeset =
    some (1 <<< (t.numaIdx[postPos (mkTab t) (numaCnt (mkTab t)) d k s]?.getD 0)) := rfl

theorem numaObj_cnodeset (t : Topo) (d k s : Nat) : (numaObj (envOf t) d k s).cnodeset = (numaObj (envOf t) d k s).nodeset := rfl

theorem mcObj_nodeset (t : Topo) (d k s : Nat) : (mcObj (envOf t) d k s).nodeset = (numaObj (envOf t) d k s).nodeset := rfl

theorem mcObj_cnodeset (t : Topo) (d k s : Nat) : (mcObj (envOf t) d k s).cnodeset = (numaObj (envOf t) d k s).nodeset := rfl

def ntype (t : Topo) (d : Nat) : Nat := if d = 0 then tMACHINE else (lvl t (d - 1)).type

theorem normalObj_type (t : Topo) (d k : Nat) : (normalObj (envOf t) d k).type = ntype t d := by
  unfold ntype
  by_cases h : d = 0
  · subst h; rfl
  · simp only [normalObj, h, if_false]; rfl

theorem ntype_normal (t : Topo) (h : OK t) (d : Nat) (hd : d ≤ (mkTab t).D) : isNormal (ntype t d) = true := by
  unfold ntype
  split
  · rfl
  · exact (h.norm (d - 1) (by rw [mkTab_D] at hd; omega)).1

theorem ntype_pu (t : Topo) (h : OK t) (d : Nat) (hd : d ≤ (mkTab t).D) : ntype t d = tPU ↔ d = (mkTab t).D := by
  unfold ntype
  rw [mkTab_D] at *
  split
  · rename_i h0; subst h0
    constructor
    · intro hh; exact absurd hh (by decide)
    · intro hh; have := h.ne; omega
  · have := h.pu (d - 1) (by omega)
    rw [this]; omega

theorem ntype_machine (t : Topo) (h : OK t) (d : Nat) (hd : d ≤ (mkTab t).D) : ntype t d = tMACHINE ↔ d = 0 := by
  unfold ntype
  split
  · rename_i h0; simp [h0]
  · rename_i h0
    have := (h.norm (d - 1) (by rw [mkTab_D] at hd; omega)).2
    simp [this, h0]

theorem normal_facts : ∀ x, x < 14 → x ≠ tNUMA ∧ x ≠ tMEMCACHE ∧ isMemory x = false ∧ isIO x = false ∧ isMisc x = false ∧
    isSpecial x = false ∧ x < tMAX ∧ (defaultFilters[x]?).getD 0 ≠ 1 ∧ specialDepth x = none := by decide

theorem normalObj_arity (E : DEnv) (d k : Nat) : (normalObj E d k).arity = arOf E.T d := rfl

theorem normalObj_marity (E : DEnv) (d k : Nat) : (normalObj E d k).marity = memLen E.T d := rfl

theorem normalObj_id (E : DEnv) (d k : Nat) : (normalObj E d k).id = nid E.T d k := rfl

theorem normalObj_depth (E : DEnv) (d k : Nat) : (normalObj E d k).depth = (d : Int) := rfl

theorem normalObj_attrs (t : Topo) (d k : Nat) (hd : d ≠ 0) : (normalObj (envOf t) d k).attrs =
    if isCacheT (lvl t (d - 1)).type then [((lvl t (d - 1)).size : Int), ((lvl t (d - 1)).cdepth : Int), 64, 0, (lvl t (d - 1)).ctype, 0]
    else if (lvl t (d - 1)).type = tGROUP then
      [(((envOf t).groupNo[d]?.getD 0 : Nat) : Int), (if (lvl t (d - 1)).memGroup then 1001 else 10),
       (if (lvl t (d - 1)).memGroup then 0 else ((lvl t (d - 1)).gsub : Int)), 0, 0, 0]
    else [0, 0, 0, 0, 0, 0] := by
  simp only [normalObj, hd, if_false]; rfl

theorem normalObj_osidx (t : Topo) (d k : Nat) (hd : d ≠ 0) :
    (normalObj (envOf t) d k).osidx = (lvl t (d - 1)).osIdx[k]?.getD 0 := by
  simp only [normalObj, hd, if_false]; rfl

theorem normalObj_cpuset (E : DEnv) (d k : Nat) : (normalObj E d k).cpuset = some (cpusetOf E d k) := rfl
theorem normalObj_ccpuset (E : DEnv) (d k : Nat) : (normalObj E d k).ccpuset = some (cpusetOf E d k) := rfl
theorem normalObj_nodeset (E : DEnv) (d k : Nat) : (normalObj E d k).nodeset = some (nodesetOf E d k) := rfl
theorem normalObj_cnodeset (E : DEnv) (d k : Nat) : (normalObj E d k).cnodeset = some (nodesetOf E d k) := rfl

theorem memLen_last (t : Topo) (h : OK t) : memLen (mkTab t) (mkTab t).D = 0 := by
  unfold memLen
  rw [memOf_tab, mkTab_D, if_neg (by have := h.ne; omega)]
  have := h.puMem
  unfold lvl at this
  have hlt : t.levels.length - 1 < t.levels.length := by have := h.ne; omega
  rw [List.getElem?_eq_getElem hlt] at this ⊢
  simp only [Option.getD_some] at this
  simp [this]

theorem ar_getD1 (t : Topo) (d : Nat) (hd : d < (mkTab t).D) : (mkTab t).ar[d]?.getD 1 = arOf (mkTab t) d := by
  unfold arOf
  have hl : d < (mkTab t).ar.length := by
    show d < (t.levels.map NLevel.arity ++ [0]).length
    rw [mkTab_D] at hd; simp; omega
  rw [List.getElem?_eq_getElem hl]; rfl

theorem nid_succ (T : DTab) (d k : Nat) :
    nid T (d + 1) k = nid T d (k / (T.ar[d]?.getD 1)) + 1 + (k % (T.ar[d]?.getD 1)) * (T.sz[d + 1]?.getD 0) := rfl

theorem normalObj_parent (t : Topo) (d k : Nat) (hd : d < (mkTab t).D) :
    (normalObj (envOf t) (d + 1) k).parent = (nid (mkTab t) d (k / arOf (mkTab t) d) : Int) ∧
    (normalObj (envOf t) (d + 1) k).rank = k % arOf (mkTab t) d := by
  have h1 := ar_getD1 t d hd
  constructor
  · show (if d + 1 = 0 then (-1 : Int) else (nid (mkTab t) (d + 1 - 1) (k / (if d + 1 = 0 then 1 else (mkTab t).ar[d + 1 - 1]?.getD 1)) : Int)) = _
    simp only [Nat.add_one_ne_zero, if_false, Nat.add_sub_cancel, h1]
  · show (if d + 1 = 0 then 0 else k % (if d + 1 = 0 then 1 else (mkTab t).ar[d + 1 - 1]?.getD 1)) = _
    simp only [Nat.add_one_ne_zero, if_false, Nat.add_sub_cancel, h1]

theorem numaObj_parent (t : Topo) (d k s : Nat) :
    (numaObj (envOf t) d k s).parent = if (slotM (envOf t) d s).msc ≠ 0 then (memId (mkTab t) d k s : Int) else (nid (mkTab t) d k : Int) := rfl

section
variable (t : Topo) (h : OK t)
include h

theorem sz_ge (d : Nat) : ∀ j, d + j = (mkTab t).D → j + 1 ≤ szOf (mkTab t) d := by
  intro j
  induction j generalizing d with
  | zero => intro hd; rw [mkTab_sz t d (by omega)]; omega
  | succ j ih =>
    intro hd
    have h1 := ih (d + 1) (by omega)
    have hdl : d < t.levels.length := by rw [mkTab_D] at hd; omega
    have ha := h.ar d hdl
    rw [← arOf_lt t d hdl] at ha
    rw [mkTab_sz t d (by omega)]
    have := Nat.mul_le_mul ha h1
    omega

end

theorem normalObj_sibs (t : Topo) (d k : Nat) (hd : d < (mkTab t).D) :
    (normalObj (envOf t) (d + 1) k).prevSib = (if k % arOf (mkTab t) d > 0 then (nid (mkTab t) (d + 1) (k - 1) : Int) else -1) ∧
    (normalObj (envOf t) (d + 1) k).nextSib = (if k % arOf (mkTab t) d + 1 < arOf (mkTab t) d then (nid (mkTab t) (d + 1) (k + 1) : Int) else -1) := by
  have h1 := ar_getD1 t d hd
  constructor
  · show (if d + 1 ≠ 0 ∧ k % (if d + 1 = 0 then 1 else (mkTab t).ar[d + 1 - 1]?.getD 1) > 0 then (nid (mkTab t) (d + 1) (k - 1) : Int) else -1) = _
    simp only [Nat.add_one_ne_zero, if_false, Nat.add_sub_cancel, h1, ne_eq, not_false_eq_true, true_and]
  · show (if d + 1 ≠ 0 ∧ k % (if d + 1 = 0 then 1 else (mkTab t).ar[d + 1 - 1]?.getD 1) + 1 < (if d + 1 = 0 then 1 else (mkTab t).ar[d + 1 - 1]?.getD 1) then (nid (mkTab t) (d + 1) (k + 1) : Int) else -1) = _
    simp only [Nat.add_one_ne_zero, if_false, Nat.add_sub_cancel, h1, ne_eq, not_false_eq_true, true_and]

theorem normalObj_children (E : DEnv) (d k : Nat) :
    (normalObj E d k).children = (List.range (arOf E.T d)).map (fun r => (nid E.T (d + 1) (k * arOf E.T d + r) : Int)) := rfl

theorem normalObj_firstChild (E : DEnv) (d k : Nat) :
    (normalObj E d k).firstChild = if arOf E.T d > 0 then (nid E.T (d + 1) (k * arOf E.T d) : Int) else -1 := rfl

theorem normalObj_lastChild (E : DEnv) (d k : Nat) :
    (normalObj E d k).lastChild = if arOf E.T d > 0 then (nid E.T (d + 1) (k * arOf E.T d + arOf E.T d - 1) : Int) else -1 := rfl

theorem numaObj_mc (E : DEnv) (d k s : Nat) (hm : (slotM E d s).msc ≠ 0) :
    (numaObj E d k s).id = memId E.T d k s + 1 ∧ (numaObj E d k s).parent = (memId E.T d k s : Int) ∧ (numaObj E d k s).rank = 0 ∧
    (numaObj E d k s).nextSib = -1 ∧ (numaObj E d k s).prevSib = -1 := by
  have hm' : ¬ ((E.T.mem[d]?.getD [])[s]?.getD ⟨0, 0⟩).msc = 0 := hm
  refine ⟨?_, ?_, ?_, ?_, ?_⟩ <;> simp only [numaObj, numaId, ne_eq, hm', not_false_eq_true, if_true]

theorem numaObj_nomc (E : DEnv) (d k s : Nat) (hm : ¬ (slotM E d s).msc ≠ 0) :
    (numaObj E d k s).id = memId E.T d k s ∧ (numaObj E d k s).parent = (nid E.T d k : Int) ∧ (numaObj E d k s).rank = s ∧
    (numaObj E d k s).nextSib = (if s + 1 < memLen E.T d then (memId E.T d k (s + 1) : Int) else -1) ∧
    (numaObj E d k s).prevSib = (if s > 0 then (memId E.T d k (s - 1) : Int) else -1) := by
  have hm' : ((E.T.mem[d]?.getD [])[s]?.getD ⟨0, 0⟩).msc = 0 := Classical.not_not.1 hm
  refine ⟨?_, ?_, ?_, ?_, ?_⟩ <;> (simp only [numaObj, numaId, memLen, ne_eq, hm', not_true_eq_false, if_false, Nat.add_zero] <;> rfl)

def firstObj (E : DEnv) (d k s : Nat) : Obj := if (slotM E d s).msc ≠ 0 then mcObj E d k s else numaObj E d k s

theorem firstObj_fields (E : DEnv) (d k s : Nat) :
    (firstObj E d k s).id = memId E.T d k s ∧ (firstObj E d k s).parent = (nid E.T d k : Int) ∧ (firstObj E d k s).rank = s ∧
    (firstObj E d k s).nextSib = (if s + 1 < memLen E.T d then (memId E.T d k (s + 1) : Int) else -1) ∧
    (firstObj E d k s).prevSib = (if s > 0 then (memId E.T d k (s - 1) : Int) else -1) ∧
    isMemory (firstObj E d k s).type = true := by
  unfold firstObj
  split
  · exact ⟨rfl, rfl, rfl, rfl, rfl, rfl⟩
  · rename_i hm
    have := numaObj_nomc E d k s hm
    exact ⟨this.1, this.2.1, this.2.2.1, this.2.2.2.1, this.2.2.2.2, rfl⟩

theorem firstObj_totalMem (E : DEnv) (d k s : Nat) : (firstObj E d k s).totalMem = (slotM E d s).mem := by
  unfold firstObj; split <;> rfl

theorem firstObj_type (E : DEnv) (d k s : Nat) :
    isNormal (firstObj E d k s).type = false ∧ isMemory (firstObj E d k s).type = true := by
  unfold firstObj; split <;> exact ⟨rfl, rfl⟩

theorem normalObj_memFirst (E : DEnv) (d k : Nat) :
    (normalObj E d k).memFirst = if memLen E.T d > 0 then (memId E.T d k 0 : Int) else -1 := rfl

/-! ### `ksOf`: the objects of depth `e` on the path through (d, k): its descendants, itself, or its ancestor -/

def ksOf (T : DTab) (d k e : Nat) : List Nat :=
  if e > d then (List.range (nOf T e / nOf T d)).map (· + k * (nOf T e / nOf T d)) else if e = d then [k] else [k / (nOf T d / nOf T e)]

theorem ksOf_self (T : DTab) (d k : Nat) : ksOf T d k d = [k] := by
  unfold ksOf; rw [if_neg (Nat.lt_irrefl d), if_pos rfl]

theorem mem_ksOf_self (T : DTab) (d k : Nat) : k ∈ ksOf T d k d := by
  rw [ksOf_self]; exact List.mem_singleton.2 rfl

theorem ksOf_above (T : DTab) (d k e : Nat) (he : e < d) : ksOf T d k e = [k / (nOf T d / nOf T e)] := by
  unfold ksOf; rw [if_neg (by omega), if_neg (by omega)]

section
variable (t : Topo) (h : OK t)
include h

theorem mem_ksOf (d k e x : Nat) (hd : d ≤ e) (he : e ≤ (mkTab t).D) :
    x ∈ ksOf (mkTab t) d k e ↔ x / (nOf (mkTab t) e / nOf (mkTab t) d) = k := by
  rcases Nat.eq_or_lt_of_le hd with rfl | hlt
  · rw [ksOf_self, Nat.div_self (nOf_pos t h d he), Nat.div_one, List.mem_singleton]
  · have hq := q_pos t h e d he hd
    unfold ksOf
    rw [if_pos hlt]
    generalize nOf (mkTab t) e / nOf (mkTab t) d = q at hq
    constructor
    · intro hx
      obtain ⟨i, hi, rfl⟩ := List.mem_map.1 hx
      show (i + k * q) / q = k
      rw [Nat.add_mul_div_right _ _ hq, Nat.div_eq_of_lt (List.mem_range.1 hi), Nat.zero_add]
    · intro hk
      exact List.mem_map.2 ⟨x % q, List.mem_range.2 (Nat.mod_lt _ hq), by rw [← hk]; exact Nat.mod_add_div' x q⟩

theorem ksOf_parent (d k' e : Nat) (hd : d < (mkTab t).D) (he : e ≤ d) :
    ksOf (mkTab t) (d + 1) k' e = ksOf (mkTab t) d (k' / arOf (mkTab t) d) e := by
  rw [ksOf_above _ _ _ _ (by omega), q_top t h d e hd he, Nat.mul_comm, ← Nat.div_div_eq_div_mul]
  rcases Nat.eq_or_lt_of_le he with rfl | hlt
  · rw [ksOf_self, Nat.div_self (nOf_pos t h e (by omega)), Nat.div_one]
  · rw [ksOf_above _ _ _ _ hlt]

theorem ksOf_le (d k' e : Nat) (hd : d < (mkTab t).D) (hk' : k' < nOf (mkTab t) (d + 1)) (he : e ≤ d) :
    ksOf (mkTab t) (d + 1) k' e = ksOf (mkTab t) d (k' / arOf (mkTab t) d) e :=
  have _ := hk'
  ksOf_parent t h d k' e hd he

theorem ksOf_child (d k' : Nat) (hd : d < (mkTab t).D) :
    ∀ e, e ≤ (mkTab t).D → ∀ x ∈ ksOf (mkTab t) (d + 1) k' e, x ∈ ksOf (mkTab t) d (k' / arOf (mkTab t) d) e := by
  intro e he x hx
  rcases Nat.lt_or_ge d e with hde | hde
  · rw [mem_ksOf t h _ _ _ _ hde he] at hx
    rw [mem_ksOf t h _ _ _ _ (by omega) he, q_succ t h e d he hde, Nat.mul_comm, ← Nat.div_div_eq_div_mul, hx]
  · rwa [← ksOf_parent t h d k' e hd hde]

theorem mem_ksOf_kids (d k e x : Nat) (hd : d < (mkTab t).D) (he : d + 1 ≤ e) (he' : e ≤ (mkTab t).D) :
    x ∈ ksOf (mkTab t) d k e ↔ ∃ r, r < arOf (mkTab t) d ∧ x ∈ ksOf (mkTab t) (d + 1) (k * arOf (mkTab t) d + r) e := by
  have ha : 0 < arOf (mkTab t) d := by rw [arOf_lt t d hd]; exact h.ar d hd
  rw [mem_ksOf t h _ _ _ _ (by omega) he', q_succ t h e d he' he, Nat.mul_comm, ← Nat.div_div_eq_div_mul]
  simp only [mem_ksOf t h _ _ _ _ he he']
  -- with q the number of depth-e objects below one of depth d + 1: x / q / ar = k iff x / q = k * ar + r for a remainder r
  exact ⟨fun hx => ⟨_, Nat.mod_lt _ ha, by rw [← hx]; exact (Nat.div_add_mod' _ _).symm⟩,
    fun ⟨r, hr, hx⟩ => by rw [hx, mul_add_div_of_lt hr]⟩

theorem ksOf_split (d k e x : Nat) (hd : d < (mkTab t).D) (hk : k < nOf (mkTab t) d) (he : d + 1 ≤ e) (he' : e ≤ (mkTab t).D)
    (hx : x ∈ ksOf (mkTab t) d k e) :
    ∃ r, r < arOf (mkTab t) d ∧ x ∈ ksOf (mkTab t) (d + 1) (k * arOf (mkTab t) d + r) e :=
  have _ := hk
  (mem_ksOf_kids t h d k e x hd he he').1 hx

theorem ksOf_disjoint (d k1 k2 e x : Nat) (hd : d ≤ e) (he : e ≤ (mkTab t).D) (hne : k1 ≠ k2)
    (h1 : x ∈ ksOf (mkTab t) d k1 e) (h2 : x ∈ ksOf (mkTab t) d k2 e) : False :=
  hne (((mem_ksOf t h d k1 e x hd he).1 h1).symm.trans ((mem_ksOf t h d k2 e x hd he).1 h2))

theorem mem_ksOf_root (e x : Nat) (he : e ≤ (mkTab t).D) : x ∈ ksOf (mkTab t) 0 0 e ↔ x < nOf (mkTab t) e := by
  rw [mem_ksOf t h 0 0 e x (Nat.zero_le _) he, nOf_zero, Nat.div_one, Nat.div_eq_zero_iff_lt (nOf_pos t h e he)]

theorem ksOf_lt (d k e x : Nat) (hd : d ≤ (mkTab t).D) (hk : k < nOf (mkTab t) d) (he : e ≤ (mkTab t).D)
    (hx : x ∈ ksOf (mkTab t) d k e) : x < nOf (mkTab t) e := by
  rcases Nat.lt_or_ge e d with hlt | hge
  · rw [ksOf_above _ _ _ _ hlt, List.mem_singleton] at hx
    rw [hx, Nat.div_lt_iff_lt_mul (q_pos t h d e hd (Nat.le_of_lt hlt)), ← q_total t d e hd (Nat.le_of_lt hlt)]
    exact hk
  · rw [mem_ksOf t h _ _ _ _ hge he] at hx
    have := (Nat.div_lt_iff_lt_mul (q_pos t h e d he hge)).1 (hx ▸ hk)
    rwa [← q_total t e d he hge] at this

end

end Hw.Syn
