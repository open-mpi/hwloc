/-
  Hw.Io.Synthetic — model of hwloc/topology-synthetic.c (property C07).

  * `typeSscanf`      hwloc_type_sscanf (traversal.c) — the whole match chain, in source order
  * `parseAttrs`      hwloc_synthetic_parse_attrs + hwloc_synthetic_parse_memory_attr
  * `processIndexes`  hwloc_synthetic_process_indexes (explicit lists, `x*y:` loops, `type:` loops)
  * `parse`           hwloc_backend_synthetic_init.  `data->level[128]` is modelled as the list of the
                      initialised slots `level[0..count-1]` plus a LOG OF EVERY INDEX `i` USED IN A
                      `data->level[i]` EXPRESSION (returned with the result AND with every error);
                      every write to the malloc'ed `loops[]` array at the running index of a notation parser is
                      guarded by a capacity test whose failure is the error `loopsOverflow`.
  (`buildTopo` and `exportChunks` are in Hw.Io.SyntheticTopo.)
-/
import Hw.Base.Num
import Hw.Topo.Types
namespace Hw.Syn
open Hw Hw.Topo

abbrev Bytes := List Byte

def maxDepth : Nat := 128          -- HWLOC_SYNTHETIC_MAX_DEPTH
def u32 : Nat := 4294967296
def u64 : Nat := 18446744073709551616
def tNONE : Nat := 4294967295      -- HWLOC_OBJ_TYPE_NONE = (hwloc_obj_type_t) -1
def tL2 : Nat := 6
def tL3 : Nat := 7
/-- largest `calloc` the harness lets succeed (ASAN_OPTIONS max_allocation_size_mb=64) -/
def allocLimit : Nat := 64 * 1024 * 1024

def isDig (c : Byte) : Bool := 48 ≤ c && c ≤ 57
def isAlpha (c : Byte) : Bool := (97 ≤ c && c ≤ 122) || (65 ≤ c && c ≤ 90)
def lower (c : Byte) : Byte := if 65 ≤ c && c ≤ 90 then c + 32 else c
def isCacheT (t : Nat) : Bool := tL1 ≤ t && t ≤ tL3I

/-! ### libc string helpers -/

/-- `strchr(s, c)` as the suffix starting at the first occurrence -/
def strchr (c : Byte) : Bytes → Option Bytes
  | [] => none
  | x :: xs => if x = c then some (x :: xs) else strchr c xs

/-- `strcspn(s, " )")` -/
def cspnSpClose : Bytes → Nat
  | [] => 0
  | x :: xs => if x = 32 ∨ x = 41 then 0 else cspnSpClose xs + 1

/-- `strspn(s, "0123456789,")` -/
def spnDigComma : Bytes → Nat
  | [] => 0
  | x :: xs => if isDig x ∨ x = 44 then spnDigComma xs + 1 else 0

/-- `!strncmp(p, s, |p|)` -/
def hasPrefix (p s : Bytes) : Bool := p.isPrefixOf s
/-- `!strncasecmp(s, p, |p|)` for a lower-case `p` -/
def hasPrefixCI (p s : Bytes) : Bool := (s.take p.length).map lower == p

/-! ### strtoul / strtol with the sign handling of glibc -/

/-- digits after optional `0x`/`0` prefix, no white space, no sign: (exact value, rest) -/
def strtoCore (base : Nat) (s1 : Bytes) : Option (Nat × Bytes) :=
  let (b, s2) : Nat × Bytes :=
    match s1 with
    | 48 :: x :: d :: r =>
      if (x == 120 || x == 88) && isDigitIn 16 d && (base == 16 || base == 0) then (16, d :: r)
      else if base == 0 then (8, s1) else (base, s1)
    | 48 :: _ => if base == 0 then (8, s1) else (base, s1)
    | _ => if base == 0 then (10, s1) else (base, s1)
  let (v, n, rest) := takeDigits b s2 0 0
  if n = 0 then none else some (v, rest)

/-- `strtoul` / `strtoull` (64-bit): value and `*endptr`.  Unsigned inputs go through `Hw.strtoul`. -/
def strtoulS (base : Nat) (s : Bytes) : Nat × Bytes :=
  match Hw.strtoul base s with
  | .ok v rest => (v, rest)
  | .unsupported =>
    match s.dropWhile isSpace with
    | sg :: r =>
      match strtoCore base r with
      | none => (0, s)
      | some (v, rest) =>
        if v > ulongMax then (ulongMax, rest)
        else if sg = 45 then ((u64 - v) % u64, rest) else (v, rest)
    | [] => (0, s)

/-- `(unsigned) strtol(s, &end, base)` -/
def strtolU32 (base : Nat) (s : Bytes) : Nat × Bytes :=
  let s1 := s.dropWhile isSpace
  let (neg, s2) : Bool × Bytes :=
    match s1 with
    | 45 :: r => (true, r)
    | 43 :: r => (false, r)
    | _ => (false, s1)
  match strtoCore base s2 with
  | none => (0, s)
  | some (v, rest) =>
    if neg then ((if v ≥ 2^63 then 0 else (u64 - v) % u32), rest)
    else ((min v (2^63 - 1)) % u32, rest)

/-! ### hwloc_type_sscanf -/

/-- `hwloc__type_match(string, type, minmatch)`: the end pointer or `none` -/
def typeMatch : Bytes → Bytes → Nat → Nat → Option Bytes
  | [], _, mm, i => if i < mm then none else some []
  | c :: cs, t, mm, i =>
    let stop : Option Bytes := if isAlpha c || c == 45 then none else if i < mm then none else some (c :: cs)
    match t with
    | tc :: ts => if c = tc ∨ c + 32 = tc then typeMatch cs ts mm (i + 1) else stop
    | [] => stop

def tm (s : Bytes) (name : String) (mm : Nat) : Bool := (typeMatch s (str name) mm 0).isSome

structure TypeRes where
  type : Nat
  depth : Nat := 4294967295      -- depthattr, `(unsigned) -1` when absent
  ctype : Int := -1              -- cachetypeattr
deriving Repr, DecidableEq

/-- `(unsigned) strtol(s, &end, 10)` where `s` starts with a digit -/
def depthAttr (s : Bytes) : Nat × Bytes :=
  let (v, _, rest) := takeDigits 10 s 0 0
  ((min v (2^63 - 1)) % u32, rest)

def typeSscanf (s : Bytes) : Option TypeRes :=
  if hasPrefixCI (str "osdev[") s then some { type := tOSDEV }
  else if hasPrefixCI (str "os[") s then some { type := tOSDEV }
  else if tm s "osdev" 2 then some { type := tOSDEV }
  else if tm s "storage" 4 || tm s "block" 4 || tm s "memory" 3 || tm s "network" 3 || tm s "ofed" 4
       || tm s "openfabrics" 7 || tm s "dma" 3 || tm s "gpu" 3 || tm s "coproc" 5 || tm s "co-processor" 6 then
    some { type := tOSDEV }
  else if tm s "machine" 2 then some { type := tMACHINE }
  else if tm s "numanode" 2 || tm s "node" 2 then some { type := tNUMA }
  else if tm s "memcache" 5 || tm s "memory-side cache" 8 then some { type := tMEMCACHE }
  else if tm s "package" 2 || tm s "socket" 2 then some { type := tPACKAGE }
  else if tm s "die" 2 then some { type := tDIE }
  else if tm s "core" 2 then some { type := tCORE }
  else if tm s "pu" 2 then some { type := tPU }
  else if tm s "misc" 4 then some { type := tMISC }
  else if tm s "bridge" 4 then some { type := tBRIDGE }
  else if tm s "hostbridge" 6 then some { type := tBRIDGE }
  else if tm s "pcibridge" 5 then some { type := tBRIDGE }
  else if tm s "pcidev" 3 then some { type := tPCI }
  else
    match s with
    | l :: d :: _ =>
      if (l == 108 || l == 76) && isDig d then
        let (depth, e) := depthAttr (s.drop 1)
        let ec := e.head?.getD 0
        if ec == 105 || ec == 73 then
          if 1 ≤ depth ∧ depth ≤ 3 then
            if (typeMatch (e.drop 1) (str "cache") 0 0).isSome then some { type := tL1I + depth - 1, depth := depth, ctype := 2 }
            else none
          else none
        else if 1 ≤ depth ∧ depth ≤ 5 then
          let (ct, suffix) : Int × Bytes :=
            if ec == 100 || ec == 68 then (1, e.drop 1)
            else if ec == 117 || ec == 85 then (0, e.drop 1)
            else (0, e)
          if (typeMatch suffix (str "cache") 0 0).isSome then some { type := tL1 + depth - 1, depth := depth, ctype := ct }
          else none
        else none
      else groupCase s
    | _ => groupCase s
where
  groupCase (s : Bytes) : Option TypeRes :=
    match typeMatch s (str "group") 2 0 with
    | some e =>
      if isDig (e.head?.getD 0) then some { type := tGROUP, depth := (depthAttr e).1 }
      else some { type := tGROUP }
    | none => none

/-! ### level data -/

structure Attr where
  type : Nat := tNONE
  depth : Nat := 4294967295
  ctype : Int := -1
  mem : Nat := 0            -- memorysize
  msc : Nat := 0            -- memorysidecachesize
deriving Repr, DecidableEq, Inhabited

/-- `struct hwloc_synthetic_indexes_s`: the `indexes=` text (pointer into the description = the suffix
starting there, and its length) and the array computed from it -/
structure Idx where
  str : Option (Bytes × Nat) := none
  arr : Option (List Nat) := none
deriving Repr, DecidableEq, Inhabited

structure Level where
  arity : Nat := 0
  width : Nat := 1          -- totalwidth
  attr : Attr := {}
  idx : Idx := {}
  attached : List Attr := []
deriving Repr, DecidableEq, Inhabited

inductive Err
  | einval           -- return -1, errno = EINVAL
  | abort            -- a failed assert() (process_indexes: `assert(nb)`, `assert(step)`, `assert(nbs)`)
  | divzero          -- integer division by zero (SIGFPE) in process_indexes
  | loopsOverflow    -- write past the `loops` array of process_indexes (proved unreachable: `C07_loops_write_safe`)
deriving Repr, DecidableEq

/-- the log of every index `i` used in a `data->level[i]` expression -/
abbrev Log := List Nat

/-! ### attributes -/

def memSuffixes : List (String × Nat × Nat) := [   -- (suffix, multiplier, length)
  ("tb", 1000000000000, 2), ("tib", 1099511627776, 3), ("gb", 1000000000, 2), ("gib", 1073741824, 3),
  ("mb", 1000000, 2), ("mib", 1048576, 3), ("kb", 1000, 2), ("kib", 1024, 3)]

/-- hwloc_synthetic_parse_memory_attr -/
def parseMemoryAttr (s : Bytes) : Nat × Bytes :=
  let (size, e) := strtoulS 0 s
  match memSuffixes.find? (fun x => hasPrefixCI (str x.1) e) with
  | some (_, mul, len) => ((size * mul) % u64, e.drop len)
  | none => (size, e)

structure AttrsAcc where
  mem : Nat := 0
  msc : Option Nat := none
  idx : Option (Bytes × Nat) := none

/-- the `while (')' != *attrs)` loop of hwloc_synthetic_parse_attrs -/
def attrsLoop (iscache : Bool) : Nat → Bytes → AttrsAcc → Except Err AttrsAcc
  | 0, _, _ => .error .einval
  | fuel + 1, s, acc =>
    match s with
    | 41 :: _ => .ok acc
    | _ =>
      let (s', acc') : Bytes × AttrsAcc :=
        if iscache && hasPrefix (str "size=") s then
          let (v, r) := parseMemoryAttr (s.drop 5); (r, { acc with mem := v })
        else if !iscache && hasPrefix (str "memory=") s then
          let (v, r) := parseMemoryAttr (s.drop 7); (r, { acc with mem := v })
        else if hasPrefix (str "memorysidecachesize=") s then
          let (v, r) := parseMemoryAttr (s.drop 20); (r, { acc with msc := some v })
        else if hasPrefix (str "indexes=") s then
          let r := s.drop 8
          let n := cspnSpClose r
          (r.drop n, { acc with idx := some (r, n) })
        else (s.drop (cspnSpClose s), acc)
      match s' with
      | 32 :: r => attrsLoop iscache fuel r acc'
      | 41 :: _ => .ok acc'
      | _ => .error .einval

/-- hwloc_synthetic_parse_attrs(attrs, &next, sattr, sind): (next_pos, sattr', sind') -/
def parseAttrs (s : Bytes) (a : Attr) (ix : Idx) : Except Err (Bytes × Attr × Idx) :=
  match strchr 41 s with
  | none => .error .einval
  | some close =>
    match attrsLoop (isCacheT a.type) (s.length + 1) s {} with
    | .error e => .error e
    | .ok acc =>
      let a' := { a with mem := acc.mem, msc := acc.msc.getD a.msc }
      let ix' := match acc.idx with
        | some p => { ix with str := some p }
        | none => ix
      .ok (close.drop 1, a', ix')

/-! ### hwloc_synthetic_process_indexes -/

structure ILoop where
  step : Nat
  nb : Nat
deriving Repr, DecidableEq

/-- hwloc_synthetic_indexes_have_duplicates: sort a copy (libc qsort) and compare neighbours -/
def haveDuplicates (a : List Nat) : Bool := !decide a.Nodup

/-- explicit list: `for(i=0; i<total; i++)` -/
def explicitLoop : Nat → Nat → Bytes → List Nat → Option (List Nat)
  | 0, _, _, acc => some acc.reverse
  | rem + 1, total, s, acc =>
    let (v, next) := strtoulS 10 s
    if next = s then none
    else if rem ≠ 0 then
      match next with
      | 44 :: r => explicitLoop rem total r ((v % u32) :: acc)
      | _ => none
    else some (((v % u32) :: acc).reverse)

/-- number of ':' in the first `len` bytes -/
def countColons (s : Bytes) (len : Nat) : Nat := ((s.take len).filter (· == 58)).length

inductive XY
  | ok (loops : List ILoop)
  | fail
  | err (e : Err)
deriving Repr, DecidableEq

/-- the `x*y:z*t` parser.  `cap` = number of slots of the malloc'ed `loops` array, `m` = `attr+length - tmp`
(bytes of the `indexes=` text not yet consumed), `nbs` = the running product of the counts -/
def xyLoop (cap total : Nat) : Nat → Bytes → Nat → Nat → List ILoop → XY
  | 0, _, _, _, _ => .fail
  | fuel + 1, s, m, nbs, acc =>
    let (step, t2) := strtolU32 0 s
    if t2 = s then .fail else
    match t2 with
    | 42 :: t2' =>
      if step = 0 then .fail else
      let (nb, t3) := strtolU32 0 t2'
      if t3 = t2' then .fail else
      let c3 := t3.head?
      if c3.isSome && c3 != some 58 && c3 != some 41 && c3 != some 32 then .fail
      else if nb = 0 then .fail
      else if nb > total / nbs then .fail                      -- more iterations than objects (nbs *= nb must not wrap)
      else if acc.length ≥ cap then .err .loopsOverflow        -- loops[cur_loop].step = ...
      else
        let acc := acc ++ [⟨step, nb⟩]
        if c3 = some 41 ∨ c3 = some 32 then .ok acc
        else
          -- tmp = tmp3+1;  if (tmp >= attr+length) fail   (trailing ':')
          let consumed := s.length - t3.length + 1
          if consumed ≥ m then .fail
          else xyLoop cap total fuel (t3.drop 1) (m - consumed) ((nbs * nb) % u64) acc
    | _ => .fail

def lvAt (L : List Level) (i : Nat) : Level := L[i]?.getD {}

/-- the scan `for(i=0; ; i++)` over `data->level[i]` looking for a type; returns (result, indexes read) -/
def scanLevels (levels : List Level) (t : TypeRes) : Nat → Nat → Log → Option Nat × Log
  | 0, _, log => (none, log)
  | fuel + 1, i, log =>
    let log := i :: log
    let l := lvAt levels i
    if l.arity = 0 then (none, log)
    else if l.attr.type = t.type ∧ ¬ (t.type = tGROUP ∧ t.depth ≠ 4294967295 ∧ t.depth ≠ l.attr.depth) then (some i, log)
    else scanLevels levels t fuel (i + 1) log

inductive TY
  | ok (depths : List Nat)
  | fail
  | err (e : Err)
deriving Repr, DecidableEq

/-- the `type1:type2:...` parser; `off` = `tmp - attr` -/
def tyLoop (levels : List Level) (cap len : Nat) : Nat → Bytes → Nat → List Nat → Log → TY × Log
  | 0, _, _, _, log => (.fail, log)
  | fuel + 1, s, off, acc, log =>
    match typeSscanf s with
    | none => (.fail, log)
    | some t =>
      if t.type = tMISC ∨ t.type = tBRIDGE ∨ t.type = tPCI ∨ t.type = tOSDEV then (.fail, log) else
      let (r, log) := scanLevels levels t (maxDepth + 1) 0 log
      if acc.length ≥ cap then (.err .loopsOverflow, log) else     -- loops[cur_loop].level_depth = ...
      match r with
      | none => (.fail, log)
      | some d =>
        let acc := acc ++ [d]
        match strchr 58 s with
        | none => (.ok acc, log)
        | some c =>
          -- if (tmp > attr+length) break;
          let o := off + (s.length - c.length)
          if o > len then (.ok acc, log) else tyLoop levels cap len fuel (c.drop 1) (o + 1) acc log

inductive TYC
  | ok (loops : List ILoop) (minstep nbs : Nat)
  | fail
  | err (e : Err)
deriving Repr, DecidableEq

/-- "compute actual loop step/nb": `rest` = the loops still to do, `k` = cur_loop -/
def tyCompute (levels : List Level) (total : Nat) (depths : List Nat) :
    List Nat → Nat → List ILoop → Nat → Nat → Log → TYC × Log
  | [], _, loops, minstep, nbs, log => (.ok loops minstep nbs, log)
  | my :: rest, k, loops, minstep, nbs, log =>
    if (List.range depths.length).any (fun i => depths[i]?.getD 0 == my && i != k) then (.fail, log) else
    let prev := depths.foldl (fun p d => if d < my ∧ d > p then d else p) 0
    let wmy := (lvAt levels my).width
    let wprev := (lvAt levels prev).width
    let log := prev :: my :: my :: my :: log
    if wmy > total then (.fail, log)                   -- a level below the indexed one
    else if wmy = 0 ∨ wprev = 0 then (.err .divzero, log)
    else
      let step := (total / wmy) % u32
      let nb := (wmy / wprev) % u32
      if nb = 0 ∨ step = 0 then (.err .abort, log)
      else tyCompute levels total depths rest (k + 1) (loops ++ [⟨step, nb⟩]) (min minstep step) ((nbs * nb) % u64) log

def genArray (total : Nat) (loops : List ILoop) : List Nat :=
  (List.range total).map (fun j =>
    (loops.foldl (fun (p : Nat × Nat) l => ((p.1 + ((j / l.step) % l.nb) * p.2) % u32, (p.2 * l.nb) % u32)) (0, 1)).1)

/-- the acceptance test of a generated array: every value below `total`, no second 0, no duplicate -/
def arrayOk (total : Nat) (a : List Nat) : Bool :=
  (List.range total).all (fun j => let v := a[j]?.getD 0; decide (v < total) && !(v == 0 && j != 0)) && !haveDuplicates a

/-- from the loops to the array: the missing innermost loop, generation, checks -/
def finishLoops (total : Nat) (loops : List ILoop) (minstep nbs : Nat) : Except Err (Option (List Nat)) :=
  if nbs = 0 then .error .abort else
  let loops? : Option (List ILoop) :=
    if nbs ≠ total then
      if minstep = total / nbs then some (loops ++ [⟨1, (total / nbs) % u32⟩]) else none
    else some loops
  match loops? with
  | none => .ok none
  | some loops =>
    let a := genArray total loops
    if arrayOk total a then .ok (some a) else .ok none

inductive PI
  | arr (a : Option (List Nat))     -- `indexes->array` afterwards (none = NULL)
  | err (e : Err)
deriving Repr, DecidableEq

def piOf (r : Except Err (Option (List Nat))) : PI :=
  match r with
  | .ok a => .arr a
  | .error e => .err e

/-- hwloc_synthetic_process_indexes(data, indexes, total): the array and the `level[]` indexes used -/
def processIndexes (levels : List Level) (ix : Idx) (total : Nat) : PI × Log :=
  match ix.str with
  | none => (.arr ix.arr, [])
  | some (s, len) =>
    -- total > UINT_MAX: indexes ignored;  or calloc fails
    if total > u32 - 1 ∨ total * 4 > allocLimit then (.arr none, [])
    else if spnDigComma s = len then
      match explicitLoop total total s [] with
      | some a => (.arr (if haveDuplicates a then none else some a), [])
      | none => (.arr none, [])
    else
      let nr := 1 + countColons s len
      if isDig (s.head?.getD 0) then
        match xyLoop (nr + 1) total (s.length + 1) s len 1 [] with
        | .fail => (.arr none, [])
        | .err e => (.err e, [])
        | .ok loops =>
          -- minstep / nbs accumulate over every parsed pair, the generation uses loops[0..nr_loops-1]
          let minstep := loops.foldl (fun m l => min m l.step) (total % u32)
          let nbs := loops.foldl (fun p l => (p * l.nb) % u64) 1
          (piOf (finishLoops total (loops.take nr) minstep nbs), [])
      else
        match tyLoop levels (nr + 1) len (s.length + 1) s 0 [] [] with
        | (.fail, log) => (.arr none, log)
        | (.err e, log) => (.err e, log)
        | (.ok depths0, log) =>
          let depths := depths0.take nr
          match tyCompute levels total depths depths 0 [] (total % u32) 1 log with
          | (.fail, log) => (.arr none, log)
          | (.err e, log) => (.err e, log)
          | (.ok loops minstep nbs, log) => (piOf (finishLoops total loops minstep nbs), log)

/-! ### hwloc_backend_synthetic_init -/

structure Loop where
  levels : List Level
  numaNr : Nat := 0
  numaIdx : Idx := {}
  total : Nat := 1          -- totalarity
  log : Log := []
deriving Repr

/-- results carry the access log, errors too -/
abbrev R (α : Type) := Except (Err × Log) α

def updLevel (l : List Level) (i : Nat) (f : Level → Level) : List Level :=
  match l[i]? with
  | some x => l.set i (f x)
  | none => l

def disallowedLevelType (t : Nat) : Bool :=
  t == tMACHINE || t == tMEMCACHE || t == tMISC || t == tBRIDGE || t == tPCI || t == tOSDEV

/-- `[attached]` item; `p` = the text after '[' -/
def attachedStep (p : Bytes) (st : Loop) : R (Loop × Bytes) :=
  let count := st.levels.length
  match typeSscanf p with
  | none => .error (.einval, st.log)
  | some t =>
    if t.type ≠ tNUMA then .error (.einval, st.log) else
    let w := (lvAt st.levels (count - 1)).width
    let log := (count - 1) :: (count - 1) :: st.log        -- level[count-1].totalwidth, .attached
    match strchr 93 p with
    | none => .error (.einval, log)
    | some close =>
      let a0 : Attr := { type := tNUMA, mem := 0, msc := 0 }
      let res : Except Err (Attr × Idx) :=
        match strchr 40 p with
        | some op =>
          if op.length > close.length then
            match parseAttrs (op.drop 1) a0 st.numaIdx with
            | .ok (_, a, ix) => .ok (a, ix)
            | .error e => .error e
          else .ok (a0, st.numaIdx)
        | none => .ok (a0, st.numaIdx)
      match res with
      | .error e => .error (e, log)
      | .ok (a, ix) =>
        let lv2 := updLevel st.levels (count - 1) (fun l => { l with attached := l.attached ++ [a] })
        let st2 : Loop := { st with numaIdx := ix, numaNr := (st.numaNr + w) % u64, levels := lv2, log := log }
        .ok (st2, close.drop 1)

/-- a normal level; `c` = the first byte of `pos` -/
def levelStep (c : Byte) (pos : Bytes) (st : Loop) : R (Loop × Bytes) :=
  let count := st.levels.length
  -- data->level[count] is written (several fields) and data->level[count-1].arity at the end
  let log := (count - 1) :: count :: st.log
  let tr : Except Err (TypeRes × Bytes) :=
    if !isDig c then
      let t? : Option TypeRes :=
        match typeSscanf pos with
        | some t => some t
        | none => if hasPrefix (str "Tile") pos || hasPrefix (str "Module") pos then some { type := tGROUP } else none
      match t? with
      | none => .error .einval
      | some t =>
        if disallowedLevelType t.type then .error .einval else
        match strchr 58 pos with
        | none => .error .einval
        | some r => .ok (t, r.drop 1)
    else .ok ({ type := tNONE }, pos)
  match tr with
  | .error e => .error (e, log)
  | .ok (t, pos) =>
    let attr : Attr :=
      if isCacheT t.type then { type := t.type, depth := t.depth, ctype := t.ctype }
      else if t.type = tGROUP then { type := t.type, depth := t.depth }
      else { type := t.type }
    let (item, next) := strtoulS 0 pos
    if next = pos then .error (.einval, log)
    else if item = 0 then .error (.einval, log)
    else if item > ulongMax / st.total then .error (.einval, log)      -- the total number of objects would wrap
    else
      let total := (st.total * item) % u64
      let res : Except Err (Bytes × Attr × Idx) :=
        match next with
        | 40 :: r => parseAttrs r attr {}
        | _ => .ok (next, attr, {})
      match res with
      | .error e => .error (e, log)
      | .ok (next, attr, ix) =>
        if count + 1 ≥ maxDepth then .error (.einval, log)
        else if item > u32 - 1 then .error (.einval, log)
        else
          let lv : Level := { arity := 0, width := total, attr := attr, idx := ix, attached := [] }
          let lv2 := updLevel st.levels (count - 1) (fun l => { l with arity := item }) ++ [lv]
          let st2 : Loop := { st with total := total, log := log, levels := lv2 }
          .ok (st2, next)

/-- one iteration of `for (pos = description, count = 1; *pos; pos = next_pos)`; `none` = left through `break` -/
def loopBody (pos : Bytes) (st : Loop) : R (Loop × Option Bytes) :=
  let count := st.levels.length
  -- data->level[count-1].arity = 0;
  let st : Loop := { st with levels := updLevel st.levels (count - 1) (fun l => { l with arity := 0 }),
                             log := (count - 1) :: st.log }
  let pos := pos.dropWhile (fun c => c == 32 || c == 10)
  match pos with
  | [] => .ok (st, none)
  | c :: r =>
    if c = 91 then
      match attachedStep r st with
      | .ok (st', next) => .ok (st', some next)
      | .error e => .error e
    else
      match levelStep c (c :: r) st with
      | .ok (st', next) => .ok (st', some next)
      | .error e => .error e

def mainLoop : Nat → Bytes → Loop → R Loop
  | 0, _, st => .ok st
  | fuel + 1, pos, st =>
    match pos with
    | [] => .ok st
    | _ =>
      match loopBody pos st with
      | .error e => .error e
      | .ok (st', none) => .ok st'
      | .ok (st', some next) => mainLoop fuel next st'

structure Parsed where
  levels : List Level
  numaNr : Nat
  numaIdx : Idx
  log : Log
deriving Repr

def typeCount (levels : List Level) (t : Nat) : Nat := ((levels.drop 1).filter (fun l => l.attr.type == t)).length

def setType (levels : List Level) (i : Nat) (t : Nat) (depth : Nat := 4294967295) (ctype : Int := -1) (keep : Bool := true) : List Level :=
  updLevel levels i (fun l => { l with attr := if keep then { l.attr with type := t } else { l.attr with type := t, depth := depth, ctype := ctype } })

/-- hwloc_synthetic_set_default_attrs; returns the attribute and the new `type_count[GROUP]` -/
def setDefaultAttrs (a : Attr) (gcount : Int) : Attr × Int :=
  if a.type = tGROUP then
    if a.depth = 4294967295 then ({ a with depth := (gcount % (u32 : Int)).toNat }, gcount - 1) else (a, gcount)
  else if isCacheT a.type then
    if a.mem = 0 then
      if a.depth = 1 then ({ a with mem := 32 * 1024 }, gcount)
      else ({ a with mem := ((256 * 1024) <<< (2 * a.depth)) % u64 }, gcount)
    else (a, gcount)
  else if a.type = tNUMA ∧ a.mem = 0 then ({ a with mem := 1024 * 1024 * 1024 }, gcount)
  else (a, gcount)

/-- one guarded assignment `if (c) data->level[i].attr.type = t; ...` together with its log entry -/
def condSet (c : Bool) (i t : Nat) (depth : Nat) (ctype : Int) (keep : Bool) (p : List Level × Log) : List Level × Log :=
  if c then (setType p.1 i t depth ctype keep, i :: p.2) else p

/-- the numbers of levels of each default kind (lines 825-847): (neednuma, needpack, needcore, needcaches, needgroups) -/
def needs (count numaNr : Nat) : Nat × Nat × Nat × Nat × Nat :=
  let c := count - 2
  let neednuma := if c ≥ 1 ∧ numaNr = 0 then 1 else 0
  let c := c - neednuma
  let needpack := if c ≥ 1 then 1 else 0
  let c := c - needpack
  let needcore := if c ≥ 1 then 1 else 0
  let c := c - needcore
  let needcaches := if c > 4 then 4 else c
  (neednuma, needpack, needcore, needcaches, c - needcaches)

/-- default type assignment for untyped levels (lines 823-899): new levels, indexes written,
whether a NUMA level was assigned, number of Group levels assigned -/
def assignDefaultTypes (levels : List Level) (count numaNr : Nat) : List Level × Log × Bool × Nat :=
  let (neednuma, needpack, needcore, needcaches, needgroups) := needs count numaNr
  let p0 : List Level × Log :=
    (List.range needgroups).foldl (fun p i => condSet true (1 + i) tGROUP 4294967295 (-1) true p) (levels, [])
  let l3 := 1 + needgroups + needpack + neednuma
  let l2 := l3 + (if needcaches ≥ 3 then 1 else 0)
  let l1 := l2 + 1
  let l1i := l1 + 1
  let cd := 1 + needgroups + needpack + neednuma + needcaches
  let p := condSet (needpack == 1) (1 + needgroups) tPACKAGE 4294967295 (-1) true p0
  let p := condSet (neednuma == 1) (1 + needgroups + needpack) tNUMA 4294967295 (-1) true p
  let p := condSet (decide (needcaches ≥ 3)) l3 tL3 3 0 false p
  let p := condSet (decide (needcaches ≥ 1)) l2 tL2 2 0 false p
  let p := condSet (decide (needcaches ≥ 2)) l1 tL1 1 1 false p
  let p := condSet (decide (needcaches ≥ 4)) l1i tL1I 1 2 false p
  let p := condSet (needcore == 1) cd tCORE 4294967295 (-1) true p
  (p.1, p.2, neednuma == 1, needgroups)

/-- "enforce a NUMA level": the list view of `memmove(&level[2], &level[1], (count-1)*sizeof)` and of the
assignments to level[1] / level[0]; the log holds the slots read (1..count-1) and written (2..count, 1, 0) -/
def insertNuma (levels : List Level) (count : Nat) : List Level × Log :=
  match levels with
  | l0 :: rest =>
    let nl : Level := { arity := l0.arity, width := l0.width,
                        attr := { (rest.head?.getD {}).attr with type := tNUMA, mem := 0, msc := 0 }, idx := {}, attached := [] }
    ({ l0 with arity := 1 } :: nl :: rest, [0, 0, 0, 1, 1, 1, 1, 1, 1, 1] ++ ((List.range (count + 1)).drop 1))
  | [] => (levels, [])

structure Fin2 where
  levels : List Level
  gcount : Int
  log : Log

/-- the loop `for (i=0; i<count; i++)` at the end of init -/
def defaultsLoop : List Nat → Fin2 → R Fin2
  | [], st => .ok st
  | i :: rest, st =>
    let l := lvAt st.levels i
    let (a, g) := setDefaultAttrs l.attr st.gcount
    let att := l.attached.map (fun x => (setDefaultAttrs x g).1)
    let levels := updLevel st.levels i (fun l => { l with attr := a, attached := att })
    let (r, rl) := processIndexes levels l.idx l.width
    let log := rl ++ (i :: st.log)
    match r with
    | .err e => .error (e, log)
    | .arr arr =>
      defaultsLoop rest { levels := updLevel levels i (fun l => { l with idx := { l.idx with arr := arr } }),
                          gcount := g, log := log }

/-- the terminating `arity = 0`, the last level becomes the PU level, the sanity checks (lines 744-822) -/
def sanity (st : Loop) : R (List Level × Log) :=
  let count := st.levels.length
  -- data->level[count-1].arity = 0;  then the test of level[count-1].attr.type (twice) and its assignment
  let levels0 := updLevel st.levels (count - 1) (fun l => { l with arity := 0 })
  let last := lvAt levels0 (count - 1)
  let log := (count - 1) :: (count - 1) :: (count - 1) :: (count - 1) :: st.log
  if last.attr.type ≠ tNONE ∧ last.attr.type ≠ tPU then .error (.einval, log) else
  let levels := setType levels0 (count - 1) tPU
  let log := (List.range count).drop 1 ++ log               -- type_count loop: level[count-1 .. 1]
  if typeCount levels tPU = 0 then .error (.einval, log)
  else if typeCount levels tPU > 1 then .error (.einval, log)
  else if typeCount levels tPACKAGE > 1 then .error (.einval, log)
  else if typeCount levels tDIE > 1 then .error (.einval, log)
  else if typeCount levels tNUMA > 1 then .error (.einval, log)
  else if typeCount levels tNUMA ≠ 0 ∧ st.numaNr ≠ 0 then .error (.einval, log)
  else if typeCount levels tCORE > 1 then .error (.einval, log)
  else
    let unset := (((levels.drop 1).take (count - 2)).filter (fun l => l.attr.type == tNONE)).length
    let log := ((List.range (count - 1)).drop 1) ++ log
    if unset ≠ 0 ∧ unset ≠ count - 2 then .error (.einval, log) else .ok (levels, log)

/-- default types and the implicit NUMA level (lines 823-918): levels, log, type_count[GROUP] -/
def typesAndNuma (st : Loop) (levels : List Level) (log : Log) : List Level × Log × Int :=
  let count := levels.length
  let unset := (((levels.drop 1).take (count - 2)).filter (fun l => l.attr.type == tNONE)).length
  let r : List Level × Log × Bool × Nat :=
    if unset ≠ 0 then assignDefaultTypes levels count st.numaNr
    else (levels, [], typeCount levels tNUMA ≠ 0, 0)
  let gcount : Int := (typeCount st.levels tGROUP + r.2.2.2 : Nat)
  let log := r.2.1 ++ log
  if !r.2.2.1 ∧ st.numaNr = 0 then
    let q := insertNuma r.1 count
    (q.1, q.2 ++ log, gcount)
  else (r.1, log, gcount)

/-- everything after the parsing loop -/
def finish (st : Loop) : R Parsed :=
  match sanity st with
  | .error e => .error e
  | .ok (levels, log) =>
    let (levels, log, gcount) := typesAndNuma st levels log
    match defaultsLoop (List.range levels.length) { levels := levels, gcount := gcount, log := log } with
    | .error e => .error e
    | .ok f =>
      let (r, rl) := processIndexes f.levels st.numaIdx st.numaNr
      let log := rl ++ f.log
      match r with
      | .err e => .error (e, log)
      | .arr arr => .ok { levels := f.levels, numaNr := st.numaNr, numaIdx := { st.numaIdx with arr := arr }, log := log }

/-- hwloc_backend_synthetic_init(data, description) -/
def parse (s : Bytes) : R Parsed :=
  let l0 : Level := { arity := 0, width := 1, attr := { type := tMACHINE, mem := 0, msc := 0 }, idx := {}, attached := [] }
  let log0 : Log := [0, 0, 0, 0, 0, 0, 0]
  let r0 : Except Err (Bytes × Level) :=
    if s.head? = some 40 then
      match parseAttrs (s.drop 1) l0.attr l0.idx with
      | .ok (next, a, ix) => .ok (next, { l0 with attr := a, idx := ix })
      | .error e => .error e
    else .ok (s, l0)
  match r0 with
  | .error e => .error (e, 0 :: 0 :: log0)
  | .ok (pos, l0) =>
    match mainLoop (pos.length + 1) pos { levels := [l0], log := log0 } with
    | .error e => .error e
    | .ok st => finish st

/-- the access log of a run, whatever its outcome -/
def logOf (r : R Parsed) : Log :=
  match r with
  | .ok p => p.log
  | .error (_, log) => log

end Hw.Syn
