/-
  Hw.Io.CalcAttrLemmas — lemmas about the attribute options of hwloc-calc (model: Hw/Io/CalcAttr.lean):
  the location fold over (operator, set) pairs and the order of the filters inside `hwloc_calc_output`.
-/
import Hw.Io.CalcAttr
namespace Hw.Calc
open Hw Hw.Topo

/-- `hwloc_calc_append_set` folded over (operator, set) pairs -/
def foldModes (acc : Bitmap) (l : List (Mode × Bitmap)) : Bitmap := l.foldl (fun a p => applyMode p.1 a p.2) acc

theorem outputX_eq_output (c : Ctx) (x : Extra) (k : Option Nat) (s : St) (xs : XSt) (cfg : OutCfg) (cpuset nodeset : Bitmap)
    (hl : xs.localMem = false) :
    outputX c x k s xs cfg {} cpuset nodeset = output c s cfg (cpusetAfterKind k cpuset) (nodesetAfterDefault c.d xs nodeset) := by
  unfold outputX
  cases hlg : s.largest
  · simp [hl]
  · simp

end Hw.Calc
