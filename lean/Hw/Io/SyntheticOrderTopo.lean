/-
  Hw.Io.SyntheticOrderTopo — what `orderTopo` establishes: the PU index sequence of `orderTopo rm ls pu numa` is the leaf list
  of `mkNode`, which for a duplicate-free `pu` with an entry per PU lists the children of every object in the order of their
  smallest PU os_index.  Hence `puOK` and the normal-children half of `sibOK` (`sibNormalOK`) hold when the result is `topoOK`
  (`orderTopo_sib`), and `buildTopo` returns only `orderTopo` of a duplicate-free `pu` (`buildTopo_isOrd`).
-/
import Hw.Io.SyntheticMkNode
import Hw.Io.SyntheticWFAll
namespace Hw.Syn
open Hw Hw.Topo


/-- the two halves of `sibOK` -/
def sibNormalOK (t : Topo) : Bool :=
  (List.range (mkTab t).D).all (fun d => (List.range (nOf (mkTab t) (d + 1))).all (fun k =>
    !(decide (k % arOf (mkTab t) d + 1 < arOf (mkTab t) d)) ||
      decide (minL (cpuList t (d + 1) k) < minL (cpuList t (d + 1) (k + 1)))))

def sibMemOK (t : Topo) : Bool :=
  (List.range ((mkTab t).D + 1)).all (fun d => (List.range (nOf (mkTab t) d)).all (fun k =>
    (List.range (memLen (mkTab t) d)).all (fun s =>
      !(decide (s + 1 < memLen (mkTab t) d)) ||
        decide (nu t (postPos (mkTab t) (numaCnt (mkTab t)) d k s) < nu t (postPos (mkTab t) (numaCnt (mkTab t)) d k s + 1)))))

theorem sibOK_split (t : Topo) : sibOK t = (sibNormalOK t && sibMemOK t) := rfl

def arities (t : Topo) : List Nat := t.levels.map (·.arity)

theorem cpuList_block (t : Topo) (d k : Nat) : cpuList t d k = blockOf t.puIdx (wOf (mkTab t) d) k := rfl

theorem final_arities (ls : List NLevel) (f : Nat → List Int) :
    ((List.range ls.length).map (fun j => { (ls[j]?.getD { type := 0, arity := 0 }) with os := none, osIdx := f j })).map (·.arity) = ls.map (·.arity) := by
  apply List.ext_getElem?
  intro i
  simp only [List.getElem?_map]
  by_cases hi : i < ls.length
  · simp [List.getElem?_range hi, List.getElem?_eq_getElem hi]
  · simp [hi]

theorem orderTopo_shape (rm : List MemChild) (l0 : List NLevel) (pu numa : List Nat) :
    ∃ (ls : List NLevel) (att : List Nat) (osf : List (Nat → Int)),
      (orderTopo rm l0 pu numa).puIdx = (mkNode pu (ls.map (·.arity)) att osf (0, 0)).1.leaves ∧
      arities (orderTopo rm l0 pu numa) = ls.map (·.arity) := by
  unfold arities orderTopo
  simp only []
  refine ⟨_, _, _, rfl, ?_⟩
  exact final_arities _ _

section
variable (t : Topo) (h : OK t)

theorem arities_len : (arities t).length = (mkTab t).D := by unfold arities; rw [List.length_map, mkTab_D]

theorem ar_eq (d : Nat) (hd : d < (mkTab t).D) : arOf (mkTab t) d = (arities t)[d]?.getD 0 := by
  rw [mkTab_D] at hd
  rw [arOf_lt t d hd]
  unfold arities lvl
  rw [List.getElem?_map, List.getElem?_eq_getElem hd]
  rfl

include h

theorem arities_pos : ∀ a ∈ arities t, 1 ≤ a := by
  intro a ha
  unfold arities at ha
  obtain ⟨l, hl, rfl⟩ := List.mem_map.1 ha
  obtain ⟨j, hj, rfl⟩ := List.getElem_of_mem hl
  have := h.ar j hj
  unfold lvl at this
  rw [List.getElem?_eq_getElem hj] at this
  exact this

omit h in
theorem nOf_cnt : ∀ d, d ≤ (mkTab t).D → nOf (mkTab t) d = cntA (arities t) d := by
  intro d
  induction d with
  | zero => intro _; rw [nOf_zero, cntA_zero]
  | succ d ih =>
    intro hd
    have hd' : d < (mkTab t).D := hd
    rw [nOf_succ t d hd', ih (Nat.le_of_lt hd'), cntA_succ _ d (by rw [arities_len t]; exact hd'), ar_eq t d hd']

omit h in
theorem nOf_D_prod : nOf (mkTab t) (mkTab t).D = prodL (arities t) := by
  rw [nOf_cnt t _ (Nat.le_refl _), ← arities_len t]
  unfold cntA
  rw [List.take_length]

theorem wOf_wid (d : Nat) (hd : d ≤ (mkTab t).D) : wOf (mkTab t) d = widA (arities t) d := by
  unfold wOf
  rw [nOf_D_prod t, nOf_cnt t d hd, ← cntA_widA (arities t) d]
  exact Nat.mul_div_cancel_left _ (by rw [← nOf_cnt t d hd]; exact nOf_pos t h d hd)

theorem sibNormal_of_ord (ho : Ord (arities t) t.puIdx) : sibNormalOK t = true := by
  unfold sibNormalOK
  simp only [List.all_eq_true, List.mem_range, Bool.or_eq_true, Bool.not_eq_true', decide_eq_false_iff_not, decide_eq_true_eq,
    ← Decidable.imp_iff_not_or]
  intro d hd k hk hn
  have hlen := arities_len t
  have hw := wOf_wid t h (d + 1) hd
  rw [cpuList_block, cpuList_block, hw]
  apply ord_slices (arities t) t.puIdx (arities_pos t h) ho d (by omega) k
  · rw [← nOf_cnt t (d + 1) hd]; exact hk
  · rw [← ar_eq t d hd]; exact hn

end

theorem orderTopo_sibNormal_of_puOK (rm : List MemChild) (l0 : List NLevel) (pu numa : List Nat)
    (hOK : topoOK (orderTopo rm l0 pu numa) = true) (hp : puOK (orderTopo rm l0 pu numa) = true) :
    sibNormalOK (orderTopo rm l0 pu numa) = true := by
  have h := topoOK_OK _ hOK
  obtain ⟨ls, att, osf, hpu, har⟩ := orderTopo_shape rm l0 pu numa
  have hpos := arities_pos _ h
  rw [har] at hpos
  unfold puOK at hp
  simp only [Bool.and_eq_true, decide_eq_true_eq, beq_iff_eq] at hp
  have hnd := hp.1
  rw [hpu] at hnd
  obtain ⟨_, _, s3⟩ := mkNode_ord_of_nodup pu (ls.map (·.arity)) att osf 0 0 hpos hnd
  rw [← hpu, ← har] at s3
  exact sibNormal_of_ord _ h s3

theorem orderTopo_sib (rm : List MemChild) (l0 : List NLevel) (pu numa : List Nat) (hnd : pu.Nodup)
    (hOK : topoOK (orderTopo rm l0 pu numa) = true) (hlen : prodL (arities (orderTopo rm l0 pu numa)) ≤ pu.length) :
    puOK (orderTopo rm l0 pu numa) = true ∧ sibNormalOK (orderTopo rm l0 pu numa) = true := by
  have h := topoOK_OK _ hOK
  obtain ⟨ls, att, osf, hpu, har⟩ := orderTopo_shape rm l0 pu numa
  rw [har] at hlen
  have hle : 0 + prodL (ls.map (·.arity)) ≤ pu.length := by rw [Nat.zero_add]; exact hlen
  obtain ⟨s1, s2, _⟩ := window_facts pu hnd _ 0 _ hle (mkNode_perm pu (ls.map (·.arity)) att osf 0 0 hle).2
  rw [← hpu] at s1 s2
  have hp : puOK (orderTopo rm l0 pu numa) = true := by
    unfold puOK
    simp only [Bool.and_eq_true, decide_eq_true_eq, beq_iff_eq]
    exact ⟨s2, by rw [s1, nOf_D_prod _, har]⟩
  exact ⟨hp, orderTopo_sibNormal_of_puOK rm l0 pu numa hOK hp⟩

theorem build_wf_of_order (rm : List MemChild) (l0 : List NLevel) (pu numa : List Nat) (hnd : pu.Nodup)
    (hOK : topoOK (orderTopo rm l0 pu numa) = true) (hlen : prodL (arities (orderTopo rm l0 pu numa)) ≤ pu.length)
    (hm : memOK (orderTopo rm l0 pu numa) = true) (hn : numaOK (orderTopo rm l0 pu numa) = true)
    (hs : sibMemOK (orderTopo rm l0 pu numa) = true) : WF (toDump (orderTopo rm l0 pu numa)) := by
  obtain ⟨h1, h2⟩ := orderTopo_sib rm l0 pu numa hnd hOK hlen
  exact build_wf _ hOK h1 hm hn (by rw [sibOK_split, h2, hs]; rfl)

def IsOrd (o : Option Topo) : Prop := ∀ t, o = some t → ∃ rm ls pu numa, pu.Nodup ∧ t = orderTopo rm ls pu numa

theorem isOrd_none : IsOrd none := by intro t h; cases h

theorem isOrd_ite (c : Prop) [Decidable c] (a b : Option Topo) (ha : c → IsOrd a) (hb : ¬ c → IsOrd b) : IsOrd (if c then a else b) := by
  split
  · exact ha ‹_›
  · exact hb ‹_›

theorem isOrd_chain (f : List Nat) (rm : List MemChild) (ls : List NLevel) (pu numa : List Nat) (h : pu.Nodup) :
    IsOrd (buildTopo.chainOk f (orderTopo rm ls pu numa)) := by
  unfold buildTopo.chainOk
  exact isOrd_ite _ _ _ (fun _ t ht => ⟨rm, ls, pu, numa, h, (Option.some.inj ht).symm⟩) (fun _ => isOrd_none)

theorem buildTopo_isOrd (f : List Nat) (p : Parsed) : IsOrd (buildTopo f p) := by
  -- the `if` tree of the definition is walked branch by branch: `split` and `simp` exhaust their budget on it
  unfold buildTopo
  extract_lets mcf hasMsc L0 L n ar ty pul puIdx grpNone ks
  refine isOrd_ite _ _ _ (fun _ => isOrd_none) (fun _ => ?_)
  refine isOrd_ite _ _ _ (fun _ => isOrd_none) (fun _ => ?_)
  refine isOrd_ite _ _ _ (fun _ => isOrd_none) (fun hc => ?_)
  have hnd : puIdx.Nodup := by simpa using hc
  clear_value ks
  rcases ks with _ | ⟨k, _ | ⟨k2, t⟩⟩
  · refine isOrd_ite _ _ _ (fun _ => isOrd_none) (fun _ => ?_)
    refine isOrd_ite _ _ _ (fun _ => isOrd_none) (fun _ => ?_)
    refine isOrd_ite _ _ _ (fun _ => isOrd_none) (fun _ => ?_)
    exact isOrd_chain f _ _ _ _ hnd
  · refine isOrd_ite _ _ _ (fun _ => isOrd_none) (fun _ => ?_)
    refine isOrd_ite _ _ _ (fun _ => isOrd_none) (fun _ => ?_)
    refine isOrd_ite _ _ _ (fun _ => isOrd_none) (fun _ => ?_)
    refine isOrd_ite _ _ _ (fun _ => ?_) (fun _ => ?_)
    · refine isOrd_ite _ _ _ (fun _ => isOrd_none) (fun _ => ?_)
      exact isOrd_chain f _ _ _ _ hnd
    refine isOrd_ite _ _ _ (fun _ => ?_) (fun _ => ?_)
    · refine isOrd_ite _ _ _ (fun _ => ?_) (fun _ => ?_)
      · exact isOrd_chain f _ _ _ _ hnd
      refine isOrd_ite _ _ _ (fun _ => isOrd_none) (fun _ => ?_)
      exact isOrd_chain f _ _ _ _ hnd
    refine isOrd_ite _ _ _ (fun _ => ?_) (fun _ => ?_)
    · exact isOrd_chain f _ _ _ _ hnd
    refine isOrd_ite _ _ _ (fun _ => ?_) (fun _ => isOrd_none)
    exact isOrd_chain f _ _ _ _ hnd
  · exact isOrd_none

theorem buildTopo_sibNormal (f : List Nat) (p : Parsed) (t : Topo) (hb : buildTopo f p = some t)
    (hOK : topoOK t = true) (hp : puOK t = true) : sibNormalOK t = true := by
  obtain ⟨rm, ls, pu, numa, _, rfl⟩ := buildTopo_isOrd f p t hb
  exact orderTopo_sibNormal_of_puOK rm ls pu numa hOK hp

theorem build_wf_of_buildTopo (f : List Nat) (p : Parsed) (t : Topo) (hb : buildTopo f p = some t)
    (hOK : topoOK t = true) (hp : puOK t = true) (hm : memOK t = true) (hn : numaOK t = true) (hs : sibMemOK t = true) :
    WF (toDump t) :=
  build_wf t hOK hp hm hn (by rw [sibOK_split, buildTopo_sibNormal f p t hb hOK hp, hs]; rfl)

end Hw.Syn
