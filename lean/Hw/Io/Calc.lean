/-
  Hw.Io.Calc — model of the command-line tools hwloc-calc (utils/hwloc/hwloc-calc.h 47-799 and
  hwloc-calc.c 98-904) and hwloc-distrib (utils/hwloc/hwloc-distrib.c) over a topology `Dump`.

  * strings are byte lists (`List Byte`), an argv is a list of them;
  * the two accumulators (cpuset, nodeset) are representation-exact `Bitmap`s (C03 model) — user supplied raw sets
    may be infinite; the sets of topology objects are the finite `Nat` masks of the dump (`ofMask` / `maskOf` convert);
  * the location grammar (`hwloc_calc_process_location_as_set`): operator prefix `~ x ^`, `all`/`root`, raw sets in the
    hwloc / list / taskset formats (C04 parsers, incl. the format guess), `type:range(.type:range)*` with
    `hwloc_calc_parse_level` (C11 type parser, `HBM`/`MCDRAM`, numeric depth) and `hwloc_calc_parse_range`
    (`N`, `N-M`, `N-`, `N:M` wrap-around, `all`/`odd`/`even`), logical or physical indexes, special levels by index,
    `os=name`, `misc=name`;
  * the option loop of `main()` is a left fold over argv with the option state *at that point* (as in the C);
  * the output stage (`hwloc_calc_output`): `--no-smt`, `--single`, `--largest`, `-N`, `-I`, `-H`, set printing in the
    hwloc / list / taskset / systemd-dbus-api formats, `--sep`, `--oo`, `-p -l --po --lo`, `-n --ni --no`;
  * the stdin mode (no location on the command line);
  * bracket filters (`[tier=N]`, `[subtype=S]`, `[S]`, PCI `[vendor:device]`), `pci=busid`;
  * results: `exit rc out` (`out = none`: stdout not predicted, e.g. after `-v`) and `skip` (feature outside the model:
    cpukind / memorytier pseudo levels, --local-memory / --best-memattr / --default-nodes / --cpukind (these are followed by
    `calcMainX`, Hw/Io/CalcAttr.lean), --help / --version,
    numbers with white space or signs where libc would accept them).  `--restrict` is applied by the harness to the topology
    whose dump the model receives (the tool must compute what the library call defines).
  The model follows the code after the fix commits F40-F44 (reversed ranges and non-positive widths rejected, open ranges
  beyond the level width empty, invalid -N -I -H types fail, unnamed objects skipped by os=/misc=, hwloc-distrib number checked).
-/
import Hw.Bitmap.Scan
import Hw.Topo.Helpers
import Hw.Topo.Distrib
import Hw.Io.TypeStr
namespace Hw.Calc
open Hw Hw.Topo

abbrev Bytes := List Byte

/-! ### sets -/

/-- a finite mask as a bitmap (`hwloc_bitmap_dup` of a topology set) -/
def ofMask (m : Nat) : Bitmap :=
  Bitmap.build (m.log2 / 64 + 1) (fun k => BitVec.ofNat 64 (m >>> (64 * k))) false

/-- the members of `b` below `64 * max b.count nw` as a mask (all of them when `b` is finite) -/
def maskOf (b : Bitmap) (nw : Nat) : Nat :=
  ((List.range (max b.count nw)).map b.readWord).foldr (fun w acc => w.toNat + 2 ^ 64 * acc) 0

inductive Mode | add | clr | and | xor
deriving Repr, DecidableEq

/-- hwloc_calc_append_set -/
def applyMode (m : Mode) (acc new : Bitmap) : Bitmap :=
  match m with
  | .add => acc.or new
  | .clr => acc.andnot new
  | .and => acc.and new
  | .xor => acc.xor new

/-! ### context -/

structure Ctx where
  d : Dump
  nw : Nat            -- number of 64-bit words that cover every set of the topology

def allBits (d : Dump) : Nat :=
  d.objs.foldl (fun acc o => acc ||| cs o ||| nsOf o ||| o.ccpuset.getD 0 ||| o.cnodeset.getD 0) 0

def mkCtx (d : Dump) : Ctx := { d := d, nw := (allBits d).log2 / 64 + 1 }

def Ctx.mask (c : Ctx) (b : Bitmap) : Nat := maskOf b c.nw

/-! ### small string helpers -/

def lowerB (c : Byte) : Byte := if 65 ≤ c ∧ c ≤ 90 then c + 32 else c
def ciEq (a b : Bytes) : Bool := a.map lowerB == b.map lowerB
def isDigitB (c : Byte) : Bool := decide (48 ≤ c) && decide (c ≤ 57)
def startsWith (s p : Bytes) : Bool := s.take p.length == p
/-- `strcspn(s, ":=.[")` -/
def cspnLevel (s : Bytes) : Nat := (s.takeWhile (fun c => !(c == 58 || c == 61 || c == 46 || c == 91))).length
def bytesOfStr (s : Option String) : Option Bytes := s.map str

/-! ### hwloc_calc_parse_level -/

structure Level where
  depth : Int
  type : Int := -1           -- HWLOC_OBJ_TYPE_NONE
  ostypes : Nat := 0         -- attr.osdev.types (read only when type = OS_DEVICE)
  onlyHbm : Int := -1
  subtype : Bytes := []      -- level->subtype ("" = no filter)
  memoryTier : Int := -1
  pciVendor : Int := -1
  pciDevice : Int := -1
deriving Repr, DecidableEq

inductive PL
  | ok (l : Level)
  | err (depth : Int) (l : Option Level := none)   -- return -1 with level->depth as given (and the level built so far: the
                                                    -- location callers go on with it when the depth is a real one)
  | unmodelled
deriving Repr, DecidableEq

def toI32 (v : Nat) : Int := let w : Nat := v % 2 ^ 32; if w < 2 ^ 31 then (w : Int) else (w : Int) - 2 ^ 32

/-- hwloc_get_type_depth_with_attr for the attributes hwloc_type_sscanf produced -/
def typeDepthWithAttr (d : Dump) (p : TypeStr.Parsed) : Int :=
  let depth := typeDepth d p.type
  if p.type == tGROUP && depth == depthMultiple && p.depth != TypeStr.u32m1 then
    match (List.range d.depth).find? (fun (l : Nat) => match objByDepth d (Int.ofNat l) 0 with
        | some o => o.type == tGROUP && (o.attrs[0]?).getD 0 == (p.depth : Int)
        | none => false) with
    | some l => (l : Int)
    | none => depthUnknown
  else depth

/-- libc atoi: white space, optional sign, digits (no overflow handling: values stay far below 2^31 in practice) -/
def atoiB (s : Bytes) : Int :=
  let s1 := s.dropWhile isSpace
  let (neg, body) := match s1 with | 45 :: r => (true, r) | 43 :: r => (false, r) | _ => (false, s1)
  let v := (takeDigits 10 body 0 0).1
  if neg then -(v : Int) else (v : Int)

/-- sscanf `%x` at the start of `s`: `none` = outside the model (white space, sign, more than 8 digits, a bare `0x`),
    `some none` = no conversion, `some (some (v, rest))` -/
def scanHex (s : Bytes) : Option (Option (Nat × Bytes)) :=
  match s with
  | [] => some none
  | c :: _ =>
    if isSpace c || c == 43 || c == 45 then none else
    let pre : Option Bytes := match s with
      | 48 :: x :: r => if x == 120 || x == 88 then (match r with
          | dgt :: _ => if isDigitIn 16 dgt then some r else none
          | [] => none) else some s
      | _ => some s
    match pre with
    | none => none
    | some body =>
      let (v, n, rest) := takeDigits 16 body 0 0
      if n = 0 then some none else if n > 8 then none else some (some (v, rest))

inductive PF
  | ok (l : Level)
  | err
  | unmodelled
deriving Repr, DecidableEq

/-- "assume it's a subtype": the text up to ']' (at most 31 bytes) -/
def filterSubtype (l : Level) (cur : Bytes) : PF :=
  match cur.findIdx? (· == 93) with
  | none => .unmodelled                  -- strchr() = NULL: cannot happen, the type string ends with ']'
  | some k => .ok { l with subtype := (cur.take k).take 31 }

/-- hwloc_calc_parse_level_filter; `f` = the text after '[' -/
def parseFilter (l : Level) (f : Bytes) : PF :=
  if startsWith f (str "tier=") then .ok { l with memoryTier := atoiB (f.drop 5) }
  else if startsWith f (str "subtype=") then filterSubtype l (f.drop 8)
  else if l.type == (tPCI : Int) then
    match scanHex f with
    | none => .unmodelled
    | some (some (v, rest)) =>
      -- "%x:%x]" gives 2, otherwise ":%x]" cannot match and "%x:]" gives 1
      match rest with
      | 58 :: r2 => match scanHex r2 with
        | none => .unmodelled
        | some (some (dv, _)) => .ok { l with pciVendor := toI32 v, pciDevice := toI32 dv }
        | some none => .ok { l with pciVendor := toI32 v }
      | _ => .ok { l with pciVendor := toI32 v }
    | some none =>
      match f with
      | 58 :: r2 => match scanHex r2 with
        | none => .unmodelled
        | some (some (dv, _)) => .ok { l with pciDevice := toI32 dv }
        | some none => if startsWith f (str ":]") then .ok l else .err
      | _ => if f.contains 58 then .err else filterSubtype l f
  else filterSubtype l f

/-- hwloc_calc_parse_level(lcontext, topology, typestring[0..typelen), &level); `hbm` = lcontext->only_hbm (-1 without lcontext) -/
def parseLevel (d : Dump) (hbm : Int) (s : Bytes) : PL :=
  if s.length ≥ 21 then .err depthUnknown else
  match TypeStr.typeSscanf s with
  | .oobS => .unmodelled
  | .oobT => .unmodelled
  | .ok (some p) =>
    let depth := typeDepthWithAttr d p
    if depth == depthUnknown || depth == depthMultiple then .err depth
    else
      let l : Level := { depth := depth, type := p.type, ostypes := p.ostype, onlyHbm := hbm }
      -- "don't use filters for OSdev if it was already parsed as OS*[osdev.types]"
      if p.type == tOSDEV && ciEq (s.take 2) (str "os") && s.length ≥ 2 && p.ostype != 0 then .ok l
      else match s.findIdx? (· == 91) with
        | none => .ok l
        | some k => match parseFilter l (s.drop (k + 1)) with
          | .ok l' => .ok l'
          | .err => .err depth (some l)
          | .unmodelled => .unmodelled
  | .ok none =>
    if ciEq s (str "HBM") || ciEq s (str "MCDRAM") then .ok { depth := -3, type := tNUMA, onlyHbm := 1 }
    else match s with
      | 45 :: _ => .err depthUnknown
      | _ => match strtoul 0 s with
        | .unsupported => .unmodelled
        | .ok v rest =>
          if !rest.isEmpty then .err depthUnknown
          else
            let dp := toI32 v
            if dp ≥ (d.depth : Int) then .err depthUnknown
            else .ok { depth := dp, type := -1, onlyHbm := hbm }

/-- hwloc_calc_check_object_filtered: 1 = the object is filtered out -/
def filtered (l : Level) (o : Obj) : Bool :=
  if !l.subtype.isEmpty && (match o.subtype with | none => true | some st => !ciEq l.subtype (str st)) then true
  else if l.type == (tNUMA : Int) then
    (l.memoryTier ≥ 0 && (match o.infos.find? (fun i => i.1 == "MemoryTier") with
        | none => true
        | some i => atoiB (str i.2) != l.memoryTier)) ||
    (l.onlyHbm ≥ 0 && (l.onlyHbm != (if o.subtype == some "MCDRAM" then 1 else 0)))
  else if l.type == (tPCI : Int) then
    let vd := ((o.attrs[5]?).getD 0).toNat
    (l.pciVendor != -1 && ((vd / 65536 : Nat) : Int) != l.pciVendor) || (l.pciDevice != -1 && ((vd % 65536 : Nat) : Int) != l.pciDevice)
  else if l.type == (tOSDEV : Int) then
    l.ostypes != 0 && ((o.attrs[0]?).getD 0).toNat &&& l.ostypes == 0
  else false

/-! ### hwloc_calc_parse_range -/

structure Range where
  first : Nat
  amount : Int
  step : Nat
  wrap : Bool
deriving Repr, DecidableEq

inductive PR
  | ok (r : Range)
  | err
  | unmodelled
deriving Repr, DecidableEq

/-- libc strtol(s, &end, 10) for the suffix of a range: optional sign, then digits; (value, digits consumed?, rest);
    `none` = outside the model (leading white space, |value| ≥ 2^31) -/
def strtolDigits (neg : Bool) (orig : Bytes) (td : Nat × Nat × Bytes) : Option (Int × Bool × Bytes) :=
  if td.2.1 = 0 then some (0, false, orig)
  else if td.1 ≥ 2 ^ 31 then none
  else some (if neg then -(td.1 : Int) else (td.1 : Int), true, td.2.2)

def strtolSuffix (s : Bytes) : Option (Int × Bool × Bytes) :=
  match s with
  | [] => some (0, false, [])
  | c :: r =>
    if isSpace c then none
    else strtolDigits (c == 45) s (takeDigits 10 (if c == 45 || c == 43 then r else s) 0 0)

/-- the text before the first '.' and what follows the dot -/
def splitDot (s : Bytes) : Bytes × Option Bytes :=
  let a := s.takeWhile (· != 46)
  if a.length < s.length then (a, some (s.drop (a.length + 1))) else (a, none)

/-- what follows the first index `first` of a range -/
def rangeTail (first : Nat) (e : Bytes) : PR :=
  match e with
  | 45 :: e1 =>
    match strtolSuffix e1 with
    | none => .unmodelled
    | some x =>
      if !x.2.2.isEmpty then .err
      else if !x.2.1 then .ok ⟨first, -1, 1, false⟩            -- X-
      else if x.1 < (first : Int) then .err                    -- "invalid range with last index lower than first"
      else .ok ⟨first, x.1 - first + 1, 1, false⟩              -- X-Y
  | 58 :: e1 =>
    match strtolSuffix e1 with
    | none => .unmodelled
    | some x =>
      if !x.2.2.isEmpty then .err
      else if !x.2.1 then .err                                 -- "missing width"
      else if x.1 ≤ 0 then .err                                -- "invalid width"
      else .ok ⟨first, x.1, 1, true⟩                           -- X:Y
  | [] => .ok ⟨first, 1, 1, false⟩
  | _ :: _ => .err

def rangeOfDigits (td : Nat × Nat × Bytes) : PR :=
  if td.1 ≥ 2 ^ 31 then .unmodelled else rangeTail td.1 td.2.2

def parseRange (string : Bytes) : PR :=
  if string.length ≥ 65 then .err else
  match string with
  | [] => .err
  | c :: _ =>
    if !isDigitB c then
      if startsWith string (str "all") then .ok ⟨0, -1, 1, false⟩
      else if startsWith string (str "odd") then .ok ⟨1, -1, 2, false⟩
      else if startsWith string (str "even") then .ok ⟨0, -1, 2, false⟩
      else .err
    else rangeOfDigits (takeDigits 10 string 0 0)

/-! ### hwloc_calc_append_object_range -/

/-- the objects of a level that hwloc_calc_get_{nbobjs,obj}_inside_sets_by_depth consider -/
def levelInside (d : Dump) (rc rn : Nat) (l : Level) : List Obj :=
  (cousinsFrom d (objByDepth d l.depth 0)).filter (fun o =>
    !(cs o != 0 && !intersects (cs o) rc) && !(nsOf o != 0 && !intersects (nsOf o) rn) &&
    !(cs o == 0 && nsOf o == 0) && !filtered l o)

/-- hwloc_calc_get_obj_inside_sets_by_depth -/
def objInside (objs : List Obj) (logical : Bool) (i : Nat) : Option Obj :=
  if logical then objs[i]? else objs.find? (fun o => o.osidx == (i : Int))

/-- the loop `for(i=first, j=0; j<(unsigned)amount; i+=step, j++)`: the objects found, in order -/
def rangeLoop (objs : List Obj) (logical wrap : Bool) (width step : Nat) : Nat → Nat → List Obj
  | 0, _ => []
  | j+1, i =>
    let i := if wrap && i ≥ width then 0 else i
    match objInside objs logical i with
    | some o => o :: rangeLoop objs logical wrap width step j (i + step)
    | none => rangeLoop objs logical wrap width step j (i + step)

inductive AR
  | ok (err : Bool) (objs : List Obj)    -- return value (-1 = err) and the objects handed to the callback
  | unmodelled
deriving Repr, DecidableEq

/-- loops longer than this are not evaluated by the model (answer `skip`) -/
def modelLimit : Nat := 4096

/-- the bound `(unsigned) amount` of the loop over the objects of a level of `width` objects:
    `if (amount == -1) amount = (unsigned) first >= width ? 0 : (width-first+step-1)/step;` -/
def rangeIters (r : Range) (width : Nat) : Nat :=
  if r.amount == -1 then (if r.first ≥ width then 0 else (width - r.first + r.step - 1) / r.step)
  else (r.amount % 2 ^ 32).toNat

/-- nested results: the first non-`ok` wins, otherwise the concatenation (return values of the recursive calls are ignored) -/
def joinAR : List AR → AR
  | [] => .ok false []
  | .ok _ l :: r => (match joinAR r with | .ok _ l' => .ok false (l ++ l') | x => x)
  | x :: _ => x

def appendObjectRange (d : Dump) (hbm : Int) (logical : Bool) : Nat → Nat → Nat → Level → Bytes → AR
  | 0, _, _, _, _ => .unmodelled
  | fuel+1, rc, rn, level, string =>
    let dot := (splitDot string).2
    match parseRange (splitDot string).1 with
    | .unmodelled => .unmodelled
    | .err => .ok true []
    | .ok r =>
      -- assert(amount != -1 || !wrap) holds for every accepted range (`parseRange_amount`)
      -- the sublevel is parsed before the loop
      let next : Except AR (Option (Level × Bytes)) :=
        match dot with
        | none => .ok none
        | some ns =>
          let tl := (let len := cspnLevel ns
                     if (ns[len]?) != some 91 then len
                     else match (ns.drop len).findIdx? (· == 93) with
                       | some k => len + k + 1
                       | none => 0)
          if tl == 0 || (ns[tl]?) != some 58 then .error (.ok true [])
          else match parseLevel d hbm (ns.take tl) with
            | .unmodelled => .error .unmodelled
            | .err dp lv =>
              -- only an unknown / multiple depth makes the caller return; a filter error leaves a usable level
              (match lv with
               | some nl => if dp == depthUnknown || dp == depthMultiple || (nl.depth < 0 && nl.depth != -3) then .error (.ok true [])
                            else .ok (some (nl, ns.drop (tl + 1)))
               | none => .error (.ok true []))
            | .ok nl =>
              if nl.depth < 0 && nl.depth != -3 then .error (.ok true [])
              else .ok (some (nl, ns.drop (tl + 1)))
      match next with
      | .error e => e
      | .ok nx =>
        let objs := levelInside d rc rn level
        let width := objs.length
        let iters := rangeIters r width
        if iters > modelLimit then .unmodelled
        else
          let found := rangeLoop objs logical r.wrap width r.step iters r.first
          match nx with
          | none => .ok false found
          | some (nl, rest) =>
            joinAR (found.map (fun o => appendObjectRange d hbm logical fuel (cs o) (nsOf o) nl rest))

/-! ### hwloc_calc_append_iodev_by_index -/

structure IoSt where
  i : Nat
  wrap : Bool
  first : Int
  amount : Int
  prev : Option Nat := none     -- id of the first object used
  acc : List Obj := []
  done : Bool := false

def iodevLoop (objs : List Obj) (l : Level) (step : Nat) : Nat → IoSt → IoSt
  | 0, s => s
  | f+1, s =>
    let max := objs.length
    if s.done || !(s.i < max * ((if s.wrap then 1 else 0) + 1)) then s else
    let s : IoSt := if s.i == max && s.wrap then { s with i := 0, wrap := false } else s
    match objs[s.i]? with
    | none => { s with done := true }           -- assert(obj)
    | some o =>
      if s.prev == some o.id then { s with done := true }
      else if filtered l o then iodevLoop objs l step f { s with i := s.i + 1 }
      else if s.first != 0 then iodevLoop objs l step f { s with i := s.i + 1, first := s.first - 1 }
      else
        let s : IoSt := { s with first := s.first - 1, acc := s.acc ++ [o], prev := s.prev.orElse (fun _ => some o.id), amount := s.amount - 1 }
        if s.amount == 0 then { s with done := true }
        else iodevLoop objs l step f { s with i := s.i + 1, first := (step : Int) - 1 }

/-- `string` starts at the separator (':') -/
def appendIodevByIndex (d : Dump) (level : Level) (string : Bytes) : AR :=
  match string with
  | [] => .unmodelled
  | _ :: cur =>
    let (rstr, dot) := splitDot cur
    let pr := parseRange rstr
    if dot.isSome then (match pr with | .unmodelled => .unmodelled | _ => .ok true []) else
    match pr with
    | .unmodelled => .unmodelled
    | .err => .ok true []
    | .ok r =>
      let objs := levelObjs d level.depth
      let s := iodevLoop objs level r.step (2 * objs.length + 4) { i := 0, wrap := r.wrap, first := (r.first : Int), amount := r.amount }
      .ok false s.acc

/-! ### hwloc_calc_process_location + the set callback -/

/-- `while (obj && !obj->cpuset) obj = obj->parent;` then the two sets -/
def cbSets (d : Dump) (o : Obj) : Nat × Nat :=
  match climbWhile d (fun a => a.cpuset.isNone) d.fuel (some o) with
  | some a => (cs a, nsOf a)
  | none => (0, 0)

/-- `if (obj->name && !strcmp(obj->name, name)) return obj;` over a level -/
def findByName (objs : List Obj) (name : Bytes) : Option Obj :=
  objs.find? (fun o => match o.name with | none => false | some n => str n == name)

/-- hex fields separated by the given characters (sscanf "%x:%x:%x.%x"): `none` outside the model, `some none` = fewer conversions -/
def scanFields (s : Bytes) : List Byte → Option (Option (List Nat))
  | [] => match scanHex s with
    | none => none
    | some none => some none
    | some (some (v, _)) => some (some [v])
  | sep :: seps => match scanHex s with
    | none => none
    | some none => some none
    | some (some (v, rest)) => match rest with
      | c :: r => if c == sep then (match scanFields r seps with
          | none => none
          | some none => some none
          | some (some vs) => some (some (v :: vs))) else some none
      | [] => some none

/-- hwloc_get_pcidev_by_busidstring: domain:bus:dev.func, else bus:dev.func in domain 0 -/
def parseBusid (s : Bytes) : Option (Option (Nat × Nat × Nat × Nat)) :=
  match scanFields s [58, 58, 46] with
  | none => none
  | some (some [a, b, c, e]) => some (some (a, b, c, e))
  | _ => match scanFields s [58, 46] with
    | none => none
    | some (some [b, c, e]) => some (some (0, b, c, e))
    | _ => some none

def processLocation (d : Dump) (logical : Bool) (arg : Bytes) (typelen : Nat) : AR :=
  let sep := arg.drop typelen
  let lv : Option (Option Level) := match parseLevel d (-1) (arg.take typelen) with
    | .unmodelled => none
    | .err dp l => if dp == depthUnknown || dp == depthMultiple then some none else some l
    | .ok level => some (some level)
  match lv with
  | none => .unmodelled
  | some none => .ok true []
  | some (some level) =>
    if level.depth < 0 && level.depth != -3 then
      match sep with
      | 58 :: _ => appendIodevByIndex d level sep
      | 61 :: name =>
        if level.type == (tPCI : Int) then
          match parseBusid name with
          | none => .unmodelled
          | some none => .ok true []
          | some (some b) =>
            match (cousinsFrom d (objByDepth d (-5) 0)).find? (fun o =>
                (o.attrs.take 4).map Int.toNat == [b.1, b.2.1, b.2.2.1, b.2.2.2]) with
            | some o => .ok false [o]
            | none => .ok true []
        else if level.type == (tOSDEV : Int) || level.type == (tMISC : Int) then
          match findByName (cousinsFrom d (objByDepth d level.depth 0)) name with
          | none => .ok true []
          | some o => .ok false [o]
        else .ok true []
      | _ => .ok true []
    else
      match d.rootObj? with
      | none => .unmodelled
      | some r => appendObjectRange d (-1) logical (arg.length + 1) (r.ccpuset.getD 0) (r.cnodeset.getD 0) level (sep.drop 1)

/-! ### hwloc_calc_process_location_as_set -/

inductive Fmt | hwloc | list | systemd | taskset
deriving Repr, DecidableEq

def guessFmt (s : Bytes) : Fmt :=
  if !(ciEq (s.take 2) (str "0x") && s.length ≥ 2) && s.contains 45 then .list
  else if s.contains 44 then .hwloc
  else .taskset

def scanSet (fmt : Option Fmt) (s : Bytes) : Bitmap.ScanRes :=
  match fmt.getD (guessFmt s) with
  | .hwloc => Bitmap.hwlocScan s
  | .list => Bitmap.listScan s
  | .taskset => Bitmap.tasksetScan s
  | .systemd => .unsupported

inductive Loc
  | sets (c n : Bitmap)      -- the argument denotes these two sets
  | ignored                  -- "ignored unrecognized argument"
  | unmodelled
deriving Repr, DecidableEq

def splitMode (arg : Bytes) : Mode × Bytes :=
  match arg with
  | 126 :: r => (.clr, r)
  | 120 :: r => (.and, r)
  | 94 :: r => (.xor, r)
  | _ => (.add, arg)

/-- hwloc_calc_parse_level_size -/
def levelSize (s : Bytes) : Nat :=
  let len := cspnLevel s
  if (s[len]?) != some 91 then len
  else match (s.drop len).findIdx? (· == 93) with
    | some k => len + k + 1
    | none => 0

/-- the two sets an argument (operator prefix removed) denotes -/
def locSets (c : Ctx) (logical nodesetIn : Bool) (cif : Option Fmt) (arg : Bytes) : Loc :=
  let d := c.d
  if arg == str "all" || arg == str "root" then
    match d.rootObj? with
    | some r => .sets (ofMask (cs r)) (ofMask (nsOf r))
    | none => .unmodelled
  else
    let tl := levelSize arg
    if tl != 0 && ((arg[tl]?) == some 58 || (arg[tl]?) == some 61) then
      match processLocation d logical arg tl with
      | .unmodelled => .unmodelled
      | .ok true _ => .ignored
      | .ok false objs =>
        let cn := objs.foldl (fun (acc : Nat × Nat) o => let s := cbSets d o; (acc.1 ||| s.1, acc.2 ||| s.2)) (0, 0)
        .sets (ofMask cn.1) (ofMask cn.2)
    else
      match scanSet cif arg with
      | .unsupported => .unmodelled
      | .fail => .ignored
      | r@(.ok _ _) =>
        match r.bitmap? with
        | none => .unmodelled          -- a word left uninitialised by the parser
        | some b =>
          if !nodesetIn then .sets b (ofMask (cpusetToNodeset d (c.mask b)))
          else .sets (ofMask (cpusetFromNodeset d (c.mask b))) b

/-! ### the option state and the argv fold of main() -/

structure St where
  verbose : Int := 0
  logicalI : Bool := true
  logicalO : Bool := true
  nodesetI : Bool := false
  nodesetO : Bool := false
  objectO : Bool := false
  numberOf : Option Bytes := none
  intersect : Option Bytes := none
  hier : Option Bytes := none
  largest : Bool := false
  sep : Option Bytes := none
  single : Bool := false
  noSmt : Option Nat := none
  cof : Fmt := .hwloc
  cif : Option Fmt := none
  cpuset : Bitmap := Bitmap.alloc
  nodeset : Bitmap := Bitmap.alloc
  nlocs : Nat := 0
  outKnown : Bool := true        -- false once something unpredicted went to stdout (verbose > 0)

inductive Res
  | exit (rc : Nat) (out : Option Bytes)
  | skip (why : String)
deriving Repr, DecidableEq

def parseFmt (s : Bytes) : Option Fmt :=
  if s == str "hwloc" then some .hwloc else if s == str "list" then some .list
  else if s == str "systemd-dbus-api" then some .systemd else if s == str "taskset" then some .taskset else none

def flagOpts : List String :=
  ["-v", "--verbose", "-q", "--quiet", "--no-smt", "--largest", "-l", "--logical", "--li", "--logical-input", "--lo",
   "--logical-output", "-p", "--physical", "--pi", "--physical-input", "--po", "--physical-output", "-n", "--nodeset",
   "--ni", "--nodeset-input", "--no", "--nodeset-output", "--oo", "--object-output", "--single", "--taskset"]
def argOpts : List String :=
  ["--number-of", "-N", "--intersect", "-I", "--hierarchical", "-H", "--sep", "--cpuset-output-format", "--cof",
   "--nodeset-output-format", "--nof", "--cpuset-input-format", "--cif"]
/-- options the C accepts but the model does not follow -/
def skipOpts : List String :=
  ["-h", "--help", "--version", "--default-nodes", "--local-memory", "--local-memory-flags", "--best-memattr"]
def topoOpts : List String :=
  ["--disallowed", "--whole-system", "--restrict", "--restrict-flags", "--cpukind", "--input", "-i", "--input-format", "--if"]

def isOpt (l : List String) (a : Bytes) : Bool := l.any (fun s => str s == a)

/-- one location argument: `hwloc_calc_process_location_as_set` + the two `hwloc_calc_append_set` -/
def stepLoc (c : Ctx) (s : St) (arg : Bytes) : Except Res St :=
  let mode := (splitMode arg).1
  match locSets c s.logicalI s.nodesetI s.cif (splitMode arg).2 with
  | .unmodelled => .error (.skip "location")
  | .ignored => .ok s
  | .sets cset nset =>
    .ok { s with cpuset := applyMode mode s.cpuset cset, nodeset := applyMode mode s.nodeset nset, nlocs := s.nlocs + 1,
                 outKnown := s.outKnown && decide (s.verbose ≤ 0) }

def atoiDigits (s : Bytes) : Option Nat :=
  if s.all isDigitB && !s.isEmpty && s.length ≤ 9 then some (takeDigits 10 s 0 0).1 else none

/-- a flag option (no argument) -/
def stepFlag (s : St) (a : Bytes) : St :=
  if a == str "-v" || a == str "--verbose" then { s with verbose := s.verbose + 1 }
  else if a == str "-q" || a == str "--quiet" then { s with verbose := s.verbose - 1 }
  else if a == str "--no-smt" then { s with noSmt := some 0 }
  else if a == str "--largest" then { s with largest := true }
  else if a == str "-l" || a == str "--logical" then { s with logicalI := true, logicalO := true }
  else if a == str "--li" || a == str "--logical-input" then { s with logicalI := true }
  else if a == str "--lo" || a == str "--logical-output" then { s with logicalO := true }
  else if a == str "-p" || a == str "--physical" then { s with logicalI := false, logicalO := false }
  else if a == str "--pi" || a == str "--physical-input" then { s with logicalI := false }
  else if a == str "--po" || a == str "--physical-output" then { s with logicalO := false }
  else if a == str "-n" || a == str "--nodeset" then { s with nodesetI := true, nodesetO := true }
  else if a == str "--ni" || a == str "--nodeset-input" then { s with nodesetI := true }
  else if a == str "--no" || a == str "--nodeset-output" then { s with nodesetO := true }
  else if a == str "--oo" || a == str "--object-output" then { s with objectO := true }
  else if a == str "--single" then { s with single := true }
  else if a == str "--taskset" then { s with cof := .taskset }
  else s

/-- an option with one argument; `none` = exit(EXIT_FAILURE) -/
def stepArgOpt (s : St) (a v : Bytes) : Option St :=
  if a == str "--number-of" || a == str "-N" then some { s with numberOf := some v }
  else if a == str "--intersect" || a == str "-I" then some { s with intersect := some v }
  else if a == str "--hierarchical" || a == str "-H" then some { s with hier := some v }
  else if a == str "--sep" then some { s with sep := some v }
  else if a == str "--cpuset-input-format" || a == str "--cif" then
    match parseFmt v with
    | none => none
    | some .systemd => none
    | some f => some { s with cif := some f }
  else
    match parseFmt v with
    | none => none
    | some f => some { s with cof := f, nodesetO := s.nodesetO || a == str "--nodeset-output-format" || a == str "--nof" }

/-- the second `while (argc >= 1)` loop of main() -/
def argLoop (c : Ctx) : St → List Bytes → Except Res St
  | s, [] => .ok s
  | s, a :: rest =>
    if a.head? == some 45 then
      if isOpt skipOpts a then .error (.skip "option")
      else if startsWith a (str "--no-smt=") then
        match atoiDigits (a.drop 9) with
        | some n => argLoop c { s with noSmt := some n } rest
        | none => .error (.skip "no-smt-value")
      else if isOpt flagOpts a then argLoop c (stepFlag s a) rest
      else if isOpt argOpts a then
        match rest with
        | [] => .error (.exit 1 (if s.outKnown then some [] else none))
        | v :: rest' =>
          match stepArgOpt s a v with
          | none => .error (.exit 1 (if s.outKnown then some [] else none))
          | some s' => argLoop c s' rest'
      else .error (.exit 1 (if s.outKnown then some [] else none))     -- incl. --disallowed after the topology options
    else
      match stepLoc c s a with
      | .error e => .error e
      | .ok s' => argLoop c s' rest

/-! ### hwloc_calc_output -/

def typeObj (o : Obj) : TypeStr.Obj :=
  let a (i : Nat) : Nat := ((o.attrs[i]?).getD 0).toNat
  if isDCache o.type || isICache o.type || o.type == tMEMCACHE then { type := o.type, depth := a 1, ctype := a 4 }
  else if o.type == tGROUP then { type := o.type, depth := a 0 }
  else if o.type == tBRIDGE then { type := o.type, upstream := a 0 }
  else if o.type == tOSDEV then { type := o.type, ostypes := a 0 }
  else { type := o.type }

def typeName (o : Obj) (flags : Nat) : Option Bytes := TypeStr.typeText (typeObj o) flags

def idxText (logical : Bool) (o : Obj) : Option Bytes :=
  if logical then some (decDigits o.lidx) else if o.osidx < 0 then none else some (decDigits o.osidx.toNat)

def joinSep (sep : Bytes) : List Bytes → Bytes
  | [] => []
  | [x] => x
  | x :: r => x ++ sep ++ joinSep sep r

/-- the `--largest` loop: the objects printed; `false` = "No object included in this cpuset" (after the listed ones) -/
def largestLoop (c : Ctx) : Nat → Bitmap → List Obj → List Obj × Bool
  | 0, _, acc => (acc, false)
  | f+1, remaining, acc =>
    if remaining.iszero then (acc, true) else
    match firstLargest c.d (c.mask remaining) with
    | none => (acc, false)
    | some o => largestLoop c f (remaining.andnot (ofMask (cs o))) (acc ++ [o])

/-- hwloc_calc_intersects_set -/
def intersectsSet (c : Ctx) (cm nm : Nat) (o : Obj) : Bool :=
  let useN := isMemory o.type
  match climbWhile c.d (fun a => isSpecial a.type) c.d.fuel (some o) with
  | none => false
  | some a => if useN then intersects nm (nsOf a) else intersects cm (cs a)

/-- the objects the `-N` / `-I` loops visit before the filter test -/
def coveringObjs (c : Ctx) (cm nm : Nat) (l : Level) : List Obj :=
  (cousinsFrom c.d (objByDepth c.d l.depth 0)).filter (intersectsSet c cm nm)

/-- `-N`: the number printed -/
def numberOfCount (c : Ctx) (cm nm : Nat) (l : Level) : Nat :=
  (coveringObjs c cm nm l).countP (fun o => !filtered l o)

/-- `-I`: the objects listed -/
def intersectObjs (c : Ctx) (cm nm : Nat) (l : Level) : List Obj :=
  (coveringObjs c cm nm l).filter (fun o => !filtered l o)

/-- hwloc_calc_hierarch_output: the bytes printed (`none`: a name the model cannot print / 256-byte buffer exceeded) -/
def hierOut (c : Ctx) (levels : List Level) (logicalO : Bool) (sep : Bytes) : Nat → Bytes → Obj → Nat → Nat → Option Bytes
  | 0, _, _, _, _ => none
  | f+1, pre, root, set, lvl =>
    match levels[lvl]? with
    | none => none
    | some l =>
      let objs := (cousinsFrom c.d (objByDepth c.d l.depth 0)).filter (coverOk (cs root))
      let step (acc : Option (Bytes × Bool)) (p : Obj × Nat) : Option (Bytes × Bool) :=
        match acc with
        | none => none
        | some (out, first) =>
          let o := p.1
          if !intersects set (cs o) then some (out, first)
          else if filtered l o then some (out, first)
          else match typeName o Hw.Gen.TypeTables.FLAG_LONG_NAMES with
            | none => none
            | some ty =>
              let idx := if logicalO then decDigits p.2 else (if o.osidx < 0 then str "-1" else decDigits o.osidx.toNat)
              let string := pre ++ (if lvl != 0 then str "." else []) ++ ty ++ str ":" ++ idx
              if string.length ≥ 256 then none else
              let out := if first then out else out ++ sep
              if lvl + 1 != levels.length then
                match hierOut c levels logicalO sep f string o (set &&& cs o) (lvl + 1) with
                | none => none
                | some sub => some (out ++ sub, false)
              else some (out ++ string, false)
      (objs.zipIdx.foldl step (some ([], true))).map (·.1)

def hexByte (n : Nat) : Bytes := hexPad 2 n

/-- hwloc_utils_systemd_asprintf; `none` = exit(EXIT_FAILURE) (empty or infinite set) -/
def systemdText (b : Bitmap) : Option Bytes :=
  if b.last < 0 then none else
  let nbytes := b.last.toNat / 8 + 1
  let m := maskOf b 0
  some (str "ay 0x" ++ hexPad 4 nbytes ++ ((List.range nbytes).map (fun k => str " 0x" ++ hexByte ((m >>> (8 * k)) % 256))).flatten)

def setText (f : Fmt) (b : Bitmap) : Option Bytes :=
  match f with
  | .hwloc => some (Bitmap.chunksHwloc b).flatten
  | .list => some (Bitmap.chunksList b).flatten
  | .taskset => some (Bitmap.chunksTaskset b).flatten
  | .systemd => systemdText b

/-- the levels of the output options, parsed after the argument loop -/
structure OutCfg where
  numberOf : Option Level := none
  intersect : Option Level := none
  hier : List Level := []

inductive Cfg
  | ok (o : OutCfg)
  | out                 -- `ret = EXIT_FAILURE; goto out`: the -N / -I / -H argument is not a usable level
  | unmodelled

def parseOutLevel (d : Dump) (s : Bytes) : Option (Option Level) :=      -- none = unmodelled, some none = error
  if ciEq (s.take 10) (str "memorytier") || ciEq (s.take 7) (str "cpukind") then none
  else match parseLevel d (-1) s with
    | .unmodelled => none
    | .err _ _ => some none
    | .ok l => some (some l)

def splitDots (s : Bytes) : List Bytes :=
  match splitDot s with
  | (a, none) => [a]
  | (a, some r) => a :: (if r.length < s.length then splitDots r else [])
termination_by s.length

def parseHier (d : Dump) : List Bytes → Option (Option (List Level))
  | [] => some (some [])
  | t :: r =>
    match parseLevel d (-1) t with
    | .unmodelled => none
    | .err _ _ => some none
    | .ok l =>
      if l.depth < 0 && l.depth != -3 then some none
      else match parseHier d r with
        | none => none
        | some none => some none
        | some (some ls) => some (some (l :: ls))

def outCfg (d : Dump) (s : St) : Cfg :=
  let n : Option (Option (Option Level)) := match s.numberOf with
    | none => some (some none)
    | some t => (parseOutLevel d t).map (fun r => r.map some)
  match n with
  | none => .unmodelled
  | some none => .out
  | some (some nl) =>
    let i : Option (Option (Option Level)) := match s.intersect with
      | none => some (some none)
      | some t => (parseOutLevel d t).map (fun r => r.map some)
    match i with
    | none => .unmodelled
    | some none => .out
    | some (some il) =>
      match s.hier with
      | none => .ok { numberOf := nl, intersect := il }
      | some h =>
        match parseHier d (splitDots h) with
        | none => .unmodelled
        | some none => .out
        | some (some ls) => .ok { numberOf := nl, intersect := il, hier := ls }

/-- `hwloc_calc_output(topology, sep, cpuset, nodeset)`: (status, bytes printed; `none` = not predicted) -/
def output (c : Ctx) (s : St) (cfg : OutCfg) (cpuset nodeset : Bitmap) : Nat × Option Bytes :=
  let d := c.d
  let cpuset := match s.noSmt with
    | none => cpuset
    | some w => if typeDepth d tCORE == depthUnknown then cpuset
                else if cpuset.inf then cpuset       -- guarded by the caller (infinite + --no-smt is skipped)
                else ofMask (singlifyPerCore d (c.mask cpuset) w)
  let cpuset := if s.single then cpuset.singlify else cpuset
  let nl := str "\n"
  if s.largest then
    let sep := s.sep.getD (str " ")
    let (objs, ok) := largestLoop c (weight (c.mask cpuset) + 2) cpuset []
    let names := objs.mapM (fun o => (typeName o Hw.Gen.TypeTables.FLAG_LONG_NAMES).map (fun ty =>
        match idxText s.logicalO o with | some i => ty ++ str ":" ++ i | none => ty))
    match names with
    | none => (0, none)
    | some ns => if ok then (0, some (joinSep sep ns ++ nl)) else (1, none)
  else
    let cm := c.mask cpuset
    let nm := c.mask nodeset
    let numOn := match cfg.numberOf with | some l => l.depth != depthUnknown | none => false
    let intOn := match cfg.intersect with | some l => l.depth != depthUnknown | none => false
    if numOn then
      match cfg.numberOf with
      | some l => (0, some (decDigits (numberOfCount c cm nm l) ++ nl))
      | none => (0, none)
    else if intOn then
      match cfg.intersect with
      | some l =>
        let sep := s.sep.getD (str ",")
        let items := (intersectObjs c cm nm l).mapM (fun o =>
          let idx := match idxText s.logicalO o with | some i => i | none => str "-1"
          if s.objectO then (typeName o 0).map (fun ty => ty ++ str ":" ++ idx) else some idx)
        (0, items.map (fun it => joinSep sep it ++ nl))
      | none => (0, none)
    else if !cfg.hier.isEmpty then
      let sep := s.sep.getD (str " ")
      match d.rootObj? with
      | none => (0, none)
      | some r => (0, (hierOut c cfg.hier s.logicalO sep (cfg.hier.length + 1) [] r cm 0).map (· ++ nl))
    else
      match setText s.cof (if s.nodesetO then nodeset else cpuset) with
      | some t => (0, some (t ++ nl))
      | none => (2, none)          -- exit(EXIT_FAILURE) inside hwloc_utils_systemd_asprintf: the process ends (also in stdin mode)

/-! ### stdin mode -/

/-- `strtok(line, " \n")` tokens of one line -/
def splitOnP (p : Byte → Bool) : Bytes → Bytes → List Bytes
  | [], cur => [cur.reverse]
  | c :: r, cur => if p c then cur.reverse :: splitOnP p r [] else splitOnP p r (c :: cur)

def tokensOf (line : Bytes) : List Bytes :=
  (splitOnP (fun c => c == 32 || c == 10) line []).filter (fun t => !t.isEmpty)

def linesOf (input : Bytes) : List Bytes :=
  let ls := splitOnP (· == 10) input []
  -- a final newline does not start another line
  match ls.reverse with
  | [] :: r => r.reverse
  | _ => ls

/-- the locations of one stdin line, processed from a FRESH state: `hwloc_bitmap_zero(cpuset); hwloc_bitmap_zero(nodeset)` before
    the `strtok` loop, whatever the options (the cpuset and the nodeset the option state `s` holds are not read) -/
def lineFold (c : Ctx) (s : St) (line : Bytes) : Except Res St :=
  (tokensOf line).foldl (fun (st : Except Res St) t => match st with
    | .error e => .error e
    | .ok st => stepLoc c st t) (.ok { s with cpuset := Bitmap.alloc, nodeset := Bitmap.alloc })

/-- what one stdin line contributes: the bytes `hwloc_calc_output` prints for it, or the end of the run -/
inductive LineRes
  | stop (r : Res)
  | out (o : Bytes)
deriving Repr, DecidableEq

def lineOut (c : Ctx) (s : St) (cfg : OutCfg) (line : Bytes) : LineRes :=
  match lineFold c s line with
  | .error e => .stop e
  | .ok s1 =>
    if s1.noSmt.isSome && s1.cpuset.inf then .stop (.skip "no-smt-infinite") else
    match output c s1 cfg s1.cpuset s1.nodeset with
    | (rc, none) => .stop (if rc == 2 then .exit 1 none else .exit 0 none)   -- the return value of hwloc_calc_output is ignored here
    | (rc, some o) => if rc != 0 then .stop (.exit rc none) else .out o

def stdinLoop (c : Ctx) (s : St) (cfg : OutCfg) : List Bytes → Bytes → Res
  | [], acc => .exit 0 (some acc)
  | line :: rest, acc =>
    match lineOut c s cfg line with
    | .stop r => r
    | .out o => stdinLoop c s cfg rest (acc ++ o)

/-! ### main -/

/-- hwloc-calc's main() after the topology options (`-i …` is given to the harness, not to the model).
    `stdin` = the bytes on standard input. -/
def calcMain (d : Dump) (argv : List Bytes) (stdin : Bytes) : Res :=
  let c := mkCtx d
  match argv with
  | a :: _ => if isOpt topoOpts a then .skip "topology-option" else go c argv
  | [] => go c argv
where
  go (c : Ctx) (argv : List Bytes) : Res :=
    match argLoop c {} argv with
    | .error e => e
    | .ok s =>
      let convert := s.largest || s.numberOf.isSome || s.intersect.isSome || s.hier.isSome
      let s := if convert && s.nodesetO && !s.nodesetI then { s with nodesetO := false } else s
      match outCfg c.d s with
      | .unmodelled => .skip "output-level"
      | .out => .exit 1 (if s.outKnown then some [] else none)
      | .ok cfg =>
        let r : Res :=
          if s.nlocs != 0 then
            if s.noSmt.isSome && s.cpuset.inf then .skip "no-smt-infinite" else
            let (rc, out) := output c s cfg s.cpuset s.nodeset
            .exit rc (if rc == 0 then out else none)
          else
            let banner := if s.verbose ≥ 0 then str "Waiting for locations to process on stdin...\n" else []
            stdinLoop c s cfg (linesOf stdin) banner
        -- after -v the status is still predicted, stdout is not
        if s.outKnown && (s.nlocs != 0 || decide (s.verbose ≤ 0)) then r else match r with
          | .exit rc _ => .exit rc none
          | x => x

/-! ### hwloc-distrib -/

structure DSt where
  single : Bool := false
  cof : Fmt := .hwloc
  reverse : Bool := false
  fromT : Option Bytes := none
  toT : Option Bytes := none
  n : Option Nat := none
  outKnown : Bool := true      -- false after -v (the input autodetection then reports on stdout)

def dFlagOpts : List String := ["--single", "--taskset", "-v", "--verbose", "--reverse"]
def dArgOpts : List String := ["--cpuset-output-format", "--cof", "--from", "--to", "--at"]
def dSkipOpts : List String :=
  ["--disallowed", "--whole-system", "-h", "--help", "--input", "-i", "--input-format", "--if", "--ignore", "--restrict",
   "--restrict-flags", "--version"]

/-- `n = strtol(arg, &end, 10); if (end == arg || *end || n < 0) → "invalid number"`: `none` = outside the model (leading white
    space, huge values), `some none` = invalid, `some (some n)`.  (The argument never starts with '-': that is an option.) -/
def numberArg (a : Bytes) : Option (Option Nat) :=
  match a with
  | [] => some none
  | c :: _ => if isSpace c then none else
    let body := match a with | 43 :: r => r | _ => a
    let (v, n, rest) := takeDigits 10 body 0 0
    if n = 0 || !rest.isEmpty then some none
    else if v ≥ 2 ^ 31 then none else some (some v)

def dArgLoop : DSt → List Bytes → Except Res DSt
  | s, [] => .ok s
  | s, a :: rest =>
    if a == str "--" then .ok s          -- the remaining arguments are never read
    else if a.head? == some 45 then
      if isOpt dSkipOpts a then .error (.skip "option")
      else if a == str "--single" then dArgLoop { s with single := true } rest
      else if a == str "--taskset" then dArgLoop { s with cof := .taskset } rest
      else if a == str "-v" || a == str "--verbose" then dArgLoop { s with outKnown := false } rest
      else if a == str "--reverse" then dArgLoop { s with reverse := true } rest
      else if isOpt dArgOpts a then
        match rest with
        | [] => .error (.exit 1 (some []))
        | v :: rest' =>
          if a == str "--from" then dArgLoop { s with fromT := some v } rest'
          else if a == str "--to" then dArgLoop { s with toT := some v } rest'
          else if a == str "--at" then dArgLoop { s with fromT := some v, toT := some v } rest'
          else match parseFmt v with
            | none => .error (.exit 1 (some []))
            | some f => dArgLoop { s with cof := f } rest'
      else .error (.exit 1 (some []))
    else
      match s.n with
      | some _ => .error (.exit 1 (some []))     -- duplicate number
      | none => match numberArg a with
        | none => .error (.skip "number")
        | some none => .error (.exit 1 (some []))          -- invalid number
        | some (some n) => dArgLoop { s with n := some n } rest

/-- `hwloc_type_sscanf(...) < 0 || (depth = hwloc_get_type_depth_with_attr(...)) < 0` → `some none` -/
def dTypeDepth (d : Dump) (t : Bytes) : Option (Option Int) :=
  match TypeStr.typeSscanf t with
  | .ok (some p) => let dp := typeDepthWithAttr d p; some (if dp < 0 then none else some dp)
  | .ok none => some none
  | _ => none

def intMax : Int := 2147483647

/-- the sets hwloc-distrib prints, one per line -/
def distribSets (d : Dump) (s : DSt) (n : Nat) (fromD toD : Int) : Option (List Nat) :=
  let roots := levelObjs d fromD
  if n * totWeight roots + totWeight roots ≥ 2 ^ 32 then none
  else if totWeight roots = 0 then none
  else distrib d roots n toD (if s.reverse then 1 else 0)

def distribMain (d : Dump) (argv : List Bytes) : Res :=
  match dArgLoop {} argv with
  | .error e => e
  | .ok s =>
    match s.n with
    | none => .exit 1 (some [])
    | some n =>
      let fromR : Option (Option Int) := match s.fromT with | none => some (some 0) | some t => dTypeDepth d t
      match fromR with
      | none => .skip "type"
      | some none => .exit 1 (some [])
      | some (some fromD) =>
        let toR : Option (Option Int) := match s.toT with | none => some (some intMax) | some t => dTypeDepth d t
        match toR with
        | none => .skip "type"
        | some none => .exit 1 (some [])
        | some (some toD) =>
          if n = 0 then .exit 0 (if s.outKnown then some [] else none) else
          match distribSets d s n fromD toD with
          | none => .skip "distrib-domain"
          | some sets =>
            if sets.length != n then .skip "distrib-count" else
            let lines := sets.mapM (fun m =>
              let b := ofMask m
              let b := if s.single then (if s.reverse then (if b.last < 0 then b else Bitmap.only b b.last.toNat) else b.singlify) else b
              (setText s.cof b).map (· ++ str "\n"))
            match lines with
            | none => .exit 1 none         -- systemd format of an empty set
            | some ls => .exit 0 (if s.outKnown then some ls.flatten else none)

end Hw.Calc
