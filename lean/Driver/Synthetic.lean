/- Driver.Synthetic — line protocol of the `synthetic` engine (C07).

   init <junk> <hex>            hwloc_backend_synthetic_init on a data block pre-filled with the byte `junk` (the result
                                must not depend on it: the model ignores it)
   set <hex>                    hwloc_topology_set_synthetic
   load <hex> <dump ; ...>      the public-API dump of the loaded topology: WF oracle + comparison with `buildTopo`
   export <flags> <cap> <hex>   hwloc_topology_export_synthetic into a `cap`-byte buffer
   fix <flags> <hex>            export, reload the exported string, export again
   tryload <hex>                (corpus) set + load + hwloc_topology_check in a child: ok / EINVAL / fail / crash
   numas <hex>                  the NUMA nodes of the loaded topology by os_index (os/memory/memory-side cache/PUs): `census`

   A description token is <hex> or <hex>@<F>, F = one character per object type: '-' = default type filter, '0'..'3' =
   hwloc_topology_set_type_filter(type, digit) called between init and load (Hw.Syn.effFilters); no '@' = the historic
   configuration (I-caches and MemCache KEEP_ALL).
-/
import Hw.Io.SyntheticTopo
import Hw.Io.SyntheticDump
import Hw.Io.SyntheticWFAll
import Hw.Io.SyntheticWFSib
import Hw.Io.SyntheticOrderTopo
import Hw.Io.SyntheticExportCanon
import Hw.Topo.WF
import Driver.Topo
import Driver.Strings
namespace Driver.SyntheticEng
open Hw Hw.Syn Hw.Topo Driver

def hashIdx (l : List Nat) : Nat := l.foldl (fun h v => (h * 31 + v + 1) % 4294967296) 7

def showIdx (a : Option (List Nat)) : String :=
  match a with
  | none => "-"
  | some l => toString l.length ++ "/" ++ toString (hashIdx l) ++ "/" ++ toString (l.foldl max 0)

def showType (t : Nat) : String := if t = tNONE then "-1" else toString t

def showAttr (a : Attr) : String :=
  showType a.type ++ " " ++
  (if a.type = tGROUP ∨ isCacheT a.type then toString a.depth else "-") ++ " " ++
  (if isCacheT a.type then toString a.ctype else "-") ++ " " ++ toString a.mem ++ " " ++ toString a.msc

def showLevel (l : Syn.Level) : String :=
  toString l.arity ++ " " ++ toString l.width ++ " " ++ showAttr l.attr ++ " " ++ showIdx l.idx.arr ++ " [" ++
  " ".intercalate (l.attached.map (fun a => toString a.mem ++ "/" ++ toString a.msc)) ++ "]"

def crashKind (e : Syn.Err) : String :=
  match e with
  | .einval => "EINVAL"
  | .abort => "crash assert"
  | .divzero => "crash divzero"
  | .loopsOverflow => "crash loops-overflow"

/-- verdict of `parse` as printed for init/set: a log entry ≥ 128 is an out-of-bounds `level[]` access
(proved impossible: C07_parse_index_safe; still checked on every input) -/
def parseVerdict (bs : Bytes) : String × Option Parsed :=
  let r := parse bs
  if (logOf r).any (· ≥ maxDepth) then ("crash level-oob", none) else
  match r with
  | .error (e, _) => (crashKind e, none)
  | .ok p => ("ok", some p)

def showParsed (p : Parsed) : String :=
  "ok " ++ toString p.levels.length ++ " " ++ toString p.numaNr ++ " " ++ showIdx p.numaIdx.arr ++ " | " ++
  " | ".intercalate (p.levels.map showLevel)

/-! ### abstraction of a C dump -/

def objAt (d : Dump) (i : Int) : Option Obj := d.obj? i

/-- memory children of an object as (NUMA local memory, summed memcache sizes) -/
partial def memChildrenOf (d : Dump) (o : Obj) : Option (List MemChild) :=
  let rec chain (i : Int) (fuel : Nat) : Option (List MemChild) :=
    if i = -1 then some [] else
    match fuel, objAt d i with
    | 0, _ => none
    | _, none => none
    | f + 1, some c =>
      let rec down (c : Obj) (msc : Nat) (g : Nat) : Option MemChild :=
        if c.type = tNUMA then some ⟨((c.attrs[0]?).getD 0).toNat, msc⟩
        else if c.type = tMEMCACHE ∧ c.marity = 1 then
          match g, objAt d c.memFirst with
          | g' + 1, some n => down n (msc + ((c.attrs[0]?).getD 0).toNat) g'
          | _, _ => none
        else none
      match down c 0 16, chain c.nextSib f with
      | some m, some r => some (m :: r)
      | _, _ => none
  chain o.memFirst 4096

/-- the abstract view of a dump; `none` when the topology is not a regular tree -/
def absDump (d : Dump) : Option Topo := do
  let root ← d.objs[0]?
  let rootMem ← memChildrenOf d root
  let normal := d.levels.filter (fun l => decide (0 ≤ l.depth))
  let mut levels : List NLevel := []
  let mut parentArity := root.arity
  for l in normal.drop 1 do
    let objs ← l.objs.mapM (objAt d)
    let o0 ← objs.head?
    let m0 ← memChildrenOf d o0
    let sig (o : Obj) : Option (Nat × Nat × List Int × List MemChild) := do
      let m ← memChildrenOf d o
      pure (o.type, o.arity, (if isCacheT o.type then [(o.attrs[0]?).getD 0, (o.attrs[1]?).getD 0, (o.attrs[4]?).getD 0] else []), m)
    let s0 ← sig o0
    for o in objs do
      let s ← sig o
      if s != s0 then none
    let isMemGroup := o0.type == tGROUP && (o0.attrs[1]?).getD 0 == 1001
    levels := levels ++ [{ type := o0.type, arity := parentArity,
                           cdepth := if isCacheT o0.type then ((o0.attrs[1]?).getD 0).toNat else 0,
                           ctype := if isCacheT o0.type then (o0.attrs[4]?).getD 0 else 0,
                           size := if isCacheT o0.type then ((o0.attrs[0]?).getD 0).toNat else 0,
                           memGroup := isMemGroup, mem := m0, osIdx := objs.map (·.osidx),
                           gsub := if o0.type == tGROUP && !isMemGroup then ((o0.attrs[2]?).getD 0).toNat else 0 }]
    parentArity := o0.arity
  let puL ← normal.getLast?
  let pus ← puL.objs.mapM (objAt d)
  let numaL ← d.levels.find? (fun l => l.depth == -3)
  let numas ← numaL.objs.mapM (objAt d)
  pure { rootMem := rootMem, levels := levels, puIdx := pus.map (·.osidx.toNat), numaIdx := numas.map (·.osidx.toNat) }

/-- <hex> or <hex>@<F>: the description bytes and the filters in force at load -/
def parseDesc (tok : String) : Option (Bytes × List Nat) :=
  match tok.splitOn "@" with
  | [hx] => (StringsEng.parseBytes hx).map (fun bs => (bs, effFilters legacyReq))
  | [hx, fs] =>
    let cs := fs.toList
    if cs.length ≠ tMAX ∨ cs.any (fun c => !(c == '-' || c == '0' || c == '1' || c == '2' || c == '3')) then none else
    (StringsEng.parseBytes hx).map (fun bs =>
      (bs, effFilters (cs.map (fun c => if c == '-' then none else some (c.toNat - '0'.toNat)))))
  | _ => none

def legacyF : List Nat := effFilters legacyReq

/-- the NUMA nodes of a C dump: os_index, local memory, summed sizes of the MemCache objects above, cpuset -/
def dumpNumas (d : Dump) : Option (List NumaRec) :=
  (d.objs.filter (fun o => o.type == tNUMA)).mapM (fun o => do
    let rec up (i : Int) (msc : Nat) (fuel : Nat) : Option Nat :=
      match fuel, objAt d i with
      | 0, _ => none
      | _, none => none
      | g + 1, some q => if q.type = tMEMCACHE then up q.parent (msc + ((q.attrs[0]?).getD 0).toNat) g else some msc
    let msc ← up o.parent 0 16
    let cs ← o.cpuset
    pure ({ os := o.osidx.toNat, mem := ((o.attrs[0]?).getD 0).toNat, msc := msc, cpus := cs } : NumaRec))

def insertRec (r : NumaRec) : List NumaRec → List NumaRec
  | [] => [r]
  | x :: xs => if r.os < x.os then r :: x :: xs else x :: insertRec r xs
def sortRecs (l : List NumaRec) : List NumaRec := l.foldl (fun acc r => insertRec r acc) []

/-- first difference between the NUMA nodes the description describes and those of the loaded topology.  Without Groups
(filter KEEP_NONE) a node may hang from a larger object and then takes its cpuset: inclusion is required instead of equality -/
def censusDiff (f : List Nat) (p : Parsed) (d : Dump) : Option String :=
  match dumpNumas d with
  | none => some "unreadable"
  | some cn =>
    let mn := sortRecs (census (keeps f tMEMCACHE) p)
    let cn := sortRecs cn
    if mn.length ≠ cn.length then some ("count:" ++ toString cn.length ++ "!=" ++ toString mn.length) else
    (mn.zip cn).findSome? (fun (m, c) =>
      if m.os ≠ c.os then some ("os:" ++ toString c.os ++ "!=" ++ toString m.os)
      else if m.mem ≠ c.mem then some ("memory@" ++ toString m.os)
      else if m.msc ≠ c.msc ∧ f[tMEMCACHE]?.getD 0 ≠ fKeepStructure then some ("memcache@" ++ toString m.os)
      else if (if keeps f tGROUP then m.cpus ≠ c.cpus else m.cpus &&& c.cpus ≠ m.cpus) then some ("cpuset@" ++ toString m.os)
      else none)

def bitsOf (n : Nat) : List Nat := (List.range n.log2.succ).filter (fun i => n.testBit i)

def showRec (r : NumaRec) : String :=
  toString r.os ++ "/" ++ toString r.mem ++ "/" ++ toString r.msc ++ "/" ++
  (if r.cpus = 0 then "-" else ",".intercalate ((bitsOf r.cpus).map toString))

def joinBytes (cs : List Bytes) : Bytes := cs.flatten

def exportStr (t : Topo) (flags : Nat) : Option Bytes :=
  let r := exportChunks t flags
  if r.ok then some (joinBytes r.chunks) else none

/-- which parts of the structure a round trip under `flags` must preserve -/
def rtProject (flags : Nat) (t : Topo) : Topo :=
  let noattrs := hasFlag flags flagNoAttrs
  let nomem := hasFlag flags flagV1 || hasFlag flags flagIgnoreMem
  let noext := hasFlag flags flagNoExt
  { rootMem := if nomem then [] else if noattrs then t.rootMem.map (fun _ => ⟨0, 0⟩) else t.rootMem,
    levels := t.levels.map (fun l =>
      { l with size := if noattrs then 0 else l.size, memGroup := false, osIdx := [], gsub := 0,
               type := if (noext || hasFlag flags flagV1) && l.type == tDIE then tGROUP else l.type,
               mem := if nomem then [] else if noattrs then l.mem.map (fun _ => ⟨0, 0⟩) else l.mem }),
    puIdx := if noattrs then [] else t.puIdx,
    numaIdx := if noattrs || nomem then [] else t.numaIdx }

def step (u : Unit) (line : String) : Unit × String :=
  match tokens line with
  | ["init", junk, hx] =>
    match parseNat junk, parseDesc hx with
    | some _, some (bs, _) =>
      if bs.any (· == 0) then (u, "bad-op") else
      match parseVerdict bs with
      | (_, some p) => (u, showParsed p)
      | (v, none) => (u, v)
    | _, _ => (u, "bad-op")
  | ["set", hx] =>
    match parseDesc hx with
    | some (bs, _) =>
      if bs.any (· == 0) then (u, "bad-op") else
      (u, (parseVerdict bs).1)
    | none => (u, "bad-op")
  | "load" :: hx :: rest =>
    match parseDesc hx with
    | some (bs, f) =>
      -- the dump block, lines separated by ";"
      let lines := (" ".intercalate rest).splitOn ";"
      let r := lines.foldl (fun (acc : TopoEng.Partial × Option (Except String Dump)) l =>
        match acc.2 with
        | some _ => acc
        | none => TopoEng.feed acc.1 (tokens l)) (({} : TopoEng.Partial), none)
      match r.2 with
      | some (.ok d) =>
        let v := wfCheck d
        match parseVerdict bs with
        | (_, some p) =>
          if !v.isEmpty then (u, "load WF-FAIL " ++ ",".intercalate (v.take 6)) else
          if !loadable p then (u, "load model-says-not-loadable") else
          if d.filters ≠ f then (u, "load FILTER-DIFF") else
          -- every NUMA node of the description exists, whatever the filters and whether the tree is regular or not
          match censusDiff f p d with
          | some w => (u, "load CENSUS-DIFF " ++ w)
          | none =>
          match buildTopo f p with
          | none => (u, "load ok other")
          | some t =>
            match absDump d with
            | none => (u, "load BUILD-DIFF c-dump-not-regular")
            | some a =>
              if a = t then
                -- the complete dump: field-by-field comparison + the WF oracle on the model's own result
                let md := { toDump t with filters := f }
                match dumpDiff md d with
                | some f => (u, "load DUMP-DIFF " ++ f)
                | none =>
                  let mv := wfCheck md
                  -- `topoOK`: the side condition of the general well-formedness theorems (Hw.Io.SyntheticWF, C07_build_wf_*):
                  -- every topology the model builds and hwloc agrees with must satisfy it
                  if !mv.isEmpty then (u, "load MODEL-WF-FAIL " ++ ",".intercalate (mv.take 4))
                  else if !topoOK t || !puOK t || !memOK t || !numaOK t || !sibOK t then
                    (u, "load HYP-FAIL" ++ (if topoOK t then "" else " topoOK") ++ (if puOK t then "" else " puOK") ++
                      (if memOK t then "" else " memOK") ++ (if numaOK t then "" else " numaOK") ++ (if sibOK t then "" else " sibOK"))
                  -- C07_order_establishes_sib_partial / C07_buildTopo_sib_normal: `sibOK t` above is `sibNormalOK t && sibMemOK t` by
                  -- definition (Hw.Syn.sibOK_split, rfl); the PU count is the product of the arities
                  else if prodL (arities t) != t.puIdx.length then (u, "load HYP-FAIL order")
                  else (u, "load ok regular")
              else
                let what := if a.levels != t.levels then "levels" else if a.rootMem != t.rootMem then "rootmem"
                  else if a.puIdx != t.puIdx then "puidx" else "numaidx"
                (u, "load BUILD-DIFF " ++ what)
        | (v, none) => (u, "load model-rejects " ++ v)
      | some (.error e) => (u, "load dump-unparsable " ++ e)
      | none => (u, "load dump-incomplete")
    | none => (u, "bad-op")
  | ["export", flags, cap, hx] =>
    match parseNat flags, parseNat cap, parseDesc hx with
    | some flags, some cap, some (bs, f) =>
      match parseVerdict bs with
      | (_, some p) =>
        if !loadable p then (u, "export skip") else
        match buildTopo f p with
        | none => (u, "export skip")
        | some t =>
          let r := exportChunks t flags
          let c := emitAll cap r.chunks
          -- (C does not write the initial NUL of `Cur.start`; when nothing at all is emitted no cell is written)
          let cells := if r.chunks.isEmpty then String.join (List.replicate cap "--")
            else (List.range cap).foldl (fun s i => s ++ (match c.buf.get i with | some v => StringsEng.hex2 v | none => "--")) ""
          (u, "ret " ++ (if r.ok then toString c.ret else "-1") ++ " buf " ++ (if cap = 0 then "-" else cells))
      | (_, none) => (u, "load fail")
    | _, _, _ => (u, "bad-op")
  | ["fix", flags, hx] =>
    match parseNat flags, parseDesc hx with
    | some flags, some (bs, f) =>
      match parseVerdict bs with
      | (_, some p) =>
        if !loadable p then (u, "fix skip") else
        match buildTopo f p with
        | none => (u, "fix skip")
        | some t =>
          match exportStr t flags with
          | none => (u, "fix export-fail")
          | some e1 =>
            let pre := "fix " ++ StringsEng.bytesHex e1
            -- C07_export_fixpoint_partial (flags NO_ATTRS|IGNORE_MEMORY): the exported string - compared byte for byte with hwloc's -
            -- must be `printDesc` of the level structure, and re-importing it must give back exactly those types and arities
            let fixHyp : String :=
              -- ... and C07_export_fixpoint_flags_partial: the same under 11, 14, 15 when these flags change no level name
              if !(fixFlagsB flags && t.levels.all (nameStable flags)) then "" else
              match specsOf t.levels with
              | none => "no-canonical-name"
              | some specs =>
                if !acceptsB specs then "not-accepts" else
                if printDesc specs ≠ e1 then "printDesc" else
                match parse e1 with
                | .ok p2 => if p2.levels.map (·.attr.type) = expectedTypes specs ∧ p2.levels.map (·.arity) = expectedArities specs then ""
                            else "reparse-structure"
                | .error _ => "reparse-rejected"
            if fixHyp ≠ "" then (u, "fix HYP-FAIL " ++ fixHyp) else
            match parseVerdict e1 with
            | (v, none) => (u, pre ++ " load2=" ++ v)
            | (_, some p2) =>
              -- the exported string is re-imported with every type it can name kept
              match buildTopo legacyF p2 with
              | none => (u, "fix skip")
              | some t2 =>
                match exportStr t2 flags with
                | none => (u, pre ++ " load2=ok export2-fail")
                | some e2 =>
                  (u, pre ++ " load2=ok same=" ++ (if e2 = e1 then "1" else "0") ++
                      " rt=" ++ (if rtProject flags t2 = rtProject flags t then "1" else "0"))
      | (_, none) => (u, "load fail")
    | _, _ => (u, "bad-op")
  | ["numas", hx] =>
    match parseDesc hx with
    | some (bs, f) =>
      match parseVerdict bs with
      | (_, some p) =>
        -- without Groups a node may take the cpuset of a larger parent; MemCache KEEP_STRUCTURE is not modelled (the `load`
        -- op still compares count, os_index and memory of every node)
        if !loadable p ∨ !keeps f tGROUP ∨ f[tMEMCACHE]?.getD 0 = fKeepStructure then (u, "numas skip") else
        let rs := sortRecs (census (keeps f tMEMCACHE) p)
        (u, "numas " ++ toString rs.length ++ String.join (rs.map (fun r => " " ++ showRec r)))
      | (v, none) => (u, "numas " ++ v)
    | none => (u, "bad-op")
  | ["tryload", hx] =>
    -- corpus op: set + load + hwloc_topology_check in a child process
    match parseDesc hx with
    | some (bs, _) =>
      match parseVerdict bs with
      | (_, some p) => (u, if loadable p then "tryload ok" else "tryload skip")
      | (v, none) => (u, "tryload " ++ v)
    | none => (u, "bad-op")
  | _ => (u, "bad-op")

end Driver.SyntheticEng
