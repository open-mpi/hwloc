import Hw.Base.Basic
import Hw.Base.Bits
import Hw.Base.Bump
import Hw.Base.InsertSort
import Hw.Base.ListLemmas
import Hw.Base.Loop
import Hw.Bitmap.Repr
import Hw.Bitmap.BitStream
import Hw.Bitmap.Ops
import Hw.Bitmap.Lemmas
import Hw.Bitmap.Combine
import Hw.Bitmap.Queries
import Hw.Bitmap.Search
import Hw.Bitmap.Order
import Hw.Bitmap.CompareFirst
import Hw.Bitmap.Inclusion
import Hw.Bitmap.History
import Hw.Props.C03
import Hw.Base.CursorArith
import Hw.Base.Snprintf
import Hw.Base.Cases
import Hw.Base.Num
import Hw.Bitmap.Print
import Hw.Bitmap.Scan
import Hw.Bitmap.ScanLemmas
import Hw.Bitmap.ScanCursor
import Hw.Bitmap.ScanCursorSafe
import Hw.Bitmap.ScanCursorRefine
import Hw.Bitmap.ScanCursorTransfer
import Hw.Base.NumLemmas
import Hw.Bitmap.PrintLemmas
import Hw.Bitmap.RoundTripList
import Hw.Bitmap.RoundTripTaskset
import Hw.Bitmap.RoundTripHwloc
import Hw.Props.C04
import Hw.Topo.Types
import Hw.Topo.Sets
import Hw.Topo.WF
import Hw.Attr.CpuKinds
import Hw.Attr.CpuKindsLemmas
import Hw.Props.C15
import Hw.Attr.MemAttrs
import Hw.Attr.MemAttrsLemmas
import Hw.Attr.MemAttrsApi
import Hw.Attr.MemAttrsState
import Hw.Props.C14
import Hw.Topo.WFLemmas0
import Hw.Props.C01
import Hw.Gen.TypeTables
import Hw.Io.TypeStr
import Hw.Io.TypeStrLemmas
import Hw.Io.TypeStrPrefix
import Hw.Props.C11
import Hw.Attr.Infos
import Hw.Attr.InfosLemmas
import Hw.Topo.History
import Hw.Topo.HistoryLemmas
import Hw.Props.C02
import Hw.Attr.Diff
import Hw.Attr.DiffLemmas
import Hw.Attr.DiffSlots
import Hw.Attr.DiffCommute
import Hw.Attr.DiffBuildApply
import Hw.Props.C16
import Hw.Gen.BindConsts
import Hw.Io.Bind
import Hw.Io.BindLinux
import Hw.Io.BindLemmas
import Hw.Props.C10
import Hw.Attr.Distances
import Hw.Attr.DistancesLemmas
import Hw.Attr.Grouping
import Hw.Attr.GroupingLemmas
import Hw.Attr.GroupingSets
import Hw.Attr.GroupingClosure
import Hw.Attr.GroupingWalk
import Hw.Attr.GroupingValue
import Hw.Props.C13
import Hw.Gen.ShmemGuards
import Hw.Io.Shmem
import Hw.Io.ShmemLemmas
import Hw.Props.C19
import Hw.Bitmap.Alias
import Hw.Topo.Helpers
import Hw.Topo.Distrib
import Hw.Topo.WFLemmas
import Hw.Topo.HelpersBasic
import Hw.Topo.HelpersCover
import Hw.Topo.HelpersIter
import Hw.Topo.HelpersAnc
import Hw.Topo.HelpersLocal
import Hw.Topo.DistribLemmas
import Hw.Topo.WFTree
import Hw.Props.C09
import Hw.Gen.RestrictConsts
import Hw.Topo.Restrict
import Hw.Topo.RestrictLemmas
import Hw.Props.C08
import Hw.Io.Conc
import Hw.Io.ConcEntry
import Hw.Io.ConcLemmas
import Hw.Io.ConcRegLemmas
import Hw.Gen.ComponentsIR
import Hw.Props.C17
import Hw.Gen.DupAlloc
import Hw.Topo.Dup
import Hw.Topo.DupLemmas
import Hw.Props.C12
import Hw.Io.Xml
import Hw.Io.XmlLemmas
import Hw.Io.Base64
import Hw.Io.Base64Lemmas
import Hw.Io.XmlObj
import Hw.Io.XmlObjLemmas
import Hw.Io.XmlTree
import Hw.Io.XmlTreeLemmas
import Hw.Io.XmlSimp
import Hw.Io.XmlOk
import Hw.Io.XmlSide
import Hw.Io.XmlSideLemmas
import Hw.Props.C05
import Hw.Io.XmlScan
import Hw.Io.XmlScanLemmas
import Hw.Io.XmlDiff
import Hw.Io.XmlDiffLemmas
import Hw.Attr.DiffXmlLink
import Hw.Io.XmlDiffPerm
import Hw.Attr.DistRefresh
import Hw.Attr.DistRefreshLemmas
import Hw.Props.C06
import Hw.Io.LinuxParse
import Hw.Io.LinuxParseList
import Hw.Io.LinuxParseMask
import Hw.Io.LinuxParseLemmas
import Hw.Io.LinuxNum
import Hw.Io.LinuxNumLemmas
import Hw.Io.LinuxCgroup
import Hw.Io.LinuxCgroupLemmas
import Hw.Io.X86Dump
import Hw.Io.X86DumpLemmas
import Hw.Topo.Relations
import Hw.Props.C18
import Hw.Io.Synthetic
import Hw.Io.SyntheticFilter
import Hw.Io.SyntheticTopo
import Hw.Io.SyntheticFilterLemmas
import Hw.Io.SyntheticIndexes
import Hw.Io.SyntheticWidths
import Hw.Io.SyntheticParse
import Hw.Io.SyntheticFaithful
import Hw.Io.SyntheticDump
import Hw.Io.SyntheticDumpLemmas
import Hw.Io.SyntheticObjs
import Hw.Io.SyntheticWF
import Hw.Io.SyntheticWFIds
import Hw.Io.SyntheticKids
import Hw.Topo.AuxFold
import Hw.Io.SyntheticWFAggr
import Hw.Io.SyntheticBits
import Hw.Io.SyntheticWFSets
import Hw.Io.SyntheticWFLevels
import Hw.Io.SyntheticTree
import Hw.Io.SyntheticRender
import Hw.Io.SyntheticWFAll
import Hw.Topo.AuxInh
import Hw.Topo.AuxBelow
import Hw.Topo.AuxCell
import Hw.Io.SyntheticWFSib
import Hw.Io.SyntheticWFNodeset
import Hw.Io.SyntheticOrd
import Hw.Io.SyntheticMkNode
import Hw.Io.SyntheticOrderTopo
import Hw.Io.SyntheticExportCanon
import Hw.Props.C07
import Hw.Topo.HelpersFirstLargest
import Hw.Io.Calc
import Hw.Io.CalcLemmas
import Hw.Io.CalcAttr
import Hw.Io.CalcAttrLemmas
import Hw.Io.CalcAttrRefine
import Hw.Io.CalcAttrBest
import Hw.Io.CalcStdin
import Hw.Props.C20
import Hw.Topo.Insert
import Hw.Topo.InsertCase
import Hw.Topo.InsertLemmas
import Hw.Topo.InsertWF
import Hw.Topo.InsertOrder
import Hw.Topo.InsertOrderKept
import Hw.Topo.InsertSort
import Hw.Attr.CpuKindsRank
import Hw.Attr.CpuKindsRefine
import Hw.Attr.CpuKindsClasses
import Hw.Attr.CpuKindsAllowed
import Hw.Attr.CpuKindsAllowedLemmas
import Hw.Attr.CpuKindsStrategies
import Hw.Attr.CpuKindsStrategiesAllowed
import Hw.Topo.SetStage
import Hw.Topo.SetStageBasic
import Hw.Topo.SetStageLemmas
import Hw.Topo.SetStageDecomp
import Hw.Topo.SetStagePre
import Hw.Topo.SetStageShape
import Hw.Topo.SetStageNested
import Hw.Topo.Render
import Hw.Topo.TreeInd
import Hw.Topo.RenderOcc
import Hw.Topo.RenderLinks
import Hw.Topo.RenderLevelLoop
import Hw.Topo.RenderLemmas
import Hw.Topo.RenderOf
import Hw.Topo.MiscInsert
import Hw.Topo.MiscInsertBase
import Hw.Topo.MiscInsertWF
import Hw.Topo.MiscInsertTop
import Hw.Topo.MiscInsertLevel
import Hw.Topo.MiscInsertAux
import Hw.Topo.MiscInsertThm
import Hw.Topo.MiscInsertExample
import Hw.Topo.StageRemoveEmpty
import Hw.Topo.StageRemoveEmptyLemmas
import Hw.Topo.StageMemory
import Hw.Topo.StageMemoryLemmas
import Hw.Topo.StageGroup
import Hw.Topo.StageGroupLemmas
import Hw.Topo.StageCompose
import Hw.Topo.StageDecomp
import Hw.Topo.StageTyping
import Hw.Topo.StageSetsOK
import Hw.Topo.StageRemoveEmptyKept
import Hw.Topo.StageSymmetric
import Hw.Topo.StageSymmetricLemmas
import Hw.Topo.RenderSums
import Hw.Topo.StageMemoryDump
import Hw.Topo.StageUnique
import Hw.Topo.StageSetsMerge
import Hw.Topo.StageNuma
import Hw.Topo.RestrictTyping
import Hw.Topo.RestrictSide
import Hw.Topo.RestrictSurvive
import Hw.Topo.RestrictWF
import Hw.Topo.RestrictMerge
import Hw.Topo.RenderTop
import Hw.Topo.RenderUniform
import Hw.Topo.RenderCounts
import Hw.Topo.RenderCover
import Hw.Topo.RenderSets
import Hw.Topo.RenderPU
import Hw.Topo.RestrictExists
import Hw.Topo.RestrictAllowed
import Hw.Topo.RestrictUnique
import Hw.Topo.RestrictCover
import Hw.Topo.RestrictNoOrder
import Hw.Topo.Symmetric
